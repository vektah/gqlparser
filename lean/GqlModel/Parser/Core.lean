import GqlModel.Lexer.Model
import GqlModel.Syntax.Ast
import GqlModel.Parser.GoQuote
/-
  Model of parser/parser.go.

  * `PState` is the Go `parser` struct: the embedded lexer (`rest`/`cur` of the lexer model), the
    sticky `err`, the one-token look-ahead (`peeked`, `peekTok`, `peekErr`), `prev`, `tokenCount`,
    `limit` (= `maxTokenLimit`, 0 = unlimited).  Ghost fields: `pulls` (number of `ReadToken`
    calls), `src` (index of the source, only copied into positions) and `oof` (some fuelled loop
    of the model ran out of fuel; theorem `C01_parse_fuel_*`: never set).
    `p.comment` is not kept: comment groups are not part of the shared tree.  Comment *tokens*
    are consumed exactly as in Go (they count against the limit and move `prev`).
  * `commentConsuming` is not a field either.  In Go the flag is true exactly during the loop of
    `consumeCommentGroup`, and its only effect is to make the nested `consumeCommentGroup` calls
    issued by `peek`/`next` from inside that loop return at once.  The model therefore has two
    copies of the primitives: `peekNC`/`nextNC` (what `peek`/`next` do while the flag is set, used
    by `commentLoop`) and `peek`/`next` (flag clear).
  * Parser programs are data (`Prog`, a free monad over the primitives), interpreted by `run`.
    Everything `parser.go` does lives in the `PState.*` primitives and in `run`; the grammar
    functions of query.go / schema.go are written once against `Prog`.
  * A lexer error yields Go's `Token{Kind: Invalid, Pos: …}`; its line/column are those of the
    error (`makeError`), its Start/End are not recoverable from the lexer model's `LexErr` and are
    set to 0 — they can never reach a tree that is observed (consuming the token sets `err`).
  * `p.error` dereferences `tok.Pos.Src`; for the zero `Token` (only `prev` before the first
    `next`) that is a nil dereference.  Lexer tokens have `line ≥ 1`, the zero token has line 0,
    so `line = 0` stands for `Src == nil` and yields the explicit outcome `PErr.panic`.
-/
namespace Gql.Parser
open Gql Gql.Lexer

inductive PErr
  | lex (e : LexErr)                              -- error returned by `ReadToken`
  | syn (msg : Bytes) (line : Nat) (col : Int)    -- `p.error(tok, …)`
  | limit (n : Nat)                               -- "exceeded token limit of %d" (no location)
  | panic                                         -- nil dereference in `p.error`
  deriving DecidableEq, Repr, Inhabited

def PErr.isLimit : PErr → Bool
  | .limit _ => true
  | _ => false

/-- Go's zero `lexer.Token` -/
def zeroTok : Token := { kind := .invalid, value := [], start := 0, stop := 0, line := 0, col := 0 }

/-- the token returned next to a lexer error (`makeError`) -/
def invalidTok (e : LexErr) : Token :=
  { kind := .invalid, value := [], start := 0, stop := 0, line := e.line, col := e.col }

structure PState where
  rest : Bytes
  cur : Cur
  err : Option PErr
  peeked : Bool
  peekTok : Token
  peekErr : Option LexErr
  prev : Token
  tokenCount : Nat
  pulls : Nat
  src : Nat
  oof : Bool
  deriving Repr, Inhabited

def PState.init (src : Nat) (inp : Bytes) : PState :=
  { rest := inp, cur := Cur.init, err := none, peeked := false, peekTok := zeroTok, peekErr := none,
    prev := zeroTok, tokenCount := 0, pulls := 0, src := src, oof := false }

/-- `p.lexer.ReadToken()` -/
def PState.lexRead (s : PState) : Token × Option LexErr × PState :=
  match readToken s.rest s.cur with
  | .tok t rest c => (t, none, { s with rest := rest, cur := c, pulls := s.pulls + 1 })
  | .err e => (invalidTok e, some e, { s with pulls := s.pulls + 1 })

/-! The state updates of `peek`/`next`, one named function each. -/

/-- `p.peekToken, p.peekError = p.lexer.ReadToken(); p.peeked = true` -/
def PState.readPeek (s : PState) : PState :=
  let r := s.lexRead
  { r.2.2 with peeked := true, peekTok := r.1, peekErr := r.2.1 }

/-- `p.tokenCount++; p.err = fmt.Errorf("exceeded token limit of %d", …)` -/
def PState.trip (L : Nat) (s : PState) : PState :=
  { s with tokenCount := s.tokenCount + 1, err := some (.limit L) }

/-- `p.tokenCount++; p.peeked = false; p.prev, p.err = p.peekToken, p.peekError` -/
def PState.takePeeked (s : PState) : PState :=
  { s with tokenCount := s.tokenCount + 1, peeked := false, prev := s.peekTok, err := s.peekErr.map .lex }

/-- `p.tokenCount++; p.prev, p.err = p.lexer.ReadToken()` -/
def PState.readPrev (s : PState) : PState :=
  let r := s.lexRead
  { r.2.2 with tokenCount := s.tokenCount + 1, prev := r.1, err := r.2.1.map .lex }

/-- `p.maxTokenLimit != 0 && p.tokenCount > p.maxTokenLimit` -/
def overLimit (L tc : Nat) : Bool := L != 0 && decide (tc > L)

/-- `peek` while `commentConsuming` is set -/
def PState.peekNC (s : PState) : Token × PState :=
  if s.err.isSome then (s.prev, s)
  else if s.peeked then (s.peekTok, s)
  else (s.readPeek.peekTok, s.readPeek)

/-- `next` while `commentConsuming` is set -/
def PState.nextNC (L : Nat) (s : PState) : Token × PState :=
  if s.err.isSome then (s.prev, s)
  else if overLimit L (s.tokenCount + 1) then (s.prev, s.trip L)
  else if s.peeked then (s.peekTok, s.takePeeked)
  else (s.readPrev.prev, s.readPrev)

/-- the `for { consumeComment() }` loop of `consumeCommentGroup` -/
def commentLoop (L : Nat) : Nat → PState → PState
  | 0, s => { s with oof := true }
  | n + 1, s =>
    if s.err.isSome then s            -- consumeComment: `if p.err != nil { return nil, false }`
    else
      let r := s.peekNC
      if r.1.kind ≠ .comment then r.2 else commentLoop L n (r.2.nextNC L).2

/-- `consumeCommentGroup` (called with `commentConsuming` clear).  Every comment consumed by the
    loop after the first was lexed from `rest`, so `rest.length + 3` units of fuel suffice
    (`GqlProofs/Parser/Measure.lean`). -/
def PState.consumeCommentGroup (L : Nat) (s : PState) : PState :=
  if s.err.isSome then s else commentLoop L (s.rest.length + 3) s

/-- `if tok.Kind == lexer.Comment { p.consumeCommentGroup() }` -/
def PState.groupIf (L : Nat) (t : Token) (s : PState) : PState :=
  if t.kind = .comment then s.consumeCommentGroup L else s

/-- `peek` -/
def PState.peek (L : Nat) (s : PState) : Token × PState :=
  if s.err.isSome then (s.prev, s)
  else if s.peeked then (s.peekTok, s)
  else
    let s2 := s.readPeek
    let s3 := s2.groupIf L s2.peekTok
    (s3.peekTok, s3)

/-- `next` -/
def PState.next (L : Nat) (s : PState) : Token × PState :=
  if s.err.isSome then (s.prev, s)
  else if overLimit L (s.tokenCount + 1) then (s.prev, s.trip L)
  else if s.peeked then (s.peekTok, s.takePeeked)
  else
    let s2 := s.readPrev
    let s3 := s2.groupIf L s2.prev
    (s3.prev, s3)

/-- `p.error(tok, …)` with the message already formatted -/
def PState.error (s : PState) (tok : Token) (msg : Bytes) : PState :=
  if s.err.isSome then s
  else if tok.line = 0 then { s with err := some .panic }
  else { s with err := some (.syn msg tok.line tok.col) }

/-! ### programs -/

inductive Prog (α : Type) : Type
  | pure (a : α)
  | peek (k : Token → Prog α)
  | next (k : Token → Prog α)
  | hasErr (k : Bool → Prog α)               -- `p.err != nil`
  | getPrev (k : Token → Prog α)             -- `p.prev`
  | getSrc (k : Nat → Prog α)                -- index of `p.lexer.Source`
  | fail (tok : Token) (msg : Bytes) (k : Prog α)   -- `p.error`
  | oof (k : Prog α)                         -- a fuelled loop ran dry

def Prog.bind {α β : Type} : Prog α → (α → Prog β) → Prog β
  | .pure a, f => f a
  | .peek k, f => .peek fun t => (k t).bind f
  | .next k, f => .next fun t => (k t).bind f
  | .hasErr k, f => .hasErr fun b => (k b).bind f
  | .getPrev k, f => .getPrev fun t => (k t).bind f
  | .getSrc k, f => .getSrc fun i => (k i).bind f
  | .fail tok msg k, f => .fail tok msg (k.bind f)
  | .oof k, f => .oof (k.bind f)

instance : Monad Prog where
  pure := Prog.pure
  bind := Prog.bind

/-- the interpreter: the only place where programs touch the state -/
def run {α : Type} (L : Nat) : Prog α → PState → α × PState
  | .pure a, s => (a, s)
  | .peek k, s => let r := s.peek L; run L (k r.1) r.2
  | .next k, s => let r := s.next L; run L (k r.1) r.2
  | .hasErr k, s => run L (k s.err.isSome) s
  | .getPrev k, s => run L (k s.prev) s
  | .getSrc k, s => run L (k s.src) s
  | .fail tok msg k, s => run L k (s.error tok msg)
  | .oof k, s => run L k { s with oof := true }

def peek : Prog Token := .peek .pure
def next : Prog Token := .next .pure
def hasErr : Prog Bool := .hasErr .pure
def getPrev : Prog Token := .getPrev .pure
def getSrc : Prog Nat := .getSrc .pure
def failAt (tok : Token) (msg : Bytes) : Prog Unit := .fail tok msg (.pure ())
def outOfFuel {α : Type} (a : α) : Prog α := .oof (.pure a)

def posOf (src : Nat) (t : Token) : Pos :=
  { start := t.start, stop := t.stop, line := t.line, col := t.col, src := src }

/-- `peekPos` (`nil` prints as the zero position) -/
def peekPos : Prog Pos := do
  if ← hasErr then pure Pos.zero
  else
    let t ← peek
    let i ← getSrc
    pure (posOf i t)

/-! ### messages -/

/-- `lexer.Type.String()` -/
def kindString : Kind → Bytes
  | .invalid => str "<Invalid>" | .eof => str "<EOF>" | .bang => str "!" | .dollar => str "$"
  | .amp => str "&" | .parenL => str "(" | .parenR => str ")" | .spread => str "..."
  | .colon => str ":" | .equals => str "=" | .at => str "@" | .bracketL => str "[" | .bracketR => str "]"
  | .braceL => str "{" | .braceR => str "}" | .pipe => str "|" | .name => str "Name" | .int => str "Int"
  | .float => str "Float" | .string => str "String" | .blockString => str "BlockString"
  | .comment => str "Comment"

/-- `lexer.Token.String()` -/
def tokString (t : Token) : Bytes :=
  if t.value ≠ [] then kindString t.kind ++ 32 :: GoQuote.quote t.value else kindString t.kind

def msgExpected (want : Bytes) (found : Bytes) : Bytes := str "Expected " ++ want ++ str ", found " ++ found

def msgLimit (n : Nat) : Bytes := str "exceeded token limit of " ++ natToDec n

/-! ### the remaining primitives of parser.go, as programs -/

def expectKeyword (value : Bytes) : Prog Token := do
  let tok ← peek
  if tok.kind = .name ∧ tok.value = value then next
  else
    failAt tok (msgExpected (GoQuote.quote value) (tokString tok))
    pure tok

def expect (kind : Kind) : Prog Token := do
  let tok ← peek
  if tok.kind = kind then next
  else
    failAt tok (msgExpected (kindString kind) (kindString tok.kind))
    pure tok

def skip (kind : Kind) : Prog Bool := do
  if ← hasErr then pure false
  else
    let tok ← peek
    if tok.kind ≠ kind then pure false
    else
      let _ ← next
      pure true

def unexpectedToken (tok : Token) : Prog Unit := failAt tok (str "Unexpected " ++ tokString tok)

def unexpectedError : Prog Unit := do
  let tok ← peek
  unexpectedToken tok

/-- `for p.peek().Kind != end && p.err == nil { cb() }`; results in reverse order -/
def itemsLoop {α : Type} (stop : Kind) (cb : Prog α) : Nat → List α → Prog (List α)
  | 0, acc => outOfFuel acc
  | n + 1, acc => do
    let t ← peek
    let e ← hasErr
    if t.kind ≠ stop ∧ !e then
      let a ← cb
      itemsLoop stop cb n (a :: acc)
    else pure acc

/-- `many`; `n` is the loop fuel -/
def pMany {α : Type} (start stop : Kind) (n : Nat) (cb : Prog α) : Prog (List α) := do
  let hasDef ← skip start
  if !hasDef then pure []
  else
    let xs ← itemsLoop stop cb n []
    let _ ← next
    pure xs.reverse

/-- `some` (the returned comment group is not modelled) -/
def pSome {α : Type} (start stop : Kind) (n : Nat) (cb : Prog α) : Prog (List α) := do
  let hasDef ← skip start
  if !hasDef then pure []
  else
    let xs ← itemsLoop stop cb n []
    if xs.isEmpty then          -- `!called`
      let t1 ← peek
      let t2 ← peek
      failAt t1 (str "expected at least one definition, found " ++ kindString t2.kind)
      pure []
    else
      let _ ← next
      pure xs.reverse

/-- `for p.skip(sep) && p.err == nil { item }` (implements / union members / directive locations) -/
def sepLoop {α : Type} (sep : Kind) (item : Prog α) : Nat → List α → Prog (List α)
  | 0, acc => outOfFuel acc
  | n + 1, acc => do
    if ← skip sep then
      if ← hasErr then pure acc
      else
        let a ← item
        sepLoop sep item n (a :: acc)
    else pure acc

/-! ### outcomes -/

inductive Result (α : Type)
  | ok (a : α)
  | error (e : PErr)
  | outOfFuel
  deriving Repr, Inhabited

def Result.isOk {α : Type} : Result α → Bool
  | .ok _ => true
  | _ => false

def Result.ofRun {α : Type} (r : α × PState) : Result α :=
  if r.2.oof then .outOfFuel
  else match r.2.err with
    | some e => .error e
    | none => .ok r.1

/-- fuel handed to every loop and recursion of an entry point -/
def fuelFor (inp : Bytes) : Nat := inp.length + 2

end Gql.Parser
