import GqlModel.Basic.Utf8
import GqlModel.Lexer.BlockString
/-
  Model of lexer/lexer.go.  One Lean function per Go function; the cursor is the remaining
  suffix of the input (`rest`) plus the counters the Go struct keeps (`end` in bytes, `endRunes`,
  `line`, `lineStartRunes`).  Go's guarded look-aheads `s.Input[s.end+k]` are list patterns.
  Columns are `Int`: nothing in the Go code keeps `startRunes - lineStartRunes + 1` positive.
-/
namespace Gql.Lexer

inductive Kind
  | invalid | eof | bang | dollar | amp | parenL | parenR | spread | colon | equals | at
  | bracketL | bracketR | braceL | braceR | pipe | name | int | float | string | blockString | comment
  deriving DecidableEq, Repr, Inhabited

def Kind.toNat : Kind → Nat
  | .invalid => 0 | .eof => 1 | .bang => 2 | .dollar => 3 | .amp => 4 | .parenL => 5 | .parenR => 6
  | .spread => 7 | .colon => 8 | .equals => 9 | .at => 10 | .bracketL => 11 | .bracketR => 12
  | .braceL => 13 | .braceR => 14 | .pipe => 15 | .name => 16 | .int => 17 | .float => 18
  | .string => 19 | .blockString => 20 | .comment => 21

structure Cur where
  endB : Nat
  endR : Nat
  line : Nat
  ls : Nat          -- lineStartRunes
  deriving DecidableEq, Repr, Inhabited

def Cur.init : Cur := { endB := 0, endR := 0, line := 1, ls := 0 }

def Cur.adv (c : Cur) (b r : Nat) : Cur := { c with endB := c.endB + b, endR := c.endR + r }

def Cur.newline (c : Cur) : Cur := { c with line := c.line + 1, ls := c.endR }

structure Token where
  kind : Kind
  value : Bytes
  start : Nat
  stop : Nat
  line : Nat
  col : Int
  deriving DecidableEq, Repr, Inhabited

structure LexErr where
  msg : Bytes
  line : Nat
  col : Int
  deriving DecidableEq, Repr, Inhabited

inductive Step
  | tok (t : Token) (rest : Bytes) (c : Cur)
  | err (e : LexErr)
  deriving Repr, Inhabited

def isDigit (b : Nat) : Bool := decide (48 ≤ b) && decide (b ≤ 57)
def isNameStart (b : Nat) : Bool :=
  (decide (65 ≤ b) && decide (b ≤ 90)) || (decide (97 ≤ b) && decide (b ≤ 122)) || b == 95
def isNameCont (b : Nat) : Bool := isNameStart b || isDigit b

/-- column of rune offset `r` given the line start -/
def colOf (r ls : Nat) : Int := (r : Int) - (ls : Int) + 1

/-- `makeError`: line/column of the *end* cursor -/
def mkErr (c : Cur) (msg : Bytes) : Step := .err { msg := msg, line := c.line, col := colOf c.endR c.ls }

/-- `ws`: skip blanks, commas, line terminators and BOMs. -/
def ws : Bytes → Cur → Bytes × Cur
  | [], c => ([], c)
  | b :: r, c =>
    if b = 9 ∨ b = 32 ∨ b = 44 then ws r (c.adv 1 1)
    else if b = 10 then ws r (c.adv 1 1).newline
    else if b = 13 then
      match r with
      | 10 :: r' => ws r' (c.adv 2 2).newline             -- CRLF is one terminator
      | r' => ws r' (c.adv 1 1).newline
    else if b = 0xEF then
      match r with
      | 0xBB :: 0xBF :: r' => ws r' (c.adv 3 1)
      | r' => (b :: r', c)
    else (b :: r, c)

/-- `readComment` loop: consumes SourceCharacters but not line terminators; returns
    (bytes consumed, runes consumed, rest). -/
def commentSpan : Bytes → Nat × Nat × Bytes
  | [] => (0, 0, [])
  | b :: tl =>
    let (r, w) := decodeRune (b :: tl)
    if r > 0x1f ∨ r = 9 then
      let (nb, nr, rest) := commentSpan (tl.drop (w - 1))
      (nb + w, nr + 1, rest)
    else (0, 0, b :: tl)
termination_by l => l.length
decreasing_by simp [List.length_drop]; omega

/-- `readName` loop (the rune test only admits ASCII, so it is a byte test). -/
def nameSpan : Bytes → Bytes × Bytes
  | [] => ([], [])
  | b :: tl => if isNameCont b then let (n, r) := nameSpan tl; (b :: n, r) else ([], b :: tl)

/-- `acceptDigits` -/
def digitSpan : Bytes → Bytes × Bytes
  | [] => ([], [])
  | b :: tl => if isDigit b then let (n, r) := digitSpan tl; (b :: n, r) else ([], b :: tl)

/-- `describeNext` -/
def describeNext : Bytes → Bytes
  | [] => str "<EOF>"
  | b :: _ => 34 :: encodeRune b ++ [34]

def msgExpectedDigit (r : Bytes) : Bytes :=
  str "Invalid number, expected digit but got: " ++ describeNext r ++ [46]

/-- the look-ahead restriction of IntValue / FloatValue -/
def numFollowBad : Bytes → Bool
  | [] => false
  | b :: _ => b == 46 || isNameCont b

/-- exponent part and final token of `readNumber`; `n` = bytes consumed so far -/
def numExp (start : Cur) (rest0 : Bytes) (n : Nat) (r : Bytes) (isFloat : Bool) : Step :=
  let fin (n : Nat) (r : Bytes) (isFloat : Bool) : Step :=
    -- a number must not be followed by a digit, a dot or the start of a name
    if numFollowBad r then mkErr (start.adv n n) (msgExpectedDigit r) else
    .tok { kind := if isFloat then .float else .int, value := rest0.take n,
           start := start.endR, stop := start.endR + n, line := start.line,
           col := colOf start.endR start.ls } r (start.adv n n)
  match r with
  | b :: t =>
    if b = 101 ∨ b = 69 then
      let (n1, t1) := match t with
        | s :: t' => if s = 45 ∨ s = 43 then (n + 2, t') else (n + 1, t)
        | [] => (n + 1, t)
      let (ds, t2) := digitSpan t1
      if ds.isEmpty then mkErr (start.adv n1 n1) (msgExpectedDigit t1)
      else fin (n1 + ds.length) t2 true
    else fin n r isFloat
  | [] => fin n r isFloat

/-- fraction part of `readNumber` -/
def numFrac (start : Cur) (rest0 : Bytes) (n : Nat) (r : Bytes) : Step :=
  match r with
  | 46 :: t =>
    let (ds, t') := digitSpan t
    if ds.isEmpty then mkErr (start.adv (n + 1) (n + 1)) (msgExpectedDigit t)
    else numExp start rest0 (n + 1 + ds.length) t' true
  | _ => numExp start rest0 n r false

/-- `acceptByte('-')`: bytes consumed and the rest -/
def stripSign : Bytes → Nat × Bytes
  | 45 :: t => (1, t)
  | r => (0, r)

/-- the part of `readNumber` after the optional sign (`n1` bytes consumed, `r1` remaining) -/
def readNumberCore (start : Cur) (rest0 : Bytes) (n1 : Nat) (r1 : Bytes) : Step :=
  match r1 with
  | 48 :: t =>
    if !(digitSpan t).1.isEmpty then
      mkErr (start.adv (n1 + 1) (n1 + 1))
        (str "Invalid number, unexpected digit after 0: " ++ describeNext t ++ [46])
    else numFrac start rest0 (n1 + 1) t
  | _ =>
    if (digitSpan r1).1.isEmpty then mkErr (start.adv n1 n1) (msgExpectedDigit r1)
    else numFrac start rest0 (n1 + (digitSpan r1).1.length) (digitSpan r1).2

/-- `readNumber`; `rest0` starts at the first character of the number, `start` is the cursor there -/
def readNumber (start : Cur) (rest0 : Bytes) : Step :=
  readNumberCore start rest0 (stripSign rest0).1 (stripSign rest0).2

def hexValue (b : Nat) : Option Nat :=
  if 48 ≤ b ∧ b ≤ 57 then some (b - 48)
  else if 97 ≤ b ∧ b ≤ 102 then some (b - 87)
  else if 65 ≤ b ∧ b ≤ 70 then some (b - 55)
  else none

/-- `unhex` on exactly four bytes -/
def unhex4 (a b c d : Nat) : Option Nat := do
  let a ← hexValue a; let b ← hexValue b; let c ← hexValue c; let d ← hexValue d
  pure (((a * 16 + b) * 16 + c) * 16 + d)

def msgInvalidInString (r : Nat) : Bytes :=
  str "Invalid character within String: \"\\u" ++ natToDec4 r ++ str "\"."

def msgEscape (what : Bytes) : Bytes := str "Invalid character escape sequence: \\" ++ what ++ [46]

/-- the single-character escapes of `readString` (regenerated from source as
    `Gen.stringEscapes` and compared by `C03_gen_escapes_agree`) -/
def escapeOut (e : Nat) : Option Nat :=
  if e = 34 ∨ e = 47 ∨ e = 92 then some e
  else if e = 98 then some 8 else if e = 102 then some 12 else if e = 110 then some 10
  else if e = 114 then some 13 else if e = 116 then some 9 else none

/-- The body loop of `readString`.  `c` is the end cursor, `acc` the bytes of the value so
    far (reversed), `buf` whether the Go code has switched to its `bytes.Buffer` (after the
    first escape).  Since the repair of `readString` (the default branch appends the SOURCE BYTES
    `s.Input[s.end:s.end+w]` to the buffer instead of re-encoding the decoded rune) `buf` no longer
    influences the result (`C03_string_loop_buf_irrelevant`): with or without a buffer the value
    keeps the raw bytes of every unescaped character, ill-formed UTF-8 included.  The parameter is
    kept because every theorem about the loop is stated with it; removing it would only rename.
    `q` is the cursor at the opening quote. -/
def readStringLoop (q : Cur) : Bytes → Cur → Bytes → Bool → Step
  | [], c, _, _ => mkErr c (str "Unterminated string.")
  | b :: tl, c, acc, buf =>
    if b = 10 ∨ b = 13 then mkErr c (str "Unterminated string.")
    else if b < 32 ∧ b ≠ 9 then mkErr c (msgInvalidInString b)
    else if b = 34 then
      .tok { kind := .string, value := acc.reverse, start := q.endR, stop := c.endR + 1,
             line := c.line, col := colOf (q.endR + 1) c.ls } tl (c.adv 1 1)
    else if b = 92 then
      match tl with
      | [] => mkErr (c.adv 1 1) (str "Invalid character escape sequence.")
      | e :: tl' =>
        if e = 117 then
          match tl' with
          | h1 :: h2 :: h3 :: h4 :: x :: tl'' =>
            match unhex4 h1 h2 h3 h4 with
            | some r => readStringLoop q (x :: tl'') (c.adv 6 6) ((encodeRune r).reverse ++ acc) true
            | none => mkErr (c.adv 1 1) (msgEscape [117, h1, h2, h3, h4])
          | _ => mkErr (c.adv 1 1) (msgEscape (e :: tl'))
        else
          match escapeOut e with
          | some o => readStringLoop q tl' (c.adv 2 2) (o :: acc) true
          | none => mkErr (c.adv 1 1) (msgEscape (encodeRune e))
    else
      let (_, w) := if b ≥ 127 then decodeRune (b :: tl) else (b, 1)
      let taken := (b :: tl).take w
      readStringLoop q (tl.drop (w - 1)) (c.adv w 1) (taken.reverse ++ acc) buf
termination_by l => l.length
decreasing_by all_goals (simp [List.length_drop]; try omega)

/-- number of consecutive `"` at the head -/
def quoteRun : Bytes → Nat
  | 34 :: t => quoteRun t + 1
  | _ => 0

/-- body loop of `readBlockString`; `q` is the cursor at the opening `"""`, `c` the end cursor,
    `acc` the raw value (reversed). -/
def readBlockLoop (q : Cur) : Bytes → Cur → Bytes → Step
  | [], c, _ => mkErr c (str "Unterminated string.")
  | b :: tl, c, acc =>
    let n := quoteRun (b :: tl)
    if b = 34 ∧ n ≥ 3 then
      -- a run of three or more quotes closes the string with its last three
      let raw := (List.replicate (n - 3) 34 ++ acc).reverse
      .tok { kind := .blockString, value := blockStringValue raw, start := q.endR,
             stop := c.endR + 3, line := q.line, col := colOf q.endR q.ls }
           ((b :: tl).drop n) (c.adv n n)
    else if b < 32 ∧ b ≠ 9 ∧ b ≠ 10 ∧ b ≠ 13 then mkErr c (msgInvalidInString b)
    else if b = 92 then
      match tl with
      | 34 :: 34 :: 34 :: tl' => readBlockLoop q tl' (c.adv 4 4) (34 :: 34 :: 34 :: acc)
      | tl' => readBlockLoop q tl' (c.adv 1 1) (92 :: acc)
    else if b = 13 then
      match tl with
      | 10 :: tl' => readBlockLoop q tl' (c.adv 2 2).newline (10 :: acc)
      | tl' => readBlockLoop q tl' (c.adv 1 1).newline (10 :: acc)
    else
      let (r, w) := if b ≥ 127 then decodeRune (b :: tl) else (b, 1)
      let c' := c.adv w 1
      readBlockLoop q (tl.drop (w - 1)) (if b = 10 then c'.newline else c') ((encodeRune r).reverse ++ acc)
termination_by l => l.length
decreasing_by all_goals (simp [List.length_drop]; try omega)

/-- the single-byte punctuators of `ReadToken`'s switch (regenerated from source as
    `Gen.punctTable` and compared by `gen_punctuators_agree`) -/
def punctTable : List (Nat × Kind) :=
  [(33, .bang), (36, .dollar), (38, .amp), (40, .parenL), (41, .parenR), (58, .colon), (61, .equals),
   (64, .at), (91, .bracketL), (93, .bracketR), (123, .braceL), (125, .braceR), (124, .pipe)]

def punct (b : Nat) : Option Kind := punctTable.lookup b

/-- the three error messages at the end of `ReadToken` -/
def unexpectedChar (c : Cur) (b : Nat) : Step :=
  if b < 32 ∧ b ≠ 9 ∧ b ≠ 10 ∧ b ≠ 13 then
    mkErr c (str "Cannot contain the invalid character \"\\u" ++ natToDec4 b ++ [34])
  else if b = 39 then
    mkErr c (str "Unexpected single quote character ('), did you mean to use a double quote (\")?")
  else mkErr c (str "Cannot parse the unexpected character \"" ++ encodeRune b ++ str "\".")

def simpleTok (k : Kind) (value : Bytes) (c : Cur) (nb nr : Nat) (rest : Bytes) : Step :=
  .tok { kind := k, value := value, start := c.endR, stop := c.endR + nr, line := c.line,
         col := colOf c.endR c.ls } rest (c.adv nb nr)

/-- `ReadToken` after `ws`: dispatch on the first byte -/
def readTokenBody (rest : Bytes) (c : Cur) : Step :=
  match rest with
  | [] => simpleTok .eof [] c 0 0 []
  | b :: tl =>
    match punct b with
    | some k => simpleTok k [] c 1 1 tl
    | none =>
      if b = 46 then
        match tl with
        | 46 :: 46 :: tl' => simpleTok .spread [] c 3 3 tl'
        | _ => unexpectedChar c b
      else if b = 35 then
        simpleTok .comment ((b :: tl).take ((commentSpan tl).1 + 1)) c ((commentSpan tl).1 + 1)
          ((commentSpan tl).2.1 + 1) (commentSpan tl).2.2
      else if isNameStart b then
        simpleTok .name (b :: (nameSpan tl).1) c ((nameSpan tl).1.length + 1) ((nameSpan tl).1.length + 1)
          (nameSpan tl).2
      else if b = 45 ∨ isDigit b then readNumber c (b :: tl)
      else if b = 34 then
        match tl with
        | 34 :: 34 :: tl' => readBlockLoop c tl' (c.adv 3 3) []
        | _ => readStringLoop c tl (c.adv 1 1) [] false
      else unexpectedChar c b

/-- `ReadToken` -/
def readToken (rest : Bytes) (c : Cur) : Step :=
  readTokenBody (ws rest c).1 (ws rest c).2

inductive LexOut
  | done (toks : List Token)                       -- ends with the EOF token
  | fail (toks : List Token) (e : LexErr)          -- tokens before the error
  | outOfFuel (toks : List Token)
  deriving Repr, Inhabited

def LexOut.tokens : LexOut → List Token
  | .done ts => ts
  | .fail ts _ => ts
  | .outOfFuel ts => ts

def lexFuel : Nat → Bytes → Cur → List Token → LexOut
  | 0, _, _, acc => .outOfFuel acc.reverse
  | fuel + 1, rest, c, acc =>
    match readToken rest c with
    | .err e => .fail acc.reverse e
    | .tok t rest' c' =>
      if t.kind = .eof then .done (t :: acc).reverse
      else lexFuel fuel rest' c' (t :: acc)

/-- lex to the end; every non-EOF token consumes at least one byte so `length + 1` pulls suffice
    (theorem `C01_lexAll_fuel`). -/
def lexAll (inp : Bytes) : LexOut := lexFuel (inp.length + 1) inp Cur.init []

end Gql.Lexer
