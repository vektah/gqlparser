import GqlModel.Schema.Types
/-
  Model of validator/schema.go (`ValidateSchemaDocument` and every `validate*` helper) and of the
  pieces of package `ast` it uses (`AddPossibleType`, `AddImplements`, `ForName`, `Type.Name`,
  `Type.String`, `Type.IsCompatible`, `Definition.IsInputType`).

  Input: the MERGED `SchemaDoc` (what `parser.ParseSchemas` builds: every source parsed and
  `Merge`d in order; the prelude is the first source).  Output: `LoadResult`.

  Conventions
  * Go pointers into the schema are names.  `schema.Types` is an association list in insertion
    order; `defs` (the Go slice of all definitions incl. the ones created by extensions) is exactly
    the value list of that association list, because both are extended at the same moments.
  * `PossibleTypes` / `Implements` hold `Option Name` while loading: `none` is the nil pointer that
    `schema.Types[t]` yields for an undeclared name.  `isCovariant` dereferences the entries
    (`pt.Name`): a nil entry would be the `panic` outcome.  Since the repair of the loader no nil
    entry is stored (`pushPtr`), and `C07_load_no_panic` proves the outcome unreachable.
  * Map iterations: `validateTypeDefinitions` and `validateDirectiveDefinitions` collect the keys and `sort.Strings` them — reproduced
    with `sortNames` (bytewise order).  There is no other `range` over a map in schema.go.
  * Errors carry the rendered message bytes and (line, column, source index) of the position given
    to `gqlerror.ErrorPosf`.
  * Domain: documents as the parser builds them — every node has a position, every named type has a
    non-empty name (`Type.Name()` on a type with neither name nor element would be a nil
    dereference; `GType.named []` is treated like any other name here), names are GraphQL names
    (`strconv.Quote` is modelled for printable ASCII).
-/
namespace Gql.Load
open Gql

structure LoadError where
  msg : Bytes
  line : Nat
  col : Int
  src : Nat
  deriving DecidableEq, Repr, Inhabited

/-- result of a `validate*` function: `*gqlerror.Error` (nil = `pass`) or a Go panic -/
inductive Chk
  | pass
  | fail (e : LoadError)
  | panic
  deriving DecidableEq, Repr, Inhabited

inductive LoadResult
  | ok (s : Schema)
  | err (e : LoadError)
  | panic
  deriving Inhabited

def LoadResult.isOk : LoadResult → Bool
  | .ok _ => true
  | _ => false

def LoadResult.isPanic : LoadResult → Bool
  | .panic => true
  | _ => false

/-- `if err := a; err != nil { return err }; b` -/
@[inline] def Chk.andThen (a : Chk) (b : Unit → Chk) : Chk :=
  match a with
  | .pass => b ()
  | r => r

notation:60 a:61 " ⊳ " b:60 => Chk.andThen a (fun _ => b)

/-- `for _, x := range xs { if err := f(x); err != nil { return err } }; return nil` -/
def each {α} (xs : List α) (f : α → Chk) : Chk :=
  match xs with
  | [] => .pass
  | x :: rest => f x ⊳ each rest f

/-- `gqlerror.ErrorPosf(pos, …)` -/
def errorPosf (p : Pos) (msg : Bytes) : LoadError := { msg := msg, line := p.line, col := p.col, src := p.src }

def failAt (p : Pos) (msg : Bytes) : Chk := .fail (errorPosf p msg)

/- ---------------- messages (hoisted so that proofs never unfold string literals) ---------------- -/
namespace Msg

/-- `strconv.Quote` for printable ASCII (the only input the parser can supply: GraphQL names) -/
def quote (s : Bytes) : Bytes :=
  34 :: s.flatMap (fun c => if c = 34 then [92, 34] else if c = 92 then [92, 92] else [c]) ++ [34]

def join (sep : Bytes) : List Bytes → Bytes
  | [] => []
  | [x] => x
  | x :: rest => x ++ sep ++ join sep rest

/-- `kindList(kinds...)` -/
def kindList (ks : List DefKind) : Bytes := join (str ", ") (ks.map DefKind.render)

def redeclareType (n : Name) : Bytes := str "Cannot redeclare type " ++ n ++ str "."
def extendKind (n : Name) (base ext : DefKind) : Bytes :=
  str "Cannot extend type " ++ n ++ str " because the base type is a " ++ base.render ++ str ", not " ++ ext.render ++ str "."
def redeclareDirective (n : Name) : Bytes := str "Cannot redeclare directive " ++ n ++ str "."
def multipleSchema : Bytes := str "Cannot have multiple schema entry points, consider schema extensions instead."
def rootMissing (op : Bytes) (ty : Name) : Bytes :=
  str "Schema root " ++ op ++ str " refers to a type " ++ ty ++ str " that does not exist."
def rootTwice (op : Bytes) : Bytes := str "Schema root " ++ op ++ str " is defined more than once."
def rootNotObject (op : Bytes) (n : Name) (k : DefKind) : Bytes :=
  str "Schema root " ++ op ++ str " must be an object type, " ++ n ++ str " is a " ++ k.render ++ str "."
def undefinedType (n : Bytes) : Bytes := str "Undefined type " ++ n ++ str "."
def memberKind (k : DefKind) (m : Name) : Bytes :=
  k.render ++ str " type " ++ quote m ++ str " must be " ++ kindList [.object] ++ str "."
def noFields (k : DefKind) (n : Name) : Bytes := k.render ++ str " " ++ n ++ str ": must define one or more fields."
def fieldKind (k : Bytes) (n : Name) (ks : List DefKind) : Bytes :=
  k ++ str " " ++ n ++ str ": field must be one of " ++ kindList ks ++ str "."
def noEnumValues (k : DefKind) (n : Name) : Bytes :=
  k.render ++ str " " ++ n ++ str ": must define one or more unique enum values."
def nonEnumValue (k : DefKind) (n v : Name) : Bytes :=
  k.render ++ str " " ++ n ++ str ": non-enum value " ++ v ++ str "."
def noInputFields (k : DefKind) (n : Name) : Bytes :=
  k.render ++ str " " ++ n ++ str ": must define one or more input fields."
def fieldTwice (d f : Name) : Bytes := str "Field " ++ d ++ str "." ++ f ++ str " can only be defined once."
def notInputType (ty : Bytes) (arg : Name) (k : DefKind) : Bytes :=
  str "cannot use " ++ ty ++ str " as argument " ++ arg ++ str " because " ++ k.render ++ str " is not a valid input type"
def selfRef (d : Name) : Bytes := str "Directive " ++ d ++ str " cannot refer to itself."
def undefinedDirective (d : Name) : Bytes := str "Undefined directive " ++ d ++ str "."
def notApplicable (d : Name) (loc : Bytes) : Bytes := str "Directive " ++ d ++ str " is not applicable on " ++ loc ++ str "."
def undefinedArg (a d : Name) : Bytes := str "Undefined argument " ++ a ++ str " for directive " ++ d ++ str "."
def argNull (a d : Name) : Bytes := str "Argument " ++ a ++ str " for directive " ++ d ++ str " cannot be null."
def nonInterface (i : Name) (k : DefKind) : Bytes := quote i ++ str " is a non interface type " ++ k.render ++ str "."
def implPrefix (d i : Name) : Bytes := str "For " ++ d ++ str " to implement " ++ i
def missingField (d i f : Name) : Bytes := implPrefix d i ++ str " it must have a field called " ++ f ++ str "."
def fieldType (d i f : Name) (ty : Bytes) : Bytes :=
  implPrefix d i ++ str " the field " ++ f ++ str " must have type " ++ ty ++ str "."
def missingArg (d i f a : Name) : Bytes :=
  implPrefix d i ++ str " the field " ++ f ++ str " must have the same arguments but it is missing " ++ a ++ str "."
def argType (d i f a : Name) : Bytes :=
  implPrefix d i ++ str " the field " ++ f ++ str " must have the same arguments but " ++ a ++ str " has the wrong type."
def extraArg (d i f a : Name) : Bytes :=
  implPrefix d i ++ str " any additional arguments on " ++ f ++
    str " must be optional or have a default value but " ++ a ++ str " is required."
def circular (d i : Name) : Bytes :=
  str "Type " ++ d ++ str " cannot implement " ++ i ++ str " because it would create a circular reference."
def mustImplement (d t i : Name) : Bytes :=
  str "Type " ++ d ++ str " must implement " ++ t ++ str " because it is implemented by " ++ i ++ str "."
def reservedName (n : Name) : Bytes :=
  str "Name \"" ++ n ++ str "\" must not begin with \"__\", which is reserved by GraphQL introspection."

end Msg

/- ---------------- association lists (Go maps) ---------------- -/

/-- `m[k] = v` : replace in place, or append a new key -/
def insertKV {α} (k : Name) (v : α) : List (Name × α) → List (Name × α)
  | [] => [(k, v)]
  | (k', v') :: rest => if k' == k then (k', v) :: rest else (k', v') :: insertKV k v rest

/-- `*m[k] = f(*m[k])` for a present key (mutation through the stored pointer) -/
def modifyKV {α} (k : Name) (f : α → α) : List (Name × α) → List (Name × α)
  | [] => []
  | (k', v') :: rest => if k' == k then (k', f v') :: rest else (k', v') :: modifyKV k f rest

/-- `m[k] = append(m[k], v)` -/
def pushKV {β} (k : Name) (v : β) : List (Name × List β) → List (Name × List β)
  | [] => [(k, [v])]
  | (k', vs) :: rest => if k' == k then (k', vs ++ [v]) :: rest else (k', vs) :: pushKV k v rest

/-- Go string order (bytewise lexicographic) -/
def bytesLe : Bytes → Bytes → Bool
  | [], _ => true
  | _ :: _, [] => false
  | a :: as, b :: bs => if a < b then true else if b < a then false else bytesLe as bs

def insertName (x : Name) : List Name → List Name
  | [] => [x]
  | y :: ys => if bytesLe x y then x :: y :: ys else y :: insertName x ys

/-- `sort.Strings` (the result of sorting is unique, so the algorithm does not matter; a structural
    insertion sort keeps the model reducible by the kernel) -/
def sortNames : List Name → List Name
  | [] => []
  | x :: xs => insertName x (sortNames xs)

/- ---------------- package ast helpers ---------------- -/

def fieldForName (fs : List FieldDef) (n : Name) : Option FieldDef := fs.find? (fun f => f.name == n)
def argDefForName (as : List ArgDef) (n : Name) : Option ArgDef := as.find? (fun a => a.name == n)
def argForName (as : List Argument) (n : Name) : Option Argument := as.find? (fun a => a.name == n)

/-- the `NamedType` field of `ast.Type` (empty for list types) -/
def namedOf : GType → Name
  | .named n _ _ => n
  | .list _ _ _ => []

/-- `Type.IsCompatible` -/
def isCompatible : GType → GType → Bool
  | .named a ann _, .named b bnn _ => if a != b then false else if bnn then ann else true
  | .named a ann _, .list _ bnn _ => if a != [] then false else if bnn then ann else true
  | .list _ _ _, .named _ _ _ => false     -- names differ, or `t.Elem != nil && other.Elem == nil`
  | .list ae ann _, .list be bnn _ => if !isCompatible ae be then false else if bnn then ann else true

/-- `Definition.IsInputType` -/
def isInputKind : DefKind → Bool
  | .scalar | .enum | .inputObject => true
  | _ => false

/-- `isValidKind(k, Scalar, Object, Interface, Union, Enum)` -/
def isOutputKind : DefKind → Bool
  | .inputObject => false
  | _ => true

def outputKinds : List DefKind := [.scalar, .object, .interface, .union, .enum]
def inputKinds : List DefKind := [.scalar, .enum, .inputObject]

/-- `strings.HasPrefix(name, "__")` -/
def hasDunder : Name → Bool
  | 95 :: 95 :: _ => true
  | _ => false

/- ---------------- loader state ---------------- -/

/-- the part of `ast.Schema` the validators read -/
structure LState where
  types : List (Name × Definition)
  directives : List (Name × DirectiveDef)
  possible : List (Name × List (Option Name))
  implements : List (Name × List (Option Name))
  deriving Inhabited

def LState.type? (s : LState) (n : Name) : Option Definition := s.types.lookup n

/-- `validateName` -/
def validateName (p : Pos) (n : Name) : Chk :=
  if hasDunder n then failAt p (Msg.reservedName n) else .pass

/-- `validateTypeRef` -/
def validateTypeRef (s : LState) (t : GType) : Chk :=
  match s.type? t.name with
  | none => failAt t.pos (Msg.undefinedType t.name)
  | some _ => .pass

def locSchema : Bytes := str "SCHEMA"
def locFieldDefinition : Bytes := str "FIELD_DEFINITION"
def locInputFieldDefinition : Bytes := str "INPUT_FIELD_DEFINITION"
def locArgumentDefinition : Bytes := str "ARGUMENT_DEFINITION"
def locEnumValue : Bytes := str "ENUM_VALUE"

/-- body of the loop of `validateDirectives` for one applied directive -/
def validateDirectiveUse (s : LState) (location : Bytes) (current : Option Name) (dir : Directive) : Chk :=
  validateName dir.pos dir.name ⊳
  (match current with
   | some c => if dir.name == c then failAt dir.pos (Msg.selfRef c) else .pass
   | none => .pass) ⊳
  match s.directives.lookup dir.name with
  | none => failAt dir.pos (Msg.undefinedDirective dir.name)
  | some dd =>
    (if dd.locations.contains location then .pass else failAt dir.pos (Msg.notApplicable dir.name location)) ⊳
    each dir.args (fun arg =>
      match argDefForName dd.args arg.name with
      | none => failAt arg.pos (Msg.undefinedArg arg.name dir.name)
      | some _ => .pass) ⊳
    each dd.args (fun sa =>
      if sa.type.nonNull && sa.default.isNone then
        match argForName dir.args sa.name with
        | none => failAt dir.pos (Msg.argNull sa.name dir.name)
        | some a => if a.value.kind = ValueKind.null then failAt dir.pos (Msg.argNull sa.name dir.name) else .pass
      else .pass)

/-- `validateDirectives` -/
def validateDirectives (s : LState) (dirs : List Directive) (location : Bytes) (current : Option Name) : Chk :=
  each dirs (validateDirectiveUse s location current)

/-- `validateArgs` -/
def validateArgs (s : LState) (args : List ArgDef) (current : Option Name) : Chk :=
  each args fun arg =>
    validateName arg.pos arg.name ⊳
    validateTypeRef s arg.type ⊳
    (match s.type? arg.type.name with
     | none => .panic                        -- `def.IsInputType()` on nil; excluded by validateTypeRef
     | some d =>
       if isInputKind d.kind then .pass
       else failAt arg.pos (Msg.notInputType arg.type.render arg.name d.kind)) ⊳
    validateDirectives s arg.dirs locArgumentDefinition current

/-- the loop `for _, pt := range schema.PossibleTypes[name] { if pt.Name == actual { return true } }; return false`;
    `none` is a nil entry: `pt.Name` panics -/
def possibleHas : List (Option Name) → Name → Option Bool
  | [], _ => some false
  | none :: _, _ => none
  | some n :: rest, a => if n == a then some true else possibleHas rest a

/-- `isCovariant`; `none` = nil-pointer panic -/
def isCovariant (s : LState) : GType → GType → Option Bool
  | .named rn rnn _, actual =>
    if rnn && !actual.nonNull then some false
    else if rn == namedOf actual then some true
    else possibleHas ((s.possible.lookup rn).getD []) (namedOf actual)
  | .list _ _ _, .named _ _ _ => some false     -- NonNull mismatch, or `required.Elem != nil && actual.Elem == nil`
  | .list re rnn _, .list ae ann _ =>
    if rnn && !ann then some false else isCovariant s re ae

/-- `validateTypeImplementsAncestors` -/
def validateTypeImplementsAncestors (s : LState) (d : Definition) (intfName : Name) : Chk :=
  match s.type? intfName with
  | none => failAt d.pos (Msg.undefinedType (Msg.quote intfName))
  | some intf =>
    each intf.interfaces fun transitive =>
      if d.interfaces.contains transitive then .pass
      else if transitive == d.name then failAt d.pos (Msg.circular d.name intfName)
      else failAt d.pos (Msg.mustImplement d.name transitive intfName)

/-- per required field of the interface, inside `validateImplements` -/
def validateImplementsField (s : LState) (d intf : Definition) (required : FieldDef) : Chk :=
  match fieldForName d.fields required.name with
  | none => failAt d.pos (Msg.missingField d.name intf.name required.name)
  | some found =>
    (match isCovariant s required.type found.type with
     | none => .panic
     | some true => .pass
     | some false => failAt found.pos (Msg.fieldType d.name intf.name required.name required.type.render)) ⊳
    each required.args (fun ra =>
      match argDefForName found.args ra.name with
      | none => failAt found.pos (Msg.missingArg d.name intf.name required.name ra.name)
      | some fa =>
        if ra.type.render == fa.type.render then .pass        -- identical type (repair of R7a)
        else failAt fa.pos (Msg.argType d.name intf.name required.name ra.name)) ⊳
    each found.args (fun fa =>
      if (argDefForName required.args fa.name).isNone && fa.type.nonNull && fa.default.isNone then
        failAt fa.pos (Msg.extraArg d.name intf.name found.name fa.name)
      else .pass)

/-- `validateImplements` -/
def validateImplements (s : LState) (d : Definition) (intfName : Name) : Chk :=
  match s.type? intfName with
  | none => failAt d.pos (Msg.undefinedType (Msg.quote intfName))
  | some intf =>
    if intf.kind != .interface then failAt d.pos (Msg.nonInterface intfName intf.kind)
    else
      each intf.fields (validateImplementsField s d intf) ⊳
      validateTypeImplementsAncestors s d intfName

/-- the nested loop reporting the first `(i, j)`, `i < j`, with equal field names -/
def checkUniqueFields (dn : Name) : List FieldDef → Chk
  | [] => .pass
  | f1 :: rest =>
    each rest (fun f2 => if f1.name == f2.name then failAt f2.pos (Msg.fieldTwice dn f2.name) else .pass) ⊳
    checkUniqueFields dn rest

def nonEnumNames : List Name := [str "true", str "false", str "null"]

/-- the `switch def.Kind` of `validateDefinition` -/
def validateKindSpecific (s : LState) (d : Definition) : Chk :=
  match d.kind with
  | .object | .interface =>
    if d.fields.isEmpty then failAt d.pos (Msg.noFields d.kind d.name)
    else each d.fields fun f =>
      match s.type? f.type.name with
      | some t => if isOutputKind t.kind then .pass
                  else failAt f.pos (Msg.fieldKind d.kind.render d.name outputKinds)
      | none => .pass
  | .enum =>
    if d.enumValues.isEmpty then failAt d.pos (Msg.noEnumValues d.kind d.name)
    else each d.enumValues fun v =>
      (if nonEnumNames.contains v.name then failAt d.pos (Msg.nonEnumValue d.kind d.name v.name) else .pass) ⊳
      validateName v.pos v.name ⊳
      validateDirectives s v.dirs locEnumValue none
  | .inputObject =>
    if d.fields.isEmpty then failAt d.pos (Msg.noInputFields d.kind d.name)
    else each d.fields fun f =>
      match s.type? f.type.name with
      | some t => if isInputKind t.kind then .pass
                  else failAt f.pos (Msg.fieldKind t.kind.render f.name inputKinds)
      | none => .pass
  | .scalar | .union => .pass

/-- `validateDefinition` -/
def validateDefinition (s : LState) (d : Definition) : Chk :=
  each d.fields (fun f =>
    validateName f.pos f.name ⊳
    validateTypeRef s f.type ⊳
    validateArgs s f.args none ⊳
    validateDirectives s f.dirs
      (if d.kind = .inputObject then locInputFieldDefinition else locFieldDefinition) none) ⊳
  each d.types (fun m =>
    match s.type? m with
    | none => failAt d.pos (Msg.undefinedType (Msg.quote m))
    | some t => if t.kind = .object then .pass else failAt d.pos (Msg.memberKind d.kind m)) ⊳
  each d.interfaces (validateImplements s d) ⊳
  validateKindSpecific s d ⊳
  checkUniqueFields d.name d.fields ⊳
  (if !d.builtIn then validateName d.pos d.name else .pass) ⊳
  validateDirectives s d.dirs d.kind.render none

/-- `validateDirective` (a directive *definition*) -/
def validateDirectiveDef (s : LState) (dd : DirectiveDef) : Chk :=
  validateName dd.pos dd.name ⊳ validateArgs s dd.args (some dd.name)

/-- `validateTypeDefinitions`: keys sorted with `sort.Strings` -/
def validateTypeDefinitions (s : LState) : Chk :=
  each (sortNames (s.types.map Prod.fst)) fun k =>
    match s.type? k with
    | some d => validateDefinition s d
    | none => .panic                 -- unreachable: k is a key

/-- `validateDirectiveDefinitions` -/
def validateDirectiveDefinitions (s : LState) : Chk :=
  each (sortNames (s.directives.map Prod.fst)) fun k =>
    match s.directives.lookup k with
    | some dd => validateDirectiveDef s dd
    | none => .panic

/- ---------------- ValidateSchemaDocument ---------------- -/

/-- first loop: `schema.Types[def.Name] = def` unless already declared -/
def declareTypes : List Definition → List (Name × Definition) → Except LoadError (List (Name × Definition))
  | [], acc => .ok acc
  | d :: rest, acc =>
    match acc.lookup d.name with
    | some _ => .error (errorPosf d.pos (Msg.redeclareType d.name))
    | none => declareTypes rest (acc ++ [(d.name, d)])

/-- the definition an extension without base creates -/
def extStub (ext : Definition) : Definition :=
  { kind := ext.kind, desc := [], name := ext.name, dirs := [], interfaces := [], fields := [], types := [],
    enumValues := [], pos := ext.pos, builtIn := false }

def applyExt (ext : Definition) (d : Definition) : Definition :=
  { d with dirs := d.dirs ++ ext.dirs, interfaces := d.interfaces ++ ext.interfaces, fields := d.fields ++ ext.fields,
           types := d.types ++ ext.types, enumValues := d.enumValues ++ ext.enumValues }

/-- `if def == nil { schema.Types[ext.Name] = &Definition{Kind, Name, Position}; … }` -/
def ensureBase (ext : Definition) (types : List (Name × Definition)) : List (Name × Definition) :=
  match types.lookup ext.name with
  | some _ => types
  | none => types ++ [(ext.name, extStub ext)]

/-- second loop: fold the extensions into their base definitions -/
def foldExtensions : List Definition → List (Name × Definition) → Except LoadError (List (Name × Definition))
  | [], types => .ok types
  | ext :: rest, types =>
    match (ensureBase ext types).lookup ext.name with
    | none => .ok (ensureBase ext types)              -- unreachable
    | some d =>
      if d.kind != ext.kind then .error (errorPosf ext.pos (Msg.extendKind ext.name d.kind ext.kind))
      else foldExtensions rest (modifyKV ext.name (applyExt ext) (ensureBase ext types))

abbrev Rel := List (Name × List (Option Name))

/-- the pointer `schema.Types[n]` seen through its `.Name` -/
def ptrOf (types : List (Name × Definition)) (n : Name) : Option Name := (types.lookup n).map (·.name)

/-- `if x := schema.Types[n]; x != nil { Add…(key, x) }`: an undeclared name is never entered
    (repair of the loader panic: no nil entries in the relations) -/
def pushPtr (k : Name) (v : Option Name) (r : Rel) : Rel :=
  match v with
  | some n => pushKV k (some n) r
  | none => r

/-- third loop body for one definition: (PossibleTypes, Implements) -/
def relateDef (types : List (Name × Definition)) (d : Definition) (pi : Rel × Rel) : Rel × Rel :=
  match d.kind with
  | .union =>
    d.types.foldl (fun (p, i) t => (pushPtr d.name (ptrOf types t) p, pushKV t (some d.name) i)) pi
  | .object =>
    let (p, i) := d.interfaces.foldl
      (fun (p, i) intf => (pushKV intf (some d.name) p, pushPtr d.name (ptrOf types intf) i)) pi
    (pushKV d.name (some d.name) p, i)
  | .interface =>
    d.interfaces.foldl (fun (p, i) intf => (pushKV intf (some d.name) p, pushPtr d.name (ptrOf types intf) i)) pi
  | .scalar | .enum | .inputObject => pi     -- `case Object:` only: an input object contributes nothing

def buildRelations (types : List (Name × Definition)) : Rel × Rel :=
  (types.map Prod.snd).foldl (fun pi d => relateDef types d pi) ([], [])

def builtinDirectiveNames : List Name :=
  [str "include", str "skip", str "deprecated", str "specifiedBy", str "defer", str "oneOf"]

/-- fourth loop: directive definitions (a redeclared builtin silently REPLACES the earlier one) -/
def declareDirectives : List DirectiveDef → List (Name × DirectiveDef) → Except LoadError (List (Name × DirectiveDef))
  | [], acc => .ok acc
  | dd :: rest, acc =>
    if (acc.lookup dd.name).isSome && !builtinDirectiveNames.contains dd.name then
      .error (errorPosf dd.pos (Msg.redeclareDirective dd.name))
    else declareDirectives rest (insertKV dd.name dd acc)

structure Roots where
  query : Option Name
  mutation : Option Name
  subscription : Option Name
  deriving Inhabited, DecidableEq, Repr

def opQuery : Bytes := str "query"
def opMutation : Bytes := str "mutation"
def opSubscription : Bytes := str "subscription"

/-- the `for _, entrypoint := range …OperationTypes` loops -/
def setRoots (types : List (Name × Definition)) : List OpTypeDef → Roots → Except LoadError Roots
  | [], r => .ok r
  | e :: rest, r =>
    match types.lookup e.type with
    | none => .error (errorPosf e.pos (Msg.rootMissing e.op e.type))
    | some d =>
      -- `setRootOperationType`: each operation can be given a root type only once (repair of R17a)
      if e.op == opQuery then
        if r.query.isSome then .error (errorPosf e.pos (Msg.rootTwice e.op))
        else setRoots types rest { r with query := some d.name }
      else if e.op == opMutation then
        if r.mutation.isSome then .error (errorPosf e.pos (Msg.rootTwice e.op))
        else setRoots types rest { r with mutation := some d.name }
      else if e.op == opSubscription then
        if r.subscription.isSome then .error (errorPosf e.pos (Msg.rootTwice e.op))
        else setRoots types rest { r with subscription := some d.name }
      else setRoots types rest r

/-- result of the schema-definition / schema-extension part -/
inductive RootsResult
  | ok (r : Roots) (schemaDirs : List Directive)
  | err (e : LoadError)
  | panic

/-- one `schema`/`extend schema` block: entry points, then its directives -/
def applySchemaDef (s : LState) (sdef : SchemaDef) (r : Roots) (acc : List Directive) : RootsResult :=
  match setRoots s.types sdef.opTypes r with
  | .error e => .err e
  | .ok r' =>
    match validateDirectives s sdef.dirs locSchema none with
    | .fail e => .err e
    | .panic => .panic
    | .pass => .ok r' (acc ++ sdef.dirs)

def applySchemaDefs (s : LState) : List SchemaDef → Roots → List Directive → RootsResult
  | [], r, acc => .ok r acc
  | sdef :: rest, r, acc =>
    match applySchemaDef s sdef r acc with
    | .ok r' acc' => applySchemaDefs s rest r' acc'
    | other => other

def nameQuery : Name := str "Query"
def nameMutation : Name := str "Mutation"
def nameSubscription : Name := str "Subscription"

/-- `if schema.X == nil && schema.Types["X"] != nil { schema.X = schema.Types["X"] }` -/
def inferRoot (types : List (Name × Definition)) (cur : Option Name) (n : Name) : Option Name :=
  match cur with
  | some c => some c
  | none => ptrOf types n

def inferRoots (types : List (Name × Definition)) (r : Roots) : Roots :=
  { query := inferRoot types r.query nameQuery, mutation := inferRoot types r.mutation nameMutation,
    subscription := inferRoot types r.subscription nameSubscription }

/-- the roots after the default-name inference (performed only without a `schema` definition) -/
def finalRoots (sd : SchemaDoc) (s : LState) (r1 : Roots) : Roots :=
  if sd.schema.isEmpty then inferRoots s.types r1 else r1

/-- `if root.def != nil && root.def.Kind != Object { return ErrorPosf(root.def.Position, …) }`;
    the root pointer is the name of a declared type (`RootsOK`), so the `none` lookup is unreachable -/
def checkRootKind (s : LState) (op : Bytes) (root : Option Name) : Chk :=
  match root with
  | none => .pass
  | some n =>
    match s.type? n with
    | none => .pass
    | some d => if d.kind != .object then failAt d.pos (Msg.rootNotObject op d.name d.kind) else .pass

/-- a root operation type is an object type: Query, Mutation, Subscription, in that order -/
def checkRootKinds (s : LState) (r : Roots) : Chk :=
  checkRootKind s opQuery r.query ⊳ checkRootKind s opMutation r.mutation ⊳
  checkRootKind s opSubscription r.subscription

/-- `__schema: __Schema!` and `__type(name: String!): __Type` (no positions) -/
def introspectionFields : List FieldDef :=
  [ { desc := [], name := str "__schema", args := [], default := none,
      type := .named (str "__Schema") true Pos.zero, dirs := [], pos := Pos.zero },
    { desc := [], name := str "__type",
      args := [{ desc := [], name := str "name", default := none, type := .named (str "String") true Pos.zero,
                 dirs := [], pos := Pos.zero }],
      default := none, type := .named (str "__Type") false Pos.zero, dirs := [], pos := Pos.zero } ]

def addIntrospection (d : Definition) : Definition := { d with fields := d.fields ++ introspectionFields }

/-- a nil entry left in a relation prints as the name `<nil>` (as the Go observer does) -/
def nilName : Name := str "<nil>"
def relOut (r : Rel) : List (Name × List Name) := r.map fun (k, vs) => (k, vs.map (·.getD nilName))

/-- the returned `ast.Schema`: inferred roots (only without a `schema` definition), introspection
    fields appended to the query root, relations with pointers rendered as names -/
def mkSchema (sd : SchemaDoc) (s : LState) (r1 : Roots) (dirs1 : List Directive) : Schema :=
  let r := if sd.schema.isEmpty then inferRoots s.types r1 else r1
  { query := r.query, mutation := r.mutation, subscription := r.subscription,
    schemaDirectives := dirs1,
    types := (match r.query with
      | some q => modifyKV q addIntrospection s.types
      | none => s.types),
    directives := s.directives,
    possibleTypes := relOut s.possible, implements := relOut s.implements,
    description := match sd.schema with | [d] => d.desc | _ => [] }

def noRoots : Roots := { query := none, mutation := none, subscription := none }

/-- everything after the relations are built, on the state whose maps are final -/
def finish (sd : SchemaDoc) (s : LState) : LoadResult :=
  match sd.schema with
  | _ :: second :: _ => .err (errorPosf second.pos Msg.multipleSchema)
  | schemaDefs =>
    match applySchemaDefs s schemaDefs noRoots [] with
    | .err e => .err e
    | .panic => .panic
    | .ok r0 dirs0 =>
      match applySchemaDefs s sd.schemaExt r0 dirs0 with
      | .err e => .err e
      | .panic => .panic
      | .ok r1 dirs1 =>
        match validateTypeDefinitions s with
        | .fail e => .err e
        | .panic => .panic
        | .pass =>
          match validateDirectiveDefinitions s with
          | .fail e => .err e
          | .panic => .panic
          | .pass =>
            -- the LAST check: kinds of the (declared or inferred) root operation types
            match checkRootKinds s (finalRoots sd s r1) with
            | .fail e => .err e
            | .panic => .panic
            | .pass => .ok (mkSchema sd s r1 dirs1)

/-- the state in which every validator runs: all four maps are final before the first check -/
def buildState (sd : SchemaDoc) : Except LoadError LState :=
  match declareTypes sd.definitions [] with
  | .error e => .error e
  | .ok types0 =>
    match foldExtensions sd.extensions types0 with
    | .error e => .error e
    | .ok types =>
      let (p, i) := buildRelations types
      match declareDirectives sd.directives [] with
      | .error e => .error e
      | .ok dirs => .ok { types := types, directives := dirs, possible := p, implements := i }

/-- `ValidateSchemaDocument` -/
def load (sd : SchemaDoc) : LoadResult :=
  match buildState sd with
  | .error e => .err e
  | .ok s => finish sd s

end Gql.Load
