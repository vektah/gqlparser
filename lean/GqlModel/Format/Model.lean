import GqlModel.Syntax.Ast
import GqlModel.Schema.Types
import GqlModel.Lexer.BlockString
import GqlModel.Format.Quote
/-
  Model of formatter/formatter.go (and of `Value.String()` / `Type.String()` in package ast),
  one Lean function per Go function, comments OFF (`emitComments = false`: the shared AST carries
  no comments, and every `FormatCommentGroup` call is then a no-op, so it is not written out).

  The writer state `W` is the mutable part of the Go `formatter` struct; the output is kept as a
  list of chunks (most recent first) so that a write is O(1); `W.text` is the text written so far.

  Nothing in this model can panic: the Go panic sites are `FormatSelection`'s `default:` (no such
  constructor in `Selection`), `Type.String()` on a type with neither name nor element (no such
  `GType`), `strings.Repeat` with a negative count (`IncrementIndent`/`DecrementIndent` are always
  paired, `indentSize` is a `Nat`), `def.Position.Src` on a directive definition without position
  (parsed and loaded definitions always have one) and nil documents / nil values (not
  representable).

  What the repairs of /repo changed is isolated in the section `Repaired` right below: a repair
  of /repo is followed by editing only these definitions.
-/
namespace Gql.Format
open Gql

/- ------------------------------------------------------------------------------------------
   Definitions that changed with the repairs of /repo (DESIGN §7 R12a, R12b, R13a–R13d).
   ------------------------------------------------------------------------------------------ -/
section Repaired

/-- `Value.String()` quotes string values with the GraphQL escapes only (repair of R12a). -/
def quoteString (bs : Bytes) : Bytes := gqlQuote bs

/-- `FormatFieldDefinition` hides the introspection fields the loader appends to the query type:
    name starting with `__` AND no source position (`Position == nil` travels as line 0; every
    parsed node has line ≥ 1) — repair of R13d. -/
def fieldSuppressed (emitBuiltin : Bool) (name : Bytes) (pos : Pos) : Bool :=
  !emitBuiltin && pos.line == 0 && (match name with | 95 :: 95 :: _ => true | _ => false)

/-- `isDefaultRoot` of `FormatSchema`: would loading without a schema definition give this root? -/
def isDefaultRoot (s : Schema) (root : Option Name) (dflt : Bytes) : Bool :=
  match root with
  | some n => n == dflt
  | none => (s.type? dflt).isNone

/-- `needSchema` of `FormatSchema` (repair of R13c and of the dropped default-named roots) -/
def needSchema (s : Schema) : Bool :=
  (!isDefaultRoot s s.query (str "Query") || !isDefaultRoot s s.mutation (str "Mutation") ||
    !isDefaultRoot s s.subscription (str "Subscription")) &&
  !(s.query.isNone && s.mutation.isNone && s.subscription.isNone)

/-- KNOWN FINDING R13e (pinned by the formatter's golden files): `FormatSchema` never prints
    `Schema.Description`. -/
def schemaDescriptionPrinted : Bool := false

end Repaired

structure Cfg where
  indent : Bytes := [9]
  emitBuiltin : Bool := false
  emitComments : Bool := false      -- only `false` is modelled
  omitDescription : Bool := false
  compacted : Bool := false
  deriving Repr, Inhabited

/-- mutable part of the Go `formatter` struct -/
structure W where
  chunks : List Bytes := []         -- what was written, most recent first
  indentSize : Nat := 0
  padNext : Bool := false
  lineHead : Bool := false
  deriving Repr, Inhabited

/-- the text written so far -/
def W.text (w : W) : Bytes := w.chunks.reverse.flatten

/-- `f.writeString(s)` (the unexported raw write) -/
def W.raw (w : W) (s : Bytes) : W := { w with chunks := s :: w.chunks }

/-- `strings.Repeat` -/
def repeatBytes (s : Bytes) (n : Nat) : Bytes := (List.replicate n s).flatten

def isAsciiSpace (b : Nat) : Bool := b == 32 || b == 9 || b == 10 || b == 11 || b == 12 || b == 13

def trimLeft : Bytes → Bytes
  | [] => []
  | b :: tl => if isAsciiSpace b then trimLeft tl else b :: tl

/-- `strings.TrimSpace`, exact for words that neither start nor end with a non-ASCII Unicode
    space (every word the formatter passes is made of name characters, `[ ] ! & |` and blanks). -/
def trimSpace (s : Bytes) : Bytes := (trimLeft (trimLeft s).reverse).reverse

def writeIndent (cfg : Cfg) (w : W) : W :=
  let w := if w.lineHead then w.raw (repeatBytes cfg.indent w.indentSize) else w
  { w with lineHead := false, padNext := false }

def writeNewline (w : W) : W := { w.raw [10] with lineHead := true, padNext := false }

def writeWord (cfg : Cfg) (word : Bytes) (w : W) : W :=
  let w := if w.lineHead then writeIndent cfg w else w
  let w := if w.padNext then w.raw [32] else w
  { w.raw (trimSpace word) with padNext := true }

def writeStr (cfg : Cfg) (s : Bytes) (w : W) : W :=
  let w := if w.lineHead then writeIndent cfg w else w
  let w := if w.padNext then w.raw [32] else w
  { w.raw s with padNext := false }

def incIndent (w : W) : W := { w with indentSize := w.indentSize + 1 }
def decIndent (w : W) : W := { w with indentSize := w.indentSize - 1 }
def noPadding (w : W) : W := { w with padNext := false }
def needPadding (w : W) : W := { w with padNext := true }

def tripleQuote : Bytes := [34, 34, 34]

/-- `strings.ReplaceAll(s, "\"\"\"", "\\\"\"\"")` -/
def escapeTriple : Bytes → Bytes
  | 34 :: 34 :: 34 :: rest => 92 :: 34 :: 34 :: 34 :: escapeTriple rest
  | b :: rest => b :: escapeTriple rest
  | [] => []

def isBlankLine (l : Bytes) : Bool := l.all fun b => b == 32 || b == 9

/-- `blockStringRepresentable`: no control character except TAB and LF, first and last line not
    blank, and some non-blank line without indentation. -/
def blockStringRepresentable (s : Bytes) : Bool :=
  let lines := Lexer.splitLines s
  s.all (fun c => !(c < 32 && c != 9 && c != 10)) &&
  !isBlankLine (lines.headD []) && !isBlankLine (lines.getLastD []) &&
  lines.any fun l => !isBlankLine l && (match l with | b :: _ => b != 32 && b != 9 | [] => false)

/-- `WriteDescription`: a block string with `"""` escaped, or a quoted string when a block string
    would not read back as `s` (repair of R13a / R13b). -/
def writeDescription (cfg : Cfg) (s : Bytes) (w : W) : W :=
  if s.isEmpty || cfg.omitDescription then w
  else if !blockStringRepresentable s then writeNewline (writeStr cfg (quoteString s) w)
  else
    let w := writeNewline (writeStr cfg tripleQuote w)
    let w := (Lexer.splitLines (escapeTriple s)).foldl (fun w l => writeNewline (writeStr cfg l w)) w
    writeNewline (writeStr cfg tripleQuote w)

/- ---------------- `Value.String()` ---------------- -/

mutual
  /-- `(*Value).String()` -/
  def renderValue : Value → Bytes
    | .mk k raw ch _ =>
      match k with
      | .variable => 36 :: raw
      | .int | .float | .enum | .boolean | .null => raw
      | .string | .block => quoteString raw
      | .list => 91 :: renderListItems true ch ++ [93]
      | .object => 123 :: renderObjFields true ch ++ [125]
  /-- `strings.Join(items, ",")` of a list value -/
  def renderListItems (first : Bool) : Children → Bytes
    | .nil => []
    | .cons _ v _ rest => (if first then [] else [44]) ++ renderValue v ++ renderListItems false rest
  /-- `strings.Join(name:value, ",")` of an object value -/
  def renderObjFields (first : Bool) : Children → Bytes
    | .nil => []
    | .cons n v _ rest =>
      (if first then [] else [44]) ++ n ++ 58 :: renderValue v ++ renderObjFields false rest
end

/-- `strings.Join(names, sep)` -/
def joinNames (sep : Bytes) : List Name → Bytes
  | [] => []
  | [n] => n
  | n :: rest => n ++ sep ++ joinNames sep rest

/- ---------------- shared pieces ---------------- -/

/-- `FormatType` -/
def formatType (cfg : Cfg) (t : GType) (w : W) : W := writeWord cfg t.render w

/-- `FormatValue` -/
def formatValue (cfg : Cfg) (v : Value) (w : W) : W := writeStr cfg (renderValue v) w

/-- `FormatArgument` -/
def formatArgument (cfg : Cfg) (a : Argument) (w : W) : W :=
  w |> writeWord cfg a.name |> noPadding |> writeStr cfg [58] |> needPadding
    |> writeStr cfg (renderValue a.value)

/-- loop of `FormatArgumentList` -/
def formatArguments (cfg : Cfg) : List Argument → W → W
  | [], w => w
  | [a], w => formatArgument cfg a w
  | a :: rest, w => formatArguments cfg rest (w |> formatArgument cfg a |> noPadding |> writeWord cfg [44])

/-- `FormatArgumentList` -/
def formatArgumentList (cfg : Cfg) (as : List Argument) (w : W) : W :=
  if as.isEmpty then w
  else w |> noPadding |> writeStr cfg [40] |> formatArguments cfg as |> writeStr cfg [41] |> needPadding

/-- `FormatDirective` -/
def formatDirective (cfg : Cfg) (d : Directive) (w : W) : W :=
  w |> writeStr cfg [64] |> writeWord cfg d.name |> formatArgumentList cfg d.args

/-- `FormatDirectiveList` -/
def formatDirectiveList (cfg : Cfg) (ds : List Directive) (w : W) : W :=
  ds.foldl (fun w d => formatDirective cfg d w) w

/- ---------------- executable documents ---------------- -/

/-- `FormatVariableDefinition` -/
def formatVariableDefinition (cfg : Cfg) (d : VarDef) (w : W) : W :=
  let w := w |> writeStr cfg [36] |> writeWord cfg d.var |> noPadding |> writeStr cfg [58] |> needPadding
    |> formatType cfg d.type
  let w := match d.default with
    | some v => w |> writeWord cfg [61] |> formatValue cfg v
    | none => w
  w |> needPadding |> formatDirectiveList cfg d.dirs

def formatVariableDefinitions (cfg : Cfg) : List VarDef → W → W
  | [], w => w
  | [d], w => formatVariableDefinition cfg d w
  | d :: rest, w =>
    formatVariableDefinitions cfg rest (w |> formatVariableDefinition cfg d |> noPadding |> writeWord cfg [44])

/-- `FormatVariableDefinitionList` -/
def formatVariableDefinitionList (cfg : Cfg) (ds : List VarDef) (w : W) : W :=
  if ds.isEmpty then w
  else w |> writeStr cfg [40] |> formatVariableDefinitions cfg ds |> noPadding |> writeStr cfg [41] |> needPadding

def spreadDots : Bytes := [46, 46, 46]

mutual
  /-- `FormatSelection` (with `FormatField`, `FormatFragmentSpread`, `FormatInlineFragment`) -/
  def formatSelection (cfg : Cfg) : Selection → W → W
    | .field al nm args ds sel _, w =>
      let w := if !al.isEmpty && al != nm then
          w |> writeWord cfg al |> noPadding |> writeStr cfg [58] |> needPadding
        else w
      let w := writeWord cfg nm w
      let w := if !args.isEmpty then w |> noPadding |> formatArgumentList cfg args |> needPadding else w
      w |> formatDirectiveList cfg ds |> formatSelectionSet cfg sel |> writeNewline
    | .spread nm ds _, w =>
      let w := writeWord cfg spreadDots w
      let w := if cfg.compacted then noPadding w else w
      w |> writeWord cfg nm |> formatDirectiveList cfg ds |> writeNewline
    | .inline tc ds sel _, w =>
      let w := writeWord cfg spreadDots w
      let w := if !tc.isEmpty then w |> writeWord cfg (str "on") |> writeWord cfg tc else w
      w |> formatDirectiveList cfg ds |> formatSelectionSet cfg sel |> writeNewline
  /-- `FormatSelectionSet` -/
  def formatSelectionSet (cfg : Cfg) : Selections → W → W
    | .nil, w => w
    | .cons s rest, w =>
      let w := w |> writeStr cfg [123] |> writeNewline |> incIndent
      let w := formatSelections cfg rest (formatSelection cfg s w)
      w |> decIndent |> writeStr cfg [125]
  /-- the loop of `FormatSelectionSet` -/
  def formatSelections (cfg : Cfg) : Selections → W → W
    | .nil, w => w
    | .cons s rest, w => formatSelections cfg rest (formatSelection cfg s w)
end

/-- `FormatOperationDefinition` -/
def formatOperationDefinition (cfg : Cfg) (d : OperationDef) (w : W) : W :=
  let w := writeWord cfg d.op w
  let w := if !d.name.isEmpty then
      let w := writeWord cfg d.name w
      if cfg.compacted then noPadding w else w
    else w
  let w := w |> formatVariableDefinitionList cfg d.vars |> formatDirectiveList cfg d.dirs
  match d.sel with
  | .nil => w
  | sel => w |> formatSelectionSet cfg sel |> writeNewline

/-- `FormatFragmentDefinition` -/
def formatFragmentDefinition (cfg : Cfg) (d : FragmentDef) (w : W) : W :=
  let w := w |> writeWord cfg (str "fragment") |> writeWord cfg d.name
    |> formatVariableDefinitionList cfg d.vars
    |> writeWord cfg (str "on") |> writeWord cfg d.typeCond |> formatDirectiveList cfg d.dirs
  match d.sel with
  | .nil => w
  | sel => w |> formatSelectionSet cfg sel |> writeNewline

/-- `FormatQueryDocument` -/
def formatQueryDocument (cfg : Cfg) (d : QueryDoc) (w : W) : W :=
  let w := d.ops.foldl (fun w o => formatOperationDefinition cfg o w) w
  d.frags.foldl (fun w f => formatFragmentDefinition cfg f w) w

/- ---------------- type-system documents ---------------- -/

/-- `FormatArgumentDefinition` -/
def formatArgumentDefinition (cfg : Cfg) (d : ArgDef) (w : W) : W :=
  let described := !d.desc.isEmpty && !cfg.omitDescription
  let w := if described then w |> writeNewline |> incIndent |> writeDescription cfg d.desc else w
  let w := w |> writeWord cfg d.name |> noPadding |> writeStr cfg [58] |> needPadding |> formatType cfg d.type
  let w := match d.default with
    | some v => w |> writeWord cfg [61] |> formatValue cfg v
    | none => w
  let w := w |> needPadding |> formatDirectiveList cfg d.dirs
  if described then w |> decIndent |> writeNewline else w

def formatArgumentDefinitions (cfg : Cfg) : List ArgDef → W → W
  | [], w => w
  | [d], w => formatArgumentDefinition cfg d w
  | d :: rest, w =>
    let w := formatArgumentDefinition cfg d w
    -- the comma is skipped when the argument has a description (even when descriptions are omitted)
    let w := if d.desc.isEmpty then w |> noPadding |> writeWord cfg [44] else w
    formatArgumentDefinitions cfg rest w

/-- `FormatArgumentDefinitionList` -/
def formatArgumentDefinitionList (cfg : Cfg) (ds : List ArgDef) (w : W) : W :=
  if ds.isEmpty then w
  else w |> writeStr cfg [40] |> formatArgumentDefinitions cfg ds |> noPadding |> writeStr cfg [41] |> needPadding

/-- `FormatFieldDefinition` -/
def formatFieldDefinition (cfg : Cfg) (f : FieldDef) (w : W) : W :=
  if fieldSuppressed cfg.emitBuiltin f.name f.pos then w
  else
    let w := w |> writeDescription cfg f.desc |> writeWord cfg f.name |> noPadding
      |> formatArgumentDefinitionList cfg f.args |> noPadding |> writeStr cfg [58] |> needPadding
      |> formatType cfg f.type
    let w := match f.default with
      | some v => w |> writeWord cfg [61] |> formatValue cfg v
      | none => w
    w |> formatDirectiveList cfg f.dirs |> writeNewline

/-- `FormatFieldList` -/
def formatFieldList (cfg : Cfg) (fs : List FieldDef) (w : W) : W :=
  if fs.isEmpty then w
  else
    let w := w |> writeStr cfg [123] |> writeNewline |> incIndent
    let w := fs.foldl (fun w f => formatFieldDefinition cfg f w) w
    w |> decIndent |> writeStr cfg [125]

/-- `FormatEnumValueDefinition` -/
def formatEnumValueDefinition (cfg : Cfg) (e : EnumValDef) (w : W) : W :=
  w |> writeDescription cfg e.desc |> writeWord cfg e.name |> formatDirectiveList cfg e.dirs |> writeNewline

/-- `FormatEnumValueList` -/
def formatEnumValueList (cfg : Cfg) (es : List EnumValDef) (w : W) : W :=
  if es.isEmpty then w
  else
    let w := w |> writeStr cfg [123] |> writeNewline |> incIndent
    let w := es.foldl (fun w e => formatEnumValueDefinition cfg e w) w
    w |> decIndent |> writeStr cfg [125]

def kindKeyword : DefKind → Bytes
  | .scalar => str "scalar" | .object => str "type" | .interface => str "interface"
  | .union => str "union" | .enum => str "enum" | .inputObject => str "input"

/-- `FormatDefinition` -/
def formatDefinition (cfg : Cfg) (extend : Bool) (d : Definition) (w : W) : W :=
  if !cfg.emitBuiltin && d.builtIn then w
  else
    let w := writeDescription cfg d.desc w
    let w := if extend then writeWord cfg (str "extend") w else w
    let w := w |> writeWord cfg (kindKeyword d.kind) |> writeWord cfg d.name
    let w := if !d.interfaces.isEmpty then
        w |> writeWord cfg (str "implements") |> writeWord cfg (joinNames (str " & ") d.interfaces)
      else w
    let w := formatDirectiveList cfg d.dirs w
    let w := if !d.types.isEmpty then
        w |> writeWord cfg [61] |> writeWord cfg (joinNames (str " | ") d.types)
      else w
    w |> formatFieldList cfg d.fields |> formatEnumValueList cfg d.enumValues |> writeNewline

/-- `FormatDefinitionList` -/
def formatDefinitionList (cfg : Cfg) (extend : Bool) (ds : List Definition) (w : W) : W :=
  ds.foldl (fun w d => formatDefinition cfg extend d w) w

def formatLocations (cfg : Cfg) : List Bytes → W → W
  | [], w => w
  | [l], w => writeWord cfg l w
  | l :: rest, w => formatLocations cfg rest (w |> writeWord cfg l |> writeWord cfg [124])

/-- `FormatDirectiveDefinition`.  `def.Position.Src.BuiltIn` is `srcBuiltIn d.pos.src`: the
    formatter ops number the built-in source (the prelude) 0 and user sources from 1. -/
def formatDirectiveDefinition (cfg : Cfg) (srcBuiltIn : Nat → Bool) (d : DirectiveDef) (w : W) : W :=
  if !cfg.emitBuiltin && srcBuiltIn d.pos.src then w
  else
    let w := w |> writeDescription cfg d.desc |> writeWord cfg (str "directive") |> writeStr cfg [64]
      |> writeWord cfg d.name
    let w := if !d.args.isEmpty then w |> noPadding |> formatArgumentDefinitionList cfg d.args else w
    let w := if d.repeatable then writeWord cfg (str "repeatable") w else w
    let w := if !d.locations.isEmpty then w |> writeWord cfg (str "on") |> formatLocations cfg d.locations else w
    writeNewline w

/-- `FormatOperationTypeDefinition` -/
def formatOperationTypeDefinition (cfg : Cfg) (o : OpTypeDef) (w : W) : W :=
  w |> writeWord cfg o.op |> noPadding |> writeStr cfg [58] |> needPadding |> writeWord cfg o.type |> writeNewline

/-- `IsSchemaDefinitionsEmpty` -/
def isSchemaDefinitionsEmpty (ds : List SchemaDef) : Bool := ds.all fun d => d.opTypes.isEmpty

/-- `FormatSchemaDefinitionList`: all schema definitions (or all schema extensions) are merged
    into one block; the descriptions are concatenated. -/
def formatSchemaDefinitionList (cfg : Cfg) (extension : Bool) (ds : List SchemaDef) (w : W) : W :=
  if ds.isEmpty then w
  else
    let w := writeDescription cfg (ds.flatMap fun d => d.desc) w
    let w := if extension then writeWord cfg (str "extend") w else w
    let w := w |> writeWord cfg (str "schema") |> incIndent
    let w := ds.foldl (fun w d => formatDirectiveList cfg d.dirs w) w
    let w := decIndent w
    let w := if !extension || !isSchemaDefinitionsEmpty ds then
        let w := w |> writeStr cfg [123] |> writeNewline |> incIndent
        let w := ds.foldl (fun w d => d.opTypes.foldl (fun w o => formatOperationTypeDefinition cfg o w) w) w
        w |> decIndent |> writeStr cfg [125]
      else w
    writeNewline w

def srcZeroBuiltIn (s : Nat) : Bool := s == 0

/-- `FormatSchemaDocument` -/
def formatSchemaDocument (cfg : Cfg) (d : SchemaDoc) (w : W) (srcBuiltIn : Nat → Bool := srcZeroBuiltIn) : W :=
  w |> formatSchemaDefinitionList cfg false d.schema
    |> formatSchemaDefinitionList cfg true d.schemaExt
    |> (fun w => d.directives.foldl (fun w dd => formatDirectiveDefinition cfg srcBuiltIn dd w) w)
    |> formatDefinitionList cfg false d.definitions
    |> formatDefinitionList cfg true d.extensions

/- ---------------- loaded schemas ---------------- -/

/-- bytewise `a ≤ b` (Go string comparison, as used by `sort.Strings`) -/
def bytesLe : Bytes → Bytes → Bool
  | [], _ => true
  | _ :: _, [] => false
  | a :: as, b :: bs => if a < b then true else if b < a then false else bytesLe as bs

/-- the values of a Go map in the order of `sort.Strings(keys)` -/
def sortedByKey {α} (m : List (Name × α)) : List α :=
  (m.mergeSort fun a b => bytesLe a.1 b.1).map (·.2)

/-- one root operation line of the schema block; `startSchema()` opens the block on first use -/
def formatRoot (cfg : Cfg) (s : Schema) (kw : Bytes) (root : Option Name) (st : W × Bool) : W × Bool :=
  if root.isSome && needSchema s then
    let (w, inSchema) := st
    let w := if inSchema then w
      else w |> writeWord cfg (str "schema") |> formatDirectiveList cfg s.schemaDirectives
             |> writeStr cfg [123] |> writeNewline |> incIndent
    let w := w |> writeWord cfg kw |> noPadding |> writeStr cfg [58] |> needPadding
      |> writeWord cfg (root.getD []) |> writeNewline
    (w, true)
  else st

/-- `FormatSchema` -/
def formatSchema (cfg : Cfg) (s : Schema) (w : W) (srcBuiltIn : Nat → Bool := srcZeroBuiltIn) : W :=
  let w := if schemaDescriptionPrinted then writeDescription cfg s.description w else w
  let st := (w, false)
    |> formatRoot cfg s (str "query") s.query
    |> formatRoot cfg s (str "mutation") s.mutation
    |> formatRoot cfg s (str "subscription") s.subscription
  let w := st.1
  let w := if st.2 then w |> decIndent |> writeStr cfg [125] |> writeNewline
    else if !s.schemaDirectives.isEmpty then
      w |> writeWord cfg (str "extend") |> writeWord cfg (str "schema")
        |> formatDirectiveList cfg s.schemaDirectives |> writeNewline
    else w
  let w := (sortedByKey s.directives).foldl (fun w d => formatDirectiveDefinition cfg srcBuiltIn d w) w
  (sortedByKey s.types).foldl (fun w d => formatDefinition cfg false d w) w

/-- whole-document entry points: text produced from the initial formatter state -/
def fmtQuery (cfg : Cfg) (d : QueryDoc) : Bytes := (formatQueryDocument cfg d {}).text
def fmtSchemaDoc (cfg : Cfg) (d : SchemaDoc) : Bytes := (formatSchemaDocument cfg d {}).text
def fmtSchema (cfg : Cfg) (s : Schema) : Bytes := (formatSchema cfg s {}).text

end Gql.Format
