import GqlProofs.Parser.Run
/-
  The token limit lives only in `next`/`nextNC`.  Running the same program under a stricter limit
  `L` and a laxer limit `L'` from the same state stays in lock step until the `L`-run trips the
  limit; from then on the `L`-run is frozen (sticky error) and the `L'`-run has counted more than
  `L` tokens.
-/
namespace Gql.Parser
open Gql Gql.Lexer

/-- `L` is at least as strict as `L'` (0 = unlimited) -/
def Stricter (L L' : Nat) : Prop := L' = 0 ∨ (L ≠ 0 ∧ L ≤ L')


@[simp] theorem readPeek_tc (s : PState) : s.readPeek.tokenCount = s.tokenCount :=
  (congrArg PState.tokenCount (lexRead_state s) :)

@[simp] theorem readPrev_tc (s : PState) : s.readPrev.tokenCount = s.tokenCount + 1 := rfl
@[simp] theorem trip_tc (L : Nat) (s : PState) : (s.trip L).tokenCount = s.tokenCount + 1 := rfl
@[simp] theorem trip_err (L : Nat) (s : PState) : (s.trip L).err = some (.limit L) := rfl
@[simp] theorem takePeeked_tc (s : PState) : s.takePeeked.tokenCount = s.tokenCount + 1 := rfl

theorem tc_stateInv (L n : Nat) : StateInv L (fun s => n ≤ s.tokenCount) where
  readPeek _ _ h := by rwa [readPeek_tc]
  trip _ _ h := Nat.le_succ_of_le h
  takePeeked _ _ _ h := Nat.le_succ_of_le h
  readPrev _ _ _ h := Nat.le_succ_of_le h
  setErr _ _ _ h := h
  setOof h := h

theorem next_tc_succ (L : Nat) {s : PState} (he : s.err.isSome = false) :
    s.tokenCount + 1 ≤ (s.nextNC L).2.tokenCount ∧ s.tokenCount + 1 ≤ (s.next L).2.tokenCount := by
  simp only [PState.nextNC, PState.next, he, Bool.false_eq_true, ↓reduceIte]
  split
  · exact ⟨Nat.le_refl _, Nat.le_refl _⟩
  · split
    · exact ⟨Nat.le_refl _, Nat.le_refl _⟩
    · exact ⟨Nat.le_refl _, (tc_stateInv L _).groupIf (s := s.readPrev) (Nat.le_refl _) _⟩


theorem commentLoop_err (L n : Nat) (s : PState) (h : s.err.isSome) : (commentLoop L n s).err = s.err := by
  cases n <;> simp [commentLoop, h]


theorem overLimit_lt {L n : Nat} (h : overLimit L n = true) : L < n := by
  unfold overLimit at h
  simp at h
  omega

theorem overLimit_le {L n : Nat} (hL : L ≠ 0) (h : overLimit L n = false) : n ≤ L := by
  unfold overLimit at h
  simp [hL] at h
  exact h


/-- once the `L`-run has tripped it is frozen, whatever the two runs execute afterwards -/
theorem run_tripped {α β : Type} {L : Nat} (L' : Nat) (p : Prog α) (q : Prog β) (s s' : PState)
    (h1 : s.err = some (.limit L)) (h2 : L < s'.tokenCount) :
    (run L p s).2.err = some (.limit L) ∧ L < (run L' q s').2.tokenCount := by
  rw [run_err_err L p s (by simp [h1])]
  exact ⟨h1, (tc_stateInv L' _).run h2 q⟩

def SRel (L : Nat) (s s' : PState) : Prop :=
  (s.err = some (.limit L) ∧ L < s'.tokenCount) ∨ s = s'

/-- outcome of one primitive run under `L` and `L'` from the same state -/
def StepRel (L : Nat) (r r' : Token × PState) : Prop :=
  (r.2.err = some (.limit L) ∧ L < r'.2.tokenCount) ∨ r = r'

variable {L L' : Nat} (h : Stricter L L')
include h

theorem overLimit_false_of_stricter {n : Nat} (h' : overLimit L n = false) :
    overLimit L' n = false := by
  unfold overLimit Stricter at *
  simp at *
  omega

theorem nextNC_sim (s : PState) :
    SRel L (s.nextNC L).2 (s.nextNC L').2 := by
  cases he : s.err.isSome
  case true => right; rw [nextNC_err L he, nextNC_err L' he]
  case false =>
    cases hL : overLimit L (s.tokenCount + 1)
    case false => right; simp [PState.nextNC, hL, overLimit_false_of_stricter h hL]
    case true =>
      exact .inl ⟨by simp [PState.nextNC, he, hL], Nat.lt_of_lt_of_le (overLimit_lt hL) (next_tc_succ L' he).1⟩

theorem commentLoop_sim (n : Nat) (s : PState) :
    SRel L (commentLoop L n s) (commentLoop L' n s) := by
  induction n generalizing s with
  | zero => exact .inr rfl
  | succ n ih =>
    unfold commentLoop
    split
    · exact .inr rfl
    · simp only
      split
      · exact .inr rfl
      · rcases nextNC_sim h s.peekNC.2 with ⟨h1, h2⟩ | h1
        · left
          rw [commentLoop_err L n _ (by simp [h1])]
          exact ⟨h1, (tc_stateInv L' _).commentLoop h2 n⟩
        · rw [h1]; exact ih _

theorem groupIf_sim (t : Token) (s : PState) :
    SRel L (s.groupIf L t) (s.groupIf L' t) := by
  unfold PState.groupIf PState.consumeCommentGroup
  split
  · split
    · exact .inr rfl
    · exact commentLoop_sim h _ s
  · exact .inr rfl

theorem peek_sim (s : PState) : StepRel L (s.peek L) (s.peek L') := by
  unfold PState.peek
  split
  · exact .inr rfl
  · split
    · exact .inr rfl
    · rcases groupIf_sim h s.readPeek.peekTok s.readPeek with h1 | h1
      · exact .inl h1
      · right; simp only [h1]

theorem next_sim (s : PState) : StepRel L (s.next L) (s.next L') := by
  cases he : s.err.isSome
  case true => right; rw [next_err L he, next_err L' he]
  case false =>
    cases hL : overLimit L (s.tokenCount + 1)
    case true =>
      exact .inl ⟨by simp [PState.next, he, hL], Nat.lt_of_lt_of_le (overLimit_lt hL) (next_tc_succ L' he).2⟩
    case false =>
      simp only [PState.next, he, hL, overLimit_false_of_stricter h hL, Bool.false_eq_true, ↓reduceIte]
      split
      · exact .inr rfl
      · rcases groupIf_sim h s.readPrev.prev s.readPrev with h1 | h1
        · exact .inl h1
        · right; simp only [h1]

/-- **limit simulation**: the same program from the same state under a stricter and a laxer
    limit: either the stricter run ends tripped (and the laxer one has counted more than `L`
    tokens), or both runs end in the same state with the same result. -/
theorem run_sim {α : Type} (p : Prog α) (s : PState) :
    ((run L p s).2.err = some (.limit L) ∧ L < (run L' p s).2.tokenCount) ∨ run L p s = run L' p s := by
  induction p generalizing s with
  | pure a => exact .inr rfl
  | peek k ih =>
    simp only [run]
    rcases peek_sim h s with ⟨h1, h2⟩ | h1
    · exact .inl (run_tripped L' _ _ _ _ h1 h2)
    · rw [h1]; exact ih _ _
  | next k ih =>
    simp only [run]
    rcases next_sim h s with ⟨h1, h2⟩ | h1
    · exact .inl (run_tripped L' _ _ _ _ h1 h2)
    · rw [h1]; exact ih _ _
  | hasErr k ih => exact ih _ _
  | getPrev k ih => exact ih _ _
  | getSrc k ih => exact ih _ _
  | fail tok msg k ih => exact ih _
  | oof k ih => exact ih _

end Gql.Parser
