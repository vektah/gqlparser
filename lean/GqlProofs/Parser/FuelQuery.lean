import GqlProofs.Parser.Fuel
/-
  `Good` for every definition of `Parser/Query.lean`, and `Progress` for those that are the body
  of a loop or the callee of a recursion.  Each proof follows its program statement by statement.
-/
namespace Gql.Parser
open Gql Gql.Lexer

variable {L n : Nat} {t : Token}


theorem Good.parseName {L n : Nat} : Good L n parseName := Good.bind (Good.expect _) fun _ => Good.pure _
theorem Progress.parseName {L : Nat} : Progress L parseName := Progress.bind_left _ (Progress.expect _ (by decide))

theorem Good.parseVariable : Good L n parseVariable := Good.bind (Good.expect _) fun _ => Good.parseName
theorem Progress.parseVariable : Progress L parseVariable := Progress.bind_left _ (Progress.expect _ (by decide))


theorem Good.parseObjectFieldWith {pv : Prog Value} (h : Good L n pv) : Good L n (parseObjectFieldWith pv) :=
  Good.bind Good.peekPos fun _ => Good.bind Good.parseName fun _ => Good.bind (Good.expect _) fun _ =>
    Good.bind h fun _ => Good.pure _

theorem Progress.parseObjectFieldWith (pv : Prog Value) : Progress L (parseObjectFieldWith pv) :=
  Progress.bind_right _ fun _ => Progress.bind_left _ Progress.parseName

theorem parseValueLiteral_fuel : ∀ (n : Nat) (c : Bool),
    Good L n (parseValueLiteral n c) ∧ Progress L (parseValueLiteral n c)
  | 0, _ => ⟨Good.zero _, Progress.outOfFuel _⟩
  | n + 1, c => by
    obtain ⟨ihg, ihp⟩ := parseValueLiteral_fuel n c
    unfold parseValueLiteral
    constructor
    · refine Good.bind Good.peek fun token => Good.bind Good.getSrc fun src => ?_
      split
      · exact Good.bind Good.peekPos fun _ => Good.bind
          (Good.pMany _ _ (Good.bind ihg fun _ => Good.pure _) (Progress.bind_left _ ihp)) fun _ => Good.pure _
      · exact Good.bind Good.peekPos fun _ => Good.bind
          (Good.pMany _ _ (Good.parseObjectFieldWith ihg) (Progress.parseObjectFieldWith _)) fun _ => Good.pure _
      · exact Good.ite (Good.bind Good.unexpectedError fun _ => Good.pure _)
          (Good.bind Good.parseVariable fun _ => Good.pure _)
      iterate 5 exact Good.bind Good.next fun _ => Good.pure _
      exact Good.bind Good.unexpectedError fun _ => Good.pure _
    · refine Progress.peek_bind fun token => ProgRdy.keep_bind Keeps.getSrc fun src => ?_
      split
      · rename_i h
        exact ProgRdy.keep_bind Keeps.peekPos fun _ => ProgRdy.bind_left _ (ProgRdy.pMany _ _ _ h)
      · rename_i h
        exact ProgRdy.keep_bind Keeps.peekPos fun _ => ProgRdy.bind_left _ (ProgRdy.pMany _ _ _ h)
      · exact ProgRdy.of_progress (Progress.ite (Progress.bind_left _ Progress.unexpectedError)
          (Progress.bind_left _ Progress.parseVariable))
      iterate 5
        rename_i h
        exact ProgRdy.bind_left _ (ProgRdy.next (kind_real h (by decide)))
      exact ProgRdy.of_progress (Progress.bind_left _ Progress.unexpectedError)

theorem Good.parseValueLiteral {L n : Nat} (c : Bool) : Good L n (parseValueLiteral n c) := (parseValueLiteral_fuel n c).1
theorem Progress.parseValueLiteral {L : Nat} (n : Nat) (c : Bool) : Progress L (parseValueLiteral n c) :=
  (parseValueLiteral_fuel n c).2


theorem Good.parseArgument (c : Bool) : Good L n (parseArgument n c) :=
  Good.bind Good.peekPos fun _ => Good.bind Good.parseName fun _ => Good.bind (Good.expect _) fun _ =>
    Good.bind (Good.parseValueLiteral c) fun _ => Good.pure _
theorem Progress.parseArgument (n : Nat) (c : Bool) : Progress L (parseArgument n c) :=
  Progress.bind_right _ fun _ => Progress.bind_left _ Progress.parseName

theorem Good.parseArguments (c : Bool) : Good L n (parseArguments n c) :=
  Good.pSome _ _ (Good.parseArgument c) (Progress.parseArgument n c)

theorem Good.parseDirective (c : Bool) : Good L n (parseDirective n c) :=
  Good.bind (Good.expect _) fun _ => Good.bind Good.peekPos fun _ => Good.bind Good.parseName fun _ =>
    Good.bind (Good.parseArguments c) fun _ => Good.pure _
theorem Progress.parseDirective (n : Nat) (c : Bool) : Progress L (parseDirective n c) :=
  Progress.bind_left _ (Progress.expect _ (by decide))

theorem Good.parseDirectives {L n : Nat} (c : Bool) : Good L n (parseDirectives n c) :=
  Good.bind (Good.directivesLoop (Good.parseDirective c) (Progress.parseDirective n c) n n [] (Nat.le_refl _)
    (Nat.le_refl _)) fun _ => Good.pure _

theorem Good.parseTypeReference {L : Nat} : ∀ n, Good L n (parseTypeReference n) 
  | 0 => Good.zero _
  | n + 1 => Good.skip_bind
      (Good.bind Good.peekPos fun _ => Good.bind (Good.parseTypeReference n) fun _ => Good.bind (Good.expect _) fun _ =>
        Good.bind (Good.skip _) fun _ => Good.pure _)
      (Good.bind Good.peekPos fun _ => Good.bind Good.parseName fun _ => Good.bind (Good.skip _) fun _ => Good.pure _)

theorem Good.parseVariableDefinition {L n : Nat} : Good L n (parseVariableDefinition n) := by
  refine Good.bind Good.peekPos fun _ => Good.bind Good.parseVariable fun _ => Good.bind (Good.expect _) fun _ =>
    Good.bind (Good.parseTypeReference n) fun _ => Good.bind (Good.skip _) fun _ => Good.ite
      (Good.bind (Good.parseValueLiteral _) fun _ => Good.bind (Good.pure _) fun _ => ?_)
      (Good.bind (Good.pure _) fun _ => ?_)
  all_goals exact Good.bind (Good.parseDirectives _) fun _ => Good.pure _
theorem Progress.parseVariableDefinition {L : Nat} (n : Nat) : Progress L (parseVariableDefinition n) :=
  Progress.bind_right _ fun _ => Progress.bind_left _ Progress.parseVariable

theorem Good.parseVariableDefinitions : Good L n (parseVariableDefinitions n) :=
  Good.pSome _ _ Good.parseVariableDefinition (Progress.parseVariableDefinition n)

/-! `sel` is `parseSelection m`, good for `m`; the selection sets it is called from run after their `{`,
    hence `n ≤ m + 1` -/

section
variable {m : Nat} {sel : Prog Selection}

theorem Good.parseOptionalSelectionSetWith (hg : Good L m sel) (hp : Progress L sel) (hk : n ≤ m + 1) :
    Good L n (parseOptionalSelectionSetWith sel n) :=
  Good.bind (Good.pSome _ _ hg hp) fun _ => Good.pure _

theorem Good.parseRequiredSelectionSetWith (hg : Good L m sel) (hp : Progress L sel) (hk : n ≤ m + 1) :
    Good L n (parseRequiredSelectionSetWith sel n) :=
  Good.bind Good.peek fun _ => Good.ite
    (Good.bind Good.peek fun _ => Good.bind Good.peek fun _ => Good.bind (Good.failAt _ _) fun _ => Good.pure _)
    (Good.bind (Good.pSome _ _ hg hp) fun _ => Good.pure _)

theorem Progress.parseRequiredSelectionSetWith (sel : Prog Selection) (k : Nat) :
    Progress L (parseRequiredSelectionSetWith sel k) :=
  Progress.peek_bind fun t => by
    split
    · exact ProgRdy.of_progress (Progress.bind_right _ fun _ => Progress.bind_right _ fun _ =>
        Progress.bind_left _ (Progress.failAt _ _))
    · rename_i h
      exact ProgRdy.bind_left _ (ProgRdy.pSome _ _ _ (by simpa using h))

theorem Good.parseFragmentName : Good L n parseFragmentName :=
  Good.bind Good.peek fun _ => Good.ite (Good.bind Good.unexpectedError fun _ => Good.pure _) Good.parseName

theorem Good.parseFieldWith (hg : Good L n sel) (hp : Progress L sel) :
    Good L (n + 1) (parseFieldWith sel (n + 1)) := by
  refine Good.bind Good.peekPos fun _ => Good.bind Good.parseName fun _ => Good.bind (Good.skip _) fun _ =>
    Good.ite (Good.bind Good.parseName fun _ => ?_) (Good.bind (Good.pure _) fun _ => ?_)
  all_goals
    exact Good.bind (Good.parseArguments _) fun _ => Good.bind (Good.parseDirectives _) fun _ =>
      Good.bind Good.peek fun _ => Good.ite
        (Good.bind (Good.parseOptionalSelectionSetWith hg hp (Nat.le_refl _)) fun _ => Good.pure _)
        (Good.bind (Good.pure _) fun _ => Good.pure _)

theorem Progress.parseFieldWith (sel : Prog Selection) (k : Nat) : Progress L (parseFieldWith sel k) :=
  Progress.bind_right _ fun _ => Progress.bind_left _ Progress.parseName

theorem Good.parseFragmentWith (hg : Good L n sel) (hp : Progress L sel) :
    Good L (n + 1) (parseFragmentWith sel (n + 1)) := by
  refine Good.bind (Good.expect _) fun _ => Good.bind Good.peek fun _ => Good.ite
    (Good.bind Good.peekPos fun _ => Good.bind Good.parseFragmentName fun _ =>
      Good.bind (Good.parseDirectives _) fun _ => Good.pure _)
    (Good.bind Good.peekPos fun _ => Good.bind Good.peek fun _ => Good.ite
      (Good.bind Good.next fun _ => Good.bind Good.parseName fun _ => ?_) (Good.bind (Good.pure _) fun _ => ?_))
  all_goals
    exact Good.bind (Good.parseDirectives _) fun _ =>
      Good.bind (Good.parseRequiredSelectionSetWith hg hp (Nat.le_refl _)) fun _ => Good.pure _

theorem Progress.parseFragmentWith (sel : Prog Selection) (k : Nat) : Progress L (parseFragmentWith sel k) :=
  Progress.bind_left _ (Progress.expect _ (by decide))

end

theorem Progress.parseSelection : ∀ n, Progress L (parseSelection n)
  | 0 => Progress.outOfFuel _
  | _ + 1 => Progress.bind_right _ fun _ => Progress.ite (Progress.parseFragmentWith _ _) (Progress.parseFieldWith _ _)

theorem Good.parseSelection : ∀ n, Good L n (parseSelection n)
  | 0 => Good.zero _
  | n + 1 => Good.bind Good.peek fun _ => Good.ite
      (Good.parseFragmentWith (Good.parseSelection n) (Progress.parseSelection n))
      (Good.parseFieldWith (Good.parseSelection n) (Progress.parseSelection n))

theorem Good.parseRequiredSelectionSet : Good L n (parseRequiredSelectionSet n) :=
  Good.parseRequiredSelectionSetWith (Good.parseSelection n) (Progress.parseSelection n) (Nat.le_succ n)

theorem Progress.parseRequiredSelectionSet (n : Nat) : Progress L (parseRequiredSelectionSet n) :=
  Progress.parseRequiredSelectionSetWith _ _


theorem Good.parseOperationType {L n : Nat} : Good L n parseOperationType :=
  Good.bind Good.next fun _ => Good.ite (Good.pure _) (Good.ite (Good.pure _) (Good.ite (Good.pure _)
    (Good.bind (Good.unexpectedToken _) fun _ => Good.pure _)))

theorem Progress.parseOperationType : Progress L parseOperationType := by
  intro s hd
  unfold Gql.Parser.parseOperationType
  rw [bind_eq, run_bind, show run L next s = s.next L from rfl]
  have hn := (next_spec L s).2.2.1 hd
  split
  · rename_i h; exact hn (kind_real h.1 (by decide))
  · split
    · rename_i h; exact hn (kind_real h.1 (by decide))
    · split
      · rename_i h; exact hn (kind_real h.1 (by decide))
      · cases hd1 : dead (s.next L).2
        · exact Nat.lt_of_lt_of_le (Progress.bind_left _ (Progress.failAt _ _) _ hd1) (next_spec L s).1
        · exact lt_of_dead_run hd hd1 _

theorem Good.parseOperationDefinition : Good L n (parseOperationDefinition n) := by
  refine Good.bind Good.peek fun _ => Good.ite
    (Good.bind Good.peekPos fun _ => Good.bind Good.parseRequiredSelectionSet fun _ => Good.pure _)
    (Good.bind Good.peekPos fun _ => Good.bind Good.parseOperationType fun _ => Good.bind Good.peek fun _ => Good.ite
      (Good.bind Good.next fun _ => Good.bind (Good.pure _) fun _ => ?_) (Good.bind (Good.pure _) fun _ => ?_))
  all_goals
    exact Good.bind Good.parseVariableDefinitions fun _ => Good.bind (Good.parseDirectives _) fun _ =>
      Good.bind Good.parseRequiredSelectionSet fun _ => Good.pure _

theorem Progress.parseOperationDefinition (n : Nat) : Progress L (parseOperationDefinition n) :=
  Progress.bind_right _ fun _ => Progress.ite
    (Progress.bind_right _ fun _ => Progress.bind_left _ (Progress.parseRequiredSelectionSet n))
    (Progress.bind_right _ fun _ => Progress.bind_left _ Progress.parseOperationType)

theorem Good.parseFragmentDefinition {L n : Nat} : Good L n (parseFragmentDefinition n) :=
  Good.bind Good.peekPos fun _ => Good.bind (Good.expectKeyword _) fun _ => Good.bind Good.parseFragmentName fun _ =>
    Good.bind Good.parseVariableDefinitions fun _ => Good.bind (Good.expectKeyword _) fun _ =>
    Good.bind Good.parseName fun _ => Good.bind (Good.parseDirectives _) fun _ =>
    Good.bind Good.parseRequiredSelectionSet fun _ => Good.pure _

theorem Progress.parseFragmentDefinition {L : Nat} (n : Nat) : Progress L (parseFragmentDefinition n) :=
  Progress.bind_right _ fun _ => Progress.bind_left _ (Progress.expectKeyword _)


theorem Good.queryDocLoop {m : Nat} : ∀ (k j : Nat) (doc : QueryDoc), j ≤ k → j ≤ m → Good L j (queryDocLoop m k doc)
  | _, 0, _, _, _ => Good.zero _
  | k + 1, j + 1, doc, hk, hm => by
    have ih (doc) : Good L j (Gql.Parser.queryDocLoop m k doc) := Good.queryDocLoop k j doc (by omega) (by omega)
    unfold Gql.Parser.queryDocLoop
    refine Good.bind Good.peek fun _ => Good.ite (Good.hasErr_bind fun e he => Good.dite (fun _ => Good.pure _) fun hc =>
      Good.bind Good.peekPos fun _ => Good.bind Good.peek fun _ => ?_) (Good.pure _)
    have hj : 0 < j := by have := he (by simpa using hc); omega
    have hop (doc' : OperationDef → QueryDoc) :=
      Good.bind_lower (f := fun od => Gql.Parser.queryDocLoop m k (doc' od)) (Progress.parseOperationDefinition m)
        (Good.parseOperationDefinition.mono hm) (fun _ => ih _) hj
    have hbad := Good.bind_lower (f := fun _ => Gql.Parser.queryDocLoop m k doc) Progress.unexpectedError Good.unexpectedError
      (fun _ => ih _) hj
    split
    · exact Good.bind Good.peek fun _ => Good.ite (hop _) (Good.ite
        (Good.bind_lower (Progress.parseFragmentDefinition m) (Good.parseFragmentDefinition.mono hm) (fun _ => ih _) hj)
        hbad)
    · exact hop _
    · exact hbad

theorem Good.parseQueryDocument {L n : Nat} : Good L n (parseQueryDocument n) :=
  Good.queryDocLoop n n _ (Nat.le_refl _) (Nat.le_refl _)

theorem runQuery_oof (L : Nat) (inp : Bytes) : (runQuery L inp).2.oof = false :=
  Good.parseQueryDocument.run_init 0

end Gql.Parser
