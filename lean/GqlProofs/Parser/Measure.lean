import GqlProofs.Lexer.Progress
import GqlProofs.Parser.Run
/-
  The progress measure of the parser: `mu s` = unconsumed input (bytes the lexer has not read, plus
  one for a real look-ahead token, plus one), and 0 once the sticky error (or the out-of-fuel flag)
  is set.  No primitive increases it; consuming a non-EOF token decreases it.

  First the same argument one level down, for the pull loop `lexFuel` of `lexAll`: every non-EOF token
  consumes input (`readToken_progress`), so fuel above the remaining length is never exhausted and the
  token count is linear.
-/
namespace Gql.Lexer

theorem lexFuel_never_outOfFuel (fuel : Nat) (rest : Bytes) (c : Cur) (acc : List Token)
    (h : rest.length < fuel) : ∀ ts, lexFuel fuel rest c acc ≠ .outOfFuel ts := by
  induction fuel generalizing rest c acc with
  | zero => omega
  | succ n ih =>
    have hp := readToken_progress rest c
    unfold lexFuel
    split
    · simp
    · rename_i t rest' c' heq
      rw [heq] at hp
      split
      · simp
      · exact ih rest' c' _ (by have := hp.2 ‹_›; omega)

theorem lexFuel_len (fuel : Nat) (rest : Bytes) (c : Cur) (acc : List Token) :
    (lexFuel fuel rest c acc).tokens.length ≤ acc.length + rest.length + 1 := by
  induction fuel generalizing rest c acc with
  | zero => simp [lexFuel, LexOut.tokens]; omega
  | succ n ih =>
    have hp := readToken_progress rest c
    unfold lexFuel
    split
    · simp [LexOut.tokens]; omega
    · rename_i t rest' c' heq
      rw [heq] at hp
      split
      · simp [LexOut.tokens]
      · have := ih rest' c' (t :: acc)
        have := hp.2 ‹_›
        simp only [List.length_cons] at *
        omega

end Gql.Lexer

namespace Gql.Parser
open Gql Gql.Lexer

def real (t : Token) : Bool := t.kind != .eof
def bonus (s : PState) : Nat := if s.peeked && s.peekErr.isNone && real s.peekTok then 1 else 0
def dead (s : PState) : Bool := s.err.isSome || s.oof
def mu (s : PState) : Nat := if dead s then 0 else s.rest.length + bonus s + 1

variable {s : PState}

theorem mu_dead (h : dead s = true) : mu s = 0 := by simp [mu, h]
theorem mu_pos (h : dead s = false) : mu s = s.rest.length + bonus s + 1 := by simp [mu, h]
theorem dead_of_mu (h : mu s = 0) : dead s = true := by
  cases hd : dead s
  · rw [mu_pos hd] at h; omega
  · rfl
theorem bonus_le (s : PState) : bonus s ≤ 1 := by unfold bonus; split <;> omega
theorem dead_of_oof (h : s.oof = true) : dead s = true := by simp [dead, h]
theorem dead_of_err (h : s.err.isSome = true) : dead s = true := by simp [dead, h]

theorem mu_le_of_dead {s s' : PState} (h : dead s' = true) : mu s' ≤ mu s := mu_dead h ▸ Nat.zero_le _

theorem mu_lt_of_dead {s s' : PState} (h' : dead s' = true) (h : dead s = false) : mu s' < mu s := by
  rw [mu_dead h', mu_pos h]; omega

theorem mu_le (s : PState) : mu s ≤ s.rest.length + bonus s + 1 := by
  unfold mu; split <;> omega

theorem mu_le_of {s s' : PState} (hd : dead s = true → dead s' = true)
    (h : s'.rest.length + bonus s' ≤ s.rest.length + bonus s) : mu s' ≤ mu s := by
  cases hs : dead s
  · have := mu_le s'
    rw [mu_pos hs]
    omega
  · exact mu_le_of_dead (hd hs)

theorem lexRead_progress (s : PState) :
    s.lexRead.2.2.rest.length + (if s.lexRead.2.1.isNone && real s.lexRead.1 then 1 else 0) ≤ s.rest.length := by
  have hp := readToken_progress s.rest s.cur
  unfold PState.lexRead
  split
  · rename_i t rest c heq
    rw [heq] at hp
    simp only [Option.isNone_none, Bool.true_and, real, bne_iff_ne]
    split
    · exact hp.2 ‹_›
    · exact hp.1
  · exact Nat.le_refl _


theorem readPeek_oof (s : PState) : s.readPeek.oof = s.oof :=
  (congrArg PState.oof (lexRead_state s) :)
theorem readPrev_oof (s : PState) : s.readPrev.oof = s.oof :=
  (congrArg PState.oof (lexRead_state s) :)

theorem mu_readPeek (s : PState) : mu s.readPeek ≤ mu s :=
  mu_le_of (by simp only [dead, readPeek_err, readPeek_oof]; exact id)
    (Nat.le_trans (lexRead_progress s) (Nat.le_add_right _ _))

/-- `s'` is `s` after consuming the token `t`, read with the lexer error `e`: the measure does
    not grow, and it drops if `t` is not EOF -/
theorem mu_consume {s s' : PState} {t : Token} {e : Option LexErr} (he : s.err.isSome = false)
    (ho : s'.oof = s.oof) (he' : s'.err = e.map .lex)
    (hw : s'.rest.length + (if e.isNone && real t then 1 else 0) + bonus s' ≤ s.rest.length + bonus s) :
    mu s' ≤ mu s ∧ (dead s = false → real t = true → mu s' < mu s) := by
  cases e with
  | some x =>
    have hd : dead s' = true := dead_of_err (by simp [he'])
    exact ⟨mu_le_of_dead hd, fun hl _ => mu_lt_of_dead hd hl⟩
  | none =>
    have hd : dead s' = dead s := by simp [dead, he, he', ho]
    refine ⟨mu_le_of (fun h => hd ▸ h) (by omega), fun hl hr => ?_⟩
    rw [mu_pos hl, mu_pos (hd ▸ hl)]
    simp only [Option.isNone_none, Bool.true_and, hr, ↓reduceIte] at hw
    omega

theorem mu_takePeeked (he : s.err.isSome = false) (hp : s.peeked = true) :
    mu s.takePeeked ≤ mu s ∧ (dead s = false → real s.peekTok = true → mu s.takePeeked < mu s) :=
  mu_consume he rfl rfl (by simp [bonus, hp, PState.takePeeked])

theorem mu_readPrev (he : s.err.isSome = false) :
    mu s.readPrev ≤ mu s ∧ (dead s = false → real s.readPrev.prev = true → mu s.readPrev < mu s) := by
  have hb : bonus s.readPrev = bonus s := (congrArg bonus (lexRead_state s) :)
  exact mu_consume he (readPrev_oof s) rfl (hb ▸ Nat.add_le_add_right (lexRead_progress s) _)


def Ready (t : Token) (s : PState) : Prop := s.peeked = true ∧ s.peekTok = t ∧ s.err.isSome = false

theorem peekNC_spec (s : PState) :
    mu s.peekNC.2 ≤ mu s ∧ s.peekNC.2.oof = s.oof ∧ s.peekNC.2.err = s.err ∧
      (s.err.isSome = false → Ready s.peekNC.1 s.peekNC.2) := by
  unfold PState.peekNC
  cases he : s.err.isSome
  · cases hp : s.peeked
    · exact ⟨mu_readPeek s, readPeek_oof s, readPeek_err s, fun _ => ⟨rfl, rfl, (readPeek_err s).symm ▸ he⟩⟩
    · exact ⟨Nat.le_refl _, rfl, rfl, fun _ => ⟨hp, rfl, he⟩⟩
  · exact ⟨Nat.le_refl _, rfl, rfl, fun h => nomatch h⟩

theorem nextNC_spec (L : Nat) (s : PState) :
    mu (s.nextNC L).2 ≤ mu s ∧ (s.nextNC L).2.oof = s.oof ∧
      (∀ t, Ready t s → dead s = false → real t = true → mu (s.nextNC L).2 < mu s) := by
  unfold PState.nextNC
  cases he : s.err.isSome
  · cases hL : overLimit L (s.tokenCount + 1)
    · cases hp : s.peeked
      · exact ⟨(mu_readPrev he).1, readPrev_oof s, fun t hr => nomatch hr.1.symm.trans hp⟩
      · exact ⟨(mu_takePeeked he hp).1, rfl, fun t hr hd hreal => (mu_takePeeked he hp).2 hd (hr.2.1 ▸ hreal)⟩
    · exact ⟨mu_le_of_dead rfl, rfl, fun t _ hd _ => mu_lt_of_dead rfl hd⟩
  · exact ⟨Nat.le_refl _, rfl, fun t hr => nomatch hr.2.2.symm.trans he⟩

theorem dead_or_ready (hp : s.peeked = true) : dead s = true ∨ Ready s.peekTok s := by
  cases he : s.err.isSome
  · exact .inr ⟨hp, rfl, he⟩
  · exact .inl (dead_of_err he)

theorem commentLoop_spec (L n : Nat) (s : PState) :
    mu (commentLoop L n s) ≤ mu s ∧
    (mu s < n → s.oof = false → (commentLoop L n s).oof = false) ∧
    (dead (commentLoop L n s) = true ∨ Ready (commentLoop L n s).peekTok (commentLoop L n s)) := by
  induction n generalizing s with
  | zero =>
    have hd : dead (commentLoop L 0 s) = true := dead_of_oof rfl
    exact ⟨mu_le_of_dead hd, fun h => absurd h (Nat.not_lt_zero _), .inl hd⟩
  | succ n ih =>
    unfold commentLoop
    cases he : s.err.isSome
    · obtain ⟨p1, p2, _, p4⟩ := peekNC_spec s
      have hrdy := p4 he
      simp only [Bool.false_eq_true, ↓reduceIte]
      split
      · exact ⟨p1, fun _ ho => p2 ▸ ho, dead_or_ready hrdy.1⟩
      · rename_i hc
        obtain ⟨q1, q2, q3⟩ := nextNC_spec L s.peekNC.2
        obtain ⟨i1, i2, i3⟩ := ih (s.peekNC.2.nextNC L).2
        refine ⟨by omega, fun hlt ho => i2 ?_ (by rw [q2, p2]; exact ho), i3⟩
        -- the comment consumed by this iteration pays for it
        have := q3 _ hrdy (by simp [dead, hrdy.2.2, p2, ho]) (by simp at hc; simp [real, hc])
        omega
    · exact ⟨Nat.le_refl _, fun _ => id, .inl (dead_of_err he)⟩

theorem groupIf_spec (L : Nat) (t : Token) (s : PState) :
    mu (s.groupIf L t) ≤ mu s ∧ (s.oof = false → (s.groupIf L t).oof = false) ∧
    (s.peeked = true → dead (s.groupIf L t) = true ∨ Ready (s.groupIf L t).peekTok (s.groupIf L t)) := by
  unfold PState.groupIf PState.consumeCommentGroup
  split
  · split
    · exact ⟨Nat.le_refl _, id, dead_or_ready⟩
    · obtain ⟨c1, c2, c3⟩ := commentLoop_spec L (s.rest.length + 3) s
      exact ⟨c1, c2 (by have := mu_le s; have := bonus_le s; omega), fun _ => c3⟩
  · exact ⟨Nat.le_refl _, id, dead_or_ready⟩


theorem peek_spec (L : Nat) (s : PState) :
    mu (s.peek L).2 ≤ mu s ∧ (s.oof = false → (s.peek L).2.oof = false) ∧
      (dead (s.peek L).2 = true ∨ Ready (s.peek L).1 (s.peek L).2) := by
  unfold PState.peek
  cases he : s.err.isSome
  · cases hp : s.peeked
    · obtain ⟨g1, g2, g3⟩ := groupIf_spec L s.readPeek.peekTok s.readPeek
      exact ⟨Nat.le_trans g1 (mu_readPeek s), fun ho => g2 (readPeek_oof s ▸ ho), g3 rfl⟩
    · exact ⟨Nat.le_refl _, id, .inr ⟨hp, rfl, he⟩⟩
  · exact ⟨Nat.le_refl _, id, .inl (dead_of_err he)⟩

theorem peek_ready (L : Nat) {t : Token} (h : Ready t s) : s.peek L = (t, s) := by
  simp [PState.peek, h.1, h.2.1, h.2.2]

/-- where a comment group is read, the token read before it (`s.prev`) is a comment, hence not EOF -/
theorem real_of_groupIf {L : Nat} (h : real (s.groupIf L s.prev).prev = true) : real s.prev = true := by
  unfold PState.groupIf at h
  split at h
  · simp [real, *]
  · exact h

theorem next_spec (L : Nat) (s : PState) :
    mu (s.next L).2 ≤ mu s ∧ (s.oof = false → (s.next L).2.oof = false) ∧
      (dead s = false → real (s.next L).1 = true → mu (s.next L).2 < mu s) ∧
      (∀ t, Ready t s → dead s = false → real t = true → mu (s.next L).2 < mu s) := by
  unfold PState.next
  cases he : s.err.isSome
  · cases hL : overLimit L (s.tokenCount + 1)
    · cases hp : s.peeked
      · obtain ⟨g1, g2, _⟩ := groupIf_spec L s.readPrev.prev s.readPrev
        obtain ⟨r1, r2⟩ := mu_readPrev he
        exact ⟨Nat.le_trans g1 r1, fun ho => g2 (readPrev_oof s ▸ ho),
          fun hd hreal => Nat.lt_of_le_of_lt g1 (r2 hd (real_of_groupIf hreal)), fun t hr => nomatch hr.1.symm.trans hp⟩
      · exact ⟨(mu_takePeeked he hp).1, id, (mu_takePeeked he hp).2,
          fun t hr hd hreal => (mu_takePeeked he hp).2 hd (hr.2.1 ▸ hreal)⟩
    · exact ⟨mu_le_of_dead rfl, id, fun hd _ => mu_lt_of_dead rfl hd, fun t _ hd _ => mu_lt_of_dead rfl hd⟩
  · simp [Ready, dead, he]

theorem error_spec (s : PState) (tok : Token) (msg : Bytes) :
    mu (s.error tok msg) ≤ mu s ∧ (s.error tok msg).oof = s.oof ∧ (s.error tok msg).err.isSome = true := by
  unfold PState.error
  cases he : s.err.isSome
  case true => simp [he]
  case false =>
    simp only [Bool.false_eq_true, ↓reduceIte]
    split <;> simp [mu, dead]


theorem run_mu_le {α : Type} (L : Nat) (p : Prog α) (s : PState) : mu (run L p s).2 ≤ mu s :=
  run_inv (I := fun s' => mu s' ≤ mu s) (fun s' h => Nat.le_trans (peek_spec L s').1 h)
    (fun s' h => Nat.le_trans (next_spec L s').1 h) (fun s' tok msg h => Nat.le_trans (error_spec s' tok msg).1 h)
    (fun _ _ => mu_le_of_dead (dead_of_oof rfl)) p (Nat.le_refl _)

end Gql.Parser
