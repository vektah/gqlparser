import GqlProofs.Parser.CompleteTop
import GqlProofs.Parser.FwdSchema
/-
  Completeness of the schema parser, driven by derivations (the type-system counterpart of
  `CompleteQuery.lean`): if a stream starts with a token list that the grammar derives from a
  nonterminal of the type-system grammar (with canonical output `o`), the run of the corresponding
  parser program ends live, consumes exactly those tokens, and the unparse of its result is `o`.
-/
namespace Gql.Parser
open Gql Gql.Lexer Gql.Grammar Gql.Print

local notation "D" => Derives gql

variable {Fol : Tok → Prop} {b : Bool}


theorem inv_optDescription {ts o : List Tok} (h : D (.opt (.nt .description)) ts o) :
    (ts = [] ∧ o = []) ∨ ∃ t, ts = [t] ∧ (t.kind = .string ∨ t.kind = .blockString) ∧ o = printDesc t.value := by
  rcases h.opt_inv with h | h
  · exact .inl h
  · obtain ⟨o', rfl, h'⟩ := h.nt_inv.canon_inv
    obtain ⟨t, rfl, rfl, hp⟩ := h'.tok_inv
    simp only [Bool.or_eq_true, beq_iff_eq] at hp
    exact .inr ⟨t, rfl, hp, by simp [canonDescription, printDesc]⟩

def noDesc (t : Tok) : Prop := t.kind ≠ .string ∧ t.kind ≠ .blockString

theorem parses_description {ts o : List Tok} (hd : D (.opt (.nt .description)) ts o) :
    Reads b parseDescription ts (fun t => ts = [] → noDesc t) (fun d => printDesc d = o) := by
  unfold parseDescription
  rcases inv_optDescription hd with ⟨rfl, rfl⟩ | ⟨t, rfl, hk, rfl⟩
  · exact Reads.peek_nil fun t ht => Reads.ite_pos ⟨(ht rfl).2, (ht rfl).1⟩ (Reads.pure rfl)
  · exact Reads.peek_head rfl fun u hu => Reads.ite_neg (by rw [ofToken_kind hu]; rcases hk with h | h <;> simp [h]) <|
      Reads.next fun x hx => Reads.pure (by rw [ofToken_value hx])

theorem parses_optionalDescription {ts o : List Tok} (hd : D (.opt (.nt .description)) ts o) :
    Reads b parseOptionalDescription ts (fun t => ts = [] → noDesc t) (fun x => printDesc x.1 = o ∧ (x.2 = true → ts ≠ [])) := by
  unfold parseOptionalDescription
  rcases inv_optDescription hd with ⟨rfl, rfl⟩ | ⟨t, rfl, hk, rfl⟩
  · exact Reads.peek_nil fun x hx => Reads.ite_neg (hx rfl).2 <| Reads.peek_nil fun y hy => Reads.ite_neg (hy rfl).1 <|
      Reads.pure ⟨rfl, fun h => nomatch h⟩
  · have hdesc : Reads true (parseDescription >>= fun d => Pure.pure (d, true)) [t] (fun u => [t] = [] → noDesc u)
        (fun x => printDesc x.1 = printDesc t.value ∧ (x.2 = true → [t] ≠ [])) :=
      Reads.bind_pure (parses_description hd) fun _ e => ⟨e, fun _ => by simp⟩
    refine Reads.peek_head rfl fun x hx => ?_
    rcases hk with h | h
    · exact Reads.ite_neg (by simp [ofToken_kind hx, h]) <| Reads.peek_head rfl fun y hy => Reads.ite_pos (by simp [ofToken_kind hy, h]) hdesc
    · exact Reads.ite_pos (by simp [ofToken_kind hx, h]) hdesc


theorem sep_parts {sep : Kind} {P : Name → Prop} : ∀ (parts : List (List Tok × List Tok)),
    (∀ p ∈ parts, ∃ m, p.1 = [tP sep, tName m] ∧ p.2 = [tP sep, tName m] ∧ P m) →
    ∃ rest : List Name, parts.flatMap (·.1) = rest.flatMap (fun m => [tP sep, tName m]) ∧
      parts.flatMap (·.2) = rest.flatMap (fun m => [tP sep, tName m]) ∧ ∀ m ∈ rest, P m
  | [], _ => ⟨[], rfl, rfl, fun _ h => by cases h⟩
  | p :: ps, h => by
    obtain ⟨m, e1, e2, hm⟩ := h p (by simp)
    obtain ⟨rest, r1, r2, r3⟩ := sep_parts ps (fun q hq => h q (by simp [hq]))
    exact ⟨m :: rest, by simp [e1, r1], by simp [e2, r2], List.forall_mem_cons.2 ⟨hm, r3⟩⟩

theorem inv_noiseOpt {sep : Kind} {ts o : List Tok} (h : D (noise (.opt (Grammar.kind sep))) ts o) (hok : TsOK ts)
    (hv : sep.valued = false) : o = [] ∧ (ts = [] ∨ ts = [tP sep]) := by
  obtain ⟨o', rfl, h'⟩ := (show D (.canon (fun _ => []) (.opt (Grammar.kind sep))) ts o from h).canon_inv
  refine ⟨rfl, ?_⟩
  rcases h'.opt_inv with ⟨h, _⟩ | h
  · exact .inl h
  · exact .inr (punct_inv h hok hv).1

/-- `sep? item (sep item)*` where an item is one Name token -/
theorem inv_sepList {sep : Kind} {item : Sym NT} {P : Name → Prop} (hv : sep.valued = false)
    (hitem : ∀ ts o, D item ts o → ∃ m, ts = [tName m] ∧ o = [tName m] ∧ P m) {ts o : List Tok}
    (h : D (.seq (noise (.opt (Grammar.kind sep))) (.seq item (.star (.seq (Grammar.kind sep) item)))) ts o) (hok : TsOK ts) :
    ∃ lead first rest, (lead = [] ∨ lead = [tP sep]) ∧
      ts = lead ++ tName first :: rest.flatMap (fun m => [tP sep, tName m]) ∧ o = printSep sep (first :: rest) ∧
      ∀ m ∈ first :: rest, P m := by
  obtain ⟨t1, t2, o1, o2, rfl, rfl, d1, d2, hok1, hok2⟩ := seq_inv_ok h hok
  obtain ⟨t3, t4, o3, o4, rfl, rfl, d3, d4, _, hok4⟩ := seq_inv_ok d2 hok2
  obtain ⟨rfl, hlead⟩ := inv_noiseOpt d1 hok1 hv
  obtain ⟨first, rfl, rfl, hfirst⟩ := hitem _ _ d3
  obtain ⟨parts, rfl, rfl, hp⟩ := d4.star_parts
  obtain ⟨rest, r1, r2, r3⟩ := sep_parts (sep := sep) (P := P) parts (fun p hpm => by
    obtain ⟨t', o', h1, h2, e2, _⟩ := kindCons_inv (hp p hpm) (hok4.of_flatMap p hpm) hv
    obtain ⟨m, rfl, rfl, hm⟩ := hitem _ _ e2
    exact ⟨m, h1, h2, hm⟩)
  exact ⟨t1, first, rest, hlead, by rw [r1]; simp, by rw [r2, printSep_cons]; simp, List.forall_mem_cons.2 ⟨hfirst, r3⟩⟩

theorem parses_sepList (sep : Kind) {item : Prog Name} {lead : List Tok} (hlead : lead = [] ∨ lead = [tP sep]) (first : Name)
    (rest : List Name) (hitem : ∀ m ∈ first :: rest, Reads false item [tName m] Any (· = m)) (hsepname : sep ≠ .name) (n : Nat) :
    Reads b (do let _ ← skip sep; let f ← item; let more ← sepLoop sep item n [f]; pure more.reverse)
      (lead ++ tName first :: rest.flatMap (fun m => [tP sep, tName m])) (fun t => t.kind ≠ sep) (· = first :: rest) := by
  have tail : Reads false (do let f ← item; let more ← sepLoop sep item n [f]; pure more.reverse)
      (tName first :: rest.flatMap (fun m => [tP sep, tName m])) (fun t => t.kind ≠ sep) (· = first :: rest) :=
    Reads.seq_eq (A := [tName first]) (hitem first (by simp)) <| Reads.bind_pure
      (fun a σ' _ hs hf => fwd_sepLoop sep rest (fun m hm a σ1 h => hitem m (by simp [hm]) a σ1 nofun h trivial) n [first] a σ' hs hf)
      fun _ e => by simp [e]
  rcases hlead with rfl | rfl
  · exact Reads.skip_no (.head rfl hsepname.symm) (Reads.weaken tail)
  · exact Reads.skip_yes rfl tail


theorem inv_implements {ts o : List Tok} (h : D (.nt .implementsInterfaces) ts o) (hok : TsOK ts) :
    ∃ lead first rest, (lead = [] ∨ lead = [tP .amp]) ∧
      ts = tKw "implements" :: (lead ++ tName first :: rest.flatMap (fun m => [tP .amp, tName m])) ∧
      o = printImplements (first :: rest) := by
  obtain ⟨t1, t2, o1, o2, rfl, rfl, d1, d2⟩ := h.nt_inv.seq_inv'
  obtain ⟨rfl, rfl⟩ := kw_inv d1
  obtain ⟨lead, first, rest, hl, rfl, rfl, _⟩ := inv_sepList (P := fun _ => True) (sep := .amp) rfl
    (fun ts o h => by obtain ⟨m, e1, e2⟩ := inv_namedType h; exact ⟨m, e1, e2, trivial⟩) d2 hok.right
  exact ⟨lead, first, rest, hl, rfl, by simp [printImplements]⟩

theorem inv_optImplements {ts o : List Tok} (h : D (.opt (.nt .implementsInterfaces)) ts o) (hok : TsOK ts) :
    (ts = [] ∧ o = []) ∨ ∃ lead first rest, (lead = [] ∨ lead = [tP .amp]) ∧
      ts = tKw "implements" :: (lead ++ tName first :: rest.flatMap (fun m => [tP .amp, tName m])) ∧
      o = printImplements (first :: rest) :=
  h.opt_inv.imp id fun h => inv_implements h hok

def noImplements (t : Tok) : Prop := ¬ (t.kind = .name ∧ t.value = kwImplements)

theorem parses_implements (n : Nat) {ts o : List Tok} (hok : TsOK ts) (hd : D (.opt (.nt .implementsInterfaces)) ts o) :
    Reads b (parseImplementsInterfaces n) ts (fun t => t.kind ≠ .amp ∧ (ts = [] → noImplements t))
      (fun xs => printImplements xs = o) := by
  unfold parseImplementsInterfaces
  rcases inv_optImplements hd hok with ⟨rfl, rfl⟩ | ⟨lead, first, rest, hl, rfl, rfl⟩
  · exact Reads.peek_nil fun t ht => Reads.ite_neg (ht.2 rfl) (Reads.pure rfl)
  · exact Reads.peek_head rfl fun t ht => Reads.ite_pos ⟨ofToken_kind ht, ofToken_value ht⟩ <| Reads.next fun _ _ =>
      ((parses_sepList .amp hl first rest (fun m _ => (reads_parseName (n := m))) (by decide) n).mono fun _ e => by rw [e]).follow fun _ h => h.1

theorem inv_members {ts o : List Tok} (h : D (.nt .unionMemberTypes) ts o) (hok : TsOK ts) :
    ∃ lead first rest, (lead = [] ∨ lead = [tP .pipe]) ∧
      ts = tP .equals :: (lead ++ tName first :: rest.flatMap (fun m => [tP .pipe, tName m])) ∧
      o = printMembers (first :: rest) := by
  obtain ⟨t2, o2, rfl, rfl, d2, hok2⟩ := kindCons_inv h.nt_inv hok
  obtain ⟨lead, first, rest, hl, rfl, rfl, _⟩ := inv_sepList (P := fun _ => True) (sep := .pipe) rfl
    (fun ts o h => by obtain ⟨m, e1, e2⟩ := inv_namedType h; exact ⟨m, e1, e2, trivial⟩) d2 hok2
  exact ⟨lead, first, rest, hl, rfl, by simp [printMembers]⟩

theorem inv_optMembers {ts o : List Tok} (h : D (.opt (.nt .unionMemberTypes)) ts o) (hok : TsOK ts) :
    (ts = [] ∧ o = []) ∨ ∃ lead first rest, (lead = [] ∨ lead = [tP .pipe]) ∧
      ts = tP .equals :: (lead ++ tName first :: rest.flatMap (fun m => [tP .pipe, tName m])) ∧
      o = printMembers (first :: rest) :=
  h.opt_inv.imp id fun h => inv_members h hok

theorem parses_unionMembers (n : Nat) {ts o : List Tok} (hok : TsOK ts) (hd : D (.opt (.nt .unionMemberTypes)) ts o) :
    Reads b (parseUnionMemberTypes n) ts (fun t => t.kind ≠ .pipe ∧ (ts = [] → t.kind ≠ .equals)) (fun xs => printMembers xs = o) := by
  unfold parseUnionMemberTypes
  rcases inv_optMembers hd hok with ⟨rfl, rfl⟩ | ⟨lead, first, rest, hl, rfl, rfl⟩
  · exact Reads.skip_no (.nil fun _ h => h.2 rfl) <| Reads.ite_neg (by simp) (Reads.pure rfl)
  · exact Reads.skip_yes rfl <| Reads.ite_pos rfl <|
      ((parses_sepList .pipe hl first rest (fun m _ => (reads_parseName (n := m))) (by decide) n).mono fun _ e => by rw [e]).follow fun _ h => h.1

theorem inv_directiveLocation {ts o : List Tok} (h : D (.nt .directiveLocation) ts o) :
    ∃ m, ts = [tName m] ∧ o = [tName m] ∧ m ∈ Gql.Grammar.directiveLocationNames := by
  obtain ⟨t, rfl, rfl, hp⟩ := h.nt_inv.tok_inv
  simp only [Bool.and_eq_true, beq_iff_eq] at hp
  refine ⟨t.value, ?_, ?_, List.contains_iff_mem.1 hp.2⟩ <;> (cases t; simp_all [tName])

theorem parses_directiveLocations (n : Nat) {ts o : List Tok} (hok : TsOK ts) (hd : D (.nt .directiveLocations) ts o) :
    Reads b (parseDirectiveLocations n) ts (fun t => t.kind ≠ .pipe) (fun xs => printSep .pipe xs = o) := by
  obtain ⟨lead, first, rest, hl, rfl, rfl, hm⟩ := inv_sepList (P := fun m => m ∈ Gql.Grammar.directiveLocationNames)
    (sep := .pipe) rfl (fun ts o h => inv_directiveLocation h) hd.nt_inv hok
  unfold parseDirectiveLocations
  exact (parses_sepList .pipe hl first rest (fun m hmm a σ1 _ hs _ => fwd_directiveLocation m (hm m hmm) a σ1 hs)
    (by decide) n).mono fun _ e => by rw [e]


/-- a described item `Description? Name …` starts with a description or a Name: that neither closes a bracket nor
    continues an item -/
theorem first_described {tD oD : List Tok} (hD : D (.opt (.nt .description)) tD oD) (nm : Name) (r : List Tok) {stop : Kind}
    (hstop : stop = .parenR ∨ stop = .braceR) : ∃ t rest, tD ++ tName nm :: r = t :: rest ∧ t.kind ≠ stop ∧ folVar t := by
  rcases inv_optDescription hD with ⟨rfl, _⟩ | ⟨t, rfl, hk, _⟩
  · exact ⟨_, _, rfl, by rcases hstop with rfl | rfl <;> nofun, .of_kind (k := .name) rfl⟩
  · exact ⟨t, _, rfl, by rcases hk with h | h <;> rcases hstop with rfl | rfl <;> simp [h], by rcases hk with h | h <;> exact .of_kind h⟩


theorem inv_inputValue {ts o : List Tok} (h : D (.nt .inputValueDefinition) ts o) (hok : TsOK ts) :
    ∃ tD oD nm tt ot tdv odv tds ods, ts = tD ++ tName nm :: tP .colon :: (tt ++ (tdv ++ tds)) ∧
      o = oD ++ tName nm :: tP .colon :: (ot ++ (odv ++ ods)) ∧ D (.opt (.nt .description)) tD oD ∧ D (.nt .typ) tt ot ∧
      D (.opt (.nt .defaultValue)) tdv odv ∧ D (.opt (.nt (.directives true))) tds ods ∧ TsOK tt ∧ TsOK tdv ∧ TsOK tds := by
  obtain ⟨tD, t2, oD, o2, rfl, rfl, dD, d2, _, hok2⟩ := seq_inv_ok h.nt_inv hok
  obtain ⟨nm, t4, o4, rfl, rfl, d4, hok4⟩ := nameCons_inv d2 hok2
  obtain ⟨t6, o6, rfl, rfl, d6, hok6⟩ := kindCons_inv d4 hok4
  obtain ⟨tt, t8, ot, o8, rfl, rfl, dt, d8, hokt, hok8⟩ := seq_inv_ok d6 hok6
  obtain ⟨tdv, tds, odv, ods, rfl, rfl, ddv, dds, hokdv, hokds⟩ := seq_inv_ok d8 hok8
  exact ⟨tD, oD, nm, tt, ot, tdv, odv, tds, ods, by simp, by simp, dD, dt, ddv, dds, hokt, hokdv, hokds⟩

/-- `Description? Name : Type DefaultValue? Directives?`, whatever record `mk` builds from the parts -/
theorem parses_inputValue {β : Type} (n : Nat) (mk : Pos → Bytes → Name → GType → Option Value → List Directive → β)
    (pr : β → List Tok) (hpr : ∀ pos desc nm ty dv dirs, pr (mk pos desc nm ty dv dirs) =
      printDesc desc ++ tName nm :: tP .colon :: (printType ty ++ (printDefault dv ++ printDirectives dirs)))
    (ts o : List Tok) (hok : TsOK ts) (hd : D (.nt .inputValueDefinition) ts o) :
    Reads b (do
      let pos ← peekPos
      let desc ← parseDescription
      let _ ← peek
      let name ← parseName
      let _ ← expect .colon
      let ty ← parseTypeReference n
      let dv ← do
        if ← skip .equals then
          let v ← parseValueLiteral n true
          pure (Option.some v)
        else pure none
      let dirs ← parseDirectives n true
      pure (mk pos desc name ty dv dirs)) ts folVar (fun y => pr y = o) := by
  obtain ⟨tD, oD, nm, tt, ot, tdv, odv, tds, ods, rfl, rfl, dD, dt, ddv, dds, hokt, hokdv, hokds⟩ := inv_inputValue hd hok
  exact Reads.peekPos fun pos => Reads.seq (parses_description dD) (.head rfl fun _ => ⟨nofun, nofun⟩) fun desc ed =>
    Reads.peek_head rfl fun _ _ => Reads.name <| (parses_typedTail n dt ddv dds hokt hokdv hokds (mk pos desc nm)).mono
      fun _ ⟨_, _, _, e, e1, e2, e3⟩ => by rw [e, hpr, ed, e1, e2, e3]

theorem parses_argDef (n : Nat) (ts o : List Tok) (hok : TsOK ts) (hd : D (.nt .inputValueDefinition) ts o) :
    Reads b (parseArgumentDef n) ts folVar (fun y => printArgDef y = o) := by
  unfold parseArgumentDef
  exact parses_inputValue n (fun pos desc name ty dv dirs => (⟨desc, name, dv, ty, dirs, pos⟩ : ArgDef)) printArgDef
    (by intros; simp [printArgDef]) ts o hok hd

theorem parses_inputField (n : Nat) (ts o : List Tok) (hok : TsOK ts) (hd : D (.nt .inputValueDefinition) ts o) :
    Reads b (parseInputValueDef n) ts folVar (fun y => printInputField y = o) := by
  unfold parseInputValueDef
  exact parses_inputValue n (fun pos desc name ty dv dirs => (⟨desc, name, [], dv, ty, dirs, pos⟩ : FieldDef)) printInputField
    (by intros; simp [printInputField]) ts o hok hd

theorem first_inputValue (ts o : List Tok) (hok : TsOK ts) (hd : D (.nt .inputValueDefinition) ts o) {stop : Kind}
    (hstop : stop = .parenR ∨ stop = .braceR) : ∃ t rest, ts = t :: rest ∧ t.kind ≠ stop ∧ folVar t := by
  obtain ⟨tD, oD, nm, tt, ot, tdv, odv, tds, ods, rfl, _, dD, _⟩ := inv_inputValue hd hok
  exact first_described dD nm _ hstop

theorem parses_argDefs (n : Nat) {ts o : List Tok} (hok : TsOK ts) (hd : D (.opt (.nt .argumentsDefinition)) ts o) :
    Reads b (parseArgumentDefs n) ts (fun t => ts = [] → t.kind ≠ .parenL) (fun ys => printArgDefs ys = o) :=
  parses_optBlock printArgDef folVar .parenL .parenR (parses_argDef n) (fun ts o hok hd => first_inputValue ts o hok hd (.inl rfl))
    (fun _ hu => .of_kind hu) n (hd.opt_inv.imp id fun h => inv_block h.nt_inv hok)

theorem parses_inputFields (n : Nat) {ts o : List Tok} (hok : TsOK ts) (hd : D (.opt (.nt .inputFieldsDefinition)) ts o) :
    Reads b (parseInputFieldsDefinition n) ts (fun t => ts = [] → t.kind ≠ .braceL) (fun ys => printBlock printInputField ys = o) :=
  parses_optBlock printInputField folVar .braceL .braceR (parses_inputField n)
    (fun ts o hok hd => first_inputValue ts o hok hd (.inr rfl)) (fun _ hu => .of_kind hu) n
    (hd.opt_inv.imp id fun h => inv_block h.nt_inv hok)


theorem inv_fieldDef {ts o : List Tok} (h : D (.nt .fieldDefinition) ts o) (hok : TsOK ts) :
    ∃ tD oD nm ta oa tt ot tds ods, ts = tD ++ tName nm :: (ta ++ tP .colon :: (tt ++ tds)) ∧
      o = oD ++ tName nm :: (oa ++ tP .colon :: (ot ++ ods)) ∧ D (.opt (.nt .description)) tD oD ∧
      D (.opt (.nt .argumentsDefinition)) ta oa ∧ D (.nt .typ) tt ot ∧ D (.opt (.nt (.directives true))) tds ods ∧
      TsOK ta ∧ TsOK tt ∧ TsOK tds := by
  obtain ⟨tD, t2, oD, o2, rfl, rfl, dD, d2, _, hok2⟩ := seq_inv_ok h.nt_inv hok
  obtain ⟨nm, t4, o4, rfl, rfl, d4, hok4⟩ := nameCons_inv d2 hok2
  obtain ⟨ta, t6, oa, o6, rfl, rfl, da, d6, hoka, hok6⟩ := seq_inv_ok d4 hok4
  obtain ⟨t8, o8, rfl, rfl, d8, hok8⟩ := kindCons_inv d6 hok6
  obtain ⟨tt, tds, ot, ods, rfl, rfl, dt, dds, hokt, hokds⟩ := seq_inv_ok d8 hok8
  exact ⟨tD, oD, nm, ta, oa, tt, ot, tds, ods, by simp, by simp, dD, da, dt, dds, hoka, hokt, hokds⟩

theorem parses_fieldDef (n : Nat) (ts o : List Tok) (hok : TsOK ts) (hd : D (.nt .fieldDefinition) ts o) :
    Reads b (parseFieldDefinition n) ts folVar (fun y => printFieldDef y = o) := by
  obtain ⟨tD, oD, nm, ta, oa, tt, ot, tds, ods, rfl, rfl, dD, da, dt, dds, hoka, hokt, hokds⟩ := inv_fieldDef hd hok
  unfold parseFieldDefinition
  exact Reads.peekPos fun pos => Reads.seq (parses_description dD) (.head rfl fun _ => ⟨nofun, nofun⟩) fun desc ed =>
    Reads.peek_head rfl fun _ _ => Reads.name <| Reads.seq (parses_argDefs n hoka da) (.head rfl fun _ => by decide) fun as ea =>
    Reads.expect rfl fun _ _ =>
    Reads.seq (parses_type n tt ot hokt dt) (.opt_last (opt_optDirectives dds hokds) (by decide) fun _ h => h.ne) fun ty ety =>
    Reads.bind_pure ((parses_directives true n tds ods hokds dds).follow fun _ h => h.mono) fun ds eds => by
      simp [printFieldDef, ed, ea, ety, eds]

theorem parses_fieldDefs (n : Nat) {ts o : List Tok} (hok : TsOK ts) (hd : D (.opt (.nt .fieldsDefinition)) ts o) :
    Reads b (parseFieldsDefinition n) ts (fun t => ts = [] → t.kind ≠ .braceL) (fun ys => printBlock printFieldDef ys = o) :=
  parses_optBlock printFieldDef folVar .braceL .braceR (parses_fieldDef n)
    (fun ts o hok hd => by
      obtain ⟨tD, oD, nm, ta, oa, tt, ot, tds, ods, rfl, _, dD, _⟩ := inv_fieldDef hd hok
      exact first_described dD nm _ (.inr rfl))
    (fun _ hu => .of_kind hu) n (hd.opt_inv.imp id fun h => inv_block h.nt_inv hok)


theorem inv_enumVal {ts o : List Tok} (h : D (.nt .enumValueDefinition) ts o) (hok : TsOK ts) :
    ∃ tD oD nm tds ods, ts = tD ++ tName nm :: tds ∧ o = oD ++ tName nm :: ods ∧ D (.opt (.nt .description)) tD oD ∧
      D (.opt (.nt (.directives true))) tds ods ∧ notLiteralName nm ∧ TsOK tds := by
  obtain ⟨t1, t2, o1, o2, rfl, rfl, d1, d2, _, hok2⟩ := seq_inv_ok h.nt_inv hok
  obtain ⟨t3, t4, o3, o4, rfl, rfl, d3, d4, _, hok4⟩ := seq_inv_ok d2 hok2
  obtain ⟨t, rfl, rfl, hp⟩ := d3.nt_inv.tok_inv
  simp only [Bool.and_eq_true, beq_iff_eq] at hp
  have : t = tName t.value := by cases t; simp_all [tName]
  rw [this]
  refine ⟨t1, o1, t.value, t4, o4, by simp, by simp, d1, d4, ?_, hok4⟩
  simpa [notLiteralName, not_or] using hp.2

theorem parses_enumVal (n : Nat) (ts o : List Tok) (hok : TsOK ts) (hd : D (.nt .enumValueDefinition) ts o) :
    Reads b (parseEnumValueDefinition n) ts folVar (fun y => printEnumVal y = o ∧ notLiteralName y.name) := by
  obtain ⟨tD, oD, nm, tds, ods, rfl, rfl, dD, dds, hlit, hokds⟩ := inv_enumVal hd hok
  unfold parseEnumValueDefinition
  exact Reads.peekPos fun pos => Reads.seq (parses_description dD) (.head rfl fun _ => ⟨nofun, nofun⟩) fun desc ed =>
    Reads.peek_head rfl fun _ _ => Reads.name <|
    Reads.bind_pure ((parses_directives true n tds ods hokds dds).follow fun _ h => h.mono) fun ds eds =>
      ⟨by simp [printEnumVal, ed, eds], hlit⟩

theorem parses_enumVals (n : Nat) {ts o : List Tok} (hok : TsOK ts) (hd : D (.opt (.nt .enumValuesDefinition)) ts o) :
    Reads b (parseEnumValuesDefinition n) ts (fun t => ts = [] → t.kind ≠ .braceL)
      (fun ys => printBlock printEnumVal ys = o ∧ ∀ e ∈ ys, notLiteralName e.name) :=
  parses_optBlockQ printEnumVal (fun e => notLiteralName e.name) folVar .braceL .braceR (parses_enumVal n)
    (fun ts o hok hd => by
      obtain ⟨tD, oD, nm, tds, ods, rfl, _, dD, _⟩ := inv_enumVal hd hok
      exact first_described dD nm _ (.inr rfl))
    (fun _ hu => .of_kind hu) n (hd.opt_inv.imp id fun h => inv_block h.nt_inv hok)


theorem inv_opTypeDef {ts o : List Tok} (h : D (.nt .rootOperationTypeDefinition) ts o) (hok : TsOK ts) :
    ∃ op ty, (op = str "query" ∨ op = str "mutation" ∨ op = str "subscription") ∧ ts = [tName op, tP .colon, tName ty] ∧
      o = [tName op, tP .colon, tName ty] := by
  obtain ⟨t1, t2, o1, o2, rfl, rfl, d1, d2, _, hok2⟩ := seq_inv_ok h.nt_inv hok
  obtain ⟨t4, o4, rfl, rfl, d4, _⟩ := kindCons_inv d2 hok2
  obtain ⟨op, hop, rfl, rfl⟩ := inv_operationType d1
  obtain ⟨ty, rfl, rfl⟩ := inv_namedType d4
  exact ⟨op, ty, hop, rfl, rfl⟩

theorem parses_opTypeDef (ts o : List Tok) (hok : TsOK ts) (hd : D (.nt .rootOperationTypeDefinition) ts o) :
    Reads b parseOperationTypeDefinition ts Any (fun y => printOpType y = o) := by
  obtain ⟨op, ty, hop, rfl, rfl⟩ := inv_opTypeDef hd hok
  unfold parseOperationTypeDefinition
  exact Reads.peekPos fun pos => Reads.operationType hop <|
    Reads.expect rfl fun _ _ => Reads.bind_pure (reads_parseName (n := ty)) fun _ e => by rw [e]; rfl

theorem parses_opTypes (n : Nat) {ts o : List Tok}
    (hd : OptBlockShape .braceL .braceR (.nt .rootOperationTypeDefinition) ts o) :
    Reads b (pSome .braceL .braceR n parseOperationTypeDefinition) ts (fun t => ts = [] → t.kind ≠ .braceL)
      (fun ys => printBlock printOpType ys = o) :=
  parses_optBlock printOpType Any .braceL .braceR parses_opTypeDef
    (fun ts o hok hd => by
      obtain ⟨op, ty, _, rfl, _⟩ := inv_opTypeDef hd hok
      exact ⟨_, _, rfl, by simp [tName], trivial⟩)
    (fun _ _ => trivial) n hd


def StartsWith (ks : List Kind) (ts : List Tok) : Prop := ts = [] ∨ ∃ t rest, ts = t :: rest ∧ t.kind ∈ ks

theorem StartsWith.append {ks : List Kind} {a b : List Tok} (ha : StartsWith ks a) (hb : StartsWith ks b) :
    StartsWith ks (a ++ b) := by
  rcases ha with rfl | ⟨t, rest, rfl, hk⟩
  · simpa using hb
  · exact .inr ⟨t, rest ++ b, rfl, hk⟩

theorem StartsWith.mono {ks ks' : List Kind} {ts : List Tok} (h : StartsWith ks ts) (hsub : ∀ k ∈ ks, k ∈ ks') :
    StartsWith ks' ts := by
  rcases h with rfl | ⟨t, rest, rfl, hk⟩
  · exact .inl rfl
  · exact .inr ⟨t, rest, rfl, hsub _ hk⟩

theorem opt_optMembers {ts o : List Tok} (h : D (.opt (.nt .unionMemberTypes)) ts o) (hok : TsOK ts) : Opt (tP .equals) ts :=
  (inv_optMembers h hok).imp And.left fun ⟨_, _, _, _, e, _⟩ => ⟨_, e⟩

theorem out_ne_directives {c : Bool} {ts o : List Tok} (h : D (.nt (.directives c)) ts o) (hok : TsOK ts) : o ≠ [] := by
  obtain ⟨parts, hne, rfl, rfl, hp⟩ := h.nt_inv.plus_parts
  cases parts with
  | nil => exact absurd rfl hne
  | cons p r =>
    obtain ⟨nm, ta, oa, _, e, _⟩ := inv_directive (hp p (by simp)) (hok.of_flatMap p (by simp))
    simp [List.flatMap_cons, e]

theorem out_ne_block {start stop : Kind} {item : Sym NT} {ts o : List Tok}
    (hd : D (.seq (Grammar.kind start) (.seq (.plus item) (Grammar.kind stop))) ts o) (hok : TsOK ts)
    (h1 : start.valued = false) (h2 : stop.valued = false) : o ≠ [] := by
  obtain ⟨parts, _, _, rfl, _⟩ := inv_block hd hok h1 h2
  simp

theorem out_ne_implements {ts o : List Tok} (h : D (.nt .implementsInterfaces) ts o) (hok : TsOK ts) : o ≠ [] := by
  obtain ⟨_, _, _, _, _, rfl⟩ := inv_implements h hok
  simp [printImplements]

theorem out_ne_members {ts o : List Tok} (h : D (.nt .unionMemberTypes) ts o) (hok : TsOK ts) : o ≠ [] := by
  obtain ⟨_, _, _, _, _, rfl⟩ := inv_members h hok
  simp [printMembers]


/-- `Name ImplementsInterfaces? Directives? FieldsDefinition?` -/
def ObjBody (tb ob : List Tok) : Prop :=
  ∃ nm ti oi tds ods tf of, tb = tName nm :: (ti ++ (tds ++ tf)) ∧ ob = tName nm :: (oi ++ (ods ++ of)) ∧
    D (.opt (.nt .implementsInterfaces)) ti oi ∧ D (.opt (.nt (.directives true))) tds ods ∧
    D (.opt (.nt .fieldsDefinition)) tf of

/-- `Name Directives? B?` -/
def DirsBlockBody (B : NT) (tb ob : List Tok) : Prop :=
  ∃ nm tds ods tf of, tb = tName nm :: (tds ++ tf) ∧ ob = tName nm :: (ods ++ of) ∧
    D (.opt (.nt (.directives true))) tds ods ∧ D (.opt (.nt B)) tf of

/-- what follows the keyword of a type definition or extension of kind `k` -/
def BodyD : DefKind → List Tok → List Tok → Prop
  | .scalar, tb, ob => ∃ nm tds ods, tb = tName nm :: tds ∧ ob = tName nm :: ods ∧ D (.opt (.nt (.directives true))) tds ods
  | .object, tb, ob => ObjBody tb ob
  | .interface, tb, ob => ObjBody tb ob
  | .union, tb, ob => DirsBlockBody .unionMemberTypes tb ob
  | .enum, tb, ob => DirsBlockBody .enumValuesDefinition tb ob
  | .inputObject, tb, ob => DirsBlockBody .inputFieldsDefinition tb ob

theorem inv_defHead {w : String} {X : Sym NT} {ts o : List Tok}
    (h : D (.seq (.opt (.nt .description)) (.seq (Grammar.kw (str w)) (.seq (.nt .name) X))) ts o) :
    ∃ tD oD nm tx ox, ts = tD ++ tKw w :: tName nm :: tx ∧ o = oD ++ tKw w :: tName nm :: ox ∧
      D (.opt (.nt .description)) tD oD ∧ D X tx ox := by
  obtain ⟨t1, t2, o1, o2, rfl, rfl, d1, d2⟩ := h.seq_inv'
  obtain ⟨t3, t4, o3, o4, rfl, rfl, d3, d4⟩ := d2.seq_inv'
  obtain ⟨t5, t6, o5, o6, rfl, rfl, d5, d6⟩ := d4.seq_inv'
  obtain ⟨rfl, rfl⟩ := kw_inv d3
  obtain ⟨nm, rfl, rfl⟩ := name_inv d5
  exact ⟨t1, o1, nm, t6, o6, by simp, by simp, d1, d6⟩

theorem inv_extHead {w : String} {X : Sym NT} {ts o : List Tok}
    (h : D (.seq (Grammar.kw (str "extend")) (.seq (Grammar.kw (str w)) (.seq (.nt .name) X))) ts o) :
    ∃ nm tx ox, ts = tKw "extend" :: tKw w :: tName nm :: tx ∧ o = tKw "extend" :: tKw w :: tName nm :: ox ∧ D X tx ox := by
  obtain ⟨t1, t2, o1, o2, rfl, rfl, d1, d2⟩ := h.seq_inv'
  obtain ⟨t3, t4, o3, o4, rfl, rfl, d3, d4⟩ := d2.seq_inv'
  obtain ⟨t5, t6, o5, o6, rfl, rfl, d5, d6⟩ := d4.seq_inv'
  obtain ⟨rfl, rfl⟩ := kw_inv d1
  obtain ⟨rfl, rfl⟩ := kw_inv d3
  obtain ⟨nm, rfl, rfl⟩ := name_inv d5
  exact ⟨nm, t6, o6, rfl, rfl, d6⟩

/-- the shape of a type definition: description, keyword, body -/
def DefShape (k : DefKind) (ts o : List Tok) : Prop :=
  ∃ tD oD tb ob, ts = tD ++ DefKind.keyword k :: tb ∧ o = oD ++ DefKind.keyword k :: ob ∧
    D (.opt (.nt .description)) tD oD ∧ BodyD k tb ob

/-- the shape of a type extension: `extend`, keyword, a body that extends something -/
def ExtShape (k : DefKind) (ts o : List Tok) : Prop :=
  ∃ tb ob, ts = tKw "extend" :: DefKind.keyword k :: tb ∧ o = tKw "extend" :: DefKind.keyword k :: ob ∧
    BodyD k tb ob ∧ ob.tail ≠ []

theorem inv_scalarDef {ts o : List Tok} (h : D (.nt .scalarTypeDefinition) ts o) : DefShape .scalar ts o := by
  obtain ⟨tD, oD, nm, tx, ox, rfl, rfl, dD, dx⟩ := inv_defHead h.nt_inv
  exact ⟨tD, oD, _, _, rfl, rfl, dD, nm, tx, ox, rfl, rfl, dx⟩

theorem inv_objectLikeDef {w : String} {ts o : List Tok}
    (h : D (.alt
      (.seq (.opt (.nt .description)) (.seq (Grammar.kw (str w)) (.seq (.nt .name) (.seq (.opt (.nt .implementsInterfaces))
        (.seq (.opt (.nt (.directives true))) (.nt .fieldsDefinition))))))
      (.seq (.opt (.nt .description)) (.seq (Grammar.kw (str w)) (.seq (.nt .name) (.seq (.opt (.nt .implementsInterfaces))
        (.opt (.nt (.directives true)))))))) ts o) :
    ∃ tD oD tb ob, ts = tD ++ tKw w :: tb ∧ o = oD ++ tKw w :: ob ∧ D (.opt (.nt .description)) tD oD ∧ ObjBody tb ob := by
  rcases h.alt_inv with h | h
  · obtain ⟨tD, oD, nm, tx, ox, rfl, rfl, dD, dx⟩ := inv_defHead h
    obtain ⟨t1, t2, o1, o2, rfl, rfl, d1, d2⟩ := dx.seq_inv'
    obtain ⟨t3, t4, o3, o4, rfl, rfl, d3, d4⟩ := d2.seq_inv'
    exact ⟨tD, oD, _, _, rfl, rfl, dD, nm, t1, o1, t3, o3, t4, o4, rfl, rfl, d1, d3, .optSome d4⟩
  · obtain ⟨tD, oD, nm, tx, ox, rfl, rfl, dD, dx⟩ := inv_defHead h
    obtain ⟨t1, t2, o1, o2, rfl, rfl, d1, d2⟩ := dx.seq_inv'
    exact ⟨tD, oD, _, _, rfl, rfl, dD, nm, t1, o1, t2, o2, [], [], by simp, by simp, d1, d2, .optNone⟩

theorem inv_dirsBlockDef {w : String} {B : NT} {ts o : List Tok}
    (h : D (.alt
      (.seq (.opt (.nt .description)) (.seq (Grammar.kw (str w)) (.seq (.nt .name) (.seq (.opt (.nt (.directives true))) (.nt B)))))
      (.seq (.opt (.nt .description)) (.seq (Grammar.kw (str w)) (.seq (.nt .name) (.opt (.nt (.directives true))))))) ts o) :
    ∃ tD oD tb ob, ts = tD ++ tKw w :: tb ∧ o = oD ++ tKw w :: ob ∧ D (.opt (.nt .description)) tD oD ∧ DirsBlockBody B tb ob := by
  rcases h.alt_inv with h | h
  · obtain ⟨tD, oD, nm, tx, ox, rfl, rfl, dD, dx⟩ := inv_defHead h
    obtain ⟨t1, t2, o1, o2, rfl, rfl, d1, d2⟩ := dx.seq_inv'
    exact ⟨tD, oD, _, _, rfl, rfl, dD, nm, t1, o1, t2, o2, rfl, rfl, d1, .optSome d2⟩
  · obtain ⟨tD, oD, nm, tx, ox, rfl, rfl, dD, dx⟩ := inv_defHead h
    exact ⟨tD, oD, _, _, rfl, rfl, dD, nm, tx, ox, [], [], by simp, by simp, dx, .optNone⟩

theorem inv_unionDef {ts o : List Tok} (h : D (.nt .unionTypeDefinition) ts o) : DefShape .union ts o := by
  obtain ⟨tD, oD, nm, tx, ox, rfl, rfl, dD, dx⟩ := inv_defHead h.nt_inv
  obtain ⟨t1, t2, o1, o2, rfl, rfl, d1, d2⟩ := dx.seq_inv'
  exact ⟨tD, oD, _, _, rfl, rfl, dD, nm, t1, o1, t2, o2, rfl, rfl, d1, d2⟩

theorem inv_typeDefinition {ts o : List Tok} (h : D (.nt .typeDefinition) ts o) : ∃ k, DefShape k ts o := by
  rcases h.nt_inv.alt_inv with h | h
  · exact ⟨.scalar, inv_scalarDef h⟩
  rcases h.alt_inv with h | h
  · exact ⟨.object, inv_objectLikeDef (w := "type") h.nt_inv⟩
  rcases h.alt_inv with h | h
  · exact ⟨.interface, inv_objectLikeDef (w := "interface") h.nt_inv⟩
  rcases h.alt_inv with h | h
  · exact ⟨.union, inv_unionDef h⟩
  rcases h.alt_inv with h | h
  · exact ⟨.enum, inv_dirsBlockDef (w := "enum") (B := .enumValuesDefinition) h.nt_inv⟩
  · exact ⟨.inputObject, inv_dirsBlockDef (w := "input") (B := .inputFieldsDefinition) h.nt_inv⟩

theorem tail_ne_of_right {a b : List Tok} (t : Tok) (h : b ≠ []) : (t :: (a ++ b)).tail ≠ [] := by simp [h]
theorem tail_ne_of_left {a b : List Tok} (t : Tok) (h : a ≠ []) : (t :: (a ++ b)).tail ≠ [] := by simp [h]

theorem inv_objectLikeExt {w : String} {ts o : List Tok} (hok : TsOK ts)
    (h : D (.alt
      (.seq (Grammar.kw (str "extend")) (.seq (Grammar.kw (str w)) (.seq (.nt .name) (.seq (.opt (.nt .implementsInterfaces))
        (.seq (.opt (.nt (.directives true))) (.nt .fieldsDefinition))))))
      (.alt
      (.seq (Grammar.kw (str "extend")) (.seq (Grammar.kw (str w)) (.seq (.nt .name) (.seq (.opt (.nt .implementsInterfaces))
        (.nt (.directives true))))))
      (.seq (Grammar.kw (str "extend")) (.seq (Grammar.kw (str w)) (.seq (.nt .name) (.nt .implementsInterfaces)))))) ts o) :
    ∃ tb ob, ts = tKw "extend" :: tKw w :: tb ∧ o = tKw "extend" :: tKw w :: ob ∧ ObjBody tb ob ∧ ob.tail ≠ [] := by
  rcases h.alt_inv with h | h
  · obtain ⟨nm, tx, ox, rfl, rfl, dx⟩ := inv_extHead h
    obtain ⟨t1, t2, o1, o2, rfl, rfl, d1, d2⟩ := dx.seq_inv'
    obtain ⟨t3, t4, o3, o4, rfl, rfl, d3, d4⟩ := d2.seq_inv'
    refine ⟨_, _, rfl, rfl, ⟨nm, t1, o1, t3, o3, t4, o4, rfl, rfl, d1, d3, .optSome d4⟩, ?_⟩
    have : o4 ≠ [] := out_ne_block d4.nt_inv hok.tail.tail.tail.right.right rfl rfl
    simp [this]
  rcases h.alt_inv with h | h
  · obtain ⟨nm, tx, ox, rfl, rfl, dx⟩ := inv_extHead h
    obtain ⟨t1, t2, o1, o2, rfl, rfl, d1, d2⟩ := dx.seq_inv'
    refine ⟨_, _, rfl, rfl, ⟨nm, t1, o1, t2, o2, [], [], by simp, by simp, d1, .optSome d2, .optNone⟩, ?_⟩
    have : o2 ≠ [] := out_ne_directives d2 hok.tail.tail.tail.right
    simp [this]
  · obtain ⟨nm, tx, ox, rfl, rfl, dx⟩ := inv_extHead h
    refine ⟨_, _, rfl, rfl, ⟨nm, tx, ox, [], [], [], [], by simp, by simp, .optSome dx, .optNone, .optNone⟩, ?_⟩
    have : ox ≠ [] := out_ne_implements dx hok.tail.tail.tail
    simp [this]

theorem inv_dirsBlockExt {w : String} {B : NT} {ts o : List Tok} (hok : TsOK ts)
    (hB : ∀ ts o, TsOK ts → D (.nt B) ts o → o ≠ [])
    (h : D (.alt
      (.seq (Grammar.kw (str "extend")) (.seq (Grammar.kw (str w)) (.seq (.nt .name) (.seq (.opt (.nt (.directives true))) (.nt B)))))
      (.seq (Grammar.kw (str "extend")) (.seq (Grammar.kw (str w)) (.seq (.nt .name) (.nt (.directives true)))))) ts o) :
    ∃ tb ob, ts = tKw "extend" :: tKw w :: tb ∧ o = tKw "extend" :: tKw w :: ob ∧ DirsBlockBody B tb ob ∧ ob.tail ≠ [] := by
  rcases h.alt_inv with h | h
  · obtain ⟨nm, tx, ox, rfl, rfl, dx⟩ := inv_extHead h
    obtain ⟨t1, t2, o1, o2, rfl, rfl, d1, d2⟩ := dx.seq_inv'
    refine ⟨_, _, rfl, rfl, ⟨nm, t1, o1, t2, o2, rfl, rfl, d1, .optSome d2⟩, ?_⟩
    have : o2 ≠ [] := hB _ _ hok.tail.tail.tail.right d2
    simp [this]
  · obtain ⟨nm, tx, ox, rfl, rfl, dx⟩ := inv_extHead h
    refine ⟨_, _, rfl, rfl, ⟨nm, tx, ox, [], [], by simp, by simp, .optSome dx, .optNone⟩, ?_⟩
    have : ox ≠ [] := out_ne_directives dx hok.tail.tail.tail
    simp [this]

theorem inv_typeExtension {ts o : List Tok} (h : D (.nt .typeExtension) ts o) (hok : TsOK ts) : ∃ k, ExtShape k ts o := by
  rcases h.nt_inv.alt_inv with h | h
  · obtain ⟨nm, tx, ox, rfl, rfl, dx⟩ := inv_extHead h.nt_inv
    refine ⟨.scalar, _, _, rfl, rfl, ⟨nm, tx, ox, rfl, rfl, .optSome dx⟩, ?_⟩
    exact out_ne_directives dx hok.tail.tail.tail
  rcases h.alt_inv with h | h
  · exact ⟨.object, inv_objectLikeExt (w := "type") hok h.nt_inv⟩
  rcases h.alt_inv with h | h
  · exact ⟨.interface, inv_objectLikeExt (w := "interface") hok h.nt_inv⟩
  rcases h.alt_inv with h | h
  · exact ⟨.union, inv_dirsBlockExt (w := "union") (B := .unionMemberTypes) hok (fun ts o hok h => out_ne_members h hok) h.nt_inv⟩
  rcases h.alt_inv with h | h
  · exact ⟨.enum, inv_dirsBlockExt (w := "enum") (B := .enumValuesDefinition) hok
      (fun ts o hok h => out_ne_block h.nt_inv hok rfl rfl) h.nt_inv⟩
  · exact ⟨.inputObject, inv_dirsBlockExt (w := "input") (B := .inputFieldsDefinition) hok
      (fun ts o hok h => out_ne_block h.nt_inv hok rfl rfl) h.nt_inv⟩


/-- `k` is the start offset of one of the tokens between `σ` and `σ'` -/
def KeyIn (σ σ' : Stream) (k : Nat) : Prop := ∃ us : List Token, σ = Stream.app us σ' ∧ ∃ u ∈ us, u.start = k

theorem KeyIn.prefix {σ σ1 σ' : Stream} {ts : List Tok} {k : Nat} (h1 : Starts σ ts σ1) (h2 : KeyIn σ1 σ' k) : KeyIn σ σ' k := by
  obtain ⟨uA, rfl, _⟩ := h1
  obtain ⟨uB, rfl, u, hu, hk⟩ := h2
  exact ⟨uA ++ uB, by rw [Stream.app_append], u, by simp [hu], hk⟩

theorem KeyIn.second {σ σ1 σ' : Stream} {t t' : Tok} {r : List Tok} (h1 : Starts σ [t] σ1) (h2 : Starts σ1 (t' :: r) σ') :
    KeyIn σ σ' σ1.head.start := by
  obtain ⟨us, h3, h4⟩ := h2
  cases us with
  | nil => simp at h4
  | cons u us => exact KeyIn.prefix h1 ⟨u :: us, h3, u, by simp, by rw [h3]; rfl⟩

/-- the soundness side knows which token a recorded position belongs to -/
theorem KeyIn.of_ate {a a' : AS} {u : List Token} {k : Nat} (h : Ate a a' u) (hk : ∃ t ∈ u, k = t.start) : KeyIn a.σ a'.σ k :=
  ⟨u, h.σ, hk.imp fun _ ht => ⟨ht.1, ht.2.symm⟩⟩

/-- where the result records a position, soundness says that it is that of one of the tokens consumed -/
theorem Reads.withKey {α : Type} {p : Prog α} {ts : List Tok} {Fol : Tok → Prop} {Q : α → Prop} (hp : Reads false p ts Fol Q)
    {key : α → Nat} (hs : Spec p (Eats fun y u => ∃ t ∈ u, key y = t.start)) (a : AS) (σ' : Stream) (hst : Starts a.σ ts σ')
    (hf : Fol (Tok.ofToken σ'.head)) : Fwd p a (fun y a' => Q y ∧ KeyIn a.σ σ' (key y) ∧ a'.σ = σ') :=
  ((hp a σ' nofun hst hf).and_spec hs).mono fun _ _ ⟨⟨q, hσ⟩, _, hu, hk⟩ => ⟨q, hσ ▸ KeyIn.of_ate hu hk, hσ⟩


/-- the bodies of all type definitions and extensions, once: `fin` is told that the record built from the parts unparses to
    the canonical output of the body -/
theorem parses_typeBody {β : Type} (n : Nat) (k : DefKind) {tb ob : List Tok} (hok : TsOK tb) (hb : BodyD k tb ob)
    {fin : Pos → Name → List Name → List Directive → List FieldDef → List Name → List EnumValDef → Prog β} {Q : β → Prop}
    (hfin : ∀ pos nm ifs dirs fields types evs, (∀ desc, printDefBody (typeDefOf k desc pos nm ifs dirs fields types evs) = ob ∧
      EnumOK (typeDefOf k desc pos nm ifs dirs fields types evs)) → Reads false (fin pos nm ifs dirs fields types evs) [] folItem Q) :
    Reads b (typeBody n k fin) (DefKind.keyword k :: tb) folItem Q := by
  unfold typeBody
  cases k with
  | scalar =>
    obtain ⟨nm, tds, ods, rfl, rfl, dds⟩ := hb
    exact Reads.keyword (s := "scalar") fun _ => Reads.peekPos fun pos => Reads.name <| Reads.pure_bind <|
      Reads.seq_nil ((parses_directives true n tds ods hok.tail dds).follow fun _ h => h.1.mono) fun ds e =>
      Reads.pure_bind <| Reads.pure_bind <| Reads.pure_bind <| hfin pos nm [] ds [] [] [] fun _ => ⟨by rw [← e]; rfl, nofun⟩
  | object | interface =>
    obtain ⟨nm, ti, oi, tds, ods, tf, of, rfl, rfl, di, dds, df⟩ := hb
    have hf := (optBlock_of (B := .fieldsDefinition) rfl df hok.tail.right.right).opt
    exact Reads.keyword fun _ => Reads.peekPos fun pos => Reads.name <| Reads.seq (parses_implements n hok.tail.left di)
        (.opt (opt_optDirectives dds hok.tail.right.left) ⟨by decide, fun _ h => nomatch h.1⟩
          (.opt_last hf ⟨by decide, fun _ h => nomatch h.1⟩ fun _ h => ⟨h.1.ne, fun _ => h.2⟩)) fun ifs ei =>
      Reads.seq (parses_directives true n tds ods hok.tail.right.left dds) (.opt_last hf (by decide) fun _ h => h.1.mono) fun ds eds =>
      Reads.seq_nil ((parses_fieldDefs n hok.tail.right.right df).follow fun _ h _ => h.1.ne) fun fs ef =>
      Reads.pure_bind <| Reads.pure_bind <| hfin pos nm ifs ds fs [] [] fun _ => ⟨by simp [printDefBody, typeDefOf, ei, eds, ef], nofun⟩
  | union =>
    obtain ⟨nm, tds, ods, tf, of, rfl, rfl, dds, df⟩ := hb
    exact Reads.keyword fun _ => Reads.peekPos fun pos => Reads.name <| Reads.pure_bind <|
      Reads.seq (parses_directives true n tds ods hok.tail.left dds)
        (.opt_last (opt_optMembers df hok.tail.right) (by decide) fun _ h => h.1.mono) fun ds eds =>
      Reads.pure_bind <| Reads.seq_nil ((parses_unionMembers n hok.tail.right df).follow fun _ h => ⟨h.1.ne, fun _ => h.1.ne⟩) fun xs ex =>
      Reads.pure_bind <| hfin pos nm [] ds [] xs [] fun _ => ⟨by rw [← eds, ← ex]; rfl, nofun⟩
  | «enum» =>
    obtain ⟨nm, tds, ods, tf, of, rfl, rfl, dds, df⟩ := hb
    exact Reads.keyword fun _ => Reads.peekPos fun pos => Reads.name <| Reads.pure_bind <|
      Reads.seq (parses_directives true n tds ods hok.tail.left dds)
        (.opt_last (optBlock_of (B := .enumValuesDefinition) rfl df hok.tail.right).opt (by decide) fun _ h => h.1.mono) fun ds eds =>
      Reads.pure_bind <| Reads.pure_bind <| Reads.seq_nil ((parses_enumVals n hok.tail.right df).follow fun _ h _ => h.1.ne) fun xs ex =>
      hfin pos nm [] ds [] [] xs fun _ => ⟨by rw [← eds, ← ex.1]; rfl, fun _ => ex.2⟩
  | inputObject =>
    obtain ⟨nm, tds, ods, tf, of, rfl, rfl, dds, df⟩ := hb
    exact Reads.keyword fun _ => Reads.peekPos fun pos => Reads.name <| Reads.pure_bind <|
      Reads.seq (parses_directives true n tds ods hok.tail.left dds)
        (.opt_last (optBlock_of (B := .inputFieldsDefinition) rfl df hok.tail.right).opt (by decide) fun _ h => h.1.mono) fun ds eds =>
      Reads.seq_nil ((parses_inputFields n hok.tail.right df).follow fun _ h _ => h.1.ne) fun xs ex =>
      Reads.pure_bind <| Reads.pure_bind <| hfin pos nm [] ds xs [] [] fun _ => ⟨by rw [← eds, ← ex]; rfl, nofun⟩

/-- `DefOut` of the result, with where its recorded position lies and the stream reached -/
def DefRes (desc : Bytes) (k : DefKind) (ob : List Tok) (σ σ' : Stream) (y : Definition) (a' : AS) : Prop :=
  y.desc = desc ∧ y.kind = k ∧ printDefBody y = ob ∧ EnumOK y ∧ KeyIn σ σ' y.pos.start ∧ a'.σ = σ'

theorem printImplements_nil_of_length {ifs : List Name} (h : ifs.length = 0) : printImplements ifs = [] := by
  cases ifs with
  | nil => rfl
  | cons _ _ => simp at h

/-- what the parser of a type definition or extension of kind `k` returns -/
def DefOut (desc : Bytes) (k : DefKind) (ob : List Tok) (y : Definition) : Prop :=
  y.desc = desc ∧ y.kind = k ∧ printDefBody y = ob ∧ EnumOK y


theorem parses_typeSystemDefinition (n : Nat) (desc : Bytes) (k : DefKind) {tb ob : List Tok} (hok : TsOK tb) (hb : BodyD k tb ob) :
    Reads b (parseTypeSystemDefinition n desc) (DefKind.keyword k :: tb) folItem (DefOut desc k ob) := by
  have body : Reads true (defParser k n desc) (DefKind.keyword k :: tb) folItem (DefOut desc k ob) :=
    defParser_eq k n desc ▸ parses_typeBody n k hok hb fun _ _ _ _ _ _ _ h => Reads.pure ⟨rfl, rfl, (h desc).1, (h desc).2⟩
  unfold parseTypeSystemDefinition
  refine Reads.peek_head rfl fun tok ht => Reads.ite_neg (not_not_intro ((ofToken_kind ht).trans (keyword_value k).1)) ?_
  rw [ofToken_value ht]
  cases k with
  | scalar => exact .ite_pos rfl body
  | object => exact .ite_neg (by decide) <| .ite_pos rfl body
  | interface => exact .ite_neg (by decide) <| .ite_neg (by decide) <| .ite_pos rfl body
  | union => exact .ite_neg (by decide) <| .ite_neg (by decide) <| .ite_neg (by decide) <| .ite_pos rfl body
  | «enum» => exact .ite_neg (by decide) <| .ite_neg (by decide) <| .ite_neg (by decide) <| .ite_neg (by decide) <| .ite_pos rfl body
  | inputObject =>
    exact .ite_neg (by decide) <| .ite_neg (by decide) <| .ite_neg (by decide) <| .ite_neg (by decide) <| .ite_neg (by decide) <|
      .ite_pos rfl body

theorem not_extendsNothing {k : DefKind} {pos : Pos} {nm : Name} {ifs : List Name} {dirs : List Directive} {fields : List FieldDef}
    {types : List Name} {evs : List EnumValDef} {ob : List Tok}
    (h : printDefBody (typeDefOf k [] pos nm ifs dirs fields types evs) = ob) (hne : ob.tail ≠ []) :
    ¬ extendsNothing k ifs dirs fields types evs := by
  intro hc
  apply hne
  rw [← h]
  cases k <;> simp_all [extendsNothing, printDefBody, typeDefOf, List.length_eq_zero_iff, printImplements, printDirectives, printBlock,
    printMembers]


theorem inv_schemaDef {ts o : List Tok} (h : D (.nt .schemaDefinition) ts o) :
    ∃ tD oD tds ods tbk obk, ts = tD ++ tKw "schema" :: (tds ++ tbk) ∧ o = oD ++ tKw "schema" :: (ods ++ obk) ∧
      D (.opt (.nt .description)) tD oD ∧ D (.opt (.nt (.directives true))) tds ods ∧
      D (.seq (Grammar.kind .braceL) (.seq (.plus (.nt .rootOperationTypeDefinition)) (Grammar.kind .braceR))) tbk obk := by
  obtain ⟨t1, t2, o1, o2, rfl, rfl, d1, d2⟩ := h.nt_inv.seq_inv'
  obtain ⟨t3, t4, o3, o4, rfl, rfl, d3, d4⟩ := d2.seq_inv'
  obtain ⟨t5, t6, o5, o6, rfl, rfl, d5, d6⟩ := d4.seq_inv'
  obtain ⟨rfl, rfl⟩ := kw_inv d3
  exact ⟨t1, o1, t5, o5, t6, o6, by simp, by simp, d1, d5, d6⟩

theorem printBlock_of_ne {α : Type} {f : α → List Tok} {xs : List α} {o : List Tok} (h : printBlock f xs = o) (hne : o ≠ []) :
    tP .braceL :: xs.flatMap f ++ [tP .braceR] = o := by
  cases xs with
  | nil => exact absurd h.symm hne
  | cons x r => simpa [printBlock] using h

theorem parses_schemaDefinition (n : Nat) (desc : Bytes) {tds ods tbk obk : List Tok} (hok : TsOK (tds ++ tbk))
    (dds : D (.opt (.nt (.directives true))) tds ods)
    (dbk : D (.seq (Grammar.kind .braceL) (.seq (.plus (.nt .rootOperationTypeDefinition)) (Grammar.kind .braceR))) tbk obk) :
    Reads b (parseSchemaDefinition n desc) (tKw "schema" :: (tds ++ tbk)) Fol
      (fun y => printSchemaDef y = printDesc desc ++ tKw "schema" :: (ods ++ obk)) := by
  have hbk : OptBlockShape .braceL .braceR (.nt .rootOperationTypeDefinition) tbk obk := .inr (inv_block dbk hok.right)
  obtain ⟨parts, _, etbk, eobk, _⟩ := inv_block dbk hok.right
  unfold parseSchemaDefinition
  have hh : tbk.head? = some (tP .braceL) := by rw [etbk]; rfl
  exact Reads.keyword fun _ => Reads.peekPos fun pos =>
    Reads.seq (parses_directives true n tds ods hok.left dds) (.head hh (by decide))
      fun ds eds => Reads.peek_head hh fun t ht => Reads.ite_neg (not_not_intro (ofToken_kind ht)) <|
    Reads.bind_pure ((parses_opTypes n hbk).follow fun _ _ h => by simp [etbk] at h) fun os eos => by
      simp [printSchemaDef, eds, ← printBlock_of_ne eos (by simp [eobk])]

theorem inv_schemaExt {ts o : List Tok} (h : D (.nt .schemaExtension) ts o) (hok : TsOK ts) :
    ∃ tds ods tbk obk, ts = tKw "extend" :: tKw "schema" :: (tds ++ tbk) ∧ o = tKw "extend" :: tKw "schema" :: (ods ++ obk) ∧
      D (.opt (.nt (.directives true))) tds ods ∧ OptBlockShape .braceL .braceR (.nt .rootOperationTypeDefinition) tbk obk ∧
      ods ++ obk ≠ [] ∧ TsOK tds := by
  rcases h.nt_inv.alt_inv with h | h
  · obtain ⟨t2, o2, rfl, rfl, d2, hok2⟩ := kwCons_inv h hok
    obtain ⟨t4, o4, rfl, rfl, d4, hok4⟩ := kwCons_inv d2 hok2
    obtain ⟨t5, t6, o5, o6, rfl, rfl, d5, d6, hok5, hok6⟩ := seq_inv_ok d4 hok4
    obtain ⟨parts, _, _, e2, _⟩ := inv_block d6 hok6
    exact ⟨t5, o5, t6, o6, rfl, rfl, d5, .inr (inv_block d6 hok6), by rw [e2]; simp, hok5⟩
  · obtain ⟨t2, o2, rfl, rfl, d2, hok2⟩ := kwCons_inv h hok
    obtain ⟨t4, o4, rfl, rfl, d4, hok4⟩ := kwCons_inv d2 hok2
    exact ⟨t4, o4, [], [], by simp, by simp, .optSome d4, .inl ⟨rfl, rfl⟩, by simpa using out_ne_directives d4 hok4, hok4⟩

theorem parses_schemaExtension (n : Nat) {tds ods tbk obk : List Tok} (hokd : TsOK tds)
    (dds : D (.opt (.nt (.directives true))) tds ods) (dbk : OptBlockShape .braceL .braceR (.nt .rootOperationTypeDefinition) tbk obk)
    (hne : ods ++ obk ≠ []) :
    Reads b (parseSchemaExtension n) (tKw "schema" :: (tds ++ tbk)) folItem
      (fun y => printSchemaExt y = tKw "extend" :: tKw "schema" :: (ods ++ obk)) := by
  unfold parseSchemaExtension
  exact Reads.keyword fun _ => Reads.peekPos fun pos =>
    Reads.seq (parses_directives true n tds ods hokd dds) (.opt_last dbk.opt (by decide) fun _ h => h.1.mono) fun ds eds =>
    Reads.seq_nil ((parses_opTypes n dbk).follow fun _ h _ => h.1.ne) fun os eos => Reads.ite_neg (fun hc => hne (by
      rw [← eds, ← eos, List.eq_nil_of_length_eq_zero hc.1, List.eq_nil_of_length_eq_zero hc.2]; rfl)) <|
    Reads.pure (by simp [printSchemaExt, eds, eos])


theorem inv_directiveDef {ts o : List Tok} (h : D (.nt .directiveDefinition) ts o) (hok : TsOK ts) :
    ∃ tD oD nm ta oa trep tl ol, ts = tD ++ tKw "directive" :: tP .at :: tName nm :: (ta ++ (trep ++ tKw "on" :: tl)) ∧
      o = oD ++ tKw "directive" :: tP .at :: tName nm :: (oa ++ (trep ++ tKw "on" :: ol)) ∧
      (trep = [] ∨ trep = [tKw "repeatable"]) ∧ D (.opt (.nt .description)) tD oD ∧
      D (.opt (.nt .argumentsDefinition)) ta oa ∧ D (.nt .directiveLocations) tl ol ∧ TsOK ta ∧ TsOK tl := by
  obtain ⟨tD, t2, oD, o2, rfl, rfl, dD, d2, _, hok2⟩ := seq_inv_ok h.nt_inv hok
  obtain ⟨t3, t4, o3, o4, rfl, rfl, d3, d4, _, hok4⟩ := seq_inv_ok d2 hok2
  obtain ⟨rfl, rfl⟩ := kw_inv d3
  obtain ⟨t6, o6, rfl, rfl, d6, hok6⟩ := kindCons_inv d4 hok4
  obtain ⟨nm, t8, o8, rfl, rfl, d8, hok8⟩ := nameCons_inv d6 hok6
  obtain ⟨ta, t10, oa, o10, rfl, rfl, da, d10, hoka, hok10⟩ := seq_inv_ok d8 hok8
  obtain ⟨t11, t12, o11, o12, rfl, rfl, d11, d12, _, hok12⟩ := seq_inv_ok d10 hok10
  obtain ⟨t13, tl, o13, ol, rfl, rfl, d13, dl, _, hokl⟩ := seq_inv_ok d12 hok12
  obtain ⟨rfl, rfl⟩ := kw_inv d13
  rcases d11.opt_inv with ⟨rfl, rfl⟩ | d11
  · exact ⟨tD, oD, nm, ta, oa, [], tl, ol, by simp, by simp, .inl rfl, dD, da, dl, hoka, hokl⟩
  · obtain ⟨rfl, rfl⟩ := kw_inv d11
    exact ⟨tD, oD, nm, ta, oa, [tKw "repeatable"], tl, ol, by simp, by simp, .inr rfl, dD, da, dl, hoka, hokl⟩

theorem parses_directiveDefinition (n : Nat) (desc : Bytes) (nm : Name) {ta oa trep tl ol : List Tok} (hoka : TsOK ta) (hokl : TsOK tl)
    (hrep : trep = [] ∨ trep = [tKw "repeatable"]) (da : D (.opt (.nt .argumentsDefinition)) ta oa)
    (dl : D (.nt .directiveLocations) tl ol) :
    Reads b (parseDirectiveDefinition n desc) (tKw "directive" :: tP .at :: tName nm :: (ta ++ (trep ++ tKw "on" :: tl)))
      (fun t => t.kind ≠ .pipe) (fun y => printDirectiveDef y =
        printDesc desc ++ tKw "directive" :: tP .at :: tName nm :: (oa ++ (trep ++ tKw "on" :: ol))) := by
  have tail : ∀ pos as rep, printArgDefs as = oa → trep = (if rep then [tKw "repeatable"] else []) →
      Reads false (directiveTail n desc pos nm as rep) (tKw "on" :: tl) (fun t => t.kind ≠ .pipe) (fun y => printDirectiveDef y =
        printDesc desc ++ tKw "directive" :: tP .at :: tName nm :: (oa ++ (trep ++ tKw "on" :: ol))) := by
    intro pos as rep ea er
    unfold directiveTail
    exact Reads.keyword fun _ => Reads.bind_pure (parses_directiveLocations n hokl dl) fun _ el => by
      simp [printDirectiveDef, ea, er, el]
  rw [parseDirectiveDefinition_eq]
  refine Reads.keyword fun _ => Reads.expect rfl fun _ _ => Reads.peekPos fun pos => Reads.name <|
    Reads.seq (parses_argDefs n hoka da) (by rcases hrep with rfl | rfl <;> exact .head rfl fun _ => by decide) fun as ea => ?_
  rcases hrep with rfl | rfl
  · exact Reads.peek_head rfl fun _ hpk => Reads.ite_neg (fun h => absurd ((kw_value hpk).symm.trans h.2) str_ne) <|
      Reads.weaken (tail pos as false ea rfl)
  · exact Reads.peek_head rfl fun _ hpk => Reads.ite_pos ⟨ofToken_kind hpk, kw_value hpk⟩ <| Reads.skip_yes rfl (tail pos as true ea rfl)


/-- what one top-level item contributes: an item whose unparse is `o`, recorded at one of its tokens -/
def ItemRes (doc : SchemaDoc) (o : List Tok) (σ σ' : Stream) (y : SchemaDoc) (a' : AS) : Prop :=
  ∃ it, y = doc.add it ∧ (sItem it).2 = o ∧ it.enumOK ∧ KeyIn σ σ' (sItem it).1 ∧ a'.σ = σ'

theorem parses_typeSystemExtension (n : Nat) (doc : SchemaDoc) {ts o : List Tok} (hok : TsOK ts)
    (hd : D (.nt .typeSystemExtension) ts o) :
    Reads b (parseTypeSystemExtension n doc) ts folItem (fun y => ∃ it, y = doc.add it ∧ (sItem it).2 = o ∧ it.enumOK) := by
  unfold parseTypeSystemExtension
  rcases hd.nt_inv.alt_inv with hse | hte
  · obtain ⟨tds, ods, tbk, obk, rfl, rfl, dds, dbk, hne, hokd⟩ := inv_schemaExt hse hok
    exact Reads.keyword fun _ => Reads.peek_head rfl fun t ht =>
      Reads.ite_pos (ofToken_value ht) <| Reads.bind_pure (parses_schemaExtension n hokd dds dbk hne) fun sd e =>
      ⟨.schemaExt sd, rfl, e, trivial⟩
  · obtain ⟨k, tb, ob, rfl, rfl, hb, hne⟩ := inv_typeExtension hte hok
    have hokb : TsOK tb := hok.tail.tail
    refine Reads.keyword fun _ => Reads.peek_head rfl fun t ht => ?_
    rw [ofToken_value ht]
    have body : Reads true (extParser k n >>= fun x => Pure.pure { doc with extensions := doc.extensions ++ [x] })
        (DefKind.keyword k :: tb) folItem
        (fun y => ∃ it, y = doc.add it ∧ (sItem it).2 = tKw "extend" :: DefKind.keyword k :: ob ∧ it.enumOK) :=
      Reads.bind_pure (Q1 := DefOut [] k ob) (extParser_eq k n ▸ parses_typeBody n k hokb hb fun _ _ _ _ _ _ _ h =>
        Reads.ite_neg (not_extendsNothing (h []).1 hne) <| Reads.pure ⟨rfl, rfl, (h []).1, (h []).2⟩) fun x ⟨_, h2, h3, h4⟩ =>
        ⟨.extension x, rfl, by simp [sItem, printExtension, h2, h3], h4⟩
    cases k with
    | scalar => exact .ite_neg (by decide) <| .ite_pos rfl body
    | object => exact .ite_neg (by decide) <| .ite_neg (by decide) <| .ite_pos rfl body
    | interface => exact .ite_neg (by decide) <| .ite_neg (by decide) <| .ite_neg (by decide) <| .ite_pos rfl body
    | union => exact .ite_neg (by decide) <| .ite_neg (by decide) <| .ite_neg (by decide) <| .ite_neg (by decide) <| .ite_pos rfl body
    | «enum» =>
      exact .ite_neg (by decide) <| .ite_neg (by decide) <| .ite_neg (by decide) <| .ite_neg (by decide) <| .ite_neg (by decide) <|
        .ite_pos rfl body
    | inputObject =>
      exact .ite_neg (by decide) <| .ite_neg (by decide) <| .ite_neg (by decide) <| .ite_neg (by decide) <| .ite_neg (by decide) <|
        .ite_neg (by decide) <| .ite_pos rfl body

theorem SchemaDoc.add_inj {doc : SchemaDoc} {it it' : SItem} (h : doc.add it = doc.add it') : it = it' := by
  cases it <;> cases it' <;> simp_all [SchemaDoc.add, SchemaDoc.mk.injEq]

theorem cpl_typeSystemDefinition (n : Nat) (desc : Bytes) (k : DefKind) (tb ob : List Tok) (hok : TsOK tb) (hb : BodyD k tb ob)
    (a : AS) (σ' : Stream) (hs : Starts a.σ (DefKind.keyword k :: tb) σ') (hfol : FolItem σ') :
    Fwd (parseTypeSystemDefinition n desc) a (DefRes desc k ob a.σ σ') :=
  ((parses_typeSystemDefinition n desc k hok hb).withKey (key := fun y => y.pos.start)
    (Spec.last (spec_parseTypeSystemDefinition n desc) fun _ _ h => h.1.pos) a σ' hs (folItem_iff.1 hfol)).mono
    fun _ _ ⟨⟨h1, h2, h3, h4⟩, hk, hσ⟩ => ⟨h1, h2, h3, h4, hk, hσ⟩

theorem cpl_typeSystemExtension (n : Nat) (doc : SchemaDoc) (ts o : List Tok) (hok : TsOK ts) (hd : D (.nt .typeSystemExtension) ts o)
    (a : AS) (σ' : Stream) (hs : Starts a.σ ts σ') (hfol : FolItem σ') :
    Fwd (parseTypeSystemExtension n doc) a (ItemRes doc o a.σ σ') :=
  (((parses_typeSystemExtension (b := false) n doc hok hd) a σ' nofun hs (folItem_iff.1 hfol)).and_spec (spec_parseTypeSystemExtension n doc)).mono
    fun _ _ ⟨⟨⟨it, e, ho, hen⟩, hσ⟩, _, hu, _, hit, e'⟩ =>
      ⟨it, e, ho, hen, hσ ▸ KeyIn.of_ate hu (SchemaDoc.add_inj (e.symm.trans e') ▸ hit.1.1), hσ⟩

end Gql.Parser
