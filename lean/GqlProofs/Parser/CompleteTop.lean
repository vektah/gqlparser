import GqlProofs.Parser.CompleteQuery
import GqlProofs.Parser.FwdTop
/-
  Completeness of the query parser: definitions, the document loop, and the entry point.
-/
namespace Gql.Parser
open Gql Gql.Lexer Gql.Grammar Gql.Print

local notation "D" => Derives gql

variable {Fol : Tok → Prop} {b : Bool}


theorem printOperation_short (ss : Selections) (pos : Pos) :
    printOperation { op := kwQuery, name := [], vars := [], dirs := [], sel := ss, pos := pos } =
      dropBareQuery (printSelectionSet ss) := by
  simp [printOperation, OperationDef.isBare, kwQuery, printSelectionSet, dropBareQuery_brace]

theorem inv_operationType {ts o : List Tok} (h : D (.nt .operationType) ts o) :
    ∃ op, (op = str "query" ∨ op = str "mutation" ∨ op = str "subscription") ∧ ts = [tName op] ∧ o = [tName op] := by
  rcases h.nt_inv.alt_inv with h | h
  · obtain ⟨e1, e2⟩ := kw_inv h
    exact ⟨_, .inl rfl, e1, e2⟩
  rcases h.alt_inv with h | h
  · obtain ⟨e1, e2⟩ := kw_inv h
    exact ⟨_, .inr (.inl rfl), e1, e2⟩
  · obtain ⟨e1, e2⟩ := kw_inv h
    exact ⟨_, .inr (.inr rfl), e1, e2⟩

theorem inv_operation {ts o : List Tok} (h : D (.nt .operationDefinition) ts o) (hok : TsOK ts) :
    (∃ o', o = dropBareQuery o' ∧ D (.nt .selectionSet) ts o') ∨
    (∃ (op nm : Name) (tv ov td od tss oss : List Tok), (op = str "query" ∨ op = str "mutation" ∨ op = str "subscription") ∧
      ts = tName op :: ((if nm = [] then [] else [tName nm]) ++ (tv ++ (td ++ tss))) ∧
      o = dropBareQuery (tName op :: ((if nm = [] then [] else [tName nm]) ++ (ov ++ (od ++ oss)))) ∧
      D (.opt (.nt .variableDefinitions)) tv ov ∧ D (.opt (.nt (.directives false))) td od ∧ D (.nt .selectionSet) tss oss ∧
      TsOK tv ∧ TsOK td ∧ TsOK tss) := by
  obtain ⟨o', rfl, hb⟩ := h.nt_inv.canon_inv
  rcases hb.alt_inv with hb | hb
  · obtain ⟨t1, t2, o1, o2, rfl, rfl, d1, d2, _, hok2⟩ := seq_inv_ok hb hok
    obtain ⟨t3, t4, o3, o4, rfl, rfl, d3, d4, hok3, hok4⟩ := seq_inv_ok d2 hok2
    obtain ⟨tv, t6, ov, o6, rfl, rfl, dv, d6, hokv, hok6⟩ := seq_inv_ok d4 hok4
    obtain ⟨td, tss, od, oss, rfl, rfl, dd, dss, hokd, hoks⟩ := seq_inv_ok d6 hok6
    obtain ⟨op, hop, rfl, rfl⟩ := inv_operationType d1
    right
    rcases d3.opt_inv with ⟨rfl, rfl⟩ | d3
    · exact ⟨op, [], tv, ov, td, od, tss, oss, hop, by simp, by simp, dv, dd, dss, hokv, hokd, hoks⟩
    · obtain ⟨nm, rfl, rfl⟩ := name_inv d3
      have hnm : nm ≠ [] := (hok3 (tName nm) (by simp)).2 rfl
      exact ⟨op, nm, tv, ov, td, od, tss, oss, hop, by simp [hnm], by simp [hnm], dv, dd, dss, hokv, hokd, hoks⟩
  · exact .inl ⟨o', rfl, hb⟩

theorem parses_opTail (n : Nat) (pos : Pos) (op nm : Name) {tv ov td od tss oss : List Tok} (hokv : TsOK tv) (hokd : TsOK td)
    (hoks : TsOK tss) (dv : D (.opt (.nt .variableDefinitions)) tv ov) (dd : D (.opt (.nt (.directives false))) td od)
    (dss : D (.nt .selectionSet) tss oss) :
    Reads b (opTail n pos op nm) (tv ++ (td ++ tss)) Fol
      (fun y => opLong y = tName op :: ((if nm = [] then [] else [tName nm]) ++ (ov ++ (od ++ oss)))) := by
  have hs := head_selectionSet dss hoks
  unfold opTail
  exact Reads.seq (parses_varDefs n tv ov hokv dv) (.opt (opt_optDirectives dd hokd) (by decide) (.head hs (by decide))) fun vs ev =>
    Reads.seq (parses_directives false n td od hokd dd) (.head hs (by decide)) fun ds ed =>
    Reads.bind_pure (parses_requiredSelectionSet n hoks dss) fun ss es => by simp [opLong, ev, ed, es]

theorem parses_operation (n : Nat) {ts o : List Tok} (hok : TsOK ts) (hd : D (.nt .operationDefinition) ts o) :
    Reads b (parseOperationDefinition n) ts Fol (fun y => printOperation y = o) := by
  rw [parseOperationDefinition_eq]
  rcases inv_operation hd hok with ⟨o', rfl, dss⟩ | ⟨op, nm, tv, ov, td, od, tss, oss, hop, rfl, rfl, dv, dd, dss, hokv, hokd, hoks⟩
  · exact Reads.peek_head (head_selectionSet dss hok) fun t ht => Reads.ite_pos (ofToken_kind ht) <|
      Reads.peekPos fun pos => Reads.bind_pure (parses_requiredSelectionSet n hok dss) fun ss es => by rw [printOperation_short, es]
  · have tail := fun pos nm' => parses_opTail (Fol := Fol) (b := false) n pos op nm' hokv hokd hoks dv dd dss
    have fin : ∀ {l : List Tok} (y : OperationDef), opLong y = l → printOperation y = dropBareQuery l :=
      fun y e => by rw [← e]; exact (dropBareQuery_long y).symm
    refine Reads.peek_head rfl fun t ht => Reads.ite_neg (by rw [ofToken_kind ht]; nofun) <| Reads.peekPos fun pos =>
      Reads.operationType hop ?_
    by_cases hn : nm = []
    · have tl := tail pos nm
      simp only [if_pos hn, List.nil_append] at tl ⊢
      exact Reads.peek (P := fun t => t.kind ≠ .name) (.opt (optBlock_of (B := .variableDefinitions) rfl dv hokv).opt (by decide)
          (.opt (opt_optDirectives dd hokd) (by decide) (.head (head_selectionSet dss hoks) (by decide))))
        fun _ ht2 => Reads.ite_neg ht2 <| Reads.weaken (hn ▸ tl.mono fin)
    · have tl := tail pos nm
      simp only [if_neg hn] at tl ⊢
      exact Reads.peek_head rfl fun _ ht2 => Reads.ite_pos (ofToken_kind ht2) <| Reads.next fun u hu => ofToken_value hu ▸ tl.mono fin

/-- `OperationDefinition`; the recorded position is that of the first token -/
theorem cpl_operation (n : Nat) (ts o : List Tok) (hok : TsOK ts) (hd : D (.nt .operationDefinition) ts o) (a : AS) (σ' : Stream)
    (hs : Starts a.σ ts σ') :
    Fwd (parseOperationDefinition n) a (fun y a' => printOperation y = o ∧ y.pos.start = a.σ.head.start ∧ a'.σ = σ') :=
  ((parses_operation (b := false) (Fol := Any) n hok hd a σ' nofun hs trivial).and_spec (spec_parseOperationDefinition n)).mono
    fun _ _ ⟨⟨h, hσ⟩, _, hu, ⟨⟨t, _, e, hp⟩, _⟩, _⟩ => ⟨h, by subst e; rw [hp, hu.head], hσ⟩


theorem inv_fragment {ts o : List Tok} (h : D (.nt .fragmentDefinition) ts o) (hok : TsOK ts) :
    ∃ (nm tc : Name) (tv ov td od tss oss : List Tok), nm ≠ str "on" ∧
      ts = tKw "fragment" :: tName nm :: (tv ++ (tKw "on" :: tName tc :: (td ++ tss))) ∧
      o = tKw "fragment" :: tName nm :: (ov ++ (tKw "on" :: tName tc :: (od ++ oss))) ∧
      D (.opt (.nt .variableDefinitions)) tv ov ∧ D (.opt (.nt (.directives false))) td od ∧ D (.nt .selectionSet) tss oss ∧
      TsOK tv ∧ TsOK td ∧ TsOK tss := by
  obtain ⟨t2, o2, rfl, rfl, d2, hok2⟩ := kwCons_inv h.nt_inv hok
  obtain ⟨t3, t4, o3, o4, rfl, rfl, d3, d4, _, hok4⟩ := seq_inv_ok d2 hok2
  obtain ⟨tv, t6, ov, o6, rfl, rfl, dv, d6, hokv, hok6⟩ := seq_inv_ok d4 hok4
  obtain ⟨t7, t8, o7, o8, rfl, rfl, d7, d8, _, hok8⟩ := seq_inv_ok d6 hok6
  obtain ⟨td, tss, od, oss, rfl, rfl, dd, dss, hokd, hoks⟩ := seq_inv_ok d8 hok8
  obtain ⟨t, rfl, rfl, hp⟩ := d3.nt_inv.tok_inv
  simp only [Bool.and_eq_true, beq_iff_eq, Bool.not_eq_true', List.contains_cons, List.contains_nil, Bool.or_false,
    beq_eq_false_iff_ne] at hp
  obtain ⟨s1, s2, p1, p2, rfl, rfl, e1, e2⟩ := d7.nt_inv.seq_inv'
  obtain ⟨rfl, rfl⟩ := kw_inv e1
  obtain ⟨tc, rfl, rfl⟩ := inv_namedType e2
  obtain ⟨tkk, tval⟩ := t
  simp only at hp
  obtain ⟨rfl, hv⟩ := hp
  exact ⟨tval, tc, tv, ov, td, od, tss, oss, hv, by simp [tName], by simp [tName], dv, dd, dss, hokv, hokd, hoks⟩

theorem parses_fragment (n : Nat) {ts o : List Tok} (hok : TsOK ts) (hd : D (.nt .fragmentDefinition) ts o) :
    Reads b (parseFragmentDefinition n) ts Fol (fun y => printFragment y = o) := by
  obtain ⟨nm, tc, tv, ov, td, od, tss, oss, hnm, rfl, rfl, dv, dd, dss, hokv, hokd, hoks⟩ := inv_fragment hd hok
  unfold parseFragmentDefinition
  exact Reads.peekPos fun pos => Reads.keyword fun _ =>
    Reads.seq_eq (A := [tName nm]) (parses_fragmentName nm hnm) <|
    Reads.seq (parses_varDefs n tv ov hokv dv) (.head rfl (by decide)) fun vs ev =>
    Reads.keyword fun _ => Reads.name <|
    Reads.seq (parses_directives false n td od hokd dd) (.head (head_selectionSet dss hoks) (by decide)) fun ds ed =>
    Reads.bind_pure (parses_requiredSelectionSet n hoks dss) fun ss es => by simp [printFragment, ev, ed, es]

theorem cpl_fragment (n : Nat) (ts o : List Tok) (hok : TsOK ts) (hd : D (.nt .fragmentDefinition) ts o) (a : AS) (σ' : Stream)
    (hs : Starts a.σ ts σ') :
    Fwd (parseFragmentDefinition n) a (fun y a' => printFragment y = o ∧ y.pos.start = a.σ.head.start ∧ a'.σ = σ') :=
  ((parses_fragment (b := false) (Fol := Any) n hok hd a σ' nofun hs trivial).and_spec (spec_parseFragmentDefinition n)).mono
    fun _ _ ⟨⟨h, hσ⟩, _, hu, ⟨⟨t, _, e, hp⟩, _⟩, _⟩ => ⟨h, by subst e; rw [hp, hu.head], hσ⟩


/-- the keys are the start offsets of tokens of the stream, in stream order -/
def HeadsOf (σ : Stream) (keys : List Nat) : Prop := ∃ hs : List Token, hs.Sublist σ.toks ∧ keys = hs.map (·.start)

theorem HeadsOf.nil (σ : Stream) : HeadsOf σ [] := ⟨[], List.nil_sublist _, rfl⟩

theorem HeadsOf.cons {σ σm : Stream} {us : List Token} {u : Token} {rest : List Token} {keys : List Nat}
    (hσ : σ = Stream.app us σm) (hus : us = u :: rest) (h : HeadsOf σm keys) : HeadsOf σ (u.start :: keys) := by
  obtain ⟨hs, h1, h2⟩ := h
  refine ⟨u :: hs, ?_, by simp [h2]⟩
  rw [hσ, Stream.toks_app, hus]
  exact (h1.trans (List.sublist_append_right _ _)).cons_cons u

/-- keyed texts whose keys are token starts of the input in stream order: sorting them by key (as the
    unparse of a document does) leaves them in that order -/
theorem HeadsOf.unparse {α : Type} {item : α → Nat × List Tok} {items : List α} {src : Nat} {inp : Bytes}
    (h : HeadsOf (abs (PState.init src inp)).σ (items.map fun x => (item x).1)) {l : List (Nat × List Tok)}
    (hperm : l.Perm (items.map item)) : (inSourceOrder l).flatten = items.flatMap fun x => (item x).2 := by
  obtain ⟨hs, hsub, hkeys⟩ := h
  rw [abs_init, Stream.sig_toks] at hsub
  have hsorted : (items.map fun x => (item x).1).Pairwise (· < ·) := by
    rw [hkeys, List.pairwise_map]
    exact ((rawS_sorted inp Cur.init).2.sublist List.filter_sublist).sublist hsub
  rw [inSourceOrder_sorted hperm (by simpa [List.pairwise_map] using hsorted)]
  simp [List.flatMap_def, List.map_map, Function.comp_def]

/-- an executable definition is an operation (starting with `{` or an operation type) or a fragment
    definition (starting with `fragment`) -/
theorem first_definition {ts o : List Tok} (h : D (.nt .executableDefinition) ts o) (hok : TsOK ts) :
    ∃ t rest, ts = t :: rest ∧ ((D (.nt .operationDefinition) ts o ∧ (t.kind = .braceL ∨ (t.kind = .name ∧
      (t.value = kwQuery ∨ t.value = kwMutation ∨ t.value = kwSubscription)))) ∨
      (D (.nt .fragmentDefinition) ts o ∧ t = tKw "fragment")) := by
  rcases h.nt_inv.alt_inv with h | h
  · rcases inv_operation h hok with ⟨o', _, dss⟩ | ⟨op, nm, tv, ov, td, od, tss, oss, hop, e, _⟩
    · obtain ⟨parts, _, e, _, _⟩ := inv_selectionSet dss hok
      exact ⟨_, _, e, .inl ⟨h, .inl rfl⟩⟩
    · exact ⟨_, _, e, .inl ⟨h, .inr ⟨rfl, hop⟩⟩⟩
  · obtain ⟨nm, tc, tv, ov, td, od, tss, oss, _, e, _⟩ := inv_fragment h hok
    exact ⟨_, _, e, .inr ⟨h, rfl⟩⟩

theorem cpl_queryDocLoop (m : Nat) : ∀ (parts : List (List Tok × List Tok)),
    (∀ p ∈ parts, TsOK p.1 ∧ D (.nt .executableDefinition) p.1 p.2) →
    ∀ (n : Nat) (doc : QueryDoc) (a : AS) (σ' : Stream), Starts a.σ (parts.flatMap (·.1)) σ' → σ'.head.kind = .eof →
      Fwd (queryDocLoop m n doc) a (fun d a' => (∃ defs : List Def, d.ops = doc.ops ++ opsOf defs ∧
        d.frags = doc.frags ++ fragsOf defs ∧ defs.flatMap (fun x => (defItem x).2) = parts.flatMap (·.2) ∧
        HeadsOf a.σ (defs.map fun x => (defItem x).1) ∧ (parts ≠ [] → defs ≠ [])) ∧ a'.σ = σ')
  | [], _ => by
    intro n doc a σ' hs heof
    rw [List.flatMap_nil, Starts.nil_iff] at hs
    cases n with
    | zero => exact Fwd.outOfFuel _ _ _
    | succ n =>
      unfold queryDocLoop
      refine Fwd.bind (fwd_peek a) ?_
      rintro t a1 ⟨rfl, rfl⟩
      refine Fwd.ite_neg (by rw [hs]; simp [heof]) ((Fwd.pure _ _).mono ?_)
      rintro d a' ⟨rfl, rfl⟩
      exact ⟨⟨[], by simp [opsOf], by simp [fragsOf], rfl, HeadsOf.nil _, fun h => absurd rfl h⟩, hs⟩
  | p :: parts, hp => by
    intro n doc a σ' hs heof
    obtain ⟨hokp, hdp⟩ := hp p (by simp)
    rw [List.flatMap_cons, Starts.append_iff] at hs
    obtain ⟨σm, hb, hrest⟩ := hs
    obtain ⟨t, rest, ep, hfirst⟩ := first_definition hdp hokp
    obtain ⟨us, hσus, htk⟩ := hb
    have husne : ∃ u r, us = u :: r := by
      cases us with
      | nil => rw [ep] at htk; simp at htk
      | cons u r => exact ⟨u, r, rfl⟩
    obtain ⟨u0, r0, hus⟩ := husne
    have hb : Starts a.σ p.1 σm := ⟨us, hσus, htk⟩
    have hhead : a.σ.head = u0 := by rw [hσus, hus]; rfl
    have hu0 : Tok.ofToken u0 = t := by
      have := htk; rw [hus, ep] at this; simpa using (List.cons.inj this).1
    cases n with
    | zero => exact Fwd.outOfFuel _ _ _
    | succ n =>
      have ih := cpl_queryDocLoop m parts (fun q hq => hp q (by simp [hq])) n
      have hk : a.σ.head.kind = t.kind := by rw [hhead]; exact ofToken_kind hu0
      have hv : a.σ.head.value = t.value := by rw [hhead]; exact ofToken_value hu0
      have hcont : ∀ (x : Def) (doc' : QueryDoc) (a3 : AS), (defItem x).2 = p.2 → (defItem x).1 = u0.start →
          doc'.ops = doc.ops ++ opsOf [x] → doc'.frags = doc.frags ++ fragsOf [x] → a3.σ = σm →
          Fwd (queryDocLoop m n doc') a3 (fun d a' => (∃ defs : List Def, d.ops = doc.ops ++ opsOf defs ∧
            d.frags = doc.frags ++ fragsOf defs ∧ defs.flatMap (fun x => (defItem x).2) = (p :: parts).flatMap (·.2) ∧
            HeadsOf a.σ (defs.map fun x => (defItem x).1) ∧ (p :: parts ≠ [] → defs ≠ [])) ∧ a'.σ = σ') := by
        intro x doc' a3 hx hkey hops hfrags hσ3
        refine (ih doc' a3 σ' (by rw [hσ3]; exact hrest) heof).mono ?_
        rintro d a' ⟨⟨defs, e1, e2, e3, e4, _⟩, e5⟩
        refine ⟨⟨x :: defs, ?_, ?_, by simp [hx, e3], ?_, by simp⟩, e5⟩
        · rw [e1, hops]; cases x <;> simp [opsOf]
        · rw [e2, hfrags]; cases x <;> simp [fragsOf]
        · rw [List.map_cons, hkey]
          rw [hσ3] at e4
          exact HeadsOf.cons hσus hus e4
      unfold queryDocLoop
      refine Fwd.bind (fwd_peek a) ?_
      rintro t0 a1 ⟨rfl, rfl⟩
      refine Fwd.ite_pos (by rw [hk]; rcases hfirst with ⟨_, h | ⟨h, _⟩⟩ | ⟨_, h⟩ <;> simp [h, tKw]) (Fwd.bind (fwd_hasErr _) ?_)
      rintro e a2 ⟨rfl, rfl⟩
      refine Fwd.ite_neg (by simp) (Fwd.bind (fwd_peekPos _) ?_)
      rintro _ a3 rfl
      refine Fwd.bind (fwd_peek _) ?_
      rintro t1 a4 ⟨rfl, rfl⟩
      rcases hfirst with ⟨hop, hfirst⟩ | ⟨hfr, htt⟩
      · -- an operation
        have hrun := cpl_operation m p.1 p.2 hokp hop { pk := true, σ := a.σ, cnt := a.cnt } σm (by simpa using hb)
        have hfin : Fwd (parseOperationDefinition m >>= fun od => queryDocLoop m n { doc with ops := doc.ops ++ [od] })
            { pk := true, σ := a.σ, cnt := a.cnt } (fun d a' => (∃ defs : List Def, d.ops = doc.ops ++ opsOf defs ∧
            d.frags = doc.frags ++ fragsOf defs ∧ defs.flatMap (fun x => (defItem x).2) = (p :: parts).flatMap (·.2) ∧
            HeadsOf a.σ (defs.map fun x => (defItem x).1) ∧ (p :: parts ≠ [] → defs ≠ [])) ∧ a'.σ = σ') := by
          refine Fwd.bind hrun ?_
          rintro od a5 ⟨hod, hpos, hσ5⟩
          exact hcont (.inl od) _ a5 hod (by simp only [defItem]; rw [hpos]; simp [hhead]) (by simp [opsOf]) (by simp [fragsOf]) hσ5
        rcases hfirst with hkb | ⟨hkn, hvq⟩
        · simp only [hk, hkb]
          exact hfin
        · simp only [hk, hkn]
          refine Fwd.bind (fwd_peek _) ?_
          rintro t2 a5 ⟨rfl, rfl⟩
          exact Fwd.ite_pos (by simp only [hv]; exact hvq) hfin
      · -- a fragment definition
        have hkn : a.σ.head.kind = .name := by rw [hk, htt]; rfl
        have hvf : a.σ.head.value = kwFragment := by rw [hv, htt]; rfl
        simp only [hkn]
        refine Fwd.bind (fwd_peek _) ?_
        rintro t2 a5 ⟨rfl, rfl⟩
        refine Fwd.ite_neg (by simp only [hvf]; decide) (Fwd.ite_pos hvf ?_)
        refine Fwd.bind (cpl_fragment m p.1 p.2 hokp hfr _ σm (by simpa using hb)) ?_
        rintro fd a6 ⟨hfd, hpos, hσ6⟩
        exact hcont (.inr fd) _ a6 hfd (by simp only [defItem]; rw [hpos]; simp [hhead]) (by simp [opsOf]) (by simp [fragsOf]) hσ6


theorem tsOK_of_tokensOf {inp : Bytes} {ts : List Tok} (h : tokensOf inp = some ts) : TsOK ts := by
  obtain ⟨t, _, us, hσ, htk⟩ := starts_of_tokensOf h
  have hne : (rawS inp Cur.init).sig.NoEof := (rawS_noEof inp Cur.init).sig
  rw [hσ] at hne
  have hok := hne.app_toks
  intro x hx
  rw [← htk] at hx
  simp only [tk, List.mem_map] at hx
  obtain ⟨u, hu, rfl⟩ := hx
  exact ⟨(hok u hu).2.1, (hok u hu).2.2⟩

/-- **completeness and uniqueness of the canonical form**: if the token sequence of `inp` is
    derivable from `ExecutableDocument` with canonical output `o`, the parser accepts `inp` with a
    non-empty document whose unparse is `o` -/
theorem parseQuery_complete (inp : Bytes) (ts o : List Tok) (htok : tokensOf inp = some ts)
    (hd : D (.nt .executableDocument) ts o) :
    ∃ d, parseQuery 0 inp = .ok d ∧ printQuery d = o ∧ (d.ops ≠ [] ∨ d.frags ≠ []) := by
  have hok := tsOK_of_tokensOf htok
  obtain ⟨parts, hne, rfl, rfl, hp⟩ := hd.nt_inv.plus_parts
  obtain ⟨hok', defs, e1, e2, e3, hheads, hdne⟩ := Fwd.run_init (p := parseQueryDocument (fuelFor inp)) htok (fun t hteof hst =>
    cpl_queryDocLoop (fuelFor inp) parts (fun p hpm => ⟨hok.of_flatMap p hpm, hp p hpm⟩) (fuelFor inp)
      { ops := [], frags := [] } _ (.eof t) hst hteof) (runQuery_oof 0 inp)
  have hops : (runQuery 0 inp).1.ops = opsOf defs := by simpa [runQuery] using e1
  have hfrags : (runQuery 0 inp).1.frags = fragsOf defs := by simpa [runQuery] using e2
  refine ⟨(runQuery 0 inp).1, hok', ?_, ?_⟩
  · rw [printQuery, hops, hfrags, hheads.unparse (items_perm defs), e3]
  · have hdefs := hdne hne
    rw [hops, hfrags]
    cases defs with
    | nil => exact absurd rfl hdefs
    | cons x r => cases x <;> simp [opsOf, fragsOf]

end Gql.Parser
