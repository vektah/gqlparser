import GqlProofs.Parser.Measure
/-
  Fuel never runs out.  Predicates on programs, all relative to the measure `mu`: `Progress p` (from a live state
  `p` strictly decreases `mu`: it consumes a real token or sets the sticky error), `ProgRdy t p` (the same from a
  live state whose look-ahead already holds the token `t`), `Keeps p` (`p` leaves such a state untouched:
  peek-like programs), `Good n p` (from a state with `mu s < n` and the flag clear, `p` does not set `oof`).
  `Good` composes through `bind` because no program increases `mu` (`run_mu_le`); a loop or a recursion may hand
  its continuation one unit of fuel less after a program that makes `Progress` (`Good.bind_lower`) or after a
  successful `skip` (`Good.skip_bind`).
-/
namespace Gql.Parser
open Gql Gql.Lexer

variable {α β : Type} {L n m k : Nat} {t : Token} {p : Prog α} {f : α → Prog β}

def Progress {α : Type} (L : Nat) (p : Prog α) : Prop :=
  ∀ s, dead s = false → mu (run L p s).2 < mu s

def ProgRdy {α : Type} (L : Nat) (t : Token) (p : Prog α) : Prop :=
  ∀ s, Ready t s → dead s = false → mu (run L p s).2 < mu s

def Keeps {α : Type} (L : Nat) (p : Prog α) : Prop :=
  ∀ t s, Ready t s → dead s = false → (run L p s).2 = s

def Good {α : Type} (L : Nat) (n : Nat) (p : Prog α) : Prop :=
  ∀ s, mu s < n → s.oof = false → (run L p s).2.oof = false

theorem dead_false_iff {s : PState} : dead s = false ↔ s.err.isSome = false ∧ s.oof = false := by
  simp [dead]

theorem mu_pos_of_live {s : PState} (h : dead s = false) : 0 < mu s := by rw [mu_pos h]; omega

theorem lt_of_dead_run {s s' : PState} (hd : dead s = false) (hd' : dead s' = true) (q : Prog β) :
    mu (run L q s').2 < mu s := by
  have := run_mu_le L q s'
  rw [mu_dead hd'] at this
  have := mu_pos_of_live hd; omega

theorem Progress.bind_left (f : α → Prog β) (h : Progress L p) : Progress L (p >>= f) := by
  intro s hd; rw [bind_eq, run_bind]
  exact Nat.lt_of_le_of_lt (run_mu_le L _ _) (h s hd)

theorem Progress.bind_right (p : Prog α) (h : ∀ a, Progress L (f a)) : Progress L (p >>= f) := by
  intro s hd; rw [bind_eq, run_bind]
  cases hd1 : dead (run L p s).2
  · exact Nat.lt_of_lt_of_le (h _ _ hd1) (run_mu_le L p s)
  · exact lt_of_dead_run hd hd1 _

theorem Progress.ite {c : Prop} [Decidable c] {p q : Prog α} (h1 : Progress L p) (h2 : Progress L q) :
    Progress L (if c then p else q) := by split <;> assumption

theorem ProgRdy.of_progress (h : Progress L p) : ProgRdy L t p := fun s _ hd => h s hd

theorem ProgRdy.bind_left (f : α → Prog β) (h : ProgRdy L t p) : ProgRdy L t (p >>= f) := by
  intro s hr hd; rw [bind_eq, run_bind]
  exact Nat.lt_of_le_of_lt (run_mu_le L _ _) (h s hr hd)

theorem ProgRdy.keep_bind (hk : Keeps L p) (h : ∀ a, ProgRdy L t (f a)) : ProgRdy L t (p >>= f) := by
  intro s hr hd; rw [bind_eq, run_bind, hk t s hr hd]
  exact h _ s hr hd

theorem Progress.peek_bind {f : Token → Prog α} (h : ∀ t, ProgRdy L t (f t)) : Progress L (peek >>= f) := by
  intro s hd
  rw [bind_eq, run_bind, show run L peek s = s.peek L from rfl]
  obtain ⟨p1, _, p3⟩ := peek_spec L s
  cases hd1 : dead (s.peek L).2
  · exact Nat.lt_of_lt_of_le (h _ _ (p3.resolve_left (by simp [hd1])) hd1) p1
  · exact lt_of_dead_run hd hd1 _

theorem Progress.of_dead (h : ∀ s, dead (run L p s).2 = true) : Progress L p := by
  intro s hd; rw [mu_dead (h s)]; exact mu_pos_of_live hd

theorem Progress.failAt (tok : Token) (msg : Bytes) : Progress L (failAt tok msg) :=
  Progress.of_dead fun s => by
    show dead (s.error tok msg) = true
    simp [dead, (error_spec s tok msg).2.2]

theorem Progress.outOfFuel {α : Type} {L : Nat} (a : α) : Progress L (outOfFuel a) :=
  Progress.of_dead fun _ => by simp [Gql.Parser.outOfFuel, run, dead]

theorem Progress.unexpectedToken {L : Nat} (tok : Token) : Progress L (unexpectedToken tok) :=
  Progress.failAt _ _

theorem Progress.unexpectedError {L : Nat} : Progress L unexpectedError :=
  Progress.bind_right _ fun _ => Progress.unexpectedToken _

theorem ProgRdy.next (h : real t = true) : ProgRdy L t next :=
  fun s hr hd => (next_spec L s).2.2.2 t hr hd h

theorem Keeps.peek : Keeps L peek := by
  intro t s hr _; simp [Gql.Parser.peek, run, peek_ready L hr]

theorem Keeps.hasErr {L : Nat} : Keeps L hasErr := fun _ _ _ _ => rfl
theorem Keeps.getSrc : Keeps L getSrc := fun _ _ _ _ => rfl
theorem Keeps.getPrev {L : Nat} : Keeps L getPrev := fun _ _ _ _ => rfl
theorem Keeps.pure (a : α) : Keeps L (pure a : Prog α) := fun _ _ _ _ => rfl

theorem Keeps.bind (h1 : Keeps L p) (h2 : ∀ a, Keeps L (f a)) : Keeps L (p >>= f) := by
  intro t s hr hd; rw [bind_eq, run_bind, h1 t s hr hd]; exact h2 _ t s hr hd

theorem Keeps.peekPos {L : Nat} : Keeps L peekPos :=
  Keeps.bind Keeps.hasErr fun e => by
    split
    · exact Keeps.pure _
    · exact Keeps.bind Keeps.peek fun _ => Keeps.bind Keeps.getSrc fun _ => Keeps.pure _

theorem kind_real {k : Kind} (h : t.kind = k) (hk : k ≠ .eof) : real t = true := by
  simp [real, h, hk]

theorem Progress.expect {L : Nat} (k : Kind) (hk : k ≠ .eof) : Progress L (expect k) :=
  Progress.peek_bind fun t => by
    split
    · rename_i h; exact ProgRdy.next (kind_real h hk)
    · exact ProgRdy.of_progress (Progress.bind_left _ (Progress.failAt _ _))

theorem Progress.expectKeyword {L : Nat} (v : Bytes) : Progress L (expectKeyword v) :=
  Progress.peek_bind fun t => by
    split
    · rename_i h; exact ProgRdy.next (kind_real h.1 (by decide))
    · exact ProgRdy.of_progress (Progress.bind_left _ (Progress.failAt _ _))

theorem ProgRdy.skip {k : Kind} (ht : t.kind = k) (hk : k ≠ .eof := by decide) : ProgRdy L t (skip k) := by
  intro s hr hd
  simp [Gql.Parser.skip, Gql.Parser.hasErr, Gql.Parser.peek, Gql.Parser.next, Prog.bind, run, hr.2.2,
    peek_ready L hr, ht]
  exact (next_spec L s).2.2.2 t hr hd (kind_real ht hk)

theorem skip_true {k : Kind} (hk : k ≠ .eof) (s : PState) (ho : s.oof = false)
    (h : (run L (skip k) s).1 = true) : mu (run L (skip k) s).2 < mu s := by
  cases he : s.err.isSome
  case true => simp [Gql.Parser.skip, Gql.Parser.hasErr, Prog.bind, run, he] at h
  case false =>
    have hd : dead s = false := by simp [dead, he, ho]
    simp only [Gql.Parser.skip, Gql.Parser.hasErr, Gql.Parser.peek, Gql.Parser.next, Prog.bind, run, he, bind_eq,
      pure_eq, Bool.false_eq_true, ↓reduceIte] at h ⊢
    obtain ⟨p1, _, p3⟩ := peek_spec L s
    by_cases hk' : (s.peek L).1.kind ≠ k
    · simp [hk', run] at h
    · simp only [hk', ↓reduceIte, run]
      cases hd1 : dead (s.peek L).2
      · exact Nat.lt_of_lt_of_le ((next_spec L _).2.2.2 _ (p3.resolve_left (by simp [hd1])) hd1
          (kind_real (by simpa using hk') hk)) p1
      · exact lt_of_dead_run hd hd1 (.next .pure)

theorem Good.mono {α : Type} {L n m : Nat} {p : Prog α} (h : Good L n p) (hmn : m ≤ n) : Good L m p :=
  fun s hs ho => h s (by omega) ho

theorem Good.zero (p : Prog α) : Good L 0 p := fun s hs => by omega

theorem Good.bind (h1 : Good L n p) (h2 : ∀ a, Good L n (f a)) : Good L n (p >>= f) := by
  intro s hs ho; rw [bind_eq, run_bind]
  exact h2 _ _ (Nat.lt_of_le_of_lt (run_mu_le L p s) hs) (h1 s hs ho)

/-- after a program that makes progress the rest may run one level lower; a dead state has
    measure 0, which is why the lower level must be positive -/
theorem Good.bind_lower (hp : Progress L p) (h1 : Good L (n + 1) p) (h2 : ∀ a, Good L n (f a)) (hn : 0 < n) :
    Good L (n + 1) (p >>= f) := by
  intro s hs ho; rw [bind_eq, run_bind]
  refine h2 _ _ ?_ (h1 s hs ho)
  cases hd : dead s
  · have := hp s hd; omega
  · have := run_mu_le L p s; rw [mu_dead hd] at this; omega

/-- the error check of a loop: where the error is not set the state is live, so `1 < n` -/
theorem Good.hasErr_bind {f : Bool → Prog α} (h : ∀ e, (e = false → 1 < n) → Good L n (f e)) :
    Good L n (hasErr >>= f) := by
  intro s hs ho
  refine h s.err.isSome (fun he => ?_) s hs ho
  have := mu_pos_of_live (dead_false_iff.2 ⟨he, ho⟩); omega

theorem Good.pure (a : α) : Good L n (pure a : Prog α) := fun _ _ ho => ho
theorem Good.peek : Good L n peek := fun s _ ho => (peek_spec L s).2.1 ho
theorem Good.next : Good L n next := fun s _ ho => (next_spec L s).2.1 ho
theorem Good.hasErr {L n : Nat} : Good L n hasErr := fun _ _ ho => ho
theorem Good.getSrc : Good L n getSrc := fun _ _ ho => ho
theorem Good.getPrev : Good L n getPrev := fun _ _ ho => ho

theorem Good.failAt (tok : Token) (msg : Bytes) : Good L n (failAt tok msg) :=
  fun s _ ho => ((error_spec s tok msg).2.1).trans ho

theorem Good.ite {α : Type} {L n : Nat} {c : Prop} [Decidable c] {p q : Prog α} (h1 : Good L n p) (h2 : Good L n q) :
    Good L n (if c then p else q) := by split <;> assumption

theorem Good.dite {c : Prop} [Decidable c] {p q : Prog α} (h1 : c → Good L n p) (h2 : ¬ c → Good L n q) :
    Good L n (if c then p else q) := by
  split
  · exact h1 ‹_›
  · exact h2 ‹_›

theorem Good.unexpectedToken {L n : Nat} (tok : Token) : Good L n (unexpectedToken tok) := Good.failAt _ _

theorem Good.unexpectedError {L n : Nat} : Good L n unexpectedError :=
  Good.bind Good.peek fun _ => Good.unexpectedToken _

theorem Good.peekPos {L n : Nat} : Good L n peekPos :=
  Good.bind Good.hasErr fun _ => Good.ite (Good.pure _)
    (Good.bind Good.peek fun _ => Good.bind Good.getSrc fun _ => Good.pure _)

theorem Good.expect {L n : Nat} (k : Kind) : Good L n (expect k) :=
  Good.bind Good.peek fun _ => Good.ite Good.next (Good.bind (Good.failAt _ _) fun _ => Good.pure _)

theorem Good.expectKeyword {L n : Nat} (v : Bytes) : Good L n (expectKeyword v) :=
  Good.bind Good.peek fun _ => Good.ite Good.next (Good.bind (Good.failAt _ _) fun _ => Good.pure _)

theorem Good.skip (k : Kind) : Good L n (skip k) :=
  Good.bind Good.hasErr fun _ => Good.ite (Good.pure _)
    (Good.bind Good.peek fun _ => Good.ite (Good.pure _) (Good.bind Good.next fun _ => Good.pure _))

/-- `skip k >>= f`: the `true` branch runs after a real token has been consumed -/
theorem Good.skip_bind {k : Kind} {f : Bool → Prog α} (ht : Good L n (f true)) (hf : Good L (n + 1) (f false))
    (hk : k ≠ .eof := by decide) : Good L (n + 1) (Gql.Parser.skip k >>= f) := by
  intro s hs ho
  rw [bind_eq, run_bind]
  have ho1 := Good.skip (L := L) k s hs ho
  have hle := run_mu_le L (Gql.Parser.skip k) s
  cases hb : (run L (Gql.Parser.skip k) s).1
  · exact hf _ (by omega) ho1
  · have hlt := skip_true hk s ho hb
    exact ht _ (by omega) ho1

-- in the loops `j` is the level, bounded by the loop fuel and by the level of the body

theorem Good.itemsLoop (stop : Kind) {cb : Prog α} (hg : Good L n cb) (hp : Progress L cb) :
    ∀ (k j : Nat) (acc : List α), j ≤ k → j ≤ n → Good L j (itemsLoop stop cb k acc)
  | _, 0, _, _, _ => Good.zero _
  | k + 1, j + 1, acc, hk, hn =>
    Good.bind Good.peek fun t => Good.hasErr_bind fun e he => Good.dite
      (fun hc => Good.bind_lower hp (hg.mono hn)
        (fun a => Good.itemsLoop stop hg hp k j (a :: acc) (by omega) (by omega))
        (by have := he (by simpa using hc.2); omega))
      fun _ => Good.pure _

theorem Good.sepLoop (sep : Kind) {item : Prog α} (hg : Good L n item) (hsep : sep ≠ .eof := by decide) :
    ∀ (k j : Nat) (acc : List α), j ≤ k → j ≤ n → Good L j (sepLoop sep item k acc)
  | _, 0, _, _, _ => Good.zero _
  | k + 1, j + 1, acc, hk, hn =>
    Good.skip_bind (Good.bind Good.hasErr fun _ => Good.ite (Good.pure _)
      (Good.bind (hg.mono (by omega)) fun a => Good.sepLoop sep hg hsep k j (a :: acc) (by omega) (by omega)))
      (Good.pure _) hsep

theorem Good.directivesLoop {pd : Prog Directive} (hg : Good L n pd) (hp : Progress L pd) :
    ∀ (k j : Nat) (acc : List Directive), j ≤ k → j ≤ n → Good L j (directivesLoop pd k acc)
  | _, 0, _, _, _ => Good.zero _
  | k + 1, j + 1, acc, hk, hn =>
    Good.bind Good.peek fun t => Good.ite
      (Good.hasErr_bind fun e he => Good.dite (fun _ => Good.pure _) fun hc =>
        Good.bind_lower hp (hg.mono hn) (fun d => Good.directivesLoop hg hp k j (d :: acc) (by omega) (by omega))
          (by have := he (by simpa using hc); omega))
      (Good.pure _)

/-- `pMany`, `pSome`: the loop and its body only see states after the opening token has been
    consumed, so a body that is good for `m` makes the whole thing good for `m + 1` -/
theorem Good.pMany (start stop : Kind) {cb : Prog α} (hg : Good L m cb) (hp : Progress L cb)
    (hk : n ≤ k := by omega) (hm : n ≤ m + 1 := by omega) (hstart : start ≠ .eof := by decide) :
    Good L n (pMany start stop k cb) :=
  match n with
  | 0 => Good.zero _
  | n + 1 => Good.skip_bind
      (Good.bind (Good.itemsLoop stop hg hp k n [] (by omega) (by omega)) fun _ =>
        Good.bind Good.next fun _ => Good.pure _)
      (Good.pure _) hstart

theorem Good.pSome (start stop : Kind) {cb : Prog α} (hg : Good L m cb) (hp : Progress L cb)
    (hk : n ≤ k := by omega) (hm : n ≤ m + 1 := by omega) (hstart : start ≠ .eof := by decide) :
    Good L n (pSome start stop k cb) :=
  match n with
  | 0 => Good.zero _
  | n + 1 => Good.skip_bind
      (Good.bind (Good.itemsLoop stop hg hp k n [] (by omega) (by omega)) fun _ => Good.ite
        (Good.bind Good.peek fun _ => Good.bind Good.peek fun _ => Good.bind (Good.failAt _ _) fun _ => Good.pure _)
        (Good.bind Good.next fun _ => Good.pure _))
      (Good.pure _) hstart

theorem ProgRdy.pMany {start : Kind} (stop : Kind) (k : Nat) (cb : Prog α) (ht : t.kind = start)
    (hstart : start ≠ .eof := by decide) : ProgRdy L t (pMany start stop k cb) :=
  ProgRdy.bind_left _ (ProgRdy.skip ht hstart)

theorem ProgRdy.pSome {start : Kind} (stop : Kind) (k : Nat) (cb : Prog α) (ht : t.kind = start)
    (hstart : start ≠ .eof := by decide) : ProgRdy L t (pSome start stop k cb) :=
  ProgRdy.bind_left _ (ProgRdy.skip ht hstart)

theorem mu_init (src : Nat) (inp : Bytes) : mu (PState.init src inp) = inp.length + 1 := by
  simp [mu, dead, bonus, PState.init]

theorem Good.run_init {inp : Bytes} (h : Good L (fuelFor inp) p) (src : Nat) :
    (run L p (PState.init src inp)).2.oof = false :=
  h _ (by rw [mu_init]; unfold fuelFor; omega) rfl

theorem ofRun_ne_outOfFuel {r : α × PState} (h : r.2.oof = false) : Result.ofRun r ≠ .outOfFuel := by
  unfold Result.ofRun; rw [h, if_neg Bool.false_ne_true]; split <;> simp

theorem Result.ok_or_error {r : Result α} (h : r ≠ .outOfFuel) : (∃ d, r = .ok d) ∨ (∃ e, r = .error e) := by
  cases r with
  | ok d => exact .inl ⟨d, rfl⟩
  | error e => exact .inr ⟨e, rfl⟩
  | outOfFuel => exact absurd rfl h

end Gql.Parser
