import GqlModel.Parser.Schema
/-
  The twelve functions of parser/schema.go for type definitions and type extensions (`parseScalarTypeDefinition` …
  `parseInputObjectTypeExtension` of the model, written out one by one) as ONE program: `typeBody n k fin` is their
  common text, with the kind `k` as a parameter and what is done with the parts as a continuation `fin` (a definition
  builds the record, an extension first checks that it extends something).  The model's functions ARE `typeBody` by
  computation (`defParser_eq`, `extParser_eq`: a part that a kind does not have is `pure [] >>= …`, which reduces), so
  a program logic walks the body once, by cases on `k` (`spec_typeBody`, `reads_typeBody`, `parses_typeBody`,
  `s_typeBody`).  `Good` (Parser/FuelSchema), which has no postcondition to assemble, walks the twelve as they stand.
-/
namespace Gql.Parser
open Gql Gql.Lexer

def kwOf : DefKind → Bytes
  | .scalar => kwScalar | .object => kwType | .interface => kwInterface | .union => kwUnion | .enum => kwEnum
  | .inputObject => kwInput

def typeDefOf (k : DefKind) (desc : Bytes) (pos : Pos) (name : Name) (ifs : List Name) (dirs : List Directive) (fields : List FieldDef)
    (types : List Name) (evs : List EnumValDef) : Definition :=
  { kind := k, desc := desc, name := name, dirs := dirs, interfaces := ifs, fields := fields, types := types, enumValues := evs,
    pos := pos, builtIn := false }

/-- `keyword Name ImplementsInterfaces? Directives? (Fields | Members | Values | InputFields)?`: the parts a kind does not have
    are not parsed; `fin` is what is done with the parts -/
def typeBody {β : Type} (n : Nat) (k : DefKind)
    (fin : Pos → Name → List Name → List Directive → List FieldDef → List Name → List EnumValDef → Prog β) : Prog β := do
  let _ ← expectKeyword (kwOf k)
  let pos ← peekPos
  let name ← parseName
  let ifs ← (match k with
    | .object | .interface => parseImplementsInterfaces n
    | _ => pure [])
  let dirs ← parseDirectives n true
  let fields ← (match k with
    | .object | .interface => parseFieldsDefinition n
    | .inputObject => parseInputFieldsDefinition n
    | _ => pure [])
  let types ← (match k with
    | .union => parseUnionMemberTypes n
    | _ => pure [])
  let evs ← (match k with
    | .enum => parseEnumValuesDefinition n
    | _ => pure [])
  fin pos name ifs dirs fields types evs

def defParser (k : DefKind) (n : Nat) (desc : Bytes) : Prog Definition :=
  match k with
  | .scalar => parseScalarTypeDefinition n desc
  | .object => parseObjectTypeDefinition n desc
  | .interface => parseInterfaceTypeDefinition n desc
  | .union => parseUnionTypeDefinition n desc
  | .enum => parseEnumTypeDefinition n desc
  | .inputObject => parseInputObjectTypeDefinition n desc

theorem defParser_eq (k : DefKind) (n : Nat) (desc : Bytes) :
    defParser k n desc =
      typeBody n k (fun pos name ifs dirs fields types evs => pure (typeDefOf k desc pos name ifs dirs fields types evs)) := by
  cases k <;> rfl

def extParser (k : DefKind) (n : Nat) : Prog Definition :=
  match k with
  | .scalar => parseScalarTypeExtension n
  | .object => parseObjectTypeExtension n
  | .interface => parseInterfaceTypeExtension n
  | .union => parseUnionTypeExtension n
  | .enum => parseEnumTypeExtension n
  | .inputObject => parseInputObjectTypeExtension n

def extendsNothing (k : DefKind) (ifs : List Name) (dirs : List Directive) (fields : List FieldDef) (types : List Name)
    (evs : List EnumValDef) : Prop :=
  match k with
  | .scalar => dirs.length = 0
  | .object | .interface => ifs.length = 0 ∧ dirs.length = 0 ∧ fields.length = 0
  | .union => dirs.length = 0 ∧ types.length = 0
  | .enum => dirs.length = 0 ∧ evs.length = 0
  | .inputObject => dirs.length = 0 ∧ fields.length = 0

instance (k : DefKind) (ifs : List Name) (dirs : List Directive) (fields : List FieldDef) (types : List Name)
    (evs : List EnumValDef) : Decidable (extendsNothing k ifs dirs fields types evs) := by
  cases k <;> unfold extendsNothing <;> infer_instance

theorem extParser_eq (k : DefKind) (n : Nat) :
    extParser k n = typeBody n k (fun pos name ifs dirs fields types evs => do
      if extendsNothing k ifs dirs fields types evs then unexpectedError
      pure (typeDefOf k [] pos name ifs dirs fields types evs)) := by
  cases k <;> rfl

end Gql.Parser
