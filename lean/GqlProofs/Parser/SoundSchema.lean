import GqlProofs.Parser.SoundQuery
import GqlProofs.Grammar.PrintSchema
import GqlProofs.Parser.TypeBody
/-
  Soundness of the schema parser programs of `GqlModel/Parser/Schema.lean` against the grammar
  `gql` (type-system document) and the unparser `Print.printSchema`.
  Unlike the executable grammar, almost every production here can contain a Description, whose
  spelling the tree does not record (block string or quoted string; an empty description is
  dropped), and three productions have an optional leading separator (`&`, `|`).  So the
  predicates carry a derivation whose canonical output is the unparse, not a token equation.
  As in `SoundQuery.lean` they also say that the parts of the tree the unparser does not print are what the
  parser builds (`ArgDefOK`, … `ItemOK`).
-/
namespace Gql.Parser
open Gql Gql.Lexer Gql.Grammar Gql.Print


/-- `Description?` -/
def PDesc (d : Bytes) (u : List Token) : Prop := Derives gql (.opt (.nt .description)) (tk u) (printDesc d)

theorem derives_desc (t : Token) (hk : t.kind = .string ∨ t.kind = .blockString) :
    Derives gql (.opt (.nt .description)) [Tok.ofToken t] (printDesc t.value) := by
  have h1 : Derives gql (stringValue : Sym NT) [Tok.ofToken t] [Tok.ofToken t] :=
    Derives.tok (by rcases hk with h | h <;> simp [Tok.ofToken, h])
  have := Derives.optSome (Derives.nt (n := NT.description) (Derives.canon (f := canonDescription) h1))
  exact this.cast rfl (by by_cases h : t.value = [] <;> simp [canonDescription, printDesc, Tok.ofToken, h])

theorem spec_parseDescription :
    Spec parseDescription (fun d a a' => ∃ u, Ate a a' u ∧ PDesc d u ∧
      (a.σ.head.kind ≠ .string → a.σ.head.kind ≠ .blockString → u = [] ∧ d = [])) := by
  unfold parseDescription
  refine (Spec.bind spec_peek fun token => Spec.ite (fun _ => Spec.pure [])
    (fun _ => Spec.bind spec_next fun t => Spec.pure t.value)).mono ?_
  rintro d a a'' hne ⟨token, a1, ⟨rfl, rfl⟩, ⟨hk, rfl, rfl⟩ | ⟨hk, t, a2, hn, rfl, rfl⟩⟩
  · exact ⟨[], Ate.peeked a, Derives.optNone, fun _ _ => ⟨rfl, rfl⟩⟩
  · have hk' : a.σ.head.kind = .blockString ∨ a.σ.head.kind = .string := by
      by_cases h1 : a.σ.head.kind = .blockString
      · exact .inl h1
      · by_cases h2 : a.σ.head.kind = .string
        · exact .inr h2
        · exact absurd ⟨h1, h2⟩ hk
    have hks : ∃ k, a.σ.head.kind = k ∧ k ≠ .eof ∧ k ≠ .invalid := by
      rcases hk' with h | h <;> exact ⟨_, h, by decide, by decide⟩
    obtain ⟨k, hk1, hk2, hk3⟩ := hks
    obtain ⟨e1, e2, _⟩ := next_eats (a := { a with pk := true }) hne rfl hk1 hk2 hk3 hn
    refine ⟨[t], (Ate.peeked a).trans e2, ?_, fun h1 h2 => ?_⟩
    · exact derives_desc t (by rw [e1]; rcases hk' with h | h; exact .inr h; exact .inl h)
    · rcases hk' with h | h
      · exact absurd h h2
      · exact absurd h h1


theorem spec_sepLoop {α : Type} {P : α → List Token → Prop} (sep : Kind) {item : Prog α} (hitem : Spec item (Eats P)) (n : Nat)
    (acc : List α) (h1 : sep ≠ .eof := by decide) (h2 : sep ≠ .invalid := by decide) (hv : sep.valued = false := by decide) :
    Spec (sepLoop sep item n acc) (Eats fun xs used => ∃ items, xs = items.reverse ++ acc ∧
      Many (fun x u => ∃ u0 u', u = u0 ++ u' ∧ tk u0 = [tP sep] ∧ P x u') items used) := by
  induction n generalizing acc with
  | zero => exact Spec.of_dead (outOfFuel_dead _)
  | succ n ih =>
    unfold sepLoop
    exact Spec.seq (spec_optPunct sep h1 h2 hv) fun
      | true, u0, p0 => Spec.hasErr_ite (Spec.seq hitem fun x u g => Spec.last (ih (x :: acc)) fun _ _ ⟨items, e, hm⟩ =>
          ⟨x :: items, by simp [e], List.append_assoc u0 u _ ▸ .cons ⟨u0, u, rfl, by simpa using p0, g⟩ hm⟩)
      | false, u0, p0 => Spec.ret acc (by obtain rfl : u0 = [] := by simpa [tk] using p0
                                          exact ⟨[], rfl, .nil⟩)

theorem many_sepNames {Q : Name → Prop} {sep : Kind} {items : List Name} {used : List Token}
    (h : Many (fun x u => ∃ u0 u', u = u0 ++ u' ∧ tk u0 = [tP sep] ∧ (tk u' = [tName x] ∧ Q x)) items used) :
    tk used = items.flatMap (fun m => [tP sep, tName m]) ∧ ∀ x ∈ items, Q x := by
  induction h with
  | nil => exact ⟨rfl, fun _ h => by cases h⟩
  | cons hx _ ih =>
    obtain ⟨u0, u', rfl, e1, e2, e3⟩ := hx
    exact ⟨by simp [e1, e2, ih.1], List.forall_mem_cons.2 ⟨e3, ih.2⟩⟩

theorem derives_sepList (a : Sym NT) (sep : Kind) (lead : Bool) (first : Name) (rest : List Name)
    (h : ∀ m ∈ first :: rest, L a [tName m]) :
    Derives gql (.seq (noise (.opt (Grammar.kind sep))) (.seq a (.star (.seq (Grammar.kind sep) a))))
      ((if lead then [tP sep] else []) ++ printSep sep (first :: rest)) (printSep sep (first :: rest)) := by
  have hn : Derives gql (noise (.opt (Grammar.kind sep)) : Sym NT) (if lead then [tP sep] else []) [] := by
    cases lead
    · exact Derives.canon (f := fun _ => []) Derives.optNone
    · exact Derives.canon (f := fun _ => []) (Derives.optSome (L.kind sep))
  exact (Derives.seq hn (L_sep a sep first rest h)).cast rfl rfl

/-- the common part `sep? x (sep x)*` of the three parsers of separated names -/
theorem spec_sepList {Q : Name → Prop} (sep : Kind) {item : Prog Name} (hitem : Spec item (Eats fun m u => tk u = [tName m] ∧ Q m))
    (n : Nat) (h1 : sep ≠ .eof := by decide) (h2 : sep ≠ .invalid := by decide) (hv : sep.valued = false := by decide) :
    Spec (do
      let _ ← skip sep
      let first ← item
      let more ← sepLoop sep item n [first]
      pure more.reverse) (Eats fun xs u => ∃ (lead : Bool) (first : Name) (rest : List Name), xs = first :: rest ∧
        tk u = (if lead then [tP sep] else []) ++ printSep sep (first :: rest) ∧ ∀ m ∈ first :: rest, Q m) :=
  Spec.seq (spec_optPunct sep h1 h2 hv) fun lead _ p0 => Spec.seq hitem fun first _ p1 =>
    Spec.seq (spec_sepLoop sep hitem n [first] h1 h2 hv) fun _ _ ⟨items, e, hm⟩ => Spec.ret _
      ⟨lead, first, items, by simp [e], by simp [p0, p1.1, (many_sepNames hm).1, printSep_cons],
        List.forall_mem_cons.2 ⟨p1.2, (many_sepNames hm).2⟩⟩

theorem spec_parseNameQ : Spec parseName (Eats fun m u => tk u = [tName m] ∧ True) :=
  Spec.last spec_parseName fun _ _ h => ⟨h, trivial⟩

theorem spec_parseImplementsInterfaces (n : Nat) :
    Spec (parseImplementsInterfaces n) (fun ifs a a' => ∃ u, Ate a a' u ∧
      OptD .implementsInterfaces (tk u) (printImplements ifs) (ifs = [])) := by
  unfold parseImplementsInterfaces
  exact Spec.peek fun t => Spec.ite_same
    (fun hk => Spec.next_peeked (by rw [hk.1]; decide) (by rw [hk.1]; decide) fun _ =>
      Spec.last (spec_sepList .amp spec_parseNameQ n) fun _ _ ⟨lead, first, rest, e, p, _⟩ _ _ => e ▸ .inr ⟨by simp,
        (Derives.nt (n := NT.implementsInterfaces) (D.kwCons "implements"
          (derives_sepList (.nt .namedType) .amp lead first rest fun m _ => L.namedType m))).cast
          (by simp [kwTok hk.1 hk.2, p]) (by simp [printImplements])⟩)
    (fun _ => Spec.forget <| Spec.ret [] (.inl ⟨rfl, rfl, rfl⟩))

theorem spec_parseUnionMemberTypes (n : Nat) :
    Spec (parseUnionMemberTypes n) (fun ts a a' => ∃ u, Ate a a' u ∧
      OptD .unionMemberTypes (tk u) (printMembers ts) (ts = [])) := by
  unfold parseUnionMemberTypes
  exact Spec.seq (spec_optPunct .equals) fun
    | true, _, p0 => Spec.last (spec_sepList .pipe spec_parseNameQ n) fun _ _ ⟨lead, first, rest, e, p, _⟩ => e ▸ .inr ⟨by simp,
        (Derives.nt (n := NT.unionMemberTypes) (D.kindCons .equals
          (derives_sepList (.nt .namedType) .pipe lead first rest fun m _ => L.namedType m))).cast
          (by simp [p0, p]) (by simp [printMembers])⟩
    | false, _, p0 => Spec.ret [] (.inl ⟨rfl, by simpa using p0, rfl⟩)

theorem locationNames_eq : Gql.Parser.directiveLocationNames = Gql.Grammar.directiveLocationNames := rfl

theorem spec_parseDirectiveLocation :
    Spec parseDirectiveLocation (Eats fun l u => tk u = [tName l] ∧ l ∈ Gql.Grammar.directiveLocationNames) := by
  unfold parseDirectiveLocation
  exact Spec.seq (spec_expect .name (by decide) (by decide)) fun name _ ⟨e, k1, _⟩ => Spec.ite_same
    (fun hc => Spec.ret _ ⟨by simp [e, ofToken_name k1], locationNames_eq ▸ List.contains_iff_mem.1 hc⟩)
    (fun _ => Spec.of_dead_bind (failAt_dead _ _))

theorem spec_parseDirectiveLocations (n : Nat) :
    Spec (parseDirectiveLocations n) (Eats fun ls u =>
      ls ≠ [] ∧ (∀ l ∈ ls, l ∈ Gql.Grammar.directiveLocationNames) ∧
      Derives gql (.nt .directiveLocations) (tk u) (printSep .pipe ls)) :=
  Spec.last (spec_sepList .pipe spec_parseDirectiveLocation n) fun _ _ ⟨lead, first, rest, e, p, hq⟩ => e ▸ ⟨by simp, hq,
    (Derives.nt (n := NT.directiveLocations) (derives_sepList (.nt .directiveLocation) .pipe lead first rest fun m hm =>
      L.nt (L.tok (by simpa [tName] using List.contains_iff_mem.mpr (hq m hm))))).cast (by simp [p]) rfl⟩


/-- an item: under the guard `G`, the consumed tokens derive `item` with canonical form `f x` -/
def PItem {α : Type} (item : NT) (f : α → List Tok) (G Q : α → Prop) (x : α) (u : List Token) : Prop :=
  (G x → Derives gql (.nt item) (tk u) (f x)) ∧ Q x

theorem many_derives {α : Type} {item : NT} {f : α → List Tok} {G Q : α → Prop} {xs : List α} {mid : List Token}
    (h : Many (PItem item f G Q) xs mid) :
    ((∀ x ∈ xs, G x) → Derives gql (.star (.nt item)) (tk mid) (xs.flatMap f)) ∧ ∀ x ∈ xs, Q x := by
  induction h with
  | nil => exact ⟨fun _ => Derives.starNil, fun _ h => by cases h⟩
  | cons hx _ ih =>
    refine ⟨fun hg => ?_, List.forall_mem_cons.2 ⟨hx.2, ih.2⟩⟩
    simp only [tk_append, List.flatMap_cons]
    exact Derives.starCons (hx.1 (hg _ (by simp))) (ih.1 fun y hy => hg y (by simp [hy]))

theorem spec_block {α : Type} {item : NT} {f : α → List Tok} {G Q : α → Prop} (nt : NT) (start stop : Kind)
    (hrule : gql.rules nt = .seq (Grammar.kind start) (.seq (.plus (.nt item)) (Grammar.kind stop))) (n : Nat) {cb : Prog α}
    (hcb : Spec cb (Eats (PItem item f G Q))) (h1 : start ≠ .eof := by decide) (h1' : start ≠ .invalid := by decide)
    (h2 : stop ≠ .eof := by decide) (h2' : stop ≠ .invalid := by decide) (hv1 : start.valued = false := by decide)
    (hv2 : stop.valued = false := by decide) :
    Spec (pSome start stop n cb) (Eats fun xs u =>
      ((∀ x ∈ xs, G x) → OptD nt (tk u) (if xs.isEmpty then [] else tP start :: xs.flatMap f ++ [tP stop]) (xs = [])) ∧
      (xs = [] → u = []) ∧ ∀ x ∈ xs, Q x) := by
  refine (spec_pSome start stop h1 h1' h2 h2' n hcb).mono fun xs a a' _ ⟨hb, hne⟩ => ?_
  by_cases hk : a.σ.head.kind = start
  · obtain ⟨mid, u, hu, e, hm⟩ := hb.of_open hk hv1 hv2
    refine ⟨u, hu, fun hg => .inr ⟨hne hk, Derives.nt ?_⟩, fun h => absurd h (hne hk), (many_derives hm).2⟩
    cases hm with
    | nil => exact absurd rfl (hne hk)
    | cons hx hrest =>
      rw [hrule]
      exact (Derives.seq (L.kind start) (Derives.seq (Derives.plus (hx.1 (hg _ (by simp)))
        ((many_derives hrest).1 fun y hy => hg y (by simp [hy]))) (L.kind stop))).cast (by simp [e]) (by simp)
  · rcases hb with ⟨rfl, _, rfl⟩ | ⟨hk', _⟩
    · exact ⟨[], Ate.peeked a, fun _ => .inl ⟨rfl, rfl, rfl⟩, fun _ => rfl, fun _ h => nomatch h⟩
    · exact absurd hk' hk


def CDirs (ds : List Directive) : Prop := DirsOK ds ∧ ConstDirectives ds
def CDefault (dv : Option Value) : Prop := ∀ d, dv = some d → ValueOK d ∧ ConstValue d

def ArgDefOK (a : ArgDef) : Prop := CDefault a.default ∧ CDirs a.dirs
def FieldDefOK (f : FieldDef) : Prop := (∀ a ∈ f.args, ArgDefOK a) ∧ f.default = none ∧ CDirs f.dirs
def InputFieldOK (f : FieldDef) : Prop := f.args = [] ∧ CDefault f.default ∧ CDirs f.dirs
def EnumValOK (e : EnumValDef) : Prop := CDirs e.dirs

/-- the parts of a definition that its kind does not print are empty, the others are printable -/
def DefOK (d : Definition) : Prop :=
  CDirs d.dirs ∧
  match d.kind with
  | .scalar => d.interfaces = [] ∧ d.fields = [] ∧ d.types = [] ∧ d.enumValues = []
  | .object => d.types = [] ∧ d.enumValues = [] ∧ ∀ f ∈ d.fields, FieldDefOK f
  | .interface => d.types = [] ∧ d.enumValues = [] ∧ ∀ f ∈ d.fields, FieldDefOK f
  | .union => d.interfaces = [] ∧ d.fields = [] ∧ d.enumValues = []
  | .enum => d.interfaces = [] ∧ d.fields = [] ∧ d.types = [] ∧ ∀ e ∈ d.enumValues, EnumValOK e
  | .inputObject => d.interfaces = [] ∧ d.types = [] ∧ d.enumValues = [] ∧ ∀ f ∈ d.fields, InputFieldOK f

def SchemaDefOK (s : SchemaDef) : Prop := CDirs s.dirs ∧ s.opTypes ≠ [] ∧ ∀ o ∈ s.opTypes, isOperationType o.op
def SchemaExtOK (s : SchemaDef) : Prop :=
  s.desc = [] ∧ CDirs s.dirs ∧ (s.dirs ≠ [] ∨ s.opTypes ≠ []) ∧ ∀ o ∈ s.opTypes, isOperationType o.op

def DirectiveDefOK (d : DirectiveDef) : Prop :=
  (∀ a ∈ d.args, ArgDefOK a) ∧ d.locations ≠ [] ∧ ∀ l ∈ d.locations, l ∈ Gql.Grammar.directiveLocationNames


theorem spec_parseDescription_eats : Spec parseDescription (Eats PDesc) :=
  spec_parseDescription.mono fun _ _ _ _ ⟨u, h, p, _⟩ => ⟨u, h, p⟩

/-- `Description? Name : Type DefaultValue? Directives?`, whatever record `mk` builds from the parts -/
theorem spec_inputValue {β : Type} (n : Nat) (mk : Pos → Bytes → Name → GType → Option Value → List Directive → β) :
    Spec (do
      let pos ← peekPos
      let desc ← parseDescription
      let _ ← peek
      let name ← parseName
      let _ ← expect .colon
      let ty ← parseTypeReference n
      let dv ← do
        if ← skip .equals then
          let v ← parseValueLiteral n true
          pure (Option.some v)
        else pure none
      let dirs ← parseDirectives n true
      pure (mk pos desc name ty dv dirs)) (Eats fun y u => ∃ pos desc name ty dv dirs tsD, y = mk pos desc name ty dv dirs ∧
        (∀ d, dv = some d → ConstValue d) ∧ ConstDirectives dirs ∧ Derives gql (.opt (.nt .description)) tsD (printDesc desc) ∧
        tk u = tsD ++ tName name :: tP .colon :: (printType ty ++ (printDefault dv ++ printDirectives dirs)) ∧
        CDefault dv ∧ CDirs dirs) :=
  Spec.seq0 spec_peekPos_eats fun pos => Spec.seq spec_parseDescription_eats fun desc u0 p0 =>
    Spec.seq0 spec_peek_eats fun _ => Spec.seq spec_parseName fun name _ p1 => Spec.seq (spec_punct .colon) fun _ _ p2 =>
    Spec.seq (spec_parseTypeReference n) fun ty _ p3 => Spec.seq (spec_optPunct .equals) fun
      | true, _, pe => Spec.seq (spec_parseValueLiteral true n) fun v _ pv => Spec.pure_bind <|
          Spec.seq (spec_parseDirectives n true) fun dirs _ p5 => Spec.ret _ ⟨pos, desc, name, ty, some v, dirs, tk u0, rfl,
            fun _ hd => Option.some.inj hd ▸ pv.2.1 rfl, p5.2.1 rfl, p0, by simp [p1, p2, p3, pe, pv.1, p5.1, printDefault],
            fun _ hd => Option.some.inj hd ▸ ⟨pv.2.2, pv.2.1 rfl⟩, p5.2.2, p5.2.1 rfl⟩
      | false, _, pe => Spec.pure_bind <| Spec.seq (spec_parseDirectives n true) fun dirs _ p5 =>
          Spec.ret _ ⟨pos, desc, name, ty, none, dirs, tk u0, rfl, fun _ hd => (by cases hd), p5.2.1 rfl, p0,
            by simp [p1, p2, p3, pe, p5.1, printDefault], fun _ hd => (by cases hd), p5.2.2, p5.2.1 rfl⟩

/-- an argument definition (InputValueDefinition) -/
def PArgDef : ArgDef → List Token → Prop :=
  PItem .inputValueDefinition printArgDef (fun _ => True) fun a => WFArgDef a ∧ ArgDefOK a

theorem spec_parseArgumentDef (n : Nat) : Spec (parseArgumentDef n) (Eats PArgDef) := by
  unfold parseArgumentDef
  exact Spec.last (spec_inputValue n fun pos desc name ty dv dirs => (⟨desc, name, dv, ty, dirs, pos⟩ : ArgDef))
    fun _ _ ⟨_, _, _, _, _, _, _, e, h1, h2, hD, htk, k1, k2⟩ =>
      e ▸ ⟨fun _ => (derives_inputValue _ _ _ _ _ hD h1 h2).cast htk.symm (by simp [printArgDef]), ⟨h1, h2⟩, k1, k2⟩

/-- `ArgumentsDefinition?` -/
def PArgDefs (as : List ArgDef) (u : List Token) : Prop :=
  OptD .argumentsDefinition (tk u) (printArgDefs as) (as = []) ∧ (∀ a ∈ as, WFArgDef a) ∧ ∀ a ∈ as, ArgDefOK a

theorem spec_parseArgumentDefs (n : Nat) : Spec (parseArgumentDefs n) (Eats PArgDefs) :=
  Spec.last (spec_block .argumentsDefinition .parenL .parenR rfl n (spec_parseArgumentDef n))
    fun _ _ h => ⟨h.1 fun _ _ => trivial, fun a ha => (h.2.2 a ha).1, fun a ha => (h.2.2 a ha).2⟩

/-- an input field (InputValueDefinition of an input object) -/
def PInputField : FieldDef → List Token → Prop :=
  PItem .inputValueDefinition printInputField (fun _ => True) fun f => WFInputField f ∧ InputFieldOK f

theorem spec_parseInputValueDef (n : Nat) : Spec (parseInputValueDef n) (Eats PInputField) := by
  unfold parseInputValueDef
  exact Spec.last (spec_inputValue n fun pos desc name ty dv dirs => (⟨desc, name, [], dv, ty, dirs, pos⟩ : FieldDef))
    fun _ _ ⟨_, _, _, _, _, _, _, e, h1, h2, hD, htk, k1, k2⟩ =>
      e ▸ ⟨fun _ => (derives_inputValue _ _ _ _ _ hD h1 h2).cast htk.symm (by simp [printInputField]), ⟨h1, h2⟩, rfl, k1, k2⟩

/-- `InputFieldsDefinition?` -/
def PInputFields (fs : List FieldDef) (u : List Token) : Prop :=
  OptD .inputFieldsDefinition (tk u) (printBlock printInputField fs) (fs = []) ∧ (∀ f ∈ fs, WFInputField f) ∧
    ∀ f ∈ fs, InputFieldOK f

theorem spec_parseInputFieldsDefinition (n : Nat) : Spec (parseInputFieldsDefinition n) (Eats PInputFields) :=
  Spec.last (spec_block .inputFieldsDefinition .braceL .braceR rfl n (spec_parseInputValueDef n))
    fun _ _ h => ⟨h.1 fun _ _ => trivial, fun f hf => (h.2.2 f hf).1, fun f hf => (h.2.2 f hf).2⟩

def PFieldDef : FieldDef → List Token → Prop :=
  PItem .fieldDefinition printFieldDef (fun _ => True) fun f => WFFieldDef f ∧ FieldDefOK f

theorem spec_parseFieldDefinition (n : Nat) : Spec (parseFieldDefinition n) (Eats PFieldDef) := by
  unfold parseFieldDefinition
  exact Spec.seq0 spec_peekPos_eats fun pos => Spec.seq spec_parseDescription_eats fun desc _ p0 =>
    Spec.seq0 spec_peek_eats fun _ => Spec.seq spec_parseName fun name _ p1 =>
    Spec.seq (spec_parseArgumentDefs n) fun args _ p2 => Spec.seq (spec_punct .colon) fun _ _ p3 =>
    Spec.seq (spec_parseTypeReference n) fun ty _ p4 => Spec.seq (spec_parseDirectives n true) fun dirs _ p5 =>
    Spec.ret _ ⟨fun _ => (Derives.nt (n := NT.fieldDefinition) (Derives.seq p0 (D.nameCons name (Derives.seq p2.1.opt
      (D.kindCons .colon (Derives.seq (L_type ty) (L_optDirectives true dirs p5.2.1))))))).cast
      (by simp [p1, p3, p4, p5.1]) (by simp [printFieldDef]), ⟨p2.2.1, p5.2.1 rfl⟩, p2.2.2, rfl, p5.2.2, p5.2.1 rfl⟩

/-- `FieldsDefinition?` -/
def PFields (fs : List FieldDef) (u : List Token) : Prop :=
  OptD .fieldsDefinition (tk u) (printBlock printFieldDef fs) (fs = []) ∧ (∀ f ∈ fs, WFFieldDef f) ∧ ∀ f ∈ fs, FieldDefOK f

theorem spec_parseFieldsDefinition (n : Nat) : Spec (parseFieldsDefinition n) (Eats PFields) :=
  Spec.last (spec_block .fieldsDefinition .braceL .braceR rfl n (spec_parseFieldDefinition n))
    fun _ _ h => ⟨h.1 fun _ _ => trivial, fun f hf => (h.2.2 f hf).1, fun f hf => (h.2.2 f hf).2⟩

/-- an enum value definition; the parser takes any Name, the grammar excludes `true`, `false`,
    `null`, so the derivation is conditional -/
def PEnumVal : EnumValDef → List Token → Prop :=
  PItem .enumValueDefinition printEnumVal (fun e => notLiteralName e.name) (fun e => ConstDirectives e.dirs ∧ EnumValOK e)

theorem spec_parseEnumValueDefinition (n : Nat) : Spec (parseEnumValueDefinition n) (Eats PEnumVal) := by
  unfold parseEnumValueDefinition
  exact Spec.seq0 spec_peekPos_eats fun pos => Spec.seq spec_parseDescription_eats fun desc _ p0 =>
    Spec.seq0 spec_peek_eats fun _ => Spec.seq spec_parseName fun name _ p1 =>
    Spec.seq (spec_parseDirectives n true) fun dirs _ p2 => Spec.ret _ ⟨fun ⟨g1, g2, g3⟩ =>
      (Derives.nt (n := NT.enumValueDefinition) (Derives.seq p0 (Derives.seq
        (L.nt (n := NT.enumValue) (L.tok (t := tName name) (by simp [tName, g1, g2, g3]))) (L_optDirectives true dirs p2.2.1)))).cast
        (by simp [p1, p2.1]) (by simp [printEnumVal]), p2.2.1 rfl, p2.2.2, p2.2.1 rfl⟩

/-- `EnumValuesDefinition?` -/
def PEnumVals (es : List EnumValDef) (u : List Token) : Prop :=
  ((∀ e ∈ es, notLiteralName e.name) → OptD .enumValuesDefinition (tk u) (printBlock printEnumVal es) (es = [])) ∧
    (es = [] → u = []) ∧ ∀ e ∈ es, ConstDirectives e.dirs ∧ EnumValOK e

theorem spec_parseEnumValuesDefinition (n : Nat) : Spec (parseEnumValuesDefinition n) (Eats PEnumVals) :=
  spec_block .enumValuesDefinition .braceL .braceR rfl n (spec_parseEnumValueDefinition n)

/-- the body of a type definition or extension was parsed from `u` -/
def BodyOf (d : Definition) (u : List Token) : Prop :=
  ∃ tsI tsB, tk u = DefKind.keyword d.kind :: tName d.name :: (tsI ++ (printDirectives d.dirs ++ tsB)) ∧
    ConstDirectives d.dirs ∧ (∃ t ∈ u, d.pos.start = t.start) ∧ BodyParts d tsI tsB

/-- the common head `keyword Name` of the type definitions and type extensions; the recorded position
    (that of the name token) is that of a consumed token -/
theorem spec_typeHead {γ : Type} (s : String) {k : Pos → Name → Prog γ} {Q : γ → List Token → Prop}
    (hk : ∀ pos name, Spec (k pos name) (Eats fun y v => ∀ u, tk u = [tKw s, tName name] →
      (∀ w, ∃ t ∈ u ++ w, pos.start = t.start) → Q y (u ++ v))) :
    Spec (do
      let _ ← expectKeyword (str s)
      let pos ← peekPos
      let name ← parseName
      k pos name) (Eats Q) :=
  Spec.seq (spec_keyword s) fun _ u0 p0 => Spec.peekPos fun pos => Spec.seq spec_parseName' fun name u1 ⟨t, e, k1, v1, _⟩ =>
    Spec.last (hk pos name) fun y v h hpos => by
      subst e v1
      simpa using h (u0 ++ [t]) (by simp [p0, ofToken_name k1]) fun w => ⟨t, by simp, hpos t _ rfl⟩

/-- the bodies of all type definitions and extensions, once: `fin` is told that the record built from the parts was parsed
    from the consumed tokens and that its unprinted parts are what the parser builds -/
theorem spec_typeBody {γ : Type} (n : Nat) (k : DefKind)
    {fin : Pos → Name → List Name → List Directive → List FieldDef → List Name → List EnumValDef → Prog γ}
    {Q : γ → List Token → Prop}
    (hfin : ∀ pos name ifs dirs fields types evs, Spec (fin pos name ifs dirs fields types evs) (Eats fun y v => ∀ u,
      (∀ desc, BodyOf (typeDefOf k desc pos name ifs dirs fields types evs) u ∧
        DefOK (typeDefOf k desc pos name ifs dirs fields types evs)) → Q y (u ++ v))) :
    Spec (typeBody n k fin) (Eats Q) := by
  unfold typeBody
  cases k with
  | scalar =>
    exact spec_typeHead "scalar" fun pos name => Spec.pure_bind <| Spec.seq (spec_parseDirectives n true) fun dirs uD p3 =>
      Spec.pure_bind <| Spec.pure_bind <| Spec.pure_bind <| Spec.last (hfin pos name [] dirs [] [] []) fun y v h u0 e hp => by
        simpa using h (u0 ++ uD) fun _ => ⟨⟨[], [], by simp [e, p3.1, typeDefOf, DefKind.keyword], p3.2.1 rfl, hp _, rfl, rfl⟩,
          ⟨p3.2.2, p3.2.1 rfl⟩, rfl, rfl, rfl, rfl⟩
  | object | interface =>
    exact spec_typeHead _ fun pos name => Spec.seq (spec_parseImplementsInterfaces n) fun ifs uI pI =>
      Spec.seq (spec_parseDirectives n true) fun dirs uD p3 => Spec.seq (spec_parseFieldsDefinition n) fun fields uB pB =>
      Spec.pure_bind <| Spec.pure_bind <| Spec.last (hfin pos name ifs dirs fields [] []) fun y v h u0 e hp => by
        simpa using h (u0 ++ (uI ++ (uD ++ uB))) fun _ => ⟨⟨tk uI, tk uB, by simp [e, p3.1, typeDefOf, DefKind.keyword], p3.2.1 rfl, hp _,
          pI, pB.1, pB.2.1⟩, ⟨p3.2.2, p3.2.1 rfl⟩, rfl, rfl, pB.2.2⟩
  | union =>
    exact spec_typeHead "union" fun pos name => Spec.pure_bind <| Spec.seq (spec_parseDirectives n true) fun dirs uD p3 =>
      Spec.pure_bind <| Spec.seq (spec_parseUnionMemberTypes n) fun types uB pB => Spec.pure_bind <|
      Spec.last (hfin pos name [] dirs [] types []) fun y v h u0 e hp => by
        simpa using h (u0 ++ (uD ++ uB)) fun _ => ⟨⟨[], tk uB, by simp [e, p3.1, typeDefOf, DefKind.keyword], p3.2.1 rfl, hp _, rfl, pB⟩,
          ⟨p3.2.2, p3.2.1 rfl⟩, rfl, rfl, rfl⟩
  | «enum» =>
    exact spec_typeHead "enum" fun pos name => Spec.pure_bind <| Spec.seq (spec_parseDirectives n true) fun dirs uD p3 =>
      Spec.pure_bind <| Spec.pure_bind <| Spec.seq (spec_parseEnumValuesDefinition n) fun evs uB pB =>
      Spec.last (hfin pos name [] dirs [] [] evs) fun y v h u0 e hp => by
        simpa using h (u0 ++ (uD ++ uB)) fun _ => ⟨⟨[], tk uB, by simp [e, p3.1, typeDefOf, DefKind.keyword], p3.2.1 rfl, hp _, rfl, pB.1,
          fun h => by simp [pB.2.1 h], fun e he => (pB.2.2 e he).1⟩, ⟨p3.2.2, p3.2.1 rfl⟩, rfl, rfl, rfl, fun e he => (pB.2.2 e he).2⟩
  | inputObject =>
    exact spec_typeHead "input" fun pos name => Spec.pure_bind <| Spec.seq (spec_parseDirectives n true) fun dirs uD p3 =>
      Spec.seq (spec_parseInputFieldsDefinition n) fun fields uB pB => Spec.pure_bind <| Spec.pure_bind <|
      Spec.last (hfin pos name [] dirs fields [] []) fun y v h u0 e hp => by
        simpa using h (u0 ++ (uD ++ uB)) fun _ => ⟨⟨[], tk uB, by simp [e, p3.1, typeDefOf, DefKind.keyword], p3.2.1 rfl, hp _, rfl, pB.1,
          pB.2.1⟩, ⟨p3.2.2, p3.2.1 rfl⟩, rfl, rfl, rfl, pB.2.2⟩

theorem spec_defParser (k : DefKind) (n : Nat) (desc : Bytes) :
    Spec (defParser k n desc) (Eats fun d u => BodyOf d u ∧ d.desc = desc ∧ DefOK d) :=
  defParser_eq k n desc ▸ spec_typeBody n k fun _ _ _ _ _ _ _ => Spec.ret _ fun u h => (List.append_nil u).symm ▸ ⟨(h desc).1, rfl, (h desc).2⟩

theorem spec_parseTypeSystemDefinition (n : Nat) (desc : Bytes) :
    Spec (parseTypeSystemDefinition n desc) (Eats fun d u => BodyOf d u ∧ d.desc = desc ∧ DefOK d) := by
  unfold parseTypeSystemDefinition
  exact Spec.seq0 spec_peek_eats fun tok => Spec.ite_same (fun _ => Spec.of_dead_bind unexpectedError_dead) fun _ =>
    Spec.ite_same (fun _ => spec_defParser .scalar n desc) fun _ => Spec.ite_same (fun _ => spec_defParser .object n desc) fun _ =>
    Spec.ite_same (fun _ => spec_defParser .interface n desc) fun _ => Spec.ite_same (fun _ => spec_defParser .union n desc) fun _ =>
    Spec.ite_same (fun _ => spec_defParser .enum n desc) fun _ => Spec.ite_same (fun _ => spec_defParser .inputObject n desc) fun _ =>
    Spec.of_dead_bind unexpectedError_dead


theorem extendsSomething_of {k : DefKind} {pos : Pos} {name : Name} {ifs : List Name} {dirs : List Directive} {fields : List FieldDef}
    {types : List Name} {evs : List EnumValDef} (h : ¬ extendsNothing k ifs dirs fields types evs) :
    ExtendsSomething (typeDefOf k [] pos name ifs dirs fields types evs) := by
  cases k <;> simpa [ExtendsSomething, extendsNothing, typeDefOf, -not_and, Classical.not_and_iff_not_or_not] using h

theorem spec_extParser (k : DefKind) (n : Nat) :
    Spec (extParser k n) (Eats fun d u => BodyOf d u ∧ d.desc = [] ∧ ExtendsSomething d ∧ DefOK d) :=
  extParser_eq k n ▸ spec_typeBody n k fun _ _ _ _ _ _ _ => Spec.ite_same (fun _ => Spec.of_dead_bind unexpectedError_dead) fun hc =>
    Spec.ret _ fun u h => (List.append_nil u).symm ▸ ⟨(h []).1, rfl, extendsSomething_of hc, (h []).2⟩


theorem spec_parseOperationTypeDefinition :
    Spec parseOperationTypeDefinition (Eats fun o u => tk u = printOpType o ∧ isOperationType o.op) := by
  unfold parseOperationTypeDefinition
  refine (Spec.bind spec_peekPos fun pos => Spec.bind spec_parseOperationType fun op =>
    Spec.bind (spec_punct .colon (by decide) (by decide) rfl) fun _ => Spec.bind spec_parseName fun ty =>
    Spec.pure _).mono ?_
  rintro o a a'' _ ⟨pos, a1, ⟨rfl, _⟩, op, a2, hop, _, a3, ⟨u2, h2, p2⟩, ty, a4, ⟨u3, h3, p3⟩, rfl, rfl⟩
  obtain ⟨t1, e1, e2, e3⟩ := hop rfl
  exact ⟨_, (Ate.peeked a).trans (e1.trans (h2.trans h3)), by simp [printOpType, e2, p2, p3], e3⟩

/-- the `{ RootOperationTypeDefinition+ }` block, absent for the empty list -/
def POpTypes (ots : List OpTypeDef) (u : List Token) : Prop :=
  tk u = printBlock printOpType ots ∧ ∀ o ∈ ots, isOperationType o.op

theorem spec_opTypesBlock (n : Nat) :
    Spec (pSome .braceL .braceR n parseOperationTypeDefinition)
      (fun ots a a' => Eats POpTypes ots a a' ∧ (a.σ.head.kind = .braceL → ots ≠ [])) :=
  (spec_pSome .braceL .braceR (by decide) (by decide) (by decide) (by decide) n spec_parseOperationTypeDefinition).mono
    fun _ _ _ _ ⟨hb, hne⟩ => ⟨(bracketed_some rfl rfl hb hne).mono fun _ _ h => ⟨by simpa [printBlock] using h.1, h.2⟩, hne⟩

/-- `schema Directives? { … }` (what follows the description of a schema definition) -/
def PSchemaDef (desc : Bytes) (sd : SchemaDef) (u : List Token) : Prop :=
  sd.desc = desc ∧ tk u = tKw "schema" :: (printDirectives sd.dirs ++ (tP .braceL :: sd.opTypes.flatMap printOpType ++ [tP .braceR])) ∧
    WFSchemaDef sd ∧ (∃ t ∈ u, sd.pos.start = t.start) ∧ SchemaDefOK sd

theorem printBlock_cons {α : Type} (f : α → List Tok) {xs : List α} (h : xs ≠ []) :
    printBlock f xs = tP .braceL :: xs.flatMap f ++ [tP .braceR] := by
  cases xs with
  | nil => exact absurd rfl h
  | cons d r => simp [printBlock]

/-- a position recorded by `peekPos` in front of a non-empty token list is that of one of its tokens -/
theorem pos_mem {u0 u : List Token} {pos : Pos} (hu : tk u ≠ []) (hpos : ∀ t rest, u = t :: rest → pos.start = t.start) :
    ∃ t ∈ u0 ++ u, pos.start = t.start := by
  cases u with
  | nil => exact absurd rfl hu
  | cons t rest => exact ⟨t, by simp, hpos t rest rfl⟩

theorem spec_parseSchemaDefinition (n : Nat) (desc : Bytes) :
    Spec (parseSchemaDefinition n desc) (Eats (PSchemaDef desc)) := by
  unfold parseSchemaDefinition
  refine Spec.seq (spec_keyword "schema") fun _ u0 p0 => Spec.peekPos fun pos => Spec.seq (spec_parseDirectives n true)
    fun dirs u1 p1 => Spec.peek fun t => Spec.ite_same (fun _ => Spec.of_dead_bind unexpectedError_dead) fun hk =>
      (Spec.bind (spec_opTypesBlock n) fun ots => Spec.pure _).mono ?_
  rintro sd a a' _ ⟨ots, a1, ⟨⟨u2, h2, p2⟩, hne⟩, rfl, rfl⟩ _ hh
  have hots : ots ≠ [] := hne (by simpa [hh] using hk)
  refine ⟨u2, h2, fun hpos => ⟨rfl, by simp [p0, p1.1, p2.1, printBlock_cons _ hots], ⟨p1.2.1 rfl, hots, p2.2⟩, pos_mem ?_ hpos,
    ⟨p1.2.2, p1.2.1 rfl⟩, hots, p2.2⟩⟩
  simp [p2.1, printBlock_cons _ hots]

/-- `schema Directives? { … }?` of a schema extension (after `extend`) -/
def PSchemaExt (sd : SchemaDef) (u : List Token) : Prop :=
  tKw "extend" :: tk u = printSchemaExt sd ∧ WFSchemaExt sd ∧ (∃ t ∈ u, sd.pos.start = t.start) ∧ SchemaExtOK sd

theorem spec_parseSchemaExtension (n : Nat) : Spec (parseSchemaExtension n) (Eats PSchemaExt) := by
  unfold parseSchemaExtension
  refine Spec.seq (spec_keyword "schema") fun _ u0 p0 => Spec.peekPos fun pos => Spec.seq (spec_parseDirectives n true)
    fun dirs u1 p1 => Spec.seq ((spec_opTypesBlock n).mono fun _ _ _ _ h => h.1) fun ots u2 p2 =>
    Spec.ite_same (fun _ => Spec.of_dead_bind unexpectedError_dead) fun hc => Spec.ret _ fun hpos => ?_
  have hsome : dirs ≠ [] ∨ ots ≠ [] := by simpa [-not_and, Classical.not_and_iff_not_or_not] using hc
  refine ⟨by simp [printSchemaExt, p0, p1.1, p2.1], ⟨p1.2.1 rfl, hsome, p2.2⟩, pos_mem ?_ hpos, rfl, ⟨p1.2.2, p1.2.1 rfl⟩, hsome, p2.2⟩
  rcases hsome with h | h
  · cases dirs with
    | nil => exact absurd rfl h
    | cons d r => simp [p1.1, printDirectives, printDirective]
  · simp [p1.1, p2.1, printBlock_cons _ h]


/-- the part of a directive definition after the description -/
def PDirectiveDef (desc : Bytes) (dd : DirectiveDef) (u : List Token) : Prop :=
  dd.desc = desc ∧ WFDirectiveDef dd ∧ (∃ t ∈ u, dd.pos.start = t.start) ∧
    (∀ {tsD : List Tok}, Derives gql (.opt (.nt .description)) tsD (printDesc desc) →
      Derives gql (.nt .directiveDefinition) (tsD ++ tk u) (printDirectiveDef dd)) ∧ DirectiveDefOK dd

/-- the part of `parseDirectiveDefinition` after `repeatable?` -/
def directiveTail (n : Nat) (desc : Bytes) (pos : Pos) (name : Name) (args : List ArgDef) (rep : Bool) : Prog DirectiveDef := do
  let _ ← expectKeyword kwOn
  let locs ← parseDirectiveLocations n
  pure { desc := desc, name := name, args := args, locations := locs, repeatable := rep, pos := pos }

theorem parseDirectiveDefinition_eq (n : Nat) (desc : Bytes) :
    parseDirectiveDefinition n desc = (do
      let _ ← expectKeyword kwDirective
      let _ ← expect .at
      let pos ← peekPos
      let name ← parseName
      let args ← parseArgumentDefs n
      let pk ← peek
      if pk.kind = .name ∧ pk.value = kwRepeatable then do
        let _ ← skip .name
        directiveTail n desc pos name args true
      else directiveTail n desc pos name args false) := rfl

/-- `on DirectiveLocations`, given what was parsed in front of it -/
theorem spec_directiveTail (n : Nat) (desc : Bytes) (pos : Pos) (name : Name) (rep : Bool) {args : List ArgDef} {ua : List Token}
    (ha : PArgDefs args ua) :
    Spec (directiveTail n desc pos name args rep) (Eats fun dd u => dd.desc = desc ∧ dd.pos = pos ∧ WFDirectiveDef dd ∧
      (∀ {tsD : List Tok}, Derives gql (.opt (.nt .description)) tsD (printDesc desc) → Derives gql (.nt .directiveDefinition)
        (tsD ++ tKw "directive" :: tP .at :: tName name :: (tk ua ++ ((if rep then [tKw "repeatable"] else []) ++ tk u)))
        (printDirectiveDef dd)) ∧ DirectiveDefOK dd) := by
  unfold directiveTail
  exact Spec.seq (spec_keyword "on") fun _ _ p0 => Spec.seq (spec_parseDirectiveLocations n) fun locs _ p1 => Spec.ret _
    ⟨rfl, rfl, ⟨ha.2.1, p1.1, p1.2.1⟩, fun hD =>
      (derives_directiveDef ⟨desc, name, args, locs, rep, pos⟩ hD ha.1.opt p1.2.2).cast (by simp [p0]) rfl, ha.2.2, p1.1, p1.2.1⟩

theorem spec_parseDirectiveDefinition (n : Nat) (desc : Bytes) :
    Spec (parseDirectiveDefinition n desc) (Eats (PDirectiveDef desc)) := by
  rw [parseDirectiveDefinition_eq]
  refine Spec.seq (spec_keyword "directive") fun _ u0 p0 => Spec.seq (spec_punct .at) fun _ u1 p1 => Spec.peekPos fun pos =>
    Spec.seq spec_parseName fun name u2 p2 => Spec.seq (spec_parseArgumentDefs n) fun args ua pa => Spec.peek fun pk =>
    Spec.ite_same
      (fun hk => (Spec.bind (spec_skip .name (by decide) (by decide)) fun _ => spec_directiveTail n desc pos name true pa).mono ?_)
      (fun _ => Spec.forget <| Spec.last (spec_directiveTail n desc pos name false pa) fun dd u h hpos =>
        ⟨h.1, h.2.2.1, by simpa [h.2.1] using pos_mem (u0 := u0 ++ u1) (by simp [p2]) hpos, fun hD =>
          (h.2.2.2.1 hD).cast (by simp [p0, p1, p2]) rfl, h.2.2.2.2⟩)
  rintro dd a a' _ ⟨_, a1, hs, u, hu, h⟩ _ hh
  rcases hs with ⟨_, trep, g, _⟩ | ⟨_, hkn, _⟩
  · refine ⟨trep :: u, g.trans hu, fun hpos => ⟨h.1, h.2.2.1,
      by simpa [h.2.1] using pos_mem (u0 := u0 ++ u1) (by simp [p2]) hpos, fun hD => (h.2.2.2.1 hD).cast ?_ rfl, h.2.2.2.2⟩⟩
    simp [p0, p1, p2, kwTok (g.head.symm.trans hh ▸ hk.1) (g.head.symm.trans hh ▸ hk.2)]
  · exact absurd (hh ▸ hk.1) hkn


theorem wf_of_body {d : Definition} {u : List Token} (hb : BodyOf d u) (hen : EnumOK d) : WFDefBody d := by
  obtain ⟨tsI, tsB, _, hcd, _, parts⟩ := hb
  refine ⟨hcd, ?_⟩
  unfold BodyParts at parts
  unfold EnumOK at hen
  cases hk : d.kind <;> simp only [hk] at parts hen ⊢
  · exact parts.2.2
  · exact parts.2.2
  · intro e he
    exact ⟨hen trivial e he, parts.2.2.2 e he⟩
  · exact parts.2.2

theorem BodyOf.definition {d : Definition} {u : List Token} {tsD : List Tok} (hb : BodyOf d u)
    (hD : Derives gql (.opt (.nt .description)) tsD (printDesc d.desc)) (hen : EnumOK d) :
    Derives gql (.nt .typeDefinition) (tsD ++ tk u) (printDefinition d) := by
  obtain ⟨tsI, tsB, e, hcd, _, parts⟩ := hb
  exact e ▸ derives_definition hcd parts hD hen

theorem BodyOf.extension {d : Definition} {u : List Token} (hb : BodyOf d u) (hx : ExtendsSomething d) (hen : EnumOK d) :
    Derives gql (.nt .typeExtension) (tKw "extend" :: tk u) (printExtension d) := by
  obtain ⟨tsI, tsB, e, hcd, _, parts⟩ := hb
  exact e ▸ derives_extension hcd parts hx hen


/-- one top-level item of a type-system document, tagged by the list of the tree it goes to -/
inductive SItem
  | schema (s : SchemaDef)
  | schemaExt (s : SchemaDef)
  | directive (d : DirectiveDef)
  | definition (d : Definition)
  | extension (d : Definition)

def _root_.Gql.SchemaDoc.add (doc : SchemaDoc) : SItem → SchemaDoc
  | .schema s => { doc with schema := doc.schema ++ [s] }
  | .schemaExt s => { doc with schemaExt := doc.schemaExt ++ [s] }
  | .directive d => { doc with directives := doc.directives ++ [d] }
  | .definition d => { doc with definitions := doc.definitions ++ [d] }
  | .extension d => { doc with extensions := doc.extensions ++ [d] }

/-- sort key (recorded start offset) and unparse of an item -/
def sItem : SItem → Nat × List Tok
  | .schema s => (s.pos.start, printSchemaDef s)
  | .schemaExt s => (s.pos.start, printSchemaExt s)
  | .directive d => (d.pos.start, printDirectiveDef d)
  | .definition d => (d.pos.start, printDefinition d)
  | .extension d => (d.pos.start, printExtension d)

/-- the grammar does not know enum values named `true` / `false` / `null`; the parser accepts them -/
def SItem.enumOK : SItem → Prop
  | .definition d => EnumOK d
  | .extension d => EnumOK d
  | _ => True

/-- the side conditions of an item: what the grammar requires of it (well-formedness) and that
    its unprinted parts are what the parser builds -/
def ItemOK : SItem → Prop
  | .schema s => SchemaDefOK s
  | .schemaExt s => SchemaExtOK s
  | .directive d => DirectiveDefOK d
  | .definition d => DefOK d
  | .extension d => DefOK d ∧ d.desc = [] ∧ ExtendsSomething d

def SItem.WF : SItem → Prop
  | .schema s => WFSchemaDef s
  | .schemaExt s => WFSchemaExt s
  | .directive d => WFDirectiveDef d
  | .definition d => WFDefBody d
  | .extension d => WFDefBody d ∧ ExtendsSomething d

/-- an item was parsed from `u`: its recorded position is that of a token of `u`, and (for enums:
    if no value is a literal name) `u` derives a definition or extension with the unparse of the
    item as canonical form, and the item is well-formed -/
def PSItem (it : SItem) (u : List Token) : Prop :=
  (∃ t ∈ u, (sItem it).1 = t.start) ∧
    (it.enumOK → Derives gql (.nt .typeSystemDefinitionOrExtension) (tk u) (sItem it).2 ∧ it.WF)

def PSItemOK (it : SItem) (u : List Token) : Prop := PSItem it u ∧ ItemOK it

theorem rejectDescription_dead (s : PState) : dead (run 0 (rejectDescription true) s).2 = true := by
  show dead (run 0 (getPrev >>= fun pv => unexpectedToken pv) s).2 = true
  rw [bind_eq, run_bind]
  exact failAt_dead _ _ _

theorem spec_rejectDescription : ∀ has : Bool, Spec (rejectDescription has) (fun _ a a' => has = false ∧ a' = a)
  | true => Spec.of_dead rejectDescription_dead
  | false => (Spec.pure ()).mono fun _ _ _ _ h => ⟨rfl, h.2⟩

theorem spec_parseOptionalDescription :
    Spec parseOptionalDescription (Eats fun r u => PDesc r.1 u ∧ (r.2 = false → u = [])) := by
  unfold parseOptionalDescription
  exact Spec.seq0 spec_peek_eats fun x => Spec.ite_same
    (fun _ => Spec.seq spec_parseDescription_eats fun d _ p => Spec.ret _ ⟨by simpa using p, fun h => nomatch h⟩)
    (fun _ => Spec.seq0 spec_peek_eats fun y => Spec.ite_same
      (fun _ => Spec.seq spec_parseDescription_eats fun d _ p => Spec.ret _ ⟨by simpa using p, fun h => nomatch h⟩)
      (fun _ => Spec.ret _ ⟨Derives.optNone, fun _ => rfl⟩))

theorem mem_cons_of_mem_tail {t : Token} {x : Token} {u : List Token} (h : t ∈ u) : t ∈ x :: u := by simp [h]

theorem mem_append_of_right {k : Nat} {u v : List Token} (h : ∃ t ∈ v, k = t.start) : ∃ t ∈ u ++ v, k = t.start :=
  h.imp fun _ h => ⟨by simp [h.1], h.2⟩

theorem BodyOf.pos {d : Definition} {u : List Token} (h : BodyOf d u) : ∃ t ∈ u, d.pos.start = t.start := by
  obtain ⟨_, _, _, _, hp, _⟩ := h
  exact hp

theorem spec_parseTypeSystemExtension (n : Nat) (doc : SchemaDoc) :
    Spec (parseTypeSystemExtension n doc) (Eats fun doc' u => ∃ it, PSItemOK it u ∧ doc' = doc.add it) := by
  unfold parseTypeSystemExtension
  refine Spec.seq (spec_keyword "extend") fun _ u0 p0 => ?_
  have ext : ∀ {p : Prog Definition}, Spec p (Eats fun d u => BodyOf d u ∧ d.desc = [] ∧ ExtendsSomething d ∧ DefOK d) →
      Spec (p >>= fun d => pure { doc with extensions := doc.extensions ++ [d] })
        (EatsTo fun doc' v _ => ∃ it, PSItemOK it (u0 ++ v) ∧ doc' = doc.add it) :=
    fun hp => Spec.seq hp fun d u ⟨hb, hdesc, hx, hok⟩ => Spec.ret _ ⟨.extension d,
      ⟨⟨by simpa [sItem] using mem_append_of_right (u := u0) hb.pos, fun hen => ⟨(Derives.nt (n := NT.typeSystemDefinitionOrExtension)
        (Derives.altR (Derives.nt (n := NT.typeSystemExtension) (Derives.altR (hb.extension hx hen))))).cast
          (by simp [p0]) rfl, wf_of_body hb hen, hx⟩⟩, hok, hdesc, hx⟩, rfl⟩
  exact Spec.seq0 spec_peek_eats fun t => Spec.ite_same
    (fun _ => Spec.seq (spec_parseSchemaExtension n) fun sd u p => Spec.ret _ ⟨.schemaExt sd,
      ⟨⟨by simpa [sItem] using mem_append_of_right (u := u0) p.2.2.1, fun _ => ⟨(Derives.nt (n := NT.typeSystemDefinitionOrExtension) (Derives.altR
        (Derives.nt (n := NT.typeSystemExtension) (Derives.altL (L_schemaExt sd p.2.1))))).cast (by simp [← p.1, p0]) rfl, p.2.1⟩⟩,
        p.2.2.2⟩, rfl⟩) fun _ =>
    Spec.ite_same (fun _ => ext (spec_extParser .scalar n)) fun _ =>
    Spec.ite_same (fun _ => ext (spec_extParser .object n)) fun _ =>
    Spec.ite_same (fun _ => ext (spec_extParser .interface n)) fun _ =>
    Spec.ite_same (fun _ => ext (spec_extParser .union n)) fun _ =>
    Spec.ite_same (fun _ => ext (spec_extParser .enum n)) fun _ =>
    Spec.ite_same (fun _ => ext (spec_extParser .inputObject n)) fun _ => Spec.of_dead_bind unexpectedError_dead

/-- what the schema document loop establishes, for a property `PI` of the single items: the items `items` (in source
    order) were added to `doc`, and the loop stopped with the look-ahead on the EOF token -/
def SDocLoopOf (PI : SItem → List Token → Prop) (doc d : SchemaDoc) (used : List Token) (a' : AS) : Prop :=
  a'.pk = true ∧ a'.σ.head.kind = .eof ∧ ∃ items, d = items.foldl SchemaDoc.add doc ∧ Many PI items used

/-- The document loop, once: `PD` is what the optional description establishes, and each of the three parsers of a
    definition turns it into `PI` of the item with the description tokens in front. -/
theorem schemaDocLoop_items {PI : SItem → List Token → Prop} {PD : Bytes → List Token → Prop} {m : Nat}
    (hdesc : Spec parseOptionalDescription (Eats fun r u => PD r.1 u ∧ (r.2 = false → u = [])))
    (hdef : ∀ desc, Spec (parseTypeSystemDefinition m desc) (Eats fun df u => ∀ uD, PD desc uD → PI (.definition df) (uD ++ u)))
    (hschema : ∀ desc, Spec (parseSchemaDefinition m desc) (Eats fun sd u => ∀ uD, PD desc uD → PI (.schema sd) (uD ++ u)))
    (hdir : ∀ desc, Spec (parseDirectiveDefinition m desc) (Eats fun dd u => ∀ uD, PD desc uD → PI (.directive dd) (uD ++ u)))
    (hext : ∀ doc, Spec (parseTypeSystemExtension m doc) (Eats fun doc' u => ∃ it, PI it u ∧ doc' = doc.add it)) :
    ∀ (n : Nat) (doc : SchemaDoc), Spec (schemaDocLoop m n doc) (EatsTo (SDocLoopOf PI doc))
  | 0, doc => Spec.of_dead (outOfFuel_dead _)
  | n + 1, doc => by
    unfold schemaDocLoop
    refine Spec.peek fun t => Spec.ite_same
      (fun _ => Spec.forget <| Spec.hasErr_ite <| Spec.seq hdesc fun ⟨desc, has⟩ uD ⟨pD, hU⟩ => ?_)
      (fun hk => Spec.ret_peeked doc fun a hpk hh => ⟨hpk, by simpa [hh] using hk, [], rfl, .nil⟩)
    -- an item (its description included) and the rest of the loop
    have step : ∀ {α : Type} {p : Prog α} {g : α → SchemaDoc},
        Spec p (Eats fun x u => ∃ it, PI it (uD ++ u) ∧ g x = doc.add it) →
        Spec (p >>= fun x => schemaDocLoop m n (g x)) (EatsTo fun d v a' => SDocLoopOf PI doc d (uD ++ v) a') :=
      @fun _ _ g hp => Spec.seq hp fun x u ⟨it, hit, e⟩ => Spec.last_to (schemaDocLoop_items hdesc hdef hschema hdir hext n (g x))
        fun d v a' ⟨g2, g3, items, g4, hm⟩ => ⟨g2, g3, it :: items, by simp [g4, e], by simpa using Many.cons hit hm⟩
    exact Spec.seq0 spec_peek_eats fun c => Spec.ite_same (fun _ => Spec.of_dead_bind unexpectedError_dead) fun _ =>
      Spec.seq0 spec_peek_eats fun d => Spec.ite_same
        (fun _ => step (Spec.last (hdef desc) fun df _ h => ⟨.definition df, h uD pD, rfl⟩)) fun _ => Spec.ite_same
        (fun _ => step (Spec.last (hschema desc) fun sd _ h => ⟨.schema sd, h uD pD, rfl⟩)) fun _ => Spec.ite_same
        (fun _ => step (Spec.last (hdir desc) fun dd _ h => ⟨.directive dd, h uD pD, rfl⟩)) fun _ => Spec.ite_same
        (fun _ => by
          cases has with
          | true => exact Spec.of_dead_bind rejectDescription_dead
          | false =>
            obtain rfl := hU rfl
            exact step (g := id) (by simpa using hext doc)) fun _ => Spec.of_dead_bind unexpectedError_dead

theorem spec_schemaDocLoop (m n : Nat) (doc : SchemaDoc) : Spec (schemaDocLoop m n doc) (EatsTo (SDocLoopOf PSItemOK doc)) :=
  schemaDocLoop_items (PD := PDesc) spec_parseOptionalDescription
    (fun desc => Spec.last (spec_parseTypeSystemDefinition m desc) fun df u ⟨hb, hdesc, hok⟩ _ pD =>
      ⟨⟨mem_append_of_right hb.pos, fun hen => ⟨(Derives.nt (n := NT.typeSystemDefinitionOrExtension) (Derives.altL
        (Derives.nt (n := NT.typeSystemDefinition) (Derives.altR (Derives.altL (hb.definition (hdesc ▸ pD) hen)))))).cast
        (by simp) rfl, wf_of_body hb hen⟩⟩, hok⟩)
    (fun desc => Spec.last (spec_parseSchemaDefinition m desc) fun sd u ⟨hdesc, htk, hwf, hp, hok⟩ _ pD =>
      ⟨⟨mem_append_of_right hp, fun _ => ⟨(Derives.nt (n := NT.typeSystemDefinitionOrExtension) (Derives.altL
        (Derives.nt (n := NT.typeSystemDefinition) (Derives.altL (derives_schemaDef sd hwf (hdesc ▸ pD)))))).cast
        (by simp [htk]) rfl, hwf⟩⟩, hok⟩)
    (fun desc => Spec.last (spec_parseDirectiveDefinition m desc) fun dd u ⟨_, hwf, hp, hder, hok⟩ _ pD =>
      ⟨⟨mem_append_of_right hp, fun _ => ⟨(Derives.nt (n := NT.typeSystemDefinitionOrExtension) (Derives.altL
        (Derives.nt (n := NT.typeSystemDefinition) (Derives.altR (Derives.altR (hder pD)))))).cast (by simp) rfl, hwf⟩⟩, hok⟩)
    (spec_parseTypeSystemExtension m) n doc

theorem spec_parseSchemaDocument (n : Nat) :
    Spec (parseSchemaDocument n) (EatsTo (SDocLoopOf PSItemOK SchemaDoc.empty)) := by
  unfold parseSchemaDocument
  exact Spec.seq0 spec_peekPos_eats fun _ => spec_schemaDocLoop n n SchemaDoc.empty

end Gql.Parser
