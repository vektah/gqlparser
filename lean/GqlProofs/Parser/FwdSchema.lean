import GqlProofs.Parser.FwdQuery
import GqlProofs.Parser.SoundSchema
/-
  The converse of `SoundSchema.lean` on printed trees (type-system documents).

  Descriptions.  `Print.printSchema` writes a description as a String token whose value is the
  description text.  A formatter may write it as a block string; the printers below take the
  token kind `dk` of descriptions as a parameter (`printItemK (fun _ => .string) it = (sItem it).2`), and the
  forward lemmas hold for `dk = .string` and `dk = .blockString`: what the parser reads of a
  description token is its value.
-/
namespace Gql.Parser
open Gql Gql.Lexer Gql.Grammar Gql.Print


section PrintK
variable (dk : Bytes → Kind)

def printDescK (d : Bytes) : List Tok := if d = [] then [] else [{ kind := dk d, value := d }]

def printArgDefK (a : ArgDef) : List Tok :=
  printDescK dk a.desc ++ tName a.name :: tP .colon :: printType a.type ++ printDefault a.default ++ printDirectives a.dirs

def printArgDefsK (as : List ArgDef) : List Tok :=
  if as.isEmpty then [] else tP .parenL :: as.flatMap (printArgDefK dk) ++ [tP .parenR]

def printFieldDefK (f : FieldDef) : List Tok :=
  printDescK dk f.desc ++ tName f.name :: printArgDefsK dk f.args ++ tP .colon :: printType f.type ++ printDirectives f.dirs

def printInputFieldK (f : FieldDef) : List Tok :=
  printDescK dk f.desc ++ tName f.name :: tP .colon :: printType f.type ++ printDefault f.default ++ printDirectives f.dirs

def printEnumValK (e : EnumValDef) : List Tok := printDescK dk e.desc ++ tName e.name :: printDirectives e.dirs

def printDefBodyK (d : Definition) : List Tok :=
  match d.kind with
  | .scalar => tName d.name :: printDirectives d.dirs
  | .object => tName d.name :: printImplements d.interfaces ++ printDirectives d.dirs ++ printBlock (printFieldDefK dk) d.fields
  | .interface => tName d.name :: printImplements d.interfaces ++ printDirectives d.dirs ++ printBlock (printFieldDefK dk) d.fields
  | .union => tName d.name :: printDirectives d.dirs ++ printMembers d.types
  | .enum => tName d.name :: printDirectives d.dirs ++ printBlock (printEnumValK dk) d.enumValues
  | .inputObject => tName d.name :: printDirectives d.dirs ++ printBlock (printInputFieldK dk) d.fields

def printDefinitionK (d : Definition) : List Tok := printDescK dk d.desc ++ DefKind.keyword d.kind :: printDefBodyK dk d

def printExtensionK (d : Definition) : List Tok := tKw "extend" :: DefKind.keyword d.kind :: printDefBodyK dk d

def printSchemaDefK (s : SchemaDef) : List Tok :=
  printDescK dk s.desc ++ tKw "schema" :: printDirectives s.dirs ++ tP .braceL :: s.opTypes.flatMap printOpType ++ [tP .braceR]

def printDirectiveDefK (d : DirectiveDef) : List Tok :=
  printDescK dk d.desc ++ tKw "directive" :: tP .at :: tName d.name :: printArgDefsK dk d.args
    ++ (if d.repeatable then [tKw "repeatable"] else []) ++ tKw "on" :: printSep .pipe d.locations

def printItemK : SItem → List Tok
  | .schema s => printSchemaDefK dk s
  | .schemaExt s => printSchemaExt s
  | .directive d => printDirectiveDefK dk d
  | .definition d => printDefinitionK dk d
  | .extension d => printExtensionK dk d

end PrintK

theorem printDescK_string (d : Bytes) : printDescK (fun _ => .string) d = printDesc d := rfl

theorem printItemK_string (it : SItem) : printItemK (fun _ => .string) it = (sItem it).2 := by
  cases it <;> rfl

/-- the kinds a description token may have -/
def DescKind (k : Kind) : Prop := k = .string ∨ k = .blockString

variable {b : Bool} {F : Tok → Prop} {dk : Bytes → Kind}


def NoDesc (σ : Stream) : Prop := σ.head.kind ≠ .string ∧ σ.head.kind ≠ .blockString

theorem reads_description (hdk : ∀ d, DescKind (dk d)) (d : Bytes) :
    Reads b parseDescription (printDescK dk d) (fun t => d = [] → t.kind ≠ .string ∧ t.kind ≠ .blockString) (fun x => x = d) := by
  unfold printDescK
  split
  next h => exact .peek_nil fun _ ht => .ite_pos ⟨(ht h).2, (ht h).1⟩ (.pure h.symm)
  next h =>
    exact .peek_head rfl fun _ ht => .ite_neg (by rw [ofToken_kind ht]; rcases hdk d with h | h <;> simp [h])
      (.next fun _ ht2 => .pure (ofToken_value ht2))

theorem reads_optionalDescription (hdk : ∀ d, DescKind (dk d)) (d : Bytes) :
    Reads b parseOptionalDescription (printDescK dk d) (fun t => d = [] → t.kind ≠ .string ∧ t.kind ≠ .blockString)
      (fun x => x.1 = d ∧ (x.2 = true → d ≠ [])) := by
  have hdesc := fun b => (reads_description (b := b) hdk d).bind_pure (g := fun d => (d, true)) (Q := fun x => x.1 = d ∧ (x.2 = true → d ≠ []))
  by_cases hd : d = []
  · subst hd
    exact .peek_nil fun _ ht => .ite_neg (ht rfl).2 <| .peek_nil fun _ ht2 => .ite_neg (ht2 rfl).1 (.pure ⟨rfl, nofun⟩)
  · have hts : (printDescK dk d).head? = some { kind := dk d, value := d } := by simp [printDescK, hd]
    refine .peek_head hts fun _ ht => ?_
    rcases hdk d with h | h
    · exact .ite_neg (by rw [ofToken_kind ht, h]; nofun) <| .peek_head hts fun _ ht2 =>
        .ite_pos ((ofToken_kind ht2).trans h) (hdesc _ fun _ hx => ⟨hx, fun _ => hd⟩)
    · exact .ite_pos ((ofToken_kind ht).trans h) (hdesc _ fun _ hx => ⟨hx, fun _ => hd⟩)


theorem reads_sepLoop (sep : Kind) {item : Prog Name} : ∀ (rest : List Name),
    (∀ m ∈ rest, Reads false item [tName m] (fun _ => True) (fun x => x = m)) → ∀ (n : Nat) (acc : List Name),
    Reads false (sepLoop sep item n acc) (rest.flatMap fun m => [tP sep, tName m]) (fun t => t.kind ≠ sep)
      (fun xs => xs = rest.reverse ++ acc)
  | _, _, 0, _ => .outOfFuel
  | [], _, n + 1, acc => .skip_no (.nil fun _ h => h) (.pure rfl)
  | m :: rest, hitem, n + 1, acc =>
    .skip_yes rfl <| .hasErr <| Reads.seq' (A := [tName m]) (hitem m (by simp)) fun x hx =>
      (reads_sepLoop sep rest (fun z hz => hitem z (by simp [hz])) n (x :: acc)).mono fun xs h => by simp [h, hx]

theorem fwd_sepLoop (sep : Kind) {item : Prog Name} (rest : List Name)
    (hitem : ∀ m ∈ rest, ∀ a σ1, Starts a.σ [tName m] σ1 → Fwd item a (fun x a' => x = m ∧ a'.σ = σ1))
    (n : Nat) (acc : List Name) (a : AS) (σ' : Stream)
    (hs : Starts a.σ (rest.flatMap fun m => [tP sep, tName m]) σ') (hfol : σ'.head.kind ≠ sep) :
    Fwd (sepLoop sep item n acc) a (fun xs a' => xs = rest.reverse ++ acc ∧ a'.σ = σ') :=
  reads_sepLoop sep rest (fun m hm a σ1 _ hs _ => hitem m hm a σ1 hs) n acc a σ' nofun hs hfol

/-- `x (sep x)*` without leading separator, as the three list parsers run it after their keyword -/
theorem reads_sepList (sep : Kind) {item : Prog Name} (first : Name) (rest : List Name)
    (hitem : ∀ m ∈ first :: rest, Reads false item [tName m] (fun _ => True) (fun x => x = m)) (hsep : sep ≠ .name) (n : Nat) :
    Reads b (do let _ ← skip sep; let f ← item; let more ← sepLoop sep item n [f]; pure more.reverse)
      (printSep sep (first :: rest)) (fun t => t.kind ≠ sep) (fun xs => xs = first :: rest) := by
  rw [printSep_cons]
  exact .skip_no (.head rfl hsep.symm) <| Reads.seq' (A := [tName first]) (hitem first (by simp)).weaken fun x hx =>
    .bind_pure (reads_sepLoop sep rest (fun z hz => hitem z (by simp [hz])) n [x]) fun xs h => by simp [h, hx]

def NoImplements (σ : Stream) : Prop := ¬ (σ.head.kind = .name ∧ σ.head.value = kwImplements)

theorem reads_implements (ifs : List Name) (n : Nat) : Reads b (parseImplementsInterfaces n) (printImplements ifs)
    (fun t => t.kind ≠ .amp ∧ (ifs = [] → ¬ (t.kind = .name ∧ t.value = kwImplements))) (fun xs => xs = ifs) := by
  cases ifs with
  | nil => exact .peek_nil fun _ ht => .ite_neg (ht.2 rfl) (.pure rfl)
  | cons first rest =>
    exact .peek_head rfl fun _ ht => .ite_pos ⟨ofToken_kind ht, kw_value ht⟩ <| .next fun _ _ =>
      (reads_sepList .amp first rest (fun _ _ => reads_parseName) (by decide) n).follow fun _ h => h.1

theorem reads_unionMembers (ts : List Name) (n : Nat) : Reads b (parseUnionMemberTypes n) (printMembers ts)
    (fun t => t.kind ≠ .pipe ∧ (ts = [] → t.kind ≠ .equals)) (fun xs => xs = ts) := by
  cases ts with
  | nil => exact .skip_no (.nil fun _ h => h.2 rfl) (.pure rfl)
  | cons first rest =>
    exact .skip_yes rfl ((reads_sepList .pipe first rest (fun _ _ => reads_parseName) (by decide) n).follow fun _ h => h.1)

theorem reads_directiveLocation (m : Name) (hm : m ∈ Gql.Grammar.directiveLocationNames) :
    Reads b parseDirectiveLocation [tName m] F (fun x => x = m) :=
  .expect rfl fun _ ht => .ite_pos (by rw [ofToken_value ht, locationNames_eq]; exact List.contains_iff_mem.2 hm)
    (.pure (ofToken_value ht))

theorem fwd_directiveLocation (m : Name) (hm : m ∈ Gql.Grammar.directiveLocationNames) (a : AS) (σ1 : Stream)
    (hs : Starts a.σ [tName m] σ1) : Fwd parseDirectiveLocation a (fun x a' => x = m ∧ a'.σ = σ1) :=
  reads_directiveLocation (b := false) (F := fun _ => True) m hm a σ1 nofun hs trivial

theorem reads_directiveLocations (ls : List Name) (hne : ls ≠ []) (hl : ∀ l ∈ ls, l ∈ Gql.Grammar.directiveLocationNames)
    (n : Nat) : Reads b (parseDirectiveLocations n) (printSep .pipe ls) (fun t => t.kind ≠ .pipe) (fun xs => xs = ls) := by
  cases ls with
  | nil => exact absurd rfl hne
  | cons first rest => exact reads_sepList .pipe first rest (fun m hm => reads_directiveLocation m (hl m hm)) (by decide) n


/-- `Description? Name`, the common start of the four kinds of described list items -/
theorem reads_described {α : Type} (hdk : ∀ d, DescKind (dk d)) {desc : Bytes} {nm : Name} {ts : List Tok} {Q : α → Prop}
    {k : Pos → Bytes → Name → Prog α} (h : ∀ pos, Reads false (k pos desc nm) ts F Q) :
    Reads b (do
      let pos ← peekPos
      let desc ← parseDescription
      let _ ← peek
      let name ← parseName
      k pos desc name) (printDescK dk desc ++ tName nm :: ts) F Q :=
  .peekPos fun pos => .seq (reads_description hdk desc) (.head rfl fun _ => by simp [tName]) fun _ hd =>
    hd ▸ .peek_head rfl fun _ _ => .name (h pos)

/-- such an item starts with a description or a Name: neither closes a bracket nor continues an item -/
theorem ahead_described (hdk : ∀ d, DescKind (dk d)) (desc : Bytes) (nm : Name) (rest : List Tok) {stop : Kind}
    (hstop : stop = .parenR ∨ stop = .braceR) :
    Ahead (fun t => t.kind ≠ stop ∧ folVar t) (printDescK dk desc ++ tName nm :: rest) F :=
  .opt .ite (by rcases hdk desc with h | h <;> rcases hstop with rfl | rfl <;> simp [folVar, NoKind, h])
    (.head rfl (by rcases hstop with rfl | rfl <;> simp [folVar, NoKind, tName]))

section
variable (hdk : ∀ d, DescKind (dk d)) (n : Nat)
include hdk

theorem reads_argDef (x : ArgDef) (hok : ArgDefOK x) : Reads b (parseArgumentDef n) (printArgDefK dk x)
    folVar (fun y => y.erasePos = x.erasePos) := by
  simp only [printArgDefK, List.append_assoc, List.cons_append]
  exact reads_described hdk fun pos => reads_typedTail
    (fun ty dv dirs => ({ desc := x.desc, name := x.name, default := dv, type := ty, dirs := dirs, pos := pos } : ArgDef))
    x.type x.default x.dirs hok.1 hok.2.1 hok.2.2 n fun _ _ _ e1 e2 e3 => by simp [ArgDef.erasePos, e1, e2, e3]

theorem reads_argDefs (xs : List ArgDef) (hok : ∀ x ∈ xs, ArgDefOK x) : Reads b (parseArgumentDefs n) (printArgDefsK dk xs)
    (fun t => xs = [] → t.kind ≠ .parenL) (fun ys => ys.map ArgDef.erasePos = xs.map ArgDef.erasePos) :=
  .optSome ArgDef.erasePos (fun x hx => reads_argDef hdk n x (hok x hx))
    (fun x _ => by
      simp only [printArgDefK, List.append_assoc, List.cons_append]
      exact ahead_described hdk _ _ _ (.inl rfl)) fun _ h => .of_kind h

theorem reads_inputField (x : FieldDef) (hok : InputFieldOK x) : Reads b (parseInputValueDef n) (printInputFieldK dk x)
    folVar (fun y => y.erasePos = x.erasePos) := by
  simp only [printInputFieldK, List.append_assoc, List.cons_append]
  exact reads_described hdk fun pos => reads_typedTail
    (fun ty dv dirs => ({ desc := x.desc, name := x.name, args := [], default := dv, type := ty, dirs := dirs, pos := pos } : FieldDef))
    x.type x.default x.dirs hok.2.1 hok.2.2.1 hok.2.2.2 n fun _ _ _ e1 e2 e3 => by simp [FieldDef.erasePos, e1, e2, e3, hok.1]

theorem reads_inputFields (xs : List FieldDef) (hok : ∀ x ∈ xs, InputFieldOK x) :
    Reads b (parseInputFieldsDefinition n) (printBlock (printInputFieldK dk) xs)
      (fun t => xs = [] → t.kind ≠ .braceL) (fun ys => ys.map FieldDef.erasePos = xs.map FieldDef.erasePos) :=
  .optSome FieldDef.erasePos (fun x hx => reads_inputField hdk n x (hok x hx))
    (fun x _ => by
      simp only [printInputFieldK, List.append_assoc, List.cons_append]
      exact ahead_described hdk _ _ _ (.inr rfl)) fun _ h => .of_kind h

theorem reads_fieldDef (x : FieldDef) (hok : FieldDefOK x) : Reads b (parseFieldDefinition n) (printFieldDefK dk x)
    folVar (fun y => y.erasePos = x.erasePos) := by
  simp only [printFieldDefK, List.append_assoc, List.cons_append]
  exact reads_described hdk fun pos => .seq (reads_argDefs hdk n x.args hok.1) (.head rfl fun _ => by decide) fun _ has =>
    .expect rfl fun _ _ => .seq (reads_type x.type n _)
      (.opt_last (opt_directives x.dirs) (fun _ => by decide) fun _ h _ => NoKind.ne h) fun _ hty =>
    .bind_pure ((reads_directives true x.dirs hok.2.2.1 (fun _ => hok.2.2.2) n).follow fun _ h => NoKind.mono h) fun _ hds => by
      simp [FieldDef.erasePos, has, hty, hds, hok.2.1]

theorem reads_fieldDefs (xs : List FieldDef) (hok : ∀ x ∈ xs, FieldDefOK x) :
    Reads b (parseFieldsDefinition n) (printBlock (printFieldDefK dk) xs)
      (fun t => xs = [] → t.kind ≠ .braceL) (fun ys => ys.map FieldDef.erasePos = xs.map FieldDef.erasePos) :=
  .optSome FieldDef.erasePos (fun x hx => reads_fieldDef hdk n x (hok x hx))
    (fun x _ => by
      simp only [printFieldDefK, List.append_assoc, List.cons_append]
      exact ahead_described hdk _ _ _ (.inr rfl)) fun _ h => .of_kind h

theorem reads_enumVal (x : EnumValDef) (hok : EnumValOK x) : Reads b (parseEnumValueDefinition n) (printEnumValK dk x)
    folVar (fun y => y.erasePos = x.erasePos) :=
  reads_described hdk fun pos => .bind_pure ((reads_directives true x.dirs hok.1 (fun _ => hok.2) n).follow fun _ h => NoKind.mono h)
    fun _ hds => by simp [EnumValDef.erasePos, hds]

theorem reads_enumVals (xs : List EnumValDef) (hok : ∀ x ∈ xs, EnumValOK x) :
    Reads b (parseEnumValuesDefinition n) (printBlock (printEnumValK dk) xs)
      (fun t => xs = [] → t.kind ≠ .braceL) (fun ys => ys.map EnumValDef.erasePos = xs.map EnumValDef.erasePos) :=
  .optSome EnumValDef.erasePos (fun x hx => reads_enumVal hdk n x (hok x hx))
    (fun x _ => ahead_described hdk _ _ _ (.inr rfl)) fun _ h => .of_kind h


end

theorem reads_opTypeDef (x : OpTypeDef) (hop : isOperationType x.op) :
    Reads b parseOperationTypeDefinition (printOpType x) F (fun y => y.erasePos = x.erasePos) :=
  .peekPos fun _ => .operationType hop <| .expect rfl fun _ _ => .bind_pure reads_parseName fun _ h => by rw [h]; rfl

theorem reads_opTypes (xs : List OpTypeDef) (hok : ∀ x ∈ xs, isOperationType x.op) (n : Nat) :
    Reads b (pSome .braceL .braceR n parseOperationTypeDefinition) (printBlock printOpType xs)
      (fun t => xs = [] → t.kind ≠ .braceL) (fun ys => ys.map OpTypeDef.erasePos = xs.map OpTypeDef.erasePos) :=
  .optSome OpTypeDef.erasePos (fun x hx => reads_opTypeDef x (hok x hx)) (fun _ _ => .head rfl ⟨by simp [tName], trivial⟩)
    fun _ _ => trivial


/-- what may not follow a top-level item (what does follow is a description, a keyword or EOF) -/
def FolItem (σ : Stream) : Prop :=
  σ.head.kind ≠ .at ∧ σ.head.kind ≠ .parenL ∧ σ.head.kind ≠ .braceL ∧ σ.head.kind ≠ .amp ∧ σ.head.kind ≠ .equals ∧
    σ.head.kind ≠ .pipe ∧ σ.head.kind ≠ .bang ∧ NoImplements σ

theorem noImplements_of_kind {σ : Stream} (h : σ.head.kind ≠ .name) : NoImplements σ := fun hh => h hh.1

/-- `FolItem` as a condition on the token -/
def folItem (t : Tok) : Prop :=
  NoKind [.at, .parenL, .braceL, .amp, .equals, .pipe, .bang] t ∧ ¬ (t.kind = .name ∧ t.value = kwImplements)

theorem folItem_iff {σ : Stream} : FolItem σ ↔ folItem (Tok.ofToken σ.head) := by
  simp [FolItem, folItem, NoKind, NoImplements, Tok.ofToken, and_assoc]

/-- the parts `ifs ds fs ts es` are those of `d` up to positions -/
def PartsOf (d : Definition) (ifs : List Name) (ds : List Directive) (fs : List FieldDef) (ts : List Name) (es : List EnumValDef) :
    Prop :=
  ifs = d.interfaces ∧ ds.map Directive.erasePos = d.dirs.map Directive.erasePos ∧
    fs.map FieldDef.erasePos = d.fields.map FieldDef.erasePos ∧ ts = d.types ∧
    es.map EnumValDef.erasePos = d.enumValues.map EnumValDef.erasePos

theorem PartsOf.erasePos {d : Definition} {ifs : List Name} {ds : List Directive} {fs : List FieldDef} {ts : List Name}
    {es : List EnumValDef} (h : PartsOf d ifs ds fs ts es) (desc : Bytes) (pos : Pos) :
    (typeDefOf d.kind desc pos d.name ifs ds fs ts es).erasePos = ({ d with desc := desc, builtIn := false } : Definition).erasePos := by
  obtain ⟨rfl, h2, h3, rfl, h5⟩ := h
  simp [typeDefOf, Definition.erasePos, h2, h3, h5]

theorem length_eq_zero_of_map {α β : Type} {f : α → β} {ys xs : List α} (h : ys.map f = xs.map f) :
    ys.length = 0 ↔ xs = [] := by
  rw [← List.length_eq_zero_iff, ← List.length_map (as := ys) f, h, List.length_map]

theorem PartsOf.extends {d : Definition} {ifs : List Name} {ds : List Directive} {fs : List FieldDef} {ts : List Name}
    {es : List EnumValDef} (h : PartsOf d ifs ds fs ts es) (hx : ExtendsSomething d) : ¬ extendsNothing d.kind ifs ds fs ts es := by
  obtain ⟨rfl, h2, h3, rfl, h5⟩ := h
  unfold ExtendsSomething at hx
  unfold extendsNothing
  cases hk : d.kind <;> simp only [hk] at hx ⊢ <;>
    simp only [List.length_eq_zero_iff, length_eq_zero_of_map h2, length_eq_zero_of_map h3, length_eq_zero_of_map h5] <;>
    simpa [-not_and, Classical.not_and_iff_not_or_not] using hx


/-- the bodies of all type definitions and extensions on their printed tokens, once: `fin` is given parts that are those of `d`
    up to positions -/
theorem reads_typeBody {α : Type} {Q : α → Prop} (hdk : ∀ d, DescKind (dk d)) (d : Definition) (hok : DefOK d) (n : Nat)
    {fin : Pos → Name → List Name → List Directive → List FieldDef → List Name → List EnumValDef → Prog α}
    (hfin : ∀ pos ifs ds fs ts es, PartsOf d ifs ds fs ts es → Reads false (fin pos d.name ifs ds fs ts es) [] folItem Q) :
    Reads b (typeBody n d.kind fin) (DefKind.keyword d.kind :: printDefBodyK dk d) folItem Q := by
  obtain ⟨hcd, hparts⟩ := hok
  have hdirs := fun {b : Bool} => reads_directives (b := b) true d.dirs hcd.1 (fun _ => hcd.2) n
  unfold typeBody printDefBodyK
  cases hk : d.kind <;> simp only [hk] at hparts
  case scalar =>
    exact .keyword fun _ => .peekPos fun pos => .name <| .pure_bind <|
      .seq_nil (hdirs.follow fun _ h => h.1.mono) fun ds hds => .pure_bind <| .pure_bind <| .pure_bind <|
      hfin pos _ _ _ _ _ ⟨hparts.1.symm, hds, by rw [hparts.2.1], hparts.2.2.1.symm, by rw [hparts.2.2.2]⟩
  case object | interface =>
    simp only [List.append_assoc, List.cons_append]
    exact .keyword fun _ => .peekPos fun pos => .name <| .seq (reads_implements d.interfaces n)
        (.opt (opt_directives d.dirs) ⟨by decide, fun _ h => nomatch h.1⟩
          (.opt_last .ite ⟨by decide, fun _ h => nomatch h.1⟩ fun _ h => ⟨h.1.ne, fun _ => h.2⟩))
      fun _ hifs => .seq hdirs (.opt_last .ite (by decide) fun _ h => h.1.mono)
      fun ds hds => .seq_nil ((reads_fieldDefs hdk n d.fields hparts.2.2).follow fun _ h _ => h.1.ne)
      fun fs hfs => .pure_bind <| .pure_bind <| hfin pos _ _ _ _ _ ⟨hifs, hds, hfs, hparts.1.symm, by rw [hparts.2.1]⟩
  case union =>
    exact .keyword fun _ => .peekPos fun pos => .name <| .pure_bind <| .seq hdirs (.opt_last .ite (by decide) fun _ h => h.1.mono)
      fun ds hds => .pure_bind <| .seq_nil ((reads_unionMembers d.types n).follow fun _ h => ⟨h.1.ne, fun _ => h.1.ne⟩)
      fun ts hts => .pure_bind <| hfin pos _ _ _ _ _ ⟨hparts.1.symm, hds, by rw [hparts.2.1], hts, by rw [hparts.2.2]⟩
  case «enum» =>
    exact .keyword fun _ => .peekPos fun pos => .name <| .pure_bind <| .seq hdirs (.opt_last .ite (by decide) fun _ h => h.1.mono)
      fun ds hds => .pure_bind <| .pure_bind <|
      .seq_nil ((reads_enumVals hdk n d.enumValues hparts.2.2.2).follow fun _ h _ => h.1.ne)
      fun es hes => hfin pos _ _ _ _ _ ⟨hparts.1.symm, hds, by rw [hparts.2.1], hparts.2.2.1.symm, hes⟩
  case inputObject =>
    exact .keyword fun _ => .peekPos fun pos => .name <| .pure_bind <| .seq hdirs (.opt_last .ite (by decide) fun _ h => h.1.mono)
      fun ds hds => .seq_nil ((reads_inputFields hdk n d.fields hparts.2.2.2).follow fun _ h _ => h.1.ne)
      fun fs hfs => .pure_bind <| .pure_bind <| hfin pos _ _ _ _ _ ⟨hparts.1.symm, hds, hfs, hparts.2.1.symm, by rw [hparts.2.2.1]⟩


theorem keyword_value (k : DefKind) : (DefKind.keyword k).kind = .name ∧ (DefKind.keyword k).value = kwOf k := by
  cases k <;> exact ⟨rfl, tKw_value _⟩

theorem reads_typeSystemDefinition (hdk : ∀ d, DescKind (dk d)) (d : Definition) (hok : DefOK d) (n : Nat) :
    Reads b (parseTypeSystemDefinition n d.desc) (DefKind.keyword d.kind :: printDefBodyK dk d) folItem
      (fun y => y.erasePos = ({ d with builtIn := false } : Definition).erasePos) := by
  have body : Reads true (defParser d.kind n d.desc) (DefKind.keyword d.kind :: printDefBodyK dk d) folItem
      (fun y => y.erasePos = ({ d with builtIn := false } : Definition).erasePos) :=
    defParser_eq d.kind n d.desc ▸ reads_typeBody hdk d hok n fun pos _ _ _ _ _ h => .pure (h.erasePos d.desc pos)
  refine .peek_head rfl fun _ ht => .ite_neg (not_not_intro ((ofToken_kind ht).trans (keyword_value d.kind).1)) ?_
  cases hk : d.kind
  all_goals
    simp only [hk] at ht body
    rw [kw_value ht]
  · exact .ite_pos rfl body
  · exact .ite_neg str_ne <| .ite_pos rfl body
  · exact .ite_neg str_ne <| .ite_neg str_ne <| .ite_pos rfl body
  · exact .ite_neg str_ne <| .ite_neg str_ne <| .ite_neg str_ne <| .ite_pos rfl body
  · exact .ite_neg str_ne <| .ite_neg str_ne <| .ite_neg str_ne <| .ite_neg str_ne <| .ite_pos rfl body
  · exact .ite_neg str_ne <| .ite_neg str_ne <| .ite_neg str_ne <| .ite_neg str_ne <| .ite_neg str_ne <| .ite_pos rfl body

end Gql.Parser
