import GqlProofs.Parser.FwdQuery
import GqlProofs.Grammar.Inv
/-
  Completeness of the query parser, driven by derivations: if a stream starts with a token list
  that the grammar derives from a nonterminal (with canonical output `o`), the run of the
  corresponding parser program ends live, consumes exactly those tokens, and the unparse of its
  result is `o`.  (Consequences: every derivable lexable input is accepted, and every canonical
  output of the input's token sequence is the unparse of the tree.)

  The tokens are of lexer shape (`TsOK`: punctuators have the empty value).
-/
namespace Gql.Parser
open Gql Gql.Lexer Gql.Grammar Gql.Print

local notation "D" => Derives gql

variable {Fol : Tok → Prop} {b : Bool}


/-- what soundness says of a run holds of the run that the forward triple speaks of -/
theorem Fwd.and_spec {α : Type} {p : Prog α} {a : AS} {R : α → AS → Prop} {R' : α → AS → AS → Prop} (hf : Fwd p a R)
    (hs : Spec p R') : Fwd p a (fun x a' => R x a' ∧ R' x a a') := by
  intro s hw hl ha ho
  obtain ⟨l, w, r⟩ := hf s hw hl ha ho
  exact ⟨l, w, r, ha ▸ (hs s hw l).2⟩

/-- no condition on the token behind -/
abbrev Any : Tok → Prop := fun _ => True


theorem fwd_expectTok {a : AS} {σ' : Stream} (k : Kind) (t : Tok) (hk : t.kind = k) (h : Starts a.σ [t] σ') :
    Fwd (expect k) a (fun x a' => Tok.ofToken x = t ∧ a'.σ = σ') := by
  obtain ⟨u, hσ, hu⟩ := h.single
  exact (fwd_expect k hσ (by rw [ofToken_kind hu]; exact hk)).mono fun _ _ h => ⟨by rw [h.1]; exact hu, by rw [h.2]⟩


theorem kindCons_inv {k : Kind} {b : Sym NT} {ts o : List Tok} (h : D (.seq (Grammar.kind k) b) ts o) (hok : TsOK ts)
    (hv : k.valued = false := by decide) : ∃ t' o', ts = tP k :: t' ∧ o = tP k :: o' ∧ D b t' o' ∧ TsOK t' := by
  obtain ⟨t1, t2, o1, o2, rfl, rfl, d1, d2⟩ := h.seq_inv'
  obtain ⟨rfl, rfl⟩ := punct_inv d1 hok.left hv
  exact ⟨t2, o2, rfl, rfl, d2, hok.right⟩

theorem nameCons_inv {b : Sym NT} {ts o : List Tok} (h : D (.seq (.nt .name) b) ts o) (hok : TsOK ts) :
    ∃ n t' o', ts = tName n :: t' ∧ o = tName n :: o' ∧ D b t' o' ∧ TsOK t' := by
  obtain ⟨t1, t2, o1, o2, rfl, rfl, d1, d2⟩ := h.seq_inv'
  obtain ⟨n, rfl, rfl⟩ := name_inv d1
  exact ⟨n, t2, o2, rfl, rfl, d2, hok.right⟩

theorem kwCons_inv {w : String} {b : Sym NT} {ts o : List Tok} (h : D (.seq (Grammar.kw (str w)) b) ts o) (hok : TsOK ts) :
    ∃ t' o', ts = tKw w :: t' ∧ o = tKw w :: o' ∧ D b t' o' ∧ TsOK t' := by
  obtain ⟨t1, t2, o1, o2, rfl, rfl, d1, d2⟩ := h.seq_inv'
  obtain ⟨rfl, rfl⟩ := kw_inv d1
  exact ⟨t2, o2, rfl, rfl, d2, hok.right⟩

theorem seq_inv_ok {a b : Sym NT} {ts o : List Tok} (h : D (.seq a b) ts o) (hok : TsOK ts) :
    ∃ t1 t2 o1 o2, ts = t1 ++ t2 ∧ o = o1 ++ o2 ∧ D a t1 o1 ∧ D b t2 o2 ∧ TsOK t1 ∧ TsOK t2 := by
  obtain ⟨t1, t2, o1, o2, rfl, rfl, d1, d2⟩ := h.seq_inv'
  exact ⟨t1, t2, o1, o2, rfl, rfl, d1, d2, hok.left, hok.right⟩


/-- the shapes of a `Value[Const]` sentence -/
def ValShape (c : Bool) (ts o : List Tok) : Prop :=
    (c = false ∧ ∃ n, ts = [tP .dollar, tName n] ∧ o = [tP .dollar, tName n]) ∨
    (∃ t, ts = [t] ∧ o = [t] ∧ (t.kind = .int ∨ t.kind = .float ∨ t.kind = .string ∨ t.kind = .blockString ∨ t.kind = .name)) ∨
    (∃ parts : List (List Tok × List Tok), ts = tP .bracketL :: parts.flatMap (·.1) ++ [tP .bracketR] ∧
      o = tP .bracketL :: parts.flatMap (·.2) ++ [tP .bracketR] ∧ ∀ p ∈ parts, D (.nt (.value c)) p.1 p.2) ∨
    (∃ parts : List (List Tok × List Tok), ts = tP .braceL :: parts.flatMap (·.1) ++ [tP .braceR] ∧
      o = tP .braceL :: parts.flatMap (·.2) ++ [tP .braceR] ∧ ∀ p ∈ parts, D (.nt (.objectField c)) p.1 p.2)

theorem inv_listBlock {start stop : Kind} {item : Sym NT} {ts o : List Tok}
    (h : D (.alt (.seq (Grammar.kind start) (Grammar.kind stop)) (.seq (Grammar.kind start) (.seq (.plus item) (Grammar.kind stop)))) ts o)
    (hok : TsOK ts) (h1 : start.valued = false := by decide) (h2 : stop.valued = false := by decide) :
    ∃ parts : List (List Tok × List Tok), ts = tP start :: parts.flatMap (·.1) ++ [tP stop] ∧
      o = tP start :: parts.flatMap (·.2) ++ [tP stop] ∧ ∀ p ∈ parts, D item p.1 p.2 := by
  rcases h.alt_inv with h | h
  · obtain ⟨t1, t2, o1, o2, rfl, rfl, d1, d2⟩ := h.seq_inv'
    obtain ⟨rfl, rfl⟩ := punct_inv d1 hok.left h1
    obtain ⟨rfl, rfl⟩ := punct_inv d2 hok.right h2
    exact ⟨[], rfl, rfl, fun _ h => by cases h⟩
  · obtain ⟨t1, t2, o1, o2, rfl, rfl, d1, d2⟩ := h.seq_inv'
    obtain ⟨t3, t4, o3, o4, rfl, rfl, d3, d4⟩ := d2.seq_inv'
    obtain ⟨rfl, rfl⟩ := punct_inv d1 hok.left h1
    obtain ⟨rfl, rfl⟩ := punct_inv d4 hok.right.right h2
    obtain ⟨parts, _, rfl, rfl, hp⟩ := d3.plus_parts
    exact ⟨parts, by simp, by simp, hp⟩

theorem inv_value {c : Bool} {ts o : List Tok} (h : D (.nt (.value c)) ts o) (hok : TsOK ts) : ValShape c ts o := by
  have lit : D (literal c) ts o → ValShape c ts o := fun h => by
    rcases h.alt_inv with h | h
    · obtain ⟨t, e1, e2, hk⟩ := kind_inv h
      exact Or.inr (Or.inl ⟨t, e1, e2, .inl hk⟩)
    rcases h.alt_inv with h | h
    · obtain ⟨t, e1, e2, hk⟩ := kind_inv h
      exact Or.inr (Or.inl ⟨t, e1, e2, .inr (.inl hk)⟩)
    rcases h.alt_inv with h | h
    · obtain ⟨t, e1, e2, hp⟩ := h.tok_inv
      simp only [Bool.or_eq_true, beq_iff_eq] at hp
      exact Or.inr (Or.inl ⟨t, e1, e2, by rcases hp with hp | hp <;> simp [hp]⟩)
    rcases h.alt_inv with h | h
    · rcases h.nt_inv.alt_inv with h | h <;>
      · obtain ⟨t, e1, e2, hp⟩ := h.tok_inv
        simp only [Bool.and_eq_true, beq_iff_eq] at hp
        exact Or.inr (Or.inl ⟨t, e1, e2, by simp [hp.1]⟩)
    rcases h.alt_inv with h | h
    · obtain ⟨t, e1, e2, hp⟩ := h.nt_inv.tok_inv
      simp only [Bool.and_eq_true, beq_iff_eq] at hp
      exact Or.inr (Or.inl ⟨t, e1, e2, by simp [hp.1]⟩)
    rcases h.alt_inv with h | h
    · obtain ⟨t, e1, e2, hp⟩ := h.nt_inv.tok_inv
      simp only [Bool.and_eq_true, beq_iff_eq] at hp
      exact Or.inr (Or.inl ⟨t, e1, e2, by simp [hp.1]⟩)
    rcases h.alt_inv with h | h
    · exact Or.inr (Or.inr (Or.inl (inv_listBlock h.nt_inv hok)))
    · exact Or.inr (Or.inr (Or.inr (inv_listBlock h.nt_inv hok)))
  cases c with
  | true => exact lit h.nt_inv
  | false =>
    rcases h.nt_inv.alt_inv with h | h
    · obtain ⟨t1, t2, o1, o2, rfl, rfl, d1, d2⟩ := h.nt_inv.seq_inv'
      obtain ⟨rfl, rfl⟩ := punct_inv d1 hok.left rfl
      obtain ⟨n, rfl, rfl⟩ := name_inv d2
      exact .inl ⟨rfl, n, rfl, rfl⟩
    · exact lit h

theorem first_value {c : Bool} {ts o : List Tok} (h : D (.nt (.value c)) ts o) (hok : TsOK ts) :
    ∃ t rest, ts = t :: rest ∧ t.kind ∈ valueStart := by
  rcases inv_value h hok with ⟨_, n, rfl, _⟩ | ⟨t, rfl, _, hk⟩ | ⟨parts, rfl, _, _⟩ | ⟨parts, rfl, _, _⟩
  · exact ⟨_, _, rfl, by simp [valueStart, tP]⟩
  · exact ⟨t, [], rfl, by rcases hk with h | h | h | h | h <;> simp [valueStart, h]⟩
  · exact ⟨_, _, rfl, by simp [valueStart, tP]⟩
  · exact ⟨_, _, rfl, by simp [valueStart, tP]⟩

/-- the rule of ObjectField and of Argument: `Name : Value` -/
theorem inv_namedValue {c : Bool} {ts o : List Tok} (h : D (.seq (.nt .name) (.seq (Grammar.kind .colon) (.nt (.value c)))) ts o)
    (hok : TsOK ts) :
    ∃ n tv ov, ts = tName n :: tP .colon :: tv ∧ o = tName n :: tP .colon :: ov ∧ D (.nt (.value c)) tv ov ∧ TsOK tv := by
  obtain ⟨n, t1, o1, rfl, rfl, d1, hok1⟩ := nameCons_inv h hok
  obtain ⟨tv, ov, rfl, rfl, dv, hokv⟩ := kindCons_inv d1 hok1
  exact ⟨n, tv, ov, rfl, rfl, dv, hokv⟩

theorem toList_ofList (vs : List (Name × Value × Pos)) : (Children.ofList vs).toList = vs := by
  induction vs with
  | nil => rfl
  | cons x vs ih => obtain ⟨n, v, p⟩ := x; simp [Children.ofList, Children.toList, ih]

theorem parses_value (c : Bool) : ∀ (n : Nat) {b : Bool} (ts o : List Tok), TsOK ts → D (.nt (.value c)) ts o →
    Reads b (parseValueLiteral n c) ts Any (fun v => printValue v = o)
  | 0, _, _, _, _, _ => Reads.outOfFuel
  | n + 1, _, ts, o, hok, hd => by
    have ih := parses_value c n (b := false)
    rcases inv_value hd hok with ⟨hc, nm, rfl, rfl⟩ | ⟨t, rfl, rfl, hk⟩ | ⟨parts, rfl, rfl, hp⟩ | ⟨parts, rfl, rfl, hp⟩
    · subst hc
      unfold parseValueLiteral
      refine Reads.peek_head rfl fun token ht => Reads.getSrc fun src => ?_
      simp only [show token.kind = .dollar from ofToken_kind ht]
      exact Reads.ite_neg (by simp) (Reads.bind_pure (reads_parseVariable nm) fun _ e => by simp [e, printValue])
    · unfold parseValueLiteral
      refine Reads.peek_head rfl fun token ht => Reads.getSrc fun src => ?_
      have lit : ∀ k : ValueKind, printValue (.mk k token.value .nil (posOf src token)) = [t] →
          Reads true (litValue src token k) [t] Any (fun v => printValue v = [t]) := fun k h => by
        unfold litValue
        exact Reads.next fun _ _ => Reads.pure h
      have e : t = ⟨t.kind, token.value⟩ := by rw [ofToken_value ht]
      rcases hk with h | h | h | h | h
      · simp only [(ofToken_kind ht).trans h]; exact lit _ (by rw [e, h]; rfl)
      · simp only [(ofToken_kind ht).trans h]; exact lit _ (by rw [e, h]; rfl)
      · simp only [(ofToken_kind ht).trans h]; exact lit _ (by rw [e, h]; rfl)
      · simp only [(ofToken_kind ht).trans h]; exact lit _ (by rw [e, h]; rfl)
      · simp only [(ofToken_kind ht).trans h]; exact lit _ (by rw [e, h, printValue_name]; rfl)
    · have hokp : ∀ p ∈ parts, TsOK p.1 := (hok.tail.left).of_flatMap
      unfold parseValueLiteral
      refine Reads.peek_head rfl fun token ht => Reads.getSrc fun src => ?_
      simp only [show token.kind = .bracketL from ofToken_kind ht]
      unfold parseListWith
      refine Reads.peekPos fun pos => Reads.bind_pure (Reads.bracket (·.1)
        (fun (y : Name × Value × Pos) (p : List Tok × List Tok) => printValue y.2.1 = p.2) Any .bracketL .bracketR parts
        (fun p hpm => Reads.bind_pure (ih p.1 p.2 (hokp p hpm) (hp p hpm)) fun _ e => e) ?_ (fun _ _ => trivial) (n + 1)).1
        fun ys hy => ?_
      · intro p hpm
        obtain ⟨t, rest, h1, h2⟩ := first_value (hp p hpm) (hokp p hpm)
        exact ⟨t, rest, h1, by intro e; rw [e] at h2; simp [valueStart] at h2, trivial⟩
      · simp only [printValue, printItems_eq, toList_ofList]
        rw [All₂.flatMap_eq (P := fun (y : Name × Value × Pos) => printValue y.2.1) (g := fun (p : List Tok × List Tok) => p.2) hy]
    · have hokp : ∀ p ∈ parts, TsOK p.1 := (hok.tail.left).of_flatMap
      unfold parseValueLiteral
      refine Reads.peek_head rfl fun token ht => Reads.getSrc fun src => ?_
      simp only [show token.kind = .braceL from ofToken_kind ht]
      unfold parseObjectWith
      refine Reads.peekPos fun pos => Reads.bind_pure (Reads.bracket (·.1)
        (fun (y : Name × Value × Pos) (p : List Tok × List Tok) => tName y.1 :: tP .colon :: printValue y.2.1 = p.2) Any
        .braceL .braceR parts (fun p hpm => ?_) ?_ (fun _ _ => trivial) (n + 1)).1 fun ys hy => ?_
      · obtain ⟨nm, tv, ov, e1, e2, dv, hokv⟩ := inv_namedValue (hp p hpm).nt_inv (hokp p hpm)
        unfold parseObjectFieldWith
        exact e1 ▸ Reads.peekPos fun pos' => Reads.seq' (reads_parseName (n := nm)) fun _ en => Reads.expect rfl fun _ _ =>
          Reads.bind_pure (ih tv ov hokv dv) fun _ ev => by simp [en, ev, e2]
      · intro p hpm
        obtain ⟨nm, tv, ov, e1, _⟩ := inv_namedValue (hp p hpm).nt_inv (hokp p hpm)
        exact ⟨_, _, e1, by simp [tName], trivial⟩
      · simp only [printValue, printObjFields_eq, toList_ofList]
        rw [All₂.flatMap_eq (P := fun (y : Name × Value × Pos) => tName y.1 :: tP .colon :: printValue y.2.1) (g := fun (p : List Tok × List Tok) => p.2) hy]


/-- a bracketed non-empty list `start item+ stop`, or nothing -/
def OptBlockShape (start stop : Kind) (item : Sym NT) (ts o : List Tok) : Prop :=
  (ts = [] ∧ o = []) ∨ ∃ parts : List (List Tok × List Tok), parts ≠ [] ∧
    ts = tP start :: parts.flatMap (·.1) ++ [tP stop] ∧ o = tP start :: parts.flatMap (·.2) ++ [tP stop] ∧
    ∀ p ∈ parts, D item p.1 p.2 ∧ TsOK p.1

theorem inv_block {start stop : Kind} {item : Sym NT} {ts o : List Tok}
    (h : D (.seq (Grammar.kind start) (.seq (.plus item) (Grammar.kind stop))) ts o) (hok : TsOK ts)
    (h1 : start.valued = false := by decide) (h2 : stop.valued = false := by decide) :
    ∃ parts : List (List Tok × List Tok), parts ≠ [] ∧
      ts = tP start :: parts.flatMap (·.1) ++ [tP stop] ∧ o = tP start :: parts.flatMap (·.2) ++ [tP stop] ∧
      ∀ p ∈ parts, D item p.1 p.2 ∧ TsOK p.1 := by
  obtain ⟨t1, o1, rfl, rfl, d1, hok1⟩ := kindCons_inv h hok h1
  obtain ⟨t3, t4, o3, o4, rfl, rfl, d3, d4, hok3, hok4⟩ := seq_inv_ok d1 hok1
  obtain ⟨rfl, rfl⟩ := punct_inv d4 hok4 h2
  obtain ⟨parts, hne, rfl, rfl, hp⟩ := d3.plus_parts
  exact ⟨parts, hne, by simp, by simp, fun p hpm => ⟨hp p hpm, hok3.of_flatMap p hpm⟩⟩

theorem all₂_ne {α ι : Type} {R : α → ι → Prop} {ys : List α} {xs : List ι} (h : All₂ R ys xs) (hne : xs ≠ []) : ys ≠ [] := by
  cases h with
  | nil => exact absurd rfl hne
  | cons _ _ => simp

theorem All₂.imp {α ι : Type} {R S : α → ι → Prop} {ys : List α} {xs : List ι} (h : All₂ R ys xs)
    (hi : ∀ y x, R y x → S y x) : All₂ S ys xs := by
  induction h with
  | nil => exact .nil
  | cons h1 _ ih => exact .cons (hi _ _ h1) ih

theorem All₂.forall_left {α ι : Type} {R : α → ι → Prop} {Q : α → Prop} {ys : List α} {xs : List ι} (h : All₂ R ys xs)
    (hi : ∀ y x, R y x → Q y) : ∀ y ∈ ys, Q y := by
  induction h with
  | nil => exact fun _ hy => nomatch hy
  | cons h1 _ ih => exact List.forall_mem_cons.2 ⟨hi _ _ h1, ih⟩

/-- `( item+ )?` / `{ item+ }?` through `some`: the result prints as the canonical form of the block;
    `Q` is a property of the parsed items -/
theorem parses_optBlockQ {α : Type} {item : Sym NT} (pr : α → List Tok) (Q : α → Prop) (FolI : Tok → Prop) (start stop : Kind)
    {cb : Prog α} (hcb : ∀ ts o, TsOK ts → D item ts o → Reads false cb ts FolI (fun y => pr y = o ∧ Q y))
    (hstart : ∀ ts o, TsOK ts → D item ts o → ∃ t rest, ts = t :: rest ∧ t.kind ≠ stop ∧ FolI t)
    (hstop : ∀ u : Tok, u.kind = stop → FolI u) (n : Nat) {ts o : List Tok} (hs : OptBlockShape start stop item ts o) :
    Reads b (pSome start stop n cb) ts (fun t => ts = [] → t.kind ≠ start)
      (fun ys => (if ys.isEmpty then [] else tP start :: ys.flatMap pr ++ [tP stop]) = o ∧ ∀ y ∈ ys, Q y) := by
  rcases hs with ⟨rfl, rfl⟩ | ⟨parts, hne, rfl, rfl, hp⟩
  · exact ((Reads.bracket_absent start stop n).2.mono fun _ e => by simp [e]).follow fun _ h => h rfl
  · refine ((Reads.bracket (·.1) (fun (y : α) (p : List Tok × List Tok) => pr y = p.2 ∧ Q y) FolI start stop parts
      (fun p hpm => hcb p.1 p.2 (hp p hpm).2 (hp p hpm).1) (fun p hpm => hstart p.1 p.2 (hp p hpm).2 (hp p hpm).1) hstop n).2 hne).mono
      fun ys hy => And.intro ?_ (hy.forall_left fun _ _ h => h.2)
    rw [List.isEmpty_eq_false_iff.2 (all₂_ne hy hne),
      All₂.flatMap_eq (P := pr) (g := fun (p : List Tok × List Tok) => p.2) (hy.imp fun _ _ h => h.1)]
    rfl

theorem parses_optBlock {α : Type} {item : Sym NT} (pr : α → List Tok) (FolI : Tok → Prop) (start stop : Kind) {cb : Prog α}
    (hcb : ∀ ts o, TsOK ts → D item ts o → Reads false cb ts FolI (fun y => pr y = o))
    (hstart : ∀ ts o, TsOK ts → D item ts o → ∃ t rest, ts = t :: rest ∧ t.kind ≠ stop ∧ FolI t)
    (hstop : ∀ u : Tok, u.kind = stop → FolI u) (n : Nat) {ts o : List Tok} (hs : OptBlockShape start stop item ts o) :
    Reads b (pSome start stop n cb) ts (fun t => ts = [] → t.kind ≠ start)
      (fun ys => (if ys.isEmpty then [] else tP start :: ys.flatMap pr ++ [tP stop]) = o) :=
  (parses_optBlockQ pr (fun _ => True) FolI start stop (fun ts o hok hd => (hcb ts o hok hd).mono fun _ e => ⟨e, trivial⟩)
    hstart hstop n hs).mono fun _ h => h.1

theorem OptBlockShape.opt {start stop : Kind} {item : Sym NT} {ts o : List Tok} (hd : OptBlockShape start stop item ts o) :
    Opt (tP start) ts := by
  rcases hd with ⟨rfl, _⟩ | ⟨_, _, rfl, _⟩
  · exact .inl rfl
  · exact .inr ⟨_, rfl⟩

theorem optBlock_of {B : NT} {start stop : Kind} {item : Sym NT}
    (hrule : gql.rules B = .seq (Grammar.kind start) (.seq (.plus item) (Grammar.kind stop))) {ts o : List Tok}
    (h : D (.opt (.nt B)) ts o) (hok : TsOK ts) (h1 : start.valued = false := by decide) (h2 : stop.valued = false := by decide) :
    OptBlockShape start stop item ts o :=
  h.opt_inv.imp id fun h => inv_block (hrule ▸ h.nt_inv) hok h1 h2

theorem inv_optArguments {c : Bool} {ts o : List Tok} (h : D (.opt (.nt (.arguments c))) ts o) (hok : TsOK ts) :
    OptBlockShape .parenL .parenR (.nt (.argument c)) ts o :=
  h.opt_inv.imp id fun h => inv_block h.nt_inv hok

theorem parses_argument (c : Bool) (n : Nat) (ts o : List Tok) (hok : TsOK ts) (hd : D (.nt (.argument c)) ts o) :
    Reads b (parseArgument n c) ts Any (fun y => printArgument y = o) := by
  obtain ⟨nm, tv, ov, rfl, rfl, dv, hokv⟩ := inv_namedValue hd.nt_inv hok
  unfold parseArgument
  exact Reads.peekPos fun pos => Reads.seq' (reads_parseName (n := nm)) fun _ en => Reads.expect rfl fun _ _ =>
    Reads.bind_pure (parses_value c n tv ov hokv dv) fun _ ev => by simp [printArgument, en, ev]

theorem parses_arguments (c : Bool) (n : Nat) (ts o : List Tok) (hok : TsOK ts) (hd : D (.opt (.nt (.arguments c))) ts o) :
    Reads b (parseArguments n c) ts (fun t => t.kind ≠ .parenL) (fun as => printArguments as = o) :=
  Reads.follow (hF := fun _ h _ => h) <| parses_optBlock printArgument Any .parenL .parenR (parses_argument c n)
    (fun ts o hok hd => by
      obtain ⟨nm, tv, ov, e1, _⟩ := inv_namedValue hd.nt_inv hok
      exact ⟨_, _, e1, by simp [tName], trivial⟩)
    (fun _ _ => trivial) n (inv_optArguments hd hok)

theorem inv_directive {c : Bool} {ts o : List Tok} (h : D (.nt (.directive c)) ts o) (hok : TsOK ts) :
    ∃ nm ta oa, ts = tP .at :: tName nm :: ta ∧ o = tP .at :: tName nm :: oa ∧ D (.opt (.nt (.arguments c))) ta oa ∧ TsOK ta := by
  obtain ⟨t1, o1, rfl, rfl, d1, hok1⟩ := kindCons_inv h.nt_inv hok
  obtain ⟨nm, ta, oa, rfl, rfl, da, hoka⟩ := nameCons_inv d1 hok1
  exact ⟨nm, ta, oa, rfl, rfl, da, hoka⟩

theorem parses_directive (c : Bool) (n : Nat) (ts o : List Tok) (hok : TsOK ts) (hd : D (.nt (.directive c)) ts o) :
    Reads b (parseDirective n c) ts (fun t => t.kind ≠ .parenL) (fun y => printDirective y = o) := by
  obtain ⟨nm, ta, oa, rfl, rfl, da, hoka⟩ := inv_directive hd hok
  unfold parseDirective
  exact Reads.expect rfl fun _ _ => Reads.peekPos fun pos => Reads.seq' (reads_parseName (n := nm)) fun _ en =>
    Reads.bind_pure (parses_arguments c n ta oa hoka da) fun _ ea => by simp [printDirective, en, ea]

theorem inv_optDirectives {c : Bool} {ts o : List Tok} (h : D (.opt (.nt (.directives c))) ts o) :
    ∃ parts : List (List Tok × List Tok), ts = parts.flatMap (·.1) ∧ o = parts.flatMap (·.2) ∧
      ∀ p ∈ parts, D (.nt (.directive c)) p.1 p.2 := by
  rcases h.opt_inv with ⟨rfl, rfl⟩ | h
  · exact ⟨[], rfl, rfl, fun _ h => by cases h⟩
  · obtain ⟨parts, _, e1, e2, hp⟩ := h.nt_inv.plus_parts
    exact ⟨parts, e1, e2, hp⟩

theorem first_directive {c : Bool} {ts o : List Tok} (h : D (.nt (.directive c)) ts o) (hok : TsOK ts) :
    ∃ rest, ts = tP .at :: rest := by
  obtain ⟨nm, ta, oa, e, _⟩ := inv_directive h hok
  exact ⟨_, e⟩

theorem opt_directiveParts {c : Bool} {parts : List (List Tok × List Tok)}
    (hp : ∀ p ∈ parts, TsOK p.1 ∧ D (.nt (.directive c)) p.1 p.2) : Opt (tP .at) (parts.flatMap (·.1)) := by
  cases parts with
  | nil => exact .inl rfl
  | cons p r =>
    obtain ⟨rest, e⟩ := first_directive (hp p (by simp)).2 (hp p (by simp)).1
    exact .inr ⟨rest ++ r.flatMap (·.1), by rw [List.flatMap_cons, e]; rfl⟩

theorem opt_optDirectives {c : Bool} {ts o : List Tok} (h : D (.opt (.nt (.directives c))) ts o) (hok : TsOK ts) :
    Opt (tP .at) ts := by
  obtain ⟨parts, rfl, _, hp⟩ := inv_optDirectives h
  exact opt_directiveParts fun p hpm => ⟨hok.of_flatMap p hpm, hp p hpm⟩

theorem parses_directivesLoop (c : Bool) (m : Nat) : ∀ (parts : List (List Tok × List Tok)),
    (∀ p ∈ parts, TsOK p.1 ∧ D (.nt (.directive c)) p.1 p.2) → ∀ (n : Nat) (acc : List Directive),
      Reads false (directivesLoop (parseDirective m c) n acc) (parts.flatMap (·.1)) (NoKind [.at, .parenL])
        (fun ys => ∃ zs, ys = zs.reverse ++ acc ∧ printDirectives zs = parts.flatMap (·.2))
  | _, _, 0, _ => Reads.outOfFuel
  | [], _, n + 1, acc => by
    unfold directivesLoop
    exact Reads.peek_nil fun t ht => Reads.ite_neg ht.ne (Reads.pure ⟨[], by simp, rfl⟩)
  | p :: parts, hp, n + 1, acc => by
    obtain ⟨hokp, hdp⟩ := hp p (by simp)
    obtain ⟨rest, e⟩ := first_directive hdp hokp
    have hrest := fun q hq => hp q (List.mem_cons_of_mem _ hq)
    unfold directivesLoop
    refine Reads.toks ?_ List.flatMap_cons
    exact Reads.peek (P := fun t => t.kind = .at) (.head (t0 := tP .at) (by rw [e]; rfl) rfl) fun t ht => Reads.ite_pos ht <| Reads.hasErr <|
      Reads.ite_neg (by decide) <| Reads.seq (parses_directive c m p.1 p.2 hokp hdp)
        (.opt_last (opt_directiveParts hrest) (by decide) fun _ h => h.ne) fun y hy =>
      (parses_directivesLoop c m parts hrest n (y :: acc)).mono fun ys ⟨zs, e1, e2⟩ =>
        ⟨y :: zs, by simp [e1], by simp [printDirectives, hy, ← e2]⟩

theorem parses_directives (c : Bool) (n : Nat) (ts o : List Tok) (hok : TsOK ts) (hd : D (.opt (.nt (.directives c))) ts o) :
    Reads b (parseDirectives n c) ts (NoKind [.at, .parenL]) (fun ds => printDirectives ds = o) := by
  obtain ⟨parts, rfl, rfl, hp⟩ := inv_optDirectives hd
  unfold parseDirectives
  exact Reads.bind_pure (Reads.weaken (parses_directivesLoop c n parts (fun p hpm => ⟨hok.of_flatMap p hpm, hp p hpm⟩) n []))
    fun _ ⟨zs, e, hz⟩ => by simpa [e] using hz


theorem inv_namedType {ts o : List Tok} (h : D (.nt .namedType) ts o) : ∃ n, ts = [tName n] ∧ o = [tName n] :=
  name_inv h.nt_inv

theorem inv_listType {ts o : List Tok} (h : D (.nt .listType) ts o) (hok : TsOK ts) :
    ∃ te oe, ts = tP .bracketL :: te ++ [tP .bracketR] ∧ o = tP .bracketL :: oe ++ [tP .bracketR] ∧ D (.nt .typ) te oe ∧ TsOK te := by
  obtain ⟨t1, o1, rfl, rfl, d1, hok1⟩ := kindCons_inv h.nt_inv hok
  obtain ⟨te, t4, oe, o4, rfl, rfl, de, d4, hoke, hok4⟩ := seq_inv_ok d1 hok1
  obtain ⟨rfl, rfl⟩ := punct_inv d4 hok4 rfl
  exact ⟨te, oe, by simp, by simp, de, hoke⟩

theorem inv_type {ts o : List Tok} (h : D (.nt .typ) ts o) (hok : TsOK ts) :
    (∃ nm nn, ts = tName nm :: bangIf nn ∧ o = tName nm :: bangIf nn) ∨
    (∃ te oe nn, ts = tP .bracketL :: te ++ tP .bracketR :: bangIf nn ∧ o = tP .bracketL :: oe ++ tP .bracketR :: bangIf nn ∧
      D (.nt .typ) te oe ∧ TsOK te) := by
  rcases h.nt_inv.alt_inv with h | h
  · obtain ⟨n, rfl, rfl⟩ := inv_namedType h
    exact .inl ⟨n, false, rfl, rfl⟩
  rcases h.alt_inv with h | h
  · obtain ⟨te, oe, rfl, rfl, d, hoke⟩ := inv_listType h hok
    exact .inr ⟨te, oe, false, by simp [bangIf], by simp [bangIf], d, hoke⟩
  · rcases h.nt_inv.alt_inv with h | h
    · obtain ⟨t1, t2, o1, o2, rfl, rfl, d1, d2, _, hok2⟩ := seq_inv_ok h hok
      obtain ⟨n, rfl, rfl⟩ := inv_namedType d1
      obtain ⟨rfl, rfl⟩ := punct_inv d2 hok2 rfl
      exact .inl ⟨n, true, rfl, rfl⟩
    · obtain ⟨t1, t2, o1, o2, rfl, rfl, d1, d2, hok1, hok2⟩ := seq_inv_ok h hok
      obtain ⟨te, oe, rfl, rfl, d, hoke⟩ := inv_listType d1 hok1
      obtain ⟨rfl, rfl⟩ := punct_inv d2 hok2 rfl
      exact .inr ⟨te, oe, true, by simp [bangIf], by simp [bangIf], d, hoke⟩

theorem parses_bang (nn : Bool) : Reads b (skip .bang) (bangIf nn) (fun t => t.kind ≠ .bang) (· = nn) :=
  (reads_bang nn).follow fun _ h _ => h

/-- `Type`; what follows is never `!` -/
theorem parses_type : ∀ (n : Nat) {b : Bool} (ts o : List Tok), TsOK ts → D (.nt .typ) ts o →
    Reads b (parseTypeReference n) ts (fun t => t.kind ≠ .bang) (fun ty => printType ty = o)
  | 0, _, _, _, _, _ => Reads.outOfFuel
  | n + 1, _, ts, o, hok, hd => by
    unfold parseTypeReference
    rcases inv_type hd hok with ⟨nm, nn, rfl, rfl⟩ | ⟨te, oe, nn, rfl, rfl, de, hoke⟩
    · exact Reads.skip_no (.head rfl nofun) <| Reads.ite_neg (by simp) <| Reads.peekPos fun pos =>
        Reads.seq' (reads_parseName (n := nm)) fun _ en => Reads.bind_pure (parses_bang nn) fun _ eb => by simp [printType, en, eb]
    · refine Reads.toks (ts := tP .bracketL :: (te ++ ([tP .bracketR] ++ bangIf nn))) ?_ (by simp)
      exact Reads.skip_yes rfl <| Reads.ite_pos rfl <| Reads.peekPos fun pos =>
        Reads.seq (parses_type n te oe hoke de) (.head rfl nofun) fun _ ee =>
        Reads.expect rfl fun _ _ => Reads.bind_pure (parses_bang nn) fun _ eb => by
          simp [printType, ee, eb]


theorem inv_varDef {ts o : List Tok} (h : D (.nt .variableDefinition) ts o) (hok : TsOK ts) :
    ∃ v tt ot tdv odv tds ods, ts = tP .dollar :: tName v :: tP .colon :: (tt ++ (tdv ++ tds)) ∧
      o = tP .dollar :: tName v :: tP .colon :: (ot ++ (odv ++ ods)) ∧ D (.nt .typ) tt ot ∧
      D (.opt (.nt .defaultValue)) tdv odv ∧ D (.opt (.nt (.directives true))) tds ods ∧ TsOK tt ∧ TsOK tdv ∧ TsOK tds := by
  obtain ⟨t1, t2, o1, o2, rfl, rfl, d1, d2, hok1, hok2⟩ := seq_inv_ok h.nt_inv hok
  obtain ⟨s1, p1, rfl, rfl, e2, hs1⟩ := kindCons_inv d1.nt_inv hok1
  obtain ⟨v, rfl, rfl⟩ := name_inv e2
  obtain ⟨t3, o3, rfl, rfl, d3, hok3⟩ := kindCons_inv d2 hok2
  obtain ⟨tt, t5, ot, o5, rfl, rfl, dt, d5, hokt, hok5⟩ := seq_inv_ok d3 hok3
  obtain ⟨tdv, tds, odv, ods, rfl, rfl, ddv, dds, hokdv, hokds⟩ := seq_inv_ok d5 hok5
  exact ⟨v, tt, ot, tdv, odv, tds, ods, rfl, rfl, dt, ddv, dds, hokt, hokdv, hokds⟩

theorem inv_optDefault {ts o : List Tok} (h : D (.opt (.nt .defaultValue)) ts o) (hok : TsOK ts) :
    (ts = [] ∧ o = []) ∨ ∃ tv ov, ts = tP .equals :: tv ∧ o = tP .equals :: ov ∧ D (.nt (.value true)) tv ov ∧ TsOK tv :=
  h.opt_inv.imp id fun h => kindCons_inv h.nt_inv hok

theorem opt_optDefault {ts o : List Tok} (h : D (.opt (.nt .defaultValue)) ts o) (hok : TsOK ts) : Opt (tP .equals) ts :=
  (inv_optDefault h hok).imp And.left fun ⟨tv, _, e, _⟩ => ⟨tv, e⟩

/-- `: Type DefaultValue? Directives?` and the record built from them -/
theorem parses_typedTail {β : Type} (n : Nat) {tt ot tdv odv tds ods : List Tok} (dt : D (.nt .typ) tt ot)
    (ddv : D (.opt (.nt .defaultValue)) tdv odv) (dds : D (.opt (.nt (.directives true))) tds ods) (hokt : TsOK tt)
    (hokdv : TsOK tdv) (hokds : TsOK tds) (mk : GType → Option Value → List Directive → β) :
    Reads b (do
      let _ ← expect .colon
      let ty ← parseTypeReference n
      let dv ← do
        if ← skip .equals then
          let v ← parseValueLiteral n true
          pure (Option.some v)
        else pure none
      let dirs ← parseDirectives n true
      pure (mk ty dv dirs)) (tP .colon :: (tt ++ (tdv ++ tds))) folVar
      (fun y => ∃ ty dv dirs, y = mk ty dv dirs ∧ printType ty = ot ∧ printDefault dv = odv ∧ printDirectives dirs = ods) := by
  have od := opt_optDirectives dds hokds
  have hdirs := (parses_directives (b := false) true n tds ods hokds dds).follow (F := folVar)
    fun _ h => h.mono
  refine Reads.expect rfl fun _ _ => Reads.seq (parses_type n tt ot hokt dt)
    (.opt (opt_optDefault ddv hokdv) (by decide) (.opt_last od (by decide) fun _ h => h.ne)) fun ty ety => ?_
  rcases inv_optDefault ddv hokdv with ⟨rfl, rfl⟩ | ⟨tv, ov, rfl, rfl, dv, hokv⟩
  · exact Reads.skip_no (.opt_last od (by decide) fun _ h => h.ne) <| Reads.ite_neg (by simp) <| Reads.pure_bind <|
      Reads.bind_pure (Reads.weaken hdirs) fun ds e => ⟨ty, none, ds, rfl, ety, rfl, e⟩
  · exact Reads.skip_yes rfl <| Reads.ite_pos rfl <| Reads.seq' (parses_value true n tv ov hokv dv) fun v ev =>
      Reads.pure_bind <| Reads.bind_pure hdirs fun ds e => ⟨ty, some v, ds, rfl, ety, by simp [printDefault, ev], e⟩

theorem parses_varDef (n : Nat) (ts o : List Tok) (hok : TsOK ts) (hd : D (.nt .variableDefinition) ts o) :
    Reads b (parseVariableDefinition n) ts folVar (fun y => printVarDef y = o) := by
  obtain ⟨v, tt, ot, tdv, odv, tds, ods, rfl, rfl, dt, ddv, dds, hokt, hokdv, hokds⟩ := inv_varDef hd hok
  exact Reads.peekPos fun pos => Reads.variable <| (parses_typedTail n dt ddv dds hokt hokdv hokds
    fun ty dv dirs => ({ var := v, type := ty, default := dv, dirs := dirs, pos := pos } : VarDef)).mono
    fun _ ⟨_, _, _, e, e1, e2, e3⟩ => by simp [e, printVarDef, e1, e2, e3]

theorem first_varDef {ts o : List Tok} (h : D (.nt .variableDefinition) ts o) (hok : TsOK ts) : ∃ rest, ts = tP .dollar :: rest := by
  obtain ⟨v, tt, ot, tdv, odv, tds, ods, e, _⟩ := inv_varDef h hok
  exact ⟨_, e⟩

theorem parses_varDefs (n : Nat) (ts o : List Tok) (hok : TsOK ts) (hd : D (.opt (.nt .variableDefinitions)) ts o) :
    Reads b (parseVariableDefinitions n) ts (fun t => t.kind ≠ .parenL) (fun vs => printVarDefs vs = o) :=
  Reads.follow (hF := fun _ h _ => h) <| parses_optBlock printVarDef folVar .parenL .parenR
    (parses_varDef n)
    (fun ts o hok hd => by
      obtain ⟨rest, e⟩ := first_varDef hd hok
      exact ⟨_, _, e, by decide, by decide⟩)
    (fun _ hu => .of_kind hu) n (hd.opt_inv.imp id fun h => inv_block h.nt_inv hok)


theorem inv_selectionSet {ts o : List Tok} (h : D (.nt .selectionSet) ts o) (hok : TsOK ts) :
    ∃ parts : List (List Tok × List Tok), parts ≠ [] ∧
      ts = tP .braceL :: parts.flatMap (·.1) ++ [tP .braceR] ∧ o = tP .braceL :: parts.flatMap (·.2) ++ [tP .braceR] ∧
      ∀ p ∈ parts, D (.nt .selection) p.1 p.2 ∧ TsOK p.1 :=
  inv_block h.nt_inv hok

theorem first_optSelectionSet {ts o : List Tok} (h : D (.opt (.nt .selectionSet)) ts o) (hok : TsOK ts) :
    (ts = [] ∧ o = []) ∨ (∃ rest, ts = tP .braceL :: rest) ∧ D (.nt .selectionSet) ts o := by
  rcases h.opt_inv with h | h
  · exact .inl h
  · obtain ⟨parts, _, e, _, _⟩ := inv_selectionSet h hok
    exact .inr ⟨⟨_, e⟩, h⟩

theorem inv_field {ts o : List Tok} (h : D (.nt .field) ts o) (hok : TsOK ts) :
    ∃ (colon : Bool) (al nm : Name) (ta oa td od tss oss : List Tok),
      ts = (if colon then [tName al, tP .colon] else []) ++ ([tName nm] ++ (ta ++ (td ++ tss))) ∧
      o = dropSelfAlias ((if colon then [tName al, tP .colon] else []) ++ ([tName nm] ++ (oa ++ (od ++ oss)))) ∧
      (colon = false → al = nm) ∧ D (.opt (.nt (.arguments false))) ta oa ∧ D (.opt (.nt (.directives false))) td od ∧
      D (.opt (.nt .selectionSet)) tss oss ∧ TsOK ta ∧ TsOK td ∧ TsOK tss := by
  obtain ⟨o', rfl, hb⟩ := h.nt_inv.canon_inv
  obtain ⟨t1, t2, o1, o2, rfl, rfl, d1, d2, hok1, hok2⟩ := seq_inv_ok hb hok
  obtain ⟨nm, t4, o4, rfl, rfl, d4, hok4⟩ := nameCons_inv d2 hok2
  obtain ⟨ta, t6, oa, o6, rfl, rfl, da, d6, hoka, hok6⟩ := seq_inv_ok d4 hok4
  obtain ⟨td, tss, od, oss, rfl, rfl, dd, dss, hokd, hoks⟩ := seq_inv_ok d6 hok6
  rcases d1.opt_inv with ⟨rfl, rfl⟩ | d1
  · exact ⟨false, nm, nm, ta, oa, td, od, tss, oss, by simp, by simp, fun _ => rfl, da, dd, dss, hoka, hokd, hoks⟩
  · obtain ⟨al, s2, p2, rfl, rfl, e2, hs2⟩ := nameCons_inv d1.nt_inv hok1
    obtain ⟨rfl, rfl⟩ := punct_inv e2 hs2 rfl
    exact ⟨true, al, nm, ta, oa, td, od, tss, oss, by simp, by simp, fun h => (by cases h), da, dd, dss, hoka, hokd, hoks⟩

theorem inv_spread {ts o : List Tok} (h : D (.nt .fragmentSpread) ts o) (hok : TsOK ts) :
    ∃ nm td od, nm ≠ str "on" ∧ ts = tP .spread :: tName nm :: td ∧ o = tP .spread :: tName nm :: od ∧
      D (.opt (.nt (.directives false))) td od ∧ TsOK td := by
  obtain ⟨t1, o1, rfl, rfl, d1, hok1⟩ := kindCons_inv h.nt_inv hok
  obtain ⟨t3, td, o3, od, rfl, rfl, d3, dd, _, hokd⟩ := seq_inv_ok d1 hok1
  obtain ⟨t, rfl, rfl, hp⟩ := d3.nt_inv.tok_inv
  simp only [Bool.and_eq_true, beq_iff_eq, Bool.not_eq_true', List.contains_cons, List.contains_nil, Bool.or_false,
    beq_eq_false_iff_ne] at hp
  refine ⟨t.value, td, od, hp.2, ?_, ?_, dd, hokd⟩ <;> (cases t; simp_all [tName])

theorem inv_inline {ts o : List Tok} (h : D (.nt .inlineFragment) ts o) (hok : TsOK ts) :
    ∃ (tc : Name) (td od tss oss : List Tok), ts = tP .spread :: ((if tc = [] then [] else [tKw "on", tName tc]) ++ (td ++ tss)) ∧
      o = tP .spread :: ((if tc = [] then [] else [tKw "on", tName tc]) ++ (od ++ oss)) ∧
      D (.opt (.nt (.directives false))) td od ∧ D (.nt .selectionSet) tss oss ∧ TsOK td ∧ TsOK tss := by
  obtain ⟨t1, o1, rfl, rfl, d1, hok1⟩ := kindCons_inv h.nt_inv hok
  obtain ⟨t3, t4, o3, o4, rfl, rfl, d3, d4, hok3, hok4⟩ := seq_inv_ok d1 hok1
  obtain ⟨td, tss, od, oss, rfl, rfl, dd, dss, hokd, hoks⟩ := seq_inv_ok d4 hok4
  rcases d3.opt_inv with ⟨rfl, rfl⟩ | d3
  · exact ⟨[], td, od, tss, oss, by simp, by simp, dd, dss, hokd, hoks⟩
  · obtain ⟨s1, s2, p1, p2, rfl, rfl, e1, e2⟩ := d3.nt_inv.seq_inv'
    obtain ⟨rfl, rfl⟩ := kw_inv e1
    obtain ⟨tc, rfl, rfl⟩ := inv_namedType e2
    have htc : tc ≠ [] := (hok3 (tName tc) (by simp)).2 rfl
    exact ⟨tc, td, od, tss, oss, by simp [htc], by simp [htc], dd, dss, hokd, hoks⟩

theorem first_selection {ts o : List Tok} (h : D (.nt .selection) ts o) (hok : TsOK ts) :
    ∃ t rest, ts = t :: rest ∧ (t.kind = .name ∨ t.kind = .spread) := by
  rcases h.nt_inv.alt_inv with h | h
  · obtain ⟨colon, al, nm, ta, oa, td, od, tss, oss, e, _⟩ := inv_field h hok
    cases colon
    · exact ⟨tName nm, _, by simpa using e, .inl rfl⟩
    · exact ⟨tName al, _, by simpa using e, .inl rfl⟩
  rcases h.alt_inv with h | h
  · obtain ⟨nm, td, od, _, e, _⟩ := inv_spread h hok
    exact ⟨_, _, e, .inr rfl⟩
  · obtain ⟨tc, td, od, tss, oss, e, _⟩ := inv_inline h hok
    exact ⟨_, _, e, .inr rfl⟩

theorem toList_ofListS (xs : List Selection) : (Selections.ofList xs).toList = xs := by
  induction xs with
  | nil => rfl
  | cons x xs ih => simp [Selections.ofList, Selections.toList, ih]

/-- what the selection parser does on a derivable token list -/
def ParsesSel (m : Nat) : Prop :=
  ∀ (ts o : List Tok), TsOK ts → D (.nt .selection) ts o → Reads false (parseSelection m) ts folSel (fun s => printSelection s = o)

theorem parses_selBlock {m : Nat} (hsel : ParsesSel m) (n : Nat) {ts o : List Tok} (hok : TsOK ts) (hd : D (.nt .selectionSet) ts o) :
    Reads b (pSome .braceL .braceR n (parseSelection m)) ts Fol
      (fun ys => ys ≠ [] ∧ printSelectionSet (Selections.ofList ys) = o) := by
  obtain ⟨parts, hne, rfl, rfl, hp⟩ := inv_selectionSet hd hok
  refine ((Reads.bracket (·.1) (fun (y : Selection) (p : List Tok × List Tok) => printSelection y = p.2) folSel .braceL .braceR parts
    (fun p hpm => hsel p.1 p.2 (hp p hpm).2 (hp p hpm).1) (fun p hpm => ?_) (fun _ hu => .of_kind hu) n).2 hne).mono
    fun ys hy => And.intro (all₂_ne hy hne) ?_
  · obtain ⟨t, rest, h1, h2⟩ := first_selection (hp p hpm).1 (hp p hpm).2
    exact ⟨t, rest, h1, by rcases h2 with h | h <;> simp [h], by rcases h2 with h | h <;> exact .of_kind h⟩
  · simp only [printSelectionSet, printSelections_eq, toList_ofListS]
    rw [All₂.flatMap_eq (P := printSelection) (g := fun (p : List Tok × List Tok) => p.2) hy]

theorem head_selectionSet {ts o : List Tok} (h : D (.nt .selectionSet) ts o) (hok : TsOK ts) : ts.head? = some (tP .braceL) := by
  obtain ⟨parts, _, rfl, _, _⟩ := inv_selectionSet h hok
  rfl

theorem parses_requiredSelSet {m : Nat} (hsel : ParsesSel m) (n : Nat) {ts o : List Tok} (hok : TsOK ts)
    (hd : D (.nt .selectionSet) ts o) :
    Reads b (parseRequiredSelectionSetWith (parseSelection m) n) ts Fol (fun ss => printSelectionSet ss = o) := by
  unfold parseRequiredSelectionSetWith
  exact Reads.peek_head (head_selectionSet hd hok) fun t ht => Reads.ite_neg (not_not_intro (ofToken_kind ht)) <|
    Reads.bind_pure (parses_selBlock hsel n hok hd) fun _ h => h.2

theorem opt_optSelectionSet {ts o : List Tok} (h : D (.opt (.nt .selectionSet)) ts o) (hok : TsOK ts) : Opt (tP .braceL) ts :=
  (first_optSelectionSet h hok).imp And.left And.left

theorem parses_fieldTail {m : Nat} (hsel : ParsesSel m) (n : Nat) (pos : Pos) (al nm : Name) {ta oa td od tss oss : List Tok}
    (da : D (.opt (.nt (.arguments false))) ta oa) (dd : D (.opt (.nt (.directives false))) td od)
    (dss : D (.opt (.nt .selectionSet)) tss oss) (hoka : TsOK ta) (hokd : TsOK td) (hoks : TsOK tss) :
    Reads b (fieldTail (parseSelection m) n pos al nm) (ta ++ (td ++ tss)) folSel (fun s => ∃ args ds ss,
      s = Selection.field al nm args ds ss pos ∧ printArguments args = oa ∧ printDirectives ds = od ∧ selOut ss = oss) := by
  have os := opt_optSelectionSet dss hoks
  unfold fieldTail
  refine Reads.seq (parses_arguments false n ta oa hoka da)
      (.opt (opt_optDirectives dd hokd) (by decide) (.opt_last os (by decide) fun _ h => h.ne)) fun args ea =>
    Reads.seq (parses_directives false n td od hokd dd) (.opt_last os (by decide) fun _ h => h.mono) fun ds ed => ?_
  rcases first_optSelectionSet dss hoks with ⟨rfl, rfl⟩ | ⟨⟨rest, rfl⟩, dss'⟩
  · exact Reads.peek_nil fun _ ht => Reads.ite_neg ht.ne <| Reads.pure_bind <| Reads.pure ⟨args, ds, .nil, rfl, ea, ed, rfl⟩
  · unfold parseOptionalSelectionSetWith
    exact Reads.peek_head rfl fun _ ht => Reads.ite_pos (ofToken_kind ht) <| Reads.bind_pure (Reads.bind_pure (Q := fun ss => selOut ss = oss)
      (parses_selBlock hsel n hoks dss') fun ys h => by cases ys with
        | nil => exact absurd rfl h.1
        | cons y ys => exact h.2) fun ss h => ⟨args, ds, ss, rfl, ea, ed, h⟩

theorem parses_inlineTail {m : Nat} (hsel : ParsesSel m) (n : Nat) (pos : Pos) (tc : Name) {td od tss oss : List Tok}
    (dd : D (.opt (.nt (.directives false))) td od) (dss : D (.nt .selectionSet) tss oss) (hokd : TsOK td) (hoks : TsOK tss) :
    Reads b (inlineTail (parseSelection m) n pos tc) (td ++ tss) Fol (fun s => ∃ ds ss, s = Selection.inline tc ds ss pos ∧
      printDirectives ds = od ∧ printSelectionSet ss = oss) := by
  unfold inlineTail
  exact Reads.seq (parses_directives false n td od hokd dd) (.head (head_selectionSet dss hoks) (by decide))
    fun ds ed => Reads.bind_pure (parses_requiredSelSet hsel n hoks dss) fun ss es => ⟨ds, ss, rfl, ed, es⟩

theorem parses_fragmentName (nm : Name) (hn : nm ≠ str "on") : Reads b parseFragmentName [tName nm] Fol (· = nm) :=
  fun _ _ _ hs _ => fwd_parseFragmentName nm hs hn

theorem parses_selection : ∀ m, ParsesSel m
  | 0 => fun _ _ _ _ => Reads.outOfFuel
  | m + 1 => by
    have ih := parses_selection m
    intro ts o hok hd
    unfold parseSelection
    rcases hd.nt_inv.alt_inv with hd | hd
    · obtain ⟨colon, al, nm, ta, oa, td, od, tss, oss, rfl, rfl, hcol, da, dd, dss, hoka, hokd, hoks⟩ := inv_field hd hok
      have tail := fun {b : Bool} al' => (parses_fieldTail (b := b) ih (m + 1) · al' nm da dd dss hoka hokd hoks)
      rw [parseFieldWith_eq]
      have fin : ∀ pos s, (∃ args ds ss, s = Selection.field al nm args ds ss pos ∧ printArguments args = oa ∧
          printDirectives ds = od ∧ selOut ss = oss) → printSelection s =
          dropSelfAlias ((if colon then [tName al, tP .colon] else []) ++ ([tName nm] ++ (oa ++ (od ++ oss)))) := by
        rintro pos _ ⟨args, ds, ss, rfl, rfl, rfl, rfl⟩
        exact (dropSelfAlias_field al nm args ds ss pos colon hcol).symm
      cases colon with
      | false =>
        obtain rfl := hcol rfl
        show Reads _ _ (tName al :: (ta ++ (td ++ tss))) _ _
        exact Reads.peek_head rfl fun t ht => Reads.ite_neg (by rw [ofToken_kind ht]; nofun) <| Reads.peekPos fun pos => Reads.name <|
          Reads.skip_no (.opt (inv_optArguments da hoka).opt (by decide) (.opt (opt_optDirectives dd hokd) (by decide)
            (.opt_last (opt_optSelectionSet dss hoks) (by decide) fun _ h => h.ne))) <|
          Reads.ite_neg (by simp) ((tail al pos).mono (fin pos))
      | true =>
        show Reads _ _ (tName al :: tP .colon :: tName nm :: (ta ++ (td ++ tss))) _ _
        exact Reads.peek_head rfl fun t ht => Reads.ite_neg (by rw [ofToken_kind ht]; nofun) <| Reads.peekPos fun pos => Reads.name <|
          Reads.skip_yes rfl <| Reads.ite_pos rfl <| Reads.name <| (tail al pos).mono (fin pos)
    rcases hd.alt_inv with hd | hd
    · obtain ⟨nm, td, od, hnm, rfl, rfl, dd, hokd⟩ := inv_spread hd hok
      rw [parseFragmentWith_eq]
      exact Reads.peek_head rfl fun t ht => Reads.ite_pos (ofToken_kind ht) <| Reads.expect rfl fun _ _ => Reads.peek_head rfl fun pk hpk =>
        Reads.ite_pos ⟨ofToken_kind hpk, by rw [ofToken_value hpk]; exact hnm⟩ <| Reads.peekPos fun pos =>
        Reads.seq' (parses_fragmentName nm hnm) fun _ e =>
        Reads.bind_pure ((parses_directives false (m + 1) td od hokd dd).follow fun _ h => h.mono) fun ds ed => by
          simp [printSelection, e, ed]
    · obtain ⟨tc, td, od, tss, oss, rfl, rfl, dd, dss, hokd, hoks⟩ := inv_inline hd hok
      have fin : ∀ pos s, (∃ ds ss, s = Selection.inline tc ds ss pos ∧ printDirectives ds = od ∧ printSelectionSet ss = oss) →
          printSelection s = tP .spread :: ((if tc = [] then [] else [tKw "on", tName tc]) ++ (od ++ oss)) := by
        rintro pos _ ⟨ds, ss, rfl, rfl, rfl⟩
        simp [printSelection, printSelectionSet]
      rw [parseFragmentWith_eq]
      refine Reads.peek_head rfl fun t ht => Reads.ite_pos (ofToken_kind ht) <| Reads.expect rfl fun _ _ => ?_
      by_cases htc : tc = []
      · subst htc
        -- no type condition: the next token is `@` or `{`
        have hk : Ahead (fun t => t.kind ≠ .name) (td ++ tss) folSel :=
          .opt (opt_optDirectives dd hokd) (by decide) (.head (head_selectionSet dss hoks) (by decide))
        exact Reads.peek hk fun pk hpk => Reads.ite_neg (fun h => hpk h.1) <|
          Reads.peekPos fun pos => Reads.peek hk fun t2 ht2 => Reads.ite_neg (fun h => ht2 h.1) <|
          Reads.weaken ((parses_inlineTail ih (m + 1) pos [] dd dss hokd hoks).mono (fin pos))
      · simp only [if_neg htc] at fin ⊢
        exact Reads.peek_head rfl fun pk hpk =>
          Reads.ite_neg (fun h => h.2 (ofToken_value hpk)) <| Reads.peekPos fun pos => Reads.peek_head rfl fun t2 ht2 =>
          Reads.ite_pos ⟨ofToken_kind ht2, ofToken_value ht2⟩ <| Reads.next fun _ _ => Reads.name <|
          (parses_inlineTail ih (m + 1) pos tc dd dss hokd hoks).mono (fin pos)

theorem parses_requiredSelectionSet (n : Nat) {ts o : List Tok} (hok : TsOK ts) (hd : D (.nt .selectionSet) ts o) :
    Reads b (parseRequiredSelectionSet n) ts Fol (fun ss => printSelectionSet ss = o) :=
  parses_requiredSelSet (parses_selection n) n hok hd

end Gql.Parser
