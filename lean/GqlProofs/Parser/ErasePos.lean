import GqlModel.Syntax.Ast
/-
  Position erasure: the tree with every `Pos` replaced by `Pos.zero`.  Two trees are "equal up to
  positions" when their erasures are equal.  (The parser records positions the unparser does not
  print, so round-trip statements are up to this erasure.)
-/
namespace Gql

def GType.erasePos : GType → GType
  | .named n nn _ => .named n nn Pos.zero
  | .list e nn _ => .list e.erasePos nn Pos.zero

mutual
  def Value.erasePos : Value → Value
    | .mk k raw ch _ => .mk k raw ch.erasePos Pos.zero
  def Children.erasePos : Children → Children
    | .nil => .nil
    | .cons n v _ rest => .cons n v.erasePos Pos.zero rest.erasePos
end

def Argument.erasePos (a : Argument) : Argument := { name := a.name, value := a.value.erasePos, pos := Pos.zero }

def Directive.erasePos (d : Directive) : Directive :=
  { name := d.name, args := d.args.map Argument.erasePos, pos := Pos.zero }

mutual
  def Selection.erasePos : Selection → Selection
    | .field al nm args ds sel _ =>
      .field al nm (args.map Argument.erasePos) (ds.map Directive.erasePos) sel.erasePos Pos.zero
    | .spread nm ds _ => .spread nm (ds.map Directive.erasePos) Pos.zero
    | .inline tc ds sel _ => .inline tc (ds.map Directive.erasePos) sel.erasePos Pos.zero
  def Selections.erasePos : Selections → Selections
    | .nil => .nil
    | .cons s rest => .cons s.erasePos rest.erasePos
end

def VarDef.erasePos (v : VarDef) : VarDef :=
  { var := v.var, type := v.type.erasePos, default := v.default.map Value.erasePos,
    dirs := v.dirs.map Directive.erasePos, pos := Pos.zero }

def OperationDef.erasePos (o : OperationDef) : OperationDef :=
  { op := o.op, name := o.name, vars := o.vars.map VarDef.erasePos, dirs := o.dirs.map Directive.erasePos,
    sel := o.sel.erasePos, pos := Pos.zero }

def FragmentDef.erasePos (f : FragmentDef) : FragmentDef :=
  { name := f.name, vars := f.vars.map VarDef.erasePos, typeCond := f.typeCond, dirs := f.dirs.map Directive.erasePos,
    sel := f.sel.erasePos, pos := Pos.zero }

def QueryDoc.erasePos (d : QueryDoc) : QueryDoc :=
  { ops := d.ops.map OperationDef.erasePos, frags := d.frags.map FragmentDef.erasePos }


def ArgDef.erasePos (a : ArgDef) : ArgDef :=
  { desc := a.desc, name := a.name, default := a.default.map Value.erasePos, type := a.type.erasePos,
    dirs := a.dirs.map Directive.erasePos, pos := Pos.zero }

def FieldDef.erasePos (f : FieldDef) : FieldDef :=
  { desc := f.desc, name := f.name, args := f.args.map ArgDef.erasePos, default := f.default.map Value.erasePos,
    type := f.type.erasePos, dirs := f.dirs.map Directive.erasePos, pos := Pos.zero }

def EnumValDef.erasePos (e : EnumValDef) : EnumValDef :=
  { desc := e.desc, name := e.name, dirs := e.dirs.map Directive.erasePos, pos := Pos.zero }

def Definition.erasePos (d : Definition) : Definition :=
  { kind := d.kind, desc := d.desc, name := d.name, dirs := d.dirs.map Directive.erasePos, interfaces := d.interfaces,
    fields := d.fields.map FieldDef.erasePos, types := d.types, enumValues := d.enumValues.map EnumValDef.erasePos,
    pos := Pos.zero, builtIn := d.builtIn }

def DirectiveDef.erasePos (d : DirectiveDef) : DirectiveDef :=
  { desc := d.desc, name := d.name, args := d.args.map ArgDef.erasePos, locations := d.locations,
    repeatable := d.repeatable, pos := Pos.zero }

def OpTypeDef.erasePos (o : OpTypeDef) : OpTypeDef := { op := o.op, type := o.type, pos := Pos.zero }

def SchemaDef.erasePos (s : SchemaDef) : SchemaDef :=
  { desc := s.desc, dirs := s.dirs.map Directive.erasePos, opTypes := s.opTypes.map OpTypeDef.erasePos, pos := Pos.zero }

def SchemaDoc.erasePos (d : SchemaDoc) : SchemaDoc :=
  { schema := d.schema.map SchemaDef.erasePos, schemaExt := d.schemaExt.map SchemaDef.erasePos,
    directives := d.directives.map DirectiveDef.erasePos, definitions := d.definitions.map Definition.erasePos,
    extensions := d.extensions.map Definition.erasePos }

theorem Children.erasePos_ofList (xs : List (Name × Value × Pos)) :
    (Children.ofList xs).erasePos = Children.ofList (xs.map fun x => (x.1, x.2.1.erasePos, Pos.zero)) := by
  induction xs with
  | nil => rfl
  | cons x xs ih =>
    obtain ⟨n, v, p⟩ := x
    simp only [Children.ofList, Children.erasePos, List.map_cons, ih]

theorem Children.ofList_toList : ∀ ch : Children, Children.ofList ch.toList = ch
  | .nil => rfl
  | .cons n v p rest => by simp only [Children.toList, Children.ofList, Children.ofList_toList rest]

theorem Selections.erasePos_ofList (xs : List Selection) :
    (Selections.ofList xs).erasePos = Selections.ofList (xs.map Selection.erasePos) := by
  induction xs with
  | nil => rfl
  | cons x xs ih => simp only [Selections.ofList, Selections.erasePos, List.map_cons, ih]

theorem Selections.ofList_toList : ∀ ss : Selections, Selections.ofList ss.toList = ss
  | .nil => rfl
  | .cons s rest => by simp only [Selections.toList, Selections.ofList, Selections.ofList_toList rest]

end Gql
