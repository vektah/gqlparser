import GqlProofs.Parser.SoundSchema
import GqlProofs.Parser.SoundTop
/-
  Exactness of the token limit for SEVERAL sources (`ParseSchemasWithLimit`): the limit applies to
  every source on its own, whatever its BuiltIn mark; used by `Props/C16.lean`.
-/
namespace Gql.Parser
open Gql

theorem parseSchemasFrom_isOk_acc (L : Nat) (srcs : List (Bool × Bytes)) (i : Nat) (acc acc' : SchemaDoc) :
    (parseSchemasFrom L i acc srcs).isOk = (parseSchemasFrom L i acc' srcs).isOk := by
  induction srcs generalizing i acc acc' with
  | nil => rfl
  | cons x rest ih =>
    unfold parseSchemasFrom
    cases parseSchemaSrc L i x.1 x.2 with
    | ok d1 => exact ih _ _ _
    | error e => rfl
    | outOfFuel => rfl

theorem parseSchemasFrom_isOk_cons (L i : Nat) (acc : SchemaDoc) (x : Bool × Bytes) (rest : List (Bool × Bytes)) :
    (parseSchemasFrom L i acc (x :: rest)).isOk =
      ((parseSchemaSrc L i x.1 x.2).isOk && (parseSchemasFrom L (i + 1) acc rest).isOk) := by
  rw [parseSchemasFrom]
  cases parseSchemaSrc L i x.1 x.2 with
  | ok d1 => exact parseSchemasFrom_isOk_acc L rest _ _ _
  | error e => rfl
  | outOfFuel => rfl

/-- one source, any index and any BuiltIn mark: exact with the lexer's own token count -/
theorem parseSchemaSrc_exact {L : Nat} (hL : L ≠ 0) (src : Nat) (b : Bool) (inp : Bytes) :
    (parseSchemaSrc L src b inp).isOk = true ↔
      (parseSchemaSrc 0 src b inp).isOk = true ∧ countTokens inp ≤ L := by
  rw [parseSchemaSrc_isOk, parseSchemaSrc_isOk]
  exact ofRun_exact_count (spec_parseSchemaDocument _) (fun _ _ _ q => ⟨q.1, q.2.1⟩) hL src inp

theorem parseSchemasFrom_exact {L : Nat} (hL : L ≠ 0) (srcs : List (Bool × Bytes)) (i : Nat) (acc : SchemaDoc) :
    (parseSchemasFrom L i acc srcs).isOk = true ↔
      (parseSchemasFrom 0 i acc srcs).isOk = true ∧ ∀ s ∈ srcs, countTokens s.2 ≤ L := by
  induction srcs generalizing i with
  | nil => simp [parseSchemasFrom, Result.isOk]
  | cons x rest ih =>
    simp only [parseSchemasFrom_isOk_cons, Bool.and_eq_true, List.mem_cons, forall_eq_or_imp,
      parseSchemaSrc_exact hL, ih]
    exact ⟨fun ⟨⟨a, b⟩, c, d⟩ => ⟨⟨a, c⟩, b, d⟩, fun ⟨⟨a, c⟩, b, d⟩ => ⟨⟨a, b⟩, c, d⟩⟩

theorem parseSchemasFrom_isOk_flags (L : Nat) (srcs : List (Bool × Bytes)) (i : Nat) (acc acc' : SchemaDoc) :
    (parseSchemasFrom L i acc srcs).isOk = (parseSchemasFrom L i acc' (srcs.map fun s => (false, s.2))).isOk := by
  induction srcs generalizing i with
  | nil => rfl
  | cons x rest ih =>
    rw [List.map_cons, parseSchemasFrom_isOk_cons, parseSchemasFrom_isOk_cons, ih, parseSchemaSrc_isOk,
      parseSchemaSrc_isOk]

end Gql.Parser
