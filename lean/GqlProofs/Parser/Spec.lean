import GqlProofs.Parser.Stream
/-
  A small program logic for `Prog` over the abstraction `abs` of Stream.lean.

  `Spec p R`: in every run of `p` (limit 0) that ends live (no error, no fuel exhaustion) from a
  state with a consistent look-ahead slot, the look-ahead slot stays consistent and the result,
  the abstract state before and the abstract state after are related by `R`.

  `Eats P` is the usual shape of `R`: the program consumed a list `used` of significant tokens
  (`before = used ++ after`), consumed no EOF token (`cnt` unchanged) and `P result used`.
-/
namespace Gql.Parser
open Gql Gql.Lexer

def Spec {α : Type} (p : Prog α) (R : α → AS → AS → Prop) : Prop :=
  ∀ s, WF s → dead (run 0 p s).2 = false → WF (run 0 p s).2 ∧ R (run 0 p s).1 (abs s) (abs (run 0 p s).2)

theorem Spec.mono {α : Type} {p : Prog α} {R R' : α → AS → AS → Prop} (h : Spec p R)
    (hr : ∀ x a a', a.σ.NoEof → R x a a' → R' x a a') : Spec p R' := by
  intro s hw hl
  obtain ⟨w, r⟩ := h s hw hl
  exact ⟨w, hr _ _ _ (abs_noEof hw) r⟩

theorem Spec.pure {α : Type} (x : α) : Spec (Pure.pure x : Prog α) (fun y a a' => y = x ∧ a' = a) := by
  intro s hw _
  exact ⟨hw, rfl, rfl⟩

theorem Spec.bind {α β : Type} {p : Prog α} {f : α → Prog β} {R1 : α → AS → AS → Prop}
    {R2 : α → β → AS → AS → Prop} (hp : Spec p R1) (hf : ∀ x, Spec (f x) (R2 x)) :
    Spec (p >>= f) (fun y a a'' => ∃ x a', R1 x a a' ∧ R2 x y a' a'') := by
  intro s hw hl
  rw [bind_eq, run_bind] at hl ⊢
  obtain ⟨w1, r1⟩ := hp s hw (live_of_run hl)
  obtain ⟨w2, r2⟩ := hf _ _ w1 hl
  exact ⟨w2, _, _, r1, r2⟩

/-- a branch that sets the error (or runs out of fuel) never ends live -/
theorem Spec.of_dead {α : Type} {p : Prog α} {R : α → AS → AS → Prop} (h : ∀ s, dead (run 0 p s).2 = true) : Spec p R := by
  intro s _ hl
  rw [h s] at hl; cases hl

theorem Spec.ite {α : Type} {c : Prop} [Decidable c] {p q : Prog α} {R1 R2 : α → AS → AS → Prop}
    (h1 : c → Spec p R1) (h2 : ¬ c → Spec q R2) :
    Spec (if c then p else q) (fun x a a' => (c ∧ R1 x a a') ∨ (¬ c ∧ R2 x a a')) := by
  split
  · rename_i hc; exact (h1 hc).mono fun _ _ _ _ r => .inl ⟨hc, r⟩
  · rename_i hc; exact (h2 hc).mono fun _ _ _ _ r => .inr ⟨hc, r⟩

theorem Spec.ite_same {α : Type} {c : Prop} [Decidable c] {p q : Prog α} {R : α → AS → AS → Prop}
    (h1 : c → Spec p R) (h2 : ¬ c → Spec q R) : Spec (if c then p else q) R := by
  split
  · exact h1 ‹_›
  · exact h2 ‹_›


theorem spec_peek : Spec peek (fun t a a' => t = a.σ.head ∧ a' = { a with pk := true }) := by
  intro s hw hl
  simp only [peek, run] at hl ⊢
  obtain ⟨h1, h2, h3⟩ := peek_abs s hw hl
  exact ⟨h1, h2, h3⟩

/-- `next` does not revive a dead state: it never raises the measure, and a dead state has measure 0 -/
theorem live_of_next_live {s : PState} (hl : dead (s.next 0).2 = false) : dead s = false := by
  cases hd : dead s
  · rfl
  · have := (next_spec 0 s).1
    rw [mu_dead hd] at this
    rw [dead_of_mu (by omega)] at hl; cases hl

theorem spec_next : Spec next
    (fun t a a' => a.pk = true → ∀ u σ', a.σ = .cons u σ' → t = u ∧ a' = { pk := false, σ := σ', cnt := a.cnt }) := by
  intro s hw hl
  simp only [next, run] at hl ⊢
  refine ⟨next_wf s hl, fun hpk u σ' hσ => ?_⟩
  have hl0 := live_of_next_live hl
  obtain ⟨h1, _, h3⟩ := next_abs s hw hl0 hpk u σ' hσ
  exact ⟨h1, h3⟩

/-- `next` on a filled look-ahead returns the look-ahead token, whatever it is -/
theorem spec_next_head : Spec next (fun t a _ => a.pk = true → t = a.σ.head) := by
  intro s hw hl
  simp only [next, run] at hl ⊢
  refine ⟨next_wf s hl, fun hpk => ?_⟩
  have hl0 := live_of_next_live hl
  have hp : s.peeked = true := hpk
  have : s.next 0 = (s.peekTok, s.takePeeked) := by
    simp [PState.next, live_isSome hl0, overLimit, hp]
  rw [this]
  exact (head_sig_raw hw hp).symm

theorem Spec.and {α : Type} {p : Prog α} {R1 R2 : α → AS → AS → Prop} (h1 : Spec p R1) (h2 : Spec p R2) :
    Spec p (fun x a a' => R1 x a a' ∧ R2 x a a') := by
  intro s hw hl
  exact ⟨(h1 s hw hl).1, (h1 s hw hl).2, (h2 s hw hl).2⟩

theorem spec_hasErr : Spec hasErr (fun b a a' => b = false ∧ a' = a) := by
  intro s hw hl
  have : run 0 hasErr s = (s.err.isSome, s) := rfl
  rw [this] at hl ⊢
  exact ⟨hw, live_isSome hl, rfl⟩

theorem spec_getSrc : Spec getSrc (fun _ a a' => a' = a) := by
  intro s hw hl
  have : run 0 getSrc s = (s.src, s) := rfl
  rw [this] at hl ⊢
  exact ⟨hw, rfl⟩

theorem Spec.of_dead_bind {α β : Type} {p : Prog α} {f : α → Prog β} {R : β → AS → AS → Prop}
    (h : ∀ s, dead (run 0 p s).2 = true) : Spec (p >>= f) R := by
  intro s _ hl
  rw [bind_eq, run_bind] at hl
  have := live_of_run hl
  rw [h s] at this; cases this

theorem failAt_dead (tok : Token) (msg : Bytes) (s : PState) : dead (run 0 (failAt tok msg) s).2 = true := by
  simp only [failAt, run, dead, (error_spec s tok msg).2.2, Bool.true_or]

theorem unexpectedError_dead (s : PState) : dead (run 0 unexpectedError s).2 = true := by
  unfold unexpectedError unexpectedToken
  rw [bind_eq, run_bind]
  exact failAt_dead _ _ _

theorem outOfFuel_dead {α : Type} (x : α) (s : PState) : dead (run 0 (outOfFuel x) s).2 = true := by
  simp [outOfFuel, run, dead]


/-- between `a` and `a'` exactly the significant tokens `used` were consumed, and no EOF token -/
structure Ate (a a' : AS) (used : List Token) : Prop where
  σ : a.σ = Stream.app used a'.σ
  cnt : a'.cnt = a.cnt

theorem Ate.nil (a : AS) : Ate a a [] := ⟨rfl, rfl⟩
theorem Ate.peeked (a : AS) : Ate a { a with pk := true } [] := ⟨rfl, rfl⟩

theorem Ate.trans {a b c : AS} {u v : List Token} (h1 : Ate a b u) (h2 : Ate b c v) : Ate a c (u ++ v) :=
  ⟨by rw [Stream.app_append, ← h2.σ]; exact h1.σ, by rw [h2.cnt, h1.cnt]⟩

theorem Stream.NoEof.app_toks {ts : List Token} {σ : Stream} (h : Stream.NoEof (Stream.app ts σ)) : ∀ t ∈ ts, TokOK t := by
  induction ts with
  | nil => intro t ht; cases ht
  | cons u ts ih =>
    intro t ht
    rcases List.mem_cons.1 ht with rfl | ht
    · exact h.1.2
    · exact ih h.2 t ht

theorem Ate.noEof {a a' : AS} {used : List Token} (h : Ate a a' used) (hn : a.σ.NoEof) : a'.σ.NoEof := by
  have := h.σ ▸ hn; exact this.of_app

theorem Ate.tokOK {a a' : AS} {used : List Token} (h : Ate a a' used) (hn : a.σ.NoEof) : ∀ t ∈ used, TokOK t := by
  have := h.σ ▸ hn; exact this.app_toks

def Eats {α : Type} (P : α → List Token → Prop) : α → AS → AS → Prop :=
  fun x a a' => ∃ used, Ate a a' used ∧ P x used

theorem Eats.mono {α : Type} {P Q : α → List Token → Prop} (h : ∀ x u, P x u → Q x u) {x : α} {a a' : AS}
    (e : Eats P x a a') : Eats Q x a a' := by
  obtain ⟨u, h1, h3⟩ := e
  exact ⟨u, h1, h _ _ h3⟩

theorem Stream.cons_of_head {σ : Stream} (h : σ.NoEof) (h1 : σ.head.kind ≠ .eof) (h2 : σ.head.kind ≠ .invalid) :
    ∃ σ', σ = .cons σ.head σ' := by
  cases σ with
  | eof t => exact absurd h h1
  | err e => simp [Stream.head, invalidTok] at h2
  | cons t σ => exact ⟨σ, rfl⟩

theorem Stream.cons_of_kind {σ : Stream} {k : Kind} (h : σ.NoEof) (hk : σ.head.kind = k) (h1 : k ≠ .eof)
    (h2 : k ≠ .invalid) : ∃ t σ', σ = .cons t σ' ∧ t.kind = k ∧ t = σ.head := by
  obtain ⟨σ', hσ⟩ := Stream.cons_of_head h (by rw [hk]; exact h1) (by rw [hk]; exact h2)
  exact ⟨_, _, hσ, hk, rfl⟩

theorem next_eats {a a' : AS} {t : Token} {k : Kind} (hne : a.σ.NoEof) (hpk : a.pk = true) (hk : a.σ.head.kind = k)
    (h1 : k ≠ .eof) (h2 : k ≠ .invalid)
    (hn : a.pk = true → ∀ u σ', a.σ = .cons u σ' → t = u ∧ a' = { pk := false, σ := σ', cnt := a.cnt }) :
    t = a.σ.head ∧ Ate a a' [t] ∧ TokOK t := by
  obtain ⟨u, σ', hσ, _, hu⟩ := Stream.cons_of_kind hne hk h1 h2
  obtain ⟨rfl, rfl⟩ := hn hpk _ _ hσ
  exact ⟨hu, ⟨hσ, rfl⟩, by rw [hσ] at hne; exact hne.1.2⟩

theorem spec_expect (k : Kind) (hk : k ≠ .eof) (hk' : k ≠ .invalid) :
    Spec (expect k) (Eats fun t used => used = [t] ∧ t.kind = k ∧ TokOK t) := by
  unfold expect
  refine (Spec.bind spec_peek fun tok => Spec.ite (fun _ => spec_next)
    (fun _ => Spec.of_dead_bind (R := fun _ _ _ => False) (failAt_dead _ _))).mono ?_
  rintro t a a'' hne ⟨tok, a', ⟨rfl, rfl⟩, ⟨hkk, hn⟩ | ⟨_, hf⟩⟩
  · obtain ⟨e1, e2, e3⟩ := next_eats (a := { a with pk := true }) hne rfl hkk hk hk' hn
    exact ⟨[_], ⟨e2.σ, e2.cnt⟩, rfl, e1 ▸ hkk, e3⟩
  · exact hf.elim

theorem spec_expectKeyword (v : Bytes) :
    Spec (expectKeyword v) (Eats fun t used => used = [t] ∧ t.kind = .name ∧ t.value = v) := by
  unfold expectKeyword
  refine (Spec.bind spec_peek fun tok => Spec.ite (fun _ => spec_next)
    (fun _ => Spec.of_dead_bind (R := fun _ _ _ => False) (failAt_dead _ _))).mono ?_
  rintro t a a'' hne ⟨tok, a', ⟨rfl, rfl⟩, ⟨hkk, hn⟩ | ⟨_, hf⟩⟩
  · obtain ⟨e1, e2, e3⟩ := next_eats (a := { a with pk := true }) (k := .name) hne rfl hkk.1 (by decide) (by decide) hn
    exact ⟨[_], ⟨e2.σ, e2.cnt⟩, rfl, e1 ▸ hkk⟩
  · exact hf.elim

def Skips (k : Kind) : Bool → AS → AS → Prop := fun b a a' =>
  (b = true ∧ ∃ t, Ate a a' [t] ∧ t.kind = k ∧ TokOK t) ∨
  (b = false ∧ a.σ.head.kind ≠ k ∧ a' = { a with pk := true })

theorem spec_skip (k : Kind) (hk : k ≠ .eof) (hk' : k ≠ .invalid) : Spec (skip k) (Skips k) := by
  unfold skip
  refine (Spec.bind spec_hasErr fun e => Spec.ite (fun _ => Spec.pure false)
    (fun _ => Spec.bind spec_peek fun tok => Spec.ite (fun _ => Spec.pure false)
      (fun _ => Spec.bind spec_next fun _ => Spec.pure true))).mono ?_
  rintro b a a'' hne ⟨e, a', ⟨rfl, rfl⟩, ⟨he, _⟩ | ⟨_, tok, a1, ⟨rfl, rfl⟩, ⟨hkk, rfl, rfl⟩ | ⟨hkk, t, a2, hn, rfl, rfl⟩⟩⟩
  · cases he
  · exact .inr ⟨rfl, hkk, rfl⟩
  · simp only [ne_eq, Decidable.not_not] at hkk
    obtain ⟨e1, e2, e3⟩ := next_eats (a := { a' with pk := true }) hne rfl hkk hk hk' hn
    exact .inl ⟨rfl, _, ⟨e2.σ, e2.cnt⟩, e1 ▸ hkk, e3⟩

theorem spec_peekPos : Spec peekPos (fun pos a a' => a' = { a with pk := true } ∧ pos.start = a.σ.head.start) := by
  unfold peekPos
  refine (Spec.bind spec_hasErr fun e => Spec.ite (fun _ => Spec.pure Pos.zero)
    (fun _ => Spec.bind spec_peek fun tok => Spec.bind spec_getSrc fun i => Spec.pure (posOf i tok))).mono ?_
  rintro pos a a'' _ ⟨e, a', ⟨rfl, rfl⟩, ⟨he, _⟩ | ⟨_, tok, a1, ⟨rfl, rfl⟩, i, a2, rfl, rfl, rfl⟩⟩
  · cases he
  · exact ⟨rfl, rfl⟩

/-! ### programs that eat tokens, in sequence

  The rules below prove `Spec p (Eats Q)` along the text of `p`: each step names the tokens `u` it
  consumed and what it established about them, and hands `Q` on to the rest of the program with
  `u` as a prefix.  The rules are stated for `EatsTo`, which lets `Q` speak of the state reached as
  well (the loops end with the look-ahead on a known token); `Eats Q` is the case where it does not. -/

def EatsTo {α : Type} (Q : α → List Token → AS → Prop) : α → AS → AS → Prop :=
  fun x a a' => ∃ used, Ate a a' used ∧ Q x used a'

theorem Spec.ret {α : Type} {Q : α → List Token → Prop} (x : α) (h : Q x []) : Spec (Pure.pure x : Prog α) (Eats Q) :=
  (Spec.pure x).mono fun _ a _ _ ⟨hy, ha⟩ => ⟨[], ha ▸ Ate.nil a, hy ▸ h⟩

theorem Spec.seq {α β : Type} {p : Prog α} {f : α → Prog β} {P : α → List Token → Prop} {Q : β → List Token → AS → Prop}
    (hp : Spec p (Eats P)) (hf : ∀ x u, P x u → Spec (f x) (EatsTo fun y v a' => Q y (u ++ v) a')) :
    Spec (p >>= f) (EatsTo Q) := by
  intro s hw hl
  rw [bind_eq, run_bind] at hl ⊢
  obtain ⟨w1, u, h1, p1⟩ := hp s hw (live_of_run hl)
  obtain ⟨w2, v, h2, q⟩ := hf _ u p1 _ w1 hl
  exact ⟨w2, u ++ v, h1.trans h2, q⟩

theorem Spec.last_to {α : Type} {p : Prog α} {P Q : α → List Token → AS → Prop} (hp : Spec p (EatsTo P))
    (h : ∀ x u a', P x u a' → Q x u a') : Spec p (EatsTo Q) :=
  hp.mono fun _ _ _ _ ⟨u, h1, h2⟩ => ⟨u, h1, h _ _ _ h2⟩

theorem Spec.last {α : Type} {p : Prog α} {P Q : α → List Token → Prop} (hp : Spec p (Eats P)) (h : ∀ x u, P x u → Q x u) :
    Spec p (Eats Q) :=
  Spec.last_to hp fun x u _ => h x u

theorem Spec.seq0 {α β : Type} {p : Prog α} {f : α → Prog β} {Q : β → List Token → AS → Prop}
    (hp : Spec p (Eats fun _ u => u = [])) (hf : ∀ x, Spec (f x) (EatsTo Q)) : Spec (p >>= f) (EatsTo Q) :=
  Spec.seq hp fun x _ h => h ▸ hf x

theorem Spec.bind_dead {α β : Type} {p : Prog α} {f : α → Prog β} {R1 : α → AS → AS → Prop} {R : β → AS → AS → Prop}
    (hp : Spec p R1) (hf : ∀ x, Spec (f x) fun _ _ _ => False) : Spec (p >>= f) R :=
  (Spec.bind hp hf).mono fun _ _ _ _ ⟨_, _, _, h⟩ => h.elim

/-- `hasErr` in a live run answers `false` -/
theorem Spec.hasErr_ite {β : Type} {A B : Prog β} {R : β → AS → AS → Prop} (h : Spec B R) :
    Spec (hasErr >>= fun e => if e = true then A else B) R := by
  intro s hw hl
  have : run 0 (hasErr >>= fun e => if e = true then A else B) s = run 0 B s := by
    show run 0 (if s.err.isSome = true then A else B) s = run 0 B s
    rw [live_isSome (live_of_run hl)]; rfl
  rw [this] at hl ⊢
  exact h s hw hl

theorem Spec.getSrc {β : Type} {f : Nat → Prog β} {R : β → AS → AS → Prop} (hf : ∀ i, Spec (f i) R) : Spec (getSrc >>= f) R :=
  (Spec.bind spec_getSrc hf).mono fun _ _ _ _ ⟨_, _, ha, r⟩ => ha ▸ r

theorem spec_peek_eats : Spec peek (Eats fun _ u => u = []) :=
  spec_peek.mono fun _ a _ _ h => ⟨[], h.2 ▸ Ate.peeked a, rfl⟩

theorem spec_peekPos_eats : Spec peekPos (Eats fun _ u => u = []) :=
  spec_peekPos.mono fun _ a _ _ h => ⟨[], h.1 ▸ Ate.peeked a, rfl⟩

/-- `peek`, when the rest of the program depends on the token ahead -/
theorem Spec.peek {β : Type} {f : Token → Prog β} {Q : β → List Token → AS → Prop}
    (hf : ∀ t, Spec (f t) (fun y a a' => a.pk = true → a.σ.head = t → EatsTo Q y a a')) : Spec (peek >>= f) (EatsTo Q) :=
  (Spec.bind spec_peek hf).mono fun _ a _ _ h => by
    obtain ⟨_, _, ⟨rfl, rfl⟩, h⟩ := h
    obtain ⟨u, hu, q⟩ := h rfl rfl
    exact ⟨u, (Ate.peeked a).trans hu, q⟩

/-- the knowledge about the token ahead is not needed -/
theorem Spec.forget {α : Type} {p : Prog α} {R : α → AS → AS → Prop} {t : Token} (h : Spec p R) :
    Spec p (fun y a a' => a.pk = true → a.σ.head = t → R y a a') :=
  h.mono fun _ _ _ _ r _ _ => r

/-- the program ends, knowing the token ahead -/
theorem Spec.ret_peeked {α : Type} {Q : α → List Token → AS → Prop} {t : Token} (x : α)
    (h : ∀ a, a.pk = true → a.σ.head = t → Q x [] a) :
    Spec (Pure.pure x : Prog α) (fun y a a' => a.pk = true → a.σ.head = t → EatsTo Q y a a') :=
  (Spec.pure x).mono fun _ a _ _ ⟨hy, ha⟩ hpk hh => ⟨[], ha ▸ Ate.nil a, hy ▸ ha ▸ h a hpk hh⟩

theorem Ate.head {a a' : AS} {t : Token} {rest : List Token} (h : Ate a a' (t :: rest)) : a.σ.head = t := by
  rw [h.σ]; rfl

/-- `peekPos`: the position is that of the first token consumed afterwards -/
theorem Spec.peekPos {β : Type} {f : Pos → Prog β} {Q : β → List Token → AS → Prop}
    (hf : ∀ pos, Spec (f pos) (EatsTo fun y v a' => (∀ t rest, v = t :: rest → pos.start = t.start) → Q y v a')) :
    Spec (peekPos >>= f) (EatsTo Q) :=
  (Spec.bind spec_peekPos hf).mono fun _ a _ _ h => by
    obtain ⟨pos, _, ⟨rfl, hpos⟩, v, hv, q⟩ := h
    exact ⟨v, (Ate.peeked a).trans hv, q fun t rest e => by subst e; rw [hpos]; exact congrArg Token.start hv.head⟩

theorem Spec.next_peeked {β : Type} {f : Token → Prog β} {Q : β → List Token → AS → Prop} {t : Token} (h1 : t.kind ≠ .eof)
    (h2 : t.kind ≠ .invalid) (hf : ∀ x, Spec (f x) (EatsTo fun y v a' => x = t → TokOK t → Q y (t :: v) a')) :
    Spec (next >>= f) (fun y a a' => a.pk = true → a.σ.head = t → EatsTo Q y a a') :=
  (Spec.bind spec_next hf).mono fun _ a _ hne h hpk hh => by
    obtain ⟨x, _, hn, v, hv, q⟩ := h
    obtain ⟨e1, e2, e3⟩ := next_eats hne hpk (by rw [hh]) h1 h2 hn
    obtain rfl := e1.trans hh
    exact ⟨x :: v, e2.trans hv, q rfl e3⟩


/-- the items `xs` were parsed one after the other from `used` -/
inductive Many {α : Type} (P : α → List Token → Prop) : List α → List Token → Prop
  | nil : Many P [] []
  | cons {x : α} {xs : List α} {u us : List Token} : P x u → Many P xs us → Many P (x :: xs) (u ++ us)

theorem Many.append {α : Type} {P : α → List Token → Prop} {xs ys : List α} {u v : List Token}
    (h1 : Many P xs u) (h2 : Many P ys v) : Many P (xs ++ ys) (u ++ v) := by
  induction h1 with
  | nil => exact h2
  | cons hx _ ih => rw [List.cons_append, List.append_assoc]; exact .cons hx ih

theorem Many.mono {α : Type} {P Q : α → List Token → Prop} (h : ∀ x u, P x u → Q x u) {xs : List α} {u : List Token}
    (m : Many P xs u) : Many Q xs u := by
  induction m with
  | nil => exact .nil
  | cons hx _ ih => exact .cons (h _ _ hx) ih

theorem Many.forall {α : Type} {P : α → List Token → Prop} {Q : α → Prop} {xs : List α} {u : List Token} (h : Many P xs u)
    (hP : ∀ x u, P x u → Q x) : ∀ x ∈ xs, Q x := by
  induction h with
  | nil => exact fun _ h => nomatch h
  | cons hx _ ih => exact List.forall_mem_cons.2 ⟨hP _ _ hx, ih⟩

theorem spec_itemsLoop {α : Type} {P : α → List Token → Prop} (stop : Kind) {cb : Prog α} (hcb : Spec cb (Eats P))
    (n : Nat) (acc : List α) :
    Spec (itemsLoop stop cb n acc) (fun xs a a' => ∃ items used, xs = items.reverse ++ acc ∧
      Ate a a' used ∧ Many P items used ∧ a'.pk = true ∧ a'.σ.head.kind = stop) := by
  induction n generalizing acc with
  | zero => exact Spec.of_dead (outOfFuel_dead _)
  | succ n ih =>
    unfold itemsLoop
    refine (Spec.bind spec_peek fun t => Spec.bind spec_hasErr fun e => Spec.ite
      (fun _ => Spec.bind hcb fun x => ih (x :: acc)) (fun _ => Spec.pure acc)).mono ?_
    rintro xs a a'' _ ⟨t, a1, ⟨rfl, rfl⟩, e, a2, ⟨rfl, rfl⟩,
      ⟨_, x, a3, ⟨u, h1, h3⟩, items, used, rfl, h4, h6, h7, h8⟩ | ⟨hc, rfl, rfl⟩⟩
    · exact ⟨x :: items, u ++ used, by simp, (Ate.peeked a).trans (h1.trans h4), .cons h3 h6, h7, h8⟩
    · refine ⟨[], [], rfl, Ate.peeked a, .nil, rfl, ?_⟩
      simpa using hc

/-- the shape of `many` / `some`: nothing (the opening token is not there), or
    `start item* stop` -/
def Bracketed {α : Type} (P : α → List Token → Prop) (start stop : Kind) : List α → AS → AS → Prop :=
  fun xs a a' =>
    (xs = [] ∧ a.σ.head.kind ≠ start ∧ a' = { a with pk := true }) ∨
    (a.σ.head.kind = start ∧
      Eats (fun xs used => ∃ t1 mid t2, used = t1 :: mid ++ [t2] ∧ t1.kind = start ∧ t2.kind = stop ∧
        TokOK t1 ∧ TokOK t2 ∧ Many P xs mid) xs a a')

theorem bracketed_tail {α : Type} {P : α → List Token → Prop} {start stop : Kind} (h2 : stop ≠ .eof) (h2' : stop ≠ .invalid)
    {a a1 a2 a3 : AS} {t1 t2 : Token} {items : List α} {used : List Token} (hne : a.σ.NoEof)
    (e1 : Ate a a1 [t1]) (e4 : t1.kind = start) (e5 : TokOK t1) (g1 : Ate a1 a2 used) (g3 : Many P items used)
    (g4 : a2.pk = true) (g5 : a2.σ.head.kind = stop)
    (hn : a2.pk = true → ∀ u σ', a2.σ = .cons u σ' → t2 = u ∧ a3 = { pk := false, σ := σ', cnt := a2.cnt }) :
    a.σ.head.kind = start ∧
    Eats (fun xs used => ∃ t1 mid t2, used = t1 :: mid ++ [t2] ∧ t1.kind = start ∧ t2.kind = stop ∧
      TokOK t1 ∧ TokOK t2 ∧ Many P xs mid) items a a3 := by
  have hne2 : a2.σ.NoEof := g1.noEof (e1.noEof hne)
  obtain ⟨q1, q2, q3⟩ := next_eats hne2 g4 g5 h2 h2' hn
  refine ⟨by rw [e1.σ]; exact e4, t1 :: used ++ [t2], ?_, t1, used, t2, rfl, e4, q1 ▸ g5, e5, q3, g3⟩
  have := e1.trans (g1.trans q2)
  simpa using this

theorem spec_pMany {α : Type} {P : α → List Token → Prop} (start stop : Kind) (h1 : start ≠ .eof) (h1' : start ≠ .invalid)
    (h2 : stop ≠ .eof) (h2' : stop ≠ .invalid) (n : Nat) {cb : Prog α} (hcb : Spec cb (Eats P)) :
    Spec (pMany start stop n cb) (Bracketed P start stop) := by
  unfold pMany
  refine (Spec.bind (spec_skip start h1 h1') fun b => Spec.ite (fun _ => Spec.pure [])
    (fun _ => Spec.bind (spec_itemsLoop stop hcb n []) fun xs => Spec.bind spec_next fun _ => Spec.pure xs.reverse)).mono ?_
  rintro xs a a'' hne ⟨b, a1, hs, ⟨hb, rfl, rfl⟩ | ⟨hb, ys, a2, ⟨items, used, rfl, g1, g3, g4, g5⟩, t2, a3, hn, rfl, rfl⟩⟩
  · rcases hs with ⟨rfl, _⟩ | ⟨_, hk, rfl⟩
    · simp at hb
    · exact .inl ⟨rfl, hk, rfl⟩
  · rcases hs with ⟨_, t1, e1, e4, e5⟩ | ⟨rfl, _⟩
    · exact Or.inr (by simpa using bracketed_tail h2 h2' hne e1 e4 e5 g1 g3 g4 g5 hn)
    · simp at hb

theorem spec_pSome {α : Type} {P : α → List Token → Prop} (start stop : Kind) (h1 : start ≠ .eof) (h1' : start ≠ .invalid)
    (h2 : stop ≠ .eof) (h2' : stop ≠ .invalid) (n : Nat) {cb : Prog α} (hcb : Spec cb (Eats P)) :
    Spec (pSome start stop n cb) (fun xs a a' => Bracketed P start stop xs a a' ∧ (a.σ.head.kind = start → xs ≠ [])) := by
  unfold pSome
  refine (Spec.bind (spec_skip start h1 h1') fun b => Spec.ite (fun _ => Spec.pure [])
    (fun _ => Spec.bind (spec_itemsLoop stop hcb n []) fun xs => Spec.ite
      (fun _ => Spec.bind spec_peek fun _ => Spec.bind spec_peek fun _ =>
        Spec.of_dead_bind (R := fun _ _ _ => False) (failAt_dead _ _))
      (fun _ => Spec.bind spec_next fun _ => Spec.pure xs.reverse))).mono ?_
  rintro xs a a'' hne ⟨b, a1, hs, ⟨hb, rfl, rfl⟩ | ⟨hb, ys, a2, ⟨items, used, rfl, g1, g3, g4, g5⟩,
    ⟨_, _, _, _, _, _, _, hf⟩ | ⟨hne', t2, a3, hn, rfl, rfl⟩⟩⟩
  · rcases hs with ⟨rfl, _⟩ | ⟨_, hk, rfl⟩
    · simp at hb
    · exact ⟨.inl ⟨rfl, hk, rfl⟩, fun h => absurd h hk⟩
  · exact hf.elim
  · rcases hs with ⟨_, t1, e1, e4, e5⟩ | ⟨rfl, _⟩
    · refine ⟨Or.inr (by simpa using bracketed_tail h2 h2' hne e1 e4 e5 g1 g3 g4 g5 hn), ?_⟩
      intro _; simpa using hne'
    · simp at hb

end Gql.Parser
