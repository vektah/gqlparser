import GqlProofs.Parser.FwdSchemaTop
/-
  Every tree the schema parser returns is printable: the items of the document satisfy the side
  conditions of the forward lemmas (`ItemOK`, a conjunct of the soundness postconditions) and
  were recorded at increasing offsets.  This gives `parseSchemaSrc 0 src b inp = .ok d → PrintableSchema d`.
-/
namespace Gql.Parser
open Gql Gql.Lexer Gql.Grammar Gql.Print


theorem itemOK_setBI (b : Bool) {it : SItem} (h : ItemOK it) : ItemOK (it.setBI b) := by
  cases it <;> exact h

theorem pairwise_get {α : Type} {items : List SItem} (hk : items.Pairwise fun a b => (sItem a).1 < (sItem b).1)
    (get : SItem → Option α) (start : α → Nat)
    (hget : ∀ it a, get it = some a → start a = (sItem it).1 := by intro it a h; cases it <;> cases h <;> rfl) :
    (items.filterMap get).Pairwise fun a b => start a ≤ start b :=
  List.Pairwise.filterMap _ (fun a a' hlt b hb b' hb' => by
    rw [hget a b hb, hget a' b' hb']; exact Nat.le_of_lt hlt) hk

theorem runSchema_printable (src : Nat) (inp : Bytes) (d0 : SchemaDoc) (h : Result.ofRun (runSchema 0 src inp) = .ok d0) :
    PrintableSchema d0 := by
  obtain ⟨⟨items, hd0, hm⟩, _⟩ := runSchema_items spec_parseSchemaDocument h
  obtain ⟨_, k2⟩ := many_keys_gen (key := fun it => (sItem it).1) hm (fun x u p => p.1.1) (rawS_sig_sorted inp Cur.init)
  refine ⟨hd0 ▸ (DocAll.foldl items SchemaDoc.empty).2 ⟨DocAll.empty _, hm.forall fun _ _ h => h.2⟩, ?_⟩
  rw [hd0, foldl_add_lists]
  exact ⟨pairwise_get k2 getSchema (·.pos.start), pairwise_get k2 getSchemaExt (·.pos.start),
    pairwise_get k2 getDirective (·.pos.start), pairwise_get k2 getDefinition (·.pos.start),
    pairwise_get k2 getExtension (·.pos.start)⟩

theorem printable_setBuiltIn (b : Bool) {d : SchemaDoc} (h : PrintableSchema d) : PrintableSchema (setBuiltIn b d) :=
  let ⟨h0, s1, s2, s3, s4, s5⟩ := h
  ⟨(DocAll.setBuiltIn b (fun it => by cases it <;> exact Iff.rfl) d).2 h0, s1, s2, s3,
    List.pairwise_map.2 s4, List.pairwise_map.2 s5⟩

theorem parseSchemaSrc_printable (src : Nat) (b : Bool) (inp : Bytes) (d : SchemaDoc) (h : parseSchemaSrc 0 src b inp = .ok d) :
    PrintableSchema d := by
  obtain ⟨d0, h0, rfl⟩ := parseSchemaSrc_ok.1 h
  exact printable_setBuiltIn b (runSchema_printable src inp d0 h0)

theorem setBuiltIn_idem (b : Bool) (d : SchemaDoc) : setBuiltIn b (setBuiltIn b d) = setBuiltIn b d := by
  simp [setBuiltIn, List.map_map, Function.comp_def]

end Gql.Parser
