import GqlProofs.Parser.SoundQuery
import GqlProofs.Parser.Results
/-
  From the program logic to the entry point `parseQuery`: a successful parse consumed exactly
  the significant tokens of `lexAll`, they derive `ExecutableDocument` with the unparse of the
  tree as canonical form, and every non-EOF token was counted exactly once.
-/
namespace Gql.Parser
open Gql Gql.Lexer Gql.Grammar Gql.Print


theorem raw_len_of_eof {s : PState} {t : Token} (hw : WF s) (hp : s.peeked = true) (h : s.raw.sig = .eof t) :
    s.raw.len = 0 := by
  obtain ⟨_, w2⟩ := hw hp
  unfold PState.raw at h ⊢
  rw [hp] at h ⊢
  simp only [↓reduceIte] at h ⊢
  cases hpe : s.peekErr with
  | some e => rfl
  | none =>
    rw [hpe] at h
    simp only at h ⊢
    split
    · rfl
    · rename_i hk
      rw [if_neg hk] at h
      simp [Stream.sig, (w2 hpe).1] at h

/-- the significant stream ends at an EOF token exactly when the raw one does -/
theorem term_of_sig {ρ : Stream} {used : List Token} {t : Token} (h : ρ.sig = Stream.app used (.eof t)) :
    ρ.term = .eof t ∧ ρ.sig.toks = used := by
  constructor
  · rw [← Stream.sig_term, h, Stream.term_app]; rfl
  · rw [h, Stream.toks_app]; simp [Stream.toks]

theorem Stream.NoEof.toks_ne {σ : Stream} (h : σ.NoEof) : ∀ t ∈ σ.toks, t.kind ≠ .eof := by
  induction σ with
  | eof t => intro t ht; cases ht
  | err e => intro t ht; cases ht
  | cons u σ ih =>
    intro t ht
    rcases List.mem_cons.1 ht with rfl | ht
    · exact h.1.1
    · exact ih h.2 t ht

/-- number of non-EOF tokens (comments included) of `lexAll inp` -/
def countTokens (inp : Bytes) : Nat := ((lexAll inp).tokens.filter fun t => t.kind != .eof).length

/-- the terminator of the raw stream is an EOF token, and the only one -/
theorem rawS_term {inp : Bytes} {t : Token} (h : (rawS inp Cur.init).term = .eof t) :
    t.kind = .eof ∧ ∀ u ∈ (rawS inp Cur.init).toks, u.kind ≠ .eof := by
  have hne := rawS_noEof inp Cur.init
  refine ⟨?_, hne.toks_ne⟩
  rw [Stream.eq_app_toks (rawS inp Cur.init), h] at hne
  exact hne.of_app

/-- The grammar's view of the source, read off the stream the parser proofs work on: the lexer succeeds exactly
    when the stream ends at an EOF token, and `tokensOf` is then the significant tokens of the stream. -/
theorem tokensOf_iff {inp : Bytes} {ts : List Tok} :
    tokensOf inp = some ts ↔ ∃ t, (rawS inp Cur.init).term = .eof t ∧ tk (rawS inp Cur.init).sig.toks = ts := by
  have key : ∀ t, (rawS inp Cur.init).term = .eof t →
      tokensOf inp = some (tk (rawS inp Cur.init).sig.toks) := fun t ht => by
    obtain ⟨h1, h2⟩ := rawS_term ht
    rw [tokensOf, lexAll_done.2 ⟨t, ht, rfl⟩, Stream.sig_toks]
    simp only [List.filter_append, tk]
    rw [List.filter_congr (q := fun t => t.kind != .comment) fun u hu => by simp [significant, h2 u hu]]
    simp [significant, h1]
  constructor
  · intro h
    cases hl : lexAll inp with
    | done l =>
      obtain ⟨t, ht, _⟩ := lexAll_done.1 hl
      exact ⟨t, ht, Option.some.inj ((key t ht).symm.trans h)⟩
    | fail l e => simp [tokensOf, hl] at h
    | outOfFuel l => simp [tokensOf, hl] at h
  · rintro ⟨t, ht, rfl⟩; exact key t ht

theorem countTokens_eq {inp : Bytes} {t : Token} (h : (rawS inp Cur.init).term = .eof t) :
    countTokens inp = (rawS inp Cur.init).len := by
  obtain ⟨h1, h2⟩ := rawS_term h
  rw [countTokens, lexAll_done.2 ⟨t, h, rfl⟩, Stream.len_eq_toks]
  simp only [LexOut.tokens, List.filter_append]
  rw [List.filter_eq_self.2 fun u hu => by simpa using h2 u hu]
  simp [h1]

theorem Ate.to_eof {src : Nat} {inp : Bytes} {a' : AS} {used : List Token} (hate : Ate (abs (PState.init src inp)) a' used)
    (hk : a'.σ.head.kind = .eof) : ∃ t, a'.σ = .eof t ∧ (rawS inp Cur.init).sig = Stream.app used (.eof t) := by
  obtain ⟨t, ht⟩ := (hate.noEof (abs_noEof (WF.init src inp))).eof_of_head hk
  have hσ := hate.σ
  rw [abs_init, ht] at hσ
  exact ⟨t, ht, hσ⟩

/-- A whole-input program whose postcondition speaks of the tokens it consumed up to the EOF token: if the entry
    point returns `x`, the postcondition holds of `x` and the significant tokens of the source, these are what
    `tokensOf` returns, and every token of the lexer was counted once. -/
theorem whole_run {α : Type} {p : Prog α} {Q : α → List Token → AS → Prop} (hp : Spec p (EatsTo Q)) {src : Nat}
    {inp : Bytes} {x : α} (h : Result.ofRun (run 0 p (PState.init src inp)) = .ok x)
    (hQ : ∀ x u a', Q x u a' → a'.pk = true ∧ a'.σ.head.kind = .eof) :
    (∃ a', Q x (rawS inp Cur.init).sig.toks a') ∧ tokensOf inp = some (tk (rawS inp Cur.init).sig.toks) ∧
      (run 0 p (PState.init src inp)).2.tokenCount = countTokens inp := by
  obtain ⟨hoof, herr, hx⟩ := ofRun_ok.1 h
  obtain ⟨wf, used, hate, q⟩ := hp _ (WF.init src inp) (by simp [dead, hoof, herr])
  obtain ⟨hpk, hk⟩ := hQ _ _ _ q
  obtain ⟨t, ht, hσ⟩ := hate.to_eof hk
  obtain ⟨hterm, rfl⟩ := term_of_sig hσ
  refine ⟨⟨_, hx ▸ q⟩, tokensOf_iff.2 ⟨t, hterm, rfl⟩, ?_⟩
  -- `cnt` = counter + raw tokens ahead is unchanged, and at the end nothing is ahead
  have hc := hate.cnt
  rw [abs_init] at hc
  simp only [abs] at hc
  rw [raw_len_of_eof wf hpk ht] at hc
  rw [countTokens_eq hterm]; omega

/-- **exact**, for any whole-input program that stops at the EOF token: under a limit `L ≠ 0` the run succeeds iff
    the unlimited run succeeds and the input has at most `L` lexer tokens -/
theorem ofRun_exact_count {α : Type} {p : Prog α} {Q : α → List Token → AS → Prop} (hp : Spec p (EatsTo Q))
    (hQ : ∀ x u a', Q x u a' → a'.pk = true ∧ a'.σ.head.kind = .eof) {L : Nat} (hL : L ≠ 0) (src : Nat) (inp : Bytes) :
    (Result.ofRun (run L p (PState.init src inp))).isOk = true ↔
      (Result.ofRun (run 0 p (PState.init src inp))).isOk = true ∧ countTokens inp ≤ L := by
  rw [ofRun_exact hL]
  refine and_congr_right fun hok => ?_
  rw [(whole_run hp (ofRun_ok.2 ⟨(ofRun_isOk.1 hok).1, (ofRun_isOk.1 hok).2, rfl⟩) hQ).2.2]


def defItem : Def → Nat × List Tok
  | .inl o => (o.pos.start, printOperation o)
  | .inr f => (f.pos.start, printFragment f)

theorem opsOf_fragsOf_perm (defs : List Def) : ((opsOf defs).map Sum.inl ++ (fragsOf defs).map Sum.inr).Perm defs := by
  induction defs with
  | nil => exact .nil
  | cons d r ih =>
    cases d with
    | inl o => exact .cons _ ih
    | inr f => exact List.perm_middle.trans (.cons _ ih)

theorem items_perm (defs : List Def) :
    ((opsOf defs).map (fun o => (o.pos.start, printOperation o)) ++
      (fragsOf defs).map (fun f => (f.pos.start, printFragment f))).Perm (defs.map defItem) := by
  simpa [Function.comp_def, defItem] using (opsOf_fragsOf_perm defs).map defItem

theorem eq_of_key {l : List (Nat × List Tok)} (hs : l.Pairwise fun a b => a.1 < b.1) {a b : Nat × List Tok}
    (ha : a ∈ l) (hb : b ∈ l) (h : a.1 = b.1) : a = b := by
  induction l with
  | nil => cases ha
  | cons x l ih =>
    rw [List.pairwise_cons] at hs
    rcases List.mem_cons.1 ha with ha' | ha' <;> rcases List.mem_cons.1 hb with hb' | hb'
    · rw [ha', hb']
    · have := hs.1 b hb'; rw [ha'] at h; omega
    · have := hs.1 a ha'; rw [hb'] at h; omega
    · exact ih hs.2 ha' hb'

theorem inSourceOrder_sorted {items l : List (Nat × List Tok)} (hp : items.Perm l)
    (hs : l.Pairwise fun a b => a.1 < b.1) : inSourceOrder items = l.map (·.2) := by
  unfold inSourceOrder
  congr 1
  apply List.Perm.eq_of_pairwise (le := fun a b => decide (a.1 ≤ b.1) = true)
  · intro a b ha hb hab hba
    have ha' : a ∈ l := hp.mem_iff.1 ((List.mergeSort_perm _ _).mem_iff.1 ha)
    simp only [decide_eq_true_eq] at hab hba
    exact eq_of_key hs ha' hb (by omega)
  · exact List.pairwise_mergeSort (fun a b c h1 h2 => by simp only [decide_eq_true_eq] at *; omega)
      (fun a b => by simp only [Bool.or_eq_true, decide_eq_true_eq]; omega) _
  · exact hs.imp fun h => by simp only [decide_eq_true_eq]; omega
  · exact (List.mergeSort_perm _ _).trans hp

theorem many_keys_gen {α : Type} {P : α → List Token → Prop} {key : α → Nat} {items : List α} {used : List Token}
    (h : Many P items used) (hp : ∀ x u, P x u → ∃ t ∈ u, key x = t.start)
    (hs : used.Pairwise fun a b => a.start < b.start) :
    (∀ x ∈ items, ∃ t ∈ used, key x = t.start) ∧ items.Pairwise (fun a b => key a < key b) := by
  induction h with
  | nil => exact ⟨fun _ h => (by cases h), List.Pairwise.nil⟩
  | @cons x xs u us hx _ ih =>
    rw [List.pairwise_append] at hs
    obtain ⟨s1, s2, s3⟩ := hs
    obtain ⟨i1, i2⟩ := ih s2
    obtain ⟨t, ht, hkey⟩ := hp x u hx
    refine ⟨fun d hd => ?_, List.pairwise_cons.2 ⟨fun d hd => ?_, i2⟩⟩
    · rcases List.mem_cons.1 hd with rfl | hd
      · exact ⟨t, by simp [ht], hkey⟩
      · obtain ⟨t', ht', hk'⟩ := i1 d hd
        exact ⟨t', by simp [ht'], hk'⟩
    · obtain ⟨t', ht', hk'⟩ := i1 d hd
      rw [hkey, hk']
      exact s3 t ht t' ht'

theorem star_to_plus {g : Grammar NT} {a : Sym NT} {ts out : List Tok} (h : Derives g (.star a) ts out) (hne : ts ≠ []) :
    Derives g (.plus a) ts out := by
  generalize hs : Sym.star a = s at h
  induction h with
  | starNil => exact absurd rfl hne
  | @starCons a' t1 t2 o1 o2 h1 h2 _ _ =>
    cases hs
    exact Derives.plus h1 h2
  | _ => cases hs

/-- A document made of items parsed one after the other, each keyed by one of its tokens and deriving
    `sym`: its unparse (the keyed texts `l`, a permutation of the items', sorted by key) is derived
    from `sym+`.  (The tokens come in source order, so sorting by key restores the order of parsing.) -/
theorem many_doc {α : Type} {P : α → List Token → Prop} {item : α → Nat × List Tok} {sym : Sym NT} {items : List α}
    {used : List Token} (hm : Many P items used) (hs : used.Pairwise fun a b => a.start < b.start)
    (hkey : ∀ x u, P x u → ∃ t ∈ u, (item x).1 = t.start)
    (hder : ∀ x ∈ items, ∀ u, P x u → Derives gql sym (tk u) (item x).2) (hne : items ≠ [])
    {l : List (Nat × List Tok)} (hperm : l.Perm (items.map item)) :
    Derives gql (.plus sym) (tk used) (inSourceOrder l).flatten := by
  have k2 := (many_keys_gen (key := fun x => (item x).1) hm hkey hs).2
  rw [inSourceOrder_sorted hperm (by simpa [List.pairwise_map] using k2)]
  have hstar : Derives gql (.star sym) (tk used) ((items.map item).map (·.2)).flatten ∧ (items ≠ [] → tk used ≠ []) := by
    clear k2 hperm hne hs
    induction hm with
    | nil => exact ⟨Derives.starNil, fun h => absurd rfl h⟩
    | @cons x xs u us hx _ ih =>
      obtain ⟨t, ht, _⟩ := hkey x u hx
      refine ⟨?_, fun _ => ?_⟩
      · simp only [tk_append, List.map_cons, List.flatten_cons]
        exact Derives.starCons (hder x (by simp) u hx) (ih fun y hy => hder y (by simp [hy])).1
      · cases u with
        | nil => cases ht
        | cons t' rest => simp
  exact star_to_plus hstar.1 (hstar.2 hne)

theorem PDef.item {d : Def} {u : List Token} (h : PDef d u) :
    (∃ t rest, u = t :: rest ∧ (defItem d).1 = t.start) ∧ Derives gql (.nt .executableDefinition) (tk u) (defItem d).2 := by
  cases d with
  | inl o => exact ⟨h.1, .nt (.altL h.2.1)⟩
  | inr f => exact ⟨h.1, .nt (.altR h.2.1)⟩

theorem PDef.key {d : Def} {u : List Token} (h : PDef d u) : ∃ t ∈ u, (defItem d).1 = t.start := by
  obtain ⟨⟨t, rest, rfl, e⟩, _⟩ := h.item
  exact ⟨t, by simp, e⟩

theorem mem_opsOf {o : OperationDef} {defs : List Def} : o ∈ opsOf defs ↔ (.inl o : Def) ∈ defs := by
  induction defs with
  | nil => simp [opsOf]
  | cons d r ih => cases d <;> simp [opsOf, ih]

theorem mem_fragsOf {f : FragmentDef} {defs : List Def} : f ∈ fragsOf defs ↔ (.inr f : Def) ∈ defs := by
  induction defs with
  | nil => simp [fragsOf]
  | cons d r ih => cases d <;> simp [fragsOf, ih]

theorem opsOf_nil_fragsOf_nil {defs : List Def} (h1 : opsOf defs = []) (h2 : fragsOf defs = []) : defs = [] := by
  cases defs with
  | nil => rfl
  | cons d r => cases d <;> simp [opsOf, fragsOf] at h1 h2

/-- the definitions of a document the parser returns were parsed one after the other from the significant tokens
    of the source, whatever `PD` the two definition parsers establish -/
theorem parseQuery_defs {PD : Def → List Token → Prop}
    (hop : ∀ m, Spec (parseOperationDefinition m) (Eats fun o u => PD (.inl o) u))
    (hfrag : ∀ m, Spec (parseFragmentDefinition m) (Eats fun f u => PD (.inr f) u)) {inp : Bytes} {doc : QueryDoc}
    (h : parseQuery 0 inp = .ok doc) :
    (∃ defs, doc.ops = opsOf defs ∧ doc.frags = fragsOf defs ∧ Many PD defs (rawS inp Cur.init).sig.toks) ∧
      tokensOf inp = some (tk (rawS inp Cur.init).sig.toks) ∧ (runQuery 0 inp).2.tokenCount = countTokens inp := by
  obtain ⟨⟨_, _, _, defs, h1, h2, h3⟩, hsrc⟩ :=
    whole_run (queryDocLoop_defs (hop _) (hfrag _) (fuelFor inp) _) h fun _ _ _ q => ⟨q.1, q.2.1⟩
  exact ⟨⟨defs, by simpa using h1, by simpa using h2, h3⟩, hsrc⟩

theorem spec_parseQueryDocument (n : Nat) :
    Spec (parseQueryDocument n) (EatsTo (DocLoopOf PDefOK { ops := [], frags := [] })) :=
  queryDocLoop_defs (spec_parseOperationDefinition n) (spec_parseFragmentDefinition n) n _

theorem parseQuery_sound (inp : Bytes) (doc : QueryDoc) (h : parseQuery 0 inp = .ok doc) :
    ∃ ts, tokensOf inp = some ts ∧
      (doc.ops ≠ [] ∨ doc.frags ≠ [] → Derives gql (.nt .executableDocument) ts (printQuery doc) ∧ WFQuery doc) ∧
      (doc.ops = [] ∧ doc.frags = [] → ts = []) := by
  obtain ⟨⟨defs, hops, hfrags, hm⟩, htok, _⟩ :=
    parseQuery_defs (PD := PDef) (fun m => (spec_parseOperationDefinition m).last fun _ _ h => h.1)
      (fun m => (spec_parseFragmentDefinition m).last fun _ _ h => h.1) h
  refine ⟨_, htok, fun hne => ?_, fun hemp => ?_⟩
  · have hdefs : defs ≠ [] := by
      rintro rfl
      exact hne.elim (· (hops ▸ rfl)) (· (hfrags ▸ rfl))
    have wf := hm.forall (Q := fun d => match d with | .inl o => WFOperation o | .inr f => WFFragment f)
      fun d _ h => by cases d <;> exact h.2.2
    refine ⟨?_, hne, fun o ho => wf _ (mem_opsOf.1 (hops ▸ ho)), fun f hf => wf _ (mem_fragsOf.1 (hfrags ▸ hf))⟩
    rw [printQuery, hops, hfrags]
    exact .nt (many_doc hm (rawS_sig_sorted inp Cur.init) (fun _ _ => PDef.key) (fun _ _ _ h => h.item.2) hdefs (items_perm defs))
  · obtain rfl := opsOf_nil_fragsOf_nil (hops ▸ hemp.1) (hfrags ▸ hemp.2)
    generalize (rawS inp Cur.init).sig.toks = u at hm
    cases hm
    rfl

end Gql.Parser
