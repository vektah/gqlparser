import GqlProofs.Parser.SoundQuery
import GqlProofs.Lemmas.StrLit
/-
  The forward direction of the program logic: `Fwd p a R` says that from every live state with
  abstraction `a`, the run of `p` — provided it does not run out of fuel — ends live and its result
  and final abstraction satisfy `R`.  (Fuel exhaustion is excluded once and for all at the entry
  points by `runQuery_oof` (Parser/FuelQuery) and `runSchema_oof` (Parser/FuelSchema), which C01 wraps; the flag `oof` is sticky, so a run
  whose final state has `oof = false` never took an out-of-fuel branch.)

  `Starts σ ts σ'`: the stream `σ` begins with tokens whose grammar view is `ts`, followed by `σ'`.
-/
namespace Gql.Parser
open Gql Gql.Lexer Gql.Grammar Gql.Print


theorem oof_stateInv (L : Nat) : StateInv L (fun s => s.oof = true) where
  readPeek _ _ h := (readPeek_oof _).trans h
  trip _ _ h := h
  takePeeked _ _ _ h := h
  readPrev _ _ _ h := (readPrev_oof _).trans h
  setErr _ _ _ h := h
  setOof _ := rfl

theorem run_oof {α : Type} (p : Prog α) (s : PState) (h : s.oof = true) : (run 0 p s).2.oof = true :=
  (oof_stateInv 0).run h p

theorem oof_of_run {α : Type} {p : Prog α} {s : PState} (h : (run 0 p s).2.oof = false) : s.oof = false := by
  cases ho : s.oof
  · rfl
  · rw [run_oof p s ho] at h; cases h


theorem commentLoop_err_none (n : Nat) (s : PState) (he : s.err = none) (hw : WF' s) : (commentLoop 0 n s).err = none := by
  induction n generalizing s with
  | zero => simpa [commentLoop] using he
  | succ n ih =>
    have he' : s.err.isSome = false := by simp [he]
    have hdef : commentLoop 0 (n + 1) s = if s.peekNC.1.kind ≠ .comment then s.peekNC.2
        else commentLoop 0 n (s.peekNC.2.nextNC 0).2 := by simp [commentLoop, he']
    rw [hdef]
    have hpk : s.peekNC.2.peeked = true ∧ s.peekNC.1 = s.peekNC.2.peekTok ∧ s.peekNC.2.err = none ∧ WF' s.peekNC.2 := by
      cases hp : s.peeked
      · rw [peekNC_unpeeked he' hp]
        exact ⟨rfl, rfl, by rw [readPeek_err]; exact he, WF'_readPeek s⟩
      · rw [peekNC_peeked he' hp]
        exact ⟨hp, rfl, he, hw⟩
    obtain ⟨k1, k2, k3, k4⟩ := hpk
    by_cases hc : s.peekNC.1.kind ≠ .comment
    · rw [if_pos hc]; exact k3
    · rw [if_neg hc]
      simp only [ne_eq, Decidable.not_not] at hc
      rw [k2] at hc
      obtain ⟨t1, t2, _, _, _⟩ := takePeeked_comment k1 k4 hc
      have hnx : (s.peekNC.2.nextNC 0).2 = s.peekNC.2.takePeeked := by
        simp [PState.nextNC, k3, overLimit, k1]
      rw [hnx]
      exact ih _ t1 (by intro h; rw [t2] at h; cases h)

theorem peek_err_none (s : PState) (he : s.err = none) : (s.peek 0).2.err = none := by
  have he' : s.err.isSome = false := by simp [he]
  unfold PState.peek
  rw [he']
  simp only [Bool.false_eq_true, ↓reduceIte]
  split
  · exact he
  · unfold PState.groupIf PState.consumeCommentGroup
    have h1 : s.readPeek.err = none := by rw [readPeek_err]; exact he
    split
    · split
      · exact h1
      · exact commentLoop_err_none _ _ h1 (WF'_readPeek s)
    · exact h1


def Fwd {α : Type} (p : Prog α) (a : AS) (R : α → AS → Prop) : Prop :=
  ∀ s, WF s → dead s = false → abs s = a → (run 0 p s).2.oof = false →
    dead (run 0 p s).2 = false ∧ WF (run 0 p s).2 ∧ R (run 0 p s).1 (abs (run 0 p s).2)

theorem Fwd.pure {α : Type} (x : α) (a : AS) : Fwd (Pure.pure x : Prog α) a (fun y a' => y = x ∧ a' = a) := by
  intro s hw hl ha _
  exact ⟨hl, hw, rfl, ha⟩

theorem Fwd.mono {α : Type} {p : Prog α} {a : AS} {R R' : α → AS → Prop} (h : Fwd p a R)
    (hr : ∀ x a', R x a' → R' x a') : Fwd p a R' := by
  intro s hw hl ha ho
  obtain ⟨h1, h2, h3⟩ := h s hw hl ha ho
  exact ⟨h1, h2, hr _ _ h3⟩

theorem Fwd.bind {α β : Type} {p : Prog α} {f : α → Prog β} {a : AS} {R1 : α → AS → Prop} {R2 : β → AS → Prop}
    (h1 : Fwd p a R1) (h2 : ∀ x a1, R1 x a1 → Fwd (f x) a1 R2) : Fwd (p >>= f) a R2 := by
  intro s hw hl ha ho
  rw [bind_eq, run_bind] at ho ⊢
  obtain ⟨l1, w1, r1⟩ := h1 s hw hl ha (oof_of_run ho)
  exact h2 _ _ r1 _ w1 l1 rfl ho

/-- an out-of-fuel branch contradicts the hypothesis of `Fwd` -/
theorem Fwd.outOfFuel {α : Type} (x : α) (a : AS) (R : α → AS → Prop) : Fwd (outOfFuel x) a R := by
  intro s _ _ _ ho
  simp [Gql.Parser.outOfFuel, run] at ho

theorem Fwd.ite_pos {α : Type} {c : Prop} [Decidable c] {p q : Prog α} {a : AS} {R : α → AS → Prop} (hc : c)
    (h : Fwd p a R) : Fwd (if c then p else q) a R := by rw [if_pos hc]; exact h

theorem Fwd.ite_neg {α : Type} {c : Prop} [Decidable c] {p q : Prog α} {a : AS} {R : α → AS → Prop} (hc : ¬ c)
    (h : Fwd q a R) : Fwd (if c then p else q) a R := by rw [if_neg hc]; exact h

theorem fwd_peek (a : AS) : Fwd peek a (fun t a' => t = a.σ.head ∧ a' = { a with pk := true }) := by
  intro s hw hl ha ho
  simp only [peek, run] at ho ⊢
  have hlive : dead (s.peek 0).2 = false := by
    simp only [dead, Bool.or_eq_false_iff]
    exact ⟨by rw [peek_err_none s (live_err hl)]; rfl, ho⟩
  obtain ⟨h1, h2, h3⟩ := peek_abs s hw hlive
  exact ⟨hlive, h1, ha ▸ h2, ha ▸ h3⟩

theorem fwd_next {a : AS} {t : Token} {σ' : Stream} (hpk : a.pk = true) (hσ : a.σ = .cons t σ') :
    Fwd next a (fun x a' => x = t ∧ a' = { pk := false, σ := σ', cnt := a.cnt }) := by
  intro s hw hl ha _
  simp only [next, run]
  subst ha
  obtain ⟨h1, h2, h3⟩ := next_abs s hw hl hpk t σ' hσ
  exact ⟨h2, next_wf s h2, h1, h3⟩

theorem fwd_hasErr (a : AS) : Fwd hasErr a (fun b a' => b = false ∧ a' = a) := by
  intro s hw hl ha _
  have : run 0 hasErr s = (s.err.isSome, s) := rfl
  rw [this]
  exact ⟨hl, hw, live_isSome hl, ha⟩

theorem fwd_getSrc (a : AS) : Fwd getSrc a (fun _ a' => a' = a) := by
  intro s hw hl ha _
  have : run 0 getSrc s = (s.src, s) := rfl
  rw [this]
  exact ⟨hl, hw, ha⟩

theorem Fwd.peek {α : Type} {f : Token → Prog α} {a : AS} {R : α → AS → Prop}
    (h : Fwd (f a.σ.head) { a with pk := true } R) : Fwd (peek >>= f) a R :=
  Fwd.bind (fwd_peek a) (by rintro _ _ ⟨rfl, rfl⟩; exact h)

theorem Fwd.hasErr {α : Type} {f : Bool → Prog α} {a : AS} {R : α → AS → Prop} (h : Fwd (f false) a R) :
    Fwd (hasErr >>= f) a R :=
  Fwd.bind (fwd_hasErr a) (by rintro _ _ ⟨rfl, rfl⟩; exact h)

theorem Fwd.getSrc {α : Type} {f : Nat → Prog α} {a : AS} {R : α → AS → Prop} (h : ∀ i, Fwd (f i) a R) :
    Fwd (getSrc >>= f) a R :=
  Fwd.bind (fwd_getSrc a) (by rintro i _ rfl; exact h i)

theorem Fwd.next {α : Type} {f : Token → Prog α} {a : AS} {t : Token} {σ' : Stream} {R : α → AS → Prop} (hpk : a.pk = true)
    (hσ : a.σ = .cons t σ') (h : Fwd (f t) { pk := false, σ := σ', cnt := a.cnt } R) : Fwd (next >>= f) a R :=
  Fwd.bind (fwd_next hpk hσ) (by rintro _ _ ⟨rfl, rfl⟩; exact h)


def Starts (σ : Stream) (ts : List Tok) (σ' : Stream) : Prop := ∃ us, σ = Stream.app us σ' ∧ tk us = ts

theorem Starts.nil_iff {σ σ' : Stream} : Starts σ [] σ' ↔ σ = σ' := by
  constructor
  · rintro ⟨us, h1, h2⟩
    cases us with
    | nil => exact h1
    | cons u us => simp at h2
  · rintro rfl; exact ⟨[], rfl, rfl⟩

theorem Starts.cons_iff {σ σ' : Stream} {t : Tok} {ts : List Tok} :
    Starts σ (t :: ts) σ' ↔ ∃ u σ1, σ = .cons u σ1 ∧ Tok.ofToken u = t ∧ Starts σ1 ts σ' := by
  constructor
  · rintro ⟨us, h1, h2⟩
    cases us with
    | nil => simp at h2
    | cons u us =>
      simp only [tk_cons, List.cons.injEq] at h2
      exact ⟨u, _, h1, h2.1, us, rfl, h2.2⟩
  · rintro ⟨u, σ1, rfl, rfl, us, rfl, rfl⟩
    exact ⟨u :: us, rfl, rfl⟩

theorem Starts.append_iff {σ σ' : Stream} {A B : List Tok} :
    Starts σ (A ++ B) σ' ↔ ∃ σm, Starts σ A σm ∧ Starts σm B σ' := by
  constructor
  · rintro ⟨us, h1, h2⟩
    obtain ⟨uA, uB, rfl, hA, hB⟩ := List.map_eq_append_iff.1 h2
    exact ⟨Stream.app uB σ', ⟨uA, by rw [h1, Stream.app_append], hA⟩, ⟨uB, rfl, hB⟩⟩
  · rintro ⟨σm, ⟨uA, rfl, rfl⟩, ⟨uB, rfl, rfl⟩⟩
    exact ⟨uA ++ uB, by rw [Stream.app_append], by simp⟩

theorem Starts.head {σ σ' : Stream} {t : Tok} {ts : List Tok} (h : Starts σ (t :: ts) σ') : Tok.ofToken σ.head = t := by
  obtain ⟨u, σ1, rfl, rfl, _⟩ := Starts.cons_iff.1 h
  rfl

theorem Starts.head_kind {σ σ' : Stream} {t : Tok} {ts : List Tok} (h : Starts σ (t :: ts) σ') : σ.head.kind = t.kind := by
  rw [← h.head]; rfl

theorem Starts.single {σ σ' : Stream} {t : Tok} (h : Starts σ [t] σ') : ∃ u, σ = .cons u σ' ∧ Tok.ofToken u = t := by
  obtain ⟨u, σ1, hσ, hu, hrest⟩ := Starts.cons_iff.1 h
  exact ⟨u, Starts.nil_iff.1 hrest ▸ hσ, hu⟩

theorem ofToken_kind {u : Token} {t : Tok} (h : Tok.ofToken u = t) : u.kind = t.kind := congrArg Tok.kind h
theorem ofToken_value {u : Token} {t : Tok} (h : Tok.ofToken u = t) : u.value = t.value := congrArg Tok.value h

/-- the value of a keyword token as `str s`; when a goal still has the projection `(tKw "…").value` next to
    another `str "…"`, the kernel evaluates the string before it unfolds `tKw` -/
theorem tKw_value (s : String) : (tKw s).value = str s := rfl

theorem kw_value {u : Token} {s : String} (h : Tok.ofToken u = tKw s) : u.value = str s := ofToken_value h

/-- keywords are told apart as strings (comparing their byte lists is far dearer for the kernel) -/
theorem str_ne {s t : String} (h : s ≠ t := by simp) : str s ≠ str t := fun e => h (str_injective e)


theorem fwd_expect {a : AS} {t : Token} {σ' : Stream} (k : Kind) (hσ : a.σ = .cons t σ') (hk : t.kind = k) :
    Fwd (expect k) a (fun x a' => x = t ∧ a' = { pk := false, σ := σ', cnt := a.cnt }) :=
  .peek (.ite_pos (by rw [hσ]; exact hk) (fwd_next rfl hσ))

theorem fwd_expectKeyword {a : AS} {t : Token} {σ' : Stream} (v : Bytes) (hσ : a.σ = .cons t σ') (hk : t.kind = .name)
    (hv : t.value = v) :
    Fwd (expectKeyword v) a (fun x a' => x = t ∧ a' = { pk := false, σ := σ', cnt := a.cnt }) :=
  .peek (.ite_pos (by rw [hσ]; exact ⟨hk, hv⟩) (fwd_next rfl hσ))

theorem fwd_skip_yes {a : AS} {t : Token} {σ' : Stream} (k : Kind) (hσ : a.σ = .cons t σ') (hk : t.kind = k) :
    Fwd (skip k) a (fun b a' => b = true ∧ a' = { pk := false, σ := σ', cnt := a.cnt }) :=
  .hasErr (.peek (.ite_neg (by rw [hσ]; exact not_not_intro hk) (.next rfl hσ (Fwd.pure true _))))

theorem Fwd.skip_yes {α : Type} {f : Bool → Prog α} {a : AS} {t : Token} {σ' : Stream} {R : α → AS → Prop} {k : Kind}
    (hσ : a.σ = .cons t σ') (hk : t.kind = k) (h : Fwd (f true) { pk := false, σ := σ', cnt := a.cnt } R) :
    Fwd (skip k >>= f) a R :=
  Fwd.bind (fwd_skip_yes k hσ hk) (by rintro _ _ ⟨rfl, rfl⟩; exact h)

theorem fwd_skip_no {a : AS} (k : Kind) (hk : a.σ.head.kind ≠ k) :
    Fwd (skip k) a (fun b a' => b = false ∧ a' = { a with pk := true }) :=
  .hasErr (.peek (.ite_pos hk (Fwd.pure false _)))

theorem fwd_peekPos (a : AS) : Fwd peekPos a (fun _ a' => a' = { a with pk := true }) :=
  .hasErr (.peek (.getSrc fun _ => (Fwd.pure _ _).mono fun _ _ h => h.2))


theorem fwd_punct {a : AS} {σ' : Stream} (k : Kind) (h : Starts a.σ [tP k] σ') :
    Fwd (expect k) a (fun _ a' => a'.σ = σ') := by
  obtain ⟨u, hσ, hu⟩ := h.single
  exact (fwd_expect k hσ (ofToken_kind hu)).mono fun _ _ h => h.2 ▸ rfl

theorem fwd_keyword {a : AS} {σ' : Stream} (s : String) (h : Starts a.σ [tKw s] σ') :
    Fwd (expectKeyword (str s)) a (fun _ a' => a'.σ = σ') := by
  obtain ⟨u, hσ, hu⟩ := h.single
  exact (fwd_expectKeyword (str s) hσ (ofToken_kind hu) (ofToken_value hu)).mono fun _ _ h => h.2 ▸ rfl

theorem fwd_skipP_yes {a : AS} {σ' : Stream} (k : Kind) (h : Starts a.σ [tP k] σ') :
    Fwd (skip k) a (fun b a' => b = true ∧ a'.σ = σ') := by
  obtain ⟨u, hσ, hu⟩ := h.single
  exact (fwd_skip_yes k hσ (ofToken_kind hu)).mono fun _ _ h => ⟨h.1, h.2 ▸ rfl⟩

theorem fwd_skipP_no {a : AS} (k : Kind) (hk : a.σ.head.kind ≠ k) :
    Fwd (skip k) a (fun b a' => b = false ∧ a'.σ = a.σ) :=
  (fwd_skip_no k hk).mono fun _ _ h => ⟨h.1, h.2 ▸ rfl⟩

theorem fwd_bracket_absent {α : Type} (start stop : Kind) {cb : Prog α} (n : Nat) (a : AS) (hk : a.σ.head.kind ≠ start) :
    Fwd (pMany start stop n cb) a (fun ys a' => ys = [] ∧ a'.σ = a.σ) ∧
    Fwd (pSome start stop n cb) a (fun ys a' => ys = [] ∧ a'.σ = a.σ) :=
  ⟨Fwd.bind (fwd_skipP_no start hk) fun _ _ h => h.1 ▸ (Fwd.pure _ _).mono fun _ _ h2 => ⟨h2.1, h2.2 ▸ h.2⟩,
   Fwd.bind (fwd_skipP_no start hk) fun _ _ h => h.1 ▸ (Fwd.pure _ _).mono fun _ _ h2 => ⟨h2.1, h2.2 ▸ h.2⟩⟩

end Gql.Parser
