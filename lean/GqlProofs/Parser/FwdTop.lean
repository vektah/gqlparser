import GqlProofs.Parser.FwdQuery
import GqlProofs.Parser.SoundTop
import GqlProofs.Parser.FuelQuery
/-
  Parsing printed documents: the document loop on a sequence of printed definition blocks, and the
  entry point `parseQuery`.
-/
namespace Gql.Parser
open Gql Gql.Lexer Gql.Grammar Gql.Print

/-- a definition together with the tokens it is written as: an operation in its canonical print
    or with the keyword always written, a fragment in its print -/
def BlockOK : Def × List Tok → Prop
  | (.inl o, ts) => OpOK o ∧ WFOperation o ∧ (ts = printOperation o ∨ ts = opLong o)
  | (.inr f, ts) => FragOK f ∧ WFFragment f ∧ ts = printFragment f

theorem reads_queryDocLoop (m : Nat) : ∀ (blocks : List (Def × List Tok)), (∀ b ∈ blocks, BlockOK b) →
    ∀ (n : Nat) (doc : QueryDoc), Reads false (queryDocLoop m n doc) (blocks.flatMap (·.2)) (fun t => t.kind = .eof)
      (fun d => d.ops.map OperationDef.erasePos = (doc.ops ++ opsOf (blocks.map (·.1))).map OperationDef.erasePos ∧
        d.frags.map FragmentDef.erasePos = (doc.frags ++ fragsOf (blocks.map (·.1))).map FragmentDef.erasePos)
  | [], _, n, doc => by
    cases n with
    | zero => exact .outOfFuel
    | succ n => exact .peek_nil fun _ ht => .ite_neg (not_not_intro ht) (.pure ⟨by simp [opsOf], by simp [fragsOf]⟩)
  | (.inl o, ts) :: rest, hok, n, doc => by
    obtain ⟨ho, hwf, hts⟩ := hok _ List.mem_cons_self
    cases n with
    | zero => exact .outOfFuel
    | succ n =>
      have ih := fun od => reads_queryDocLoop m rest (fun b hb => hok b (List.mem_cons_of_mem _ hb)) n
        { doc with ops := doc.ops ++ [od] }
      -- the block is the query shorthand or starts with the operation keyword
      have hcases : (OperationDef.isBare o = true ∧ ts = printSelectionSet o.sel) ∨ ts = opLong o := by
        rcases hts with h | h
        · rw [printOperation_eq] at h
          split at h
          · exact .inl ⟨‹_›, h⟩
          · exact .inr h
        · exact .inr h
      rw [List.flatMap_cons]
      rcases hcases with ⟨hbare, rfl⟩ | rfl
      · refine .peek_head rfl fun _ ht => .ite_pos (by rw [ofToken_kind ht]; nofun) <| .hasErr <| .peekPos fun _ =>
          .peek_head rfl fun t1 ht1 => ?_
        simp only [show t1.kind = .braceL from ofToken_kind ht1]
        exact .seq' (reads_opShort o ho hwf hbare m) fun od hod => (ih od).mono fun d h =>
          ⟨by rw [h.1]; simp [opsOf, hod], by rw [h.2]; simp [fragsOf]⟩
      · refine .peek_head rfl fun _ ht => .ite_pos (by rw [ofToken_kind ht]; nofun) <| .hasErr <| .peekPos fun _ =>
          .peek_head rfl fun t1 ht1 => ?_
        simp only [show t1.kind = .name from ofToken_kind ht1]
        exact .peek_head rfl fun _ ht2 => .ite_pos (by rw [ofToken_value ht2]; exact hwf.1) <|
          .seq' (reads_opLong o ho hwf m) fun od hod => (ih od).mono fun d h =>
            ⟨by rw [h.1]; simp [opsOf, hod], by rw [h.2]; simp [fragsOf]⟩
  | (.inr f, ts) :: rest, hok, n, doc => by
    obtain ⟨ho, hwf, rfl⟩ := hok _ List.mem_cons_self
    cases n with
    | zero => exact .outOfFuel
    | succ n =>
      rw [List.flatMap_cons]
      refine .peek_head rfl fun _ ht => .ite_pos (by rw [ofToken_kind ht]; nofun) <| .hasErr <| .peekPos fun _ =>
        .peek_head rfl fun t1 ht1 => ?_
      simp only [show t1.kind = .name from ofToken_kind ht1]
      exact .peek_head rfl fun _ ht2 => .ite_neg (by rw [kw_value ht2]; rintro (h | h | h) <;> exact absurd h str_ne) <| .ite_pos (kw_value ht2) <|
        .seq' (reads_fragment f ho hwf m) fun fd hfd =>
          (reads_queryDocLoop m rest (fun b hb => hok b (List.mem_cons_of_mem _ hb)) n { doc with frags := doc.frags ++ [fd] }).mono
            fun d h => ⟨by rw [h.1]; simp [opsOf], by rw [h.2]; simp [fragsOf, hfd]⟩


theorem starts_of_tokensOf {inp : Bytes} {ts : List Tok} (h : tokensOf inp = some ts) :
    ∃ t, t.kind = .eof ∧ Starts (rawS inp Cur.init).sig ts (.eof t) := by
  obtain ⟨t, ht, rfl⟩ := tokensOf_iff.1 h
  refine ⟨t, (rawS_term ht).1, _, ?_, rfl⟩
  conv => lhs; rw [Stream.eq_app_toks (rawS inp Cur.init).sig, Stream.sig_term, ht]

/-- from a forward triple at the initial state to the outcome of the entry point: the lexer succeeded with the
    tokens `ts`, and the run does not run out of fuel -/
theorem Fwd.run_init {α : Type} {p : Prog α} {ts : List Tok} {R : α → Prop} {src : Nat} {inp : Bytes}
    (htok : tokensOf inp = Option.some ts)
    (h : ∀ t, t.kind = .eof → Starts (abs (PState.init src inp)).σ ts (.eof t) →
      Fwd p (abs (PState.init src inp)) (fun y a' => R y ∧ a'.σ = .eof t))
    (hoof : (run 0 p (PState.init src inp)).2.oof = false) :
    Result.ofRun (run 0 p (PState.init src inp)) = .ok (run 0 p (PState.init src inp)).1 ∧ R (run 0 p (PState.init src inp)).1 := by
  obtain ⟨t, hteof, hst⟩ := starts_of_tokensOf htok
  obtain ⟨hl, _, hr, _⟩ := h t hteof (by rw [abs_init]; exact hst) (PState.init src inp) (WF.init src inp)
    (by simp [dead, PState.init]) rfl hoof
  exact ⟨ofRun_ok.2 ⟨live_oof hl, live_err hl, rfl⟩, hr⟩

theorem Reads.run_init {α : Type} {p : Prog α} {ts : List Tok} {Q : α → Prop} (h : Reads false p ts (fun t => t.kind = .eof) Q)
    (src : Nat) (inp : Bytes) (htok : tokensOf inp = Option.some ts) (hoof : (run 0 p (PState.init src inp)).2.oof = false) :
    Result.ofRun (run 0 p (PState.init src inp)) = .ok (run 0 p (PState.init src inp)).1 ∧ Q (run 0 p (PState.init src inp)).1 :=
  Fwd.run_init htok (fun t hteof hst => h _ (.eof t) nofun hst hteof) hoof

/-- **parsing printed blocks**: if the significant tokens of `inp` are the concatenation of the
    printed blocks, `parseQuery` accepts `inp` and returns the definitions (operations and
    fragments each in block order) up to positions. -/
theorem parseQuery_blocks (blocks : List (Def × List Tok)) (hok : ∀ b ∈ blocks, BlockOK b) (inp : Bytes)
    (htok : tokensOf inp = some (blocks.flatMap (·.2))) :
    ∃ d', parseQuery 0 inp = .ok d' ∧
      d'.ops.map OperationDef.erasePos = (opsOf (blocks.map (·.1))).map OperationDef.erasePos ∧
      d'.frags.map FragmentDef.erasePos = (fragsOf (blocks.map (·.1))).map FragmentDef.erasePos := by
  obtain ⟨hr, e1, e2⟩ := (reads_queryDocLoop (fuelFor inp) blocks hok (fuelFor inp) { ops := [], frags := [] }).run_init
    0 inp htok (runQuery_oof 0 inp)
  exact ⟨_, hr, by simpa using e1, by simpa using e2⟩


/-- the trees the unparser / parser pair is exact on: every definition is well-formed, the
    unprinted parts of values are canonical (`ValueOK` …), and each of the two definition lists
    is in the order of its recorded positions (so that the interleaving by position keeps them) -/
def PrintableQuery (d : QueryDoc) : Prop :=
  (∀ o ∈ d.ops, WFOperation o ∧ OpOK o) ∧ (∀ f ∈ d.frags, WFFragment f ∧ FragOK f) ∧
    d.ops.Pairwise (fun a b => a.pos.start ≤ b.pos.start) ∧ d.frags.Pairwise (fun a b => a.pos.start ≤ b.pos.start)


theorem inSourceOrder_map {α : Type} (f : α → Nat × List Tok) (l : List α) :
    (inSourceOrder (l.map f)).flatten = (l.mergeSort fun a b => decide ((f a).1 ≤ (f b).1)).flatMap fun x => (f x).2 := by
  unfold inSourceOrder
  rw [← List.map_mergeSort (f := f) (r := fun a b => decide ((f a).1 ≤ (f b).1)) (s := fun a b => decide (a.1 ≤ b.1))
    fun _ _ _ _ => rfl]
  simp [List.flatMap_def, List.map_map, Function.comp_def]

theorem opsOf_eq (l : List Def) : opsOf l = l.filterMap Sum.getLeft? := by
  induction l with
  | nil => rfl
  | cons x l ih => cases x <;> simp [opsOf, ih, List.filterMap_cons, Sum.getLeft?]

theorem fragsOf_eq (l : List Def) : fragsOf l = l.filterMap Sum.getRight? := by
  induction l with
  | nil => rfl
  | cons x l ih => cases x <;> simp [fragsOf, ih, List.filterMap_cons, Sum.getRight?]

theorem opsOf_append (l1 l2 : List Def) : opsOf (l1 ++ l2) = opsOf l1 ++ opsOf l2 := by simp [opsOf_eq]
theorem fragsOf_append (l1 l2 : List Def) : fragsOf (l1 ++ l2) = fragsOf l1 ++ fragsOf l2 := by simp [fragsOf_eq]
theorem opsOf_inl (os : List OperationDef) : opsOf (os.map Sum.inl) = os := by simp [opsOf_eq, List.filterMap_map, Function.comp_def, Sum.getLeft?]
theorem opsOf_inr (fs : List FragmentDef) : opsOf (fs.map Sum.inr) = [] := by simp [opsOf_eq, List.filterMap_map, Function.comp_def, Sum.getLeft?]
theorem fragsOf_inl (os : List OperationDef) : fragsOf (os.map Sum.inl) = [] := by simp [fragsOf_eq, List.filterMap_map, Function.comp_def, Sum.getRight?]
theorem fragsOf_inr (fs : List FragmentDef) : fragsOf (fs.map Sum.inr) = fs := by simp [fragsOf_eq, List.filterMap_map, Function.comp_def, Sum.getRight?]

/-- the definitions of a document in the order `printQuery` writes them -/
def sourceOrder (d : QueryDoc) : List Def :=
  (d.ops.map Sum.inl ++ d.frags.map Sum.inr).mergeSort fun a b => decide ((defItem a).1 ≤ (defItem b).1)

theorem printQuery_sourceOrder (d : QueryDoc) : printQuery d = (sourceOrder d).flatMap fun x => (defItem x).2 := by
  rw [sourceOrder, ← inSourceOrder_map]
  simp [printQuery, defItem, List.map_map, Function.comp_def]

/-- the interleaving by position keeps each of the two lists when each is sorted (stability) -/
theorem sourceOrder_lists (d : QueryDoc) (h1 : d.ops.Pairwise fun a b => a.pos.start ≤ b.pos.start)
    (h2 : d.frags.Pairwise fun a b => a.pos.start ≤ b.pos.start) :
    opsOf (sourceOrder d) = d.ops ∧ fragsOf (sourceOrder d) = d.frags := by
  have e1 : opsOf (d.ops.map Sum.inl ++ d.frags.map Sum.inr) = d.ops := by simp [opsOf_append, opsOf_inl, opsOf_inr]
  have e2 : fragsOf (d.ops.map Sum.inl ++ d.frags.map Sum.inr) = d.frags := by simp [fragsOf_append, fragsOf_inl, fragsOf_inr]
  rw [opsOf_eq] at e1 ⊢
  rw [fragsOf_eq] at e2 ⊢
  exact ⟨(filterMap_mergeSort (fun x => (defItem x).1) _ _ Sum.inl (fun _ => rfl)
      (fun x y h => by cases x <;> cases h <;> rfl) (by rw [e1]; exact h1)).trans e1,
    (filterMap_mergeSort (fun x => (defItem x).1) _ _ Sum.inr (fun _ => rfl)
      (fun x y h => by cases x <;> cases h <;> rfl) (by rw [e2]; exact h2)).trans e2⟩

theorem mem_sourceOrder {d : QueryDoc} {x : Def} (h : x ∈ sourceOrder d) :
    (∃ o ∈ d.ops, x = .inl o) ∨ (∃ f ∈ d.frags, x = .inr f) := by
  have := (List.mergeSort_perm _ _).mem_iff.1 h
  simp only [List.mem_append, List.mem_map] at this
  rcases this with ⟨o, ho, rfl⟩ | ⟨f, hf, rfl⟩
  · exact .inl ⟨o, ho, rfl⟩
  · exact .inr ⟨f, hf, rfl⟩

/-- **parse ∘ print**: if the significant tokens of `inp` are the unparse of a printable tree `d`,
    the parser accepts `inp` and returns `d` up to positions -/
theorem parseQuery_print (d : QueryDoc) (hp : PrintableQuery d) (inp : Bytes) (htok : tokensOf inp = some (printQuery d)) :
    ∃ d', parseQuery 0 inp = .ok d' ∧ d'.erasePos = d.erasePos := by
  obtain ⟨hops, hfrags, s1, s2⟩ := hp
  let blocks : List (Def × List Tok) := (sourceOrder d).map fun x => (x, (defItem x).2)
  have hflat : blocks.flatMap (·.2) = printQuery d := by
    rw [printQuery_sourceOrder]; simp [blocks, List.flatMap_def, List.map_map, Function.comp_def]
  have hfst : blocks.map (·.1) = sourceOrder d := by simp [blocks, List.map_map, Function.comp_def]
  have hok : ∀ b ∈ blocks, BlockOK b := by
    intro b hb
    simp only [blocks, List.mem_map] at hb
    obtain ⟨x, hx, rfl⟩ := hb
    rcases mem_sourceOrder hx with ⟨o, ho, rfl⟩ | ⟨f, hf, rfl⟩
    · exact ⟨(hops o ho).2, (hops o ho).1, .inl rfl⟩
    · exact ⟨(hfrags f hf).2, (hfrags f hf).1, rfl⟩
  obtain ⟨d', h1, h2, h3⟩ := parseQuery_blocks blocks hok inp (by rw [hflat]; exact htok)
  obtain ⟨l1, l2⟩ := sourceOrder_lists d s1 s2
  rw [hfst, l1] at h2
  rw [hfst, l2] at h3
  exact ⟨d', h1, by simp [QueryDoc.erasePos, h2, h3]⟩

end Gql.Parser
