import GqlProofs.Parser.FwdTop
/-
  Every tree the query parser returns is printable: its definitions satisfy the side conditions of the
  forward lemmas (`OpOK`, `FragOK`: conjuncts of the soundness postconditions) and were recorded at
  increasing offsets.  This gives `parseQuery 0 inp = .ok d → PrintableQuery d`.
-/
namespace Gql.Parser
open Gql Gql.Lexer Gql.Grammar Gql.Print

/-- every result of a run of `p` that ends live satisfies `Q` -/
def Ret {α : Type} (p : Prog α) (Q : α → Prop) : Prop := ∀ s, dead (run 0 p s).2 = false → Q (run 0 p s).1

theorem Ret.mono {α : Type} {p : Prog α} {Q Q' : α → Prop} (h : Ret p Q) (hq : ∀ x, Q x → Q' x) : Ret p Q' :=
  fun s hl => hq _ (h s hl)

/-- one reading of the run: every definition is well-formed and `OpOK`/`FragOK`, and the definitions were recorded
    at increasing offsets -/
theorem parseQuery_printable (inp : Bytes) (doc : QueryDoc) (h : parseQuery 0 inp = .ok doc) : PrintableQuery doc := by
  obtain ⟨⟨defs, hops, hfrags, hm⟩, _⟩ :=
    parseQuery_defs (PD := PDefOK) spec_parseOperationDefinition spec_parseFragmentDefinition h
  have k := (many_keys_gen (key := fun d => (defItem d).1) hm (fun d _ h => by cases d <;> exact PDef.key h.1)
    (rawS_sig_sorted inp Cur.init)).2.imp Nat.le_of_lt
  have ok := hm.forall (Q := fun d => match d with | .inl o => WFOperation o ∧ OpOK o | .inr f => WFFragment f ∧ FragOK f)
    fun d _ h => by cases d <;> exact ⟨h.1.2.2, h.2⟩
  unfold PrintableQuery
  rw [hops, hfrags]
  refine ⟨fun o ho => ok _ (mem_opsOf.1 ho), fun f hf => ok _ (mem_fragsOf.1 hf), ?_, ?_⟩
  · rw [opsOf_eq]
    exact List.Pairwise.filterMap _ (fun a a' hlt b hb b' hb' => by
      cases a <;> cases hb; cases a' <;> cases hb'; exact hlt) k
  · rw [fragsOf_eq]
    exact List.Pairwise.filterMap _ (fun a a' hlt b hb b' hb' => by
      cases a <;> cases hb; cases a' <;> cases hb'; exact hlt) k

end Gql.Parser
