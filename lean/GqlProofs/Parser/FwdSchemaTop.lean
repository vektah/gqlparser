import GqlProofs.Parser.FwdSchema
import GqlProofs.Parser.SoundSchemaTop
import GqlProofs.Parser.FuelSchema
import GqlProofs.Parser.FwdTop
/-
  Schema definitions / extensions, directive definitions, the extension dispatcher, the document
  loop on printed items, and the entry points `parseSchemaSrc` / `parseSchema`.
-/
namespace Gql.Parser
open Gql Gql.Lexer Gql.Grammar Gql.Print


variable {b : Bool} {F : Tok → Prop} {dk : Bytes → Kind}

theorem reads_schemaDefinition (s : SchemaDef) (hok : SchemaDefOK s) (n : Nat) :
    Reads b (parseSchemaDefinition n s.desc)
      (tKw "schema" :: printDirectives s.dirs ++ tP .braceL :: s.opTypes.flatMap printOpType ++ [tP .braceR]) F
      (fun y => y.erasePos = s.erasePos) := by
  simp only [List.append_assoc, List.cons_append]
  exact .keyword fun _ => .peekPos fun pos =>
    .seq (reads_directives true s.dirs hok.1.1 (fun _ => hok.1.2) n) (.head rfl (by decide)) fun _ hds =>
    .peek_head rfl fun _ ht => .ite_neg (not_not_intro (ofToken_kind ht)) <| .bind_pure
      (.some OpTypeDef.erasePos (fun x hx => reads_opTypeDef x (hok.2.2 x hx)) (fun _ _ => .head rfl ⟨by simp [tName], trivial⟩)
        (fun _ _ => trivial) hok.2.1) fun _ hos => by simp [SchemaDef.erasePos, hds, hos]

theorem reads_schemaExtension (s : SchemaDef) (hok : SchemaExtOK s) (n : Nat) :
    Reads b (parseSchemaExtension n) (tKw "schema" :: (printDirectives s.dirs ++ printBlock printOpType s.opTypes)) folItem
      (fun y => y.erasePos = s.erasePos) :=
  .keyword fun _ => .peekPos fun pos => .seq (reads_directives true s.dirs hok.2.1.1 (fun _ => hok.2.1.2) n)
      (.opt_last .ite (by decide) fun _ h => NoKind.mono h.1)
    fun _ hds => .seq_nil ((reads_opTypes s.opTypes hok.2.2.2 n).follow fun _ h _ => NoKind.ne h.1) fun _ hos =>
    .ite_neg (by rw [length_eq_zero_of_map hds, length_eq_zero_of_map hos]; exact not_and_of_not_or_not hok.2.2.1)
      (.pure (by simp [SchemaDef.erasePos, hds, hos, hok.1]))


theorem reads_directiveDefinition (hdk : ∀ d, DescKind (dk d)) (d : DirectiveDef) (hok : DirectiveDefOK d) (n : Nat) :
    Reads b (parseDirectiveDefinition n d.desc) (tKw "directive" :: tP .at :: tName d.name :: printArgDefsK dk d.args
      ++ (if d.repeatable then [tKw "repeatable"] else []) ++ tKw "on" :: printSep .pipe d.locations)
      (fun t => t.kind ≠ .pipe) (fun y => y.erasePos = d.erasePos) := by
  simp only [List.append_assoc, List.cons_append]
  refine .keyword fun _ => .expect rfl fun _ _ => .peekPos fun pos => .name <|
    .seq (reads_argDefs hdk n d.args hok.1) (by cases d.repeatable <;> exact .head rfl fun _ => by decide) fun as' has => ?_
  have htail : ∀ rep, Reads false (directiveTail n d.desc pos d.name as' rep) (tKw "on" :: printSep .pipe d.locations)
      (fun t => t.kind ≠ .pipe) (fun y => y.erasePos = ({ d with repeatable := rep } : DirectiveDef).erasePos) := fun rep =>
    .keyword fun _ => .bind_pure (reads_directiveLocations d.locations hok.2.1 hok.2.2 n) fun _ hl => by
      simp [hl, DirectiveDef.erasePos, has]
  cases hr : d.repeatable with
  | false =>
    exact .peek_head rfl fun _ ht => .ite_neg (fun h => absurd ((kw_value ht).symm.trans h.2) str_ne)
      ((htail false).weaken.mono fun _ h => by rw [h]; simp [DirectiveDef.erasePos, hr])
  | true =>
    exact .peek_head rfl fun _ ht => .ite_pos ⟨ofToken_kind ht, kw_value ht⟩ <| .skip_yes rfl
      ((htail true).mono fun _ h => by rw [h]; simp [DirectiveDef.erasePos, hr])


/-- the item as the parser run returns it: positions erased, `BuiltIn` not yet set -/
def SItem.norm : SItem → SItem
  | .schema s => .schema s.erasePos
  | .schemaExt s => .schemaExt s.erasePos
  | .directive d => .directive d.erasePos
  | .definition d => .definition ({ d with builtIn := false } : Definition).erasePos
  | .extension d => .extension ({ d with builtIn := false } : Definition).erasePos

def SItem.erasePos : SItem → SItem
  | .schema s => .schema s.erasePos
  | .schemaExt s => .schemaExt s.erasePos
  | .directive d => .directive d.erasePos
  | .definition d => .definition d.erasePos
  | .extension d => .extension d.erasePos

theorem erasePos_add (doc : SchemaDoc) (it : SItem) : (doc.add it).erasePos = doc.erasePos.add it.erasePos := by
  cases it <;> simp [SchemaDoc.add, SchemaDoc.erasePos, SItem.erasePos]

theorem folItem_of_eof {σ : Stream} (h : σ.head.kind = .eof) : FolItem σ :=
  folItem_iff.2 ⟨.of_kind h, fun hc => nomatch h.symm.trans hc.1⟩

theorem reads_typeSystemExtension (hdk : ∀ d, DescKind (dk d)) (it : SItem) (hok : ItemOK it)
    (hext : (∃ s, it = .schemaExt s) ∨ (∃ d, it = .extension d)) (n : Nat) (doc : SchemaDoc) :
    Reads b (parseTypeSystemExtension n doc) (printItemK dk it) folItem (fun y => y.erasePos = doc.erasePos.add it.norm) := by
  rcases hext with ⟨s, rfl⟩ | ⟨d, rfl⟩
  · exact .keyword fun _ => .peek_head rfl fun _ ht => .ite_pos (kw_value ht) <| .bind_pure
      (reads_schemaExtension s hok n) fun _ hsd => by simp [SchemaDoc.erasePos, SchemaDoc.add, SItem.norm, hsd]
  · obtain ⟨hdef, hdesc, hx⟩ := hok
    have body : Reads true (extParser d.kind n >>= fun y => Pure.pure { doc with extensions := doc.extensions ++ [y] })
        (DefKind.keyword d.kind :: printDefBodyK dk d) folItem (fun y => y.erasePos = doc.erasePos.add (SItem.extension d).norm) :=
      .bind_pure (Q1 := fun y => y.erasePos = ({ d with builtIn := false } : Definition).erasePos)
        (extParser_eq d.kind n ▸ reads_typeBody hdk d hdef n fun pos _ _ _ _ _ h =>
          .ite_neg (h.extends hx) (.pure ((h.erasePos [] pos).trans (by simp [Definition.erasePos, hdesc])))) fun y hy => by
        simp [SchemaDoc.erasePos, SchemaDoc.add, SItem.norm, hy]
    refine .keyword fun _ => .peek_head rfl fun _ ht => ?_
    cases hk : d.kind
    all_goals
      simp only [hk] at ht body
      rw [kw_value ht]
      refine .ite_neg str_ne ?_
    · exact .ite_pos rfl body
    · exact .ite_neg str_ne <| .ite_pos rfl body
    · exact .ite_neg str_ne <| .ite_neg str_ne <| .ite_pos rfl body
    · exact .ite_neg str_ne <| .ite_neg str_ne <| .ite_neg str_ne <| .ite_pos rfl body
    · exact .ite_neg str_ne <| .ite_neg str_ne <| .ite_neg str_ne <| .ite_neg str_ne <| .ite_pos rfl body
    · exact .ite_neg str_ne <| .ite_neg str_ne <| .ite_neg str_ne <| .ite_neg str_ne <| .ite_neg str_ne <| .ite_pos rfl body


/-- the dispatch on the keyword inside the loop of `parseSchemaDocument` -/
def docDispatch (m n : Nat) (doc : SchemaDoc) (description : Bytes) (hasDescription : Bool) (v : Bytes) : Prog SchemaDoc :=
  if v = kwScalar ∨ v = kwType ∨ v = kwInterface ∨ v = kwUnion ∨ v = kwEnum ∨ v = kwInput then do
    let df ← parseTypeSystemDefinition m description
    schemaDocLoop m n { doc with definitions := doc.definitions ++ [df] }
  else if v = kwSchema then do
    let sd ← parseSchemaDefinition m description
    schemaDocLoop m n { doc with schema := doc.schema ++ [sd] }
  else if v = kwDirective then do
    let dd ← parseDirectiveDefinition m description
    schemaDocLoop m n { doc with directives := doc.directives ++ [dd] }
  else if v = kwExtend then do
    rejectDescription hasDescription
    let doc' ← parseTypeSystemExtension m doc
    schemaDocLoop m n doc'
  else do
    unexpectedError
    pure default

theorem schemaDocLoop_succ (m n : Nat) (doc : SchemaDoc) :
    schemaDocLoop m (n + 1) doc = (do
      let t ← peek
      if t.kind ≠ .eof then
        if ← hasErr then pure default
        else
          let (description, hasDescription) ← parseOptionalDescription
          let c ← peek
          if c.kind ≠ .name then
            unexpectedError
            pure doc
          else
            let d ← peek
            docDispatch m n doc description hasDescription d.value
      else pure doc) := rfl

/-- a top-level item starts with a description or with a keyword other than `implements` -/
theorem ahead_item (hdk : ∀ d, DescKind (dk d)) (it : SItem) (rest : List Tok) {P : Tok → Prop} (hd : ∀ t, DescKind t.kind → P t)
    (hkw : ∀ t, t.kind = .name → t.value ≠ kwImplements → P t) : Ahead P (printItemK dk it ++ rest) F := by
  have key : ∀ (desc : Bytes) (s : String) (tl : List Tok), s ≠ "implements" → Ahead P (printDescK dk desc ++ tKw s :: tl) F :=
    fun desc s tl hs => .opt .ite (hd _ (hdk desc)) (.head rfl (hkw _ rfl (tKw_value s ▸ str_ne hs)))
  cases it with
  | schema x | directive x =>
    simp only [printItemK, printSchemaDefK, printDirectiveDefK, List.append_assoc, List.cons_append]
    exact key _ _ _ (by simp)
  | definition d =>
    simp only [printItemK, printDefinitionK, List.append_assoc, List.cons_append]
    cases d.kind <;> exact key _ _ _ (by simp)
  | schemaExt x | extension x => exact key [] "extend" _ (by simp)

theorem ahead_items (hdk : ∀ d, DescKind (dk d)) (items : List SItem) :
    Ahead folItem (items.flatMap (printItemK dk)) (fun t => t.kind = .eof) := by
  cases items with
  | nil => exact .nil fun _ h => ⟨.of_kind h, fun hc => nomatch h.symm.trans hc.1⟩
  | cons it r =>
    rw [List.flatMap_cons]
    exact ahead_item hdk it _
      (fun _ h => ⟨by rcases h with h | h <;> exact .of_kind h, fun hc => by rcases h with h | h <;> cases h.symm.trans hc.1⟩)
      fun _ h1 h2 => ⟨.of_kind h1, fun hc => h2 hc.2⟩

/-- one iteration of the loop up to the dispatch: the description is read, the keyword is peeked -/
theorem reads_loopStep (hdk : ∀ d, DescKind (dk d)) (m n : Nat) (doc : SchemaDoc) (desc : Bytes) (kw : Tok) (tl : List Tok)
    (hkw : kw.kind = .name) {v : Bytes} (hv : kw.value = v) {Q : SchemaDoc → Prop}
    (hrest : ∀ has : Bool, (has = true → desc ≠ []) → Reads true (docDispatch m n doc desc has v) (kw :: tl) F Q) :
    Reads false (schemaDocLoop m (n + 1) doc) (printDescK dk desc ++ kw :: tl) F Q := by
  rw [schemaDocLoop_succ]
  refine .peek (P := fun t => t.kind ≠ .eof)
      (.opt .ite (by rcases hdk desc with h | h <;> rw [h] <;> nofun) (.head rfl (by rw [hkw]; nofun)))
    fun _ ht => .ite_pos ht <| .hasErr <| .seq (reads_optionalDescription hdk desc)
      (.head rfl fun _ => by rw [hkw]; exact ⟨nofun, nofun⟩) fun x hx => ?_
  obtain ⟨_, has⟩ := x
  obtain ⟨rfl, hhas⟩ := hx
  exact .peek_head rfl fun _ hc => .ite_neg (not_not_intro ((ofToken_kind hc).trans hkw)) <|
    .peek_head rfl fun _ hd2 => by rw [ofToken_value hd2, hv]; exact hrest has hhas

theorem reads_schemaDocLoop (hdk : ∀ d, DescKind (dk d)) (m : Nat) : ∀ (items : List SItem), (∀ it ∈ items, ItemOK it) →
    ∀ (n : Nat) (doc : SchemaDoc), Reads false (schemaDocLoop m n doc) (items.flatMap (printItemK dk)) (fun t => t.kind = .eof)
      (fun d => d.erasePos = (items.map SItem.norm).foldl SchemaDoc.add doc.erasePos)
  | _, _, 0, _ => .outOfFuel
  | [], _, n + 1, doc => .peek_nil fun _ ht => .ite_neg (not_not_intro ht) (.pure rfl)
  | it :: rest, hok, n + 1, doc => by
    have hit := hok it List.mem_cons_self
    -- the rest of the loop, after the item has been added to the document
    have ih : ∀ doc' : SchemaDoc, doc'.erasePos = doc.erasePos.add it.norm →
        Reads false (schemaDocLoop m n doc') (rest.flatMap (printItemK dk)) (fun t => t.kind = .eof)
          (fun d => d.erasePos = ((it :: rest).map SItem.norm).foldl SchemaDoc.add doc.erasePos) := fun doc' hdoc' =>
      (reads_schemaDocLoop hdk m rest (fun x hx => hok x (List.mem_cons_of_mem _ hx)) n doc').mono fun d h => by
        rw [h, hdoc']; rfl
    have hfol := ahead_items hdk rest
    rw [List.flatMap_cons]
    cases it with
    | definition d =>
      simp only [printItemK, printDefinitionK, List.append_assoc, List.cons_append]
      refine reads_loopStep hdk m n doc d.desc _ _ (keyword_value d.kind).1 (keyword_value d.kind).2 fun has _ => ?_
      unfold docDispatch
      exact .ite_pos (by cases d.kind <;> simp [kwOf]) <|
        Reads.seq (A := DefKind.keyword d.kind :: printDefBodyK dk d) (reads_typeSystemDefinition hdk d hit m) hfol
          fun _ hdf => ih _ (by simp [SchemaDoc.erasePos, SchemaDoc.add, SItem.norm, hdf])
    | schema s =>
      simp only [printItemK, printSchemaDefK, List.append_assoc, List.cons_append]
      refine reads_loopStep hdk m n doc s.desc (tKw "schema") _ rfl (tKw_value _) fun has _ => ?_
      unfold docDispatch
      exact .ite_neg (by rintro (h | h | h | h | h | h) <;> exact absurd h str_ne) <| .ite_pos rfl <| (Reads.seq' (reads_schemaDefinition s hit m)
        fun _ hsd => ih _ (by simp [SchemaDoc.erasePos, SchemaDoc.add, SItem.norm, hsd])).toks (by simp)
    | directive d =>
      simp only [printItemK, printDirectiveDefK, List.append_assoc, List.cons_append]
      refine reads_loopStep hdk m n doc d.desc (tKw "directive") _ rfl (tKw_value _) fun has _ => ?_
      unfold docDispatch
      exact .ite_neg (by rintro (h | h | h | h | h | h) <;> exact absurd h str_ne) <| .ite_neg str_ne <| .ite_pos rfl <| (Reads.seq (reads_directiveDefinition hdk d hit m)
        (fun t ht => NoKind.ne (hfol t ht).1) fun _ hdd => ih _ (by simp [SchemaDoc.erasePos, SchemaDoc.add, SItem.norm, hdd])).toks (by simp)
    | schemaExt x | extension x =>
      -- both are `extend …`; no description can stand in front
      refine reads_loopStep hdk m n doc [] (tKw "extend") _ rfl (tKw_value _) fun has hhas => ?_
      cases has with
      | true => exact absurd rfl (hhas rfl)
      | false =>
        unfold docDispatch
        exact .ite_neg (by rintro (h | h | h | h | h | h) <;> exact absurd h str_ne) <| .ite_neg str_ne <| .ite_neg str_ne <| .ite_pos rfl <|
          .seq (reads_typeSystemExtension hdk _ hit (by simp) m doc) hfol fun _ h => ih _ h


theorem setBuiltIn_add (b : Bool) (doc : SchemaDoc) (it : SItem) :
    setBuiltIn b (doc.add it) = (setBuiltIn b doc).add (it.setBI b) := by
  cases it <;> simp [SchemaDoc.add, setBuiltIn, SItem.setBI]

theorem foldl_add_hom (h : SchemaDoc → SchemaDoc) (g : SItem → SItem) (hadd : ∀ doc it, h (doc.add it) = (h doc).add (g it))
    (items : List SItem) (doc : SchemaDoc) :
    h (items.foldl SchemaDoc.add doc) = (items.map g).foldl SchemaDoc.add (h doc) := by
  induction items generalizing doc with
  | nil => rfl
  | cons it items ih => rw [List.foldl_cons, ih, hadd, List.map_cons, List.foldl_cons]

theorem setBuiltIn_erasePos (b : Bool) (doc : SchemaDoc) : setBuiltIn b doc.erasePos = (setBuiltIn b doc).erasePos := by
  simp [setBuiltIn, SchemaDoc.erasePos, List.map_map, Function.comp_def, Definition.erasePos]

theorem setBI_norm (b : Bool) (it : SItem) : (it.norm).setBI b = (it.erasePos).setBI b := by
  cases it <;> simp [SItem.norm, SItem.setBI, SItem.erasePos, Definition.erasePos]

/-- **parsing printed items**: if the significant tokens of `inp` are the concatenation of the
    printed items (descriptions as tokens of kind `dk`), `ParseSchema` accepts `inp` and returns
    the items, each in its list and in item order, up to positions (and with the source's
    `BuiltIn` flag) -/
theorem parseSchemaSrc_items {dk : Bytes → Kind} (hdk : ∀ d, DescKind (dk d)) (items : List SItem) (hok : ∀ it ∈ items, ItemOK it)
    (src : Nat) (b : Bool) (inp : Bytes) (htok : tokensOf inp = some (items.flatMap (printItemK dk))) :
    ∃ d', parseSchemaSrc 0 src b inp = .ok d' ∧
      d'.erasePos = (setBuiltIn b (items.foldl SchemaDoc.add SchemaDoc.empty)).erasePos := by
  obtain ⟨hofrun, e1⟩ := (Reads.peekPos (b := false) fun _ =>
    (reads_schemaDocLoop hdk (fuelFor inp) items hok (fuelFor inp) SchemaDoc.empty).weaken).run_init src inp htok
      (runSchema_oof 0 src inp)
  refine ⟨setBuiltIn b (runSchema 0 src inp).1, parseSchemaSrc_ok.2 ⟨_, hofrun, rfl⟩, ?_⟩
  have e1' : (runSchema 0 src inp).1.erasePos = (items.map SItem.norm).foldl SchemaDoc.add SchemaDoc.empty.erasePos := e1
  rw [← setBuiltIn_erasePos, e1', foldl_add_hom _ _ (setBuiltIn_add b), ← setBuiltIn_erasePos,
    foldl_add_hom _ _ erasePos_add, foldl_add_hom _ _ (setBuiltIn_add b)]
  simp only [List.map_map, Function.comp_def, setBI_norm]


/-- the items of a document, list after list -/
def itemsOf (d : SchemaDoc) : List SItem :=
  d.schema.map .schema ++ d.schemaExt.map .schemaExt ++ d.directives.map .directive ++ d.definitions.map .definition ++
    d.extensions.map .extension

/-- … and in the order `printSchema` writes them -/
def sourceOrderS (d : SchemaDoc) : List SItem :=
  (itemsOf d).mergeSort fun a b => decide ((sItem a).1 ≤ (sItem b).1)

theorem printSchema_sourceOrder (d : SchemaDoc) : printSchema d = (sourceOrderS d).flatMap fun x => (sItem x).2 := by
  rw [sourceOrderS, ← inSourceOrder_map, printSchema_eq]
  simp [docItems, itemsOf, List.map_map, Function.comp_def, sItem]

def getSchema : SItem → Option SchemaDef | .schema s => some s | _ => none
def getSchemaExt : SItem → Option SchemaDef | .schemaExt s => some s | _ => none
def getDirective : SItem → Option DirectiveDef | .directive s => some s | _ => none
def getDefinition : SItem → Option Definition | .definition s => some s | _ => none
def getExtension : SItem → Option Definition | .extension s => some s | _ => none

theorem foldl_add_lists (items : List SItem) (doc : SchemaDoc) :
    items.foldl SchemaDoc.add doc =
      { schema := doc.schema ++ items.filterMap getSchema, schemaExt := doc.schemaExt ++ items.filterMap getSchemaExt,
        directives := doc.directives ++ items.filterMap getDirective,
        definitions := doc.definitions ++ items.filterMap getDefinition,
        extensions := doc.extensions ++ items.filterMap getExtension } := by
  induction items generalizing doc with
  | nil => simp
  | cons it items ih =>
    rw [List.foldl_cons, ih]
    cases it <;> simp [SchemaDoc.add, List.filterMap_cons, getSchema, getSchemaExt, getDirective, getDefinition, getExtension]

def PrintableSchema (d : SchemaDoc) : Prop :=
  DocAll ItemOK d ∧
    d.schema.Pairwise (fun a b => a.pos.start ≤ b.pos.start) ∧ d.schemaExt.Pairwise (fun a b => a.pos.start ≤ b.pos.start) ∧
    d.directives.Pairwise (fun a b => a.pos.start ≤ b.pos.start) ∧ d.definitions.Pairwise (fun a b => a.pos.start ≤ b.pos.start) ∧
    d.extensions.Pairwise (fun a b => a.pos.start ≤ b.pos.start)

theorem sourceOrderS_foldl (d : SchemaDoc) (h1 : d.schema.Pairwise fun a b => a.pos.start ≤ b.pos.start)
    (h2 : d.schemaExt.Pairwise fun a b => a.pos.start ≤ b.pos.start) (h3 : d.directives.Pairwise fun a b => a.pos.start ≤ b.pos.start)
    (h4 : d.definitions.Pairwise fun a b => a.pos.start ≤ b.pos.start) (h5 : d.extensions.Pairwise fun a b => a.pos.start ≤ b.pos.start) :
    (sourceOrderS d).foldl SchemaDoc.add SchemaDoc.empty = d := by
  -- what each projection finds among the items, before and (by stability) after sorting
  have hall : ∀ {α : Type} (get : SItem → Option α), (itemsOf d).filterMap get =
      d.schema.filterMap (get ∘ .schema) ++ d.schemaExt.filterMap (get ∘ .schemaExt) ++ d.directives.filterMap (get ∘ .directive) ++
        d.definitions.filterMap (get ∘ .definition) ++ d.extensions.filterMap (get ∘ .extension) := fun get => by
    simp [itemsOf, List.filterMap_append, List.filterMap_map]
  have proj : ∀ {α : Type} (get : SItem → Option α) (mk : α → SItem) (xs : List α), (∀ x, get (mk x) = some x) →
      (∀ x y, get x = some y → mk y = x) → (itemsOf d).filterMap get = xs →
      (xs.Pairwise fun a b => (sItem (mk a)).1 ≤ (sItem (mk b)).1) → (sourceOrderS d).filterMap get = xs :=
    fun get mk xs hget hmk hall hsorted =>
      (filterMap_mergeSort (fun x => (sItem x).1) _ get mk hget hmk (hall ▸ hsorted)).trans hall
  rw [foldl_add_lists,
    proj getSchema .schema d.schema (fun _ => rfl) (fun x y h => by cases x <;> cases h <;> rfl)
      (by simp [hall, Function.comp_def, filterMap_none', getSchema]) h1,
    proj getSchemaExt .schemaExt d.schemaExt (fun _ => rfl) (fun x y h => by cases x <;> cases h <;> rfl)
      (by simp [hall, Function.comp_def, filterMap_none', getSchemaExt]) h2,
    proj getDirective .directive d.directives (fun _ => rfl) (fun x y h => by cases x <;> cases h <;> rfl)
      (by simp [hall, Function.comp_def, filterMap_none', getDirective]) h3,
    proj getDefinition .definition d.definitions (fun _ => rfl) (fun x y h => by cases x <;> cases h <;> rfl)
      (by simp [hall, Function.comp_def, filterMap_none', getDefinition]) h4,
    proj getExtension .extension d.extensions (fun _ => rfl) (fun x y h => by cases x <;> cases h <;> rfl)
      (by simp [hall, Function.comp_def, filterMap_none', getExtension]) h5]
  rfl

theorem mem_itemsOf {d : SchemaDoc} {Q : SItem → Prop} (h : DocAll Q d) : ∀ it ∈ itemsOf d, Q it := by
  obtain ⟨h1, h2, h3, h4, h5⟩ := h
  intro it hit
  simp only [itemsOf, List.mem_append, List.mem_map] at hit
  rcases hit with (((⟨x, hx, rfl⟩ | ⟨x, hx, rfl⟩) | ⟨x, hx, rfl⟩) | ⟨x, hx, rfl⟩) | ⟨x, hx, rfl⟩
  · exact h1 x hx
  · exact h2 x hx
  · exact h3 x hx
  · exact h4 x hx
  · exact h5 x hx

/-- **parse ∘ print** for type-system documents -/
theorem parseSchemaSrc_print (d : SchemaDoc) (hp : PrintableSchema d) (src : Nat) (b : Bool) (inp : Bytes)
    (htok : tokensOf inp = some (printSchema d)) :
    ∃ d', parseSchemaSrc 0 src b inp = .ok d' ∧ d'.erasePos = (setBuiltIn b d).erasePos := by
  obtain ⟨hok, s1, s2, s3, s4, s5⟩ := hp
  have hitems : ∀ it ∈ sourceOrderS d, ItemOK it := fun it hit =>
    mem_itemsOf hok it ((List.mergeSort_perm _ _).mem_iff.1 hit)
  have hflat : (sourceOrderS d).flatMap (printItemK (fun _ => .string)) = printSchema d := by
    rw [printSchema_sourceOrder]
    simp only [List.flatMap_def]
    congr 2
    exact funext printItemK_string
  obtain ⟨d', h1, h2⟩ := parseSchemaSrc_items (fun _ => .inl rfl) (sourceOrderS d) hitems src b inp (by rw [hflat]; exact htok)
  rw [sourceOrderS_foldl d s1 s2 s3 s4 s5] at h2
  exact ⟨d', h1, h2⟩

end Gql.Parser
