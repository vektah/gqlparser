import GqlProofs.Parser.SoundSchema
import GqlProofs.Parser.SoundTop
/-
  From the program logic to the schema parser run `runSchema`; the entry points `parseSchema` / `parseSchemaSrc` are
  it followed by `setBuiltIn`, which the unparse does not see.
-/
namespace Gql.Parser
open Gql Gql.Lexer Gql.Grammar Gql.Print


def DocAll (Q : SItem → Prop) (d : SchemaDoc) : Prop :=
  (∀ x ∈ d.schema, Q (.schema x)) ∧ (∀ x ∈ d.schemaExt, Q (.schemaExt x)) ∧ (∀ x ∈ d.directives, Q (.directive x)) ∧
    (∀ x ∈ d.definitions, Q (.definition x)) ∧ (∀ x ∈ d.extensions, Q (.extension x))

theorem DocAll.add {Q : SItem → Prop} (d : SchemaDoc) (it : SItem) : DocAll Q (d.add it) ↔ DocAll Q d ∧ Q it := by
  cases it <;> simp only [DocAll, SchemaDoc.add, List.mem_append, List.mem_singleton, or_imp, forall_and, forall_eq] <;> grind

theorem DocAll.foldl {Q : SItem → Prop} (items : List SItem) (d : SchemaDoc) :
    DocAll Q (items.foldl SchemaDoc.add d) ↔ DocAll Q d ∧ ∀ it ∈ items, Q it := by
  induction items generalizing d with
  | nil => simp
  | cons it items ih =>
    rw [List.foldl_cons, ih, DocAll.add]
    simp only [List.mem_cons, or_imp, forall_and, forall_eq]
    grind

theorem DocAll.empty (Q : SItem → Prop) : DocAll Q SchemaDoc.empty := by
  simp [DocAll, SchemaDoc.empty]

/-- the keyed unparses of the five lists, in the order `printSchema` concatenates them -/
def docItems (d : SchemaDoc) : List (Nat × List Tok) :=
  d.schema.map (fun x => (x.pos.start, printSchemaDef x))
    ++ d.schemaExt.map (fun x => (x.pos.start, printSchemaExt x))
    ++ d.directives.map (fun x => (x.pos.start, printDirectiveDef x))
    ++ d.definitions.map (fun x => (x.pos.start, printDefinition x))
    ++ d.extensions.map (fun x => (x.pos.start, printExtension x))

theorem printSchema_eq (d : SchemaDoc) : printSchema d = (inSourceOrder (docItems d)).flatten := rfl

theorem docItems_add (d : SchemaDoc) (it : SItem) : (docItems (d.add it)).Perm (docItems d ++ [sItem it]) := by
  apply List.perm_iff_count.2
  intro a
  cases it <;> simp [docItems, SchemaDoc.add, sItem, List.count_append, List.count_cons] <;> omega

theorem docItems_foldl (items : List SItem) (d : SchemaDoc) :
    (docItems (items.foldl SchemaDoc.add d)).Perm (docItems d ++ items.map sItem) := by
  induction items generalizing d with
  | nil => simp
  | cons it items ih =>
    rw [List.foldl_cons]
    refine (ih _).trans ?_
    have := (docItems_add d it).append_right (items.map sItem)
    simpa using this

theorem docItems_empty : docItems SchemaDoc.empty = [] := by simp [docItems, SchemaDoc.empty]


theorem many_sitems_wf {items : List SItem} {used : List Token} (h : Many PSItem items used)
    (hen : ∀ it ∈ items, it.enumOK) : ∀ it ∈ items, it.WF := by
  induction h with
  | nil => exact fun _ h => by cases h
  | @cons x xs u us hx _ ih =>
    exact List.forall_mem_cons.2 ⟨(hx.2 (hen x (by simp))).2, ih fun it hit => hen it (by simp [hit])⟩


theorem docItems_setBuiltIn (b : Bool) (d : SchemaDoc) : docItems (setBuiltIn b d) = docItems d := by
  simp only [docItems, setBuiltIn, List.map_map]
  rfl

theorem printSchema_setBuiltIn (b : Bool) (d : SchemaDoc) : printSchema (setBuiltIn b d) = printSchema d := by
  rw [printSchema_eq, printSchema_eq, docItems_setBuiltIn]

def SItem.setBI (b : Bool) : SItem → SItem
  | .definition d => .definition { d with builtIn := b }
  | .extension d => .extension { d with builtIn := b }
  | x => x

/-- a property of items that does not look at the `BuiltIn` mark holds of a document before `setBuiltIn` iff after -/
theorem DocAll.setBuiltIn {Q : SItem → Prop} (b : Bool) (hQ : ∀ it, Q (it.setBI b) ↔ Q it) (d : SchemaDoc) :
    DocAll Q (setBuiltIn b d) ↔ DocAll Q d := by
  simp only [DocAll, Parser.setBuiltIn, List.forall_mem_map]
  exact and_congr_right fun _ => and_congr_right fun _ => and_congr_right fun _ =>
    and_congr (forall₂_congr fun x _ => hQ (.definition x)) (forall₂_congr fun x _ => hQ (.extension x))

theorem WFSchema_iff (d : SchemaDoc) :
    WFSchema d ↔ (d.schema ≠ [] ∨ d.schemaExt ≠ [] ∨ d.directives ≠ [] ∨ d.definitions ≠ [] ∨ d.extensions ≠ []) ∧
      DocAll SItem.WF d := Iff.rfl

def SchemaDoc.nonEmpty (d : SchemaDoc) : Prop :=
  d.schema ≠ [] ∨ d.schemaExt ≠ [] ∨ d.directives ≠ [] ∨ d.definitions ≠ [] ∨ d.extensions ≠ []

theorem nonEmpty_setBuiltIn (b : Bool) (d : SchemaDoc) : SchemaDoc.nonEmpty (setBuiltIn b d) ↔ SchemaDoc.nonEmpty d := by
  simp [SchemaDoc.nonEmpty, setBuiltIn]

theorem wfSchema_setBuiltIn (b : Bool) (d : SchemaDoc) : WFSchema (setBuiltIn b d) ↔ WFSchema d := by
  rw [WFSchema_iff, WFSchema_iff, ← SchemaDoc.nonEmpty, ← SchemaDoc.nonEmpty, nonEmpty_setBuiltIn,
    DocAll.setBuiltIn b fun it => by cases it <;> exact Iff.rfl]

theorem enumOK_setBuiltIn (b : Bool) (d : SchemaDoc) : DocAll SItem.enumOK (setBuiltIn b d) ↔ DocAll SItem.enumOK d :=
  DocAll.setBuiltIn b (fun it => by cases it <;> exact Iff.rfl) d

theorem nonEmpty_iff_docItems (d : SchemaDoc) : SchemaDoc.nonEmpty d ↔ docItems d ≠ [] := by
  simp only [SchemaDoc.nonEmpty, docItems, ne_eq, List.append_eq_nil_iff, List.map_eq_nil_iff]
  grind

/-- the items of a document the schema parser run returns were parsed one after the other from the significant
    tokens of the source, whatever `PI` the item parsers establish -/
theorem runSchema_items {PI : SItem → List Token → Prop}
    (hp : ∀ n, Spec (parseSchemaDocument n) (EatsTo (SDocLoopOf PI SchemaDoc.empty))) {src : Nat} {inp : Bytes}
    {d0 : SchemaDoc} (h : Result.ofRun (runSchema 0 src inp) = .ok d0) :
    (∃ items, d0 = items.foldl SchemaDoc.add SchemaDoc.empty ∧ Many PI items (rawS inp Cur.init).sig.toks) ∧
      tokensOf inp = some (tk (rawS inp Cur.init).sig.toks) ∧ (runSchema 0 src inp).2.tokenCount = countTokens inp :=
  let ⟨⟨_, _, _, q⟩, hsrc⟩ := whole_run (hp (fuelFor inp)) h fun _ _ _ q => ⟨q.1, q.2.1⟩
  ⟨q, hsrc⟩

theorem runSchema_sound (src : Nat) (inp : Bytes) (d0 : SchemaDoc) (h : Result.ofRun (runSchema 0 src inp) = .ok d0) :
    ∃ ts, tokensOf inp = some ts ∧
      (SchemaDoc.nonEmpty d0 → DocAll SItem.enumOK d0 →
        Derives gql (.nt .typeSystemDocument) ts (printSchema d0) ∧ WFSchema d0) ∧
      (¬ SchemaDoc.nonEmpty d0 → ts = []) := by
  obtain ⟨⟨items, hd0, hm⟩, htok, _⟩ := runSchema_items spec_parseSchemaDocument h
  have hm : Many PSItem items _ := hm.mono fun _ _ h => h.1
  have hperm : (docItems d0).Perm (items.map sItem) := by
    rw [hd0]; simpa [docItems_empty] using docItems_foldl items SchemaDoc.empty
  refine ⟨_, htok, fun hne hen => ?_, fun hemp => ?_⟩
  · have hitems : items ≠ [] := by
      rintro rfl
      exact (nonEmpty_iff_docItems d0).1 hne (by simpa using hperm.length_eq)
    have hen' : ∀ it ∈ items, it.enumOK := ((DocAll.foldl items SchemaDoc.empty).1 (hd0 ▸ hen)).2
    refine ⟨?_, (WFSchema_iff d0).2 ⟨hne, ?_⟩⟩
    · rw [printSchema_eq]
      exact .nt (many_doc hm (rawS_sig_sorted inp Cur.init) (fun _ _ h => h.1) (fun it hit _ h => (h.2 (hen' it hit)).1) hitems hperm)
    · rw [hd0]
      exact (DocAll.foldl items SchemaDoc.empty).2 ⟨DocAll.empty _, many_sitems_wf hm hen'⟩
  · have : items = [] := by
      cases items with
      | nil => rfl
      | cons it rest => exact absurd ((nonEmpty_iff_docItems d0).2 fun e => by simpa [e] using hperm.length_eq) hemp
    subst this
    generalize (rawS inp Cur.init).sig.toks = u at hm
    cases hm
    rfl

/-- soundness at the entry point: `setBuiltIn` changes nothing the statement looks at -/
theorem parseSchemaSrc_sound (src : Nat) (b : Bool) (inp : Bytes) (d : SchemaDoc) (h : parseSchemaSrc 0 src b inp = .ok d) :
    ∃ ts, tokensOf inp = some ts ∧
      (SchemaDoc.nonEmpty d → DocAll SItem.enumOK d → Derives gql (.nt .typeSystemDocument) ts (printSchema d) ∧ WFSchema d) ∧
      (¬ SchemaDoc.nonEmpty d → ts = []) := by
  obtain ⟨d0, h0, rfl⟩ := parseSchemaSrc_ok.1 h
  simpa only [nonEmpty_setBuiltIn, enumOK_setBuiltIn, printSchema_setBuiltIn, wfSchema_setBuiltIn] using
    runSchema_sound src inp d0 h0

theorem countTokens_schema (src : Nat) (inp : Bytes) (d0 : SchemaDoc) (h : Result.ofRun (runSchema 0 src inp) = .ok d0) :
    (runSchema 0 src inp).2.tokenCount = countTokens inp :=
  (runSchema_items spec_parseSchemaDocument h).2.2

end Gql.Parser
