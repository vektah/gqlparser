import GqlProofs.Parser.Reads
import GqlProofs.Parser.ErasePos
/-
  The converse of `SoundQuery.lean` on printed trees: a run of a query parser program on a stream that STARTS
  with the printed tokens of a tree ends live, consumes exactly those tokens and returns the tree up to positions
  (`erasePos`).  The side conditions on the tree (`ValueOK`, …) say that the parts the unparser does not print
  have the values the parser gives them; optional trailing parts need a follow condition on the rest of the
  stream (the grammar is LL(1)).  Each production is proved as `reads_…` by a chain of the rules of `Reads.lean`
  that follows its `do` block; the recursive ones (`fwd_value`, `fwd_selection`) are stated as `FwdValue` /
  `FwdSel`, in terms of `Fwd`, stream and abstract state.
-/
namespace Gql.Parser
open Gql Gql.Lexer Gql.Grammar Gql.Print


variable {b : Bool} {F : Tok → Prop}

theorem reads_parseVariable (n : Name) : Reads b parseVariable [tP .dollar, tName n] F (fun x => x = n) :=
  .expect rfl fun _ _ => reads_parseName

theorem Reads.variable {α : Type} {n : Name} {f : Name → Prog α} {ts : List Tok} {Q : α → Prop} (h : Reads false (f n) ts F Q) :
    Reads b (parseVariable >>= f) (tP .dollar :: tName n :: ts) F Q :=
  .seq_eq (A := [tP .dollar, tName n]) (reads_parseVariable n) h

/-- the kinds of the first token of a printed value -/
def valueStart : List Kind := [.dollar, .int, .float, .string, .blockString, .name, .bracketL, .braceL]

theorem ahead_value (v : Value) {P : Tok → Prop} (h : ∀ t, t.kind ∈ valueStart → P t) : Ahead P (printValue v) F := by
  obtain ⟨k, raw, ch, p⟩ := v
  cases k <;> exact .head rfl (h _ (by simp [valueStart, tP, tName]))

theorem printItems_eq : ∀ ch : Children, printItems ch = ch.toList.flatMap fun x => printValue x.2.1
  | .nil => rfl
  | .cons n v p rest => by simp [printItems, Children.toList, printItems_eq rest]

theorem printObjFields_eq : ∀ ch : Children,
    printObjFields ch = ch.toList.flatMap fun x => tName x.1 :: tP .colon :: printValue x.2.1
  | .nil => rfl
  | .cons n v p rest => by simp [printObjFields, Children.toList, printObjFields_eq rest]

def eraseChild (x : Name × Value × Pos) : Name × Value × Pos := (x.1, x.2.1.erasePos, Pos.zero)

theorem erase_of_children {ys : List (Name × Value × Pos)} {ch : Children}
    (h : ys.map eraseChild = ch.toList.map eraseChild) : (Children.ofList ys).erasePos = ch.erasePos := by
  rw [Children.erasePos_ofList, ← Children.ofList_toList ch, Children.erasePos_ofList]
  exact congrArg Children.ofList h

/-- what the value parser does on the printed tokens of `v` -/
def FwdValue (c : Bool) (v : Value) : Prop :=
  ∀ (n : Nat) (a : AS) (σ' : Stream), Starts a.σ (printValue v) σ' →
    Fwd (parseValueLiteral n c) a (fun v' a' => v'.erasePos = v.erasePos ∧ a'.σ = σ')

theorem FwdValue.reads {c : Bool} {v : Value} (h : FwdValue c v) {n : Nat} :
    Reads b (parseValueLiteral n c) (printValue v) F (fun v' => v'.erasePos = v.erasePos) :=
  fun a σ' _ hs _ => h n a σ' hs

theorem FwdValue.of_reads {c : Bool} {v : Value}
    (h : ∀ n, Reads false (parseValueLiteral n c) (printValue v) (fun _ => True) (fun v' => v'.erasePos = v.erasePos)) :
    FwdValue c v :=
  fun n a σ' hs => h n a σ' nofun hs trivial

theorem fwd_list {c : Bool} {raw : Bytes} {ch : Children} {p : Pos} (hraw : raw = [])
    (hitems : ∀ x ∈ ch.toList, x.1 = [] ∧ FwdValue c x.2.1) : FwdValue c (.mk .list raw ch p) := by
  subst hraw
  refine .of_reads fun n => ?_
  cases n with
  | zero => exact .outOfFuel
  | succ n =>
    simp only [printValue, printItems_eq, List.cons_append]
    refine .peek_head rfl fun token ht => .getSrc fun src => ?_
    simp only [show token.kind = .bracketL from ofToken_kind ht]
    exact .peekPos fun pos => .bind_pure (.many eraseChild
        (fun x hx => .bind_pure (hitems x hx).2.reads fun v hv => by simp [eraseChild, hv, (hitems x hx).1])
        (fun x _ => ahead_value x.2.1 fun t ht => ⟨fun e => absurd (e ▸ ht) (by decide), trivial⟩) fun _ _ => trivial)
      fun ys hy => by simp only [Value.erasePos, erase_of_children hy]

theorem fwd_object {c : Bool} {raw : Bytes} {ch : Children} {p : Pos} (hraw : raw = [])
    (hfields : ∀ x ∈ ch.toList, FwdValue c x.2.1) : FwdValue c (.mk .object raw ch p) := by
  subst hraw
  refine .of_reads fun n => ?_
  cases n with
  | zero => exact .outOfFuel
  | succ n =>
    simp only [printValue, printObjFields_eq, List.cons_append]
    refine .peek_head rfl fun token ht => .getSrc fun src => ?_
    simp only [show token.kind = .braceL from ofToken_kind ht]
    exact .peekPos fun pos => .bind_pure (.many eraseChild
        (fun x hx => .peekPos fun pos' => .name <| .expect rfl fun _ _ =>
          .bind_pure (hfields x hx).reads fun v hv => by simp [eraseChild, hv])
        (fun x _ => .head rfl ⟨nofun, trivial⟩) fun _ _ => trivial)
      fun ys hy => by simp only [Value.erasePos, erase_of_children hy]

/-- the value kind of a scalar literal token -/
def litKind (u : Token) : ValueKind :=
  match u.kind with
  | .int => .int
  | .float => .float
  | .string => .string
  | .blockString => .block
  | _ => nameValueKind u.value

theorem fwd_scalarToken (c : Bool) (n : Nat) {a : AS} {u : Token} {σ' : Stream} (hσ : a.σ = .cons u σ')
    (hk : u.kind = .int ∨ u.kind = .float ∨ u.kind = .string ∨ u.kind = .blockString ∨ u.kind = .name) :
    Fwd (parseValueLiteral (n + 1) c) a
      (fun v a' => v.erasePos = .mk (litKind u) u.value .nil Pos.zero ∧ a'.σ = σ') := by
  refine .peek (.getSrc fun src => ?_)
  rw [show a.σ.head = u by rw [hσ]; rfl]
  have fin : ∀ k, k = litKind u → Fwd (litValue src u k) { a with pk := true }
      (fun v a' => v.erasePos = .mk (litKind u) u.value .nil Pos.zero ∧ a'.σ = σ') := fun k hk' =>
    .next rfl hσ ((Fwd.pure _ _).mono fun _ _ h => ⟨by simp [h.1, Value.erasePos, Children.erasePos, hk'], h.2 ▸ rfl⟩)
  rcases hk with h | h | h | h | h <;> simp only [h] <;> exact fin _ (by simp [litKind, h])

/-- a value written as the one token `K raw` -/
theorem fwd_scalar (c : Bool) {k : ValueKind} {raw : Bytes} {p : Pos} {K : Kind}
    (hp : printValue (.mk k raw .nil p) = [{ kind := K, value := raw }])
    (hK : K = .int ∨ K = .float ∨ K = .string ∨ K = .blockString ∨ K = .name)
    (hlit : ∀ u : Token, u.kind = K → u.value = raw → litKind u = k) : FwdValue c (.mk k raw .nil p) := by
  intro n a σ' hs
  cases n with
  | zero => exact Fwd.outOfFuel _ _ _
  | succ n =>
    obtain ⟨u, hσ, hu⟩ := (hp ▸ hs).single
    have hk : u.kind = K := ofToken_kind hu
    have hv : u.value = raw := ofToken_value hu
    exact (fwd_scalarToken c n hσ (hk ▸ hK)).mono fun v a' h =>
      ⟨by rw [h.1, hlit u hk hv, hv]; simp [Value.erasePos, Children.erasePos], h.2⟩

mutual
  theorem fwd_value (c : Bool) : ∀ v : Value, ValueOK v → (c = true → ConstValue v) → FwdValue c v
    | .mk k raw ch p, hok, hc => by
      cases k with
      | list =>
        simp only [ValueOK] at hok
        exact fwd_list hok.1 (fwd_items c ch hok.2 fun h => (hc h).2)
      | object =>
        simp only [ValueOK] at hok
        exact fwd_object hok.1 (fwd_fields c ch hok.2 fun h => (hc h).2)
      | «variable» =>
        simp only [ValueOK] at hok
        subst hok
        have hcf : c = false := by
          cases c with
          | false => rfl
          | true => exact absurd rfl (hc rfl).1
        subst hcf
        refine .of_reads fun n => ?_
        cases n with
        | zero => exact .outOfFuel
        | succ n =>
          simp only [printValue]
          refine .peek_head rfl fun token ht => .getSrc fun src => ?_
          simp only [show token.kind = .dollar from ofToken_kind ht]
          exact .ite_neg Bool.false_ne_true (.bind_pure (reads_parseVariable raw) fun r hr => by
            simp [hr, Value.erasePos, Children.erasePos])
      | int | float | string | block =>
        all_goals
          simp only [ValueOK] at hok
          subst hok
          exact fwd_scalar c rfl (by simp) fun u hk _ => by simp [litKind, hk]
      | boolean | null | «enum» =>
        all_goals
          simp only [ValueOK] at hok
          obtain ⟨rfl, hkind⟩ := hok
          exact fwd_scalar c rfl (by simp) fun u hk hv => by simp [litKind, hk, hv, ← hkind]
  theorem fwd_items (c : Bool) : ∀ ch : Children, ItemsOK ch → (c = true → ConstChildren ch) →
      ∀ x ∈ ch.toList, x.1 = [] ∧ FwdValue c x.2.1
    | .nil, _, _ => fun _ h => by cases h
    | .cons n v p rest, hok, hc => by
      simp only [ItemsOK] at hok
      intro x hx
      simp only [Children.toList, List.mem_cons] at hx
      rcases hx with rfl | hx
      · exact ⟨hok.1, fwd_value c v hok.2.1 fun h => (hc h).1⟩
      · exact fwd_items c rest hok.2.2 (fun h => (hc h).2) x hx
  theorem fwd_fields (c : Bool) : ∀ ch : Children, FieldsOK ch → (c = true → ConstChildren ch) →
      ∀ x ∈ ch.toList, FwdValue c x.2.1
    | .nil, _, _ => fun _ h => by cases h
    | .cons n v p rest, hok, hc => by
      simp only [FieldsOK] at hok
      intro x hx
      simp only [Children.toList, List.mem_cons] at hx
      rcases hx with rfl | hx
      · exact fwd_value c v hok.1 fun h => (hc h).1
      · exact fwd_fields c rest hok.2 (fun h => (hc h).2) x hx
end


theorem reads_argument (c : Bool) (x : Argument) (hok : ValueOK x.value) (hc : c = true → ConstValue x.value) (n : Nat) :
    Reads b (parseArgument n c) (printArgument x) F (fun y => y.erasePos = x.erasePos) :=
  .peekPos fun _ => .name <| .expect rfl fun _ _ => .bind_pure (fwd_value c x.value hok hc).reads fun _ hv => by
    simp [Argument.erasePos, hv]

theorem reads_arguments (c : Bool) (as : List Argument) (hok : ArgsOK as) (hc : c = true → ∀ x ∈ as, ConstValue x.value)
    (n : Nat) : Reads b (parseArguments n c) (printArguments as) (fun t => as = [] → t.kind ≠ .parenL)
      (fun ys => ys.map Argument.erasePos = as.map Argument.erasePos) :=
  .optSome Argument.erasePos (fun x hx => reads_argument c x (hok x hx) (fun h => hc h x hx) n)
    (fun _ _ => .head rfl ⟨nofun, trivial⟩) fun _ _ => trivial

theorem reads_directive (c : Bool) (d : Directive) (hok : ArgsOK d.args) (hc : c = true → ∀ x ∈ d.args, ConstValue x.value)
    (n : Nat) : Reads b (parseDirective n c) (printDirective d) (fun t => d.args = [] → t.kind ≠ .parenL)
      (fun y => y.erasePos = d.erasePos) :=
  .expect rfl fun _ _ => .peekPos fun _ => .name <| .bind_pure (reads_arguments c d.args hok hc n) fun _ has => by
    simp [Directive.erasePos, has]

theorem head_printDirective (d : Directive) : ∃ rest, printDirective d = tP .at :: rest := ⟨_, rfl⟩

theorem opt_directives (ds : List Directive) : Opt (tP .at) (printDirectives ds) := by
  cases ds with
  | nil => exact .inl rfl
  | cons d r => exact .inr ⟨_, rfl⟩

theorem reads_directivesLoop (c : Bool) (m : Nat) : ∀ (ds : List Directive), DirsOK ds → (c = true → ConstDirectives ds) →
    ∀ (n : Nat) (acc : List Directive), Reads false (directivesLoop (parseDirective m c) n acc) (printDirectives ds)
      (NoKind [.at, .parenL]) (fun ys => ys.map Directive.erasePos = (ds.reverse ++ acc).map Directive.erasePos)
  | [], _, _, n, acc => by
    cases n with
    | zero => exact .outOfFuel
    | succ n => exact .peek_nil fun _ ht => .ite_neg ht.ne (.pure (by simp))
  | d :: ds, hok, hc, n, acc => by
    cases n with
    | zero => exact .outOfFuel
    | succ n =>
      simp only [printDirectives, List.flatMap_cons]
      exact .peek_head rfl fun _ ht => .ite_pos (ofToken_kind ht) <| .hasErr <|
        .seq (reads_directive c d (hok d (by simp)) (fun h => hc h d (by simp)) m)
          (.opt_last (opt_directives ds) (fun _ => by decide) fun _ h _ => NoKind.ne h) fun y hy =>
        (reads_directivesLoop c m ds (fun z hz => hok z (by simp [hz])) (fun h z hz => hc h z (by simp [hz])) n (y :: acc)).mono
          fun ys h => by rw [h]; simp [hy]

/-- `Directives?`: what follows must not look like a directive or an argument list -/
theorem reads_directives (c : Bool) (ds : List Directive) (hok : DirsOK ds) (hc : c = true → ConstDirectives ds) (n : Nat) :
    Reads b (parseDirectives n c) (printDirectives ds) (NoKind [.at, .parenL])
      (fun ys => ys.map Directive.erasePos = ds.map Directive.erasePos) :=
  .bind_pure (reads_directivesLoop c n ds hok hc n []).weaken fun ys hy => by rw [List.map_reverse, hy]; simp


/-- what may not follow a variable definition or an input value definition (what does follow is `$`, a Name, a
    description or a closing bracket) -/
abbrev folVar : Tok → Prop := NoKind [.bang, .equals, .at, .parenL]

theorem reads_bang (nn : Bool) : Reads b (skip .bang) (bangIf nn) (fun t => nn = false → t.kind ≠ .bang) (fun x => x = nn) := by
  intro a σ' _ hs hF
  cases nn with
  | true => exact fwd_skipP_yes .bang hs
  | false =>
    have hσ := Starts.nil_iff.1 hs
    exact (fwd_skipP_no .bang (hσ ▸ hF rfl)).mono fun _ _ h => ⟨h.1, h.2.trans hσ⟩

theorem reads_type : ∀ (ty : GType) (n : Nat) (b : Bool), Reads b (parseTypeReference n) (printType ty)
    (fun t => ty.nonNull = false → t.kind ≠ .bang) (fun y => y.erasePos = ty.erasePos)
  | _, 0, _ => .outOfFuel
  | .named nm nn p, n + 1, _ =>
    .skip_no (.head rfl nofun) <| .peekPos fun _ => .name <| .bind_pure (reads_bang nn) fun _ h => by rw [h]; rfl
  | .list e nn p, n + 1, _ => by
    simp only [printType, List.cons_append]
    exact .skip_yes rfl <| .peekPos fun _ => .seq (reads_type e n _) (.head rfl fun _ => nofun) fun _ he =>
      .expect rfl fun _ _ => .bind_pure (reads_bang nn) fun _ h => by simp [h, GType.erasePos, he]


def firstKind (ts : List Tok) (k : Kind) : Kind :=
  match ts with
  | [] => k
  | t :: _ => t.kind

@[simp] theorem firstKind_nil (k : Kind) : firstKind [] k = k := rfl
@[simp] theorem firstKind_cons (t : Tok) (r : List Tok) (k : Kind) : firstKind (t :: r) k = t.kind := rfl
@[simp] theorem firstKind_append (A B : List Tok) (k : Kind) : firstKind (A ++ B) k = firstKind A (firstKind B k) := by
  cases A <;> rfl


theorem opt_default (dv : Option Value) : Opt (tP .equals) (printDefault dv) := by
  cases dv with
  | none => exact .inl rfl
  | some d => exact .inr ⟨_, rfl⟩

/-- `: Type DefaultValue? Directives?`, the tail shared by variable definitions and the two kinds of input
    value definitions; `mk` builds the node -/
theorem reads_typedTail {β : Type} (mk : GType → Option Value → List Directive → β) {Q : β → Prop} (ty : GType)
    (dv : Option Value) (ds : List Directive) (hdv : ∀ d, dv = some d → ValueOK d ∧ ConstValue d) (hds : DirsOK ds)
    (hcd : ConstDirectives ds) (n : Nat)
    (hQ : ∀ ty' dv' ds', ty'.erasePos = ty.erasePos → dv'.map Value.erasePos = dv.map Value.erasePos →
      ds'.map Directive.erasePos = ds.map Directive.erasePos → Q (mk ty' dv' ds')) :
    Reads b (do
      let _ ← expect .colon
      let ty ← parseTypeReference n
      let dv ← do
        if ← skip .equals then
          let v ← parseValueLiteral n true
          pure (Option.some v)
        else pure none
      let dirs ← parseDirectives n true
      pure (mk ty dv dirs)) (tP .colon :: (printType ty ++ (printDefault dv ++ printDirectives ds)))
      folVar Q := by
  have hdirs : ∀ ty' dv', ty'.erasePos = ty.erasePos → dv'.map Value.erasePos = dv.map Value.erasePos →
      Reads false (parseDirectives n true >>= fun dirs => pure (mk ty' dv' dirs)) (printDirectives ds)
        folVar Q := fun _ _ hty hdv' =>
    .bind_pure ((reads_directives true ds hds (fun _ => hcd) n).follow fun _ h => NoKind.mono h) fun _ hds' =>
      hQ _ _ _ hty hdv' hds'
  refine .expect rfl fun _ _ => .seq (reads_type ty n _)
    (.opt (opt_default dv) (fun _ => by decide) (.opt_last (opt_directives ds) (fun _ => by decide) fun _ h _ => NoKind.ne h))
    fun ty' hty => ?_
  cases dv with
  | none =>
    exact .skip_no (.opt_last (opt_directives ds) (by decide) fun _ h => NoKind.ne h) (hdirs ty' none hty rfl).weaken
  | some d =>
    exact .skip_yes rfl (.seq' (fwd_value true d (hdv d rfl).1 fun _ => (hdv d rfl).2).reads fun v hv =>
      hdirs ty' (some v) hty (by simp [hv]))

theorem reads_varDef (v : VarDef) (hok : VarDefOK v) (hwf : WFVarDef v) (n : Nat) :
    Reads b (parseVariableDefinition n) (printVarDef v) folVar
      (fun y => y.erasePos = v.erasePos) := by
  simp only [printVarDef, List.append_assoc, List.cons_append]
  exact .peekPos fun pos => .variable <| reads_typedTail
    (fun ty dv dirs => ({ var := v.var, type := ty, default := dv, dirs := dirs, pos := pos } : VarDef)) v.type v.default v.dirs
    (fun d hd => ⟨hok.1 d hd, hwf.1 d hd⟩) hok.2 hwf.2 n fun _ _ _ e1 e2 e3 => by simp [VarDef.erasePos, e1, e2, e3]

theorem reads_varDefs (vs : List VarDef) (hok : ∀ v ∈ vs, VarDefOK v) (hwf : ∀ v ∈ vs, WFVarDef v) (n : Nat) :
    Reads b (parseVariableDefinitions n) (printVarDefs vs) (fun t => vs = [] → t.kind ≠ .parenL)
      (fun ys => ys.map VarDef.erasePos = vs.map VarDef.erasePos) :=
  .optSome VarDef.erasePos (fun x hx => reads_varDef x (hok x hx) (hwf x hx) n)
    (fun _ _ => .head rfl ⟨by decide, by decide⟩) fun _ h => .of_kind h


/-- what may not follow a selection (what does follow is a Name, `...` or `}`) -/
abbrev folSel : Tok → Prop := NoKind [.colon, .parenL, .at, .braceL]

/-- `folSel` as a condition on the stream -/
def FolSel (σ : Stream) : Prop :=
  σ.head.kind ≠ .colon ∧ σ.head.kind ≠ .parenL ∧ σ.head.kind ≠ .at ∧ σ.head.kind ≠ .braceL

theorem folSel_iff {σ : Stream} : FolSel σ ↔ folSel (Tok.ofToken σ.head) := by
  simp [FolSel, folSel, NoKind, Tok.ofToken]

theorem printSelections_eq : ∀ ss : Selections, printSelections ss = ss.toList.flatMap printSelection
  | .nil => rfl
  | .cons s rest => by simp [printSelections, Selections.toList, printSelections_eq rest]

theorem selOut_cons (s : Selection) (rest : Selections) : selOut (.cons s rest) = printSelectionSet (.cons s rest) := rfl

theorem opt_selOut (ss : Selections) : Opt (tP .braceL) (selOut ss) := by
  cases ss with
  | nil => exact .inl rfl
  | cons s rest => exact .inr ⟨_, rfl⟩

/-- a selection starts with a Name or with `...` -/
theorem ahead_selection (s : Selection) {P : Tok → Prop} (h1 : ∀ n, P (tName n)) (h2 : P (tP .spread)) :
    Ahead P (printSelection s) F := by
  cases s with
  | field al nm args ds ss p =>
    rw [printSelection_field]
    exact .opt .ite (h1 al) (.head rfl (h1 nm))
  | spread nm ds p => exact .head rfl h2
  | inline tc ds ss p => exact .head rfl h2

theorem erase_of_selections {ys : List Selection} {ss : Selections}
    (h : ys.map Selection.erasePos = ss.toList.map Selection.erasePos) : (Selections.ofList ys).erasePos = ss.erasePos := by
  rw [Selections.erasePos_ofList, ← Selections.ofList_toList ss, Selections.erasePos_ofList]
  exact congrArg Selections.ofList h

/-- what the selection parser does on the printed tokens of `s` -/
def FwdSel (s : Selection) : Prop :=
  ∀ (n : Nat) (a : AS) (σ' : Stream), Starts a.σ (printSelection s) σ' → FolSel σ' →
    Fwd (parseSelection n) a (fun y a' => y.erasePos = s.erasePos ∧ a'.σ = σ')

theorem FwdSel.reads {s : Selection} (h : FwdSel s) {n : Nat} :
    Reads b (parseSelection n) (printSelection s) folSel (fun y => y.erasePos = s.erasePos) :=
  fun a σ' _ hs hF => h n a σ' hs (folSel_iff.2 hF)

theorem FwdSel.of_reads {s : Selection} (h : ∀ n, Reads false (parseSelection n) (printSelection s)
    folSel (fun y => y.erasePos = s.erasePos)) : FwdSel s :=
  fun n a σ' hs hF => h n a σ' nofun hs (folSel_iff.1 hF)

section
variable {ss : Selections} (hsub : ∀ x ∈ ss.toList, FwdSel x) (hne : ss ≠ .nil) (n m : Nat)
include hsub hne

theorem reads_selBlock : Reads b (pSome .braceL .braceR n (parseSelection m)) (printSelectionSet ss) F
    (fun ys => (Selections.ofList ys).erasePos = ss.erasePos) := by
  simp only [printSelectionSet, printSelections_eq, List.cons_append]
  exact (Reads.some Selection.erasePos (fun x hx => (hsub x hx).reads)
    (fun x _ => ahead_selection x (fun _ => by simp [folSel, NoKind, tName]) (by decide)) (fun _ h => .of_kind h)
    (by cases ss <;> simp_all [Selections.toList])).mono fun _ => erase_of_selections

theorem reads_requiredSelectionSet : Reads b (parseRequiredSelectionSetWith (parseSelection m) n) (printSelectionSet ss) F
    (fun y => y.erasePos = ss.erasePos) :=
  .peek_head rfl fun _ ht => .ite_neg (not_not_intro (ofToken_kind ht)) (.bind_pure (reads_selBlock hsub hne n m) fun _ h => h)

theorem reads_optionalSelectionSet : Reads b (parseOptionalSelectionSetWith (parseSelection m) n) (printSelectionSet ss) F
    (fun y => y.erasePos = ss.erasePos) :=
  .bind_pure (reads_selBlock hsub hne n m) fun _ h => h

end

theorem reads_fieldTail {args : List Argument} {ds : List Directive} {ss : Selections} (hsub : ∀ x ∈ ss.toList, FwdSel x)
    (ha : ArgsOK args) (hd : DirsOK ds) (n m : Nat) (pos p : Pos) (al nm : Name) :
    Reads b (fieldTail (parseSelection m) n pos al nm) (printArguments args ++ (printDirectives ds ++ selOut ss))
      folSel (fun y => y.erasePos = (Selection.field al nm args ds ss p).erasePos) := by
  refine .seq (reads_arguments false args ha (by simp) n)
    (.opt (opt_directives ds) (fun _ => by decide) (.opt_last (opt_selOut ss) (fun _ => by decide) fun _ h _ => NoKind.ne h))
    fun _ has => .seq (reads_directives false ds hd (by simp) n)
      (.opt_last (opt_selOut ss) (by decide) fun _ h => NoKind.mono h) fun _ hds => ?_
  cases ss with
  | nil =>
    exact .peek_nil fun _ ht => .ite_neg (NoKind.ne ht) (.pure (by simp [Selection.erasePos, has, hds]))
  | cons s rest =>
    exact .peek_head rfl fun _ ht => .ite_pos (ofToken_kind ht) (.bind_pure
      (reads_optionalSelectionSet hsub (by simp) n m) fun _ hss => by simp [Selection.erasePos, has, hds, hss])

theorem fwd_field {al nm : Name} {args : List Argument} {ds : List Directive} {ss : Selections} {p : Pos}
    (hsub : ∀ x ∈ ss.toList, FwdSel x) (ha : ArgsOK args) (hd : DirsOK ds) :
    FwdSel (.field al nm args ds ss p) := by
  refine .of_reads fun n => ?_
  cases n with
  | zero => exact .outOfFuel
  | succ n =>
    rw [printSelection_field]
    have htail := fun pos x y => reads_fieldTail (b := false) hsub ha hd (n + 1) n pos p x y
    by_cases h : al = nm
    · subst h
      rw [if_pos rfl, List.nil_append]
      exact .peek_head rfl fun _ ht => .ite_neg (by rw [ofToken_kind ht]; nofun) <| .peekPos fun pos => .name <|
        .skip_no (.opt .ite (by decide) (.opt (opt_directives ds) (by decide)
          (.opt_last (opt_selOut ss) (by decide) fun _ h => NoKind.ne h))) (htail pos al al).weaken
    · rw [if_neg h]
      exact .peek_head rfl fun _ ht => .ite_neg (by rw [ofToken_kind ht]; nofun) <| .peekPos fun pos => .name <|
        .skip_yes rfl <| .name <| htail pos al nm

theorem reads_parseFragmentName (n : Name) (hn : n ≠ str "on") : Reads b parseFragmentName [tName n] F (fun x => x = n) :=
  .peek_head rfl fun _ ht => .ite_neg (by rw [ofToken_value ht]; exact hn) reads_parseName

theorem fwd_parseFragmentName {a : AS} {σ' : Stream} (n : Name) (h : Starts a.σ [tName n] σ') (hn : n ≠ str "on") :
    Fwd parseFragmentName a (fun x a' => x = n ∧ a'.σ = σ') :=
  reads_parseFragmentName (b := false) (F := fun _ => True) n hn a σ' nofun h trivial

theorem fwd_spread {nm : Name} {ds : List Directive} {p : Pos} (hnm : nm ≠ str "on") (hd : DirsOK ds) :
    FwdSel (.spread nm ds p) := by
  refine .of_reads fun n => ?_
  cases n with
  | zero => exact .outOfFuel
  | succ n =>
    simp only [printSelection]
    exact .peek_head rfl fun _ ht => .ite_pos (ofToken_kind ht) <| .expect rfl fun _ _ => .peek_head rfl fun _ ht2 =>
      .ite_pos ⟨ofToken_kind ht2, by rw [ofToken_value ht2]; exact hnm⟩ <| .peekPos fun _ =>
      Reads.seq' (A := [tName nm]) (reads_parseFragmentName nm hnm) fun _ hx => .bind_pure
        ((reads_directives false ds hd (by simp) (n + 1)).follow fun _ h => NoKind.mono h) fun _ hds => by
          simp [hx, Selection.erasePos, hds]

theorem reads_inlineTail {ds : List Directive} {ss : Selections} (hsub : ∀ x ∈ ss.toList, FwdSel x) (hd : DirsOK ds)
    (hne : ss ≠ .nil) (n m : Nat) (pos p : Pos) (tc : Name) :
    Reads b (inlineTail (parseSelection m) n pos tc) (printDirectives ds ++ printSelectionSet ss) F
      (fun y => y.erasePos = (Selection.inline tc ds ss p).erasePos) :=
  .seq (reads_directives false ds hd (by simp) n) (.head rfl (by decide)) fun _ hds =>
    .bind_pure (reads_requiredSelectionSet hsub hne n m) fun _ hss => by simp [Selection.erasePos, hds, hss]

theorem fwd_inline {tc : Name} {ds : List Directive} {ss : Selections} {p : Pos} (hsub : ∀ x ∈ ss.toList, FwdSel x)
    (hd : DirsOK ds) (hne : ss ≠ .nil) : FwdSel (.inline tc ds ss p) := by
  refine .of_reads fun n => ?_
  cases n with
  | zero => exact .outOfFuel
  | succ n =>
    have htail := fun pos tc' => reads_inlineTail (b := false) (F := folSel) hsub hd hne (n + 1) n pos p tc'
    have hts : printSelection (.inline tc ds ss p) = tP .spread :: ((if tc = [] then [] else [tKw "on", tName tc]) ++
        (printDirectives ds ++ printSelectionSet ss)) := by simp [printSelection, printSelectionSet]
    rw [hts]
    refine .peek_head rfl fun _ ht => .ite_pos (ofToken_kind ht) <| .expect rfl fun _ _ => ?_
    by_cases htc : tc = []
    · subst htc
      rw [if_pos rfl, List.nil_append]
      -- no type condition: the next token is `@` or `{`
      have hk : Ahead (fun t => t.kind ≠ .name) (printDirectives ds ++ printSelectionSet ss) folSel :=
        .opt (opt_directives ds) (by decide) (.head rfl (by decide))
      exact .peek hk fun _ ht => .ite_neg (fun h => ht h.1) <| .peekPos fun pos => .peek hk fun _ ht2 =>
        .ite_neg (fun h => ht2 h.1) (htail pos []).weaken
    · rw [if_neg htc]
      exact .peek_head rfl fun _ ht => .ite_neg (fun h => h.2 (kw_value ht)) <| .peekPos fun pos =>
        .peek_head rfl fun _ ht2 => .ite_pos ⟨ofToken_kind ht2, kw_value ht2⟩ <| .next fun _ _ => .name (htail pos tc)

mutual
  theorem fwd_selection : ∀ s : Selection, SelOK s → WFSelection s → FwdSel s
    | .field al nm args ds ss p, hok, hwf => by
      simp only [SelOK] at hok
      simp only [WFSelection] at hwf
      exact fwd_field (fwd_selections ss hok.2.2 hwf) hok.1 hok.2.1
    | .spread nm ds p, hok, hwf => by
      simp only [SelOK] at hok
      simp only [WFSelection] at hwf
      exact fwd_spread hwf hok
    | .inline tc ds ss p, hok, hwf => by
      simp only [SelOK] at hok
      simp only [WFSelection] at hwf
      exact fwd_inline (fwd_selections ss hok.2 hwf.2) hok.1 hwf.1
  theorem fwd_selections : ∀ ss : Selections, SelsOK ss → WFSelections ss → ∀ x ∈ ss.toList, FwdSel x
    | .nil, _, _ => fun _ h => by cases h
    | .cons s rest, hok, hwf => by
      simp only [SelsOK] at hok
      simp only [WFSelections] at hwf
      intro x hx
      simp only [Selections.toList, List.mem_cons] at hx
      rcases hx with h | hx
      · rw [h]; exact fwd_selection s hok.1 hwf.1
      · exact fwd_selections rest hok.2 hwf.2 x hx
end


/-- the long form of an operation: the keyword is always written (what a formatter that never uses
    the query shorthand emits); equal to `printOperation o` unless `o` is bare -/
def opLong (o : OperationDef) : List Tok :=
  tName o.op :: ((if o.name = [] then [] else [tName o.name]) ++ (printVarDefs o.vars ++ (printDirectives o.dirs ++
    printSelectionSet o.sel)))

theorem printOperation_eq (o : OperationDef) :
    printOperation o = if OperationDef.isBare o then printSelectionSet o.sel else opLong o := by
  unfold printOperation opLong
  split <;> simp

theorem reads_parseOperationType {op : Bytes} (hop : op = str "query" ∨ op = str "mutation" ∨ op = str "subscription") :
    Reads true parseOperationType [tName op] F (fun x => x = op) :=
  .next fun t ht => by
    have hk : t.kind = .name := ofToken_kind ht
    have hv : t.value = op := ofToken_value ht
    rcases hop with h | h | h
    · exact .ite_pos ⟨hk, hv.trans h⟩ (.pure h.symm)
    · exact .ite_neg (fun hc => absurd ((hv.trans h).symm.trans hc.2) str_ne) (.ite_pos ⟨hk, hv.trans h⟩ (.pure h.symm))
    · exact .ite_neg (fun hc => absurd ((hv.trans h).symm.trans hc.2) str_ne) (.ite_neg
        (fun hc => absurd ((hv.trans h).symm.trans hc.2) str_ne) (.ite_pos ⟨hk, hv.trans h⟩ (.pure h.symm)))

theorem Reads.operationType {α : Type} {op : Bytes} {f : Operation → Prog α} {ts : List Tok} {Q : α → Prop}
    (hop : op = str "query" ∨ op = str "mutation" ∨ op = str "subscription") (h : Reads false (f op) ts F Q) :
    Reads true (parseOperationType >>= f) (tName op :: ts) F Q :=
  .seq_eq (A := [tName op]) (reads_parseOperationType hop) h

theorem reads_opTail (o : OperationDef) (hok : OpOK o) (hwf : WFOperation o) (n : Nat) (pos : Pos) (nm : Name) (hnm : nm = o.name) :
    Reads b (opTail n pos o.op nm) (printVarDefs o.vars ++ (printDirectives o.dirs ++ printSelectionSet o.sel)) F
      (fun y => y.erasePos = o.erasePos) :=
  .seq (reads_varDefs o.vars hok.1 hwf.2.1 n) (.opt (opt_directives o.dirs) (fun _ => by decide) (.head rfl fun _ => by decide))
    fun _ hvs => .seq (reads_directives false o.dirs hok.2.1 (by simp) n) (.head rfl (by decide)) fun _ hds =>
    .bind_pure (reads_requiredSelectionSet (fwd_selections o.sel hok.2.2 hwf.2.2.2) hwf.2.2.1 n n) fun _ hss => by
      simp [OperationDef.erasePos, hvs, hds, hss, hnm]

theorem reads_opLong (o : OperationDef) (hok : OpOK o) (hwf : WFOperation o) (n : Nat) :
    Reads b (parseOperationDefinition n) (opLong o) F (fun y => y.erasePos = o.erasePos) := by
  refine .peek_head rfl fun _ ht => .ite_neg (by rw [ofToken_kind ht]; nofun) <| .peekPos fun pos => .operationType hwf.1 ?_
  by_cases hn : o.name = []
  · rw [if_pos hn, List.nil_append]
    exact .peek (P := fun t => t.kind ≠ .name)
      (.opt .ite (by decide) (.opt (opt_directives o.dirs) (by decide) (.head rfl (by decide))))
      fun _ ht => .ite_neg ht (reads_opTail o hok hwf n pos [] hn.symm)
  · rw [if_neg hn]
    exact .peek_head rfl fun _ ht => .ite_pos (ofToken_kind ht) <| .next fun _ htk =>
      reads_opTail o hok hwf n pos _ (ofToken_value htk)

theorem reads_opShort (o : OperationDef) (hok : OpOK o) (hwf : WFOperation o) (hbare : OperationDef.isBare o = true) (n : Nat) :
    Reads b (parseOperationDefinition n) (printSelectionSet o.sel) F (fun y => y.erasePos = o.erasePos) := by
  simp only [OperationDef.isBare, Bool.and_eq_true, beq_iff_eq, List.isEmpty_iff] at hbare
  obtain ⟨⟨⟨b1, b2⟩, b3⟩, b4⟩ := hbare
  exact .peek_head rfl fun _ ht => .ite_pos (ofToken_kind ht) <| .peekPos fun pos =>
    .bind_pure (reads_requiredSelectionSet (fwd_selections o.sel hok.2.2 hwf.2.2.2) hwf.2.2.1 n n) fun _ hss => by
      simp [OperationDef.erasePos, hss, b1, b2, b3, b4, kwQuery]

theorem reads_fragment (f : FragmentDef) (hok : FragOK f) (hwf : WFFragment f) (n : Nat) :
    Reads b (parseFragmentDefinition n) (printFragment f) F (fun y => y.erasePos = f.erasePos) := by
  simp only [printFragment, List.append_assoc, List.cons_append]
  exact .peekPos fun pos => .keyword fun _ =>
    Reads.seq' (A := [tName f.name]) (reads_parseFragmentName f.name hwf.1) fun _ hx =>
    .seq (reads_varDefs f.vars hok.1 hwf.2.1 n) (.head rfl fun _ => by decide) fun _ hvs => .keyword fun _ => .name <|
    .seq (reads_directives false f.dirs hok.2.1 (by simp) n) (.head rfl (by decide)) fun _ hds =>
    .bind_pure (reads_requiredSelectionSet (fwd_selections f.sel hok.2.2 hwf.2.2.2) hwf.2.2.1 n n) fun _ hss => by
      simp [hx, FragmentDef.erasePos, hvs, hds, hss]

end Gql.Parser
