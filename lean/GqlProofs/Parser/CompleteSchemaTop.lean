import GqlProofs.Parser.CompleteSchema
import GqlProofs.Parser.FwdSchemaTop
/-
  Completeness of `ParseSchema`: the document loop, and the theorem — if the token sequence of
  the input is derivable from the type-system document grammar with canonical output `o`, the
  parser accepts the input with a non-empty document whose unparse is `o`.
-/
namespace Gql.Parser
open Gql Gql.Lexer Gql.Grammar Gql.Print

local notation "D" => Derives gql


theorem first_ext {ts o : List Tok} (h : D (.nt .typeSystemExtension) ts o) (hok : TsOK ts) : ∃ body, ts = tKw "extend" :: body := by
  rcases h.nt_inv.alt_inv with h | h
  · obtain ⟨_, _, _, _, e, _⟩ := inv_schemaExt h hok
    exact ⟨_, e⟩
  · obtain ⟨k, tb, ob, e, _⟩ := inv_typeExtension h hok
    exact ⟨_, e⟩

/-- every item is `Description? keyword …` -/
theorem item_head {ts o : List Tok} (h : D (.nt .typeSystemDefinitionOrExtension) ts o) (hok : TsOK ts) :
    ∃ tD oD kwt body, ts = tD ++ kwt :: body ∧ D (.opt (.nt .description)) tD oD ∧ kwt.kind = .name ∧ kwt.value ≠ kwImplements := by
  rcases h.nt_inv.alt_inv with h | h
  · rcases h.nt_inv.alt_inv with h | h
    · obtain ⟨tD, oD, tds, ods, tbk, obk, e, _, dD, _⟩ := inv_schemaDef h
      exact ⟨tD, oD, tKw "schema", _, e, dD, rfl, by decide⟩
    rcases h.alt_inv with h | h
    · obtain ⟨k, tD, oD, tb, ob, e, _, dD, _⟩ := inv_typeDefinition h
      refine ⟨tD, oD, DefKind.keyword k, tb, e, dD, (keyword_value k).1, ?_⟩
      rw [(keyword_value k).2]; cases k <;> decide
    · obtain ⟨tD, oD, nm, ta, oa, trep, tl, ol, e, _, _, dD, _⟩ := inv_directiveDef h hok
      exact ⟨tD, oD, tKw "directive", _, e, dD, rfl, by decide⟩
  · obtain ⟨body, e⟩ := first_ext h hok
    exact ⟨[], [], tKw "extend", body, e, .optNone, rfl, by decide⟩

theorem folItem_of_head {σ σ' : Stream} {tD oD body : List Tok} {kwt : Tok} (hs : Starts σ (tD ++ kwt :: body) σ')
    (dD : D (.opt (.nt .description)) tD oD) (hk : kwt.kind = .name) (hv : kwt.value ≠ kwImplements) : FolItem σ := by
  rcases inv_optDescription dD with ⟨rfl, _⟩ | ⟨t, rfl, hkt, _⟩
  · have hh := hs.head
    have hkk : σ.head.kind = .name := by rw [← show (Tok.ofToken σ.head).kind = σ.head.kind from rfl, hh]; exact hk
    have hvv : σ.head.value = kwt.value := by rw [← show (Tok.ofToken σ.head).value = σ.head.value from rfl, hh]
    exact ⟨by simp [hkk], by simp [hkk], by simp [hkk], by simp [hkk], by simp [hkk], by simp [hkk], by simp [hkk],
      fun hc => hv (hvv ▸ hc.2)⟩
  · have hkk : σ.head.kind = t.kind := hs.head_kind
    rcases hkt with h' | h' <;> rw [h'] at hkk <;>
      exact ⟨by simp [hkk], by simp [hkk], by simp [hkk], by simp [hkk], by simp [hkk], by simp [hkk], by simp [hkk],
        noImplements_of_kind (by simp [hkk])⟩


theorem HeadsOf.cons_key {σ σm : Stream} {k : Nat} {keys : List Nat} (hk : KeyIn σ σm k) (h : HeadsOf σm keys) :
    HeadsOf σ (k :: keys) := by
  obtain ⟨us, rfl, u, hu, rfl⟩ := hk
  obtain ⟨hs, h1, h2⟩ := h
  refine ⟨u :: hs, ?_, by simp [h2]⟩
  rw [Stream.toks_app]
  exact (List.singleton_sublist.2 hu).append h1

/-- one iteration of the loop up to the dispatch: the description is read, the keyword is peeked -/
theorem cpl_loopStep (m n : Nat) (doc : SchemaDoc) (a : AS) (tD oD : List Tok) (dD : D (.opt (.nt .description)) tD oD) (kw : Tok)
    (body : List Tok) (σm : Stream) (hkw : kw.kind = .name) (hs : Starts a.σ (tD ++ kw :: body) σm)
    (R : SchemaDoc → AS → Prop)
    (hrest : ∀ (desc : Bytes) (has : Bool) (a5 : AS), printDesc desc = oD → (has = true → tD ≠ []) → Starts a.σ tD a5.σ →
      Starts a5.σ (kw :: body) σm → Fwd (docDispatch m n doc desc has kw.value) a5 R) :
    Fwd (schemaDocLoop m (n + 1) doc) a R := by
  rw [Starts.append_iff] at hs
  obtain ⟨σd, hd1, hd2⟩ := hs
  have hkd : σd.head.kind = .name := by rw [hd2.head_kind]; exact hkw
  have hvd : σd.head.value = kw.value := by
    rw [← show (Tok.ofToken σd.head).value = σd.head.value from rfl, hd2.head]
  have hne : a.σ.head.kind ≠ .eof := by
    rcases inv_optDescription dD with ⟨rfl, _⟩ | ⟨t, rfl, hk, _⟩
    · rw [Starts.nil_iff] at hd1; rw [hd1, hkd]; decide
    · rw [hd1.head_kind]; rcases hk with h | h <;> rw [h] <;> decide
  rw [schemaDocLoop_succ]
  refine Fwd.bind (fwd_peek a) ?_
  rintro t a1 ⟨rfl, rfl⟩
  refine Fwd.ite_pos hne (Fwd.bind (fwd_hasErr _) ?_)
  rintro e a2 ⟨rfl, rfl⟩
  refine Fwd.ite_neg (by simp) ?_
  refine Fwd.bind (parses_optionalDescription (b := false) dD _ σd nofun (by simpa using hd1)
    (fun _ => ⟨by show σd.head.kind ≠ _; rw [hkd]; decide, by show σd.head.kind ≠ _; rw [hkd]; decide⟩)) ?_
  rintro ⟨description, has⟩ a3 ⟨⟨hdesc, hhas⟩, hσ3⟩
  simp only at hdesc hhas
  simp only
  refine Fwd.bind (fwd_peek a3) ?_
  rintro c a4 ⟨rfl, rfl⟩
  refine Fwd.ite_neg (by rw [hσ3]; simp [hkd]) (Fwd.bind (fwd_peek _) ?_)
  rintro dtok a5 ⟨rfl, rfl⟩
  simp only [hσ3, hvd]
  exact hrest description has _ hdesc hhas (by simpa [hσ3] using hd1) (by simpa [hσ3] using hd2)

theorem cpl_schemaDocLoop (m : Nat) : ∀ (parts : List (List Tok × List Tok)),
    (∀ p ∈ parts, TsOK p.1 ∧ D (.nt .typeSystemDefinitionOrExtension) p.1 p.2) →
    ∀ (n : Nat) (doc : SchemaDoc) (a : AS) (σ' : Stream), Starts a.σ (parts.flatMap (·.1)) σ' → σ'.head.kind = .eof →
      Fwd (schemaDocLoop m n doc) a (fun d a' => (∃ items : List SItem, d = items.foldl SchemaDoc.add doc ∧
        items.flatMap (fun it => (sItem it).2) = parts.flatMap (·.2) ∧
        HeadsOf a.σ (items.map fun it => (sItem it).1) ∧ items.length = parts.length ∧ ∀ it ∈ items, it.enumOK) ∧ a'.σ = σ')
  | [], _ => by
    intro n doc a σ' hs heof
    rw [List.flatMap_nil, Starts.nil_iff] at hs
    cases n with
    | zero => exact Fwd.outOfFuel _ _ _
    | succ n =>
      unfold schemaDocLoop
      refine Fwd.bind (fwd_peek a) ?_
      rintro t a1 ⟨rfl, rfl⟩
      refine Fwd.ite_neg (by rw [hs]; simp [heof]) ((Fwd.pure _ _).mono ?_)
      rintro d a' ⟨rfl, rfl⟩
      exact ⟨⟨[], rfl, rfl, HeadsOf.nil _, rfl, (fun _ h => by cases h)⟩, hs⟩
  | p :: parts, hp => by
    intro n doc a σ' hs heof
    obtain ⟨hokp, hdp⟩ := hp p (by simp)
    rw [List.flatMap_cons, Starts.append_iff] at hs
    obtain ⟨σm, hb, hrest⟩ := hs
    cases n with
    | zero => exact Fwd.outOfFuel _ _ _
    | succ n =>
      have ih := cpl_schemaDocLoop m parts (fun q hq => hp q (by simp [hq])) n
      have hfolm : FolItem σm := by
        cases parts with
        | nil =>
          rw [List.flatMap_nil, Starts.nil_iff] at hrest
          rw [hrest]; exact folItem_of_eof heof
        | cons p2 r =>
          rw [List.flatMap_cons, Starts.append_iff] at hrest
          obtain ⟨σ2, h2, _⟩ := hrest
          obtain ⟨hok2, hd2⟩ := hp p2 (by simp)
          obtain ⟨tD, oD, kwt, body, e, dD, hk, hv⟩ := item_head hd2 hok2
          rw [e] at h2
          exact folItem_of_head h2 dD hk hv
      have hcont : ∀ (doc' : SchemaDoc) (a3 : AS), ItemRes doc p.2 a.σ σm doc' a3 →
          Fwd (schemaDocLoop m n doc') a3 (fun d a' => (∃ items : List SItem, d = items.foldl SchemaDoc.add doc ∧
            items.flatMap (fun it => (sItem it).2) = (p :: parts).flatMap (·.2) ∧
            HeadsOf a.σ (items.map fun it => (sItem it).1) ∧ items.length = (p :: parts).length ∧ ∀ it ∈ items, it.enumOK) ∧
            a'.σ = σ') := by
        rintro doc' a3 ⟨it, rfl, ho, hen, hkey, hσ3⟩
        refine (ih (doc.add it) a3 σ' (by rw [hσ3]; exact hrest) heof).mono ?_
        rintro d a' ⟨⟨items, e1, e2, e3, e4, e6⟩, e5⟩
        refine ⟨⟨it :: items, by rw [e1]; rfl, by simp [ho, e2], ?_, by simp [e4], ?_⟩, e5⟩
        rotate_left
        · intro x hx
          rcases List.mem_cons.1 hx with rfl | hx
          · exact hen
          · exact e6 x hx
        rw [List.map_cons]
        rw [hσ3] at e3
        exact HeadsOf.cons_key hkey e3
      rcases hdp.nt_inv.alt_inv with hdef | hext
      · rcases hdef.nt_inv.alt_inv with hsd | hdef
        · -- a schema definition
          obtain ⟨tD, oD, tds, ods, tbk, obk, e1, e2, dD, dds, dbk⟩ := inv_schemaDef hsd
          rw [e1] at hb hokp
          refine cpl_loopStep m n doc a tD oD dD (tKw "schema") _ σm rfl hb _ ?_
          intro desc has a5 hdesc _ hpre hst
          unfold docDispatch
          refine Fwd.ite_neg (by decide) (Fwd.ite_pos rfl ?_)
          refine Fwd.bind ((parses_schemaDefinition (Fol := Any) m desc hokp.right.tail dds dbk).withKey (key := fun y => y.pos.start)
            (Spec.last (spec_parseSchemaDefinition m desc) fun _ _ h => h.2.2.2.1) a5 σm hst trivial) ?_
          rintro sd a6 ⟨hsd', hkey, hσ6⟩
          exact hcont _ a6 ⟨.schema sd, rfl, by simp only [sItem]; rw [hsd', hdesc, e2], trivial, KeyIn.prefix hpre hkey, hσ6⟩
        rcases hdef.alt_inv with htd | hdd
        · -- a type definition
          obtain ⟨k, tD, oD, tb, ob, e1, e2, dD, hbody⟩ := inv_typeDefinition htd
          rw [e1] at hb hokp
          refine cpl_loopStep m n doc a tD oD dD (DefKind.keyword k) tb σm (keyword_value k).1 hb _ ?_
          intro desc has a5 hdesc _ hpre hst
          unfold docDispatch
          refine Fwd.ite_pos (by rw [(keyword_value k).2]; cases k <;> simp [kwOf]) ?_
          refine Fwd.bind (cpl_typeSystemDefinition m desc k tb ob hokp.right.tail hbody a5 σm hst hfolm) ?_
          rintro df a6 ⟨hd1, hd2, hd3, hen, hkey, hσ6⟩
          exact hcont _ a6 ⟨.definition df, rfl, by simp only [sItem, printDefinition]; rw [hd1, hd2, hd3, hdesc, e2], hen,
            KeyIn.prefix hpre hkey, hσ6⟩
        · -- a directive definition
          obtain ⟨tD, oD, nm, ta, oa, trep, tl, ol, e1, e2, hrep, dD, da, dl, hoka, hokl⟩ := inv_directiveDef hdd hokp
          rw [e1] at hb hokp
          refine cpl_loopStep m n doc a tD oD dD (tKw "directive") _ σm rfl hb _ ?_
          intro desc has a5 hdesc _ hpre hst
          unfold docDispatch
          refine Fwd.ite_neg (by decide) (Fwd.ite_neg (by decide) (Fwd.ite_pos rfl ?_))
          refine Fwd.bind ((parses_directiveDefinition m desc nm hoka hokl hrep da dl).withKey (key := fun y => y.pos.start)
            (Spec.last (spec_parseDirectiveDefinition m desc) fun _ _ h => h.2.2.1) a5 σm hst hfolm.2.2.2.2.2.1) ?_
          rintro dd a6 ⟨hdd', hkey, hσ6⟩
          exact hcont _ a6 ⟨.directive dd, rfl, by simp only [sItem]; rw [hdd', hdesc, e2], trivial, KeyIn.prefix hpre hkey, hσ6⟩
      · -- an extension
        obtain ⟨body, e1⟩ := first_ext hext hokp
        have hb' : Starts a.σ ([] ++ tKw "extend" :: body) σm := by rw [e1] at hb; simpa using hb
        refine cpl_loopStep m n doc a [] [] .optNone (tKw "extend") body σm rfl hb' _ ?_
        intro desc has a5 _ hhas hpre hst
        have hfalse : has = false := by
          cases has with
          | false => rfl
          | true => exact absurd rfl (hhas rfl)
        subst hfalse
        unfold docDispatch
        refine Fwd.ite_neg (by decide) (Fwd.ite_neg (by decide) (Fwd.ite_neg (by decide) (Fwd.ite_pos rfl ?_)))
        unfold rejectDescription
        refine Fwd.bind (Fwd.ite_neg (by simp) (Fwd.pure () a5)) ?_
        rintro _ a6 ⟨_, rfl⟩
        refine Fwd.bind (cpl_typeSystemExtension m doc p.1 p.2 hokp hext a6 σm (by rw [e1]; exact hst) hfolm) ?_
        rintro doc' a7 ⟨it, h1, h2, hen, hkey, hσ7⟩
        exact hcont doc' a7 ⟨it, h1, h2, hen, KeyIn.prefix hpre hkey, hσ7⟩


theorem runSchema_complete (src : Nat) (inp : Bytes) (ts o : List Tok) (htok : tokensOf inp = some ts)
    (hd : D (.nt .typeSystemDocument) ts o) :
    ∃ d, Result.ofRun (runSchema 0 src inp) = .ok d ∧ printSchema d = o ∧ SchemaDoc.nonEmpty d ∧ DocAll SItem.enumOK d := by
  have hok := tsOK_of_tokensOf htok
  obtain ⟨parts, hne, rfl, rfl, hp⟩ := hd.nt_inv.plus_parts
  have hloop := cpl_schemaDocLoop (fuelFor inp) parts (fun p hpm => ⟨hok.of_flatMap p hpm, hp p hpm⟩) (fuelFor inp)
    SchemaDoc.empty
  obtain ⟨hofrun, items, e1, e2, hheads, elen, hen⟩ := Fwd.run_init (src := src) htok (fun t hteof hst => by
    unfold parseSchemaDocument
    refine Fwd.bind (fwd_peekPos _) ?_
    rintro _ a1 rfl
    exact hloop _ (.eof t) hst hteof) (runSchema_oof 0 src inp)
  have hd0 : (runSchema 0 src inp).1 = items.foldl SchemaDoc.add SchemaDoc.empty := e1
  have hperm : (docItems (runSchema 0 src inp).1).Perm (items.map sItem) := by
    rw [hd0]; simpa [docItems_empty] using docItems_foldl items SchemaDoc.empty
  have hitems : items ≠ [] := by
    intro h; rw [h] at elen
    exact hne (List.eq_nil_of_length_eq_zero elen.symm)
  refine ⟨(runSchema 0 src inp).1, hofrun, ?_, ?_, ?_⟩
  rotate_left 2
  · rw [hd0]; exact (DocAll.foldl items SchemaDoc.empty).2 ⟨DocAll.empty _, hen⟩
  · rw [printSchema_eq, hheads.unparse hperm, e2]
  · exact (nonEmpty_iff_docItems _).2 fun h => hitems (List.eq_nil_of_length_eq_zero (by simpa [h] using hperm.length_eq.symm))

/-- **completeness of `ParseSchema`, with the canonical form**: if the token sequence of `inp` is
    derivable from the type-system document grammar with canonical output `o`, the parser accepts
    `inp` with a non-empty document whose unparse is `o` -/
theorem parseSchema_complete (src : Nat) (b : Bool) (inp : Bytes) (ts o : List Tok) (htok : tokensOf inp = some ts)
    (hd : D (.nt .typeSystemDocument) ts o) :
    ∃ d, parseSchemaSrc 0 src b inp = .ok d ∧ printSchema d = o ∧ SchemaDoc.nonEmpty d ∧ DocAll SItem.enumOK d := by
  obtain ⟨d0, h1, h2, h3, h4⟩ := runSchema_complete src inp ts o htok hd
  exact ⟨setBuiltIn b d0, parseSchemaSrc_ok.2 ⟨d0, h1, rfl⟩, by rwa [printSchema_setBuiltIn],
    (nonEmpty_setBuiltIn b d0).2 h3, (enumOK_setBuiltIn b d0).2 h4⟩

end Gql.Parser
