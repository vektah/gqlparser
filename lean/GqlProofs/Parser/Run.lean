import GqlModel.Parser.Schema
/-
  Basic facts about the interpreter `run` and the state primitives of `Parser/Core.lean`.
-/
namespace Gql.Parser
open Gql Gql.Lexer

@[simp] theorem bind_eq {α β : Type} (p : Prog α) (f : α → Prog β) : (p >>= f) = p.bind f := rfl
@[simp] theorem pure_eq {α : Type} (a : α) : (pure a : Prog α) = Prog.pure a := rfl

theorem run_bind {α β : Type} (L : Nat) (p : Prog α) (f : α → Prog β) (s : PState) :
    run L (p.bind f) s = run L (f (run L p s).1) (run L p s).2 := by
  induction p generalizing s <;> simp [Prog.bind, run, *]

theorem run_inv {I : PState → Prop} {L : Nat} (peek : ∀ s, I s → I (s.peek L).2)
    (next : ∀ s, I s → I (s.next L).2) (error : ∀ s tok msg, I s → I (s.error tok msg))
    (oof : ∀ s, I s → I { s with oof := true }) {α : Type} (p : Prog α) {s : PState} (h : I s) :
    I (run L p s).2 := by
  induction p generalizing s with
  | pure a => exact h
  | peek k ih => exact ih _ (peek s h)
  | next k ih => exact ih _ (next s h)
  | hasErr k ih => exact ih _ h
  | getPrev k ih => exact ih _ h
  | getSrc k ih => exact ih _ h
  | fail tok msg k ih => exact ih (error s tok msg h)
  | oof k ih => exact ih (oof s h)

/-- `lexRead` touches only the lexer (`rest`, `cur`) and the pull counter -/
theorem lexRead_state (s : PState) :
    s.lexRead.2.2 = { s with rest := s.lexRead.2.2.rest, cur := s.lexRead.2.2.cur, pulls := s.pulls + 1 } := by
  unfold PState.lexRead
  split <;> rfl

theorem readPeek_err (s : PState) : s.readPeek.err = s.err :=
  (congrArg PState.err (lexRead_state s) :)


/-- `I` is kept by each state update of parser.go, taken under the conditions it is executed in -/
structure StateInv (L : Nat) (I : PState → Prop) : Prop where
  readPeek : ∀ {s}, s.err.isSome = false → s.peeked = false → I s → I s.readPeek
  trip : ∀ {s}, s.err.isSome = false → overLimit L (s.tokenCount + 1) = true → I s → I (s.trip L)
  takePeeked : ∀ {s}, s.err.isSome = false → overLimit L (s.tokenCount + 1) = false → s.peeked = true →
    I s → I s.takePeeked
  readPrev : ∀ {s}, s.err.isSome = false → overLimit L (s.tokenCount + 1) = false → s.peeked = false →
    I s → I s.readPrev
  setErr : ∀ {s} e, s.err.isSome = false → e.isLimit = false → I s → I { s with err := some e }
  setOof : ∀ {s}, I s → I { s with oof := true }

namespace StateInv
variable {L : Nat} {I : PState → Prop} (k : StateInv L I) {s : PState} (h : I s)
include k h

theorem peekNC : I s.peekNC.2 := by
  unfold PState.peekNC
  cases he : s.err.isSome
  · cases hp : s.peeked
    · exact k.readPeek he hp h
    · exact h
  · exact h

theorem nextNC : I (s.nextNC L).2 := by
  unfold PState.nextNC
  cases he : s.err.isSome
  · cases hL : overLimit L (s.tokenCount + 1)
    · cases hp : s.peeked
      · exact k.readPrev he hL hp h
      · exact k.takePeeked he hL hp h
    · exact k.trip he hL h
  · exact h

theorem commentLoop (n : Nat) : I (commentLoop L n s) := by
  induction n generalizing s with
  | zero => exact k.setOof h
  | succ n ih =>
    unfold Gql.Parser.commentLoop
    split
    · exact h
    · simp only
      split
      · exact k.peekNC h
      · exact ih (k.nextNC (k.peekNC h))

theorem groupIf (t : Token) : I (s.groupIf L t) := by
  unfold PState.groupIf PState.consumeCommentGroup
  split
  · split
    · exact h
    · exact k.commentLoop h _
  · exact h

theorem peek : I (s.peek L).2 := by
  unfold PState.peek
  cases he : s.err.isSome
  · cases hp : s.peeked
    · exact k.groupIf (k.readPeek he hp h) _
    · exact h
  · exact h

theorem next : I (s.next L).2 := by
  unfold PState.next
  cases he : s.err.isSome
  · cases hL : overLimit L (s.tokenCount + 1)
    · cases hp : s.peeked
      · exact k.groupIf (k.readPrev he hL hp h) _
      · exact k.takePeeked he hL hp h
    · exact k.trip he hL h
  · exact h

theorem error (tok : Token) (msg : Bytes) : I (s.error tok msg) := by
  unfold PState.error
  cases he : s.err.isSome
  · simp only [Bool.false_eq_true, ↓reduceIte]
    split
    · exact k.setErr .panic he rfl h
    · exact k.setErr (.syn msg tok.line tok.col) he rfl h
  · exact h

theorem run {α : Type} (p : Prog α) : I (run L p s).2 :=
  run_inv (fun _ h => k.peek h) (fun _ h => k.next h) (fun _ tok msg h => k.error h tok msg) (fun _ h => k.setOof h) p h

end StateInv


theorem peekNC_err {s : PState} (h : s.err.isSome) : s.peekNC = (s.prev, s) := by
  simp [PState.peekNC, h]

theorem nextNC_err (L : Nat) {s : PState} (h : s.err.isSome) : s.nextNC L = (s.prev, s) := by
  simp [PState.nextNC, h]

theorem peek_err (L : Nat) {s : PState} (h : s.err.isSome) : s.peek L = (s.prev, s) := by
  simp [PState.peek, h]

theorem next_err (L : Nat) {s : PState} (h : s.err.isSome) : s.next L = (s.prev, s) := by
  simp [PState.next, h]

theorem error_err {s : PState} (tok : Token) (msg : Bytes) (h : s.err.isSome) : s.error tok msg = s := by
  simp [PState.error, h]

theorem consumeCommentGroup_err (L : Nat) {s : PState} (h : s.err.isSome) : s.consumeCommentGroup L = s := by
  simp [PState.consumeCommentGroup, h]

theorem run_err_state {α : Type} (L : Nat) (p : Prog α) (s : PState) (h : s.err.isSome) :
    (run L p s).2 = { s with oof := (run L p s).2.oof } := by
  induction p generalizing s with
  | pure a => rfl
  | peek k ih => rw [run, peek_err L h]; exact ih _ s h
  | next k ih => rw [run, next_err L h]; exact ih _ s h
  | hasErr k ih => exact ih _ s h
  | getPrev k ih => exact ih _ s h
  | getSrc k ih => exact ih _ s h
  | fail tok msg k ih => rw [run, error_err tok msg h]; exact ih s h
  | oof k ih => rw [run, ih { s with oof := true } h]

theorem run_err_err {α : Type} (L : Nat) (p : Prog α) (s : PState) (h : s.err.isSome) :
    (run L p s).2.err = s.err := by
  rw [run_err_state L p s h]

end Gql.Parser
