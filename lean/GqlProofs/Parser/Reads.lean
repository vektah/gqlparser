import GqlProofs.Parser.FwdG
/-
  The forward triple indexed by the tokens read.  `Reads pk p ts F Q`: on a stream that starts with
  `ts` followed by a token satisfying `F`, the program `p` ends live, has consumed exactly `ts`
  and returns some `y` with `Q y`.  With `pk = true` this is only claimed for states whose
  look-ahead is filled (what a bare `next` needs).
  The rules below follow the shape of `do` blocks: one rule per primitive, stated for
  `prim >>= f` with the premise about `f`, so that a production is proved by a chain of rules.
  `Ahead P ts F` says that the token ahead of `ts ++ (a token satisfying F)` satisfies `P`: the
  side condition for running a parser with follow condition `P` in front of `ts`.
-/
namespace Gql.Parser
open Gql Gql.Lexer Gql.Grammar Gql.Print

def Reads {α : Type} (pk : Bool) (p : Prog α) (ts : List Tok) (F : Tok → Prop) (Q : α → Prop) : Prop :=
  ∀ (a : AS) (σ' : Stream), (pk = true → a.pk = true) → Starts a.σ ts σ' → F (Tok.ofToken σ'.head) →
    Fwd p a (fun y a' => Q y ∧ a'.σ = σ')

def Ahead (P : Tok → Prop) (ts : List Tok) (F : Tok → Prop) : Prop := ∀ t, F t → P (ts.headD t)

/-- the usual follow condition: the token is of none of the kinds `ks` -/
abbrev NoKind (ks : List Kind) (t : Tok) : Prop := t.kind ∉ ks

theorem NoKind.mono {ks ks' : List Kind} {t : Tok} (h : NoKind ks t) (hs : ∀ k ∈ ks', k ∈ ks := by decide) : NoKind ks' t :=
  fun hm => h (hs _ hm)

theorem NoKind.of_kind {ks : List Kind} {t : Tok} {k : Kind} (h : t.kind = k) (hk : k ∉ ks := by decide) : NoKind ks t :=
  fun hm => hk (h ▸ hm)

theorem NoKind.ne {ks : List Kind} {t : Tok} {k : Kind} (h : NoKind ks t) (hk : k ∈ ks := by decide) : t.kind ≠ k :=
  fun e => h (e ▸ hk)

/-- an optional part: `ts` is empty or starts with `t0` -/
def Opt (t0 : Tok) (ts : List Tok) : Prop := ts = [] ∨ ∃ r, ts = t0 :: r

theorem Opt.ite {c : Prop} [Decidable c] {t0 : Tok} {r : List Tok} : Opt t0 (if c then [] else t0 :: r) := by
  split
  · exact .inl rfl
  · exact .inr ⟨r, rfl⟩

theorem Starts.headD {σ σ' : Stream} {ts : List Tok} (h : Starts σ ts σ') :
    Tok.ofToken σ.head = ts.headD (Tok.ofToken σ'.head) := by
  cases ts with
  | nil => rw [Starts.nil_iff.1 h]; rfl
  | cons t r => exact h.head

section
variable {α β : Type} {b : Bool} {ts A B : List Tok} {t0 : Tok} {F F1 P : Tok → Prop} {Q Q2 : α → Prop} {Q1 : β → Prop}

theorem Ahead.head (hh : ts.head? = some t0) (h : P t0) : Ahead P ts F := by
  cases ts with
  | nil => cases hh
  | cons t r => cases hh; exact fun _ _ => h

theorem Ahead.nil (h : ∀ t, F t → P t) : Ahead P [] F := h

theorem Ahead.opt (hA : Opt t0 A) (h0 : P t0) (h : Ahead P B F) : Ahead P (A ++ B) F := by
  rcases hA with rfl | ⟨r, rfl⟩
  · exact h
  · exact fun _ _ => h0

theorem Ahead.opt_last (hA : Opt t0 A) (h0 : P t0) (h : ∀ t, F t → P t) : Ahead P A F := by
  rcases hA with rfl | ⟨r, rfl⟩
  · exact h
  · exact fun _ _ => h0

theorem Reads.weaken {p : Prog α} (h : Reads false p ts F Q) : Reads b p ts F Q := fun a σ' _ => h a σ' nofun

theorem Reads.toks {p : Prog α} {ts' : List Tok} (h : Reads b p ts F Q) (e : ts' = ts) : Reads b p ts' F Q := e ▸ h

theorem Reads.follow {p : Prog α} (h : Reads b p ts F1 Q) (hF : ∀ t, F t → F1 t) : Reads b p ts F Q :=
  fun a σ' hb hs hF' => h a σ' hb hs (hF _ hF')

theorem Reads.mono {p : Prog α} {Q' : α → Prop} (h : Reads b p ts F Q) (hq : ∀ y, Q y → Q' y) : Reads b p ts F Q' :=
  fun a σ' hb hs hF => (h a σ' hb hs hF).mono fun y _ hy => ⟨hq y hy.1, hy.2⟩

theorem Reads.pure {x : α} (h : Q x) : Reads b (pure x) [] F Q :=
  fun a _ _ hs _ => (Fwd.pure x a).mono fun _ _ hy => ⟨hy.1 ▸ h, hy.2 ▸ Starts.nil_iff.1 hs⟩

theorem Reads.pure_bind {x : β} {f : β → Prog α} (h : Reads b (f x) ts F Q) : Reads b (Pure.pure x >>= f) ts F Q := h

theorem Reads.outOfFuel {x : α} : Reads b (outOfFuel x) ts F Q := fun a _ _ _ _ => Fwd.outOfFuel x a _

theorem Reads.ite_pos {c : Prop} [Decidable c] {p q : Prog α} (hc : c) (h : Reads b p ts F Q) :
    Reads b (if c then p else q) ts F Q := by rw [if_pos hc]; exact h

theorem Reads.ite_neg {c : Prop} [Decidable c] {p q : Prog α} (hc : ¬ c) (h : Reads b q ts F Q) :
    Reads b (if c then p else q) ts F Q := by rw [if_neg hc]; exact h

/-- sequencing: `p` reads `A`, what comes after it (the rest `B`, then the follow token) satisfies the
    follow condition of `p`, and the continuation reads `B` -/
theorem Reads.seq {p : Prog β} {f : β → Prog α} (h1 : Reads b p A F1 Q1) (hF : Ahead F1 B F)
    (h2 : ∀ x, Q1 x → Reads false (f x) B F Q2) : Reads b (p >>= f) (A ++ B) F Q2 := by
  intro a σ' hb hs hF'
  obtain ⟨σm, hA, hB⟩ := Starts.append_iff.1 hs
  exact Fwd.bind (h1 a σm hb hA (hB.headD ▸ hF _ hF')) fun x a1 hx => h2 x hx.1 a1 σ' nofun (hx.2 ▸ hB) hF'

/-- `p` has no follow condition -/
theorem Reads.seq' {p : Prog β} {f : β → Prog α} (h1 : Reads b p A (fun _ => True) Q1)
    (h2 : ∀ x, Q1 x → Reads false (f x) B F Q2) : Reads b (p >>= f) (A ++ B) F Q2 :=
  h1.seq (fun _ _ => trivial) h2

/-- the same when the result of `p` is known -/
theorem Reads.seq_eq {p : Prog β} {f : β → Prog α} {v : β} (h1 : Reads b p A (fun _ => True) (· = v))
    (h2 : Reads false (f v) B F Q2) : Reads b (p >>= f) (A ++ B) F Q2 :=
  h1.seq' fun _ e => e ▸ h2

/-- `p` reads all of `ts`, the continuation nothing -/
theorem Reads.seq_nil {p : Prog β} {f : β → Prog α} (h1 : Reads b p ts F Q1) (h2 : ∀ x, Q1 x → Reads false (f x) [] F Q2) :
    Reads b (p >>= f) ts F Q2 :=
  fun a σ' hb hs hF => Fwd.bind (h1 a σ' hb hs hF) fun x a1 hx => h2 x hx.1 a1 σ' nofun (hx.2 ▸ Starts.nil_iff.2 rfl) hF

theorem Reads.bind_pure {p : Prog β} {g : β → α} (h1 : Reads b p ts F Q1) (h2 : ∀ x, Q1 x → Q (g x)) :
    Reads b (p >>= fun x => Pure.pure (g x)) ts F Q :=
  h1.seq_nil fun x hx => .pure (h2 x hx)


theorem Reads.peekPos {f : Pos → Prog α} (h : ∀ pos, Reads true (f pos) ts F Q) : Reads b (peekPos >>= f) ts F Q :=
  fun a σ' _ hs hF => Fwd.bind (fwd_peekPos a) fun pos a1 ha => h pos a1 σ' (fun _ => ha ▸ rfl) (ha ▸ hs) hF

theorem Reads.getSrc {f : Nat → Prog α} (h : ∀ i, Reads b (f i) ts F Q) : Reads b (getSrc >>= f) ts F Q :=
  fun a σ' hb hs hF => .getSrc fun i => h i a σ' hb hs hF

theorem Reads.hasErr {f : Bool → Prog α} (h : Reads b (f false) ts F Q) : Reads b (hasErr >>= f) ts F Q :=
  fun a σ' hb hs hF => .hasErr (h a σ' hb hs hF)

theorem Reads.peek {f : Token → Prog α} (hA : Ahead P ts F) (h : ∀ t, P (Tok.ofToken t) → Reads true (f t) ts F Q) :
    Reads b (peek >>= f) ts F Q :=
  fun _ σ' _ hs hF => .peek (h _ (hs.headD ▸ hA _ hF) _ σ' (fun _ => rfl) hs hF)

theorem Reads.peek_head {f : Token → Prog α} (hh : ts.head? = some t0)
    (h : ∀ t, Tok.ofToken t = t0 → Reads true (f t) ts F Q) : Reads b (Parser.peek >>= f) ts F Q :=
  .peek (P := fun u => u = t0) (.head hh rfl) h

theorem Reads.peek_nil {f : Token → Prog α} (h : ∀ t, F (Tok.ofToken t) → Reads true (f t) [] F Q) :
    Reads b (Parser.peek >>= f) [] F Q :=
  .peek (.nil fun _ h => h) h

theorem Reads.skip_no {k : Kind} {f : Bool → Prog α} (hk : Ahead (fun t => t.kind ≠ k) ts F)
    (h : Reads true (f false) ts F Q) : Reads b (skip k >>= f) ts F Q :=
  fun a σ' _ hs hF => Fwd.bind (fwd_skip_no k (show (Tok.ofToken a.σ.head).kind ≠ k from hs.headD ▸ hk _ hF))
    (by rintro _ _ ⟨rfl, rfl⟩; exact h _ σ' (fun _ => rfl) hs hF)


theorem Reads.next {f : Token → Prog α} (h : ∀ t, Tok.ofToken t = t0 → Reads false (f t) ts F Q) :
    Reads true (next >>= f) (t0 :: ts) F Q := by
  intro a σ' hb hs hF
  obtain ⟨u, σ1, hσ, hu, hrest⟩ := Starts.cons_iff.1 hs
  exact .next (hb rfl) hσ (h u hu _ σ' nofun hrest hF)

theorem Reads.expect {k : Kind} {f : Token → Prog α} (hk : t0.kind = k)
    (h : ∀ t, Tok.ofToken t = t0 → Reads false (f t) ts F Q) : Reads b (expect k >>= f) (t0 :: ts) F Q := by
  intro a σ' _ hs hF
  obtain ⟨u, σ1, hσ, hu, hrest⟩ := Starts.cons_iff.1 hs
  exact Fwd.bind (fwd_expect k hσ (hk ▸ hu ▸ rfl)) fun t a1 ha => h t (ha.1 ▸ hu) a1 σ' nofun (ha.2 ▸ hrest) hF

theorem Reads.keyword {s : String} {f : Token → Prog α} (h : ∀ t, Reads false (f t) ts F Q) :
    Reads b (expectKeyword (str s) >>= f) (tKw s :: ts) F Q := by
  intro a σ' _ hs hF
  obtain ⟨u, σ1, hσ, hu, hrest⟩ := Starts.cons_iff.1 hs
  exact Fwd.bind (fwd_expectKeyword (str s) hσ (congrArg Tok.kind hu) (congrArg Tok.value hu)) fun t a1 ha => h t a1 σ' nofun (ha.2 ▸ hrest) hF

theorem Reads.skip_yes {k : Kind} {f : Bool → Prog α} (hk : t0.kind = k) (h : Reads false (f true) ts F Q) :
    Reads b (skip k >>= f) (t0 :: ts) F Q := by
  intro a σ' _ hs hF
  obtain ⟨u, σ1, hσ, hu, hrest⟩ := Starts.cons_iff.1 hs
  exact .skip_yes hσ (hk ▸ hu ▸ rfl) (h _ σ' nofun hrest hF)

theorem reads_parseName {n : Name} : Reads b parseName [tName n] F (fun x => x = n) :=
  .expect rfl fun _ ht => .pure (congrArg Tok.value ht)

theorem Reads.name {n : Name} {f : Name → Prog α} (h : Reads false (f n) ts F Q) :
    Reads b (parseName >>= f) (tName n :: ts) F Q :=
  .seq_eq (A := [tName n]) reads_parseName h

end


theorem All₂.map_eq {α : Type} {E : α → α} {ys xs : List α} (h : All₂ (fun y x => E y = E x) ys xs) : ys.map E = xs.map E := by
  induction h with
  | nil => rfl
  | cons h1 _ ih => rw [List.map_cons, List.map_cons, h1, ih]

/-- `start item* stop` through `many` and (for a non-empty list) `some`: every item is parsed by `cb`;
    the items do not start with `stop`, and what `cb` needs to know of the token behind an item
    (`FolI`) holds of `stop` and of the first token of every item -/
theorem Reads.bracket {α ι : Type} {b : Bool} {Fol : Tok → Prop} (f : ι → List Tok) (Rel : α → ι → Prop) (FolI : Tok → Prop)
    (start stop : Kind) {cb : Prog α} (xs : List ι) (hcb : ∀ x ∈ xs, Reads false cb (f x) FolI (fun y => Rel y x))
    (hstart : ∀ x ∈ xs, ∃ t rest, f x = t :: rest ∧ t.kind ≠ stop ∧ FolI t)
    (hstop : ∀ u : Tok, u.kind = stop → FolI u) (n : Nat) :
    Reads b (pMany start stop n cb) (tP start :: xs.flatMap f ++ [tP stop]) Fol (fun ys => All₂ Rel ys xs) ∧
    (xs ≠ [] → Reads b (pSome start stop n cb) (tP start :: xs.flatMap f ++ [tP stop]) Fol (fun ys => All₂ Rel ys xs)) := by
  have key := fun (a : AS) (σ' : Stream) (hs : Starts a.σ (tP start :: xs.flatMap f ++ [tP stop]) σ') =>
    fwd_bracketG f Rel (fun σ => FolI (Tok.ofToken σ.head)) start stop xs (fun x hx a0 σ1 hst hf => hcb x hx a0 σ1 nofun hst hf)
      (fun x hx => by obtain ⟨t, rest, e, hk, _⟩ := hstart x hx; exact ⟨t, rest, e, hk⟩)
      (fun σ1 h => by
        rcases h with h | ⟨x, hx, t, rest, e, ht⟩
        · exact hstop (Tok.ofToken _) h
        · obtain ⟨t', rest', e', _, hf⟩ := hstart x hx
          exact (ht.trans (List.cons.inj (e.symm.trans e')).1) ▸ hf) n a σ' (tP start) (tP stop) rfl rfl hs
  exact ⟨fun a σ' _ hs _ => (key a σ' hs).1, fun hne a σ' _ hs _ => (key a σ' hs).2 hne⟩

theorem Reads.bracket_absent {α : Type} {b : Bool} (start stop : Kind) {cb : Prog α} (n : Nat) :
    Reads b (pMany start stop n cb) [] (fun t => t.kind ≠ start) (· = []) ∧
    Reads b (pSome start stop n cb) [] (fun t => t.kind ≠ start) (· = []) := by
  have key := fun (a : AS) (σ' : Stream) (hs : Starts a.σ [] σ') (hf : σ'.head.kind ≠ start) =>
    fwd_bracket_absent start stop (cb := cb) n a (Starts.nil_iff.1 hs ▸ hf)
  exact ⟨fun a σ' _ hs hf => (key a σ' hs hf).1.mono fun _ _ h => ⟨h.1, h.2.trans (Starts.nil_iff.1 hs)⟩,
    fun a σ' _ hs hf => (key a σ' hs hf).2.mono fun _ _ h => ⟨h.1, h.2.trans (Starts.nil_iff.1 hs)⟩⟩

section
variable {α : Type} {b : Bool} {F : Tok → Prop} (E : α → α) {f : α → List Tok} {Fi : Tok → Prop} {start stop : Kind}
  {cb : Prog α} {xs : List α} {n : Nat}
  (hcb : ∀ x ∈ xs, Reads false cb (f x) Fi (fun y => E y = E x))
  (hstart : ∀ x ∈ xs, Ahead (fun t => t.kind ≠ stop ∧ Fi t) (f x) (fun _ => True))
  (hstop : ∀ t, t.kind = stop → Fi t)
include hcb hstart hstop

/-- every item parses back up to `E`; the first token of an item does not close the bracket, and it
    and the closing token satisfy the follow condition `Fi` of the items -/
theorem reads_bracketE : Reads b (pMany start stop n cb) (tP start :: (xs.flatMap f ++ [tP stop])) F (fun ys => ys.map E = xs.map E) ∧
    (xs ≠ [] → Reads b (pSome start stop n cb) (tP start :: (xs.flatMap f ++ [tP stop])) F (fun ys => ys.map E = xs.map E)) := by
  have := Reads.bracket (b := b) (Fol := F) f (fun y x => E y = E x) Fi start stop xs hcb (fun x hx => by
    have h := hstart x hx (tP stop) trivial
    cases hfx : f x with
    | nil => rw [hfx] at h; exact absurd rfl h.1
    | cons t rest => rw [hfx] at h; exact ⟨t, rest, rfl, h⟩) hstop n
  exact ⟨this.1.mono fun _ h => h.map_eq, fun hne => (this.2 hne).mono fun _ h => h.map_eq⟩

theorem Reads.many : Reads b (pMany start stop n cb) (tP start :: (xs.flatMap f ++ [tP stop])) F (fun ys => ys.map E = xs.map E) :=
  (reads_bracketE E hcb hstart hstop).1

theorem Reads.some (hne : xs ≠ []) :
    Reads b (pSome start stop n cb) (tP start :: (xs.flatMap f ++ [tP stop])) F (fun ys => ys.map E = xs.map E) :=
  (reads_bracketE E hcb hstart hstop).2 hne

theorem Reads.optSome : Reads b (pSome start stop n cb) (if xs.isEmpty then [] else tP start :: xs.flatMap f ++ [tP stop])
    (fun t => xs = [] → t.kind ≠ start) (fun ys => ys.map E = xs.map E) := by
  intro a σ' _ hs hF
  cases xs with
  | nil => exact (Reads.bracket_absent (b := false) start stop n).2.mono (fun _ h => h ▸ rfl) a σ' nofun hs (hF rfl)
  | cons x xs =>
    exact Reads.some (b := false) (F := fun _ => True) E hcb hstart hstop (List.cons_ne_nil _ _) a σ' nofun (by simpa using hs) trivial

end

end Gql.Parser
