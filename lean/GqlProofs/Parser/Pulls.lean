import GqlProofs.Parser.Limit
/-
  Accounting of lexer pulls: every token pulled from the lexer has either been consumed by
  `next` (counted in `tokenCount`) or sits in the look-ahead; the increment of `tokenCount` that
  trips the limit pulls nothing.  Under a limit `L ≠ 0` the counter never exceeds `L + 1`.

  `LimOk`: the only limit error a run under `L` can produce is `.limit L`, and only if `L ≠ 0`.
-/
namespace Gql.Parser
open Gql Gql.Lexer

def tripped (L : Nat) (s : PState) : Bool := s.err == some (.limit L)

structure PInv (L : Nat) (s : PState) : Prop where
  count : s.pulls + (if tripped L s then 1 else 0) = s.tokenCount + (if s.peeked then 1 else 0)
  bound : L ≠ 0 → if tripped L s then s.tokenCount = L + 1 else s.tokenCount ≤ L

theorem PInv.init (L src : Nat) (inp : Bytes) : PInv L (PState.init src inp) := by
  constructor <;> simp [PState.init, tripped]

@[simp] theorem readPeek_pulls (s : PState) : s.readPeek.pulls = s.pulls + 1 :=
  (congrArg PState.pulls (lexRead_state s) :)
@[simp] theorem readPeek_peeked (s : PState) : s.readPeek.peeked = true := rfl
attribute [simp] readPeek_err
@[simp] theorem trip_pulls (L : Nat) (s : PState) : (s.trip L).pulls = s.pulls := rfl
@[simp] theorem trip_peeked (L : Nat) (s : PState) : (s.trip L).peeked = s.peeked := rfl
@[simp] theorem takePeeked_pulls (s : PState) : s.takePeeked.pulls = s.pulls := rfl
@[simp] theorem takePeeked_peeked (s : PState) : s.takePeeked.peeked = false := rfl
@[simp] theorem takePeeked_err (s : PState) : s.takePeeked.err = s.peekErr.map .lex := rfl
@[simp] theorem readPrev_pulls (s : PState) : s.readPrev.pulls = s.pulls + 1 :=
  (congrArg PState.pulls (lexRead_state s) :)
@[simp] theorem readPrev_peeked (s : PState) : s.readPrev.peeked = s.peeked :=
  (congrArg PState.peeked (lexRead_state s) :)
@[simp] theorem readPrev_err (s : PState) : s.readPrev.err = s.lexRead.2.1.map .lex := rfl

theorem not_tripped_of_none {L : Nat} {s : PState} (h : s.err.isSome = false) : tripped L s = false := by
  unfold tripped
  cases he : s.err <;> simp_all

theorem tripped_map_lex (L : Nat) (x : Option LexErr) : (x.map PErr.lex == some (PErr.limit L)) = false := by
  cases x <;> rfl

theorem PInv.of_ok {L : Nat} {s : PState} (ht : tripped L s = false)
    (hc : s.pulls = s.tokenCount + (if s.peeked then 1 else 0)) (hb : L ≠ 0 → s.tokenCount ≤ L) : PInv L s :=
  ⟨by rw [ht]; exact hc, by rw [ht]; exact hb⟩

theorem PInv.ok {L : Nat} {s : PState} (h : PInv L s) (he : s.err.isSome = false) :
    s.pulls = s.tokenCount + (if s.peeked then 1 else 0) ∧ (L ≠ 0 → s.tokenCount ≤ L) := by
  have hc := h.count
  have hb := h.bound
  rw [not_tripped_of_none he] at hc hb
  exact ⟨hc, hb⟩

theorem PInv.stateInv (L : Nat) : StateInv L (PInv L) where
  readPeek he hp h := by
    obtain ⟨hc, hb⟩ := h.ok he
    exact .of_ok (by simpa [tripped] using not_tripped_of_none (L := L) he) (by simp [hc, hp]) (by simpa using hb)
  trip {s} he hL h := by
    obtain ⟨hc, hb⟩ := h.ok he
    have ht : tripped L (s.trip L) = true := beq_self_eq_true _
    refine ⟨?_, fun hL0 => ?_⟩
    · rw [ht]
      exact (congrArg (· + 1) hc).trans (Nat.add_right_comm _ _ _)
    · rw [if_pos ht]
      exact congrArg (· + 1) (Nat.le_antisymm (hb hL0) (Nat.le_of_lt_succ (overLimit_lt hL)))
  takePeeked he hL hp h := by
    obtain ⟨hc, hb⟩ := h.ok he
    exact .of_ok (tripped_map_lex L _) (by simp [hc, hp]) (fun hL0 => overLimit_le hL0 hL)
  readPrev he hL hp h := by
    obtain ⟨hc, hb⟩ := h.ok he
    exact .of_ok (tripped_map_lex L _) (by simp [hc, hp]) (fun hL0 => overLimit_le hL0 hL)
  setErr {s} e he hl h := by
    obtain ⟨hc, hb⟩ := h.ok he
    have ht : tripped L { s with err := some e } = false := by
      cases e with
      | limit n => cases hl
      | _ => rfl
    exact .of_ok ht hc hb
  setOof h := ⟨h.count, h.bound⟩

theorem PInv.run {α : Type} {L : Nat} (p : Prog α) {s : PState} (h : PInv L s) : PInv L (run L p s).2 :=
  (PInv.stateInv L).run h p

theorem PInv.pulls_le {L : Nat} {s : PState} (h : PInv L s) (hL : L ≠ 0) : s.pulls ≤ L + 1 := by
  have hc := h.count
  have hb := h.bound hL
  have : (if s.peeked then 1 else 0) ≤ 1 := by split <;> omega
  cases ht : tripped L s <;> simp only [ht, ↓reduceIte, Bool.false_eq_true] at hc hb <;> omega

theorem PInv.tc_le {L : Nat} {s : PState} (h : PInv L s) (hL : L ≠ 0) (ht : tripped L s = false) :
    s.tokenCount ≤ L := by
  have hb := h.bound hL; simpa [ht] using hb

theorem PInv.tc_le_succ {L : Nat} {s : PState} (h : PInv L s) (hL : L ≠ 0) : s.tokenCount ≤ L + 1 := by
  have hb := h.bound hL
  split at hb <;> omega

theorem PInv.pulls_le_tc {L : Nat} {s : PState} (h : PInv L s) : s.pulls ≤ s.tokenCount + 1 := by
  have hc := h.count
  split at hc <;> split at hc <;> omega


def LimOk (L : Nat) (s : PState) : Prop := ∀ n, s.err = some (.limit n) → n = L ∧ L ≠ 0

theorem LimOk.of_none {L : Nat} {s : PState} (h : s.err = none) : LimOk L s := by
  intro n hn; rw [h] at hn; cases hn

theorem LimOk.of_map_lex {L : Nat} {s : PState} (x : Option LexErr) (h : s.err = x.map .lex) : LimOk L s := by
  intro n hn; rw [h] at hn; cases x <;> simp at hn

/-- a limit error is only ever set by `trip`, which needs `L ≠ 0` -/
theorem LimOk.stateInv (L : Nat) : StateInv L (LimOk L) where
  readPeek _ _ h n hn := h n (by rwa [readPeek_err] at hn)
  trip _ hL _ n hn := by
    cases hn
    unfold overLimit at hL
    simp at hL
    exact ⟨rfl, hL.1⟩
  takePeeked _ _ _ _ := LimOk.of_map_lex _ rfl
  readPrev _ _ _ _ := LimOk.of_map_lex _ rfl
  setErr e _ he _ n hn := by cases hn; cases he
  setOof h := h

theorem LimOk.run {α : Type} {L : Nat} (p : Prog α) {s : PState} (h : LimOk L s) : LimOk L (run L p s).2 :=
  (LimOk.stateInv L).run h p

theorem LimOk.init {α : Type} (L : Nat) (p : Prog α) (src : Nat) (inp : Bytes) :
    LimOk L (Gql.Parser.run L p (PState.init src inp)).2 :=
  LimOk.run p (LimOk.of_none rfl)

end Gql.Parser
