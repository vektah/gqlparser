import GqlProofs.Parser.Pulls
/-
  Consequences of the limit simulation (`run_sim`) and of the pull accounting (`PInv`) on the
  level of `Result`s and of the schema entry points; used by `Props/C16.lean`.
-/
namespace Gql.Parser
open Gql

theorem ofRun_ok {α : Type} {r : α × PState} {d : α} :
    Result.ofRun r = .ok d ↔ r.2.oof = false ∧ r.2.err = none ∧ r.1 = d := by
  unfold Result.ofRun
  cases ho : r.2.oof <;> cases he : r.2.err <;> simp

theorem ofRun_isOk {α : Type} {r : α × PState} :
    (Result.ofRun r).isOk = true ↔ r.2.oof = false ∧ r.2.err = none := by
  unfold Result.ofRun
  cases ho : r.2.oof <;> cases he : r.2.err <;> simp [Result.isOk]

theorem ofRun_error {α : Type} {r : α × PState} {e : PErr} (h : Result.ofRun r = .error e) : r.2.err = some e := by
  unfold Result.ofRun at h
  cases ho : r.2.oof <;> cases he : r.2.err <;> simp_all

theorem run_eq_of_ok {α : Type} {L L' : Nat} (h : Stricter L L') (p : Prog α) (s : PState)
    (hok : (run L p s).2.err = none) : run L p s = run L' p s := by
  rcases run_sim h p s with ⟨h1, _⟩ | h1
  · rw [hok] at h1; cases h1
  · exact h1

theorem ofRun_mono {α : Type} {L L' : Nat} (h : Stricter L L') (p : Prog α) (s : PState) (d : α)
    (hok : Result.ofRun (run L p s) = .ok d) : Result.ofRun (run L' p s) = .ok d := by
  rw [← run_eq_of_ok h p s (ofRun_ok.1 hok).2.1]
  exact hok

theorem stricter_zero (L : Nat) : Stricter L 0 := .inl rfl

/-- a parse that succeeds under a limit is the unlimited parse -/
theorem parseQuery_zero {L : Nat} {inp : Bytes} {d : QueryDoc} (h : parseQuery L inp = .ok d) :
    parseQuery 0 inp = .ok d :=
  ofRun_mono (stricter_zero L) _ _ d h

theorem stricter_le {L L' : Nat} (h0 : L ≠ 0) (h : L ≤ L') : Stricter L L' := .inr ⟨h0, h⟩

/-- exactness on the level of runs: under `L ≠ 0` the run succeeds iff the unlimited run succeeds
    having counted at most `L` tokens -/
theorem ofRun_exact {α : Type} {L : Nat} (hL : L ≠ 0) (p : Prog α) (src : Nat) (inp : Bytes) :
    (Result.ofRun (run L p (PState.init src inp))).isOk = true ↔
      (Result.ofRun (run 0 p (PState.init src inp))).isOk = true ∧
        (run 0 p (PState.init src inp)).2.tokenCount ≤ L := by
  constructor
  · intro hok
    have he := (ofRun_isOk.1 hok).2
    rw [← run_eq_of_ok (stricter_zero L) p (PState.init src inp) he]
    exact ⟨hok, (PInv.run p (PInv.init L src inp)).tc_le hL (by simp [tripped, he])⟩
  · intro ⟨hok, htc⟩
    rcases run_sim (stricter_zero L) p (PState.init src inp) with ⟨_, h2⟩ | h1
    · omega
    · rw [h1]; exact hok

theorem parseSchemaSrc_error {L src : Nat} {b : Bool} {inp : Bytes} {e : PErr}
    (h : parseSchemaSrc L src b inp = .error e) : (runSchema L src inp).2.err = some e := by
  unfold parseSchemaSrc at h
  split at h
  · cases h
  · exact ofRun_error h

theorem parseSchemaSrc_ok {L src : Nat} {b : Bool} {inp : Bytes} {d : SchemaDoc} :
    parseSchemaSrc L src b inp = .ok d ↔
      ∃ d0, Result.ofRun (runSchema L src inp) = .ok d0 ∧ d = setBuiltIn b d0 := by
  unfold parseSchemaSrc
  cases h : Result.ofRun (runSchema L src inp) <;> simp [eq_comm]

theorem parseSchemaSrc_mono {L L' : Nat} (h : Stricter L L') (src : Nat) (b : Bool) (inp : Bytes) (d : SchemaDoc)
    (hok : parseSchemaSrc L src b inp = .ok d) : parseSchemaSrc L' src b inp = .ok d := by
  obtain ⟨d0, h1, h2⟩ := parseSchemaSrc_ok.1 hok
  exact parseSchemaSrc_ok.2 ⟨d0, ofRun_mono h _ _ d0 h1, h2⟩

theorem parseSchemaSrc_zero {L src : Nat} {b : Bool} {inp : Bytes} {d : SchemaDoc}
    (h : parseSchemaSrc L src b inp = .ok d) : parseSchemaSrc 0 src b inp = .ok d :=
  parseSchemaSrc_mono (stricter_zero L) src b inp d h

theorem parseSchemaSrc_isOk {L src : Nat} {b : Bool} {inp : Bytes} :
    (parseSchemaSrc L src b inp).isOk = (Result.ofRun (runSchema L src inp)).isOk := by
  unfold parseSchemaSrc
  cases h : Result.ofRun (runSchema L src inp) <;> simp [Result.isOk]

/-- several sources (`ParseSchemasWithLimit`: the limit applies to each source separately) -/
theorem parseSchemasFrom_mono {L L' : Nat} (h : Stricter L L') (srcs : List (Bool × Bytes)) (i : Nat)
    (acc d : SchemaDoc) (hok : parseSchemasFrom L i acc srcs = .ok d) : parseSchemasFrom L' i acc srcs = .ok d := by
  induction srcs generalizing i acc with
  | nil => exact hok
  | cons x rest ih =>
    unfold parseSchemasFrom at hok ⊢
    split at hok
    · rename_i d1 h1
      rw [parseSchemaSrc_mono h i x.1 x.2 d1 h1]
      exact ih _ _ hok
    · rename_i hne
      exact absurd hok (hne d)

end Gql.Parser
