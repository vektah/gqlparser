import GqlProofs.Parser.Spec
import GqlProofs.Grammar.PrintQuery
/-
  Soundness of the query parser programs of `GqlModel/Parser/Query.lean` against the grammar
  `gql` and the unparser `Print`: every program that ends live consumed a token sequence that its
  nonterminal derives, and the tree it built unparses to (the canonical form of) that sequence.
  The same postconditions say that the parts of the tree the unparser does not print have the values
  the parser gives them (`ValueOK`, … `FragOK`): what the converse direction (`FwdQuery.lean`) assumes.
-/
namespace Gql.Parser
open Gql Gql.Lexer Gql.Grammar Gql.Print

/-- the grammar's view of consumed tokens -/
def tk (used : List Token) : List Tok := used.map Tok.ofToken

@[simp] theorem tk_nil : tk [] = [] := rfl
@[simp] theorem tk_cons (t : Token) (ts : List Token) : tk (t :: ts) = Tok.ofToken t :: tk ts := rfl
@[simp] theorem tk_append (a b : List Token) : tk (a ++ b) = tk a ++ tk b := by simp [tk]

theorem ofToken_punct {t : Token} {k : Kind} (hk : t.kind = k) (ok : TokOK t) (hv : k.valued = false) :
    Tok.ofToken t = tP k := by
  have := ok.2.1 (by rw [hk]; exact hv)
  simp [Tok.ofToken, tP, hk, this]

theorem ofToken_name {t : Token} (hk : t.kind = .name) : Tok.ofToken t = tName t.value := by
  simp [Tok.ofToken, tName, hk]

theorem kwTok {t : Token} {s : String} (k : t.kind = .name) (v : t.value = str s) : Tok.ofToken t = tKw s := by
  simp [Tok.ofToken, tKw, k, v]


mutual
  /-- the parts of a value that the unparser does not print are what the parser would build -/
  def ValueOK : Value → Prop
    | .mk k raw ch _ =>
      match k with
      | .variable | .int | .float | .string | .block => ch = .nil
      | .boolean | .null | .enum => ch = .nil ∧ k = nameValueKind raw
      | .list => raw = [] ∧ ItemsOK ch
      | .object => raw = [] ∧ FieldsOK ch
  def ItemsOK : Children → Prop
    | .nil => True
    | .cons n v _ rest => n = [] ∧ ValueOK v ∧ ItemsOK rest
  def FieldsOK : Children → Prop
    | .nil => True
    | .cons _ v _ rest => ValueOK v ∧ FieldsOK rest
end

def ArgsOK (as : List Argument) : Prop := ∀ a ∈ as, ValueOK a.value
def DirsOK (ds : List Directive) : Prop := ∀ d ∈ ds, ArgsOK d.args
def VarDefOK (v : VarDef) : Prop := (∀ d, v.default = some d → ValueOK d) ∧ DirsOK v.dirs

mutual
  def SelOK : Selection → Prop
    | .field _ _ args ds sel _ => ArgsOK args ∧ DirsOK ds ∧ SelsOK sel
    | .spread _ ds _ => DirsOK ds
    | .inline _ ds sel _ => DirsOK ds ∧ SelsOK sel
  def SelsOK : Selections → Prop
    | .nil => True
    | .cons s rest => SelOK s ∧ SelsOK rest
end

def OpOK (o : OperationDef) : Prop := (∀ v ∈ o.vars, VarDefOK v) ∧ DirsOK o.dirs ∧ SelsOK o.sel
def FragOK (f : FragmentDef) : Prop := (∀ v ∈ f.vars, VarDefOK v) ∧ DirsOK f.dirs ∧ SelsOK f.sel

theorem valueOK_name (v : Bytes) (p : Pos) : ValueOK (.mk (nameValueKind v) v .nil p) := by
  have : nameValueKind v = .boolean ∨ nameValueKind v = .null ∨ nameValueKind v = .enum := by
    unfold nameValueKind; split
    · exact .inl rfl
    · split
      · exact .inr (.inl rfl)
      · exact .inr (.inr rfl)
  generalize hk : nameValueKind v = k at this
  rcases this with rfl | rfl | rfl <;> simp [ValueOK, hk]


theorem spec_punct (k : Kind) (hk : k ≠ .eof := by decide) (hk' : k ≠ .invalid := by decide)
    (hv : k.valued = false := by decide) : Spec (expect k) (Eats fun _ used => tk used = [tP k]) :=
  Spec.last (spec_expect k hk hk') fun _ _ ⟨h1, h2, h3⟩ => by subst h1; simp [ofToken_punct h2 h3 hv]

def SkipsP (k : Kind) : Bool → AS → AS → Prop := fun b a a' =>
  (b = true ∧ a.σ.head.kind = k ∧ ∃ used, Ate a a' used ∧ tk used = [tP k]) ∨
  (b = false ∧ a.σ.head.kind ≠ k ∧ a' = { a with pk := true })

theorem spec_skipP (k : Kind) (hk : k ≠ .eof) (hk' : k ≠ .invalid) (hv : k.valued = false) :
    Spec (skip k) (SkipsP k) :=
  (spec_skip k hk hk').mono fun b a a' _ h => by
    rcases h with ⟨hb, t, h1, h2, h3⟩ | h
    · exact .inl ⟨hb, by rw [h1.σ]; exact h2, [t], h1, by simp [ofToken_punct h2 h3 hv]⟩
    · exact .inr h

theorem spec_optPunct (k : Kind) (hk : k ≠ .eof := by decide) (hk' : k ≠ .invalid := by decide)
    (hv : k.valued = false := by decide) : Spec (skip k) (Eats fun b used => tk used = if b then [tP k] else []) :=
  (spec_skipP k hk hk' hv).mono fun _ a _ _ h => by
    rcases h with ⟨rfl, _, u, h1, h2⟩ | ⟨rfl, _, rfl⟩
    · exact ⟨u, h1, h2⟩
    · exact ⟨[], Ate.peeked a, rfl⟩

theorem spec_keyword (s : String) : Spec (expectKeyword (str s)) (Eats fun _ used => tk used = [tKw s]) :=
  Spec.last (spec_expectKeyword (str s)) fun _ _ ⟨h1, h2, h3⟩ => by subst h1; simp [kwTok h2 h3]

/-- a position recorded by `peekPos` in front of a non-empty token list is that of its first token -/
theorem first_pos {u : List Token} {pos : Pos} {x : Tok} {r : List Tok} (h : tk u = x :: r)
    (hpos : ∀ t rest, u = t :: rest → pos.start = t.start) : ∃ t rest, u = t :: rest ∧ pos.start = t.start := by
  cases u with
  | nil => cases h
  | cons t rest => exact ⟨t, rest, rfl, hpos t rest rfl⟩

/-- `parseName`, exposing the token -/
theorem spec_parseName' : Spec parseName (Eats fun n used => ∃ t, used = [t] ∧ t.kind = .name ∧ t.value = n ∧ TokOK t) := by
  unfold parseName
  exact Spec.seq (spec_expect .name (by decide) (by decide)) fun t _ ⟨h1, h2, h3⟩ =>
    Spec.ret _ ⟨t, by simp [h1], h2, rfl, h3⟩

theorem spec_parseName : Spec parseName (Eats fun n used => tk used = [tName n]) :=
  Spec.last spec_parseName' fun _ _ ⟨_, h1, h2, h3, _⟩ => by subst h1 h3; simp [ofToken_name h2]

theorem spec_parseVariable : Spec parseVariable (Eats fun n used => tk used = [tP .dollar, tName n]) := by
  unfold parseVariable
  exact Spec.seq (spec_punct .dollar) fun _ _ p1 => Spec.last spec_parseName fun _ _ p2 => by simp [p1, p2]


/-- what a value parser establishes -/
def PValue (c : Bool) (v : Value) (used : List Token) : Prop :=
  tk used = printValue v ∧ (c = true → ConstValue v) ∧ ValueOK v

theorem many_items {c : Bool} {xs : List (Name × Value × Pos)} {mid : List Token}
    (h : Many (fun (x : Name × Value × Pos) u => x.1 = [] ∧ PValue c x.2.1 u) xs mid) :
    tk mid = printItems (Children.ofList xs) ∧ (c = true → ConstChildren (Children.ofList xs)) ∧ ItemsOK (Children.ofList xs) := by
  induction h with
  | nil => exact ⟨rfl, fun _ => trivial, trivial⟩
  | @cons x xs u us hx _ ih =>
    obtain ⟨n, v, p⟩ := x
    exact ⟨by simp [Children.ofList, printItems, ih.1, hx.2.1], fun hc => ⟨hx.2.2.1 hc, ih.2.1 hc⟩, hx.1, hx.2.2.2, ih.2.2⟩

theorem many_fields {c : Bool} {xs : List (Name × Value × Pos)} {mid : List Token}
    (h : Many (fun (x : Name × Value × Pos) u => tk u = tName x.1 :: tP .colon :: printValue x.2.1 ∧
      (c = true → ConstValue x.2.1) ∧ ValueOK x.2.1) xs mid) :
    tk mid = printObjFields (Children.ofList xs) ∧ (c = true → ConstChildren (Children.ofList xs)) ∧ FieldsOK (Children.ofList xs) := by
  induction h with
  | nil => exact ⟨rfl, fun _ => trivial, trivial⟩
  | @cons x xs u us hx _ ih =>
    obtain ⟨n, v, p⟩ := x
    exact ⟨by simp [Children.ofList, printObjFields, ih.1, hx.1], fun hc => ⟨hx.2.1 hc, ih.2.1 hc⟩, hx.2.2, ih.2.2⟩

theorem Bracketed.of_open {α : Type} {P : α → List Token → Prop} {start stop : Kind} {xs : List α} {a a' : AS}
    (hb : Bracketed P start stop xs a a') (hk : a.σ.head.kind = start) (hv1 : start.valued = false)
    (hv2 : stop.valued = false) : ∃ mid u, Ate a a' u ∧ tk u = tP start :: tk mid ++ [tP stop] ∧ Many P xs mid := by
  rcases hb with ⟨_, hk', _⟩ | ⟨_, u, hu, t1, mid, t2, rfl, k1, k2, o1, o2, hm⟩
  · exact absurd hk hk'
  · exact ⟨mid, _, hu, by simp [ofToken_punct k1 o1 hv1, ofToken_punct k2 o2 hv2], hm⟩

theorem spec_parseListWith {c : Bool} {pv : Prog Value} (hpv : Spec pv (Eats (PValue c))) (n : Nat) :
    Spec (parseListWith pv n) (fun v a a' => a.σ.head.kind = .bracketL → Eats (PValue c) v a a') := by
  unfold parseListWith
  refine (Spec.bind spec_peekPos fun pos => Spec.bind
    (spec_pMany (P := fun (x : Name × Value × Pos) u => x.1 = [] ∧ PValue c x.2.1 u) .bracketL .bracketR (by decide) (by decide)
      (by decide) (by decide) n (Spec.seq hpv fun _ _ p => Spec.ret _ (by simpa using p)))
    fun vs => Spec.pure (Value.mk .list [] (Children.ofList vs) pos)).mono ?_
  rintro v a a'' _ ⟨pos, a1, ⟨rfl, _⟩, vs, a2, hb, rfl, rfl⟩ hk
  obtain ⟨mid, u, hu, e, hm⟩ := hb.of_open hk rfl rfl
  exact ⟨u, (Ate.peeked a).trans hu, by simp [printValue, e, (many_items hm).1], fun hc => ⟨by decide, (many_items hm).2.1 hc⟩,
    rfl, (many_items hm).2.2⟩

theorem spec_parseObjectFieldWith {c : Bool} {pv : Prog Value} (hpv : Spec pv (Eats (PValue c))) :
    Spec (parseObjectFieldWith pv) (Eats fun (x : Name × Value × Pos) u =>
      tk u = tName x.1 :: tP .colon :: printValue x.2.1 ∧ (c = true → ConstValue x.2.1) ∧ ValueOK x.2.1) := by
  unfold parseObjectFieldWith
  exact Spec.seq0 spec_peekPos_eats fun pos => Spec.seq spec_parseName fun name _ p1 =>
    Spec.seq (spec_punct .colon) fun _ _ p2 => Spec.seq hpv fun v _ p3 => Spec.ret _ ⟨by simp [p1, p2, p3.1], p3.2⟩

theorem spec_parseObjectWith {c : Bool} {pv : Prog Value} (hpv : Spec pv (Eats (PValue c))) (n : Nat) :
    Spec (parseObjectWith pv n) (fun v a a' => a.σ.head.kind = .braceL → Eats (PValue c) v a a') := by
  unfold parseObjectWith
  refine (Spec.bind spec_peekPos fun pos => Spec.bind
    (spec_pMany .braceL .braceR (by decide) (by decide) (by decide) (by decide) n (spec_parseObjectFieldWith hpv))
    fun fs => Spec.pure (Value.mk .object [] (Children.ofList fs) pos)).mono ?_
  rintro v a a'' _ ⟨pos, a1, ⟨rfl, _⟩, vs, a2, hb, rfl, rfl⟩ hk
  obtain ⟨mid, u, hu, e, hm⟩ := hb.of_open hk rfl rfl
  exact ⟨u, (Ate.peeked a).trans hu, by simp [printValue, e, (many_fields hm).1], fun hc => ⟨by decide, (many_fields hm).2.1 hc⟩,
    rfl, (many_fields hm).2.2⟩

theorem spec_litValue (src : Nat) (token : Token) (k : ValueKind) :
    Spec (litValue src token k) (fun v a a' => a.pk = true → a.σ.head = token → token.kind ≠ .eof →
      token.kind ≠ .invalid → Ate a a' [token] ∧ v = .mk k token.value .nil (posOf src token)) := by
  unfold litValue
  refine (Spec.bind spec_next fun _ => Spec.pure (Value.mk k token.value .nil (posOf src token))).mono ?_
  rintro v a a'' hne ⟨t, a', hn, rfl, rfl⟩ hpk hh h1 h2
  obtain ⟨q1, q2, _⟩ := next_eats hne hpk (by rw [hh]) h1 h2 hn
  exact ⟨hh ▸ q1 ▸ q2, rfl⟩

theorem nameValueKind_ne (v : Bytes) : nameValueKind v ≠ .variable := by
  unfold nameValueKind; split
  · decide
  · split <;> decide

theorem printValue_name (v : Bytes) (p : Pos) : printValue (.mk (nameValueKind v) v .nil p) = [tName v] := by
  unfold nameValueKind
  split
  · rfl
  · split <;> rfl

theorem spec_parseValueLiteral (c : Bool) : ∀ n, Spec (parseValueLiteral n c) (Eats (PValue c))
  | 0 => Spec.of_dead (outOfFuel_dead _)
  | n + 1 => by
    have ih := spec_parseValueLiteral c n
    unfold parseValueLiteral
    refine Spec.peek fun token => Spec.getSrc fun src => ?_
    have lit : ∀ (k : ValueKind) (tkk : Kind), token.kind = tkk → tkk ≠ .eof → tkk ≠ .invalid →
        (∀ p, printValue (.mk k token.value .nil p) = [⟨tkk, token.value⟩]) → k ≠ .variable →
        (∀ p, ValueOK (.mk k token.value .nil p)) →
        Spec (litValue src token k) (fun v a a' => a.pk = true → a.σ.head = token → Eats (PValue c) v a a') := by
      intro k tkk hk h1 h2 hp hv hok
      refine (spec_litValue src token k).mono fun v a a' _ h hpk hh => ?_
      obtain ⟨q, rfl⟩ := h hpk hh (hk ▸ h1) (hk ▸ h2)
      exact ⟨[token], q, by simp [hp, Tok.ofToken, hk], fun _ => ⟨hv, trivial⟩, hok _⟩
    split
    · exact (spec_parseListWith ih (n + 1)).mono fun _ _ _ _ h _ hh => h (hh ▸ ‹_›)
    · exact (spec_parseObjectWith ih (n + 1)).mono fun _ _ _ _ h _ hh => h (hh ▸ ‹_›)
    · split
      · exact Spec.of_dead_bind unexpectedError_dead
      · exact (Spec.seq spec_parseVariable fun _ _ p => Spec.ret _ ⟨by simp [printValue, p], fun hc => absurd hc ‹_›, rfl⟩).mono
          fun _ _ _ _ h _ _ => h
    · exact lit .int .int ‹_› (by decide) (by decide) (fun _ => rfl) (by decide) fun _ => rfl
    · exact lit .float .float ‹_› (by decide) (by decide) (fun _ => rfl) (by decide) fun _ => rfl
    · exact lit .string .string ‹_› (by decide) (by decide) (fun _ => rfl) (by decide) fun _ => rfl
    · exact lit .block .blockString ‹_› (by decide) (by decide) (fun _ => rfl) (by decide) fun _ => rfl
    · exact lit _ .name ‹_› (by decide) (by decide) (fun p => printValue_name _ p) (nameValueKind_ne _) (valueOK_name _)
    · exact Spec.of_dead_bind unexpectedError_dead


theorem many_flatMap {α : Type} {f : α → List Tok} {Q : α → Prop} {xs : List α} {mid : List Token}
    (h : Many (fun x u => tk u = f x ∧ Q x) xs mid) : tk mid = xs.flatMap f ∧ ∀ x ∈ xs, Q x := by
  induction h with
  | nil => exact ⟨rfl, fun _ h => by cases h⟩
  | @cons x xs u us hx _ ih => exact ⟨by simp [hx.1, ih.1], List.forall_mem_cons.2 ⟨hx.2, ih.2⟩⟩

theorem bracketed_some {α : Type} {f : α → List Tok} {Q : α → Prop} {start stop : Kind} {xs : List α} {a a' : AS}
    (hv1 : start.valued = false) (hv2 : stop.valued = false)
    (hb : Bracketed (fun x u => tk u = f x ∧ Q x) start stop xs a a') (hne : a.σ.head.kind = start → xs ≠ []) :
    Eats (fun xs u => tk u = (if xs.isEmpty then [] else tP start :: xs.flatMap f ++ [tP stop]) ∧ ∀ x ∈ xs, Q x) xs a a' := by
  by_cases hk : a.σ.head.kind = start
  · obtain ⟨mid, u, hu, e, hm⟩ := hb.of_open hk hv1 hv2
    refine ⟨u, hu, ?_, (many_flatMap hm).2⟩
    rw [e, (many_flatMap hm).1, List.isEmpty_eq_false_iff.2 (hne hk)]; rfl
  · rcases hb with ⟨rfl, _, rfl⟩ | ⟨hk', _⟩
    · exact ⟨[], Ate.peeked a, rfl, fun _ h => nomatch h⟩
    · exact absurd hk' hk

theorem spec_someBlock {α : Type} {f : α → List Tok} {Q : α → Prop} (start stop : Kind) (n : Nat) {cb : Prog α}
    (hcb : Spec cb (Eats fun x u => tk u = f x ∧ Q x)) (h1 : start ≠ .eof := by decide) (h1' : start ≠ .invalid := by decide)
    (h2 : stop ≠ .eof := by decide) (h2' : stop ≠ .invalid := by decide) (hv1 : start.valued = false := by decide)
    (hv2 : stop.valued = false := by decide) :
    Spec (pSome start stop n cb)
      (Eats fun xs u => tk u = (if xs.isEmpty then [] else tP start :: xs.flatMap f ++ [tP stop]) ∧ ∀ x ∈ xs, Q x) :=
  (spec_pSome start stop h1 h1' h2 h2' n hcb).mono fun _ _ _ _ h => bracketed_some hv1 hv2 h.1 h.2


theorem spec_parseArgument (n : Nat) (c : Bool) :
    Spec (parseArgument n c) (Eats fun a u => tk u = printArgument a ∧ ((c = true → ConstValue a.value) ∧ ValueOK a.value)) := by
  unfold parseArgument
  exact Spec.seq0 spec_peekPos_eats fun pos => Spec.seq spec_parseName fun name _ p1 =>
    Spec.seq (spec_punct .colon) fun _ _ p2 => Spec.seq (spec_parseValueLiteral c n) fun v _ p3 =>
    Spec.ret _ ⟨by simp [printArgument, p1, p2, p3.1], p3.2⟩

/-- `Arguments[Const]?` -/
def PArgs (c : Bool) (as : List Argument) (u : List Token) : Prop :=
  tk u = printArguments as ∧ (c = true → ∀ a ∈ as, ConstValue a.value) ∧ ArgsOK as

theorem spec_parseArguments (n : Nat) (c : Bool) : Spec (parseArguments n c) (Eats (PArgs c)) :=
  Spec.last (spec_someBlock .parenL .parenR n (spec_parseArgument n c)) fun _ _ h =>
    ⟨h.1, fun hc x hx => (h.2 x hx).1 hc, fun x hx => (h.2 x hx).2⟩

/-- `Directive[Const]` -/
def PDirective (c : Bool) (d : Directive) (u : List Token) : Prop :=
  tk u = printDirective d ∧ ((c = true → ∀ a ∈ d.args, ConstValue a.value) ∧ ArgsOK d.args)

theorem spec_parseDirective (n : Nat) (c : Bool) : Spec (parseDirective n c) (Eats (PDirective c)) := by
  unfold parseDirective
  exact Spec.seq (spec_punct .at) fun _ _ p1 => Spec.seq0 spec_peekPos_eats fun pos =>
    Spec.seq spec_parseName fun name _ p2 => Spec.seq (spec_parseArguments n c) fun args _ p3 =>
    Spec.ret _ ⟨by simp [printDirective, p1, p2, p3.1], p3.2⟩

theorem spec_directivesLoop {P : Directive → List Token → Prop} {pd : Prog Directive} (hpd : Spec pd (Eats P)) (n : Nat)
    (acc : List Directive) :
    Spec (directivesLoop pd n acc) (Eats fun ds u => ∃ items, ds = items.reverse ++ acc ∧ Many P items u) := by
  induction n generalizing acc with
  | zero => exact Spec.of_dead (outOfFuel_dead _)
  | succ n ih =>
    unfold directivesLoop
    exact Spec.seq0 spec_peek_eats fun t => Spec.ite_same
      (fun _ => Spec.hasErr_ite (Spec.seq hpd fun d _ p => Spec.last (ih (d :: acc)) fun _ _ ⟨items, e, hm⟩ =>
        ⟨d :: items, by simp [e], .cons p hm⟩))
      (fun _ => Spec.ret acc ⟨[], rfl, .nil⟩)

/-- `Directives[Const]?` -/
def PDirectives (c : Bool) (ds : List Directive) (u : List Token) : Prop :=
  tk u = printDirectives ds ∧ (c = true → ConstDirectives ds) ∧ DirsOK ds

theorem spec_parseDirectives (n : Nat) (c : Bool) : Spec (parseDirectives n c) (Eats (PDirectives c)) := by
  unfold parseDirectives
  refine Spec.seq (spec_directivesLoop (spec_parseDirective n c) n []) fun _ _ ⟨items, e, hm⟩ => Spec.ret _ ?_
  obtain ⟨m1, m2⟩ := many_flatMap (f := printDirective) hm
  subst e
  exact ⟨by simpa [printDirectives] using m1, fun hc d hd => (m2 d (by simpa using hd)).1 hc,
    fun d hd => (m2 d (by simpa using hd)).2⟩


theorem spec_parseTypeReference : ∀ n, Spec (parseTypeReference n) (Eats fun ty u => tk u = printType ty)
  | 0 => Spec.of_dead (outOfFuel_dead _)
  | n + 1 => by
    have ih := spec_parseTypeReference n
    unfold parseTypeReference
    exact Spec.seq (spec_optPunct .bracketL) fun
      | true, _, p1 => Spec.seq0 spec_peekPos_eats fun pos => Spec.seq ih fun elem _ p2 =>
          Spec.seq (spec_punct .bracketR) fun _ _ p3 => Spec.seq (spec_optPunct .bang) fun nn _ p4 =>
          Spec.ret _ (by simp [printType, bangIf, p1, p2, p3, p4])
      | false, _, p1 => Spec.seq0 spec_peekPos_eats fun pos => Spec.seq spec_parseName fun name _ p2 =>
          Spec.seq (spec_optPunct .bang) fun nn _ p3 => Spec.ret _ (by simp [printType, bangIf, p1, p2, p3])

theorem Spec.pure_bind {α β : Type} {x : α} {f : α → Prog β} {R : β → AS → AS → Prop} (h : Spec (f x) R) :
    Spec (Pure.pure x >>= f) R := h

theorem spec_parseVariableDefinition (n : Nat) :
    Spec (parseVariableDefinition n) (Eats fun v u => tk u = printVarDef v ∧ (WFVarDef v ∧ VarDefOK v)) := by
  unfold parseVariableDefinition
  exact Spec.seq0 spec_peekPos_eats fun pos => Spec.seq spec_parseVariable fun var _ p1 =>
    Spec.seq (spec_punct .colon) fun _ _ p2 => Spec.seq (spec_parseTypeReference n) fun ty _ p3 =>
    Spec.seq (spec_optPunct .equals) fun
      | true, _, p4 => Spec.seq (spec_parseValueLiteral true n) fun v _ p5 => Spec.pure_bind <|
          Spec.seq (spec_parseDirectives n true) fun dirs _ p6 =>
          Spec.ret _ ⟨by simp [printVarDef, printDefault, p1, p2, p3, p4, p5.1, p6.1],
            ⟨fun d hd => by cases hd; exact p5.2.1 rfl, p6.2.1 rfl⟩, fun d hd => by cases hd; exact p5.2.2, p6.2.2⟩
      | false, _, p4 => Spec.pure_bind <| Spec.seq (spec_parseDirectives n true) fun dirs _ p6 =>
          Spec.ret _ ⟨by simp [printVarDef, printDefault, p1, p2, p3, p4, p6.1], ⟨fun _ hd => (by cases hd), p6.2.1 rfl⟩,
            fun _ hd => (by cases hd), p6.2.2⟩

/-- `VariableDefinitions?` -/
def PVarDefs (vs : List VarDef) (u : List Token) : Prop :=
  tk u = printVarDefs vs ∧ (∀ v ∈ vs, WFVarDef v) ∧ ∀ v ∈ vs, VarDefOK v

theorem spec_parseVariableDefinitions (n : Nat) : Spec (parseVariableDefinitions n) (Eats PVarDefs) :=
  Spec.last (spec_someBlock .parenL .parenR n (spec_parseVariableDefinition n)) fun _ _ h =>
    ⟨h.1, fun v hv => (h.2 v hv).1, fun v hv => (h.2 v hv).2⟩


def PSel (s : Selection) (u : List Token) : Prop :=
  Derives gql (.nt .selection) (tk u) (printSelection s) ∧ WFSelection s ∧ SelOK s

def PSelSet (ss : Selections) (u : List Token) : Prop :=
  ss ≠ .nil ∧ WFSelections ss ∧ Derives gql (.nt .selectionSet) (tk u) (printSelectionSet ss) ∧ u ≠ [] ∧ SelsOK ss

theorem many_sel {xs : List Selection} {mid : List Token} (h : Many PSel xs mid) :
    Derives gql (.star (.nt .selection)) (tk mid) (printSelections (Selections.ofList xs)) ∧
      WFSelections (Selections.ofList xs) ∧ SelsOK (Selections.ofList xs) := by
  induction h with
  | nil => exact ⟨Derives.starNil, trivial, trivial⟩
  | @cons x xs u us hx _ ih =>
    refine ⟨?_, ⟨hx.2.1, ih.2.1⟩, hx.2.2, ih.2.2⟩
    simp only [tk_append, Selections.ofList, printSelections]
    exact Derives.starCons hx.1 ih.1

theorem selSet_of_bracket {xs : List Selection} {a a' : AS} (hb : Bracketed PSel .braceL .braceR xs a a')
    (hne : a.σ.head.kind = .braceL → xs ≠ []) (hk : a.σ.head.kind = .braceL) :
    Eats PSelSet (Selections.ofList xs) a a' := by
  obtain ⟨mid, u, hu, e, hm⟩ := hb.of_open hk rfl rfl
  cases hm with
  | nil => exact absurd rfl (hne hk)
  | @cons x xs _ _ hx hrest =>
    obtain ⟨m1, m2, m3⟩ := many_sel hrest
    have := Derives.nt (g := gql) (n := NT.selectionSet)
      (Derives.seq (L.kind .braceL) (Derives.seq (Derives.plus hx.1 m1) (L.kind .braceR)))
    exact ⟨u, hu, by simp [Selections.ofList], ⟨hx.2.1, m2⟩,
      this.cast (by simp [e]) (by simp [printSelectionSet, Selections.ofList, printSelections]), fun h => by simp [h] at e,
      hx.2.2, m3⟩

theorem spec_parseOptionalSelectionSetWith {sel : Prog Selection} (hsel : Spec sel (Eats PSel)) (n : Nat) :
    Spec (parseOptionalSelectionSetWith sel n) (fun ss a a' => a.σ.head.kind = .braceL → Eats PSelSet ss a a') := by
  unfold parseOptionalSelectionSetWith
  refine (Spec.bind (spec_pSome .braceL .braceR (by decide) (by decide) (by decide) (by decide) n hsel)
    fun xs => Spec.pure (Selections.ofList xs)).mono ?_
  rintro ss a a'' _ ⟨xs, a1, ⟨hb, hne⟩, rfl, rfl⟩ hk
  exact selSet_of_bracket hb hne hk

theorem spec_parseRequiredSelectionSetWith {sel : Prog Selection} (hsel : Spec sel (Eats PSel)) (n : Nat) :
    Spec (parseRequiredSelectionSetWith sel n) (Eats PSelSet) := by
  unfold parseRequiredSelectionSetWith
  exact Spec.peek fun t => Spec.ite_same
    (fun _ => Spec.bind_dead spec_peek fun _ => Spec.bind_dead spec_peek fun _ => Spec.of_dead_bind (failAt_dead _ _))
    (fun hk => (spec_parseOptionalSelectionSetWith hsel n).mono fun _ _ _ _ h _ hh => h (by simpa [hh] using hk))

/-- the part of `parseField` after the name -/
def fieldTail (sel : Prog Selection) (n : Nat) (pos : Pos) (alias name : Name) : Prog Selection := do
  let args ← parseArguments n false
  let dirs ← parseDirectives n false
  let t ← peek
  let ss ← do
    if t.kind = .braceL then parseOptionalSelectionSetWith sel n else pure Selections.nil
  pure (Selection.field alias name args dirs ss pos)

theorem parseFieldWith_eq (sel : Prog Selection) (n : Nat) :
    parseFieldWith sel n = (do
      let pos ← peekPos
      let alias ← parseName
      let b ← skip .colon
      if b then do
        let name ← parseName
        fieldTail sel n pos alias name
      else fieldTail sel n pos alias alias) := rfl

theorem spec_fieldTail {sel : Prog Selection} (hsel : Spec sel (Eats PSel)) (n : Nat) (pos : Pos) (al nm : Name) :
    Spec (fieldTail sel n pos al nm) (Eats fun s u => ∃ args ds ss tsSel, s = .field al nm args ds ss pos ∧
      tk u = printArguments args ++ (printDirectives ds ++ tsSel) ∧
      Derives gql (.opt (.nt .selectionSet)) tsSel (selOut ss) ∧ WFSelections ss ∧ SelOK s) := by
  unfold fieldTail
  refine Spec.seq (spec_parseArguments n false) fun args _ p1 => Spec.seq (spec_parseDirectives n false) fun dirs _ p2 =>
    Spec.peek fun t => Spec.ite_same
      (fun hk => (Spec.bind (spec_parseOptionalSelectionSetWith hsel n) fun ss => Spec.pure _).mono ?_)
      (fun _ => (Spec.pure_bind (Spec.ret _ ⟨args, dirs, .nil, [], rfl, by simp [p1.1, p2.1], Derives.optNone, trivial,
        p1.2.2, p2.2.2, trivial⟩)).mono
        fun _ _ _ _ h _ _ => h)
  rintro s a a' _ ⟨ss, a1, hss, rfl, rfl⟩ _ hh
  obtain ⟨u3, h3, q1, q2, q3, _, q5⟩ := hss (hh ▸ hk)
  exact ⟨u3, h3, args, dirs, ss, tk u3, rfl, by simp [p1.1, p2.1], selOut_of_ne q1 ▸ Derives.optSome q3, q2, p1.2.2, p2.2.2, q5⟩

theorem spec_parseFieldWith {sel : Prog Selection} (hsel : Spec sel (Eats PSel)) (n : Nat) :
    Spec (parseFieldWith sel n) (Eats PSel) := by
  rw [parseFieldWith_eq]
  exact Spec.seq0 spec_peekPos_eats fun pos => Spec.seq spec_parseName fun al _ p1 => Spec.seq (spec_optPunct .colon) fun
    | true, _, p0 => Spec.seq spec_parseName fun nm _ p2 => Spec.last (spec_fieldTail hsel n pos al nm)
        fun _ _ ⟨args, ds, ss, tsSel, e, q1, q2, q3, q4⟩ => e ▸
          ⟨(derives_field al nm args ds ss pos true (by simp) q2).cast (by simp [p1, p0, p2, q1]) rfl, by simpa [WFSelection] using q3,
            e ▸ q4⟩
    | false, _, p0 => Spec.last (spec_fieldTail hsel n pos al al)
        fun _ _ ⟨args, ds, ss, tsSel, e, q1, q2, q3, q4⟩ => e ▸
          ⟨(derives_field al al args ds ss pos false (fun _ => rfl) q2).cast (by simp [p1, p0, q1]) rfl, by simpa [WFSelection] using q3,
            e ▸ q4⟩

theorem spec_parseFragmentName : Spec parseFragmentName (Eats fun n u => tk u = [tName n] ∧ n ≠ str "on") := by
  unfold parseFragmentName
  refine (Spec.bind spec_peek fun t => Spec.ite (fun _ => Spec.of_dead_bind (R := fun _ _ _ => False) unexpectedError_dead)
    (fun _ => spec_parseName')).mono ?_
  rintro n a a'' _ ⟨t, a1, ⟨rfl, rfl⟩, ⟨_, hf⟩ | ⟨hv, u, h1, t', rfl, k1, rfl, _⟩⟩
  · exact hf.elim
  · exact ⟨_, (Ate.peeked a).trans h1, by simp [ofToken_name k1], h1.head ▸ hv⟩

/-- the part of an inline fragment after the type condition -/
def inlineTail (sel : Prog Selection) (n : Nat) (pos : Pos) (tc : Name) : Prog Selection := do
  let dirs ← parseDirectives n false
  let ss ← parseRequiredSelectionSetWith sel n
  pure (Selection.inline tc dirs ss pos)

theorem parseFragmentWith_eq (sel : Prog Selection) (n : Nat) :
    parseFragmentWith sel n = (do
      let _ ← expect .spread
      let pk ← peek
      if pk.kind = .name ∧ pk.value ≠ kwOn then do
        let pos ← peekPos
        let name ← parseFragmentName
        let dirs ← parseDirectives n false
        pure (Selection.spread name dirs pos)
      else do
        let pos ← peekPos
        let t ← peek
        if t.kind = .name ∧ t.value = kwOn then do
          let _ ← next
          let tc ← parseName
          inlineTail sel n pos tc
        else inlineTail sel n pos []) := rfl

theorem spec_inlineTail {sel : Prog Selection} (hsel : Spec sel (Eats PSel)) (n : Nat) (pos : Pos) (tc : Name) :
    Spec (inlineTail sel n pos tc) (Eats fun s u => ∃ ds ss uss, s = .inline tc ds ss pos ∧
      tk u = printDirectives ds ++ tk uss ∧ PSelSet ss uss ∧ DirsOK ds) := by
  unfold inlineTail
  exact Spec.seq (spec_parseDirectives n false) fun dirs _ p1 => Spec.seq (spec_parseRequiredSelectionSetWith hsel n)
    fun ss u2 p2 => Spec.ret _ ⟨dirs, ss, u2, rfl, by simp [p1.1], p2, p1.2.2⟩

theorem spec_parseFragmentWith {sel : Prog Selection} (hsel : Spec sel (Eats PSel)) (n : Nat) :
    Spec (parseFragmentWith sel n) (Eats PSel) := by
  rw [parseFragmentWith_eq]
  exact Spec.seq (spec_punct .spread) fun _ _ p1 => Spec.peek fun pk => Spec.ite_same
    (fun _ => Spec.forget <| Spec.seq0 spec_peekPos_eats fun pos => Spec.seq spec_parseFragmentName fun name _ p2 =>
      Spec.seq (spec_parseDirectives n false) fun dirs _ p3 =>
      Spec.ret _ ⟨(L_selection (.spread name dirs pos) p2.2).cast (by simp [printSelection, p1, p2.1, p3.1]) rfl, p2.2, p3.2.2⟩)
    (fun _ => Spec.forget <| Spec.seq0 spec_peekPos_eats fun pos => Spec.peek fun t => Spec.ite_same
      (fun hk => Spec.next_peeked (by rw [hk.1]; decide) (by rw [hk.1]; decide) fun _ => Spec.seq spec_parseName' fun tc _ p2 =>
        Spec.last (spec_inlineTail hsel n pos tc) fun _ _ ⟨ds, ss, uss, e, q1, q2, q3⟩ _ _ => by
          obtain ⟨t', rfl, k1, rfl, ok⟩ := p2
          refine e ▸ ⟨(derives_inline t'.value ds ss pos q2.2.2.1).cast ?_ rfl, ⟨q2.1, q2.2.1⟩, q3, q2.2.2.2.2⟩
          simp [p1, kwTok hk.1 hk.2, q1, ok.2.2 k1, ofToken_name k1])
      (fun _ => Spec.forget <| Spec.last (spec_inlineTail hsel n pos []) fun _ _ ⟨ds, ss, uss, e, q1, q2, q3⟩ =>
        e ▸ ⟨(derives_inline [] ds ss pos q2.2.2.1).cast (by simp [p1, q1]) rfl, ⟨q2.1, q2.2.1⟩, q3, q2.2.2.2.2⟩))

theorem spec_parseSelection : ∀ n, Spec (parseSelection n) (Eats PSel)
  | 0 => Spec.of_dead (outOfFuel_dead _)
  | n + 1 => by
    unfold parseSelection
    exact Spec.seq0 spec_peek_eats fun t => Spec.ite_same (fun _ => spec_parseFragmentWith (spec_parseSelection n) (n + 1))
      (fun _ => spec_parseFieldWith (spec_parseSelection n) (n + 1))

theorem spec_parseRequiredSelectionSet (n : Nat) : Spec (parseRequiredSelectionSet n) (Eats PSelSet) :=
  spec_parseRequiredSelectionSetWith (spec_parseSelection n) n


theorem derives_shorthand (ss : Selections) (pos : Pos) {tsSS : List Tok}
    (hss : Derives gql (.nt .selectionSet) tsSS (printSelectionSet ss)) :
    Derives gql (.nt .operationDefinition) tsSS
      (printOperation { op := kwQuery, name := [], vars := [], dirs := [], sel := ss, pos := pos }) := by
  have hbody := Derives.altR (g := gql)
    (a := (.nt .operationType : Sym NT).seq ((Sym.opt (.nt .name)).seq ((Sym.opt (.nt .variableDefinitions)).seq
      ((Sym.opt (.nt (.directives false))).seq (.nt .selectionSet))))) hss
  refine (Derives.nt (n := NT.operationDefinition) (Derives.canon (f := dropBareQuery) hbody)).cast rfl ?_
  simp [printOperation, OperationDef.isBare, kwQuery, printSelectionSet, dropBareQuery_brace]

theorem spec_parseOperationType : Spec parseOperationType (fun op a a' => a.pk = true →
    ∃ t, Ate a a' [t] ∧ Tok.ofToken t = tName op ∧ (op = str "query" ∨ op = str "mutation" ∨ op = str "subscription")) := by
  unfold parseOperationType
  refine (Spec.bind (spec_next.and spec_next_head) fun tok => Spec.ite (fun _ => Spec.pure kwQuery) fun _ =>
    Spec.ite (fun _ => Spec.pure kwMutation) fun _ => Spec.ite (fun _ => Spec.pure kwSubscription) fun _ =>
      Spec.of_dead_bind (R := fun _ _ _ => False) (failAt_dead _ _)).mono ?_
  rintro op a a'' hne ⟨tok, a1, ⟨hn, hh⟩, h⟩ hpk
  have eat : ∀ {v : Bytes}, tok.kind = .name ∧ tok.value = v → Ate a a1 [tok] ∧ Tok.ofToken tok = tName v := fun hc =>
    ⟨(next_eats hne hpk (hh hpk ▸ hc.1) (by decide) (by decide) hn).2.1, by simp [Tok.ofToken, tName, hc.1, hc.2]⟩
  rcases h with ⟨hc, rfl, rfl⟩ | ⟨_, ⟨hc, rfl, rfl⟩ | ⟨_, ⟨hc, rfl, rfl⟩ | ⟨_, hf⟩⟩⟩
  · exact ⟨tok, (eat hc).1, (eat hc).2, .inl rfl⟩
  · exact ⟨tok, (eat hc).1, (eat hc).2, .inr (.inl rfl)⟩
  · exact ⟨tok, (eat hc).1, (eat hc).2, .inr (.inr rfl)⟩
  · exact hf.elim

def POp (o : OperationDef) (u : List Token) : Prop :=
  (∃ t rest, u = t :: rest ∧ o.pos.start = t.start) ∧
    Derives gql (.nt .operationDefinition) (tk u) (printOperation o) ∧ WFOperation o

/-- the part of an operation definition after the name -/
def opTail (n : Nat) (pos : Pos) (op : Operation) (name : Name) : Prog OperationDef := do
  let vars ← parseVariableDefinitions n
  let dirs ← parseDirectives n false
  let ss ← parseRequiredSelectionSet n
  pure { op := op, name := name, vars := vars, dirs := dirs, sel := ss, pos := pos }

theorem parseOperationDefinition_eq (n : Nat) :
    parseOperationDefinition n = (do
      let t ← peek
      if t.kind = .braceL then do
        let pos ← peekPos
        let ss ← parseRequiredSelectionSet n
        pure { op := kwQuery, name := [], vars := [], dirs := [], sel := ss, pos := pos }
      else do
        let pos ← peekPos
        let op ← parseOperationType
        let t ← peek
        if t.kind = .name then do
          let tk ← next
          opTail n pos op tk.value
        else opTail n pos op []) := rfl

theorem spec_opTail (n : Nat) (pos : Pos) (op : Operation) (name : Name) :
    Spec (opTail n pos op name) (Eats fun o u => ∃ vars dirs ss uss,
      o = { op := op, name := name, vars := vars, dirs := dirs, sel := ss, pos := pos } ∧
      tk u = printVarDefs vars ++ (printDirectives dirs ++ tk uss) ∧ (∀ v ∈ vars, WFVarDef v) ∧ PSelSet ss uss ∧ OpOK o) := by
  unfold opTail
  exact Spec.seq (spec_parseVariableDefinitions n) fun vars _ p1 => Spec.seq (spec_parseDirectives n false) fun dirs _ p2 =>
    Spec.seq (spec_parseRequiredSelectionSet n) fun ss u3 p3 => Spec.ret _
      ⟨vars, dirs, ss, u3, rfl, by simp [p1.1, p2.1], p1.2.1, p3, p1.2.2, p2.2.2, p3.2.2.2.2⟩

/-- `Name?` and the rest of an operation definition -/
theorem spec_opNameTail (n : Nat) (pos : Pos) (op : Operation) :
    Spec (do
      let t ← peek
      if t.kind = .name then do
        let tk ← next
        opTail n pos op tk.value
      else opTail n pos op []) (Eats fun o u => (op = str "query" ∨ op = str "mutation" ∨ op = str "subscription") →
        o.pos = pos ∧ Derives gql (.nt .operationDefinition) (tName op :: tk u) (printOperation o) ∧ WFOperation o ∧ OpOK o) := by
  have fin : ∀ (name : Name) (pre : List Tok), pre = (if name = [] then [] else [tName name]) → ∀ o u, (∃ vars dirs ss uss,
      o = { op := op, name := name, vars := vars, dirs := dirs, sel := ss, pos := pos } ∧
      tk u = printVarDefs vars ++ (printDirectives dirs ++ tk uss) ∧ (∀ v ∈ vars, WFVarDef v) ∧ PSelSet ss uss ∧ OpOK o) →
      (op = str "query" ∨ op = str "mutation" ∨ op = str "subscription") →
      o.pos = pos ∧ Derives gql (.nt .operationDefinition) (tName op :: (pre ++ tk u)) (printOperation o) ∧ WFOperation o ∧ OpOK o := by
    rintro name _ rfl _ u ⟨vars, dirs, ss, uss, rfl, q1, q2, q3, q4⟩ hop
    exact ⟨rfl, (derives_operation ⟨op, name, vars, dirs, ss, pos⟩ hop q2 q3.2.2.1).cast (by simp [q1]) rfl, ⟨hop, q2, q3.1, q3.2.1⟩, q4⟩
  exact Spec.peek fun t => Spec.ite_same
    (fun hk => Spec.next_peeked (by rw [hk]; decide) (by rw [hk]; decide) fun x =>
      Spec.last (spec_opTail n pos op x.value) fun o u h e ok => by
        subst e
        simpa using fin x.value [Tok.ofToken x] (by simp [ok.2.2 hk, ofToken_name hk]) o u h)
    (fun _ => Spec.forget <| Spec.last (spec_opTail n pos op []) fun o u h => by simpa using fin [] [] rfl o u h)

theorem spec_parseOperationDefinition (n : Nat) :
    Spec (parseOperationDefinition n) (Eats fun o u => POp o u ∧ OpOK o) := by
  rw [parseOperationDefinition_eq]
  refine Spec.peek fun t => Spec.ite_same
    (fun _ => Spec.forget <| Spec.peekPos fun pos => Spec.seq (spec_parseRequiredSelectionSet n) fun ss u p =>
      Spec.ret _ fun hpos => ?_)
    (fun _ => Spec.forget ?_)
  · cases u with
    | nil => exact absurd rfl p.2.2.2.1
    | cons t1 rest =>
      exact ⟨⟨⟨t1, _, rfl, hpos _ _ rfl⟩, by simpa using derives_shorthand ss pos p.2.2.1, .inl rfl, by simp, p.1, p.2.1⟩,
        nofun, nofun, p.2.2.2.2⟩
  · refine (Spec.bind spec_peekPos fun pos => Spec.bind spec_parseOperationType fun op => spec_opNameTail n pos op).mono ?_
    rintro o a a'' _ ⟨pos, a1, ⟨rfl, hpos⟩, op, a2, hop, u, hu, q⟩
    obtain ⟨t1, e1, e2, e3⟩ := hop rfl
    obtain ⟨rfl, q3, q4, q5⟩ := q e3
    exact ⟨t1 :: u, (Ate.peeked a).trans (e1.trans hu), ⟨⟨t1, u, rfl, by rw [hpos]; exact congrArg Token.start e1.head⟩,
      q3.cast (by simp [e2]) rfl, q4⟩, q5⟩

def PFrag (f : FragmentDef) (u : List Token) : Prop :=
  (∃ t rest, u = t :: rest ∧ f.pos.start = t.start) ∧
    Derives gql (.nt .fragmentDefinition) (tk u) (printFragment f) ∧ WFFragment f

theorem spec_parseFragmentDefinition (n : Nat) : Spec (parseFragmentDefinition n) (Eats fun f u => PFrag f u ∧ FragOK f) := by
  unfold parseFragmentDefinition
  refine Spec.peekPos fun pos => Spec.seq (spec_keyword "fragment") fun _ _ p1 =>
    Spec.seq spec_parseFragmentName fun name _ p2 => Spec.seq (spec_parseVariableDefinitions n) fun vars _ p3 =>
    Spec.seq (spec_keyword "on") fun _ _ p4 => Spec.seq spec_parseName fun tc _ p5 =>
    Spec.seq (spec_parseDirectives n false) fun dirs _ p6 => Spec.seq (spec_parseRequiredSelectionSet n) fun ss _ p7 =>
    Spec.ret _ fun hpos => ?_
  refine ⟨⟨first_pos (Eq.symm ?e) hpos, (derives_fragment ⟨name, vars, tc, dirs, ss, pos⟩ p2.2 p3.2.1 p7.2.2.1).cast ?e rfl,
    p2.2, p3.2.1, p7.1, p7.2.1⟩, p3.2.2, p6.2.2, p7.2.2.2.2⟩
  simp [p1, p2.1, p3.1, p4, p5, p6.1]


abbrev Def := OperationDef ⊕ FragmentDef

def PDef : Def → List Token → Prop
  | .inl o, u => POp o u
  | .inr f, u => PFrag f u

def opsOf : List Def → List OperationDef
  | [] => []
  | .inl o :: r => o :: opsOf r
  | .inr _ :: r => opsOf r

def fragsOf : List Def → List FragmentDef
  | [] => []
  | .inl _ :: r => fragsOf r
  | .inr f :: r => f :: fragsOf r

/-- what the document loop establishes: the definitions `defs` (in source order) were parsed one
    after the other, the operations were appended to `doc.ops` and the fragments to `doc.frags`,
    and the loop stopped with the look-ahead on the EOF token -/
def DocRel (doc : QueryDoc) : QueryDoc → AS → AS → Prop := fun d a a' =>
  ∃ defs used, Ate a a' used ∧ a'.pk = true ∧ a'.σ.head.kind = .eof ∧
    d.ops = doc.ops ++ opsOf defs ∧ d.frags = doc.frags ++ fragsOf defs ∧ Many PDef defs used

theorem DocRel.peeked {doc d : QueryDoc} {a a' : AS} (h : DocRel doc d { a with pk := true } a') : DocRel doc d a a' := by
  obtain ⟨defs, used, g1, g⟩ := h
  exact ⟨defs, used, by simpa using (Ate.peeked a).trans g1, g⟩

/-- what the document loop establishes for any property `PD` of the single definitions, as a property of the consumed
    tokens and the state reached -/
def DocLoopOf (PD : Def → List Token → Prop) (doc d : QueryDoc) (used : List Token) (a' : AS) : Prop :=
  a'.pk = true ∧ a'.σ.head.kind = .eof ∧
    ∃ defs, d.ops = doc.ops ++ opsOf defs ∧ d.frags = doc.frags ++ fragsOf defs ∧ Many PD defs used

theorem queryDocLoop_defs {PD : Def → List Token → Prop} {m : Nat}
    (hop : Spec (parseOperationDefinition m) (Eats fun o u => PD (.inl o) u))
    (hfrag : Spec (parseFragmentDefinition m) (Eats fun f u => PD (.inr f) u)) :
    ∀ (n : Nat) (doc : QueryDoc), Spec (queryDocLoop m n doc) (EatsTo (DocLoopOf PD doc))
  | 0, doc => Spec.of_dead (outOfFuel_dead _)
  | n + 1, doc => by
    have op : Spec (parseOperationDefinition m >>= fun od => queryDocLoop m n { doc with ops := doc.ops ++ [od] })
        (EatsTo (DocLoopOf PD doc)) :=
      Spec.seq hop fun od _ p => Spec.last_to (queryDocLoop_defs hop hfrag n _)
        fun _ _ _ ⟨g2, g3, defs, g4, g5, g6⟩ =>
          ⟨g2, g3, .inl od :: defs, by simpa [opsOf] using g4, by simpa [fragsOf] using g5, .cons (x := (.inl od : Def)) p g6⟩
    have frag : Spec (parseFragmentDefinition m >>= fun fd => queryDocLoop m n { doc with frags := doc.frags ++ [fd] })
        (EatsTo (DocLoopOf PD doc)) :=
      Spec.seq hfrag fun fd _ p => Spec.last_to (queryDocLoop_defs hop hfrag n _)
        fun _ _ _ ⟨g2, g3, defs, g4, g5, g6⟩ =>
          ⟨g2, g3, .inr fd :: defs, by simpa [opsOf] using g4, by simpa [fragsOf] using g5, .cons (x := (.inr fd : Def)) p g6⟩
    unfold queryDocLoop
    refine Spec.peek fun t => Spec.ite_same
      (fun _ => Spec.forget <| Spec.hasErr_ite <| Spec.seq0 spec_peekPos_eats fun _ => Spec.seq0 spec_peek_eats fun t1 => ?_)
      (fun hk => Spec.ret_peeked doc fun a hpk hh => ⟨hpk, by simpa [hh] using hk, [], by simp [opsOf], by simp [fragsOf], .nil⟩)
    split
    · exact Spec.seq0 spec_peek_eats fun t2 => Spec.ite_same (fun _ => op) fun _ =>
        Spec.ite_same (fun _ => frag) fun _ => Spec.of_dead_bind unexpectedError_dead
    · exact op
    · exact Spec.of_dead_bind unexpectedError_dead

def PDefOK : Def → List Token → Prop
  | .inl o, u => POp o u ∧ OpOK o
  | .inr f, u => PFrag f u ∧ FragOK f

end Gql.Parser
