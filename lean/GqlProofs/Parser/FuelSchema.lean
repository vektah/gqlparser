import GqlProofs.Parser.FuelQuery
/-
  `Good` (and `Progress` where a loop needs it) for every definition of `Parser/Schema.lean`, and
  the schema entry points.
-/
namespace Gql.Parser
open Gql Gql.Lexer

variable {L n : Nat}

theorem Good.parseDescription : Good L n parseDescription :=
  Good.bind Good.peek fun _ => Good.ite (Good.pure _) (Good.bind Good.next fun _ => Good.pure _)

theorem Good.parseOperationTypeDefinition : Good L n parseOperationTypeDefinition :=
  Good.bind Good.peekPos fun _ => Good.bind Good.parseOperationType fun _ => Good.bind (Good.expect _) fun _ =>
    Good.bind Good.parseName fun _ => Good.pure _
theorem Progress.parseOperationTypeDefinition : Progress L parseOperationTypeDefinition :=
  Progress.bind_right _ fun _ => Progress.bind_left _ Progress.parseOperationType

theorem good_opTypes : Good L n (pSome .braceL .braceR n parseOperationTypeDefinition) :=
  Good.pSome _ _ (Good.parseOperationTypeDefinition (n := n)) Progress.parseOperationTypeDefinition

theorem Good.parseSchemaDefinition (d : Bytes) : Good L n (parseSchemaDefinition n d) :=
  Good.bind (Good.expectKeyword _) fun _ => Good.bind Good.peekPos fun _ => Good.bind (Good.parseDirectives _) fun _ =>
    Good.bind Good.peek fun _ => Good.ite (Good.bind Good.unexpectedError fun _ => Good.pure _)
      (Good.bind good_opTypes fun _ => Good.pure _)

/-- the `x (sep x)*` lists: implements, union members, directive locations -/
theorem good_sepList {α : Type} (sep : Kind) {item : Prog α} (hg : Good L n item) (first : α)
    (hsep : sep ≠ .eof := by decide) :
    Good L n (do let more ← sepLoop sep item n [first]; pure more.reverse) :=
  Good.bind (Good.sepLoop sep hg hsep n n _ (Nat.le_refl _) (Nat.le_refl _)) fun _ => Good.pure _

theorem Good.parseImplementsInterfaces {L n : Nat} : Good L n (parseImplementsInterfaces n) :=
  Good.bind Good.peek fun _ => Good.ite
    (Good.bind Good.next fun _ => Good.bind (Good.skip _) fun _ => Good.bind Good.parseName fun _ =>
      good_sepList .amp Good.parseName _)
    (Good.pure _)

theorem Good.parseUnionMemberTypes {L n : Nat} : Good L n (parseUnionMemberTypes n) :=
  Good.bind (Good.skip _) fun _ => Good.ite
    (Good.bind (Good.skip _) fun _ => Good.bind Good.parseName fun _ => good_sepList .pipe Good.parseName _)
    (Good.pure _)

theorem Good.parseDirectiveLocation {L n : Nat} : Good L n parseDirectiveLocation :=
  Good.bind (Good.expect _) fun _ => Good.ite (Good.pure _) (Good.bind (Good.unexpectedToken _) fun _ => Good.pure _)

theorem Good.parseDirectiveLocations {L n : Nat} : Good L n (parseDirectiveLocations n) :=
  Good.bind (Good.skip _) fun _ => Good.bind Good.parseDirectiveLocation fun _ =>
    good_sepList .pipe Good.parseDirectiveLocation _


theorem good_inputValueTail {α : Type} {k : GType → Option Value → List Directive → α} :
    Good L n (do
      let ty ← parseTypeReference n
      let dv ← do
        if ← skip .equals then
          let v ← parseValueLiteral n true
          pure (Option.some v)
        else pure none
      let dirs ← parseDirectives n true
      pure (k ty dv dirs)) := by
  refine Good.bind (Good.parseTypeReference n) fun _ => Good.bind (Good.skip _) fun _ => Good.ite
    (Good.bind (Good.parseValueLiteral _) fun _ => Good.bind (Good.pure _) fun _ => ?_)
    (Good.bind (Good.pure _) fun _ => ?_)
  all_goals exact Good.bind (Good.parseDirectives _) fun _ => Good.pure _

theorem Good.parseArgumentDef : Good L n (parseArgumentDef n) :=
  Good.bind Good.peekPos fun _ => Good.bind Good.parseDescription fun _ => Good.bind Good.peek fun _ =>
    Good.bind Good.parseName fun _ => Good.bind (Good.expect _) fun _ => good_inputValueTail
theorem Progress.parseArgumentDef (n : Nat) : Progress L (parseArgumentDef n) :=
  Progress.bind_right _ fun _ => Progress.bind_right _ fun _ => Progress.bind_right _ fun _ =>
    Progress.bind_left _ Progress.parseName

theorem Good.parseArgumentDefs : Good L n (parseArgumentDefs n) :=
  Good.pSome _ _ Good.parseArgumentDef (Progress.parseArgumentDef n)

theorem Good.parseFieldDefinition : Good L n (parseFieldDefinition n) :=
  Good.bind Good.peekPos fun _ => Good.bind Good.parseDescription fun _ => Good.bind Good.peek fun _ =>
    Good.bind Good.parseName fun _ => Good.bind Good.parseArgumentDefs fun _ => Good.bind (Good.expect _) fun _ =>
    Good.bind (Good.parseTypeReference n) fun _ => Good.bind (Good.parseDirectives _) fun _ => Good.pure _
theorem Progress.parseFieldDefinition (n : Nat) : Progress L (parseFieldDefinition n) :=
  Progress.bind_right _ fun _ => Progress.bind_right _ fun _ => Progress.bind_right _ fun _ =>
    Progress.bind_left _ Progress.parseName

theorem Good.parseFieldsDefinition : Good L n (parseFieldsDefinition n) :=
  Good.pSome _ _ Good.parseFieldDefinition (Progress.parseFieldDefinition n)

theorem Good.parseInputValueDef : Good L n (parseInputValueDef n) :=
  Good.bind Good.peekPos fun _ => Good.bind Good.parseDescription fun _ => Good.bind Good.peek fun _ =>
    Good.bind Good.parseName fun _ => Good.bind (Good.expect _) fun _ => good_inputValueTail
theorem Progress.parseInputValueDef (n : Nat) : Progress L (parseInputValueDef n) :=
  Progress.bind_right _ fun _ => Progress.bind_right _ fun _ => Progress.bind_right _ fun _ =>
    Progress.bind_left _ Progress.parseName

theorem Good.parseInputFieldsDefinition : Good L n (parseInputFieldsDefinition n) :=
  Good.pSome _ _ Good.parseInputValueDef (Progress.parseInputValueDef n)

theorem Good.parseEnumValueDefinition : Good L n (parseEnumValueDefinition n) :=
  Good.bind Good.peekPos fun _ => Good.bind Good.parseDescription fun _ => Good.bind Good.peek fun _ =>
    Good.bind Good.parseName fun _ => Good.bind (Good.parseDirectives _) fun _ => Good.pure _
theorem Progress.parseEnumValueDefinition (n : Nat) : Progress L (parseEnumValueDefinition n) :=
  Progress.bind_right _ fun _ => Progress.bind_right _ fun _ => Progress.bind_right _ fun _ =>
    Progress.bind_left _ Progress.parseName

theorem Good.parseEnumValuesDefinition : Good L n (parseEnumValuesDefinition n) :=
  Good.pSome _ _ Good.parseEnumValueDefinition (Progress.parseEnumValueDefinition n)


theorem good_defHead {α : Type} (kw : Bytes) {k : Pos → Name → Prog α} (hk : ∀ pos name, Good L n (k pos name)) :
    Good L n (do let _ ← expectKeyword kw; let pos ← peekPos; let name ← parseName; k pos name) :=
  Good.bind (Good.expectKeyword _) fun _ => Good.bind Good.peekPos fun _ => Good.bind Good.parseName fun _ => hk _ _

theorem Good.parseTypeSystemDefinition (d : Bytes) : Good L n (parseTypeSystemDefinition n d) :=
  Good.bind Good.peek fun _ => Good.ite (Good.bind Good.unexpectedError fun _ => Good.pure _) <|
  Good.ite (good_defHead _ fun _ _ => Good.bind (Good.parseDirectives _) fun _ => Good.pure _) <|
  Good.ite (good_defHead _ fun _ _ => Good.bind Good.parseImplementsInterfaces fun _ =>
    Good.bind (Good.parseDirectives _) fun _ => Good.bind Good.parseFieldsDefinition fun _ => Good.pure _) <|
  Good.ite (good_defHead _ fun _ _ => Good.bind Good.parseImplementsInterfaces fun _ =>
    Good.bind (Good.parseDirectives _) fun _ => Good.bind Good.parseFieldsDefinition fun _ => Good.pure _) <|
  Good.ite (good_defHead _ fun _ _ => Good.bind (Good.parseDirectives _) fun _ =>
    Good.bind Good.parseUnionMemberTypes fun _ => Good.pure _) <|
  Good.ite (good_defHead _ fun _ _ => Good.bind (Good.parseDirectives _) fun _ =>
    Good.bind Good.parseEnumValuesDefinition fun _ => Good.pure _) <|
  Good.ite (good_defHead _ fun _ _ => Good.bind (Good.parseDirectives _) fun _ =>
    Good.bind Good.parseInputFieldsDefinition fun _ => Good.pure _)
    (Good.bind Good.unexpectedError fun _ => Good.pure _)

/-- every definition starts with its keyword -/
theorem Progress.parseTypeSystemDefinition (n : Nat) (d : Bytes) : Progress L (parseTypeSystemDefinition n d) :=
  Progress.bind_right _ fun _ => Progress.ite (Progress.bind_left _ Progress.unexpectedError) <|
  Progress.ite (Progress.bind_left _ (Progress.expectKeyword _)) <|
  Progress.ite (Progress.bind_left _ (Progress.expectKeyword _)) <|
  Progress.ite (Progress.bind_left _ (Progress.expectKeyword _)) <|
  Progress.ite (Progress.bind_left _ (Progress.expectKeyword _)) <|
  Progress.ite (Progress.bind_left _ (Progress.expectKeyword _)) <|
  Progress.ite (Progress.bind_left _ (Progress.expectKeyword _)) (Progress.bind_left _ Progress.unexpectedError)

theorem Good.parseSchemaExtension : Good L n (parseSchemaExtension n) :=
  Good.bind (Good.expectKeyword _) fun _ => Good.bind Good.peekPos fun _ => Good.bind (Good.parseDirectives _) fun _ =>
    Good.bind good_opTypes fun _ => Good.ite (Good.bind Good.unexpectedError fun _ => Good.pure _) (Good.pure _)

theorem Good.parseScalarTypeExtension : Good L n (parseScalarTypeExtension n) :=
  good_defHead _ fun _ _ => Good.bind (Good.parseDirectives _) fun _ =>
    Good.ite (Good.bind Good.unexpectedError fun _ => Good.pure _) (Good.pure _)

theorem Good.parseObjectTypeExtension : Good L n (parseObjectTypeExtension n) :=
  good_defHead _ fun _ _ => Good.bind Good.parseImplementsInterfaces fun _ => Good.bind (Good.parseDirectives _) fun _ =>
    Good.bind Good.parseFieldsDefinition fun _ =>
    Good.ite (Good.bind Good.unexpectedError fun _ => Good.pure _) (Good.pure _)

theorem Good.parseInterfaceTypeExtension {L n : Nat} : Good L n (parseInterfaceTypeExtension n) :=
  good_defHead _ fun _ _ => Good.bind Good.parseImplementsInterfaces fun _ => Good.bind (Good.parseDirectives _) fun _ =>
    Good.bind Good.parseFieldsDefinition fun _ =>
    Good.ite (Good.bind Good.unexpectedError fun _ => Good.pure _) (Good.pure _)

theorem Good.parseUnionTypeExtension : Good L n (parseUnionTypeExtension n) :=
  good_defHead _ fun _ _ => Good.bind (Good.parseDirectives _) fun _ => Good.bind Good.parseUnionMemberTypes fun _ =>
    Good.ite (Good.bind Good.unexpectedError fun _ => Good.pure _) (Good.pure _)

theorem Good.parseEnumTypeExtension : Good L n (parseEnumTypeExtension n) :=
  good_defHead _ fun _ _ => Good.bind (Good.parseDirectives _) fun _ => Good.bind Good.parseEnumValuesDefinition fun _ =>
    Good.ite (Good.bind Good.unexpectedError fun _ => Good.pure _) (Good.pure _)

theorem Good.parseInputObjectTypeExtension {L n : Nat} : Good L n (parseInputObjectTypeExtension n) :=
  good_defHead _ fun _ _ => Good.bind (Good.parseDirectives _) fun _ => Good.bind Good.parseInputFieldsDefinition fun _ =>
    Good.ite (Good.bind Good.unexpectedError fun _ => Good.pure _) (Good.pure _)

theorem Good.parseTypeSystemExtension (doc : SchemaDoc) : Good L n (parseTypeSystemExtension n doc) :=
  Good.bind (Good.expectKeyword _) fun _ => Good.bind Good.peek fun _ =>
  Good.ite (Good.bind Good.parseSchemaExtension fun _ => Good.pure _) <|
  Good.ite (Good.bind Good.parseScalarTypeExtension fun _ => Good.pure _) <|
  Good.ite (Good.bind Good.parseObjectTypeExtension fun _ => Good.pure _) <|
  Good.ite (Good.bind Good.parseInterfaceTypeExtension fun _ => Good.pure _) <|
  Good.ite (Good.bind Good.parseUnionTypeExtension fun _ => Good.pure _) <|
  Good.ite (Good.bind Good.parseEnumTypeExtension fun _ => Good.pure _) <|
  Good.ite (Good.bind Good.parseInputObjectTypeExtension fun _ => Good.pure _)
    (Good.bind Good.unexpectedError fun _ => Good.pure _)

theorem Good.parseDirectiveDefinition {L n : Nat} (d : Bytes) : Good L n (parseDirectiveDefinition n d) := by
  refine Good.bind (Good.expectKeyword _) fun _ => Good.bind (Good.expect _) fun _ => Good.bind Good.peekPos fun _ =>
    Good.bind Good.parseName fun _ => Good.bind Good.parseArgumentDefs fun _ => Good.bind Good.peek fun _ => Good.ite
      (Good.bind (Good.skip _) fun _ => Good.bind (Good.pure _) fun _ => ?_) (Good.bind (Good.pure _) fun _ => ?_)
  all_goals
    exact Good.bind (Good.expectKeyword _) fun _ => Good.bind Good.parseDirectiveLocations fun _ => Good.pure _

theorem Progress.parseDirectiveDefinition {L : Nat} (n : Nat) (d : Bytes) : Progress L (parseDirectiveDefinition n d) :=
  Progress.bind_left _ (Progress.expectKeyword _)


theorem Good.parseOptionalDescription : Good L n parseOptionalDescription :=
  Good.bind Good.peek fun _ => Good.ite (Good.bind Good.parseDescription fun _ => Good.pure _)
    (Good.bind Good.peek fun _ => Good.ite (Good.bind Good.parseDescription fun _ => Good.pure _) (Good.pure _))

theorem Good.schemaDocLoop {m : Nat} : ∀ (k j : Nat) (doc : SchemaDoc), j ≤ k → j ≤ m → Good L j (schemaDocLoop m k doc)
  | _, 0, _, _, _ => Good.zero _
  | k + 1, j + 1, doc, hk, hm => by
    have ih (doc) : Good L j (Gql.Parser.schemaDocLoop m k doc) := Good.schemaDocLoop k j doc (by omega) (by omega)
    unfold Gql.Parser.schemaDocLoop
    refine Good.bind Good.peek fun _ => Good.ite (Good.hasErr_bind fun e he => Good.dite (fun _ => Good.pure _) fun hc =>
      Good.bind Good.parseOptionalDescription fun x => ?_) (Good.pure _)
    have hj : 0 < j := by have := he (by simpa using hc); omega
    exact Good.bind Good.peek fun _ => Good.ite (Good.bind Good.unexpectedError fun _ => Good.pure _) <|
      Good.bind Good.peek fun _ =>
      Good.ite (Good.bind_lower (Progress.parseTypeSystemDefinition m _) ((Good.parseTypeSystemDefinition _).mono hm)
        (fun _ => ih _) hj) <|
      Good.ite (Good.bind_lower (Progress.bind_left _ (Progress.expectKeyword _)) ((Good.parseSchemaDefinition _).mono hm)
        (fun _ => ih _) hj) <|
      Good.ite (Good.bind_lower (Progress.parseDirectiveDefinition m _) ((Good.parseDirectiveDefinition _).mono hm)
        (fun _ => ih _) hj) <|
      Good.ite (Good.bind (Good.ite (Good.bind Good.getPrev fun _ => Good.unexpectedToken _) (Good.pure _)) fun _ =>
        Good.bind_lower (Progress.bind_left _ (Progress.expectKeyword _)) ((Good.parseTypeSystemExtension _).mono hm)
          (fun _ => ih _) hj)
        (Good.bind Good.unexpectedError fun _ => Good.pure _)

theorem Good.parseSchemaDocument {L n : Nat} : Good L n (parseSchemaDocument n) :=
  Good.bind Good.peekPos fun _ => Good.schemaDocLoop n n _ (Nat.le_refl _) (Nat.le_refl _)

theorem runSchema_oof (L src : Nat) (inp : Bytes) : (runSchema L src inp).2.oof = false :=
  Good.parseSchemaDocument.run_init src

end Gql.Parser
