import GqlProofs.Parser.Measure
import GqlProofs.Parser.Pulls
/-
  The token stream ahead of a parser state.  `rawS rest c` is the sequence of tokens (comments included) that
  repeated `readToken` calls produce from the lexer state `(rest, c)`, ending at the EOF token or at the first
  lexer error; `PState.raw` puts the look-ahead token in front of it; `Stream.sig` drops the comments.
  `abs s` is what the proofs about live runs see of a state: whether the look-ahead is filled, the significant
  tokens ahead, and `tokenCount + number of raw tokens ahead` (a constant of every run that never consumes the
  EOF token).  `peek_abs` / `next_abs` (at token limit 0) say what `peek` and `next` do to `abs`;
  `lexAll_done` ties `rawS` to `Lexer.lexAll`.
-/
namespace Gql.Parser
open Gql Gql.Lexer

/-- what every lexer token satisfies: it is not `Invalid`, a kind without text has no value, a Name is not empty -/
def TokOK (t : Token) : Prop :=
  t.kind ≠ .invalid ∧ (t.kind.valued = false → t.value = []) ∧ (t.kind = .name → t.value ≠ [])

inductive Stream
  | eof (t : Token)
  | err (e : LexErr)
  | cons (t : Token) (σ : Stream)
  deriving Inhabited

namespace Stream

def head : Stream → Token
  | .eof t => t
  | .err e => invalidTok e
  | .cons t _ => t

def len : Stream → Nat
  | .cons _ σ => σ.len + 1
  | _ => 0

def sig : Stream → Stream
  | .cons t σ => if t.kind = .comment then σ.sig else .cons t σ.sig
  | x => x

def app : List Token → Stream → Stream
  | [], σ => σ
  | t :: ts, σ => .cons t (app ts σ)

def toks : Stream → List Token
  | .cons t σ => t :: σ.toks
  | _ => []

def term : Stream → Stream
  | .cons _ σ => σ.term
  | x => x

/-- the tokens are lexer tokens (`TokOK`), and none before the terminator is an EOF token -/
def NoEof : Stream → Prop
  | .cons t σ => (t.kind ≠ .eof ∧ TokOK t) ∧ NoEof σ
  | .eof t => t.kind = .eof
  | .err _ => True

theorem app_nil (σ : Stream) : app [] σ = σ := rfl
theorem app_cons (t : Token) (ts : List Token) (σ : Stream) : app (t :: ts) σ = .cons t (app ts σ) := rfl

theorem app_append (a b : List Token) (σ : Stream) : app (a ++ b) σ = app a (app b σ) := by
  induction a with
  | nil => rfl
  | cons t a ih => exact congrArg (Stream.cons t) ih

theorem eq_app_toks (σ : Stream) : σ = app σ.toks σ.term := by
  induction σ with
  | cons t σ ih => exact congrArg (Stream.cons t) ih
  | _ => rfl

theorem len_eq_toks (σ : Stream) : σ.len = σ.toks.length := by
  induction σ with
  | cons t σ ih => exact congrArg (· + 1) ih
  | _ => rfl

theorem sig_toks (σ : Stream) : σ.sig.toks = σ.toks.filter (fun t => t.kind != .comment) := by
  induction σ with
  | cons t σ ih => simp only [sig, toks]; by_cases h : t.kind = .comment <;> simp [h, toks, ih]
  | _ => rfl

theorem sig_term (σ : Stream) : σ.sig.term = σ.term := by
  induction σ with
  | cons t σ ih => simp only [sig, term]; split <;> simp [term, ih]
  | _ => rfl

theorem toks_app (ts : List Token) (σ : Stream) : (app ts σ).toks = ts ++ σ.toks := by
  induction ts with
  | nil => rfl
  | cons t ts ih => exact congrArg (t :: ·) ih

theorem term_app (ts : List Token) (σ : Stream) : (app ts σ).term = σ.term := by
  induction ts with
  | nil => rfl
  | cons t ts ih => exact ih

theorem NoEof.sig {σ : Stream} (h : NoEof σ) : NoEof σ.sig := by
  induction σ with
  | cons t σ ih =>
    simp only [Stream.sig]
    split
    · exact ih h.2
    · exact ⟨h.1, ih h.2⟩
  | _ => exact h

theorem NoEof.of_app {ts : List Token} {σ : Stream} (h : NoEof (app ts σ)) : NoEof σ := by
  induction ts with
  | nil => exact h
  | cons t ts ih => exact ih h.2

theorem NoEof.eof_of_head {σ : Stream} (h : NoEof σ) (hk : σ.head.kind = .eof) : ∃ t, σ = .eof t := by
  cases σ with
  | eof t => exact ⟨t, rfl⟩
  | err e => simp [head, invalidTok] at hk
  | cons t σ => exact absurd hk h.1.1

end Stream


def rawS (rest : Bytes) (c : Cur) : Stream :=
  match h : readToken rest c with
  | .err e => .err e
  | .tok t rest' c' => if hk : t.kind = .eof then .eof t else .cons t (rawS rest' c')
termination_by rest.length
decreasing_by
  have := readToken_progress rest c
  rw [h] at this
  exact this.2 hk

theorem rawS_err {rest : Bytes} {c : Cur} {e : LexErr} (h : readToken rest c = .err e) : rawS rest c = .err e := by
  rw [rawS]; split <;> simp_all

theorem rawS_tok {rest : Bytes} {c : Cur} {t : Token} {rest' : Bytes} {c' : Cur}
    (h : readToken rest c = .tok t rest' c') :
    rawS rest c = if t.kind = .eof then .eof t else .cons t (rawS rest' c') := by
  rw [rawS]; split <;> simp_all

theorem rawS_noEof (rest : Bytes) (c : Cur) : (rawS rest c).NoEof := by
  induction rest, c using rawS.induct with
  | case1 rest c e h => rw [rawS_err h]; trivial
  | case2 rest c t rest' c' h hk => rw [rawS_tok h, if_pos hk]; exact hk
  | case3 rest c t rest' c' h hk ih =>
    have ho := readToken_okAt rest c
    rw [h] at ho
    rw [rawS_tok h, if_neg hk]
    exact ⟨⟨hk, ho.2.2.2.1, ho.2.2.1, ho.2.2.2.2⟩, ih⟩

theorem rawS_sorted (rest : Bytes) (c : Cur) :
    (∀ t ∈ (rawS rest c).toks, c.endR ≤ t.start) ∧ (rawS rest c).toks.Pairwise (fun a b => a.start < b.start) := by
  induction rest, c using rawS.induct with
  | case1 rest c e h => rw [rawS_err h]; simp [Stream.toks]
  | case2 rest c t rest' c' h hk => rw [rawS_tok h, if_pos hk]; simp [Stream.toks]
  | case3 rest c t rest' c' h hk ih =>
    have ho := readToken_okAt rest c
    rw [h] at ho
    have hlo := ho.1
    have hlt : t.start < c'.endR := ho.2.1.resolve_left hk
    rw [rawS_tok h, if_neg hk]
    simp only [Stream.toks, List.mem_cons, forall_eq_or_imp, List.pairwise_cons]
    exact ⟨⟨hlo, fun u hu => by have := ih.1 u hu; omega⟩, fun u hu => by have := ih.1 u hu; omega, ih.2⟩

theorem rawS_sig_sorted (rest : Bytes) (c : Cur) : (rawS rest c).sig.toks.Pairwise fun a b => a.start < b.start := by
  rw [Stream.sig_toks]; exact (rawS_sorted rest c).2.filter _


/-- what `lexFuel` returns when it walks the stream with accumulator `acc` -/
def Stream.out : Stream → List Token → LexOut
  | .eof t, acc => .done (t :: acc).reverse
  | .err e, acc => .fail acc.reverse e
  | .cons t σ, acc => σ.out (t :: acc)

theorem lexFuel_rawS (fuel : Nat) (rest : Bytes) (c : Cur) (acc : List Token) (hf : rest.length < fuel) :
    lexFuel fuel rest c acc = (rawS rest c).out acc := by
  induction fuel generalizing rest c acc with
  | zero => omega
  | succ fuel ih =>
    unfold lexFuel
    cases h : readToken rest c with
    | err e => rw [rawS_err h]; rfl
    | tok t rest' c' =>
      rw [rawS_tok h]
      by_cases hk : t.kind = .eof
      · simp [hk, Stream.out]
      · have hp := readToken_progress rest c
        rw [h] at hp
        simp only [hk, ↓reduceIte, Stream.out]
        exact ih _ _ _ (by have := hp.2 hk; omega)

theorem Stream.out_done {σ : Stream} {acc ts : List Token} :
    σ.out acc = .done ts ↔ ∃ t, σ.term = .eof t ∧ ts = acc.reverse ++ σ.toks ++ [t] := by
  induction σ generalizing acc with
  | eof t => simp [Stream.out, Stream.term, Stream.toks, eq_comm]
  | err e => simp [Stream.out, Stream.term]
  | cons u σ ih => simp [Stream.out, Stream.term, Stream.toks, ih]

theorem lexAll_done {inp : Bytes} {ts : List Token} :
    lexAll inp = .done ts ↔ ∃ t, (rawS inp Cur.init).term = .eof t ∧ ts = (rawS inp Cur.init).toks ++ [t] := by
  rw [lexAll, lexFuel_rawS _ _ _ _ (Nat.lt_succ_self _), Stream.out_done]; rfl


/-- the raw tokens (comments included) that `next` has not yet consumed -/
def PState.raw (s : PState) : Stream :=
  if s.peeked then
    match s.peekErr with
    | some e => .err e
    | none => if s.peekTok.kind = .eof then .eof s.peekTok else .cons s.peekTok (rawS s.rest s.cur)
  else rawS s.rest s.cur

/-- what the proofs about live runs see of a parser state -/
structure AS where
  pk : Bool
  σ : Stream
  cnt : Nat

def abs (s : PState) : AS := { pk := s.peeked, σ := s.raw.sig, cnt := s.tokenCount + s.raw.len }

/-- the look-ahead slot is consistent: an error comes with the `Invalid` token, a token is a lexer token;
    `WF` adds that it is no comment, which holds outside `consumeCommentGroup` only -/
def WF' (s : PState) : Prop :=
  s.peeked = true → (∀ e, s.peekErr = some e → s.peekTok = invalidTok e) ∧ (s.peekErr = none → TokOK s.peekTok)
def WF (s : PState) : Prop :=
  s.peeked = true → (∀ e, s.peekErr = some e → s.peekTok = invalidTok e) ∧
    (s.peekErr = none → s.peekTok.kind ≠ .comment ∧ TokOK s.peekTok)

variable {s : PState}

theorem WF.wf' (h : WF s) : WF' s := fun hp => ⟨(h hp).1, fun he => ((h hp).2 he).2⟩

theorem WF.of_not_peeked (h : s.peeked = false) : WF s := fun hp => nomatch h.symm.trans hp

theorem raw_noEof (hw : WF' s) : s.raw.NoEof := by
  unfold PState.raw
  split
  · rename_i hp
    split
    · trivial
    · rename_i he
      split
      · assumption
      · exact ⟨⟨‹_›, (hw hp).2 he⟩, rawS_noEof _ _⟩
  · exact rawS_noEof _ _

theorem abs_noEof (hw : WF s) : (abs s).σ.NoEof := (raw_noEof hw.wf').sig

theorem WF.init (src : Nat) (inp : Bytes) : WF (PState.init src inp) := .of_not_peeked rfl

theorem abs_init (src : Nat) (inp : Bytes) :
    abs (PState.init src inp) = { pk := false, σ := (rawS inp Cur.init).sig, cnt := (rawS inp Cur.init).len } := by
  simp [abs, PState.raw, PState.init]

theorem live_of_mu_le {s s' : PState} (hle : mu s' ≤ mu s) (h : dead s' = false) : dead s = false := by
  cases hd : dead s
  · rfl
  · rw [mu_dead hd] at hle
    rw [dead_of_mu (Nat.le_zero.1 hle)] at h
    cases h

theorem live_of_run {α : Type} {L : Nat} {p : Prog α} (h : dead (run L p s).2 = false) : dead s = false :=
  live_of_mu_le (run_mu_le L p s) h

theorem live_err (h : dead s = false) : s.err = none := by
  simp only [dead, Bool.or_eq_false_iff] at h
  cases he : s.err <;> simp_all

theorem live_oof (h : dead s = false) : s.oof = false := by
  simp [dead] at h; exact h.2

theorem live_isSome (h : dead s = false) : s.err.isSome = false := by
  simp only [dead, Bool.or_eq_false_iff] at h; exact h.1


theorem raw_readPeek (hp : s.peeked = false) : s.readPeek.raw = s.raw := by
  unfold PState.readPeek PState.lexRead
  cases h : readToken s.rest s.cur with
  | err e => simp [PState.raw, hp, rawS_err h]
  | tok t r c => simp [PState.raw, hp, rawS_tok h]

theorem WF'_readPeek (s : PState) : WF' s.readPeek := by
  intro _
  have ho := readToken_okAt s.rest s.cur
  unfold PState.readPeek PState.lexRead
  cases h : readToken s.rest s.cur with
  | err e => exact ⟨fun e he => by cases he; rfl, fun he => nomatch he⟩
  | tok t r c =>
    rw [h] at ho
    exact ⟨fun e he => (nomatch he), fun _ => ⟨ho.2.2.2.1, ho.2.2.1, ho.2.2.2.2⟩⟩

theorem dead_readPeek (s : PState) : dead s.readPeek = dead s := by
  simp only [dead, readPeek_err, readPeek_oof]

theorem WF.of_wf' (hw : WF' s) (hc : s.peekTok.kind ≠ .comment) : WF s :=
  fun hp => ⟨(hw hp).1, fun he => ⟨hc, (hw hp).2 he⟩⟩

/-- one iteration of the comment loop in a filled look-ahead state holding a comment -/
theorem takePeeked_comment (hp : s.peeked = true) (hw : WF' s) (hc : s.peekTok.kind = .comment) :
    s.takePeeked.err = none ∧ s.takePeeked.peeked = false ∧ s.raw = .cons s.peekTok s.takePeeked.raw ∧
    s.takePeeked.tokenCount = s.tokenCount + 1 ∧ s.takePeeked.oof = s.oof := by
  have hne : s.peekErr = none := by
    cases he : s.peekErr with
    | none => rfl
    | some e => rw [(hw hp).1 e he] at hc; cases hc
  refine ⟨by simp [PState.takePeeked, hne], rfl, ?_, rfl, rfl⟩
  simp [PState.raw, hp, hne, hc, PState.takePeeked]

theorem peekNC_unpeeked (he : s.err.isSome = false) (hp : s.peeked = false) :
    s.peekNC = (s.readPeek.peekTok, s.readPeek) := by simp [PState.peekNC, he, hp]

theorem peekNC_peeked (he : s.err.isSome = false) (hp : s.peeked = true) :
    s.peekNC = (s.peekTok, s) := by simp [PState.peekNC, he, hp]

theorem peekNC_abs (hl : dead s = false) (hw : WF' s) :
    s.peekNC.2.peeked = true ∧ s.peekNC.1 = s.peekNC.2.peekTok ∧ s.peekNC.2.raw = s.raw ∧
      s.peekNC.2.tokenCount = s.tokenCount ∧ WF' s.peekNC.2 ∧ dead s.peekNC.2 = false := by
  cases hp : s.peeked
  · rw [peekNC_unpeeked (live_isSome hl) hp]
    exact ⟨rfl, rfl, raw_readPeek hp, readPeek_tc s, WF'_readPeek s, dead_readPeek s ▸ hl⟩
  · rw [peekNC_peeked (live_isSome hl) hp]
    exact ⟨hp, rfl, rfl, rfl, hw, hl⟩

theorem commentLoop_abs (n : Nat) (s : PState) (hl : dead s = false) (hw : WF' s)
    (hlive : dead (commentLoop 0 n s) = false) :
    WF (commentLoop 0 n s) ∧ abs (commentLoop 0 n s) = { abs s with pk := true } := by
  induction n generalizing s with
  | zero => simp [commentLoop, dead] at hlive
  | succ n ih =>
    obtain ⟨k1, k2, k3, k4, k5, k6⟩ := peekNC_abs hl hw
    simp only [commentLoop, live_isSome hl, Bool.false_eq_true, ↓reduceIte, k2] at hlive ⊢
    split at hlive <;> rename_i hc
    · rw [if_pos hc]
      exact ⟨.of_wf' k5 hc, by simp only [abs, k1, k3, k4]⟩
    · rw [if_neg hc]
      simp only [ne_eq, Decidable.not_not] at hc
      obtain ⟨t1, t2, t3, t4, t5⟩ := takePeeked_comment k1 k5 hc
      have hnx : (s.peekNC.2.nextNC 0).2 = s.peekNC.2.takePeeked := by
        simp [PState.nextNC, live_isSome k6, overLimit, k1]
      rw [hnx] at hlive ⊢
      obtain ⟨i1, i2⟩ := ih _ (by simp only [dead, t1, t5, live_oof k6]; rfl) (WF.of_not_peeked t2).wf' hlive
      refine ⟨i1, i2.trans ?_⟩
      -- the comment just consumed is not significant, and it is counted
      simp only [abs, ← k3, ← k4, t3, t4, Stream.sig, hc, Stream.len, ↓reduceIte]
      congr 1
      omega

theorem groupIf_abs (s : PState) (hl : dead s = false) (hw : WF' s) (hp : s.peeked = true)
    (hlive : dead (s.groupIf 0 s.peekTok) = false) :
    WF (s.groupIf 0 s.peekTok) ∧ abs (s.groupIf 0 s.peekTok) = { abs s with pk := true } := by
  unfold PState.groupIf at hlive ⊢
  split at hlive <;> rename_i hc
  · simp only [if_pos hc, PState.consumeCommentGroup, live_isSome hl, Bool.false_eq_true, ↓reduceIte] at hlive ⊢
    exact commentLoop_abs _ s hl hw hlive
  · rw [if_neg hc]
    exact ⟨.of_wf' hw hc, by simp only [abs, hp]⟩

theorem head_sig_raw (hw : WF s) (hp : s.peeked = true) : s.raw.sig.head = s.peekTok := by
  obtain ⟨w1, w2⟩ := hw hp
  unfold PState.raw
  rw [if_pos hp]
  split
  · rename_i e he
    rw [w1 e he]
    rfl
  · rename_i he
    split
    · rfl
    · simp [Stream.sig, (w2 he).1, Stream.head]

theorem peek_abs (s : PState) (hw : WF s) (hlive : dead (s.peek 0).2 = false) :
    WF (s.peek 0).2 ∧ (s.peek 0).1 = (abs s).σ.head ∧ abs (s.peek 0).2 = { abs s with pk := true } := by
  have hl := live_of_mu_le (peek_spec 0 s).1 hlive
  unfold PState.peek at hlive ⊢
  rw [live_isSome hl] at hlive ⊢
  cases hp : s.peeked
  · rw [hp] at hlive
    simp only [Bool.false_eq_true, ↓reduceIte] at hlive ⊢
    obtain ⟨g1, g2⟩ := groupIf_abs s.readPeek (dead_readPeek s ▸ hl) (WF'_readPeek s) rfl hlive
    have g3 := g2.trans (show _ = { abs s with pk := true } by simp only [abs, raw_readPeek hp, readPeek_tc])
    exact ⟨g1, by rw [← head_sig_raw g1 (congrArg AS.pk g3)]; exact congrArg (·.σ.head) g3, g3⟩
  · simp only [↓reduceIte, Bool.false_eq_true]
    exact ⟨hw, (head_sig_raw hw hp).symm, by simp [abs, hp]⟩

theorem next_abs (s : PState) (hw : WF s) (hl : dead s = false) (hp : s.peeked = true)
    (t : Token) (σ' : Stream) (hσ : (abs s).σ = .cons t σ') :
    (s.next 0).1 = t ∧ dead (s.next 0).2 = false ∧ abs (s.next 0).2 = { pk := false, σ := σ', cnt := (abs s).cnt } := by
  have hraw : s.peekErr = none ∧ s.peekTok.kind ≠ .eof ∧ s.peekTok = t ∧ (rawS s.rest s.cur).sig = σ' := by
    simp only [abs, PState.raw, hp, ↓reduceIte] at hσ
    cases hpe : s.peekErr with
    | some e => simp [hpe, Stream.sig] at hσ
    | none =>
      by_cases hk : s.peekTok.kind = .eof
      · simp [hpe, hk, Stream.sig] at hσ
      · simp only [hpe, hk, Stream.sig, ((hw hp).2 hpe).1, ↓reduceIte, Stream.cons.injEq] at hσ
        exact ⟨rfl, hk, hσ.1, hσ.2⟩
  obtain ⟨r1, r2, r3, r4⟩ := hraw
  have hnx : s.next 0 = (s.peekTok, s.takePeeked) := by
    simp [PState.next, live_isSome hl, overLimit, hp]
  rw [hnx]
  refine ⟨r3, ?_, ?_⟩
  · simp [dead, PState.takePeeked, r1, live_oof hl]
  · simp only [abs, PState.raw, PState.takePeeked, Bool.false_eq_true, ↓reduceIte, hp, r1, r2, r4, Stream.len]
    congr 1; omega

theorem groupIf_wf {t : Token} (hp : s.peeked = false) (hlive : dead (s.groupIf 0 t) = false) :
    WF (s.groupIf 0 t) := by
  have hl := live_of_mu_le (groupIf_spec 0 t s).1 hlive
  unfold PState.groupIf PState.consumeCommentGroup at hlive ⊢
  rw [live_isSome hl] at hlive ⊢
  split
  · rw [if_pos ‹_›] at hlive
    exact (commentLoop_abs _ s hl (WF.of_not_peeked hp).wf' hlive).1
  · exact .of_not_peeked hp

theorem next_wf (s : PState) (hlive : dead (s.next 0).2 = false) : WF (s.next 0).2 := by
  have hl := live_of_mu_le (next_spec 0 s).1 hlive
  simp only [PState.next, live_isSome hl, overLimit, bne_self_eq_false, Bool.false_and, Bool.false_eq_true,
    ↓reduceIte] at hlive ⊢
  split
  · exact .of_not_peeked rfl
  · rename_i hp
    rw [if_neg hp] at hlive
    exact groupIf_wf (by simpa using hp) hlive

end Gql.Parser
