import GqlProofs.Parser.Fwd
/-
  The loop `itemsLoop` and the bracketed lists `many` / `some` on printed items: the items are given
  by their token lists (`f : ι → List Tok`, of any origin) and an arbitrary relation `Rel` between a
  parsed item and the item it was parsed from.  The derivation-driven completeness proof takes the
  iterations of a `star` as items; `Reads.lean` takes printed trees and equality up to an erasure.
-/
namespace Gql.Parser
open Gql Gql.Lexer Gql.Grammar Gql.Print

inductive All₂ {α ι : Type} (R : α → ι → Prop) : List α → List ι → Prop
  | nil : All₂ R [] []
  | cons {y : α} {x : ι} {ys : List α} {xs : List ι} : R y x → All₂ R ys xs → All₂ R (y :: ys) (x :: xs)

theorem All₂.reverse_append {α ι : Type} {R : α → ι → Prop} {ys : List α} {xs : List ι} (h : All₂ R ys xs) :
    ∀ {ys' : List α} {xs' : List ι}, All₂ R ys' xs' → All₂ R (ys.reverse ++ ys') (xs.reverse ++ xs') := by
  induction h with
  | nil => intro ys' xs' h'; simpa using h'
  | cons h1 _ ih => intro ys' xs' h'; simpa using ih (.cons h1 h')

theorem fwd_itemsLoopG {α ι : Type} (f : ι → List Tok) (Rel : α → ι → Prop) (Fol : Stream → Prop) (stop : Kind) {cb : Prog α}
    (xs : List ι)
    (hcb : ∀ x ∈ xs, ∀ a σ1, Starts a.σ (f x) σ1 → Fol σ1 → Fwd cb a (fun y a' => Rel y x ∧ a'.σ = σ1))
    (hstart : ∀ x ∈ xs, ∃ t rest, f x = t :: rest ∧ t.kind ≠ stop)
    (hfol : ∀ σ1, (σ1.head.kind = stop ∨ ∃ x ∈ xs, ∃ t rest, f x = t :: rest ∧ Tok.ofToken σ1.head = t) → Fol σ1) :
    ∀ (n : Nat) (acc : List α) (a : AS) (σ' : Stream), Starts a.σ (xs.flatMap f) σ' → σ'.head.kind = stop →
      Fwd (itemsLoop stop cb n acc) a
        (fun ys a' => (∃ zs, ys = zs.reverse ++ acc ∧ All₂ Rel zs xs) ∧ a'.σ = σ' ∧ a'.pk = true) := by
  induction xs with
  | nil =>
    intro n acc a σ' hs hstop
    rw [List.flatMap_nil, Starts.nil_iff] at hs
    cases n with
    | zero => exact Fwd.outOfFuel _ _ _
    | succ n =>
      refine .peek (.hasErr (.ite_neg (fun h => h.1 (hs ▸ hstop)) ((Fwd.pure acc _).mono ?_)))
      rintro ys a' ⟨rfl, rfl⟩
      exact ⟨⟨[], rfl, .nil⟩, hs, rfl⟩
  | cons x xs ih =>
    intro n acc a σ' hs hstop
    rw [List.flatMap_cons, Starts.append_iff] at hs
    obtain ⟨σm, hx, hrest⟩ := hs
    obtain ⟨t, rest, hfx, htk⟩ := hstart x (by simp)
    cases n with
    | zero => exact Fwd.outOfFuel _ _ _
    | succ n =>
      -- what follows the item is the closing token or the first token of the next item
      have hFol : Fol σm := by
        apply hfol
        cases xs with
        | nil => exact .inl (Starts.nil_iff.1 hrest ▸ hstop)
        | cons y ys =>
          obtain ⟨t', rest', hfy, _⟩ := hstart y (by simp)
          rw [List.flatMap_cons, hfy] at hrest
          exact .inr ⟨y, by simp, t', rest', hfy, hrest.head⟩
      refine .peek (.hasErr (.ite_pos ⟨(hfx ▸ hx).head_kind ▸ htk, rfl⟩ (Fwd.bind (hcb x (by simp) _ σm hx hFol) ?_)))
      rintro y a3 ⟨hy, hσ3⟩
      refine (ih (fun z hz => hcb z (by simp [hz])) (fun z hz => hstart z (by simp [hz]))
        (fun σ1 h => hfol σ1 (h.imp id fun ⟨z, hz, h⟩ => ⟨z, by simp [hz], h⟩)) n (y :: acc) a3 σ' (hσ3 ▸ hrest) hstop).mono ?_
      rintro ys a' ⟨⟨zs, h1, h2⟩, h3, h4⟩
      exact ⟨⟨y :: zs, by rw [h1]; simp, .cons hy h2⟩, h3, h4⟩

/-- `many` / `some` when the opening token is there; `t1`, `t2` are the bracket tokens -/
theorem fwd_bracketG {α ι : Type} (f : ι → List Tok) (Rel : α → ι → Prop) (Fol : Stream → Prop) (start stop : Kind) {cb : Prog α}
    (xs : List ι)
    (hcb : ∀ x ∈ xs, ∀ a σ1, Starts a.σ (f x) σ1 → Fol σ1 → Fwd cb a (fun y a' => Rel y x ∧ a'.σ = σ1))
    (hstart : ∀ x ∈ xs, ∃ t rest, f x = t :: rest ∧ t.kind ≠ stop)
    (hfol : ∀ σ1, (σ1.head.kind = stop ∨ ∃ x ∈ xs, ∃ t rest, f x = t :: rest ∧ Tok.ofToken σ1.head = t) → Fol σ1)
    (n : Nat) (a : AS) (σ' : Stream) (t1 t2 : Tok) (hk1 : t1.kind = start) (hk2 : t2.kind = stop)
    (hs : Starts a.σ (t1 :: xs.flatMap f ++ [t2]) σ') :
    Fwd (pMany start stop n cb) a (fun ys a' => All₂ Rel ys xs ∧ a'.σ = σ') ∧
    (xs ≠ [] → Fwd (pSome start stop n cb) a (fun ys a' => All₂ Rel ys xs ∧ a'.σ = σ')) := by
  obtain ⟨u1, σ1, hσ1, hu1, hs⟩ := Starts.cons_iff.1 hs
  obtain ⟨σ2, h2, h3⟩ := Starts.append_iff.1 hs
  obtain ⟨u, hσ2, hu⟩ := h3.single
  have hku1 : u1.kind = start := (ofToken_kind hu1).trans hk1
  have hstop : σ2.head.kind = stop := hσ2 ▸ (ofToken_kind hu).trans hk2
  have hloop := fwd_itemsLoopG f Rel Fol stop xs hcb hstart hfol n [] { pk := false, σ := σ1, cnt := a.cnt } σ2 h2 hstop
  -- after the loop: the closing token is consumed and the items are put in order
  have hclose : ∀ (zs : List α) (a2 : AS), All₂ Rel zs xs → a2.σ = σ2 → a2.pk = true →
      Fwd (next >>= fun _ => pure (zs.reverse ++ []).reverse) a2 (fun ys a' => All₂ Rel ys xs ∧ a'.σ = σ') :=
    fun zs a2 hz hσ hpk => .next hpk (hσ ▸ hσ2) ((Fwd.pure _ _).mono fun _ _ h => ⟨h.1 ▸ (by simpa using hz), h.2 ▸ rfl⟩)
  constructor
  · exact .skip_yes hσ1 hku1 (Fwd.bind hloop (by
      rintro _ a2 ⟨⟨zs, rfl, hz⟩, hσ, hpk⟩
      exact hclose zs a2 hz hσ hpk))
  · exact fun hne => .skip_yes hσ1 hku1 (Fwd.bind hloop (by
      rintro _ a2 ⟨⟨zs, rfl, hz⟩, hσ, hpk⟩
      refine Fwd.ite_neg ?_ (hclose zs a2 hz hσ hpk)
      cases hz with
      | nil => exact absurd rfl hne
      | cons _ _ => simp))

theorem All₂.flatMap_eq {α ι : Type} {P : α → List Tok} {g : ι → List Tok} {ys : List α} {xs : List ι}
    (h : All₂ (fun y x => P y = g x) ys xs) : ys.flatMap P = xs.flatMap g := by
  induction h with
  | nil => rfl
  | cons h1 _ ih => simp [h1, ih]

theorem forall₂_length {α ι : Type} {R : α → ι → Prop} {ys : List α} {xs : List ι} (h : All₂ R ys xs) :
    ys.length = xs.length := by
  induction h with
  | nil => rfl
  | cons _ _ ih => simp [ih]

end Gql.Parser
