import GqlProofs.Schema.State
/-
  The schema blocks and the last check of the loader, against their clauses: the entry-point loop
  succeeds iff `rootsExist` and `rootOperationTypesOnce` hold; then `checkRootKinds` (the repair "a root
  operation type must be an object type") passes iff `rootTypesAreObjects` holds.  Both are equivalences,
  used by soundness and by completeness.
-/
namespace Gql.Load
open Gql

theorem checkRootKind_pass_iff {st : LState} {op : Bytes} {root : Option Name} :
    checkRootKind st op root = .pass ↔ ∀ n d, root = some n → st.types.lookup n = some d → d.kind = .object := by
  cases root with
  | none => simp [checkRootKind]
  | some n =>
    simp only [checkRootKind, LState.type?]
    cases hl : st.types.lookup n with
    | none => exact iff_of_true rfl fun _ d e hd => by cases e; rw [hl] at hd; cases hd
    | some d =>
      by_cases h : d.kind = .object
      · exact iff_of_true (by simp [h]) fun _ d' e hd => by cases e; rw [hl] at hd; cases hd; exact h
      · exact iff_of_false (by simp [h]) fun hall => h (hall n d rfl hl)

theorem checkRootKinds_pass_iff {st : LState} {r : Roots} :
    checkRootKinds st r = .pass ↔
      ∀ o, isRootOp o = true → ∀ n d, rootOf r o = some n → st.types.lookup n = some d → d.kind = .object := by
  simp only [checkRootKinds, andThen_eq_pass, checkRootKind_pass_iff, forall_rootOp, rootOf_query, rootOf_mutation,
    rootOf_subscription]

def defaultRootName (o : Bytes) : Name :=
  if o == opQuery then nameQuery else if o == opMutation then nameMutation else nameSubscription

theorem defaultRootName_query : defaultRootName opQuery = nameQuery := by simp [defaultRootName]
theorem defaultRootName_mutation : defaultRootName opMutation = nameMutation := by
  simp [defaultRootName, opMutation_ne_opQuery]
theorem defaultRootName_subscription : defaultRootName opSubscription = nameSubscription := by
  simp [defaultRootName, opSubscription_ne_opQuery, opSubscription_ne_opMutation]

theorem rootOf_finalRoots (sd : SchemaDoc) (st : LState) (r1 : Roots) {o : Bytes} (ho : isRootOp o = true) :
    rootOf (finalRoots sd st r1) o =
      if sd.schema.isEmpty then inferRoot st.types (rootOf r1 o) (defaultRootName o) else rootOf r1 o := by
  unfold finalRoots
  split
  · revert o
    simp only [forall_rootOp, rootOf_query, rootOf_mutation, rootOf_subscription, inferRoots, defaultRootName_query,
      defaultRootName_mutation, defaultRootName_subscription, and_self]
  · rfl

theorem rootTypesAreObjectsDoc_iff (sd : SchemaDoc) :
    Spec.rootTypesAreObjectsDoc sd = true ↔
      ∀ o, isRootOp o = true → Spec.rootIsObject sd (Spec.TypeSystem.ofDoc sd) o (defaultRootName o) = true := by
  simp only [Spec.rootTypesAreObjectsDoc, Bool.and_eq_true, forall_rootOp, and_assoc, defaultRootName_query,
    defaultRootName_mutation, defaultRootName_subscription]
  rfl

theorem filter_eq_find?_toList {α} {p : α → Bool} {l : List α} (h : (l.filter p).length ≤ 1) :
    l.filter p = (l.find? p).toList := by
  induction l with
  | nil => rfl
  | cons x rest ih =>
    simp only [List.filter_cons, List.find?_cons] at h ⊢
    cases hp : p x with
    | false => simp only [hp, Bool.false_eq_true, ↓reduceIte] at h ⊢; exact ih h
    | true =>
      simp only [hp, ↓reduceIte, List.length_cons] at h ⊢
      have : rest.filter p = [] := List.length_eq_zero_iff.mp (by omega)
      simp [this]

section
variable {sd : SchemaDoc} {st : LState} {r1 : Roots}

/-- **"Schema root %s is defined more than once." (setRootOperationType)** — `rootOperationTypesOnce` -/
theorem rootsOnce_iff (sd : SchemaDoc) :
    (∀ o, isRootOp o = true → rootSet noRoots o + opCount o ((sd.schema ++ sd.schemaExt).flatMap (·.opTypes)) ≤ 1) ↔
      Spec.rootOperationTypesOnce sd = true := by
  simp only [forall_rootOp, noRoots_rootSet, Nat.zero_add, Spec.rootOperationTypesOnce, List.all_cons, List.all_nil,
    Bool.and_true, Bool.and_eq_true, decide_eq_true_eq, opCount_eq]
  rfl

/-- **"Schema root %s refers to a type %s that does not exist."** — `rootsExist` -/
theorem rootsExist_iff (hty : ∀ n, (Spec.TypeSystem.ofDoc sd).type? n = st.types.lookup n) :
    (∀ e ∈ (sd.schema ++ sd.schemaExt).flatMap (·.opTypes), (st.types.lookup e.type).isSome) ↔
      Spec.rootsExist (.ofDoc sd) = true := by
  simp only [Spec.rootsExist, List.all_eq_true, hty, List.mem_flatMap]
  exact ⟨fun h b hb e he => h e ⟨b, hb, he⟩, fun h e ⟨b, hb, he⟩ => h b hb e he⟩

theorem setRoots_isOk_iff_spec (hty : ∀ n, (Spec.TypeSystem.ofDoc sd).type? n = st.types.lookup n) :
    (∃ r1, setRoots st.types ((sd.schema ++ sd.schemaExt).flatMap (·.opTypes)) noRoots = .ok r1) ↔
      Spec.rootsExist (.ofDoc sd) = true ∧ Spec.rootOperationTypesOnce sd = true :=
  setRoots_isOk_iff.trans (and_congr (rootsExist_iff hty) (rootsOnce_iff sd))

/-- **"Schema root %s must be an object type, %s is a %s." (the last check)** — `rootTypesAreObjects`:
    with the roots the schema blocks leave, the check passes iff the clause holds -/
theorem checkRootKinds_iff_spec (hinv : KeysInv (·.name) st.types)
    (hty : ∀ n, (Spec.TypeSystem.ofDoc sd).type? n = st.types.lookup n)
    (hr : setRoots st.types ((sd.schema ++ sd.schemaExt).flatMap (·.opTypes)) noRoots = .ok r1) :
    checkRootKinds st (finalRoots sd st r1) = .pass ↔ Spec.rootTypesAreObjectsDoc sd = true := by
  rw [checkRootKinds_pass_iff, rootTypesAreObjectsDoc_iff]
  refine forall_congr' fun o => imp_congr_right fun ho => ?_
  obtain ⟨hres, hcount⟩ := setRoots_isOk_iff.mp ⟨r1, hr⟩
  have hcount : (((sd.schema ++ sd.schemaExt).flatMap (·.opTypes)).filter (·.op == o)).length ≤ 1 := by
    have := hcount o ho; rw [noRoots_rootSet] at this; simpa [opCount] using this
  have hroot := setRoots_rootOf hr o
  have hfind : ((sd.schema ++ sd.schemaExt).flatMap (·.opTypes)).find? (fun e => isRootOp e.op && e.op == o) =
      ((sd.schema ++ sd.schemaExt).flatMap (·.opTypes)).find? (·.op == o) := by
    congr 1; funext e
    by_cases h : e.op = o <;> simp [h, ho]
  rw [show rootOf noRoots o = none by simp [rootOf, noRoots], Option.none_or, hfind] at hroot
  -- the type under a name that resolves is the type with that name
  have hobj : ∀ {n d}, st.types.lookup n = some d →
      ((∀ m d', ptrOf st.types n = some m → st.types.lookup m = some d' → d'.kind = .object) ↔ d.kind = .object) := by
    intro n d hd
    rw [ptrOf_self hinv hd]
    exact ⟨fun h => h n d rfl hd, fun h m d' hm hd' => by cases hm; rw [hd] at hd'; cases hd'; exact h⟩
  rw [rootOf_finalRoots sd st r1 ho, hroot]
  simp only [Spec.rootIsObject, show (Spec.TypeSystem.ofDoc sd).schemaDefs = sd.schema ++ sd.schemaExt from rfl,
    filter_eq_find?_toList hcount, hty]
  cases he : ((sd.schema ++ sd.schemaExt).flatMap (·.opTypes)).find? (·.op == o) with
  | some e =>
    obtain ⟨d, hd⟩ := Option.isSome_iff_exists.mp (hres e (List.mem_of_find?_eq_some he))
    have hp : inferRoot st.types (ptrOf st.types e.type) (defaultRootName o) = ptrOf st.types e.type := by
      rw [ptrOf_self hinv hd]; rfl
    simp [hp, hobj hd, hd]
  | none =>
    cases hs : sd.schema.isEmpty with
    | false => simp
    | true =>
      cases hd : st.types.lookup (defaultRootName o) with
      | none => simp [inferRoot, ptrOf, hd]
      | some d => simp [inferRoot, hobj hd]

end
end Gql.Load
