import GqlProofs.Schema.SetRoots
import GqlModel.Schema.Spec
import GqlProofs.Schema.Basic
/-
  What a passing validator and a successful `load` mean: one equivalence per check of
  validator/schema.go, used in both directions (soundness and completeness of the loader).
-/
namespace Gql.Load
open Gql

theorem validateName_pass_iff {p : Pos} {n : Name} : validateName p n = .pass ↔ hasDunder n = false := by
  unfold validateName; split <;> simp [*]

theorem validateTypeRef_pass_iff {st : LState} {t : GType} :
    validateTypeRef st t = .pass ↔ (st.types.lookup t.name).isSome = true := by
  unfold validateTypeRef LState.type?; split <;> simp [*]

/-- **validateDirectives**, one applied directive: reserved name; "cannot refer to
    itself"; "Undefined directive"; "is not applicable on"; "Undefined argument"; "cannot be null" -/
theorem validateDirectiveUse_pass_iff {st : LState} {loc : Bytes} {cur : Option Name} {dir : Directive} :
    validateDirectiveUse st loc cur dir = .pass ↔
      hasDunder dir.name = false ∧ cur ≠ some dir.name ∧
      ∃ dd, st.directives.lookup dir.name = some dd ∧ dd.locations.contains loc = true ∧
        (∀ x ∈ dir.args, (dd.args.find? (fun a => a.name == x.name)).isSome = true) ∧
        (∀ a ∈ dd.args, (!(a.type.nonNull && a.default.isNone) ||
          (match dir.args.find? (fun x => x.name == a.name) with
           | some x => x.value.kind != .null
           | none => false)) = true) := by
  unfold validateDirectiveUse argDefForName argForName
  simp only [andThen_eq_pass, validateName_pass_iff]
  refine and_congr_right fun _ => and_congr ?_ ?_
  · cases cur with
    | none => simp
    | some c =>
      by_cases h : dir.name = c
      · simp [h]
      · simp [h, Ne.symm h]
  · cases st.directives.lookup dir.name with
    | none => simp
    | some dd =>
      simp only [andThen_eq_pass, each_eq_pass, Option.some.injEq, exists_eq_left']
      refine and_congr (by cases dd.locations.contains loc <;> simp) (and_congr ?_ ?_)
      · exact forall_congr' fun x => imp_congr_right fun _ => by split <;> simp [*]
      · refine forall_congr' fun a => imp_congr_right fun _ => ?_
        cases a.type.nonNull && a.default.isNone
        · simp
        · cases dir.args.find? (fun x => x.name == a.name) with
          | none => simp
          | some x => by_cases h : x.value.kind = .null <;> simp [h]

theorem validateDirectives_pass_iff {st : LState} {dirs : List Directive} {loc : Bytes} {cur : Option Name} :
    validateDirectives st dirs loc cur = .pass ↔ ∀ dir ∈ dirs, validateDirectiveUse st loc cur dir = .pass :=
  each_eq_pass

theorem validateDirectives_pass {st : LState} {dirs : List Directive} {loc : Bytes} {cur : Option Name}
    (h : validateDirectives st dirs loc cur = .pass) :
    ∀ dir ∈ dirs, ∃ dd, st.directives.lookup dir.name = some dd ∧ dd.locations.contains loc = true := fun dir hdir =>
  let ⟨_, _, dd, h1, h2, _⟩ := validateDirectiveUse_pass_iff.mp (validateDirectives_pass_iff.mp h dir hdir)
  ⟨dd, h1, h2⟩

/-- **validateArgs**: reserved argument name; "Undefined type"; "cannot use … as
    argument … because … is not a valid input type"; the argument's directives -/
theorem validateArgs_pass_iff {st : LState} {args : List ArgDef} {cur : Option Name} :
    validateArgs st args cur = .pass ↔
      ∀ a ∈ args, hasDunder a.name = false ∧ (∃ d, st.types.lookup a.type.name = some d ∧ isInputKind d.kind = true) ∧
        validateDirectives st a.dirs locArgumentDefinition cur = .pass := by
  unfold validateArgs
  simp only [each_eq_pass, andThen_eq_pass, validateName_pass_iff, validateTypeRef_pass_iff, LState.type?]
  refine forall_congr' fun a => imp_congr_right fun _ => and_congr_right fun _ => ?_
  cases st.types.lookup a.type.name with
  | none => simp
  | some d => by_cases h : isInputKind d.kind = true <;> simp [h]

theorem validateArgs_pass {st : LState} {args : List ArgDef} {cur : Option Name}
    (h : validateArgs st args cur = .pass) :
    ∀ a ∈ args, (∃ d, st.types.lookup a.type.name = some d ∧ isInputKind d.kind = true) ∧
      validateDirectives st a.dirs locArgumentDefinition cur = .pass :=
  fun a ha => (validateArgs_pass_iff.mp h a ha).2

/-- per required field of the interface: "must have a field called"; "must have type"; "must have the
    same arguments but it is missing / has the wrong type"; "any additional arguments … must be optional" -/
theorem validateImplementsField_pass_iff {st : LState} {d intf : Definition} {rf : FieldDef} :
    validateImplementsField st d intf rf = .pass ↔
      ∃ f, d.fields.find? (fun f => f.name == rf.name) = some f ∧ isCovariant st rf.type f.type = some true ∧
        (∀ ra ∈ rf.args, ∃ fa, f.args.find? (fun a => a.name == ra.name) = some fa ∧ ra.type.render = fa.type.render) ∧
        ∀ fa ∈ f.args, ((rf.args.find? (fun a => a.name == fa.name)).isSome || !(fa.type.nonNull && fa.default.isNone)) = true := by
  unfold validateImplementsField fieldForName argDefForName
  cases d.fields.find? (fun f => f.name == rf.name) with
  | none => simp
  | some f =>
    simp only [andThen_eq_pass, each_eq_pass, Option.some.injEq, exists_eq_left']
    refine and_congr (by split <;> simp [*]) (and_congr ?_ ?_)
    · refine forall_congr' fun ra => imp_congr_right fun _ => ?_
      cases f.args.find? (fun a => a.name == ra.name) with
      | none => simp
      | some fa => by_cases h : ra.type.render = fa.type.render <;> simp [h]
    · refine forall_congr' fun fa => imp_congr_right fun _ => ?_
      cases rf.args.find? (fun a => a.name == fa.name) <;> cases fa.type.nonNull <;> cases fa.default.isNone <;> simp

/-- **validateImplements and validateTypeImplementsAncestors**:
    "Undefined type"; "is a non interface type"; the interface's fields; "must implement … because it is
    implemented by" / "would create a circular reference" -/
theorem validateImplements_pass_iff {st : LState} {d : Definition} {i : Name} :
    validateImplements st d i = .pass ↔
      ∃ intf, st.types.lookup i = some intf ∧ intf.kind = .interface ∧
        (∀ rf ∈ intf.fields, validateImplementsField st d intf rf = .pass) ∧
        ∀ j ∈ intf.interfaces, d.interfaces.contains j = true := by
  unfold validateImplements validateTypeImplementsAncestors LState.type?
  cases st.types.lookup i with
  | none => simp
  | some intf =>
    by_cases hk : intf.kind = .interface
    · simp only [hk, bne_self_eq_false, Bool.false_eq_true, ↓reduceIte, andThen_eq_pass, each_eq_pass,
        Option.some.injEq, exists_eq_left', true_and]
      refine and_congr_right fun _ => forall_congr' fun j => imp_congr_right fun _ => ?_
      by_cases hc : d.interfaces.contains j = true
      · rw [if_pos hc]; exact iff_of_true rfl hc
      · rw [if_neg hc]; exact iff_of_false (by split <;> exact failAt_ne_pass _ _) hc
    · simp [hk]

/-- **"Field %s.%s can only be defined once."** -/
theorem checkUniqueFields_pass_iff {dn : Name} {fs : List FieldDef} :
    checkUniqueFields dn fs = .pass ↔ Spec.pairwiseDistinct (fs.map (·.name)) = true := by
  induction fs with
  | nil => simp [checkUniqueFields, Spec.pairwiseDistinct]
  | cons f rest ih =>
    simp only [checkUniqueFields, andThen_eq_pass, each_eq_pass, ih, List.map_cons, Spec.pairwiseDistinct,
      Bool.and_eq_true, Bool.not_eq_true', ← Bool.not_eq_true, List.contains_iff_mem, List.mem_map, not_exists, not_and]
    refine and_congr_left fun _ => forall_congr' fun f2 => imp_congr_right fun _ => ?_
    by_cases h : f.name = f2.name
    · simp [h]
    · simp [h, Ne.symm h]

/-- **validateDefinition, `switch def.Kind`**: "must define one or more fields /
    unique enum values / input fields"; "field must be one of …"; "non-enum value"; reserved enum value
    name; enum value directives -/
theorem validateKindSpecific_pass_iff {st : LState} {d : Definition} :
    validateKindSpecific st d = .pass ↔
      match d.kind with
      | .object | .interface =>
        d.fields.isEmpty = false ∧ ∀ f ∈ d.fields, ∀ t, st.types.lookup f.type.name = some t → isOutputKind t.kind = true
      | .inputObject =>
        d.fields.isEmpty = false ∧ ∀ f ∈ d.fields, ∀ t, st.types.lookup f.type.name = some t → isInputKind t.kind = true
      | .enum =>
        d.enumValues.isEmpty = false ∧ ∀ v ∈ d.enumValues, nonEnumNames.contains v.name = false ∧
          hasDunder v.name = false ∧ validateDirectives st v.dirs locEnumValue none = .pass
      | .scalar | .union => True := by
  have fields : ∀ (p : DefKind → Bool) (m1 : Bytes) (m2 : FieldDef → Definition → Bytes),
      (if d.fields.isEmpty = true then failAt d.pos m1
       else each d.fields fun f =>
        match st.type? f.type.name with
        | some t => if p t.kind = true then Chk.pass else failAt f.pos (m2 f t)
        | none => Chk.pass) = .pass ↔
      d.fields.isEmpty = false ∧ ∀ f ∈ d.fields, ∀ t, st.types.lookup f.type.name = some t → p t.kind = true := by
    intro p m1 m2
    cases d.fields.isEmpty
    · simp only [Bool.false_eq_true, ↓reduceIte, each_eq_pass, LState.type?, true_and]
      refine forall_congr' fun f => imp_congr_right fun _ => ?_
      cases st.types.lookup f.type.name with
      | none => simp
      | some t => by_cases h : p t.kind = true <;> simp [h]
    · simp
  unfold validateKindSpecific
  cases d.kind
  · simp
  · exact fields _ _ (fun _ _ => _)
  · exact fields _ _ (fun _ _ => _)
  · simp
  · cases d.enumValues.isEmpty
    · simp only [Bool.false_eq_true, ↓reduceIte, each_eq_pass, andThen_eq_pass, validateName_pass_iff, true_and]
      exact forall_congr' fun v => imp_congr_right fun _ => and_congr_left fun _ => by
        cases nonEnumNames.contains v.name <;> simp
    · simp
  · exact fields _ _ (fun f t => _)

/-- the facts a passing `validateDefinition` establishes -/
structure DefOK (st : LState) (d : Definition) : Prop where
  fieldNames : ∀ f ∈ d.fields, hasDunder f.name = false
  uniqueFields : checkUniqueFields d.name d.fields = .pass
  defName : d.builtIn = false → hasDunder d.name = false
  fieldTypes : ∀ f ∈ d.fields, ∃ t, st.types.lookup f.type.name = some t
  fieldArgs : ∀ f ∈ d.fields, validateArgs st f.args none = .pass
  fieldDirs : ∀ f ∈ d.fields, validateDirectives st f.dirs
      (if d.kind = .inputObject then locInputFieldDefinition else locFieldDefinition) none = .pass
  members : ∀ m ∈ d.types, ∃ t, st.types.lookup m = some t ∧ t.kind = .object
  interfaces : ∀ i ∈ d.interfaces, ∃ intf, st.types.lookup i = some intf ∧ intf.kind = .interface
  implements : ∀ i ∈ d.interfaces, validateImplements st d i = .pass
  kindSpecific : validateKindSpecific st d = .pass
  dirs : validateDirectives st d.dirs d.kind.render none = .pass

theorem validateDefinition_pass_iff {st : LState} {d : Definition} : validateDefinition st d = .pass ↔ DefOK st d := by
  unfold validateDefinition
  simp only [andThen_eq_pass, each_eq_pass, validateName_pass_iff, validateTypeRef_pass_iff, Option.isSome_iff_exists]
  have hm : ∀ m, (match st.type? m with
      | none => failAt d.pos (Msg.undefinedType (Msg.quote m))
      | some t => if t.kind = DefKind.object then Chk.pass else failAt d.pos (Msg.memberKind d.kind m)) = .pass ↔
      ∃ t, st.types.lookup m = some t ∧ t.kind = DefKind.object := by
    intro m
    unfold LState.type?
    cases st.types.lookup m with
    | none => simp
    | some t => by_cases h : t.kind = DefKind.object <;> simp [h]
  have hn : (if (!d.builtIn) = true then validateName d.pos d.name else Chk.pass) = .pass ↔
      (d.builtIn = false → hasDunder d.name = false) := by
    cases d.builtIn <;> simp [validateName_pass_iff]
  simp only [hn]
  exact ⟨fun ⟨hf, hm', hi, hk, hu, hn, hd⟩ =>
      ⟨fun f h => (hf f h).1, hu, hn, fun f h => (hf f h).2.1, fun f h => (hf f h).2.2.1, fun f h => (hf f h).2.2.2,
        fun m h => (hm m).mp (hm' m h),
        fun i h => let ⟨t, h1, h2, _⟩ := validateImplements_pass_iff.mp (hi i h); ⟨t, h1, h2⟩, hi, hk, hd⟩,
    fun D => ⟨fun f h => ⟨D.fieldNames f h, D.fieldTypes f h, D.fieldArgs f h, D.fieldDirs f h⟩,
      fun m h => (hm m).mpr (D.members m h), D.implements, D.kindSpecific, D.uniqueFields, D.defName, D.dirs⟩⟩

theorem each_keys_pass {α} {m : List (Name × α)} {g : Name → Chk} {f : α → Chk}
    (hg : ∀ k v, m.lookup k = some v → g k = f v) :
    each (sortNames (m.map Prod.fst)) g = .pass ↔ ∀ k v, m.lookup k = some v → f v = .pass := by
  simp only [each_eq_pass, mem_sortNames, ← lookup_isSome_iff_mem_keys, Option.isSome_iff_exists]
  exact ⟨fun h k v hk => hg k v hk ▸ h k ⟨v, hk⟩, fun h k ⟨v, hk⟩ => hg k v hk ▸ h k v hk⟩

theorem validateTypeDefinitions_pass_iff {st : LState} :
    validateTypeDefinitions st = .pass ↔ ∀ k d, st.types.lookup k = some d → DefOK st d := by
  simp only [← validateDefinition_pass_iff]
  exact each_keys_pass fun k d h => by simp only [LState.type?, h]

theorem validateDirectiveDef_pass_iff {st : LState} {dd : DirectiveDef} :
    validateDirectiveDef st dd = .pass ↔ hasDunder dd.name = false ∧ validateArgs st dd.args (some dd.name) = .pass := by
  simp only [validateDirectiveDef, andThen_eq_pass, validateName_pass_iff]

theorem validateDirectiveDefinitions_pass_iff {st : LState} :
    validateDirectiveDefinitions st = .pass ↔
      ∀ k dd, st.directives.lookup k = some dd → hasDunder dd.name = false ∧ validateArgs st dd.args (some dd.name) = .pass := by
  simp only [← validateDirectiveDef_pass_iff]
  exact each_keys_pass fun k dd h => by simp only [h]

/-- **"Cannot redeclare type"**: the definitions loop succeeds iff no name is taken or
    repeated, and then appends the definitions under their names -/
theorem declareTypes_eq_ok {l : List Definition} {acc r : List (Name × Definition)} :
    declareTypes l acc = .ok r ↔
      (∀ d ∈ l, acc.lookup d.name = none) ∧ (l.map (·.name)).Nodup ∧ r = acc ++ l.map fun d => (d.name, d) := by
  induction l generalizing acc with
  | nil => simp only [declareTypes, Except.ok.injEq, List.not_mem_nil, false_imp_iff, implies_true, List.map_nil,
      List.nodup_nil, List.append_nil, true_and]; exact eq_comm
  | cons d rest ih =>
    simp only [declareTypes]
    cases h : acc.lookup d.name with
    | some _ => exact iff_of_false (fun e => nomatch e) (fun ⟨h1, _⟩ => by rw [h1 d (.head _)] at h; cases h)
    | none =>
      simp only [ih, List.lookup_append, lookup_cons_ite, List.lookup_nil, Option.or_eq_none_iff, ite_eq_right_iff,
        reduceCtorEq, imp_false, List.mem_cons, forall_eq_or_imp, h, true_and, List.map_cons, List.nodup_cons, List.mem_map,
        not_exists, not_and, List.append_assoc, List.singleton_append, forall_and]
      exact ⟨fun ⟨⟨h1, h2⟩, h3, h4⟩ => ⟨h1, ⟨h2, h3⟩, h4⟩, fun ⟨h1, ⟨h2, h3⟩, h4⟩ => ⟨⟨h1, h2⟩, h3, h4⟩⟩

theorem declareTypes_ok {l : List Definition} {acc : List (Name × Definition)}
    (h1 : ∀ d ∈ l, acc.lookup d.name = none) (h2 : (l.map (·.name)).Nodup) :
    declareTypes l acc = .ok (acc ++ l.map fun d => (d.name, d)) :=
  declareTypes_eq_ok.mpr ⟨h1, h2, rfl⟩

theorem buildState_eq_ok {sd : SchemaDoc} {st : LState} :
    buildState sd = .ok st ↔
      (sd.definitions.map (·.name)).Nodup ∧
      foldExtensions sd.extensions (sd.definitions.map fun d => (d.name, d)) = .ok st.types ∧
      declareDirectives sd.directives [] = .ok st.directives ∧ (st.possible, st.implements) = buildRelations st.types := by
  unfold buildState
  by_cases hn : (sd.definitions.map (·.name)).Nodup
  · rw [declareTypes_ok (by simp) hn]
    simp only [List.nil_append, hn, true_and]
    cases foldExtensions sd.extensions _ with
    | error e => simp
    | ok t =>
      cases hp : buildRelations t
      cases declareDirectives sd.directives [] with
      | error e => simp
      | ok dirs =>
        cases st
        simp only [Except.ok.injEq, LState.mk.injEq]
        exact ⟨by rintro ⟨rfl, rfl, rfl, rfl⟩; simp [hp], by rintro ⟨rfl, rfl, h⟩; simpa [hp, eq_comm] using h⟩
  · cases h0 : declareTypes sd.definitions [] with
    | ok r => exact absurd (declareTypes_eq_ok.mp h0).2.1 hn
    | error e => simp [hn]

theorem setRoots_append_eq_ok {types : List (Name × Definition)} {a b : List OpTypeDef} {r r' : Roots} :
    setRoots types (a ++ b) r = .ok r' ↔ ∃ r0, setRoots types a r = .ok r0 ∧ setRoots types b r0 = .ok r' := by
  rw [setRoots_append]; cases setRoots types a r <;> simp [Except.bind]

/-- what `finish` checks, on the state `st`; `r1` are the roots the schema blocks leave -/
structure Checked (sd : SchemaDoc) (st : LState) (r1 : Roots) : Prop where
  single : sd.schema.length ≤ 1
  roots : setRoots st.types ((sd.schema ++ sd.schemaExt).flatMap (·.opTypes)) noRoots = .ok r1
  schemaDirs : ∀ b ∈ sd.schema ++ sd.schemaExt, validateDirectives st b.dirs locSchema none = .pass
  defs : ∀ k d, st.types.lookup k = some d → DefOK st d
  dirDefs : ∀ k dd, st.directives.lookup k = some dd →
    hasDunder dd.name = false ∧ validateArgs st dd.args (some dd.name) = .pass
  rootKinds : checkRootKinds st (finalRoots sd st r1) = .pass

theorem Checked.schemaDirs_all {sd : SchemaDoc} {st : LState} {r1 : Roots} (C : Checked sd st r1) :
    validateDirectives st ((sd.schema ++ sd.schemaExt).flatMap (·.dirs)) locSchema none = .pass :=
  validateDirectives_pass_iff.mpr fun dir hdir =>
    let ⟨b, hb, hdir⟩ := List.mem_flatMap.mp hdir
    validateDirectives_pass_iff.mp (C.schemaDirs b hb) dir hdir

/-- the stages of `finish`, as the Go code runs them -/
theorem finish_eq_ok_iff' {sd : SchemaDoc} {st : LState} {s : Schema} :
    finish sd st = .ok s ↔ sd.schema.length ≤ 1 ∧ ∃ r0 d0 r1 d1,
      applySchemaDefs st sd.schema noRoots [] = .ok r0 d0 ∧ applySchemaDefs st sd.schemaExt r0 d0 = .ok r1 d1 ∧
      validateTypeDefinitions st = .pass ∧ validateDirectiveDefinitions st = .pass ∧
      checkRootKinds st (finalRoots sd st r1) = .pass ∧ s = mkSchema sd st r1 d1 := by
  unfold finish
  split
  · rename_i hs; simp [hs]
  · rename_i hs
    have hlen : sd.schema.length ≤ 1 := by
      match h : sd.schema with
      | [] | [_] => simp
      | a :: b :: c => exact absurd h (hs a b c)
    refine ⟨fun h => ?_, fun ⟨_, r0, d0, r1, d1, h0, h1, ht, hd, hk, hs⟩ => by simp only [h0, h1, ht, hd, hk, hs]⟩
    split at h <;> try cases h
    rename_i r0 d0 h0
    split at h <;> try cases h
    rename_i r1 d1 h1
    split at h <;> try cases h
    rename_i ht
    split at h <;> try cases h
    rename_i hd
    split at h <;> cases h
    rename_i hk
    exact ⟨hlen, r0, d0, r1, d1, h0, h1, ht, hd, hk, rfl⟩

theorem finish_eq_ok_iff {sd : SchemaDoc} {st : LState} {s : Schema} :
    finish sd st = .ok s ↔
      ∃ r1, Checked sd st r1 ∧ s = mkSchema sd st r1 ((sd.schema ++ sd.schemaExt).flatMap (·.dirs)) := by
  rw [finish_eq_ok_iff']
  simp only [applySchemaDefs_eq_ok, validateTypeDefinitions_pass_iff, validateDirectiveDefinitions_pass_iff, List.nil_append]
  constructor
  · rintro ⟨hlen, r0, _, r1, _, ⟨h0, hd0, rfl⟩, ⟨h1, hd1, rfl⟩, ht, hd, hk, rfl⟩
    refine ⟨r1, ⟨hlen, ?_, ?_, ht, hd, hk⟩, by rw [List.flatMap_append]⟩
    · rw [List.flatMap_append]; exact setRoots_append_eq_ok.mpr ⟨r0, h0, h1⟩
    · exact fun b hb => (List.mem_append.mp hb).elim (hd0 b) (hd1 b)
  · rintro ⟨r1, ⟨hlen, hr, hs, ht, hd, hk⟩, rfl⟩
    rw [List.flatMap_append] at hr
    obtain ⟨r0, h0, h1⟩ := setRoots_append_eq_ok.mp hr
    exact ⟨hlen, r0, _, r1, _, ⟨h0, fun b hb => hs b (List.mem_append_left _ hb), rfl⟩,
      ⟨h1, fun b hb => hs b (List.mem_append_right _ hb), rfl⟩, ht, hd, hk, by rw [List.flatMap_append]⟩

theorem load_eq_ok_iff {sd : SchemaDoc} {s : Schema} :
    load sd = .ok s ↔ ∃ st r1, buildState sd = .ok st ∧ Checked sd st r1 ∧
      s = mkSchema sd st r1 ((sd.schema ++ sd.schemaExt).flatMap (·.dirs)) := by
  unfold load
  cases buildState sd with
  | error e => simp
  | ok st => simp [finish_eq_ok_iff]

end Gql.Load
