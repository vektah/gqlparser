import GqlProofs.Schema.Directives
import GqlModel.Schema.Merged
/-
  Completeness of the loader, the stage `buildState`: the four maps are built (`buildState` succeeds)
  for every well-formed merged document, and the directive map agrees with the specification's
  "directive definition in force" (`Spec.TypeSystem.directive?`).

  `MergedDoc sd` is the hypothesis "sd is a merged document as `parser.ParseSchemas` builds it with the
  prelude as source 0": it is about the SHAPE of the document only (which source a node came from and in
  which order the sources were merged), never about the type system it describes.
-/
namespace Gql.Load
open Gql

/-- **the document is a merge of the prelude (source 0) followed by user sources**, as
    `parser.ParseSchemas(append([]*Source{Prelude}, inputs...))` builds it (the Boolean form
    `Spec.mergedB`, GqlModel/Schema/Merged.lean, is what the driver op `merged` evaluates on every
    document of the harness):
    * `extNotBuiltin` — no extension is marked built in (the prelude has no `extend`);
    * `preludeDirsBuiltin` — the directive definitions of source 0 are among the six the loader knows as
      built in (`include skip deprecated specifiedBy defer oneOf`: true of `validator/imported/prelude.graphql`);
    * `preludeFirst` — `Merge` appends, and the prelude is the first source. -/
structure MergedDoc (sd : SchemaDoc) : Prop where
  extNotBuiltin : ∀ e ∈ sd.extensions, e.builtIn = false
  preludeDirsBuiltin : ∀ d ∈ sd.directives, Spec.userWritten d.pos = false → builtinDirectiveNames.contains d.name = true
  preludeFirst : Spec.preludeFirstB sd.directives = true

theorem mergedB_iff (sd : SchemaDoc) : Spec.mergedB sd = true ↔ MergedDoc sd := by
  simp only [Spec.mergedB, Spec.mergedClauses, List.all_cons, List.all_nil, Bool.and_true, Bool.and_eq_true,
    List.all_eq_true, Bool.not_eq_true', Bool.or_eq_true]
  refine ⟨fun ⟨a, b, c⟩ => ⟨a, fun d hd hu => (b d hd).resolve_left (by simp [hu]), c⟩,
    fun ⟨a, b, c⟩ => ⟨a, fun d hd => ?_, c⟩⟩
  cases hu : Spec.userWritten d.pos
  · exact .inr (b d hd hu)
  · exact .inl rfl

instance (sd : SchemaDoc) : Decidable (MergedDoc sd) := decidable_of_iff _ (mergedB_iff sd)

theorem preludeFirst_split {l : List DirectiveDef} (h : Spec.preludeFirstB l = true) :
    ∃ P U, l = P ++ U ∧ (∀ d ∈ P, Spec.userWritten d.pos = false) ∧ (∀ d ∈ U, Spec.userWritten d.pos = true) := by
  induction l with
  | nil => exact ⟨[], [], rfl, by simp, by simp⟩
  | cons d rest ih =>
    simp only [Spec.preludeFirstB, Bool.and_eq_true, Bool.or_eq_true, Bool.not_eq_true', List.all_eq_true] at h
    cases hd : Spec.userWritten d.pos with
    | false =>
      obtain ⟨P, U, e, hP, hU⟩ := ih h.2
      exact ⟨d :: P, U, by rw [e]; rfl, List.forall_mem_cons.mpr ⟨hd, hP⟩, hU⟩
    | true => exact ⟨[], d :: rest, rfl, by simp, List.forall_mem_cons.mpr ⟨hd, h.1.resolve_left (by simp [hd])⟩⟩

/-- **"Cannot redeclare directive"** is excluded by `uniqueDirectiveNames` in a merged
    document -/
theorem load_declareDirectives_ok_of_wf {sd : SchemaDoc} (h : Spec.uniqueDirectiveNames sd = true) (hm : MergedDoc sd) :
    ∃ r, declareDirectives sd.directives [] = .ok r := by
  refine declareDirectives_ok_of fun dd hdd => ?_
  cases hb : builtinDirectiveNames.contains dd.name with
  | true => exact .inl rfl
  | false =>
    refine .inr ⟨rfl, ?_⟩
    simp only [Spec.uniqueDirectiveNames, Bool.and_eq_true] at h
    -- every declaration of this name is user-written
    have hall : sd.directives.filter (·.name == dd.name) =
        (sd.directives.filter (fun d => Spec.userWritten d.pos)).filter (·.name == dd.name) := by
      rw [List.filter_filter]
      refine List.filter_congr fun x hx => ?_
      cases hxn : x.name == dd.name with
      | false => rfl
      | true =>
        cases hu : Spec.userWritten x.pos with
        | true => rfl
        | false =>
          have := hm.preludeDirsBuiltin x hx hu
          rw [eq_of_beq hxn, hb] at this
          cases this
    rw [onceIn, hall]
    exact length_filter_name_le_one (nodup_of_pairwiseDistinct h.1) dd.name

/-- the three fallible loops that build the maps (definitions, extensions, directive definitions) all
    pass for a well-formed merged document: "Cannot redeclare type" is excluded by `uniqueTypeNames`,
    "Cannot extend type … because the base type is a …" by `extensionKindsMatch` -/
theorem load_buildState_ok_of_wf {sd : SchemaDoc} (h : Spec.WellFormed sd) (hm : MergedDoc sd) :
    ∃ st, buildState sd = .ok st :=
  buildState_isOk_iff.mpr ⟨h.uniqueTypeNames, h.extensionKindsMatch, load_declareDirectives_ok_of_wf h.uniqueDirectiveNames hm⟩


theorem find?_congr_mem {α} {l : List α} {p q : α → Bool} (h : ∀ x ∈ l, p x = q x) : l.find? p = l.find? q := by
  induction l with
  | nil => rfl
  | cons x rest ih =>
    simp only [List.find?_cons, h x (.head _)]
    rw [ih fun y hy => h y (List.mem_cons_of_mem _ hy)]

/-- **bridge for directives**: in a merged document with unique directive names (per provenance), the
    definition the specification regards as in force — the user's, else the prelude's — is the one the
    loader's loop leaves in `schema.Directives` (the LAST declaration) -/
theorem spec_directive_eq_of_merged {sd : SchemaDoc} {st : LState} (hb : buildState sd = .ok st)
    (hu : Spec.uniqueDirectiveNames sd = true) (hm : MergedDoc sd) (n : Name) :
    (Spec.TypeSystem.ofDoc sd).directive? n = st.directives.lookup n := by
  rw [state_directives_lookup hb]
  obtain ⟨P, U, hl, hP, hU⟩ := preludeFirst_split hm.preludeFirst
  simp only [Spec.uniqueDirectiveNames, Bool.and_eq_true, pairwiseDistinct_iff_nodup] at hu
  have hfU : sd.directives.filter (fun d => Spec.userWritten d.pos) = U := by
    rw [hl, List.filter_append, List.filter_eq_nil_iff.mpr (by simpa using hP), List.filter_eq_self.mpr hU]; rfl
  have hfP : sd.directives.filter (fun d => !Spec.userWritten d.pos) = P := by
    rw [hl, List.filter_append, List.filter_eq_self.mpr (by simpa using hP), List.filter_eq_nil_iff.mpr (by simpa using hU),
      List.append_nil]
  rw [hfU, hfP] at hu
  unfold Spec.TypeSystem.directive? Spec.TypeSystem.ofDoc
  have h1 : (P ++ U).find? (fun d => d.name == n && Spec.userWritten d.pos) = U.find? (·.name == n) := by
    rw [List.find?_append, List.find?_eq_none.mpr (by simpa using fun x hx _ => hP x hx), Option.none_or]
    exact find?_congr_mem fun x hx => by simp [hU x hx]
  simp only [hl, lastD_append, lastD_nodup hu.1, lastD_nodup hu.2, h1, List.find?_append, Option.or_none]
  cases U.find? (·.name == n) <;> cases P.find? (·.name == n) <;> rfl

theorem declareDirectives_mem {l : List DirectiveDef} {acc r : List (Name × DirectiveDef)}
    (h : declareDirectives l acc = .ok r) : ∀ p ∈ r, p ∈ acc ∨ p.2 ∈ l :=
  declareDirectives_induct (I := fun m => ∀ p ∈ m, p ∈ acc ∨ p.2 ∈ l) h (fun _ hp => .inl hp)
    fun _ hdd _ ha p hp => (mem_insertKV hp).elim (fun e => .inr (e ▸ hdd)) (ha p)

theorem state_directives_mem {sd : SchemaDoc} {st : LState} (hb : buildState sd = .ok st) :
    ∀ p ∈ st.directives, p.2 ∈ sd.directives := fun p hp =>
  (declareDirectives_mem (buildState_eq_ok.mp hb).2.2.1 p hp).resolve_left (by simp)

end Gql.Load
