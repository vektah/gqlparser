import GqlProofs.Schema.NoPanic
import GqlProofs.Schema.Closed
/-
  Order independence: permuting `definitions` does not change whether a document loads, and the two
  loaded schemas agree up to the order of the map entries and of the relation lists.
-/
namespace Gql.Load
open Gql

theorem keysInv_perm {l l' : List (Name × Definition)} (hp : l'.Perm l) (h : KeysInv (·.name) l) :
    KeysInv (·.name) l' :=
  ⟨(hp.map Prod.fst).nodup_iff.mpr h.1, fun p hp' => h.2 p (hp.mem_iff.mp hp')⟩

/-- validators only read the state through `type?`, `directives` and `isCovariant` -/
structure StateEq (st st' : LState) : Prop where
  types : ∀ n, st'.type? n = st.type? n
  dirs : ∀ n, st'.directives.lookup n = st.directives.lookup n
  cov : ∀ r a, isCovariant st' r a = isCovariant st r a

theorem possibleHas_of_noNil {l : List (Option Name)} (h : ∀ e ∈ l, e ≠ none) (a : Name) :
    possibleHas l a = some (decide (some a ∈ l)) := by
  induction l with
  | nil => simp [possibleHas]
  | cons e rest ih =>
    cases e with
    | none => exact absurd rfl (h none (.head _))
    | some n =>
      simp only [possibleHas, ih fun e he => h e (List.mem_cons_of_mem _ he)]
      by_cases hn : n = a
      · simp [hn]
      · simp [hn, Ne.symm hn]

theorem isCovariant_congr {st st' : LState} (hnil : NoNilPossible st)
    (hperm : ∀ k, (entriesOf st'.possible k).Perm (entriesOf st.possible k)) (r a : GType) :
    isCovariant st' r a = isCovariant st r a := by
  induction r generalizing a with
  | named rn rnn rp =>
    unfold isCovariant
    split
    · rfl
    · split
      · rfl
      · have h1 := entriesOf_ne_none hnil rn
        show possibleHas (entriesOf st'.possible rn) _ = possibleHas (entriesOf st.possible rn) _
        rw [possibleHas_of_noNil h1, possibleHas_of_noNil fun e he => h1 e ((hperm rn).mem_iff.mp he)]
        simp only [(hperm rn).mem_iff]
  | list re rnn rp ih =>
    cases a with
    | named an ann ap => simp [isCovariant]
    | list ae ann ap => simp only [isCovariant, ih]

section
variable {st st' : LState} (E : StateEq st st')
include E

theorem validateDirectives_congr (ds : List Directive) (loc : Bytes) (cur : Option Name) :
    validateDirectives st' ds loc cur = validateDirectives st ds loc cur := by
  unfold validateDirectives validateDirectiveUse
  simp only [E.dirs]

theorem validateArgs_congr (args : List ArgDef) (cur : Option Name) :
    validateArgs st' args cur = validateArgs st args cur := by
  unfold validateArgs validateTypeRef
  simp only [E.types, validateDirectives_congr E]

theorem validateDefinition_congr (d : Definition) : validateDefinition st' d = validateDefinition st d := by
  have hi : validateImplements st' d = validateImplements st d := by
    funext i
    unfold validateImplements validateImplementsField validateTypeImplementsAncestors
    simp only [E.types, E.cov]
  unfold validateDefinition validateKindSpecific validateTypeRef
  simp only [E.types, validateArgs_congr E, validateDirectives_congr E, hi]

theorem validateDirectiveDef_congr (dd : DirectiveDef) : validateDirectiveDef st' dd = validateDirectiveDef st dd := by
  unfold validateDirectiveDef
  simp only [validateArgs_congr E]

theorem setRoots_congr (l : List OpTypeDef) (r : Roots) : setRoots st'.types l r = setRoots st.types l r := by
  induction l generalizing r with
  | nil => rfl
  | cons e rest ih => simp only [setRoots, show st'.types.lookup e.type = st.types.lookup e.type from E.types _, ih]

theorem checkRootKinds_congr {sd sd' : SchemaDoc} (hs : sd'.schema = sd.schema) (r : Roots) :
    finalRoots sd' st' r = finalRoots sd st r ∧
    checkRootKinds st' (finalRoots sd' st' r) = checkRootKinds st (finalRoots sd st r) := by
  have hl : ∀ n, st'.types.lookup n = st.types.lookup n := E.types
  have hf : finalRoots sd' st' r = finalRoots sd st r := by
    unfold finalRoots inferRoots inferRoot ptrOf
    simp only [hs, hl]
  refine ⟨hf, ?_⟩
  rw [hf]
  unfold checkRootKinds checkRootKind
  simp only [E.types]

end

structure DefsPerm (sd sd' : SchemaDoc) : Prop where
  definitions : sd'.definitions.Perm sd.definitions
  extensions : sd'.extensions = sd.extensions
  directives : sd'.directives = sd.directives
  schema : sd'.schema = sd.schema
  schemaExt : sd'.schemaExt = sd.schemaExt

theorem DefsPerm.symm {sd sd' : SchemaDoc} (h : DefsPerm sd sd') : DefsPerm sd' sd :=
  ⟨h.definitions.symm, h.extensions.symm, h.directives.symm, h.schema.symm, h.schemaExt.symm⟩

/-- the maps of a document with permuted definitions, by their closed forms: the same lookups -/
theorem buildState_perm {sd sd' : SchemaDoc} (hp : DefsPerm sd sd') {st : LState} (h : buildState sd = .ok st) :
    ∃ st', buildState sd' = .ok st' ∧ (∀ n, st'.types.lookup n = st.types.lookup n) ∧ st'.directives = st.directives := by
  obtain ⟨hn, ht, hd, _⟩ := buildState_eq_ok.mp h
  have hl := perm_lookup (hp.definitions.map fun d => (d.name, d)) (by simpa [List.map_map, Function.comp_def] using hn)
  obtain ⟨t', ht'⟩ := foldExtensions_isOk_iff.mpr ((extKindsOK_congr hl).mpr (foldExtensions_isOk_iff.mp ⟨_, ht⟩))
  refine ⟨⟨t', st.directives, (buildRelations t').1, (buildRelations t').2⟩,
    buildState_eq_ok.mpr ⟨(hp.definitions.map _).nodup_iff.mpr hn, hp.extensions ▸ ht', hp.directives ▸ hd, rfl⟩, fun n => ?_, rfl⟩
  rw [foldExtensions_lookup ht', foldExtensions_lookup ht, hl]

theorem possPushes_congr {t t' : List (Name × Definition)} (h : ∀ n, t'.lookup n = t.lookup n) :
    possPushes t' = possPushes t := by
  funext d
  unfold possPushes ptrOf
  simp only [h]

theorem implPushes_congr {t t' : List (Name × Definition)} (h : ∀ n, t'.lookup n = t.lookup n) :
    implPushes t' = implPushes t := by
  funext d
  unfold implPushes ptrOf
  simp only [h]

theorem buildRelations_perm {t t' : List (Name × Definition)} (hn : (t.map Prod.fst).Nodup) (hperm : t'.Perm t) (k : Name) :
    (entriesOf (buildRelations t').1 k).Perm (entriesOf (buildRelations t).1 k) ∧
    (entriesOf (buildRelations t').2 k).Perm (entriesOf (buildRelations t).2 k) := by
  have hl := perm_lookup hperm hn
  rw [possible_entries, possible_entries, implements_entries, implements_entries, possPushes_congr hl, implPushes_congr hl]
  exact ⟨(((hperm.map Prod.snd).flatMap_right _).filter _).map _, (((hperm.map Prod.snd).flatMap_right _).filter _).map _⟩

theorem lookup_relOut (rel : Rel) (k : Name) :
    (relOut rel).lookup k = (rel.lookup k).map (fun vs => vs.map (·.getD nilName)) := by
  induction rel with
  | nil => rfl
  | cons p rest ih =>
    obtain ⟨k', vs⟩ := p
    simp only [relOut, List.map_cons, lookup_cons_ite] at ih ⊢
    split
    · rfl
    · exact ih

theorem relOut_getD (rel : Rel) (k : Name) :
    ((relOut rel).lookup k).getD [] = (entriesOf rel k).map (·.getD nilName) := by
  rw [lookup_relOut, entriesOf]
  cases rel.lookup k <;> rfl

/-- the loaded schemas of two documents that differ by a permutation of `definitions` -/
structure SchemaEquiv (s s' : Schema) : Prop where
  query : s'.query = s.query
  mutation : s'.mutation = s.mutation
  subscription : s'.subscription = s.subscription
  schemaDirectives : s'.schemaDirectives = s.schemaDirectives
  description : s'.description = s.description
  directives : s'.directives = s.directives
  types : s'.types.Perm s.types
  possible : ∀ k, (s'.possible k).Perm (s.possible k)
  implementsOf : ∀ k, (s'.implementsOf k).Perm (s.implementsOf k)

theorem load_defsPerm_equiv {sd sd' : SchemaDoc} (hp : DefsPerm sd sd') {s : Schema} (h : load sd = .ok s) :
    ∃ s', load sd' = .ok s' ∧ SchemaEquiv s s' := by
  obtain ⟨st, r1, hb, C, rfl⟩ := load_eq_ok_iff.mp h
  obtain ⟨st', hb', hl, hdirs⟩ := buildState_perm hp hb
  obtain ⟨hinv, _, hrel⟩ := buildState_inv hb
  obtain ⟨hinv', _, hrel'⟩ := buildState_inv hb'
  have hperm := perm_of_lookup_eq hinv.1 hinv'.1 hl
  have hrels := buildRelations_perm hinv.1 hperm
  rw [← hrel, ← hrel'] at hrels
  have E : StateEq st st' := ⟨hl, fun _ => by rw [hdirs], isCovariant_congr (noNil_of_buildState hb) fun k => (hrels k).1⟩
  have hroots := checkRootKinds_congr E hp.schema r1
  have C' : Checked sd' st' r1 :=
    { single := hp.schema ▸ C.single
      roots := by rw [hp.schema, hp.schemaExt, setRoots_congr E]; exact C.roots
      schemaDirs := by rw [hp.schema, hp.schemaExt]; exact fun b hb => validateDirectives_congr E _ _ _ ▸ C.schemaDirs b hb
      defs := fun k d hk => validateDefinition_pass_iff.mp
        (validateDefinition_congr E d ▸ validateDefinition_pass_iff.mpr (C.defs k d ((E.types k).symm.trans hk)))
      dirDefs := fun k dd hk => validateArgs_congr E _ _ ▸ C.dirDefs k dd (E.dirs k ▸ hk)
      rootKinds := hroots.2 ▸ C.rootKinds }
  refine ⟨_, load_eq_ok_iff.mpr ⟨st', r1, hb', C', rfl⟩, ?_⟩
  rw [hp.schema, hp.schemaExt]
  have hrel : ∀ {rel rel' : Rel} (k : Name), (entriesOf rel' k).Perm (entriesOf rel k) →
      (((relOut rel').lookup k).getD []).Perm (((relOut rel).lookup k).getD []) := by
    intro rel rel' k h
    rw [relOut_getD, relOut_getD]
    exact h.map _
  refine ⟨congrArg Roots.query hroots.1, congrArg Roots.mutation hroots.1, congrArg Roots.subscription hroots.1,
    rfl, ?_, hdirs, ?_, fun k => hrel k (hrels k).1, fun k => hrel k (hrels k).2⟩
  · show (match sd'.schema with | [d] => d.desc | _ => []) = (match sd.schema with | [d] => d.desc | _ => [])
    rw [hp.schema]
  · rw [mkSchema_types, mkSchema_types, hroots.1]
    split
    · rw [modifyKV_eq_map _ _ hinv'.1, modifyKV_eq_map _ _ hinv.1]
      exact hperm.map _
    · exact hperm

theorem load_ok_of_defsPerm {sd sd' : SchemaDoc} (hp : DefsPerm sd sd') {s : Schema} (h : load sd = .ok s) :
    ∃ s', load sd' = .ok s' :=
  let ⟨s', h', _⟩ := load_defsPerm_equiv hp h
  ⟨s', h'⟩

end Gql.Load
