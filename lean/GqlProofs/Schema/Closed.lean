import GqlProofs.Schema.State
/-
  What is known of the state and the roots when `load` returns `ok s`, and how `s` is read off them
  (lemmas; the property theorems are in Props/C07.lean).
-/
namespace Gql.Load
open Gql

/-- what `load sd = ok s` establishes up to the checks of the definitions (without the root-kind check; the
    proofs use `Checked` and `Facts`) -/
structure Loaded (sd : SchemaDoc) (s : Schema) : Prop where
  ex : ∃ st r0 d0 r1 d1, buildState sd = .ok st ∧ sd.schema.length ≤ 1 ∧
      applySchemaDefs st sd.schema noRoots [] = .ok r0 d0 ∧
      applySchemaDefs st sd.schemaExt r0 d0 = .ok r1 d1 ∧
      validateTypeDefinitions st = .pass ∧ validateDirectiveDefinitions st = .pass ∧
      s = mkSchema sd st r1 d1

theorem isInputKind_eq (k : DefKind) : Spec.isInputKind k = isInputKind k := by cases k <;> rfl
theorem isOutputKind_eq (k : DefKind) : Spec.isOutputKind k = isOutputKind k := by cases k <;> rfl
theorem kindLocation_eq (k : DefKind) : Spec.kindLocation k = k.render := by cases k <;> rfl

theorem pairwiseDistinct_of_nodup {l : List Name} (h : l.Nodup) : Spec.pairwiseDistinct l = true :=
  pairwiseDistinct_iff_nodup.mpr h

theorem rootTypesAreObjects_iff (s : Schema) :
    Spec.rootTypesAreObjects s = true ↔
      (∀ n, s.query = some n → Spec.typeIs s n (· == .object) = true) ∧
      (∀ n, s.mutation = some n → Spec.typeIs s n (· == .object) = true) ∧
      (∀ n, s.subscription = some n → Spec.typeIs s n (· == .object) = true) := by
  simp only [Spec.rootTypesAreObjects, List.all_cons, List.all_nil, Bool.and_true, Bool.and_eq_true]
  cases s.query <;> cases s.mutation <;> cases s.subscription <;> simp

theorem mkSchema_types (sd : SchemaDoc) (st : LState) (r1 : Roots) (d1 : List Directive) :
    (mkSchema sd st r1 d1).types =
      match (finalRoots sd st r1).query with
      | some q => modifyKV q addIntrospection st.types
      | none => st.types := rfl

theorem mkSchema_query (sd : SchemaDoc) (st : LState) (r1 : Roots) (d1 : List Directive) :
    (mkSchema sd st r1 d1).query = (finalRoots sd st r1).query := rfl

/-- the final type map is the state's type map with one definition extended by the introspection fields -/
def finalDef (q : Option Name) (p : Name × Definition) : Name × Definition :=
  match q with
  | some q => if p.1 == q then (p.1, addIntrospection p.2) else p
  | none => p

theorem finalDef_cases (q : Option Name) (p : Name × Definition) :
    finalDef q p = p ∨ (finalDef q p = (p.1, addIntrospection p.2) ∧ q = some p.1) := by
  unfold finalDef
  split
  · split
    · rename_i h; exact .inr ⟨rfl, by rw [eq_of_beq h]⟩
    · exact .inl rfl
  · exact .inl rfl

theorem finalDef_fst (q : Option Name) (p : Name × Definition) : (finalDef q p).1 = p.1 := by
  rcases finalDef_cases q p with h | ⟨h, _⟩ <;> rw [h]
theorem finalDef_kind (q : Option Name) (p : Name × Definition) : (finalDef q p).2.kind = p.2.kind := by
  rcases finalDef_cases q p with h | ⟨h, _⟩ <;> rw [h] <;> rfl
theorem finalDef_dirs (q : Option Name) (p : Name × Definition) : (finalDef q p).2.dirs = p.2.dirs := by
  rcases finalDef_cases q p with h | ⟨h, _⟩ <;> rw [h] <;> rfl
theorem finalDef_interfaces (q : Option Name) (p : Name × Definition) : (finalDef q p).2.interfaces = p.2.interfaces := by
  rcases finalDef_cases q p with h | ⟨h, _⟩ <;> rw [h] <;> rfl
theorem finalDef_types (q : Option Name) (p : Name × Definition) : (finalDef q p).2.types = p.2.types := by
  rcases finalDef_cases q p with h | ⟨h, _⟩ <;> rw [h] <;> rfl
theorem finalDef_enumValues (q : Option Name) (p : Name × Definition) : (finalDef q p).2.enumValues = p.2.enumValues := by
  rcases finalDef_cases q p with h | ⟨h, _⟩ <;> rw [h] <;> rfl
theorem finalDef_builtIn (q : Option Name) (p : Name × Definition) : (finalDef q p).2.builtIn = p.2.builtIn := by
  rcases finalDef_cases q p with h | ⟨h, _⟩ <;> rw [h] <;> rfl

theorem finalDef_fields (q : Option Name) (p : Name × Definition) :
    (finalDef q p).2.fields = p.2.fields ∨ ((finalDef q p).2.fields = p.2.fields ++ introspectionFields ∧ q = some p.1) := by
  rcases finalDef_cases q p with h | ⟨h, hq⟩ <;> rw [h]
  · exact .inl rfl
  · exact .inr ⟨rfl, hq⟩

theorem mkSchema_types_map {sd : SchemaDoc} {st : LState} {r1 : Roots} {d1 : List Directive}
    (hn : (st.types.map Prod.fst).Nodup) :
    (mkSchema sd st r1 d1).types = st.types.map (finalDef (finalRoots sd st r1).query) := by
  rw [mkSchema_types]
  cases (finalRoots sd st r1).query with
  | none => exact (List.map_id' _).symm
  | some q => exact modifyKV_eq_map q addIntrospection hn

theorem lookup_mkSchema_eq (sd : SchemaDoc) (st : LState) (r1 : Roots) (d1 : List Directive) (n : Name) :
    (mkSchema sd st r1 d1).types.lookup n =
      (st.types.lookup n).map fun x => (finalDef (finalRoots sd st r1).query (n, x)).2 := by
  rw [mkSchema_types]
  cases (finalRoots sd st r1).query with
  | none => cases st.types.lookup n <;> rfl
  | some q =>
    simp only [finalDef, lookup_modifyKV]
    by_cases hk : n = q <;> cases st.types.lookup n <;> simp [hk]

theorem lookup_isSome_mkSchema (sd : SchemaDoc) (st : LState) (r1 : Roots) (d1 : List Directive) (n : Name) :
    ((mkSchema sd st r1 d1).types.lookup n).isSome = (st.types.lookup n).isSome := by
  rw [lookup_mkSchema_eq]; cases st.types.lookup n <;> rfl

theorem lookup_final {sd : SchemaDoc} {st : LState} {r1 : Roots} {d1 : List Directive} {k : Name} {d : Definition}
    (h : st.types.lookup k = some d) :
    (mkSchema sd st r1 d1).types.lookup k = some (finalDef (finalRoots sd st r1).query (k, d)).2 := by
  rw [lookup_mkSchema_eq, h]; rfl

theorem typeIs_mkSchema {sd : SchemaDoc} {st : LState} {r1 : Roots} {d1 : List Directive} {n : Name} {d : Definition}
    {p : DefKind → Bool} (h : st.types.lookup n = some d) (hp : p d.kind = true) :
    Spec.typeIs (mkSchema sd st r1 d1) n p = true := by
  simp only [Spec.typeIs, lookup_final h, finalDef_kind, hp]

theorem typeIs_any_mkSchema {sd : SchemaDoc} {st : LState} {r1 : Roots} {d1 : List Directive} {n : Name}
    (h : (st.types.lookup n).isSome) : Spec.typeIs (mkSchema sd st r1 d1) n Spec.anyKind = true :=
  let ⟨_, hl⟩ := Option.isSome_iff_exists.mp h
  typeIs_mkSchema hl rfl

theorem state_lookup {sd : SchemaDoc} {st : LState} (h : buildState sd = .ok st) (n : Name) :
    st.types.lookup n = mergedFrom (sd.definitions.find? (·.name == n)) (sd.extensions.filter (·.name == n)) := by
  rw [foldExtensions_lookup (buildState_eq_ok.mp h).2.1, lookup_map_key]

def DeclaresKind (sd : SchemaDoc) (n : Name) (k : DefKind) : Prop := ∃ d ∈ sd.definitions, d.name = n ∧ d.kind = k

theorem buildState_declares {sd : SchemaDoc} {st : LState} (h : buildState sd = .ok st) {n : Name} {k : DefKind}
    (hd : DeclaresKind sd n k) : ∃ d, st.types.lookup n = some d ∧ d.kind = k := by
  obtain ⟨d, hmem, rfl, rfl⟩ := hd
  have hfind := find?_key_of_mem Definition.name (buildState_eq_ok.mp h).1 hmem
  exact ⟨_, by rw [state_lookup h, hfind]; rfl, (foldl_applyExt _ _).1⟩

def RootsOK (types : List (Name × Definition)) (r : Roots) : Prop :=
  (∀ n, r.query = some n → (types.lookup n).isSome) ∧ (∀ n, r.mutation = some n → (types.lookup n).isSome) ∧
  (∀ n, r.subscription = some n → (types.lookup n).isSome)

theorem rootsOK_iff {types : List (Name × Definition)} {r : Roots} :
    RootsOK types r ↔ ∀ o, isRootOp o = true → ∀ n, rootOf r o = some n → (types.lookup n).isSome := by
  rw [forall_rootOp, rootOf_query, rootOf_mutation, rootOf_subscription]; rfl

theorem setRoots_ok {types : List (Name × Definition)} (hinv : KeysInv (·.name) types) {l : List OpTypeDef} {r r' : Roots}
    (hr : RootsOK types r) (h : setRoots types l r = .ok r') : RootsOK types r' := by
  rw [rootsOK_iff] at hr ⊢
  intro o ho n hn
  rw [setRoots_rootOf h] at hn
  cases hro : rootOf r o with
  | some m => rw [hro] at hn; cases hn; exact hr o ho _ hro
  | none =>
    rw [hro, Option.none_or] at hn
    obtain ⟨e, _, he⟩ := Option.bind_eq_some_iff.mp hn
    exact ptrOf_resolves hinv he

/-- directives that passed `validateDirectives … SCHEMA` -/
def SchemaDirsOK (st : LState) (ds : List Directive) : Prop :=
  ∀ dir ∈ ds, ∃ dd, st.directives.lookup dir.name = some dd ∧ dd.locations.contains locSchema = true

theorem inferRoots_ok {types : List (Name × Definition)} (hinv : KeysInv (·.name) types) {r : Roots}
    (hr : RootsOK types r) : RootsOK types (inferRoots types r) := by
  have key : ∀ (cur : Option Name) (nm : Name), (∀ n, cur = some n → (types.lookup n).isSome) →
      ∀ n, inferRoot types cur nm = some n → (types.lookup n).isSome := by
    intro cur nm hcur n hn
    unfold inferRoot at hn
    split at hn
    · exact hcur n hn
    · exact ptrOf_resolves hinv hn
  exact ⟨key _ _ hr.1, key _ _ hr.2.1, key _ _ hr.2.2⟩

/-- the facts every closedness theorem starts from -/
structure Facts (sd : SchemaDoc) (s : Schema) (st : LState) (r1 : Roots) (d1 : List Directive) : Prop where
  eq : s = mkSchema sd st r1 d1
  built : buildState sd = .ok st
  typesInv : KeysInv (·.name) st.types
  dirsInv : KeysInv (·.name) st.directives
  rel : (st.possible, st.implements) = buildRelations st.types
  defOK : ∀ p ∈ st.types, DefOK st p.2
  dirDefOK : ∀ p ∈ st.directives, validateArgs st p.2.args (some p.2.name) = .pass
  roots : RootsOK st.types (finalRoots sd st r1)
  schemaDirs : SchemaDirsOK st d1
  rootKinds : checkRootKinds st (finalRoots sd st r1) = .pass

theorem facts_of_checked {sd : SchemaDoc} {st : LState} {r1 : Roots} (hb : buildState sd = .ok st) (C : Checked sd st r1) :
    Facts sd (mkSchema sd st r1 ((sd.schema ++ sd.schemaExt).flatMap (·.dirs))) st r1
      ((sd.schema ++ sd.schemaExt).flatMap (·.dirs)) := by
  obtain ⟨hti, hdi, hrel⟩ := buildState_inv hb
  have hr1 : RootsOK st.types r1 := setRoots_ok hti ⟨by simp [noRoots], by simp [noRoots], by simp [noRoots]⟩ C.roots
  refine ⟨rfl, hb, hti, hdi, hrel, fun p hp => C.defs _ _ (lookup_of_mem_nodup hti.1 hp),
    fun p hp => (C.dirDefs _ _ (lookup_of_mem_nodup hdi.1 hp)).2, ?_, fun dir hdir => ?_, C.rootKinds⟩
  · unfold finalRoots
    split
    · exact inferRoots_ok hti hr1
    · exact hr1
  · obtain ⟨b, hb, hdir⟩ := List.mem_flatMap.mp hdir
    exact validateDirectives_pass (C.schemaDirs b hb) dir hdir

theorem loaded_checked {sd : SchemaDoc} {s : Schema} (h : load sd = .ok s) :
    ∃ st r1, Facts sd s st r1 ((sd.schema ++ sd.schemaExt).flatMap (·.dirs)) ∧ Checked sd st r1 := by
  obtain ⟨st, r1, hb, C, rfl⟩ := load_eq_ok_iff.mp h
  exact ⟨st, r1, facts_of_checked hb C, C⟩

theorem loaded_facts {sd : SchemaDoc} {s : Schema} (h : load sd = .ok s) : ∃ st r1 d1, Facts sd s st r1 d1 :=
  let ⟨st, r1, F, _⟩ := loaded_checked h
  ⟨st, r1, _, F⟩

section
variable {sd : SchemaDoc} {s : Schema} {st : LState} {r1 : Roots} {d1 : List Directive}

theorem Facts.lookup_self (F : Facts sd s st r1 d1) {p : Name × Definition} (hp : p ∈ st.types) :
    st.types.lookup p.1 = some p.2 := lookup_of_mem_nodup F.typesInv.1 hp

theorem Facts.name_eq (F : Facts sd s st r1 d1) {p : Name × Definition} (hp : p ∈ st.types) : p.2.name = p.1 :=
  F.typesInv.2 p hp

theorem Facts.roots_eq (F : Facts sd s st r1 d1) : finalRoots sd st r1 = ⟨s.query, s.mutation, s.subscription⟩ := by
  rw [F.eq]; rfl

theorem Facts.types_eq (F : Facts sd s st r1 d1) : s.types = st.types.map (finalDef (finalRoots sd st r1).query) := by
  rw [F.eq]; exact mkSchema_types_map F.typesInv.1

theorem Facts.directives_eq (F : Facts sd s st r1 d1) : s.directives = st.directives := by rw [F.eq]; rfl

theorem Facts.schemaDirectives_eq (F : Facts sd s st r1 d1) : s.schemaDirectives = d1 := by rw [F.eq]; rfl

theorem Facts.mem_types (F : Facts sd s st r1 d1) {p' : Name × Definition} (hp : p' ∈ (mkSchema sd st r1 d1).types) :
    ∃ p ∈ st.types, p' = finalDef (finalRoots sd st r1).query p := by
  rw [mkSchema_types_map F.typesInv.1] at hp
  obtain ⟨p, hp0, rfl⟩ := List.mem_map.mp hp
  exact ⟨p, hp0, rfl⟩

theorem Facts.possible_eq (F : Facts sd s st r1 d1) : st.possible = (buildRelations st.types).1 := congrArg Prod.fst F.rel
theorem Facts.implements_eq (F : Facts sd s st r1 d1) : st.implements = (buildRelations st.types).2 := congrArg Prod.snd F.rel

theorem Facts.refs (F : Facts sd s st r1 d1) : ∀ p ∈ st.types, RefsResolve st.types p.2 := fun p hp =>
  ⟨by rw [F.name_eq hp, F.lookup_self hp]; rfl,
    fun i hi => let ⟨_, ht, _⟩ := (F.defOK p hp).interfaces i hi; by rw [ht]; rfl,
    fun m hm => let ⟨_, ht, _⟩ := (F.defOK p hp).members m hm; by rw [ht]; rfl⟩

theorem Facts.relInv (F : Facts sd s st r1 d1) : RelInv st.types st.possible ∧ RelInv st.types st.implements := by
  have hr := buildRelations_inv F.typesInv F.refs
  rwa [← F.rel] at hr

end

theorem relOut_closed {sd : SchemaDoc} {st : LState} {r1 : Roots} {d1 : List Directive} {rel : Rel}
    (h : RelInv st.types rel) :
    ∀ p ∈ relOut rel, Spec.typeIs (mkSchema sd st r1 d1) p.1 Spec.anyKind = true ∧
      ∀ n ∈ p.2, Spec.typeIs (mkSchema sd st r1 d1) n Spec.anyKind = true := by
  intro p hp
  obtain ⟨⟨k, vs⟩, hq, rfl⟩ := List.mem_map.mp hp
  obtain ⟨hk, hvs⟩ := h (k, vs) hq
  refine ⟨typeIs_any_mkSchema hk, fun n hn => ?_⟩
  obtain ⟨e, he, rfl⟩ := List.mem_map.mp hn
  obtain ⟨n', rfl, hn'⟩ := hvs e he
  exact typeIs_any_mkSchema hn'

theorem directiveIs_of_pass {sd : SchemaDoc} {st : LState} {r1 : Roots} {d1 : List Directive} {dirs : List Directive}
    {loc : Bytes} {cur : Option Name} (h : validateDirectives st dirs loc cur = .pass) :
    ∀ d ∈ dirs, Spec.directiveIs (mkSchema sd st r1 d1) d loc = true := by
  intro d hd
  obtain ⟨dd, h1, h2⟩ := validateDirectives_pass h d hd
  have : (mkSchema sd st r1 d1).directives = st.directives := rfl
  simp only [Spec.directiveIs, this, h1]
  exact h2

end Gql.Load
