import GqlModel.Schema.Model
import GqlModel.Schema.Spec
import GqlProofs.Lemmas.Lists
/-
  Generic lemmas for the loader proofs: "first failing check wins" (`Chk.andThen`, `each`),
  `sortNames`, the operations on association lists that model writes to Go maps (`insertKV`, `modifyKV`,
  `pushKV`; reading them is `Lemmas/Lists`), and the specification's `pairwiseDistinct` and `sameSet`
  as `Nodup` and equality of members.
-/
namespace Gql.Load
open Gql

@[simp] theorem andThen_pass (b : Unit → Chk) : Chk.andThen .pass b = b () := rfl
@[simp] theorem andThen_fail (e : LoadError) (b : Unit → Chk) : Chk.andThen (.fail e) b = .fail e := rfl
@[simp] theorem andThen_panic (b : Unit → Chk) : Chk.andThen .panic b = .panic := rfl

theorem andThen_eq_pass {a : Chk} {b : Unit → Chk} : a.andThen b = .pass ↔ a = .pass ∧ b () = .pass := by
  cases a <;> simp

theorem each_eq_pass {α} {xs : List α} {f : α → Chk} : each xs f = .pass ↔ ∀ x ∈ xs, f x = .pass := by
  induction xs with
  | nil => simp [each]
  | cons x rest ih => simp [each, andThen_eq_pass, ih]

@[simp] theorem failAt_ne_pass (p : Pos) (m : Bytes) : failAt p m ≠ .pass := by simp [failAt]

theorem isOk_iff (r : LoadResult) : r.isOk = true ↔ ∃ s, r = .ok s := by
  cases r <;> simp [LoadResult.isOk]

theorem exists_err_of {r : LoadResult} (h : r.isPanic = false ∧ r.isOk = false) : ∃ e, r = .err e := by
  cases r <;> simp_all [LoadResult.isOk, LoadResult.isPanic]

theorem exists_ok_of {r : LoadResult} {p : Schema → Bool}
    (h : (match r with | .ok s => p s | _ => false) = true) : ∃ s, r = .ok s ∧ p s = true := by
  cases r <;> simp_all

theorem mem_insertName {x y : Name} {l : List Name} : y ∈ insertName x l ↔ y = x ∨ y ∈ l := by
  induction l with
  | nil => simp [insertName]
  | cons z zs ih => simp only [insertName]; split <;> simp [ih, or_left_comm]

theorem mem_sortNames {y : Name} {l : List Name} : y ∈ sortNames l ↔ y ∈ l := by
  induction l with
  | nil => simp [sortNames]
  | cons x xs ih => simp [sortNames, mem_insertName, ih]

theorem pairwiseDistinct_iff_nodup {l : List Name} : Spec.pairwiseDistinct l = true ↔ l.Nodup := by
  induction l with
  | nil => simp [Spec.pairwiseDistinct]
  | cons x rest ih => simp [Spec.pairwiseDistinct, ih]

theorem nodup_of_pairwiseDistinct {l : List Name} (h : Spec.pairwiseDistinct l = true) : l.Nodup :=
  pairwiseDistinct_iff_nodup.mp h

theorem sameSet_iff {a b : List Name} : Spec.sameSet a b = true ↔ ∀ x, x ∈ a ↔ x ∈ b := by
  simp only [Spec.sameSet, Bool.and_eq_true, List.all_eq_true, List.contains_iff_mem]
  exact ⟨fun ⟨h1, h2⟩ x => ⟨h1 x, h2 x⟩, fun h => ⟨fun x => (h x).mp, fun x => (h x).mpr⟩⟩

theorem lookup_modifyKV {α} (k q : Name) (f : α → α) (l : List (Name × α)) :
    (modifyKV q f l).lookup k = if k = q then (l.lookup k).map f else l.lookup k := by
  induction l with
  | nil => simp [modifyKV]
  | cons p rest ih =>
    obtain ⟨k', v'⟩ := p
    simp only [modifyKV]
    split
    · rename_i h
      cases eq_of_beq h
      simp only [lookup_cons_ite]
      split <;> simp [*]
    · rename_i h
      have hk : k' ≠ q := by simpa using h
      simp only [lookup_cons_ite, ih]
      by_cases hn : k = k'
      · simp [hn, hk]
      · simp [hn]

theorem keys_modifyKV {α} (q : Name) (f : α → α) (l : List (Name × α)) :
    (modifyKV q f l).map Prod.fst = l.map Prod.fst := by
  induction l with
  | nil => rfl
  | cons p rest ih => simp only [modifyKV]; split <;> simp [ih]

theorem mem_modifyKV {α} {q : Name} {f : α → α} {l : List (Name × α)} {k : Name} {v : α}
    (h : (k, v) ∈ modifyKV q f l) : (k, v) ∈ l ∨ (k = q ∧ ∃ v0, l.lookup q = some v0 ∧ v = f v0) := by
  induction l with
  | nil => simp [modifyKV] at h
  | cons p rest ih =>
    simp only [modifyKV] at h
    rw [lookup_cons_ite]
    split at h <;> grind

theorem modifyKV_eq_map {α} (q : Name) (f : α → α) {l : List (Name × α)} (hn : (l.map Prod.fst).Nodup) :
    modifyKV q f l = l.map (fun p => if p.1 == q then (p.1, f p.2) else p) := by
  induction l with
  | nil => rfl
  | cons p rest ih =>
    obtain ⟨k, v⟩ := p
    simp only [List.map_cons, List.nodup_cons, List.mem_map, not_exists, not_and] at hn
    simp only [modifyKV, List.map_cons]
    split
    · rename_i hk
      have hk : k = q := by simpa using hk
      have : ∀ p ∈ rest, (if p.1 == q then (p.1, f p.2) else p) = p := fun p hp =>
        if_neg (by simpa [← hk] using hn.1 p hp)
      rw [List.map_congr_left this, List.map_id']
    · rw [ih hn.2]

theorem lookup_insertKV {α} (k n : Name) (v : α) (l : List (Name × α)) :
    (insertKV k v l).lookup n = if n = k then some v else l.lookup n := by
  induction l with
  | nil => simp [insertKV, lookup_cons_ite]
  | cons p rest ih =>
    obtain ⟨k', v'⟩ := p
    simp only [insertKV]
    split
    · rename_i h
      cases eq_of_beq h
      rw [lookup_cons_ite, lookup_cons_ite]
      split <;> rfl
    · rename_i h
      have hk : k' ≠ k := by simpa using h
      rw [lookup_cons_ite, lookup_cons_ite, ih]
      by_cases hn : n = k'
      · rw [if_pos hn, if_pos hn, if_neg (hn ▸ hk)]
      · rw [if_neg hn, if_neg hn]

theorem mem_keys_insertKV {α} {k x : Name} {v : α} {l : List (Name × α)} :
    x ∈ (insertKV k v l).map Prod.fst ↔ x = k ∨ x ∈ l.map Prod.fst := by
  simp only [← lookup_isSome_iff_mem_keys, lookup_insertKV]; split <;> simp [*]

theorem keys_insertKV_nodup {α} {k : Name} {v : α} {l : List (Name × α)} (hn : (l.map Prod.fst).Nodup) :
    ((insertKV k v l).map Prod.fst).Nodup := by
  induction l with
  | nil => simp [insertKV]
  | cons p rest ih =>
    simp only [List.map_cons, List.nodup_cons] at hn
    simp only [insertKV]
    split
    · simpa using hn
    · rename_i hq
      simp only [List.map_cons, List.nodup_cons, mem_keys_insertKV, not_or]
      exact ⟨⟨by simpa using hq, hn.1⟩, ih hn.2⟩

theorem mem_insertKV {α} {k : Name} {v : α} {l : List (Name × α)} {p : Name × α} (h : p ∈ insertKV k v l) :
    p = (k, v) ∨ p ∈ l := by
  induction l with
  | nil => simpa [insertKV] using h
  | cons q rest ih => simp only [insertKV] at h; split at h <;> grind

/-- `m[k]` with the nil slice for an absent key -/
def entriesOf {β} (rel : List (Name × List β)) (k : Name) : List β := (rel.lookup k).getD []

theorem lookup_pushKV {β} (k k' : Name) (v : β) (rel : List (Name × List β)) :
    (pushKV k v rel).lookup k' = if k' = k then some (entriesOf rel k' ++ [v]) else rel.lookup k' := by
  induction rel with
  | nil => simp [pushKV, lookup_cons_ite, entriesOf]
  | cons p rest ih =>
    obtain ⟨k0, vs⟩ := p
    simp only [pushKV]
    split
    · rename_i h
      cases eq_of_beq h
      simp only [lookup_cons_ite, entriesOf]
      split <;> simp [*]
    · rename_i h
      have hk : k0 ≠ k := by simpa using h
      simp only [lookup_cons_ite, ih, entriesOf]
      by_cases hn : k' = k0
      · simp [hn, hk]
      · simp [hn]

theorem mem_keys_pushKV {β} (k : Name) (v : β) (rel : List (Name × List β)) (x : Name) :
    x ∈ (pushKV k v rel).map Prod.fst ↔ x = k ∨ x ∈ rel.map Prod.fst := by
  simp only [← lookup_isSome_iff_mem_keys, lookup_pushKV]; split <;> simp [*]

end Gql.Load
