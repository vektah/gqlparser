import GqlModel.Schema.Model
/-
  The `schema` / `extend schema` blocks.  `setRoots` is read through `rootOf` (the root of an
  operation keyword) and `Roots.set`, so that no proof distinguishes the three operations; the two
  passes of `applySchemaDefs` are one `setRoots` over all entry points, plus the directive checks.
-/
namespace Gql.Load
open Gql

/-- `schema.Query` / `schema.Mutation` / `schema.Subscription` selected by the operation keyword -/
def rootOf (r : Roots) (o : Bytes) : Option Name :=
  if o == opQuery then r.query else if o == opMutation then r.mutation
  else if o == opSubscription then r.subscription else none

def isRootOp (o : Bytes) : Bool := o == opQuery || o == opMutation || o == opSubscription

/-- `setRootOperationType` once the operation is known to have no root yet -/
def Roots.set (r : Roots) (o : Bytes) (n : Name) : Roots :=
  if o == opQuery then { r with query := some n } else if o == opMutation then { r with mutation := some n }
  else if o == opSubscription then { r with subscription := some n } else r

theorem opMutation_ne_opQuery : (opMutation == opQuery) = false := by decide +kernel
theorem opSubscription_ne_opQuery : (opSubscription == opQuery) = false := by decide +kernel
theorem opSubscription_ne_opMutation : (opSubscription == opMutation) = false := by decide +kernel

theorem rootOf_query (r : Roots) : rootOf r opQuery = r.query := by simp [rootOf]
theorem rootOf_mutation (r : Roots) : rootOf r opMutation = r.mutation := by simp [rootOf, opMutation_ne_opQuery]
theorem rootOf_subscription (r : Roots) : rootOf r opSubscription = r.subscription := by
  simp [rootOf, opSubscription_ne_opQuery, opSubscription_ne_opMutation]

theorem forall_rootOp {P : Bytes → Prop} : (∀ o, isRootOp o = true → P o) ↔ P opQuery ∧ P opMutation ∧ P opSubscription := by
  simp only [isRootOp, Bool.or_eq_true, beq_iff_eq]
  refine ⟨fun h => ⟨h _ (.inl (.inl rfl)), h _ (.inl (.inr rfl)), h _ (.inr rfl)⟩, fun ⟨hq, hm, hs⟩ o ho => ?_⟩
  rcases ho with (rfl | rfl) | rfl
  · exact hq
  · exact hm
  · exact hs

theorem rootOf_eq_none {r : Roots} {o : Bytes} (h : isRootOp o = false) : rootOf r o = none := by
  simp only [isRootOp, Bool.or_eq_false_iff] at h
  simp [rootOf, h.1.1, h.1.2, h.2]

theorem rootOf_set (r : Roots) (o o' : Bytes) (n : Name) :
    rootOf (r.set o n) o' = if isRootOp o && o' == o then some n else rootOf r o' := by
  by_cases hq : o = opQuery
  · subst hq; by_cases h : o' = opQuery <;> simp [Roots.set, rootOf, isRootOp, h]
  by_cases hm : o = opMutation
  · subst hm; by_cases h : o' = opMutation <;> simp [Roots.set, rootOf, isRootOp, h, opMutation_ne_opQuery]
  by_cases hs : o = opSubscription
  · subst hs
    by_cases h : o' = opSubscription <;>
      simp [Roots.set, rootOf, isRootOp, h, opSubscription_ne_opQuery, opSubscription_ne_opMutation]
  · simp [Roots.set, isRootOp, hq, hm, hs]

theorem setRoots_cons (types : List (Name × Definition)) (e : OpTypeDef) (rest : List OpTypeDef) (r : Roots) :
    setRoots types (e :: rest) r =
      match types.lookup e.type with
      | none => .error (errorPosf e.pos (Msg.rootMissing e.op e.type))
      | some d =>
        if (rootOf r e.op).isSome then .error (errorPosf e.pos (Msg.rootTwice e.op))
        else setRoots types rest (r.set e.op d.name) := by
  simp only [setRoots, rootOf, Roots.set]
  cases types.lookup e.type with
  | none => rfl
  | some d =>
    by_cases hq : e.op = opQuery
    · simp [hq]
    by_cases hm : e.op = opMutation
    · simp [hm, opMutation_ne_opQuery]
    by_cases hs : e.op = opSubscription
    · simp [hs, opSubscription_ne_opQuery, opSubscription_ne_opMutation]
    · simp [hq, hm, hs]

theorem setRoots_cons_ok {types : List (Name × Definition)} {e : OpTypeDef} {rest : List OpTypeDef} {r r' : Roots}
    (h : setRoots types (e :: rest) r = .ok r') :
    ∃ d, types.lookup e.type = some d ∧ ∃ r2, setRoots types rest r2 = .ok r' ∧
      (isRootOp e.op = true → rootOf r e.op = none) ∧
      ∀ o, rootOf r2 o = if isRootOp e.op && o == e.op then some d.name else rootOf r o := by
  rw [setRoots_cons] at h
  split at h
  · cases h
  · rename_i d hd
    split at h
    · cases h
    · rename_i hs
      exact ⟨d, hd, _, h, fun _ => by simpa using hs, fun o => rootOf_set ..⟩

theorem setRoots_append (types : List (Name × Definition)) (a b : List OpTypeDef) (r : Roots) :
    setRoots types (a ++ b) r = (setRoots types a r).bind (setRoots types b) := by
  induction a generalizing r with
  | nil => rfl
  | cons e rest ih =>
    rw [List.cons_append, setRoots_cons, setRoots_cons]
    split
    · rfl
    · split
      · rfl
      · exact ih _

theorem setRoots_rootOf {types : List (Name × Definition)} {l : List OpTypeDef} {r r' : Roots}
    (h : setRoots types l r = .ok r') (o : Bytes) :
    rootOf r' o = (rootOf r o).or ((l.find? fun e => isRootOp e.op && e.op == o).bind fun e => ptrOf types e.type) := by
  induction l generalizing r with
  | nil => cases h; simp
  | cons e rest ih =>
    obtain ⟨d, hd, r2, h2, hnone, hstep⟩ := setRoots_cons_ok h
    rw [ih h2, hstep, List.find?_cons]
    by_cases heo : (isRootOp e.op && e.op == o) = true
    · obtain ⟨hroot, rfl⟩ : isRootOp e.op = true ∧ e.op = o := by simpa using heo
      simp [hroot, hnone hroot, ptrOf, hd]
    · rw [Bool.not_eq_true] at heo
      simp [BEq.comm (a := o), heo]

def opCount (o : Bytes) (l : List OpTypeDef) : Nat := (l.filter (·.op == o)).length
def rootSet (r : Roots) (o : Bytes) : Nat := if (rootOf r o).isSome then 1 else 0

theorem opCount_eq (o : Bytes) (l : List OpTypeDef) : ((l.map (·.op)).filter (· == o)).length = opCount o l := by
  simp [opCount, List.filter_map, Function.comp_def]

theorem noRoots_rootSet (o : Bytes) : rootSet noRoots o = 0 := by simp [rootSet, rootOf, noRoots]

/-- setting the root of an entry point's operation moves one unit from "still to come" to "set" -/
theorem rootSet_set {r : Roots} {e : OpTypeDef} {rest : List OpTypeDef} (n : Name) {o : Bytes}
    (hs : (rootOf r e.op).isSome = false) (ho : isRootOp o = true) :
    rootSet (r.set e.op n) o + opCount o rest = rootSet r o + opCount o (e :: rest) := by
  simp only [rootSet, rootOf_set, opCount, List.filter_cons]
  by_cases heo : e.op = o
  · subst heo; simp [ho, hs]; omega
  · simp [heo, Ne.symm heo]

/-- **the entry-point loop succeeds iff every entry point names a declared type and no operation is
    given a root twice** ("Schema root %s refers to a type %s that does not exist", "… is defined more
    than once") -/
theorem setRoots_isOk_iff {types : List (Name × Definition)} {l : List OpTypeDef} {r : Roots} :
    (∃ r', setRoots types l r = .ok r') ↔
      (∀ e ∈ l, (types.lookup e.type).isSome) ∧ ∀ o, isRootOp o = true → rootSet r o + opCount o l ≤ 1 := by
  induction l generalizing r with
  | nil => simp [setRoots, opCount, rootSet]; intro o _; split <;> omega
  | cons e rest ih =>
    rw [setRoots_cons]
    cases hd : types.lookup e.type with
    | none => exact iff_of_false (fun ⟨_, h⟩ => nomatch h) (fun h => by simpa [hd] using h.1 e (.head _))
    | some d =>
      by_cases hs : (rootOf r e.op).isSome = true
      · have hroot : isRootOp e.op = true := by
          cases h : isRootOp e.op
          · rw [rootOf_eq_none h] at hs; cases hs
          · rfl
        refine iff_of_false (fun ⟨_, h⟩ => by simp [hs] at h) (fun h => ?_)
        have := h.2 e.op hroot
        simp [rootSet, hs, opCount] at this
        omega
      · rw [Bool.not_eq_true] at hs
        simp only [hs, Bool.false_eq_true, ↓reduceIte, ih, List.mem_cons, forall_eq_or_imp, hd, Option.isSome_some, true_and]
        exact and_congr_right fun _ => forall_congr' fun o => imp_congr_right fun ho => by rw [rootSet_set _ hs ho]

theorem applySchemaDefs_eq_ok {st : LState} {l : List SchemaDef} {r r' : Roots} {acc acc' : List Directive} :
    applySchemaDefs st l r acc = .ok r' acc' ↔
      setRoots st.types (l.flatMap (·.opTypes)) r = .ok r' ∧
      (∀ s ∈ l, validateDirectives st s.dirs locSchema none = .pass) ∧ acc' = acc ++ l.flatMap (·.dirs) := by
  induction l generalizing r acc with
  | nil => simp [applySchemaDefs, setRoots, eq_comm]
  | cons s rest ih =>
    simp only [applySchemaDefs, applySchemaDef, List.flatMap_cons, setRoots_append, List.mem_cons, forall_eq_or_imp]
    cases setRoots st.types s.opTypes r with
    | error e => simp [Except.bind]
    | ok r1 =>
      cases validateDirectives st s.dirs locSchema none with
      | pass => simp [Except.bind, ih, List.append_assoc]
      | fail e => simp [Except.bind]
      | panic => simp [Except.bind]

end Gql.Load
