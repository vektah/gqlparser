import GqlProofs.Schema.NoPanic
/-
  The positions of the nodes of a document as an explicit list (`docPositions`) and `docIn_positions`:
  with them `load_error_loc` (NoPanic.lean) says that the (line, column, source) of every error `load`
  returns is the position of a node of the document (the loader half of C04; stated as `C17_error_file`).
-/
namespace Gql.Load
open Gql

def dirPositions (ds : List Directive) : List Pos := ds.flatMap fun d => d.pos :: d.args.map (·.pos)
def argDefPositions (as : List ArgDef) : List Pos := as.flatMap fun a => a.pos :: a.type.pos :: dirPositions a.dirs
def fieldPositions (fs : List FieldDef) : List Pos :=
  fs.flatMap fun f => f.pos :: f.type.pos :: (argDefPositions f.args ++ dirPositions f.dirs)
def defPositions (d : Definition) : List Pos :=
  d.pos :: (dirPositions d.dirs ++ fieldPositions d.fields ++ d.enumValues.flatMap fun v => v.pos :: dirPositions v.dirs)
def dirDefPositions (dd : DirectiveDef) : List Pos := dd.pos :: argDefPositions dd.args
def schemaDefPositions (s : SchemaDef) : List Pos := s.pos :: (dirPositions s.dirs ++ s.opTypes.map (·.pos))
def docPositions (sd : SchemaDoc) : List Pos :=
  (sd.definitions ++ sd.extensions).flatMap defPositions ++ sd.directives.flatMap dirDefPositions ++
  (sd.schema ++ sd.schemaExt).flatMap schemaDefPositions

section
variable {P : Pos → Prop}

theorem dirsIn_of {ds : List Directive} (h : ∀ p ∈ dirPositions ds, P p) : DirsIn P ds := fun d hd =>
  have sub : ∀ p ∈ d.pos :: d.args.map (·.pos), P p := fun p hp => h p (List.mem_flatMap.mpr ⟨d, hd, hp⟩)
  ⟨sub _ (.head _), fun _ ha => sub _ (.tail _ (List.mem_map_of_mem ha))⟩

theorem argsIn_of {as : List ArgDef} (h : ∀ p ∈ argDefPositions as, P p) : ArgsIn P as := fun a ha =>
  have sub : ∀ p ∈ a.pos :: a.type.pos :: dirPositions a.dirs, P p := fun p hp => h p (List.mem_flatMap.mpr ⟨a, ha, hp⟩)
  ⟨sub _ (.head _), sub _ (.tail _ (.head _)), dirsIn_of fun p hp => sub p (.tail _ (.tail _ hp))⟩

theorem fieldsIn_of {fs : List FieldDef} (h : ∀ p ∈ fieldPositions fs, P p) : FieldsIn P fs := fun f hf =>
  have sub : ∀ p ∈ f.pos :: f.type.pos :: (argDefPositions f.args ++ dirPositions f.dirs), P p :=
    fun p hp => h p (List.mem_flatMap.mpr ⟨f, hf, hp⟩)
  ⟨sub _ (.head _), sub _ (.tail _ (.head _)),
    argsIn_of fun p hp => sub p (.tail _ (.tail _ (List.mem_append_left _ hp))),
    dirsIn_of fun p hp => sub p (.tail _ (.tail _ (List.mem_append_right _ hp)))⟩

theorem defIn_of {d : Definition} (h : ∀ p ∈ defPositions d, P p) : DefIn P d :=
  ⟨h _ (.head _),
    dirsIn_of fun p hp => h p (.tail _ (List.mem_append_left _ (List.mem_append_left _ hp))),
    fieldsIn_of fun p hp => h p (.tail _ (List.mem_append_left _ (List.mem_append_right _ hp))),
    fun v hv =>
      have sub : ∀ p ∈ v.pos :: dirPositions v.dirs, P p :=
        fun p hp => h p (.tail _ (List.mem_append_right _ (List.mem_flatMap.mpr ⟨v, hv, hp⟩)))
      ⟨sub _ (.head _), dirsIn_of fun p hp => sub p (.tail _ hp)⟩⟩

theorem dirDefIn_of {dd : DirectiveDef} (h : ∀ p ∈ dirDefPositions dd, P p) : DirDefIn P dd :=
  ⟨h _ (.head _), argsIn_of fun p hp => h p (.tail _ hp)⟩

theorem schemaDefIn_of {s : SchemaDef} (h : ∀ p ∈ schemaDefPositions s, P p) : SchemaDefIn P s :=
  ⟨h _ (.head _), dirsIn_of fun p hp => h p (.tail _ (List.mem_append_left _ hp)),
    fun _ ho => h _ (.tail _ (List.mem_append_right _ (List.mem_map_of_mem ho)))⟩

end

theorem docIn_positions (sd : SchemaDoc) : DocIn (· ∈ docPositions sd) sd := by
  simp only [docPositions, List.mem_append, List.mem_flatMap]
  exact ⟨fun x hx => defIn_of fun p hp => .inl (.inl ⟨x, .inl hx, hp⟩),
    fun x hx => defIn_of fun p hp => .inl (.inl ⟨x, .inr hx, hp⟩),
    fun x hx => dirDefIn_of fun p hp => .inl (.inr ⟨x, hx, hp⟩),
    fun x hx => schemaDefIn_of fun p hp => .inr ⟨x, .inl hx, hp⟩,
    fun x hx => schemaDefIn_of fun p hp => .inr ⟨x, .inr hx, hp⟩⟩

end Gql.Load
