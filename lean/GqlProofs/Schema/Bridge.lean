import GqlProofs.Schema.Closed
/-
  The spec's merged type system (`Spec.TypeSystem.ofDoc`) and the loader's type map describe the
  same definitions.
-/
namespace Gql.Load
open Gql

/-- the spec's merge agrees (extensions are never `builtIn`: the prelude has none) -/
theorem mergedType_eq {sd : SchemaDoc} (hext : ∀ e ∈ sd.extensions, e.builtIn = false) (n : Name) :
    Spec.mergedType sd n = mergedFrom (sd.definitions.find? (·.name == n)) (sd.extensions.filter (·.name == n)) := by
  unfold Spec.mergedType mergedFrom
  cases sd.definitions.find? (·.name == n) with
  | some d => rfl
  | none =>
    cases he : sd.extensions.filter (·.name == n) with
    | nil => rfl
    | cons e es =>
      have hmem : e ∈ sd.extensions := (List.mem_filter.mp (he ▸ List.mem_cons_self)).1
      simp only [extStub, hext e hmem]
      rfl

theorem mergedType_name {sd : SchemaDoc} {n : Name} {d : Definition} (h : Spec.mergedType sd n = some d) : d.name = n := by
  have hfold : ∀ (es : List Definition) (d0 : Definition), (es.foldl Spec.foldExt d0).name = d0.name :=
    fun es d0 => (foldl_applyExt es d0).2.1
  unfold Spec.mergedType at h
  split at h
  · rename_i d0 hd0
    cases h
    simpa [hfold] using List.find?_some hd0
  · cases he : sd.extensions.filter (·.name == n) with
    | nil => simp [he] at h
    | cons e es =>
      simp only [he, Option.some.injEq] at h
      subst h
      have hmem : e ∈ sd.extensions.filter (·.name == n) := he ▸ List.mem_cons_self
      rw [hfold]
      exact eq_of_beq (List.mem_filter.mp hmem).2

theorem mem_dedup {l seen : List Name} {n : Name} : n ∈ Spec.dedup l seen ↔ n ∈ l ∧ n ∉ seen := by
  induction l generalizing seen with
  | nil => simp [Spec.dedup]
  | cons x rest ih =>
    simp only [Spec.dedup]
    split
    · rename_i hx
      have hx : x ∈ seen := by simpa using hx
      rw [ih, List.mem_cons]
      exact ⟨fun ⟨h1, h2⟩ => ⟨.inr h1, h2⟩, fun ⟨h1, h2⟩ => ⟨h1.resolve_left fun e => h2 (e ▸ hx), h2⟩⟩
    · rename_i hx
      have hx : x ∉ seen := by simpa using hx
      simp only [List.mem_cons, ih, not_or]
      by_cases hn : n = x
      · simp [hn, hx]
      · simp [hn]

theorem find_filterMap {g : Name → Option Definition} (hg : ∀ m d, g m = some d → d.name = m) (L : List Name) (n : Name) :
    (L.filterMap g).find? (·.name == n) = if n ∈ L then g n else none := by
  induction L with
  | nil => simp
  | cons m rest ih =>
    simp only [List.filterMap_cons]
    cases hm : g m with
    | none =>
      simp only [ih, List.mem_cons]
      by_cases h : n = m <;> simp [h, hm]
    | some d =>
      simp only [List.find?_cons, hg m d hm, ih, List.mem_cons]
      by_cases h : m = n
      · simp [h, ← hm]
      · have h1 : (m == n) = false := by simpa using h
        simp [h1, Ne.symm h]

theorem type?_ofDoc (sd : SchemaDoc) (n : Name) :
    (Spec.TypeSystem.ofDoc sd).type? n =
      if n ∈ (sd.definitions ++ sd.extensions).map (·.name) then Spec.mergedType sd n else none := by
  unfold Spec.TypeSystem.type? Spec.TypeSystem.ofDoc
  simp only [find_filterMap (fun m d hm => mergedType_name hm), mem_dedup, List.not_mem_nil, not_false_eq_true, and_true]

theorem spec_type_eq {sd : SchemaDoc} {st : LState} (h : buildState sd = .ok st)
    (hext : ∀ e ∈ sd.extensions, e.builtIn = false) (n : Name) :
    (Spec.TypeSystem.ofDoc sd).type? n = st.types.lookup n := by
  rw [type?_ofDoc, state_lookup h, ← mergedType_eq hext]
  split
  · rfl
  · rename_i hn
    simp only [List.mem_map, List.mem_append, not_exists, not_and] at hn
    have h1 : sd.definitions.find? (·.name == n) = none :=
      List.find?_eq_none.mpr fun d hd he => hn d (.inl hd) (by simpa using he)
    have h2 : sd.extensions.filter (·.name == n) = [] :=
      List.filter_eq_nil_iff.mpr fun d hd he => hn d (.inr hd) (by simpa using he)
    simp [Spec.mergedType, h1, h2]

theorem spec_typeIs_eq {sd : SchemaDoc} {st : LState} (h : buildState sd = .ok st)
    (hext : ∀ e ∈ sd.extensions, e.builtIn = false) (n : Name) (p : DefKind → Bool) :
    (Spec.TypeSystem.ofDoc sd).typeIs n p = match st.types.lookup n with | some d => p d.kind | none => false := by
  unfold Spec.TypeSystem.typeIs
  rw [spec_type_eq h hext]
  cases st.types.lookup n <;> rfl

theorem spec_types_iff {sd : SchemaDoc} {st : LState} (h : buildState sd = .ok st)
    (hext : ∀ e ∈ sd.extensions, e.builtIn = false) {d : Definition} :
    d ∈ (Spec.TypeSystem.ofDoc sd).types ↔ (d.name, d) ∈ st.types := by
  have hinv := (buildState_inv h).1
  constructor
  · intro hd
    obtain ⟨n, _, hn⟩ := List.mem_filterMap.mp hd
    have hname := mergedType_name hn
    rw [mergedType_eq hext, ← state_lookup h, ← hname] at hn
    exact mem_of_lookup hn
  · intro hd
    have := spec_type_eq h hext d.name
    rw [lookup_of_mem_nodup hinv.1 hd] at this
    exact List.mem_of_find?_eq_some this

theorem spec_types_mem {sd : SchemaDoc} {st : LState} (h : buildState sd = .ok st)
    (hext : ∀ e ∈ sd.extensions, e.builtIn = false) {d : Definition} (hd : d ∈ (Spec.TypeSystem.ofDoc sd).types) :
    (d.name, d) ∈ st.types := (spec_types_iff h hext).mp hd

theorem Facts.defOK_spec {sd : SchemaDoc} {s : Schema} {st : LState} {r1 : Roots} {d1 : List Directive}
    (F : Facts sd s st r1 d1) (hext : ∀ e ∈ sd.extensions, e.builtIn = false) :
    ∀ d ∈ (Spec.TypeSystem.ofDoc sd).types, DefOK st d := fun _ hd => F.defOK _ (spec_types_mem F.built hext hd)

theorem state_types_mem_spec {sd : SchemaDoc} {st : LState} (hb : buildState sd = .ok st)
    (hext : ∀ e ∈ sd.extensions, e.builtIn = false) {p : Name × Definition} (hp : p ∈ st.types) :
    p.2 ∈ (Spec.TypeSystem.ofDoc sd).types ∧ p.2.name = p.1 := by
  have hname : p.2.name = p.1 := (buildState_inv hb).1.2 p hp
  exact ⟨(spec_types_iff hb hext).mpr (by rw [hname]; exact hp), hname⟩

end Gql.Load
