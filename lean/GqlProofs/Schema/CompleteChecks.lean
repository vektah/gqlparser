import GqlProofs.Schema.CompleteBuild
/-
  Completeness of the loader, the validators: in the state built from a well-formed merged document every
  validator passes.  One lemma per check of validator/schema.go, named `load_<step>_ok_of_wf`; each
  error site is discharged by the clause of `Spec.WellFormed` quoted in its comment, through the
  equivalences `validate…_pass_iff` (GqlProofs/Schema/Inversion.lean).
-/
namespace Gql.Load
open Gql

/-- a well-formed document together with the state the loader built from it; `dirEq`: the directive
    definition the specification regards as in force is the one in `schema.Directives` (true in a merged
    document, `spec_directive_eq_of_merged`, and when no directive name is declared twice, `spec_directive_eq`) -/
structure WfState (sd : SchemaDoc) (st : LState) : Prop where
  wf : Spec.WellFormed sd
  hext : ∀ e ∈ sd.extensions, e.builtIn = false
  built : buildState sd = .ok st
  dirEq : ∀ n, (Spec.TypeSystem.ofDoc sd).directive? n = st.directives.lookup n

section
variable {sd : SchemaDoc} {st : LState}

theorem WfState.typeEq (W : WfState sd st) (n : Name) : (Spec.TypeSystem.ofDoc sd).type? n = st.types.lookup n :=
  spec_type_eq W.built W.hext n

theorem WfState.typesInv (W : WfState sd st) : KeysInv (·.name) st.types := (buildState_inv W.built).1
theorem WfState.dirsInv (W : WfState sd st) : KeysInv (·.name) st.directives := (buildState_inv W.built).2.1

theorem WfState.typeIs (W : WfState sd st) {n : Name} {p : DefKind → Bool}
    (h : (Spec.TypeSystem.ofDoc sd).typeIs n p = true) : ∃ d, st.types.lookup n = some d ∧ p d.kind = true := by
  rw [spec_typeIs_eq W.built W.hext] at h
  cases hl : st.types.lookup n with
  | none => rw [hl] at h; cases h
  | some d => rw [hl] at h; exact ⟨d, rfl, h⟩

theorem WfState.mem_spec (W : WfState sd st) {p : Name × Definition} (hp : p ∈ st.types) :
    p.2 ∈ (Spec.TypeSystem.ofDoc sd).types ∧ p.2.name = p.1 :=
  state_types_mem_spec W.built W.hext hp

/-- union members and interfaces resolve — `unionMembersOK`, `interfacesOK` -/
theorem WfState.refsOK (W : WfState sd st) : RefsOK st := by
  have h1 := W.wf.unionMembersOK
  have h2 := W.wf.interfacesOK
  simp only [Spec.unionMembersOK, Spec.interfacesOK, List.all_eq_true] at h1 h2
  exact ⟨W.typesInv, (buildState_inv W.built).2.2,
    fun p hp m hm => let ⟨t, hl, hk⟩ := W.typeIs (h1 _ (W.mem_spec hp).1 m hm); ⟨t, hl, by simpa using hk⟩,
    fun p hp i hi => let ⟨t, hl, hk⟩ := W.typeIs (h2 _ (W.mem_spec hp).1 i hi); ⟨t, hl, by simpa using hk⟩⟩

/-- **validateDirectives**, one applied directive — the six directive clauses
    (`uses_pass_iff`) -/
theorem load_validateDirectiveUse_ok_of_wf (W : WfState sd st) {dir : Directive} {loc : Bytes} {cur : Option Name}
    (hu : (dir, loc, cur) ∈ (Spec.TypeSystem.ofDoc sd).directiveUses) :
    validateDirectiveUse st loc cur dir = .pass :=
  (uses_pass_iff W.dirEq).mpr ⟨W.wf.directivesDeclared, W.wf.directiveLocationsOK, W.wf.requiredArgsSupplied,
    W.wf.directiveArgsDeclared, W.wf.noSelfReference, W.wf.appliedNamesNotReserved⟩ _ hu

/-- **validateArgs** — `argNamesNotReserved`, `argTypesOK` (`argDefs_ok_iff`), and the
    directive clauses for the argument's directives -/
theorem load_validateArgs_ok_of_wf (W : WfState sd st) {args : List ArgDef} {cur : Option Name}
    (ha : ∀ a ∈ args, a ∈ (Spec.TypeSystem.ofDoc sd).argDefs)
    (hu : ∀ a ∈ args, ∀ x ∈ a.dirs, (x, str "ARGUMENT_DEFINITION", cur) ∈ (Spec.TypeSystem.ofDoc sd).directiveUses) :
    validateArgs st args cur = .pass :=
  validateArgs_pass_iff.mpr fun a haa =>
    let ⟨h1, h2⟩ := (argDefs_ok_iff W.typeEq).mpr ⟨W.wf.argTypesOK, W.wf.argNamesNotReserved⟩ a (ha a haa)
    ⟨h1, h2, validateDirectives_pass_iff.mpr fun x hx => load_validateDirectiveUse_ok_of_wf W (hu a haa x hx)⟩

/-- **validateImplements and validateTypeImplementsAncestors**.
    "Undefined type" / "is a non interface type" — `interfacesOK`; "must have a field called",
    "must have type", "must have the same arguments but it is missing / has the wrong type", "any additional
    arguments … must be optional" — `implementsFieldsOK`; "must implement … because it is implemented by"
    and "would create a circular reference" — `implementsAncestorsOK`. -/
theorem load_validateImplements_ok_of_wf (W : WfState sd st) {d : Definition}
    (hd : d ∈ (Spec.TypeSystem.ofDoc sd).types) {i : Name} (hi : i ∈ d.interfaces) :
    validateImplements st d i = .pass := by
  have h1 := W.wf.interfacesOK
  have h3 := W.wf.implementsAncestorsOK
  simp only [Spec.interfacesOK, Spec.implementsAncestorsOK, List.all_eq_true] at h1 h3
  obtain ⟨intf, hl, hk⟩ := W.typeIs (h1 d hd i hi)
  have hk : intf.kind = .interface := by simpa using hk
  have h3 := h3 d hd i hi
  simp only [W.typeEq, hl, hk, bne_self_eq_false, Bool.false_or, List.all_eq_true] at h3
  refine validateImplements_pass_iff.mpr ⟨intf, hl, hk, fun rf hrf => ?_, h3⟩
  obtain ⟨f, hf, hcov, hargs, hextra⟩ := implementsFieldsOK_iff.mp W.wf.implementsFieldsOK d hd i hi intf (W.typeEq i ▸ hl) hk rf hrf
  exact validateImplementsField_pass_iff.mpr ⟨f, hf, isCovariant_of_spec W.refsOK W.typeEq _ _ hcov,
    fun ra hra => let ⟨fa, hfa, hs⟩ := hargs ra hra; ⟨fa, hfa, sameType_render hs⟩, hextra⟩

/-- **validateDefinition, `switch def.Kind`**.  "must define one or more fields /
    unique enum values / input fields" — `nonEmpty`; "field must be one of …" — `fieldTypesOK`
    (output types on objects and interfaces, input types on input objects); "non-enum value" —
    `enumValuesNotLiterals`; reserved enum value name — `enumValueNamesNotReserved`; enum value
    directives — the directive clauses. -/
theorem load_validateKindSpecific_ok_of_wf (W : WfState sd st) {d : Definition}
    (hd : d ∈ (Spec.TypeSystem.ofDoc sd).types) : validateKindSpecific st d = .pass := by
  have h1 := W.wf.nonEmpty
  have h2 := W.wf.fieldTypesOK
  have h3 := W.wf.enumValuesNotLiterals
  have h4 := W.wf.enumValueNamesNotReserved
  simp only [Spec.nonEmpty, Spec.fieldTypesOK, Spec.enumValuesNotLiterals, Spec.enumValueNamesNotReserved,
    List.all_eq_true] at h1 h2 h3 h4
  have h1 := h1 d hd
  have h3 := h3 d hd
  have h4 := h4 d hd
  have hfields : ∀ f ∈ d.fields, ∀ t, st.types.lookup f.type.name = some t → Spec.fieldPosition d.kind t.kind = true := by
    intro f hf t ht
    obtain ⟨t', ht', hk⟩ := W.typeIs (h2 d hd f hf)
    cases ht.symm.trans ht'
    exact hk
  rw [validateKindSpecific_pass_iff]
  cases hk : d.kind <;> simp only [hk, Spec.fieldPosition, isOutputKind_eq, isInputKind_eq, Bool.not_eq_true',
    bne_self_eq_false, Bool.false_or, List.all_eq_true, reserved_eq] at h1 h3 h4 hfields ⊢
  · exact ⟨h1, hfields⟩
  · exact ⟨h1, hfields⟩
  · exact ⟨h1, fun v hv => ⟨h3 v hv, h4 v hv, validateDirectives_pass_iff.mpr fun x hx =>
      load_validateDirectiveUse_ok_of_wf W (mem_directiveUses.mpr (.inl ⟨d, hd, .inr (.inr ⟨hk, v, hv, hx, rfl, rfl⟩)⟩))⟩⟩
  · exact ⟨h1, hfields⟩

/-- **validateDefinition** passes on every merged definition.  Besides the parts
    above: reserved field name — `fieldNamesNotReserved`; "Undefined type" of a field — `fieldTypesOK`;
    union member "Undefined type" / "must be OBJECT" — `unionMembersOK`; "Field %s.%s can only be defined
    once." — `uniqueFieldNames`; reserved type name (unless built in) — `typeNamesNotReserved`; the
    directives on fields and on the definition — the directive clauses. -/
theorem load_validateDefinition_ok_of_wf (W : WfState sd st) {d : Definition}
    (hd : d ∈ (Spec.TypeSystem.ofDoc sd).types) : DefOK st d := by
  have h1 := W.wf.fieldNamesNotReserved
  have h2 := W.wf.fieldTypesOK
  have h4 := W.wf.uniqueFieldNames
  have h5 := W.wf.typeNamesNotReserved
  simp only [Spec.fieldNamesNotReserved, Spec.fieldTypesOK, Spec.uniqueFieldNames, Spec.typeNamesNotReserved,
    List.all_eq_true, Bool.or_eq_true, Bool.not_eq_true', reserved_eq] at h1 h2 h4 h5
  have R := W.refsOK
  have hdm := spec_types_mem W.built W.hext hd
  have uses : ∀ {ds : List Directive} {loc : Bytes}, (∀ x ∈ ds, (x, loc, none) ∈ (Spec.TypeSystem.ofDoc sd).directiveUses) →
      validateDirectives st ds loc none = .pass :=
    fun h => validateDirectives_pass_iff.mpr fun x hx => load_validateDirectiveUse_ok_of_wf W (h x hx)
  exact {
    fieldNames := h1 d hd
    uniqueFields := checkUniqueFields_pass_iff.mpr (h4 d hd)
    defName := fun hb => (h5 d hd).resolve_left (by simp [hb])
    fieldTypes := fun f hf => let ⟨t, hl, _⟩ := W.typeIs (h2 d hd f hf); ⟨t, hl⟩
    fieldArgs := fun f hf => load_validateArgs_ok_of_wf W (fun a ha => mem_argDefs.mpr (.inl ⟨d, hd, f, hf, ha⟩))
      fun a ha x hx => mem_directiveUses.mpr (.inl ⟨d, hd, .inr (.inl ⟨f, hf, .inr ⟨a, ha, hx, rfl, rfl⟩⟩)⟩)
    fieldDirs := fun f hf => uses fun x hx => mem_directiveUses.mpr (.inl ⟨d, hd, .inr (.inl ⟨f, hf, .inl ⟨hx, rfl, rfl⟩⟩)⟩)
    members := R.members _ hdm
    interfaces := R.interfaces _ hdm
    implements := fun i hi => load_validateImplements_ok_of_wf W hd hi
    kindSpecific := load_validateKindSpecific_ok_of_wf W hd
    dirs := kindLocation_eq d.kind ▸ uses fun x hx => mem_directiveUses.mpr (.inl ⟨d, hd, .inl ⟨hx, rfl, rfl⟩⟩) }

theorem load_validateTypeDefinitions_ok_of_wf (W : WfState sd st) : validateTypeDefinitions st = .pass :=
  validateTypeDefinitions_pass_iff.mpr fun _ _ hl => load_validateDefinition_ok_of_wf W (W.mem_spec (mem_of_lookup hl)).1

/-- **validateDirective / validateDirectiveDefinitions**.
    Reserved directive name — `directiveNamesNotReserved`; the arguments — `load_validateArgs_ok_of_wf`
    (with "cannot refer to itself" — `noSelfReference`). -/
theorem load_validateDirectiveDefinitions_ok_of_wf (W : WfState sd st) : validateDirectiveDefinitions st = .pass := by
  have h1 := W.wf.directiveNamesNotReserved
  simp only [Spec.directiveNamesNotReserved, List.all_eq_true, Bool.not_eq_true', reserved_eq] at h1
  refine validateDirectiveDefinitions_pass_iff.mpr fun k dd hl => ?_
  have hdd : dd ∈ sd.directives := state_directives_mem W.built _ (mem_of_lookup hl)
  exact ⟨h1 dd hdd, load_validateArgs_ok_of_wf W (fun a ha => mem_argDefs.mpr (.inr ⟨dd, hdd, ha⟩))
    fun a ha x hx => mem_directiveUses.mpr (.inr (.inr ⟨dd, hdd, a, ha, hx, rfl, rfl⟩))⟩

end
end Gql.Load
