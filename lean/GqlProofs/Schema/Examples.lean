import GqlModel.Schema.Model
import GqlModel.Schema.Spec
/- small documents used as kernel-checked witnesses -/
namespace Gql.Examples
open Gql

def pos (line : Nat) (src : Nat := 1) : Pos := { start := 0, stop := 0, line := line, col := 1, src := src }
def ty (n : String) (nn : Bool := false) : GType := .named (str n) nn (pos 0)
def arg (n : String) (t : GType) : ArgDef := { desc := [], name := str n, default := none, type := t, dirs := [], pos := pos 0 }
def fld (n : String) (t : GType) (args : List ArgDef := []) : FieldDef :=
  { desc := [], name := str n, args := args, default := none, type := t, dirs := [], pos := pos 0 }
def defn (k : DefKind) (n : String) (line : Nat) (fields : List FieldDef := []) (interfaces : List String := [])
    (types : List String := []) (values : List String := []) (builtIn : Bool := false) : Definition :=
  { kind := k, desc := [], name := str n, dirs := [], interfaces := interfaces.map str, fields := fields,
    types := types.map str, enumValues := values.map fun v => { desc := [], name := str v, dirs := [], pos := pos line },
    pos := pos line (if builtIn then 0 else 1), builtIn := builtIn }
def doc (defs : List Definition) (exts : List Definition := []) (dirs : List DirectiveDef := [])
    (schemaExt : List SchemaDef := []) : SchemaDoc :=
  { schema := [], schemaExt := schemaExt, directives := dirs, definitions := defs, extensions := exts }

/-- a stand-in for the prelude: the three types the introspection fields refer to, and `Int` -/
def miniPrelude : List Definition :=
  [ defn .scalar "String" 1 (builtIn := true), defn .scalar "Int" 2 (builtIn := true),
    defn .object "__Schema" 3 [fld "description" (ty "String")] (builtIn := true),
    defn .object "__Type" 4 [fld "name" (ty "String")] (builtIn := true) ]

/-- `interface I { f: U }  type A implements I { f: A }  union U = X` — X is not declared -/
def panicDoc : SchemaDoc :=
  doc (miniPrelude ++
    [ defn .interface "I" 1 [fld "f" (ty "U")],
      defn .object "A" 2 [fld "f" (ty "A")] (interfaces := ["I"]),
      defn .union "U" 3 (types := ["X"]) ])

/-- the same with `union U = A | X`: loads past `isCovariant` and is rejected when `U` is validated -/
def noPanicDoc : SchemaDoc :=
  doc (miniPrelude ++
    [ defn .interface "I" 1 [fld "f" (ty "U")],
      defn .object "A" 2 [fld "f" (ty "A")] (interfaces := ["I"]),
      defn .union "U" 3 (types := ["A", "X"]) ])

/-- `input Query { foo: String }` : the query root is inferred by name, whatever its kind; the root-kind check rejects it -/
def inputQueryDoc : SchemaDoc := doc (miniPrelude ++ [ defn .inputObject "Query" 1 [fld "foo" (ty "String")] ])

/-- `type Query { a: Int }` -/
def okDoc : SchemaDoc := doc (miniPrelude ++ [ defn .object "Query" 1 [fld "a" (ty "Int")] ])

end Gql.Examples

namespace Gql.Examples
open Gql

def opType (op ty : String) : OpTypeDef := { op := str op, type := str ty, pos := pos 0 }
def extSchema (line : Nat) (ots : List OpTypeDef) : SchemaDef := { desc := [], dirs := [], opTypes := ots, pos := pos line }

def typeA : Definition := defn .object "A" 1 [fld "a" (ty "Int")]
def typeB : Definition := defn .object "B" 2 [fld "b" (ty "Int")]

/-- R17a: `extend schema { query: A }` then `extend schema { query: B }` -/
def rootsAB : SchemaDoc := doc (miniPrelude ++ [typeA, typeB]) (schemaExt := [extSchema 3 [opType "query" "A"], extSchema 4 [opType "query" "B"]])
def rootsBA : SchemaDoc := doc (miniPrelude ++ [typeA, typeB]) (schemaExt := [extSchema 4 [opType "query" "B"], extSchema 3 [opType "query" "A"]])

def dirDef (n : String) (line : Nat) (locs : List String) (src : Nat := 1) : DirectiveDef :=
  { desc := [], name := str n, args := [], locations := locs.map str, repeatable := false, pos := pos line src }

/-- R7b: `directive @skip on FIELD` and `directive @skip on OBJECT`, in both orders -/
def skipFO : SchemaDoc := doc (miniPrelude ++ [typeA]) (dirs := [dirDef "skip" 1 ["FIELD"], dirDef "skip" 2 ["OBJECT"]])
def skipOF : SchemaDoc := doc (miniPrelude ++ [typeA]) (dirs := [dirDef "skip" 2 ["OBJECT"], dirDef "skip" 1 ["FIELD"]])

/-- `interface I { f: U }  type A implements I { f: T }  type T implements U { a: Int }  union U = X`
    with `U` declared before / after `T` -/
def defI : Definition := defn .interface "I" 1 [fld "f" (ty "U")]
def defA : Definition := defn .object "A" 2 [fld "f" (ty "T")] (interfaces := ["I"])
def defT : Definition := defn .object "T" 3 [fld "a" (ty "Int")] (interfaces := ["U"])
def defU : Definition := defn .union "U" 4 (types := ["X"])
def orderUT : SchemaDoc := doc (miniPrelude ++ [defI, defA, defU, defT])
def orderTU : SchemaDoc := doc (miniPrelude ++ [defI, defA, defT, defU])

end Gql.Examples

namespace Gql.Examples
open Gql

/-- R7c: `enum E { __A }  type Query { e: E }` -/
def r7cDoc : SchemaDoc :=
  doc (miniPrelude ++ [ defn .enum "E" 1 (values := ["__A"]), defn .object "Query" 2 [fld "e" (ty "E")] ])

/-- R7a: `interface I { f(a: String!): Int }  type T implements I { f(a: String): Int }` -/
def r7aDoc : SchemaDoc :=
  doc (miniPrelude ++
    [ defn .interface "I" 1 [fld "f" (ty "Int") [arg "a" (ty "String" true)]],
      defn .object "T" 2 [fld "f" (ty "Int") [arg "a" (ty "String")]] (interfaces := ["I"]) ])

/-- `interface I { f(a: String!): Int }  type T implements I { f(a: String!): Int }  union U = T`
    plus `interface J { g: U }  type V implements J { g: T }` (covariant through the union) -/
def implOkDoc : SchemaDoc :=
  doc (miniPrelude ++
    [ defn .interface "I" 1 [fld "f" (ty "Int") [arg "a" (ty "String" true)]],
      defn .object "T" 2 [fld "f" (ty "Int") [arg "a" (ty "String" true)]] (interfaces := ["I"]),
      defn .union "U" 3 (types := ["T"]),
      defn .interface "J" 4 [fld "g" (ty "U")],
      defn .object "V" 5 [fld "g" (ty "T")] (interfaces := ["J"]) ])

/-- `directive @tag(name: String!) on OBJECT | ARGUMENT_DEFINITION`
    `type Query @tag(name: "q") { a(x: Int @tag(name: "x")): Int }` -/
def tagUse (v : String) : Directive :=
  { name := str "tag", args := [{ name := str "name", value := .mk .string (str v) .nil (pos 0), pos := pos 0 }], pos := pos 0 }
def dirOkDoc : SchemaDoc :=
  doc (miniPrelude ++
    [ { defn .object "Query" 2
          [ { fld "a" (ty "Int") [ { arg "x" (ty "Int") with dirs := [tagUse "x"] } ] with dirs := [] } ]
        with dirs := [tagUse "q"] } ])
    (dirs := [ { desc := [], name := str "tag", args := [arg "name" (ty "String" true)],
                 locations := [str "OBJECT", str "ARGUMENT_DEFINITION"], repeatable := false, pos := pos 1 } ])

end Gql.Examples

namespace Gql.Examples
open Gql

/- documents for the completeness theorem and its hypothesis `MergedDoc` -/

def skipUse : Directive := { name := str "skip", args := [], pos := pos 0 }
def typeASkip : Definition := { typeA with dirs := [skipUse] }

/-- prelude `directive @skip on FIELD` (source 0), then the user's `directive @skip on OBJECT`, and
    `type A @skip { a: Int }`: the user's declaration is in force -/
def redeclOkDoc : SchemaDoc :=
  doc (miniPrelude ++ [typeASkip]) (dirs := [dirDef "skip" 1 ["FIELD"] 0, dirDef "skip" 2 ["OBJECT"] 1])

/-- the same with the user's declaration placed BEFORE the prelude's (not a merge `ParseSchemas` builds) -/
def redeclUserFirstDoc : SchemaDoc :=
  doc (miniPrelude ++ [typeASkip]) (dirs := [dirDef "skip" 2 ["OBJECT"] 1, dirDef "skip" 1 ["FIELD"] 0])

/-- a source-0 directive that is not one of the loader's six built-ins, declared once more by the user -/
def redeclFooDoc : SchemaDoc :=
  doc (miniPrelude ++ [typeA]) (dirs := [dirDef "foo" 1 ["FIELD"] 0, dirDef "foo" 2 ["OBJECT"] 1])

/-- `extend scalar __X` marked built in, without a base definition -/
def builtinExtDoc : SchemaDoc := doc (miniPrelude ++ [typeA]) (exts := [defn .scalar "__X" 1 (builtIn := true)])

end Gql.Examples
