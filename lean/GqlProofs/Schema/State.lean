import GqlProofs.Schema.Inversion
import GqlProofs.Schema.Relations
/-
  Invariants of the state `buildState` produces: keys are distinct and equal the stored names; an
  entry of the type map is a definition with its extensions folded in; the relations are
  `buildRelations` of the final type map and hold no nil entry.
-/
namespace Gql.Load
open Gql

def KeysInv {α} (nameOf : α → Name) (l : List (Name × α)) : Prop :=
  (l.map Prod.fst).Nodup ∧ ∀ p ∈ l, nameOf p.2 = p.1

theorem KeysInv.name_eq {l : List (Name × Definition)} (h : KeysInv (·.name) l) {p : Name × Definition} (hp : p ∈ l) :
    p.2.name = p.1 := h.2 p hp

theorem KeysInv.lookup_name {l : List (Name × Definition)} (h : KeysInv (·.name) l) {p : Name × Definition} (hp : p ∈ l) :
    l.lookup p.2.name = some p.2 := by rw [h.name_eq hp]; exact lookup_of_mem_nodup h.1 hp

theorem keysInv_nil {α} (nameOf : α → Name) : KeysInv nameOf [] := by simp [KeysInv]

theorem keysInv_append_new {α} {nameOf : α → Name} {l : List (Name × α)} {v : α}
    (h : KeysInv nameOf l) (hnew : l.lookup (nameOf v) = none) : KeysInv nameOf (l ++ [(nameOf v, v)]) := by
  have hnot : nameOf v ∉ l.map Prod.fst := fun hm => by simpa [hnew] using lookup_isSome_iff_mem_keys.mpr hm
  refine ⟨?_, by simpa [or_imp, forall_and] using h.2⟩
  rw [List.map_append, List.nodup_append]
  exact ⟨h.1, by simp, fun a ha b hb e => hnot (by simp at hb; exact hb ▸ e ▸ ha)⟩

theorem keysInv_modifyKV {l : List (Name × Definition)} {q : Name} {f : Definition → Definition}
    (hf : ∀ d, (f d).name = d.name) (h : KeysInv (·.name) l) : KeysInv (·.name) (modifyKV q f l) := by
  refine ⟨by rw [keys_modifyKV]; exact h.1, fun ⟨k, v⟩ hp => ?_⟩
  rcases mem_modifyKV hp with hp | ⟨rfl, v0, hv0, rfl⟩
  · exact h.2 _ hp
  · exact (hf v0).trans (h.2 _ (mem_of_lookup hv0))

theorem lookup_ensureBase (ext : Definition) (t : List (Name × Definition)) (n : Name) :
    (ensureBase ext t).lookup n =
      match t.lookup n with
      | some d => some d
      | none => if n = ext.name then some (extStub ext) else none := by
  unfold ensureBase
  cases he : t.lookup ext.name with
  | some d0 =>
    by_cases h : n = ext.name
    · subst h; simp [he]
    · cases t.lookup n <;> simp [h]
  | none => simp only [List.lookup_append, lookup_cons_ite, List.lookup_nil]; cases t.lookup n <;> rfl

theorem keysInv_ensureBase {ext : Definition} {t : List (Name × Definition)} (h : KeysInv (·.name) t) :
    KeysInv (·.name) (ensureBase ext t) := by
  unfold ensureBase
  split
  · exact h
  · exact keysInv_append_new (v := extStub ext) h ‹_›

theorem foldExtensions_cons (ext : Definition) (rest : List Definition) (t : List (Name × Definition)) :
    foldExtensions (ext :: rest) t =
      if ((t.lookup ext.name).getD (extStub ext)).kind != ext.kind then
        .error (errorPosf ext.pos (Msg.extendKind ext.name ((t.lookup ext.name).getD (extStub ext)).kind ext.kind))
      else foldExtensions rest (modifyKV ext.name (applyExt ext) (ensureBase ext t)) := by
  simp only [foldExtensions, lookup_ensureBase]
  cases t.lookup ext.name <;> simp

/-- the step may use that the kinds of base and extension agree: the loop checked it -/
theorem foldExtensions_induct {I : List (Name × Definition) → Prop} {l : List Definition} {t r : List (Name × Definition)}
    (h : foldExtensions l t = .ok r) (h0 : I t)
    (hstep : ∀ e ∈ l, ∀ t, I t → ((t.lookup e.name).getD (extStub e)).kind = e.kind →
      I (modifyKV e.name (applyExt e) (ensureBase e t))) : I r := by
  induction l generalizing t with
  | nil => cases h; exact h0
  | cons ext rest ih =>
    rw [foldExtensions_cons] at h
    split at h
    · cases h
    · rename_i hk
      exact ih h (hstep ext (.head _) t h0 (by simpa using hk)) fun e he => hstep e (List.mem_cons_of_mem _ he)

theorem foldExtensions_all {Q : Name × Definition → Prop} {l : List Definition} {t r : List (Name × Definition)}
    (h : foldExtensions l t = .ok r) (ht : ∀ p ∈ t, Q p) (hstub : ∀ e ∈ l, Q (e.name, extStub e))
    (happ : ∀ e ∈ l, ∀ d, Q (e.name, d) → d.kind = e.kind → Q (e.name, applyExt e d)) : ∀ p ∈ r, Q p := by
  refine foldExtensions_induct (I := fun t => ∀ p ∈ t, Q p) h ht fun e he t ht hk => ?_
  have hb : ∀ p ∈ ensureBase e t, Q p := by
    unfold ensureBase
    split
    · exact ht
    · exact fun p hp => (List.mem_append.mp hp).elim (ht p) fun h => List.mem_singleton.mp h ▸ hstub e he
  rintro ⟨k, v⟩ hp
  rcases mem_modifyKV hp with hp | ⟨rfl, v0, hv0, rfl⟩
  · exact hb _ hp
  · refine happ e he v0 (hb _ (mem_of_lookup hv0)) ?_
    rw [lookup_ensureBase] at hv0
    revert hk hv0
    cases t.lookup e.name <;> simp only [Option.getD, if_true] <;> rintro hk ⟨⟩ <;> exact hk

theorem foldExtensions_inv {l : List Definition} {types r : List (Name × Definition)}
    (hacc : KeysInv (·.name) types) (h : foldExtensions l types = .ok r) : KeysInv (·.name) r :=
  foldExtensions_induct h hacc fun _ _ _ ht _ => keysInv_modifyKV (fun _ => rfl) (keysInv_ensureBase ht)

/-- the kind condition `foldExtensions` checks, stated on the list still to be folded -/
def ExtKindsOK (l : List Definition) (t : List (Name × Definition)) : Prop :=
  ∀ e ∈ l, match t.lookup e.name with
    | some d => d.kind = e.kind
    | none => match l.find? (·.name == e.name) with
      | some e0 => e0.kind = e.kind
      | none => True

/-- **"Cannot extend type … because the base type is a …"**: the extensions loop succeeds
    iff every extension has the kind of its base, or of the first extension of that name -/
theorem foldExtensions_isOk_iff {l : List Definition} {t : List (Name × Definition)} :
    (∃ r, foldExtensions l t = .ok r) ↔ ExtKindsOK l t := by
  induction l generalizing t with
  | nil => simp [foldExtensions, ExtKindsOK]
  | cons ext rest ih =>
    rw [foldExtensions_cons]
    simp only [ExtKindsOK, List.forall_mem_cons, List.find?_cons, BEq.rfl]
    have hbase : ((t.lookup ext.name).getD (extStub ext)).kind = ext.kind ↔
        (match t.lookup ext.name with | some d => d.kind = ext.kind | none => True) := by
      cases t.lookup ext.name <;> simp [extStub]
    by_cases hk : ((t.lookup ext.name).getD (extStub ext)).kind = ext.kind
    · simp only [hk, bne_self_eq_false, Bool.false_eq_true, ↓reduceIte, ih, ExtKindsOK]
      refine (forall_congr' fun e => imp_congr_right fun _ => ?_).trans (and_iff_right (hbase.mp hk)).symm
      rw [lookup_modifyKV, lookup_ensureBase]
      by_cases hn : e.name = ext.name
      · rw [hn] at *
        revert hk
        cases t.lookup ext.name <;> simp [applyExt, extStub] <;> intro hk <;> simp [hk]
      · have hne : (ext.name == e.name) = false := by simpa using Ne.symm hn
        cases t.lookup e.name <;> simp [hn, hne]
    · exact iff_of_false (by simp [hk]) fun h => hk (hbase.mpr h.1)

theorem extKindsOK_congr {l : List Definition} {t t' : List (Name × Definition)} (h : ∀ n, t'.lookup n = t.lookup n) :
    ExtKindsOK l t' ↔ ExtKindsOK l t := by simp only [ExtKindsOK, h]

/-- base definition (if any) with the extensions of that name folded in -/
def mergedFrom (base : Option Definition) (exts : List Definition) : Option Definition :=
  match base, exts with
  | some d, es => some (es.foldl (fun d e => applyExt e d) d)
  | none, [] => none
  | none, e :: es => some ((e :: es).foldl (fun d e => applyExt e d) (extStub e))

theorem foldl_applyExt (es : List Definition) (d : Definition) :
    (es.foldl (fun d e => applyExt e d) d).kind = d.kind ∧ (es.foldl (fun d e => applyExt e d) d).name = d.name ∧
    (es.foldl (fun d e => applyExt e d) d).builtIn = d.builtIn ∧
    (es.foldl (fun d e => applyExt e d) d).dirs = d.dirs ++ es.flatMap (·.dirs) ∧
    (es.foldl (fun d e => applyExt e d) d).interfaces = d.interfaces ++ es.flatMap (·.interfaces) ∧
    (es.foldl (fun d e => applyExt e d) d).fields = d.fields ++ es.flatMap (·.fields) ∧
    (es.foldl (fun d e => applyExt e d) d).types = d.types ++ es.flatMap (·.types) ∧
    (es.foldl (fun d e => applyExt e d) d).enumValues = d.enumValues ++ es.flatMap (·.enumValues) := by
  induction es generalizing d with
  | nil => simp
  | cons e rest ih => simp only [List.foldl_cons, List.flatMap_cons, ih]; simp [applyExt]

theorem foldExtensions_lookup {l : List Definition} {t r : List (Name × Definition)}
    (h : foldExtensions l t = .ok r) (n : Name) :
    r.lookup n = mergedFrom (t.lookup n) (l.filter (·.name == n)) := by
  induction l generalizing t with
  | nil => cases h; cases r.lookup n <;> rfl
  | cons ext rest ih =>
    rw [foldExtensions_cons] at h
    split at h
    · cases h
    · rw [ih h, lookup_modifyKV, lookup_ensureBase, List.filter_cons]
      by_cases hn : n = ext.name
      · subst hn; cases t.lookup ext.name <;> simp [mergedFrom]
      · cases t.lookup n <;> simp [hn, Ne.symm hn]

theorem foldExtensions_keys {l : List Definition} {types r : List (Name × Definition)} (h : foldExtensions l types = .ok r) :
    (∀ n, (types.lookup n).isSome → (r.lookup n).isSome) ∧ ∀ e ∈ l, (r.lookup e.name).isSome := by
  refine ⟨fun n hn => ?_, fun e he => ?_⟩
  · rw [foldExtensions_lookup h]; cases hl : types.lookup n
    · simp [hl] at hn
    · rfl
  · rw [foldExtensions_lookup h]
    cases types.lookup e.name
    · cases hf : l.filter (·.name == e.name)
      · have : e ∈ l.filter (·.name == e.name) := List.mem_filter.mpr ⟨he, beq_self_eq_true e.name⟩
        rw [hf] at this; cases this
      · rfl
    · rfl

theorem foldExtensions_members {P : Name → Prop} {l : List Definition} {types r : List (Name × Definition)}
    (h : foldExtensions l types = .ok r) (hl : ∀ e ∈ l, ∀ m ∈ e.types, P m)
    (ht : ∀ p ∈ types, ∀ m ∈ p.2.types, P m) : ∀ p ∈ r, ∀ m ∈ p.2.types, P m :=
  foldExtensions_all (Q := fun p => ∀ m ∈ p.2.types, P m) h ht (fun _ _ => by simp [extStub])
    fun e he _ hd _ m hm => (List.mem_append.mp hm).elim (hd m) (hl e he m)

theorem declareDirectives_induct {I : List (Name × DirectiveDef) → Prop} {l : List DirectiveDef}
    {acc r : List (Name × DirectiveDef)} (h : declareDirectives l acc = .ok r) (h0 : I acc)
    (hstep : ∀ dd ∈ l, ∀ acc, I acc → I (insertKV dd.name dd acc)) : I r := by
  induction l generalizing acc with
  | nil => cases h; exact h0
  | cons dd rest ih =>
    simp only [declareDirectives] at h
    split at h
    · cases h
    · exact ih h (hstep dd (.head _) acc h0) fun e he => hstep e (List.mem_cons_of_mem _ he)

theorem declareDirectives_inv {l : List DirectiveDef} {acc r : List (Name × DirectiveDef)}
    (hacc : KeysInv (·.name) acc) (h : declareDirectives l acc = .ok r) : KeysInv (·.name) r :=
  declareDirectives_induct h hacc fun _ _ _ ha =>
    ⟨keys_insertKV_nodup ha.1, fun p hp => (mem_insertKV hp).elim (· ▸ rfl) (ha.2 p)⟩

theorem buildState_inv {sd : SchemaDoc} {st : LState} (h : buildState sd = .ok st) :
    KeysInv (·.name) st.types ∧ KeysInv (·.name) st.directives ∧
    (st.possible, st.implements) = buildRelations st.types := by
  obtain ⟨hn, ht, hd, hrel⟩ := buildState_eq_ok.mp h
  refine ⟨foldExtensions_inv ⟨?_, ?_⟩ ht, declareDirectives_inv (keysInv_nil _) hd, hrel⟩
  · simpa [List.map_map, Function.comp_def] using hn
  · simp

/-- `foldExtensions_all` for the state every validator runs in: the loop starts from the definitions -/
theorem buildState_types_all {Q : Name × Definition → Prop} {sd : SchemaDoc} {st : LState} (h : buildState sd = .ok st)
    (hdef : ∀ d ∈ sd.definitions, Q (d.name, d)) (hstub : ∀ e ∈ sd.extensions, Q (e.name, extStub e))
    (happ : ∀ e ∈ sd.extensions, ∀ d, Q (e.name, d) → d.kind = e.kind → Q (e.name, applyExt e d)) :
    ∀ p ∈ st.types, Q p :=
  foldExtensions_all (buildState_eq_ok.mp h).2.1 (by simpa using hdef) hstub happ

theorem ptrOf_ok {types : List (Name × Definition)} (hinv : KeysInv (·.name) types) {x : Name}
    (hx : (types.lookup x).isSome) : ∃ n, ptrOf types x = some n ∧ (types.lookup n).isSome := by
  cases hl : types.lookup x with
  | none => simp [hl] at hx
  | some d =>
    have hname : d.name = x := hinv.2 _ (mem_of_lookup hl)
    exact ⟨d.name, by simp [ptrOf, hl], by rw [hname]; exact hx⟩

theorem ptrOf_self {T : List (Name × Definition)} (hinv : KeysInv (·.name) T) {x : Name} {t : Definition}
    (h : T.lookup x = some t) : ptrOf T x = some x := by
  have hname : t.name = x := hinv.2 _ (mem_of_lookup h)
  simp [ptrOf, h, hname]

theorem ptrOf_resolves {types : List (Name × Definition)} (hinv : KeysInv (·.name) types) {x n : Name}
    (h : ptrOf types x = some n) : (types.lookup n).isSome := by
  cases hl : types.lookup x with
  | none => simp [ptrOf, hl] at h
  | some d => rw [ptrOf_self hinv hl] at h; cases h; simp [hl]

def RelInv (types : List (Name × Definition)) (rel : Rel) : Prop :=
  ∀ p ∈ rel, (types.lookup p.1).isSome ∧ ∀ e ∈ p.2, ∃ n, e = some n ∧ (types.lookup n).isSome

/-- what the relation construction needs of one definition -/
def RefsResolve (types : List (Name × Definition)) (d : Definition) : Prop :=
  (types.lookup d.name).isSome ∧ (∀ i ∈ d.interfaces, (types.lookup i).isSome) ∧ (∀ m ∈ d.types, (types.lookup m).isSome)

theorem buildRelations_inv {types : List (Name × Definition)} (hinv : KeysInv (·.name) types)
    (hrefs : ∀ p ∈ types, RefsResolve types p.2) :
    RelInv types (buildRelations types).1 ∧ RelInv types (buildRelations types).2 := by
  have hptr : ∀ {e x}, e.isSome = true → e = ptrOf types x → ∃ n, e = some n ∧ (types.lookup n).isSome := by
    rintro e x he rfl
    obtain ⟨n, hn⟩ := Option.isSome_iff_exists.mp he
    exact ⟨n, hn, ptrOf_resolves hinv hn⟩
  have hpush : ∀ {pushes : Definition → List (Name × Option Name)} {k e}, (k, e) ∈ (types.map Prod.snd).flatMap pushes →
      ∃ p ∈ types, (k, e) ∈ pushes p.2 := fun h =>
    let ⟨_, hd, hkv⟩ := List.mem_flatMap.mp h
    let ⟨p, hp, e⟩ := List.mem_map.mp hd
    ⟨p, hp, e ▸ hkv⟩
  rw [buildRelations_eq]
  constructor <;> refine pushAll_forall (P := fun k => (types.lookup k).isSome)
    (Q := fun e => ∃ n, e = some n ∧ (types.lookup n).isSome) (fun _ h => nomatch h) fun ⟨k, e⟩ hkv => ?_
  all_goals
    obtain ⟨p, hp, hkv⟩ := hpush hkv
    obtain ⟨hname, hintf, hmem⟩ := hrefs p hp
    have hself : ∃ n, some p.2.name = some n ∧ (types.lookup n).isSome := ⟨_, rfl, hname⟩
  · rcases mem_possPushes.mp hkv with ⟨_, rfl, he, t, _, het⟩ | ⟨_, hi, rfl⟩ | ⟨_, rfl, rfl⟩
    · exact ⟨hname, hptr he het⟩
    · exact ⟨hintf k hi, hself⟩
    · exact ⟨hname, hself⟩
  · rcases mem_implPushes.mp hkv with ⟨_, hm, rfl⟩ | ⟨_, rfl, he, i, _, hei⟩
    · exact ⟨hmem k hm, hself⟩
    · exact ⟨hname, hptr he hei⟩

def NoNil (rel : Rel) : Prop := ∀ p ∈ rel, ∀ e ∈ p.2, e ≠ none

/-- **no nil entry is ever stored** in `PossibleTypes` / `Implements`, whatever the document -/
theorem buildRelations_noNil (types : List (Name × Definition)) :
    NoNil (buildRelations types).1 ∧ NoNil (buildRelations types).2 := by
  rw [buildRelations_eq]
  constructor <;> refine fun p hp => (pushAll_forall (P := fun _ => True) (Q := (· ≠ none)) (by simp) ?_ p hp).2
  · rintro ⟨k, e⟩ hkv
    obtain ⟨d, _, hkv⟩ := List.mem_flatMap.mp hkv
    rcases mem_possPushes.mp hkv with ⟨_, _, h, _⟩ | ⟨_, _, h⟩ | ⟨_, _, h⟩ <;>
      exact ⟨trivial, fun (he : e = none) => by subst he; cases h⟩
  · rintro ⟨k, e⟩ hkv
    obtain ⟨d, _, hkv⟩ := List.mem_flatMap.mp hkv
    rcases mem_implPushes.mp hkv with ⟨_, _, h⟩ | ⟨_, _, h, _⟩ <;>
      exact ⟨trivial, fun (he : e = none) => by subst he; cases h⟩

theorem buildState_noNil {sd : SchemaDoc} {st : LState} (h : buildState sd = .ok st) :
    NoNil st.possible ∧ NoNil st.implements := by
  have hrel := (buildState_inv h).2.2
  rw [show st.possible = _ from congrArg Prod.fst hrel, show st.implements = _ from congrArg Prod.snd hrel]
  exact buildRelations_noNil st.types

end Gql.Load
