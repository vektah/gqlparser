import GqlProofs.Schema.Basic
/-
  The relation construction as a list of pushes: `PossibleTypes[k]` is, in order, the values pushed
  under key `k` while the definitions are traversed.
-/
namespace Gql.Load
open Gql

def pushAll {β} (l : List (Name × β)) (rel : List (Name × List β)) : List (Name × List β) :=
  l.foldl (fun r kv => pushKV kv.1 kv.2 r) rel

theorem entriesOf_pushAll {β} (l : List (Name × β)) (rel : List (Name × List β)) (k : Name) :
    entriesOf (pushAll l rel) k = entriesOf rel k ++ (l.filter (fun kv => kv.1 == k)).map Prod.snd := by
  induction l generalizing rel with
  | nil => simp [pushAll]
  | cons kv rest ih =>
    simp only [pushAll, List.foldl_cons] at ih ⊢
    rw [ih, entriesOf, lookup_pushKV, List.filter_cons]
    by_cases h : k = kv.1
    · simp [h, entriesOf]
    · simp [h, entriesOf, Ne.symm h]

theorem keys_pushAll {β} (l : List (Name × β)) (rel : List (Name × List β)) (x : Name) :
    x ∈ (pushAll l rel).map Prod.fst ↔ x ∈ rel.map Prod.fst ∨ ∃ kv ∈ l, kv.1 = x := by
  induction l generalizing rel with
  | nil => simp [pushAll]
  | cons kv rest ih =>
    simp only [pushAll, List.foldl_cons] at ih ⊢
    rw [ih, mem_keys_pushKV]
    simp only [List.mem_cons, exists_eq_or_imp]
    rw [eq_comm (a := x), or_assoc, or_left_comm]

theorem pushAll_forall {β} {P : Name → Prop} {Q : β → Prop} {l : List (Name × β)} {rel : List (Name × List β)}
    (hrel : ∀ p ∈ rel, P p.1 ∧ ∀ x ∈ p.2, Q x) (hl : ∀ kv ∈ l, P kv.1 ∧ Q kv.2) :
    ∀ p ∈ pushAll l rel, P p.1 ∧ ∀ x ∈ p.2, Q x := by
  induction l generalizing rel with
  | nil => exact hrel
  | cons kv rest ih =>
    refine ih ?_ fun kv' h => hl kv' (List.mem_cons_of_mem _ h)
    obtain ⟨hk, hv⟩ := hl kv (.head _)
    clear ih hl
    induction rel with
    | nil => simpa [pushKV] using ⟨hk, hv⟩
    | cons q rel ih =>
      simp only [List.forall_mem_cons] at hrel
      simp only [pushKV]
      split
      · simp only [List.forall_mem_cons, List.mem_append, List.mem_singleton]
        exact ⟨⟨hrel.1.1, fun x hx => hx.elim (hrel.1.2 x) (· ▸ hv)⟩, hrel.2⟩
      · exact List.forall_mem_cons.mpr ⟨hrel.1, ih hrel.2⟩

theorem pushAll_append {β} (l m : List (Name × β)) (rel : List (Name × List β)) :
    pushAll (l ++ m) rel = pushAll m (pushAll l rel) := by
  simp [pushAll, List.foldl_append]

theorem foldl_pushPtr {α} (xs : List α) (f : α → Name × Option Name) (rel : Rel) :
    xs.foldl (fun r a => pushPtr (f a).1 (f a).2 r) rel = pushAll ((xs.map f).filter (·.2.isSome)) rel := by
  induction xs generalizing rel with
  | nil => rfl
  | cons a rest ih =>
    simp only [List.foldl_cons, List.map_cons, ih]
    cases h : (f a).2 <;> simp [pushPtr, List.filter, h, pushAll]

theorem foldl_pushKV {α} (xs : List α) (f : α → Name × Option Name) (rel : Rel) :
    xs.foldl (fun r a => pushKV (f a).1 (f a).2 r) rel = pushAll (xs.map f) rel := by
  simp [pushAll, List.foldl_map]

theorem foldl_pair {α} (xs : List α) (F G : α → Rel → Rel) (p i : Rel) :
    xs.foldl (fun (x : Rel × Rel) a => match x with
      | (p, i) => (F a p, G a i)) (p, i) =
    (xs.foldl (fun r a => F a r) p, xs.foldl (fun r a => G a r) i) := by
  induction xs generalizing p i with
  | nil => rfl
  | cons a rest ih => simp only [List.foldl_cons]; rw [ih]

/-- the pushes one definition makes into `PossibleTypes` (an undeclared union member is skipped) -/
def possPushes (types : List (Name × Definition)) (d : Definition) : List (Name × Option Name) :=
  match d.kind with
  | .union => (d.types.map fun t => (d.name, ptrOf types t)).filter (·.2.isSome)
  | .object => d.interfaces.map (fun i => (i, some d.name)) ++ [(d.name, some d.name)]
  | .interface => d.interfaces.map fun i => (i, some d.name)
  | .scalar | .enum | .inputObject => []

/-- … and into `Implements` (an undeclared interface is skipped) -/
def implPushes (types : List (Name × Definition)) (d : Definition) : List (Name × Option Name) :=
  match d.kind with
  | .union => d.types.map fun t => (t, some d.name)
  | .object | .interface => (d.interfaces.map fun i => (d.name, ptrOf types i)).filter (·.2.isSome)
  | .scalar | .enum | .inputObject => []

theorem relateDef_eq (types : List (Name × Definition)) (d : Definition) (p i : Rel) :
    relateDef types d (p, i) = (pushAll (possPushes types d) p, pushAll (implPushes types d) i) := by
  have hintf := foldl_pair d.interfaces (fun x r => pushKV x (some d.name) r) (fun x r => pushPtr d.name (ptrOf types x) r) p i
  rw [foldl_pushKV d.interfaces (fun x => (x, some d.name)), foldl_pushPtr d.interfaces (fun x => (d.name, ptrOf types x))] at hintf
  unfold relateDef possPushes implPushes
  cases d.kind
  · rfl
  · simp only [hintf, pushAll_append]; rfl
  · exact hintf
  · simp only
    rw [foldl_pair d.types (fun t r => pushPtr d.name (ptrOf types t) r) (fun t r => pushKV t (some d.name) r),
      foldl_pushPtr d.types (fun t => (d.name, ptrOf types t)), foldl_pushKV d.types (fun t => (t, some d.name))]
  · rfl
  · rfl

theorem buildRelations_eq (types : List (Name × Definition)) :
    buildRelations types =
      (pushAll ((types.map Prod.snd).flatMap (possPushes types)) [],
       pushAll ((types.map Prod.snd).flatMap (implPushes types)) []) := by
  have key : ∀ (ds : List Definition) (p i : Rel), ds.foldl (fun pi d => relateDef types d pi) (p, i) =
      (pushAll (ds.flatMap (possPushes types)) p, pushAll (ds.flatMap (implPushes types)) i) := by
    intro ds
    induction ds with
    | nil => intro p i; rfl
    | cons d rest ih => intro p i; simp only [List.foldl_cons, List.flatMap_cons, pushAll_append, relateDef_eq, ih]
  exact key _ [] []

theorem possible_entries (types : List (Name × Definition)) (k : Name) :
    entriesOf (buildRelations types).1 k =
      (((types.map Prod.snd).flatMap (possPushes types)).filter (fun kv => kv.1 == k)).map Prod.snd := by
  rw [buildRelations_eq, entriesOf_pushAll]; simp [entriesOf]

theorem implements_entries (types : List (Name × Definition)) (k : Name) :
    entriesOf (buildRelations types).2 k =
      (((types.map Prod.snd).flatMap (implPushes types)).filter (fun kv => kv.1 == k)).map Prod.snd := by
  rw [buildRelations_eq, entriesOf_pushAll]; simp [entriesOf]

theorem mem_possPushes {T : List (Name × Definition)} {d : Definition} {k : Name} {e : Option Name} :
    (k, e) ∈ possPushes T d ↔
      (d.kind = .union ∧ k = d.name ∧ e.isSome = true ∧ ∃ t ∈ d.types, e = ptrOf T t) ∨
      ((d.kind = .object ∨ d.kind = .interface) ∧ k ∈ d.interfaces ∧ e = some d.name) ∨
      (d.kind = .object ∧ k = d.name ∧ e = some d.name) := by
  unfold possPushes
  cases hk : d.kind <;> simp <;> grind

theorem mem_implPushes {T : List (Name × Definition)} {d : Definition} {k : Name} {e : Option Name} :
    (k, e) ∈ implPushes T d ↔
      (d.kind = .union ∧ k ∈ d.types ∧ e = some d.name) ∨
      ((d.kind = .object ∨ d.kind = .interface) ∧ k = d.name ∧ e.isSome = true ∧ ∃ i ∈ d.interfaces, e = ptrOf T i) := by
  unfold implPushes
  cases hk : d.kind <;> simp <;> grind

end Gql.Load
