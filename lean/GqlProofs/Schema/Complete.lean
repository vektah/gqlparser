import GqlProofs.Schema.CompleteChecks
/-
  Completeness of the loader, the stage `finish` and the whole: the schema definition / schema
  extensions (root operation types) pass (`load_finish_ok_of_wf`), and the assembly: `load sd` succeeds
  for every well-formed merged document.
-/
namespace Gql.Load
open Gql

/-- everything after the maps are built passes (`finish`): "Cannot have multiple schema entry points"
    — `singleSchemaDef`; the entry points — `rootsExist`, `rootOperationTypesOnce`
    (`setRoots_isOk_iff_spec`); the directives of the schema blocks — the directive clauses;
    `validateTypeDefinitions`; `validateDirectiveDefinitions`; "Schema root %s must be an object type, %s
    is a %s." — `rootTypesAreObjects` (`checkRootKinds_iff_spec`) -/
theorem load_finish_ok_of_wf {sd : SchemaDoc} {st : LState} (W : WfState sd st) : ∃ s, finish sd st = .ok s := by
  obtain ⟨r1, hr⟩ := (setRoots_isOk_iff_spec W.typeEq).mpr ⟨W.wf.rootsExist, W.wf.rootOperationTypesOnce⟩
  refine ⟨_, finish_eq_ok_iff.mpr ⟨r1, ⟨?_, hr, fun b hb => ?_, ?_, ?_, ?_⟩, rfl⟩⟩
  · simpa [Spec.singleSchemaDef] using W.wf.singleSchemaDef
  · exact validateDirectives_pass_iff.mpr fun x hx =>
      load_validateDirectiveUse_ok_of_wf W (mem_directiveUses.mpr (.inr (.inl ⟨b, hb, hx, rfl, rfl⟩)))
  · exact validateTypeDefinitions_pass_iff.mp (load_validateTypeDefinitions_ok_of_wf W)
  · exact validateDirectiveDefinitions_pass_iff.mp (load_validateDirectiveDefinitions_ok_of_wf W)
  · exact (checkRootKinds_iff_spec W.typesInv W.typeEq hr).mpr W.wf.rootTypesAreObjects

/-- completeness from the two facts about the directive map it needs -/
theorem load_complete_of {sd : SchemaDoc} (h : Spec.WellFormed sd) (hext : ∀ e ∈ sd.extensions, e.builtIn = false)
    (hdirs : ∃ r, declareDirectives sd.directives [] = .ok r)
    (hdirEq : ∀ st, buildState sd = .ok st → ∀ n, (Spec.TypeSystem.ofDoc sd).directive? n = st.directives.lookup n) :
    ∃ s, load sd = .ok s := by
  obtain ⟨st, hb⟩ := buildState_isOk_iff.mpr ⟨h.uniqueTypeNames, h.extensionKindsMatch, hdirs⟩
  obtain ⟨s, hs⟩ := load_finish_ok_of_wf (st := st) ⟨h, hext, hb, hdirEq st hb⟩
  exact ⟨s, by unfold load; rw [hb]; exact hs⟩

/-- **completeness of the loader**: a well-formed merged document loads -/
theorem load_complete {sd : SchemaDoc} (h : Spec.WellFormed sd) (hm : MergedDoc sd) : ∃ s, load sd = .ok s :=
  load_complete_of h hm.extNotBuiltin (load_declareDirectives_ok_of_wf h.uniqueDirectiveNames hm)
    (fun _ hb => spec_directive_eq_of_merged hb h.uniqueDirectiveNames hm)

/-- … and so does a well-formed document in which no directive name is declared twice (the hypotheses of
    the soundness theorem `load_wellFormed`; nothing about the order of the sources is needed then) -/
theorem load_complete_distinct {sd : SchemaDoc} (h : Spec.WellFormed sd)
    (hext : ∀ e ∈ sd.extensions, e.builtIn = false) (hd : DirectiveNamesDistinct sd) : ∃ s, load sd = .ok s :=
  load_complete_of h hext (declareDirectives_ok_of_distinct hd) (fun _ hb => spec_directive_eq hb hd)

/-- for documents in which no directive name is declared twice the loader accepts exactly the well-formed
    type systems -/
theorem load_isOk_iff_wellFormed {sd : SchemaDoc} (hext : ∀ e ∈ sd.extensions, e.builtIn = false)
    (hlex : NamesLexical sd) (hd : DirectiveNamesDistinct sd) : (load sd).isOk = true ↔ Spec.WellFormed sd := by
  rw [isOk_iff]
  exact ⟨fun ⟨_, h⟩ => load_wellFormed h hext hlex hd, fun h => load_complete_distinct h hext hd⟩

end Gql.Load

#print axioms Gql.Load.load_declareDirectives_ok_of_wf
#print axioms Gql.Load.load_buildState_ok_of_wf
#print axioms Gql.Load.spec_directive_eq_of_merged
#print axioms Gql.Load.load_validateDirectiveUse_ok_of_wf
#print axioms Gql.Load.load_validateArgs_ok_of_wf
#print axioms Gql.Load.load_validateImplements_ok_of_wf
#print axioms Gql.Load.load_validateKindSpecific_ok_of_wf
#print axioms Gql.Load.load_validateDefinition_ok_of_wf
#print axioms Gql.Load.load_validateTypeDefinitions_ok_of_wf
#print axioms Gql.Load.load_validateDirectiveDefinitions_ok_of_wf
#print axioms Gql.Load.load_finish_ok_of_wf
#print axioms Gql.Load.load_complete
#print axioms Gql.Load.load_complete_distinct
