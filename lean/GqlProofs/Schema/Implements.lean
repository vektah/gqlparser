import GqlProofs.Schema.Bridge
import GqlProofs.Schema.RelExact
/-
  Soundness of the loader for the clause `Spec.implementsFieldsOK`: implementers provide every
  interface field covariantly, take every interface argument at the identical type, and add no
  required argument.

  Two bridges are needed:
  * `Type.String()` (`GType.render`) is injective on type expressions whose names are lexical
    GraphQL names (no `!`, `[`, `]`): the repaired loader compares argument types by their rendering;
  * the loader's `isCovariant` (which reads `PossibleTypes`) computes the specification's
    `IsValidImplementationFieldType` (`Spec.covariant`, which reads the definitions) in a state whose
    union members and interfaces resolve.
-/
namespace Gql.Load
open Gql

/-- no `!`, `[`, `]` (bytes 33, 91, 93): true of every Name token -/
def plainName (n : Name) : Prop := ∀ c ∈ n, c ≠ 33 ∧ c ≠ 91 ∧ c ≠ 93

/-- every name inside the type expression is non-empty and plain (what the lexer guarantees) -/
def Lexical : GType → Prop
  | .named n _ _ => n ≠ [] ∧ plainName n
  | .list e _ _ => Lexical e

instance (n : Name) : Decidable (plainName n) := by unfold plainName; infer_instance

instance decLexical : (t : GType) → Decidable (Lexical t)
  | .named n _ _ => (inferInstance : Decidable (n ≠ [] ∧ plainName n))
  | .list e _ _ => decLexical e

def special (c : Nat) : Prop := c = 33 ∨ c = 91 ∨ c = 93

theorem split_unique {n m : Name} (hn : plainName n) (hm : plainName m) {c c' : Nat} (hc : special c) (hc' : special c')
    {x y : Bytes} (h : n ++ c :: x = m ++ c' :: y) : n = m ∧ c = c' ∧ x = y := by
  induction n generalizing m with
  | nil =>
    cases m with
    | nil => simp at h; exact ⟨rfl, h.1, h.2⟩
    | cons b m' =>
      simp at h
      have := hm b (by simp)
      rcases hc with hc | hc | hc <;> (rw [← h.1, hc] at this; simp at this)
  | cons a n' ih =>
    cases m with
    | nil =>
      simp at h
      have := hn a (by simp)
      rcases hc' with hc' | hc' | hc' <;> (rw [h.1, hc'] at this; simp at this)
    | cons b m' =>
      simp only [List.cons_append, List.cons.injEq] at h
      obtain ⟨h1, h2, h3⟩ := ih (fun c hc => hn c (by simp [hc])) (fun c hc => hm c (by simp [hc])) h.2
      exact ⟨by rw [h.1, h1], h2, h3⟩

def sfx (nn : Bool) : Bytes := if nn then [33] else []

theorem render_named (n : Name) (nn : Bool) (p : Pos) : (GType.named n nn p).render = n ++ sfx nn := rfl
theorem render_list (e : GType) (nn : Bool) (p : Pos) : (GType.list e nn p).render = 91 :: e.render ++ 93 :: sfx nn := rfl

theorem sfx_cancel {a b : Bool} {x y : Bytes} (h : sfx a ++ 93 :: x = sfx b ++ 93 :: y) : a = b ∧ x = y := by
  cases a <;> cases b <;> simp [sfx] at h ⊢ <;> exact h

theorem sfx_special (nn : Bool) (x : Bytes) : ∃ c rest, special c ∧ sfx nn ++ 93 :: x = c :: rest := by
  cases nn
  · exact ⟨93, x, .inr (.inr rfl), rfl⟩
  · exact ⟨33, 93 :: x, .inl rfl, rfl⟩

theorem render_named_ne_list {n : Name} (hn : n ≠ [] ∧ plainName n) (nn : Bool) (x z : Bytes) :
    n ++ (sfx nn ++ 93 :: x) ≠ 91 :: z := by
  obtain ⟨c, r, hc, e⟩ := sfx_special nn x
  rw [e]
  exact fun h => hn.1 (split_unique (m := []) hn.2 (by simp [plainName]) hc (.inr (.inl rfl)) h).1

/-- renderings followed by `]` determine the type expression (up to positions) and the rest -/
theorem render_sep (a : GType) : ∀ (b : GType) (x y : Bytes), Lexical a → Lexical b →
    a.render ++ 93 :: x = b.render ++ 93 :: y → Spec.sameType a b = true ∧ x = y := by
  induction a with
  | named n nn p =>
    intro b x y ha hb h
    cases b with
    | named m mn q =>
      obtain ⟨c, r, hc, e⟩ := sfx_special nn x
      obtain ⟨c', r', hc', e'⟩ := sfx_special mn y
      rw [render_named, render_named, List.append_assoc, List.append_assoc, e, e'] at h
      obtain ⟨h1, h2, h3⟩ := split_unique ha.2 hb.2 hc hc' h
      obtain ⟨h4, h5⟩ := sfx_cancel (e.trans (h2 ▸ h3 ▸ e'.symm))
      exact ⟨by simp [Spec.sameType, h1, h4], h5⟩
    | list eb bn q =>
      rw [render_named, render_list] at h
      exact (render_named_ne_list ha nn x (eb.render ++ 93 :: (sfx bn ++ 93 :: y)) (by simpa using h)).elim
  | list ea an p ih =>
    intro b x y ha hb h
    cases b with
    | named m mn q =>
      rw [render_named, render_list] at h
      exact (render_named_ne_list hb mn y (ea.render ++ 93 :: (sfx an ++ 93 :: x)) (by simpa using h.symm)).elim
    | list eb bn q =>
      rw [render_list, render_list] at h
      have h' : ea.render ++ 93 :: (sfx an ++ 93 :: x) = eb.render ++ 93 :: (sfx bn ++ 93 :: y) := by
        simpa using h
      obtain ⟨h1, h2⟩ := ih eb _ _ ha hb h'
      obtain ⟨h3, h4⟩ := sfx_cancel h2
      exact ⟨by simp [Spec.sameType, h1, h3], h4⟩

/-- `Type.String()` is injective (up to positions) on lexical type expressions -/
theorem render_inj {a b : GType} (ha : Lexical a) (hb : Lexical b) (h : a.render = b.render) : Spec.sameType a b = true :=
  (render_sep a b [] [] ha hb (by rw [h])).1

theorem sameType_render : ∀ {a b : GType}, Spec.sameType a b = true → a.render = b.render := by
  intro a
  induction a with
  | named n nn p =>
    intro b h
    cases b with
    | named m mn q => simp_all [Spec.sameType, GType.render]
    | list e mn q => simp [Spec.sameType] at h
  | list e nn p ih =>
    intro b h
    cases b with
    | named m mn q => simp [Spec.sameType] at h
    | list e' mn q =>
      simp only [Spec.sameType, Bool.and_eq_true, beq_iff_eq] at h
      simp [GType.render, ih h.1, h.2]


/-- what the covariance lemmas need of the state: it was built, and the union members and interfaces
    of its definitions resolve to object and interface types (true once the definitions are validated,
    and of every well-formed document) -/
structure RefsOK (st : LState) : Prop where
  inv : KeysInv (·.name) st.types
  rel : (st.possible, st.implements) = buildRelations st.types
  members : ∀ p ∈ st.types, ∀ m ∈ p.2.types, ∃ t, st.types.lookup m = some t ∧ t.kind = .object
  interfaces : ∀ p ∈ st.types, ∀ i ∈ p.2.interfaces, ∃ t, st.types.lookup i = some t ∧ t.kind = .interface

section
variable {st : LState}

theorem RefsOK.possible_eq (R : RefsOK st) : st.possible = (buildRelations st.types).1 := congrArg Prod.fst R.rel

theorem RefsOK.relInv (R : RefsOK st) : RelInv st.types st.possible := by
  rw [R.possible_eq]
  exact (buildRelations_inv R.inv fun p hp =>
    ⟨by rw [R.inv.lookup_name hp]; rfl,
      fun i hi => let ⟨_, ht, _⟩ := R.interfaces p hp i hi; by rw [ht]; rfl,
      fun m hm => let ⟨_, ht, _⟩ := R.members p hp m hm; by rw [ht]; rfl⟩).1

theorem RefsOK.noNil (R : RefsOK st) : NoNilPossible st := by
  rw [NoNilPossible, R.possible_eq]
  exact (buildRelations_noNil st.types).1

theorem RefsOK.possible_iff (R : RefsOK st) {rn an : Name} (hne : rn ≠ an) :
    some an ∈ entriesOf st.possible rn ↔
      ∃ ad rd, st.types.lookup an = some ad ∧ st.types.lookup rn = some rd ∧
        (ad.kind = .object ∨ ad.kind = .interface) ∧
        ((rd.kind = .union ∧ an ∈ rd.types) ∨ (rd.kind = .interface ∧ rn ∈ ad.interfaces)) := by
  rw [R.possible_eq, mem_possible_iff]
  constructor
  · rintro ⟨p, hp, hmem⟩
    rcases mem_possPushes.mp hmem with ⟨hk, rfl, _, t, ht, he⟩ | ⟨hk, hi, he⟩ | ⟨_, rfl, he⟩
    · obtain ⟨td, htd, hkd⟩ := R.members p hp t ht
      rw [ptrOf_self R.inv htd] at he
      cases he
      exact ⟨td, p.2, htd, R.inv.lookup_name hp, .inl hkd, .inl ⟨hk, ht⟩⟩
    · obtain ⟨intf, hl, hki⟩ := R.interfaces p hp rn hi
      cases he
      exact ⟨p.2, intf, R.inv.lookup_name hp, hl, hk, .inr ⟨hki, hi⟩⟩
    · exact absurd (Option.some.inj he).symm hne
  · rintro ⟨ad, rd, ha, hr, hka, hcase⟩
    have hna : ad.name = an := R.inv.name_eq (mem_of_lookup ha)
    have hnr : rd.name = rn := R.inv.name_eq (mem_of_lookup hr)
    rcases hcase with ⟨hku, hmem⟩ | ⟨_, hmem⟩
    · exact ⟨(rn, rd), mem_of_lookup hr,
        mem_possPushes.mpr (.inl ⟨hku, hnr.symm, rfl, an, hmem, (ptrOf_self R.inv ha).symm⟩)⟩
    · exact ⟨(an, ad), mem_of_lookup ha, mem_possPushes.mpr (.inr (.inl ⟨hka, hmem, congrArg some hna.symm⟩))⟩

variable {ts : Spec.TypeSystem}

theorem isCovariant_named (R : RefsOK st) (hty : ∀ n, ts.type? n = st.types.lookup n)
    (rn an : Name) (rnn ann : Bool) (rp ap : Pos) :
    isCovariant st (.named rn rnn rp) (.named an ann ap) =
      some (Spec.covariant ts (.named rn rnn rp) (.named an ann ap)) := by
  simp only [isCovariant, Spec.covariant, GType.nonNull, namedOf, hty]
  by_cases hnn : (rnn && !ann) = true
  · have : (!rnn || ann) = false := by revert hnn; cases rnn <;> cases ann <;> decide
    simp only [hnn, ↓reduceIte, this, Bool.false_and]
  · have : (!rnn || ann) = true := by revert hnn; cases rnn <;> cases ann <;> decide
    simp only [hnn, this, Bool.true_and, Bool.false_eq_true, ↓reduceIte]
    by_cases h2 : rn = an
    · simp only [beq_iff_eq.mpr h2, ↓reduceIte, Bool.true_or]
    · simp only [beq_eq_false_iff_ne.mpr h2, Bool.false_eq_true, ↓reduceIte, Bool.false_or]
      show possibleHas (entriesOf st.possible rn) an = _
      rw [possibleHas_of_noNil (entriesOf_ne_none R.noNil rn)]
      congr 1
      rw [Bool.eq_iff_iff, decide_eq_true_eq, R.possible_iff h2]
      cases st.types.lookup an <;> cases st.types.lookup rn <;> simp

theorem isCovariant_eq_spec (R : RefsOK st) (hty : ∀ n, ts.type? n = st.types.lookup n)
    (hempty : st.types.lookup [] = none) :
    ∀ (r a : GType), Lexical r → isCovariant st r a = some (Spec.covariant ts r a) := by
  intro r
  induction r with
  | named rn rnn rp =>
    intro a hr
    cases a with
    | named an ann ap => exact isCovariant_named R hty ..
    | list ae ann ap =>
      -- `namedOf` of a list type is the empty name, which is neither `rn` nor a possible type of `rn`
      have h2 : (rn == ([] : Name)) = false := by simpa using hr.1
      have hf : some ([] : Name) ∉ entriesOf st.possible rn := by
        intro hmem
        unfold entriesOf at hmem
        cases hl : st.possible.lookup rn with
        | none => simp [hl] at hmem
        | some vs =>
          rw [hl] at hmem
          obtain ⟨n, hn, hres⟩ := (R.relInv (rn, vs) (mem_of_lookup hl)).2 _ hmem
          cases hn
          simp [hempty] at hres
      simp only [isCovariant, Spec.covariant, namedOf, h2, Bool.false_eq_true, ↓reduceIte]
      split
      · rfl
      · show possibleHas (entriesOf st.possible rn) [] = _
        rw [possibleHas_of_noNil (entriesOf_ne_none R.noNil rn)]
        simp [hf]
  | list re rnn rp ih =>
    intro a hr
    cases a with
    | named an ann ap => rfl
    | list ae ann ap =>
      simp only [isCovariant, Spec.covariant, ih ae hr]
      cases rnn <;> cases ann <;> simp

theorem isCovariant_of_spec (R : RefsOK st) (hty : ∀ n, ts.type? n = st.types.lookup n) :
    ∀ (r a : GType), Spec.covariant ts r a = true → isCovariant st r a = some true := by
  intro r
  induction r with
  | named rn rnn rp =>
    intro a h
    cases a with
    | named an ann ap => rw [isCovariant_named R hty, h]
    | list ae ann ap => simp [Spec.covariant] at h
  | list re rnn rp ih =>
    intro a h
    cases a with
    | named an ann ap => simp [Spec.covariant] at h
    | list ae ann ap =>
      simp only [Spec.covariant, Bool.and_eq_true] at h
      simp only [isCovariant, ih ae h.2]
      revert h
      cases rnn <;> cases ann <;> simp

end

theorem Facts.refsOK {sd s st r1 d1} (F : Facts sd s st r1 d1) : RefsOK st :=
  ⟨F.typesInv, F.rel, fun p hp => (F.defOK p hp).members, fun p hp => (F.defOK p hp).interfaces⟩

theorem implementsFieldsOK_iff {ts : Spec.TypeSystem} :
    Spec.implementsFieldsOK ts = true ↔
      ∀ d ∈ ts.types, ∀ i ∈ d.interfaces, ∀ intf, ts.type? i = some intf → intf.kind = .interface →
        ∀ rf ∈ intf.fields, ∃ f, d.fields.find? (·.name == rf.name) = some f ∧ Spec.covariant ts rf.type f.type = true ∧
          (∀ ra ∈ rf.args, ∃ fa, f.args.find? (·.name == ra.name) = some fa ∧ Spec.sameType ra.type fa.type = true) ∧
          ∀ fa ∈ f.args, ((rf.args.find? (·.name == fa.name)).isSome || !(fa.type.nonNull && fa.default.isNone)) = true := by
  simp only [Spec.implementsFieldsOK, List.all_eq_true]
  refine forall_congr' fun d => imp_congr_right fun _ => forall_congr' fun i => imp_congr_right fun _ => ?_
  cases ts.type? i with
  | none => exact iff_of_true rfl fun _ h => nomatch h
  | some intf =>
    simp only [Option.some.injEq, forall_eq']
    by_cases hk : intf.kind = .interface
    · simp only [hk, bne_self_eq_false, Bool.false_or, List.all_eq_true, true_imp_iff]
      refine forall_congr' fun rf => imp_congr_right fun _ => ?_
      cases d.fields.find? (·.name == rf.name) with
      | none => exact iff_of_false (fun h => nomatch h) fun ⟨_, h, _⟩ => nomatch h
      | some f =>
        simp only [Bool.and_eq_true, List.all_eq_true, Option.some.injEq, exists_eq_left', and_assoc]
        refine and_congr_right fun _ => and_congr_left fun _ => forall_congr' fun ra => imp_congr_right fun _ => ?_
        cases f.args.find? (·.name == ra.name) with
        | none => exact iff_of_false (fun h => nomatch h) fun ⟨_, h, _⟩ => nomatch h
        | some fa => simp only [Option.some.injEq, exists_eq_left']
    · exact iff_of_true (by simp [hk]) fun h => absurd h hk

/-- what the lexer guarantees about the names the clause looks at: no definition or extension has the
    empty name; field types and argument types are lexical type expressions -/
def NamesLexical (sd : SchemaDoc) : Prop :=
  ∀ d ∈ sd.definitions ++ sd.extensions, d.name ≠ [] ∧ ∀ f ∈ d.fields, Lexical f.type ∧ ∀ a ∈ f.args, Lexical a.type

instance (sd : SchemaDoc) : Decidable (NamesLexical sd) := by unfold NamesLexical; infer_instance

theorem state_fields_lexical {sd : SchemaDoc} {st : LState} (h : buildState sd = .ok st) (hlex : NamesLexical sd) :
    ∀ p ∈ st.types, ∀ f ∈ p.2.fields, Lexical f.type ∧ ∀ a ∈ f.args, Lexical a.type :=
  buildState_types_all (Q := fun p => ∀ f ∈ p.2.fields, Lexical f.type ∧ ∀ a ∈ f.args, Lexical a.type) h
    (fun d hd => (hlex d (List.mem_append_left _ hd)).2) (fun _ _ => by simp [extStub]) fun e he _ hd _ f hf =>
      (List.mem_append.mp hf).elim (hd f) ((hlex e (List.mem_append_right _ he)).2 f)

theorem state_no_empty_name {sd : SchemaDoc} {st : LState} (h : buildState sd = .ok st) (hlex : NamesLexical sd) :
    st.types.lookup [] = none := by
  have h1 : sd.definitions.find? (·.name == ([] : Name)) = none :=
    List.find?_eq_none.mpr fun d hd he => (hlex d (List.mem_append_left _ hd)).1 (by simpa using he)
  have h2 : sd.extensions.filter (·.name == ([] : Name)) = [] :=
    List.filter_eq_nil_iff.mpr fun d hd he => (hlex d (List.mem_append_right _ hd)).1 (by simpa using he)
  rw [state_lookup h, h1, h2]; rfl

/-- **soundness for `implementsFieldsOK`**: in a document the loader accepts, every implementer
    provides every field of its interfaces at a covariant type, takes every argument of the interface
    field at the IDENTICAL type, and adds no required argument -/
theorem load_implementsFieldsOK {sd : SchemaDoc} {s : Schema} (h : load sd = .ok s)
    (hext : ∀ e ∈ sd.extensions, e.builtIn = false) (hlex : NamesLexical sd) :
    Spec.implementsFieldsOK (.ofDoc sd) = true := by
  obtain ⟨st, r1, d1, F⟩ := loaded_facts h
  have hty := spec_type_eq F.built hext
  have hfl := state_fields_lexical F.built hlex
  rw [implementsFieldsOK_iff]
  intro d hd i hi intf hintf _ rf hrf
  have hdm := spec_types_mem F.built hext hd
  rw [hty] at hintf
  obtain ⟨_, hl, _, hfields, _⟩ := validateImplements_pass_iff.mp ((F.defOK_spec hext d hd).implements i hi)
  cases hintf.symm.trans hl
  obtain ⟨f, hf, hcov, hargs, hextra⟩ := validateImplementsField_pass_iff.mp (hfields rf hrf)
  have hrfl := hfl _ (mem_of_lookup hl) rf hrf
  have hffl := hfl _ hdm f (List.mem_of_find?_eq_some hf)
  rw [isCovariant_eq_spec F.refsOK hty (state_no_empty_name F.built hlex) _ _ hrfl.1] at hcov
  refine ⟨f, hf, Option.some.inj hcov, fun ra hra => ?_, hextra⟩
  obtain ⟨fa, hfa, hren⟩ := hargs ra hra
  exact ⟨fa, hfa, render_inj (hrfl.2 ra hra) (hffl.2 fa (List.mem_of_find?_eq_some hfa)) hren⟩

end Gql.Load
