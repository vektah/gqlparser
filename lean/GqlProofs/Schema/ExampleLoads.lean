import GqlProofs.Schema.Examples
/- what the loader model returns on the example documents that several witnesses speak of: each is
   evaluated once, here -/
namespace Gql.Examples
open Gql.Load

theorem okDoc_loads : (load okDoc).isOk = true := by decide +kernel

theorem panicDoc_rejected : (load panicDoc).isPanic = false ∧ (load panicDoc).isOk = false := by decide +kernel

theorem noPanicDoc_rejected : (load noPanicDoc).isPanic = false ∧ (load noPanicDoc).isOk = false := by decide +kernel

end Gql.Examples
