import GqlProofs.Schema.Perm
/-
  `PossibleTypes` / `Implements` of a loaded schema are the relations the definitions imply.
-/
namespace Gql.Load
open Gql

theorem mem_entries_iff (types : List (Name × Definition)) (pushes : Definition → List (Name × Option Name))
    (k : Name) (e : Option Name) :
    e ∈ (((types.map Prod.snd).flatMap pushes).filter (fun kv => kv.1 == k)).map Prod.snd ↔
      ∃ p ∈ types, (k, e) ∈ pushes p.2 := by
  simp only [List.mem_map, List.mem_filter, List.mem_flatMap, beq_iff_eq]
  constructor
  · rintro ⟨⟨k', e'⟩, ⟨⟨d, ⟨p, hp, rfl⟩, hd⟩, rfl⟩, rfl⟩
    exact ⟨p, hp, hd⟩
  · rintro ⟨p, hp, hd⟩
    exact ⟨(k, e), ⟨⟨p.2, ⟨p, hp, rfl⟩, hd⟩, rfl⟩, rfl⟩

theorem mem_possible_iff (types : List (Name × Definition)) (k : Name) (e : Option Name) :
    e ∈ entriesOf (buildRelations types).1 k ↔ ∃ p ∈ types, (k, e) ∈ possPushes types p.2 := by
  rw [possible_entries, mem_entries_iff]

theorem mem_implements_iff (types : List (Name × Definition)) (k : Name) (e : Option Name) :
    e ∈ entriesOf (buildRelations types).2 k ↔ ∃ p ∈ types, (k, e) ∈ implPushes types p.2 := by
  rw [implements_entries, mem_entries_iff]

theorem mem_final_filter {sd : SchemaDoc} {st : LState} {r1 : Roots} {d1 : List Directive}
    (hn : (st.types.map Prod.fst).Nodup) (P : DefKind → List Name → List Name → Bool) (x : Name) :
    x ∈ ((mkSchema sd st r1 d1).types.filter fun p => P p.2.kind p.2.interfaces p.2.types).map (·.1) ↔
      ∃ p ∈ st.types, P p.2.kind p.2.interfaces p.2.types = true ∧ p.1 = x := by
  simp only [mkSchema_types_map hn, List.mem_map, List.mem_filter]
  constructor
  · rintro ⟨_, ⟨⟨p, hp, rfl⟩, hP⟩, rfl⟩
    rw [finalDef_kind, finalDef_interfaces, finalDef_types] at hP
    exact ⟨p, hp, hP, (finalDef_fst _ _).symm⟩
  · rintro ⟨p, hp, hP, rfl⟩
    exact ⟨_, ⟨⟨p, hp, rfl⟩, by rw [finalDef_kind, finalDef_interfaces, finalDef_types]; exact hP⟩, finalDef_fst _ _⟩

theorem possible_mkSchema (sd : SchemaDoc) (st : LState) (r1 : Roots) (d1 : List Directive) (k : Name) :
    (mkSchema sd st r1 d1).possible k = (entriesOf st.possible k).map (·.getD nilName) := relOut_getD _ k

theorem implementsOf_mkSchema (sd : SchemaDoc) (st : LState) (r1 : Roots) (d1 : List Directive) (k : Name) :
    (mkSchema sd st r1 d1).implementsOf k = (entriesOf st.implements k).map (·.getD nilName) := relOut_getD _ k

section
variable {sd : SchemaDoc} {s : Schema} {st : LState} {r1 : Roots} {d1 : List Directive}

theorem mem_getD_iff {T : List (Name × Definition)} {rel : Rel} (h : RelInv T rel) (k x : Name) :
    x ∈ (entriesOf rel k).map (·.getD nilName) ↔ some x ∈ entriesOf rel k := by
  refine ⟨fun hx => ?_, fun hx => List.mem_map.mpr ⟨some x, hx, rfl⟩⟩
  obtain ⟨e, he, rfl⟩ := List.mem_map.mp hx
  unfold entriesOf at he ⊢
  cases hl : rel.lookup k with
  | none => simp [hl] at he
  | some vs =>
    rw [hl] at he
    obtain ⟨n, rfl, _⟩ := (h (k, vs) (mem_of_lookup hl)).2 e he
    exact he

theorem Facts.mem_possible (F : Facts sd s st r1 d1) (k x : Name) :
    x ∈ (mkSchema sd st r1 d1).possible k ↔ ∃ p ∈ st.types, (k, some x) ∈ possPushes st.types p.2 := by
  rw [possible_mkSchema, mem_getD_iff F.relInv.1, F.possible_eq, mem_possible_iff]

theorem Facts.mem_implementsOf (F : Facts sd s st r1 d1) (k x : Name) :
    x ∈ (mkSchema sd st r1 d1).implementsOf k ↔ ∃ p ∈ st.types, (k, some x) ∈ implPushes st.types p.2 := by
  rw [implementsOf_mkSchema, mem_getD_iff F.relInv.2, F.implements_eq, mem_implements_iff]

theorem Facts.entry_eq (F : Facts sd s st r1 d1) {p p' : Name × Definition} (hp : p ∈ st.types) (hp' : p' ∈ st.types)
    (hk : p'.2.name = p.1) : p' = p := by
  have h := F.lookup_self hp'
  rw [← F.name_eq hp', hk, F.lookup_self hp] at h
  exact Prod.ext ((F.name_eq hp').symm.trans hk) (Option.some.inj h).symm

theorem Facts.interface_kind (F : Facts sd s st r1 d1) {p p' : Name × Definition} (hp : p ∈ st.types) (hp' : p' ∈ st.types)
    (hi : p.1 ∈ p'.2.interfaces) : p.2.kind = .interface := by
  obtain ⟨intf, hl, hk⟩ := (F.defOK p' hp').interfaces p.1 hi
  rw [F.lookup_self hp] at hl
  exact Option.some.inj hl ▸ hk

/-- `PossibleTypes` of a stored type, whatever its kind: the three pushes of `possPushes`, read once -/
theorem possible_exact (F : Facts sd s st r1 d1) {p : Name × Definition} (hp : p ∈ st.types) (x : Name) :
    x ∈ (mkSchema sd st r1 d1).possible p.1 ↔
      (p.2.kind = .union ∧ x ∈ p.2.types) ∨
      (p.2.kind = .interface ∧
        ∃ p' ∈ st.types, (p'.2.kind = .object ∨ p'.2.kind = .interface) ∧ p.1 ∈ p'.2.interfaces ∧ p'.1 = x) ∨
      (p.2.kind = .object ∧ x = p.1) := by
  rw [F.mem_possible]
  constructor
  · rintro ⟨p', hp', hmem⟩
    rcases mem_possPushes.mp hmem with ⟨hk, hname, _, t, ht, he⟩ | ⟨hk, hi, he⟩ | ⟨hk, hname, he⟩
    · cases F.entry_eq hp hp' hname.symm
      obtain ⟨td, htd, _⟩ := (F.defOK p hp).members t ht
      rw [ptrOf_self F.typesInv htd] at he
      exact .inl ⟨hk, Option.some.inj he ▸ ht⟩
    · exact .inr (.inl ⟨F.interface_kind hp hp' hi, p', hp', hk, hi, (F.name_eq hp').symm.trans (Option.some.inj he).symm⟩)
    · cases F.entry_eq hp hp' hname.symm
      exact .inr (.inr ⟨hk, (Option.some.inj he).trans hname.symm⟩)
  · have hname := (F.name_eq hp).symm
    rintro (⟨hk, hx⟩ | ⟨_, p', hp', hk, hi, rfl⟩ | ⟨hk, rfl⟩)
    · obtain ⟨td, htd, _⟩ := (F.defOK p hp).members x hx
      exact ⟨p, hp, mem_possPushes.mpr (.inl ⟨hk, hname, rfl, x, hx, (ptrOf_self F.typesInv htd).symm⟩)⟩
    · exact ⟨p', hp', mem_possPushes.mpr (.inr (.inl ⟨hk, hi, congrArg some (F.name_eq hp').symm⟩))⟩
    · exact ⟨p, hp, mem_possPushes.mpr (.inr (.inr ⟨hk, hname, congrArg some hname⟩))⟩

theorem implements_exact (F : Facts sd s st r1 d1)
    {p : Name × Definition} (hp : p ∈ st.types) (x : Name) :
    x ∈ (mkSchema sd st r1 d1).implementsOf p.1 ↔
      ((p.2.kind = .object ∨ p.2.kind = .interface) ∧ x ∈ p.2.interfaces) ∨
      ∃ p' ∈ st.types, (p'.2.kind == .union && p'.2.types.contains p.1) = true ∧ p'.1 = x := by
  rw [F.mem_implementsOf]
  constructor
  · rintro ⟨p', hp', hmem⟩
    rcases mem_implPushes.mp hmem with ⟨hk', hm, he⟩ | ⟨hk', hname, _, i, hi, he⟩
    · exact .inr ⟨p', hp', by simp [hk', hm], (F.name_eq hp').symm.trans (Option.some.inj he).symm⟩
    · cases F.entry_eq hp hp' hname.symm
      obtain ⟨intf, hl, _⟩ := (F.defOK p hp).interfaces i hi
      rw [ptrOf_self F.typesInv hl] at he
      exact .inl ⟨hk', Option.some.inj he ▸ hi⟩
  · rintro (⟨hk, hx⟩ | ⟨p', hp', hcond, rfl⟩)
    · obtain ⟨intf, hl, _⟩ := (F.defOK p hp).interfaces x hx
      exact ⟨p, hp, mem_implPushes.mpr (.inr ⟨hk, (F.name_eq hp).symm, rfl, x, hx, (ptrOf_self F.typesInv hl).symm⟩)⟩
    · simp only [Bool.and_eq_true, beq_iff_eq, List.contains_iff_mem] at hcond
      exact ⟨p', hp', mem_implPushes.mpr (.inl ⟨hcond.1, hcond.2, congrArg some (F.name_eq hp').symm⟩)⟩

theorem possible_keys_kind (F : Facts sd s st r1 d1) {p : Name × List (Option Name)} (hp : p ∈ st.possible) :
    ∃ d, st.types.lookup p.1 = some d ∧ (d.kind = .object ∨ d.kind = .interface ∨ d.kind = .union) := by
  rw [F.possible_eq, buildRelations_eq] at hp
  rcases (keys_pushAll _ _ _).mp (List.mem_map.mpr ⟨p, hp, rfl⟩) with hk | ⟨⟨k, e⟩, hkv, rfl⟩
  · simp at hk
  obtain ⟨_, hd, hmem⟩ := List.mem_flatMap.mp hkv
  obtain ⟨q, hq, rfl⟩ := List.mem_map.mp hd
  have hself : st.types.lookup q.2.name = some q.2 := F.name_eq hq ▸ F.lookup_self hq
  rcases mem_possPushes.mp hmem with ⟨hk, hname, _⟩ | ⟨_, hi, _⟩ | ⟨hk, hname, _⟩
  · exact ⟨q.2, hname ▸ hself, .inr (.inr hk)⟩
  · obtain ⟨intf, hl, hki⟩ := (F.defOK q hq).interfaces _ hi
    exact ⟨intf, hl, .inr (.inl hki)⟩
  · exact ⟨q.2, hname ▸ hself, .inl hk⟩

end
end Gql.Load
