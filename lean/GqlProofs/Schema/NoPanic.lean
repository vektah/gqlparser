import GqlProofs.Schema.State
/-
  Every check of the loader either passes or fails at the position of a node it was given, and none
  panics: one walk over the validators proves both (`Chk.Safe`).  With `P := fun _ => True` this is
  "the loader never panics" (`load_ne_panic`); with the positions of the document's nodes it is the
  loader half of C04, "load errors are truthful" (`load_error_loc`).

  The only panic site that was reachable is `isCovariant` reading a nil entry of `PossibleTypes`; since
  the repair no nil entry is ever stored (`buildRelations_noNil`).
-/
namespace Gql.Load
open Gql

def DirsIn (P : Pos → Prop) (ds : List Directive) : Prop := ∀ d ∈ ds, P d.pos ∧ ∀ a ∈ d.args, P a.pos
def ArgsIn (P : Pos → Prop) (as : List ArgDef) : Prop := ∀ a ∈ as, P a.pos ∧ P a.type.pos ∧ DirsIn P a.dirs
def FieldsIn (P : Pos → Prop) (fs : List FieldDef) : Prop :=
  ∀ f ∈ fs, P f.pos ∧ P f.type.pos ∧ ArgsIn P f.args ∧ DirsIn P f.dirs
def DefIn (P : Pos → Prop) (d : Definition) : Prop :=
  P d.pos ∧ DirsIn P d.dirs ∧ FieldsIn P d.fields ∧ ∀ v ∈ d.enumValues, P v.pos ∧ DirsIn P v.dirs
def DirDefIn (P : Pos → Prop) (dd : DirectiveDef) : Prop := P dd.pos ∧ ArgsIn P dd.args
def SchemaDefIn (P : Pos → Prop) (s : SchemaDef) : Prop := P s.pos ∧ DirsIn P s.dirs ∧ ∀ o ∈ s.opTypes, P o.pos

/-- `P` holds of the position of every node of the document that the loader can blame -/
structure DocIn (P : Pos → Prop) (sd : SchemaDoc) : Prop where
  definitions : ∀ d ∈ sd.definitions, DefIn P d
  extensions : ∀ d ∈ sd.extensions, DefIn P d
  directives : ∀ dd ∈ sd.directives, DirDefIn P dd
  schema : ∀ s ∈ sd.schema, SchemaDefIn P s
  schemaExt : ∀ s ∈ sd.schemaExt, SchemaDefIn P s

def StateIn (P : Pos → Prop) (st : LState) : Prop :=
  (∀ p ∈ st.types, DefIn P p.2) ∧ (∀ p ∈ st.directives, DirDefIn P p.2)

def NoNilPossible (st : LState) : Prop := ∀ p ∈ st.possible, ∀ e ∈ p.2, e ≠ none

def At (P : Pos → Prop) (e : LoadError) : Prop := ∃ p, P p ∧ e.line = p.line ∧ e.col = p.col ∧ e.src = p.src

theorem at_errorPosf {P : Pos → Prop} {p : Pos} (hp : P p) (m : Bytes) : At P (errorPosf p m) := ⟨p, hp, rfl, rfl, rfl⟩

def Chk.Safe (P : Pos → Prop) : Chk → Prop
  | .pass => True
  | .fail e => At P e
  | .panic => False

def SafeE {α} (P : Pos → Prop) : Except LoadError α → Prop
  | .ok _ => True
  | .error e => At P e

def LoadResult.Safe (P : Pos → Prop) : LoadResult → Prop
  | .ok _ => True
  | .err e => At P e
  | .panic => False

section
variable {P : Pos → Prop}

theorem safe_pass : Chk.pass.Safe P := trivial
theorem safe_failAt {p : Pos} (hp : P p) (m : Bytes) : (failAt p m).Safe P := at_errorPosf hp m

theorem safe_andThen {a : Chk} {b : Unit → Chk} (ha : a.Safe P) (hb : a = .pass → (b ()).Safe P) :
    (a.andThen b).Safe P := by
  cases a with
  | pass => exact hb rfl
  | fail e => exact ha
  | panic => exact ha

theorem safe_each {α} {xs : List α} {f : α → Chk} (h : ∀ x ∈ xs, (f x).Safe P) : (each xs f).Safe P := by
  induction xs with
  | nil => exact safe_pass
  | cons x rest ih =>
    exact safe_andThen (h x (.head _)) fun _ => ih fun y hy => h y (List.mem_cons_of_mem _ hy)

theorem safe_ite {c : Prop} [Decidable c] {a b : Chk} (ha : a.Safe P) (hb : b.Safe P) :
    (if c then a else b).Safe P := by split <;> assumption

theorem validateName_safe {p : Pos} (hp : P p) (n : Name) : (validateName p n).Safe P :=
  safe_ite (safe_failAt hp _) safe_pass

theorem validateTypeRef_safe (st : LState) {t : GType} (hp : P t.pos) : (validateTypeRef st t).Safe P := by
  unfold validateTypeRef; split
  · exact safe_failAt hp _
  · exact safe_pass

theorem validateDirectives_safe (st : LState) {ds : List Directive} (h : DirsIn P ds)
    (loc : Bytes) (cur : Option Name) : (validateDirectives st ds loc cur).Safe P := by
  refine safe_each fun dir hdir => ?_
  obtain ⟨hp, hargs⟩ := h dir hdir
  refine safe_andThen (validateName_safe hp _) fun _ => safe_andThen ?_ fun _ => ?_
  · split
    · exact safe_ite (safe_failAt hp _) safe_pass
    · exact safe_pass
  split
  · exact safe_failAt hp _
  · refine safe_andThen (safe_ite safe_pass (safe_failAt hp _)) fun _ => safe_andThen ?_ fun _ => ?_
    · refine safe_each fun a ha => ?_
      split
      · exact safe_failAt (hargs a ha) _
      · exact safe_pass
    · refine safe_each fun sa _ => safe_ite ?_ safe_pass
      split
      · exact safe_failAt hp _
      · exact safe_ite (safe_failAt hp _) safe_pass

theorem validateArgs_safe (st : LState) {as : List ArgDef} (h : ArgsIn P as) (cur : Option Name) :
    (validateArgs st as cur).Safe P := by
  refine safe_each fun a ha => ?_
  obtain ⟨hp, ht, hd⟩ := h a ha
  refine safe_andThen (validateName_safe hp _) fun _ => safe_andThen (validateTypeRef_safe st ht) fun hty =>
    safe_andThen ?_ fun _ => validateDirectives_safe st hd _ _
  -- `def.IsInputType()` on nil is excluded by the passing `validateTypeRef`
  obtain ⟨d, hd⟩ := Option.isSome_iff_exists.mp (validateTypeRef_pass_iff.mp hty)
  simp only [LState.type?, hd]
  exact safe_ite safe_pass (safe_failAt hp _)

theorem possibleHas_ne_none {l : List (Option Name)} (h : ∀ e ∈ l, e ≠ none) (a : Name) : possibleHas l a ≠ none := by
  induction l with
  | nil => simp [possibleHas]
  | cons e rest ih =>
    cases e with
    | none => exact absurd rfl (h none (.head _))
    | some n =>
      simp only [possibleHas]
      split
      · simp
      · exact ih fun e he => h e (List.mem_cons_of_mem _ he)

theorem entriesOf_ne_none {st : LState} (h : NoNilPossible st) (k : Name) : ∀ e ∈ entriesOf st.possible k, e ≠ none := by
  unfold entriesOf
  cases hl : st.possible.lookup k with
  | none => simp
  | some vs => exact h (k, vs) (mem_of_lookup hl)

theorem isCovariant_ne_none {st : LState} (h : NoNilPossible st) (r a : GType) : isCovariant st r a ≠ none := by
  induction r generalizing a with
  | named rn rnn rp =>
    unfold isCovariant
    split
    · simp
    · split
      · simp
      · exact possibleHas_ne_none (entriesOf_ne_none h rn) _
  | list re rnn rp ih =>
    cases a with
    | named an ann ap => simp [isCovariant]
    | list ae ann ap =>
      simp only [isCovariant]
      split
      · simp
      · exact ih ae

theorem validateImplements_safe {st : LState} (hnil : NoNilPossible st) {d : Definition} (hd : DefIn P d) (i : Name) :
    (validateImplements st d i).Safe P := by
  obtain ⟨hp, _, hf, _⟩ := hd
  unfold validateImplements
  split
  · exact safe_failAt hp _
  · refine safe_ite (safe_failAt hp _) (safe_andThen (safe_each fun rf _ => ?_) fun _ => ?_)
    · unfold validateImplementsField
      split
      · exact safe_failAt hp _
      · rename_i found hfound
        obtain ⟨hfp, _, hfa, _⟩ := hf found (List.mem_of_find?_eq_some hfound)
        refine safe_andThen ?_ fun _ => safe_andThen (safe_each fun ra _ => ?_) fun _ => safe_each fun fa hfa' =>
          safe_ite (safe_failAt (hfa fa hfa').1 _) safe_pass
        · split
          · exact absurd ‹_› (isCovariant_ne_none hnil _ _)
          · exact safe_pass
          · exact safe_failAt hfp _
        · split
          · exact safe_failAt hfp _
          · rename_i fa hfa'
            exact safe_ite safe_pass (safe_failAt (hfa fa (List.mem_of_find?_eq_some hfa')).1 _)
    · unfold validateTypeImplementsAncestors
      split
      · exact safe_failAt hp _
      · exact safe_each fun t _ => safe_ite safe_pass (safe_ite (safe_failAt hp _) (safe_failAt hp _))

theorem checkUniqueFields_safe (dn : Name) {fs : List FieldDef} (h : ∀ f ∈ fs, P f.pos) :
    (checkUniqueFields dn fs).Safe P := by
  induction fs with
  | nil => exact safe_pass
  | cons f rest ih =>
    exact safe_andThen
      (safe_each fun f2 hf2 => safe_ite (safe_failAt (h f2 (List.mem_cons_of_mem _ hf2)) _) safe_pass)
      fun _ => ih fun f hf => h f (List.mem_cons_of_mem _ hf)

theorem validateKindSpecific_safe (st : LState) {d : Definition} (hd : DefIn P d) : (validateKindSpecific st d).Safe P := by
  obtain ⟨hp, _, hf, hv⟩ := hd
  have fields : ∀ (p : DefKind → Bool) (m : FieldDef → Definition → Bytes), (each d.fields fun f =>
      match st.type? f.type.name with
      | some t => if p t.kind = true then Chk.pass else failAt f.pos (m f t)
      | none => Chk.pass).Safe P := fun p m => safe_each fun f hf' => by
    split
    · exact safe_ite safe_pass (safe_failAt (hf f hf').1 _)
    · exact safe_pass
  unfold validateKindSpecific
  split
  · exact safe_ite (safe_failAt hp _) (fields _ fun _ _ => _)
  · exact safe_ite (safe_failAt hp _) (fields _ fun _ _ => _)
  · exact safe_ite (safe_failAt hp _) (safe_each fun v hv' =>
      safe_andThen (safe_ite (safe_failAt hp _) safe_pass) fun _ =>
        safe_andThen (validateName_safe (hv v hv').1 _) fun _ => validateDirectives_safe st (hv v hv').2 _ _)
  · exact safe_ite (safe_failAt hp _) (fields _ fun f t => _)
  · exact safe_pass
  · exact safe_pass

theorem validateDefinition_safe {st : LState} (hnil : NoNilPossible st) {d : Definition} (hd : DefIn P d) :
    (validateDefinition st d).Safe P := by
  obtain ⟨hp, hdirs, hf, _⟩ := id hd
  refine safe_andThen (safe_each fun f hf' => ?_) fun _ => safe_andThen (safe_each fun m _ => ?_) fun _ =>
    safe_andThen (safe_each fun i _ => validateImplements_safe hnil hd i) fun _ =>
    safe_andThen (validateKindSpecific_safe st hd) fun _ =>
    safe_andThen (checkUniqueFields_safe _ fun f hf' => (hf f hf').1) fun _ =>
    safe_andThen (safe_ite (validateName_safe hp _) safe_pass) fun _ => validateDirectives_safe st hdirs _ _
  · obtain ⟨hfp, hft, hfa, hfd⟩ := hf f hf'
    exact safe_andThen (validateName_safe hfp _) fun _ => safe_andThen (validateTypeRef_safe st hft) fun _ =>
      safe_andThen (validateArgs_safe st hfa _) fun _ => validateDirectives_safe st hfd _ _
  · split
    · exact safe_failAt hp _
    · exact safe_ite safe_pass (safe_failAt hp _)

theorem each_keys_safe {α} {m : List (Name × α)} {g : Name → Chk} {f : α → Chk}
    (hg : ∀ k v, m.lookup k = some v → g k = f v) (hf : ∀ p ∈ m, (f p.2).Safe P) :
    (each (sortNames (m.map Prod.fst)) g).Safe P := by
  refine safe_each fun k hk => ?_
  obtain ⟨v, hv⟩ := Option.isSome_iff_exists.mp (lookup_isSome_iff_mem_keys.mpr (mem_sortNames.mp hk))
  exact hg k v hv ▸ hf _ (mem_of_lookup hv)

theorem validateTypeDefinitions_safe {st : LState} (hnil : NoNilPossible st) (h : StateIn P st) :
    (validateTypeDefinitions st).Safe P :=
  each_keys_safe (fun k d hk => by simp only [LState.type?, hk]) fun p hp => validateDefinition_safe hnil (h.1 p hp)

theorem validateDirectiveDefinitions_safe {st : LState} (h : StateIn P st) : (validateDirectiveDefinitions st).Safe P :=
  each_keys_safe (f := validateDirectiveDef st) (fun k d hk => by simp only [hk]) fun p hp =>
    safe_andThen (validateName_safe (h.2 p hp).1 _) fun _ => validateArgs_safe st (h.2 p hp).2 _

/-- the root-kind check blames the position of the root type's definition -/
theorem checkRootKinds_safe {st : LState} (h : StateIn P st) (r : Roots) : (checkRootKinds st r).Safe P := by
  have one : ∀ op root, (checkRootKind st op root).Safe P := by
    intro op root
    cases root with
    | none => exact safe_pass
    | some n =>
      simp only [checkRootKind, LState.type?]
      cases hd : st.types.lookup n with
      | none => exact safe_pass
      | some d => exact safe_ite (safe_failAt (h.1 (n, d) (mem_of_lookup hd)).1 _) safe_pass
  exact safe_andThen (one _ _) fun _ => safe_andThen (one _ _) fun _ => one _ _

theorem declareTypes_safe {l : List Definition} {acc : List (Name × Definition)} (hl : ∀ d ∈ l, P d.pos) :
    SafeE P (declareTypes l acc) := by
  induction l generalizing acc with
  | nil => trivial
  | cons d rest ih =>
    simp only [declareTypes]
    split
    · exact at_errorPosf (hl d (.head _)) _
    · exact ih fun d' hd' => hl d' (List.mem_cons_of_mem _ hd')

theorem foldExtensions_safe {l : List Definition} {t : List (Name × Definition)} (hl : ∀ e ∈ l, P e.pos) :
    SafeE P (foldExtensions l t) := by
  induction l generalizing t with
  | nil => trivial
  | cons ext rest ih =>
    rw [foldExtensions_cons]
    split
    · exact at_errorPosf (hl ext (.head _)) _
    · exact ih fun e he => hl e (List.mem_cons_of_mem _ he)

theorem declareDirectives_safe {l : List DirectiveDef} {acc : List (Name × DirectiveDef)} (hl : ∀ d ∈ l, P d.pos) :
    SafeE P (declareDirectives l acc) := by
  induction l generalizing acc with
  | nil => trivial
  | cons d rest ih =>
    simp only [declareDirectives]
    split
    · exact at_errorPosf (hl d (.head _)) _
    · exact ih fun d' hd' => hl d' (List.mem_cons_of_mem _ hd')

theorem setRoots_safe {types : List (Name × Definition)} {l : List OpTypeDef} (hl : ∀ o ∈ l, P o.pos) (r : Roots) :
    SafeE P (setRoots types l r) := by
  induction l generalizing r with
  | nil => trivial
  | cons o rest ih =>
    rw [setRoots_cons]
    split
    · exact at_errorPosf (hl o (.head _)) _
    · split
      · exact at_errorPosf (hl o (.head _)) _
      · exact ih (fun o' ho' => hl o' (List.mem_cons_of_mem _ ho')) _

theorem defIn_applyExt {ext d : Definition} (he : DefIn P ext) (hd : DefIn P d) : DefIn P (applyExt ext d) :=
  ⟨hd.1, fun x hx => (List.mem_append.mp hx).elim (hd.2.1 x) (he.2.1 x),
    fun x hx => (List.mem_append.mp hx).elim (hd.2.2.1 x) (he.2.2.1 x),
    fun x hx => (List.mem_append.mp hx).elim (hd.2.2.2 x) (he.2.2.2 x)⟩

theorem buildState_safe {sd : SchemaDoc} (h : DocIn P sd) :
    SafeE P (buildState sd) ∧ ∀ st, buildState sd = .ok st → StateIn P st := by
  constructor
  · have h0 := declareTypes_safe (acc := []) fun d hd => (h.definitions d hd).1
    have h2 := declareDirectives_safe (acc := []) fun d hd => (h.directives d hd).1
    unfold buildState
    revert h0 h2
    cases declareTypes sd.definitions [] with
    | error e => exact fun h0 _ => h0
    | ok t0 =>
      have h1 := foldExtensions_safe (t := t0) fun e he => (h.extensions e he).1
      dsimp only
      revert h1
      cases foldExtensions sd.extensions t0 with
      | error e => exact fun h1 _ _ => h1
      | ok t1 =>
        dsimp only
        cases buildRelations t1
        cases declareDirectives sd.directives [] <;> exact fun _ _ h2 => h2
  · intro st hst
    obtain ⟨_, ht, hd, _⟩ := buildState_eq_ok.mp hst
    constructor
    · exact buildState_types_all (Q := fun p => DefIn P p.2) hst h.definitions
        (fun e he => ⟨(h.extensions e he).1, by simp [extStub, DirsIn, FieldsIn]⟩)
        fun e he _ hd _ => defIn_applyExt (h.extensions e he) hd
    · exact declareDirectives_induct (I := fun m => ∀ p ∈ m, DirDefIn P p.2) hd (by simp) fun dd hdd acc ha p hp =>
        (mem_insertKV hp).elim (· ▸ h.directives dd hdd) (ha p)

theorem applySchemaDefs_safe (st : LState) {l : List SchemaDef} (hl : ∀ s ∈ l, SchemaDefIn P s)
    (r : Roots) (acc : List Directive) :
    match applySchemaDefs st l r acc with
    | .ok _ _ => True
    | .err e => At P e
    | .panic => False := by
  induction l generalizing r acc with
  | nil => trivial
  | cons s rest ih =>
    obtain ⟨_, hd, ho⟩ := hl s (.head _)
    have h1 := setRoots_safe (types := st.types) ho r
    have h2 := validateDirectives_safe st hd locSchema none
    simp only [applySchemaDefs, applySchemaDef]
    revert h1 h2
    cases setRoots st.types s.opTypes r with
    | error e => exact fun h1 _ => h1
    | ok r' =>
      cases validateDirectives st s.dirs locSchema none with
      | pass => exact fun _ _ => ih (fun s' hs' => hl s' (List.mem_cons_of_mem _ hs')) _ _
      | fail e => exact fun _ h2 => h2
      | panic => exact fun _ h2 => h2

theorem finish_safe {sd : SchemaDoc} {st : LState} (hnil : NoNilPossible st) (hdoc : DocIn P sd) (hst : StateIn P st) :
    (finish sd st).Safe P := by
  unfold finish
  split
  · rename_i b _ hs
    exact at_errorPosf (hdoc.schema b (by simp [hs])).1 _
  have h0 := applySchemaDefs_safe st hdoc.schema noRoots []
  revert h0
  cases applySchemaDefs st sd.schema noRoots [] with
  | err e => exact id
  | panic => exact id
  | ok r0 d0 =>
    intro _
    dsimp only
    have h1 := applySchemaDefs_safe st hdoc.schemaExt r0 d0
    revert h1
    cases applySchemaDefs st sd.schemaExt r0 d0 with
    | err e => exact id
    | panic => exact id
    | ok r1 d1 =>
      intro _
      dsimp only
      have ht := validateTypeDefinitions_safe hnil hst
      have hd := validateDirectiveDefinitions_safe hst
      have hk := checkRootKinds_safe hst (finalRoots sd st r1)
      revert ht hd hk
      cases validateTypeDefinitions st with
      | fail e => exact fun ht _ _ => ht
      | panic => exact fun ht _ _ => ht
      | pass =>
        cases validateDirectiveDefinitions st with
        | fail e => exact fun _ hd _ => hd
        | panic => exact fun _ hd _ => hd
        | pass => cases checkRootKinds st (finalRoots sd st r1) <;> exact fun _ _ hk => hk

end

/-- **no nil entry ever enters `PossibleTypes`** (the repaired loader skips undeclared names) -/
theorem noNil_of_buildState {sd : SchemaDoc} {st : LState} (h : buildState sd = .ok st) : NoNilPossible st :=
  (buildState_noNil h).1

def MembersDeclared (sd : SchemaDoc) : Prop :=
  ∀ d ∈ sd.definitions ++ sd.extensions, ∀ m ∈ d.types, ∃ d' ∈ sd.definitions ++ sd.extensions, d'.name = m

/-- … in particular when every union member is declared: the condition under which the loader before the
    repair stored no nil entry (the proof does not use it) -/
theorem noNil_of_membersDeclared {sd : SchemaDoc} (_hm : MembersDeclared sd) {st : LState}
    (h : buildState sd = .ok st) : NoNilPossible st := noNil_of_buildState h

/-- **the loader does not panic, and whatever error it returns is located at the position of a node of
    the document** (for every `P` that contains the positions of the document's nodes), when no nil entry
    is stored in `PossibleTypes` — which is always so (`noNil_of_buildState`) -/
theorem load_safe {P : Pos → Prop} {sd : SchemaDoc} (h : DocIn P sd)
    (hnil : ∀ st, buildState sd = .ok st → NoNilPossible st) : (load sd).Safe P := by
  have hb := buildState_safe h
  unfold load
  split
  · simpa [*, SafeE, LoadResult.Safe] using hb.1
  · rename_i st hst
    exact finish_safe (hnil st hst) h (hb.2 st hst)

theorem load_error_loc {P : Pos → Prop} {sd : SchemaDoc} (h : DocIn P sd) {e : LoadError} (he : load sd = .err e) :
    At P e := by
  simpa [he, LoadResult.Safe] using load_safe h fun _ => noNil_of_buildState

theorem load_ne_panic_of_state {sd : SchemaDoc} (h : ∀ st, buildState sd = .ok st → NoNilPossible st) :
    (load sd).isPanic = false := by
  have : DocIn (fun _ => True) sd := by
    constructor <;> simp [DefIn, DirDefIn, SchemaDefIn, FieldsIn, ArgsIn, DirsIn]
  have := load_safe this h
  cases hl : load sd <;> simp_all [LoadResult.Safe, LoadResult.isPanic]

theorem load_ne_panic (sd : SchemaDoc) : (load sd).isPanic = false :=
  load_ne_panic_of_state fun _ => noNil_of_buildState

end Gql.Load
