import GqlProofs.Schema.Implements
import GqlProofs.Schema.Sound
/-
  The directive map against the specification's "directive definition in force", and soundness of the
  loader for the directive clauses of `Spec.WellFormed`, under the hypothesis that no directive name is
  declared twice (`DirectiveNamesDistinct`).  Without it the loader keeps the LAST declaration of a builtin
  directive (finding R7b) while the specification reads the first user-written one, and the clauses differ.

  At the end, outside the namespace: the predicates named in the C07 property theorems (what "the prelude is
  part of the document" means: `IntrospectionTypesDeclared`, `PreludeDeclared`; and `QueryRootNotInput`, which
  `C07_query_root_not_input` proves of every loaded schema) and two lemmas used with them.
-/
namespace Gql.Load
open Gql

/-- no directive name is declared twice in the whole document (prelude included) -/
def DirectiveNamesDistinct (sd : SchemaDoc) : Prop := (sd.directives.map (·.name)).Nodup

instance (sd : SchemaDoc) : Decidable (DirectiveNamesDistinct sd) := by unfold DirectiveNamesDistinct; infer_instance

/-- the last declaration of `n` in the list (what the loop leaves in the map), starting from `init` -/
def lastD (init : Option DirectiveDef) (l : List DirectiveDef) (n : Name) : Option DirectiveDef :=
  l.foldl (fun o d => if d.name == n then some d else o) init

theorem declareDirectives_lookup {l : List DirectiveDef} {acc r : List (Name × DirectiveDef)}
    (h : declareDirectives l acc = .ok r) (n : Name) : r.lookup n = lastD (acc.lookup n) l n := by
  induction l generalizing acc with
  | nil => cases h; rfl
  | cons dd rest ih =>
    simp only [declareDirectives] at h
    split at h
    · cases h
    · rw [ih h, lookup_insertKV]
      by_cases hn : n = dd.name
      · simp [lastD, hn]
      · simp [lastD, hn, Ne.symm hn]

theorem lastD_append (init : Option DirectiveDef) (a b : List DirectiveDef) (n : Name) :
    lastD init (a ++ b) n = lastD (lastD init a n) b n := by
  simp [lastD, List.foldl_append]

theorem lastD_nodup {l : List DirectiveDef} (hn : (l.map (·.name)).Nodup) (init : Option DirectiveDef) (n : Name) :
    lastD init l n = (l.find? (·.name == n)).or init := by
  induction l generalizing init with
  | nil => rfl
  | cons d rest ih =>
    simp only [List.map_cons, List.nodup_cons, List.mem_map, not_exists, not_and] at hn
    simp only [lastD, List.foldl_cons, List.find?_cons]
    rw [show List.foldl _ _ rest = lastD _ rest n from rfl, ih hn.2]
    cases hd : d.name == n with
    | false => rfl
    | true =>
      have : rest.find? (·.name == n) = none :=
        List.find?_eq_none.mpr fun x hx he => hn.1 x hx ((eq_of_beq he).trans (eq_of_beq hd).symm)
      simp [this]

theorem state_directives_lookup {sd : SchemaDoc} {st : LState} (h : buildState sd = .ok st) (n : Name) :
    st.directives.lookup n = lastD none sd.directives n :=
  declareDirectives_lookup (buildState_eq_ok.mp h).2.2.1 n

def onceIn (l : List DirectiveDef) (n : Name) : Prop := (l.filter (·.name == n)).length ≤ 1

/-- **"Cannot redeclare directive"**: the loop passes when every declaration either has a
    built-in name or is the only one of its name -/
theorem declareDirectives_ok_of {l : List DirectiveDef} {acc : List (Name × DirectiveDef)}
    (h : ∀ dd ∈ l, builtinDirectiveNames.contains dd.name = true ∨ (acc.lookup dd.name = none ∧ onceIn l dd.name)) :
    ∃ r, declareDirectives l acc = .ok r := by
  induction l generalizing acc with
  | nil => exact ⟨acc, rfl⟩
  | cons dd rest ih =>
    simp only [declareDirectives]
    have hcond : ((acc.lookup dd.name).isSome && !builtinDirectiveNames.contains dd.name) = false := by
      rcases h dd (.head _) with hb | ⟨hn, _⟩
      · rw [hb]; simp
      · rw [hn]; simp
    simp only [hcond, Bool.false_eq_true, ↓reduceIte]
    refine ih fun d' hd' => (h d' (List.mem_cons_of_mem _ hd')).imp_right fun ⟨hn, honce⟩ => ?_
    have hne : d'.name ≠ dd.name := by
      intro e
      have := List.length_pos_of_mem (List.mem_filter.mpr ⟨hd', beq_iff_eq.mpr e⟩ : d' ∈ rest.filter (·.name == dd.name))
      simp only [onceIn, List.filter_cons, e, BEq.rfl, ↓reduceIte, List.length_cons] at honce
      omega
    refine ⟨by rw [lookup_insertKV]; simp [hne, hn], ?_⟩
    simpa [onceIn, List.filter_cons, Ne.symm hne] using honce

theorem length_filter_name_le_one {l : List DirectiveDef} (hn : (l.map (·.name)).Nodup) (n : Name) :
    (l.filter (·.name == n)).length ≤ 1 := by
  induction l with
  | nil => simp
  | cons d rest ih =>
    simp only [List.map_cons, List.nodup_cons, List.mem_map, not_exists, not_and] at hn
    simp only [List.filter_cons]
    split
    · rename_i hd
      have : rest.filter (·.name == n) = [] :=
        List.filter_eq_nil_iff.mpr fun x hx he => hn.1 x hx ((eq_of_beq he).trans (eq_of_beq hd).symm)
      simp [this]
    · exact ih hn.2

theorem declareDirectives_ok_of_distinct {sd : SchemaDoc} (hd : DirectiveNamesDistinct sd) :
    ∃ r, declareDirectives sd.directives [] = .ok r :=
  declareDirectives_ok_of fun dd _ => .inr ⟨rfl, length_filter_name_le_one hd dd.name⟩

/-- **bridge**: the directive definition in force for a name is the one the loader stored -/
theorem spec_directive_eq {sd : SchemaDoc} {st : LState} (h : buildState sd = .ok st) (hd : DirectiveNamesDistinct sd)
    (n : Name) : (Spec.TypeSystem.ofDoc sd).directive? n = st.directives.lookup n := by
  rw [state_directives_lookup h, lastD_nodup hd, Option.or_none]
  unfold Spec.TypeSystem.directive? Spec.TypeSystem.ofDoc
  split
  · rename_i d hfind
    have hname : d.name = n := (by simpa using List.find?_some hfind : d.name = n ∧ _).1
    simpa [hname] using (find?_key_of_mem DirectiveDef.name hd (List.mem_of_find?_eq_some hfind)).symm
  · rfl

theorem mem_directiveUses {ts : Spec.TypeSystem} {dir : Directive} {loc : Bytes} {cur : Option Name} :
    (dir, loc, cur) ∈ ts.directiveUses ↔
      (∃ d ∈ ts.types,
        (dir ∈ d.dirs ∧ loc = Spec.kindLocation d.kind ∧ cur = none) ∨
        (∃ f ∈ d.fields,
          (dir ∈ f.dirs ∧ loc = (if d.kind = .inputObject then str "INPUT_FIELD_DEFINITION" else str "FIELD_DEFINITION") ∧
            cur = none) ∨
          ∃ a ∈ f.args, dir ∈ a.dirs ∧ loc = str "ARGUMENT_DEFINITION" ∧ cur = none) ∨
        (d.kind = .enum ∧ ∃ v ∈ d.enumValues, dir ∈ v.dirs ∧ loc = str "ENUM_VALUE" ∧ cur = none)) ∨
      (∃ s ∈ ts.schemaDefs, dir ∈ s.dirs ∧ loc = str "SCHEMA" ∧ cur = none) ∨
      ∃ dd ∈ ts.directives, ∃ a ∈ dd.args, dir ∈ a.dirs ∧ loc = str "ARGUMENT_DEFINITION" ∧ cur = some dd.name := by
  have site : ∀ {ds : List Directive} {l : Bytes} {c : Option Name},
      (∃ x ∈ ds, x = dir ∧ l = loc ∧ c = cur) ↔ dir ∈ ds ∧ loc = l ∧ cur = c := fun {ds l c} =>
    ⟨fun ⟨x, hx, e, h⟩ => e ▸ ⟨hx, h.1.symm, h.2.symm⟩, fun ⟨hx, h1, h2⟩ => ⟨dir, hx, rfl, h1.symm, h2.symm⟩⟩
  simp only [Spec.TypeSystem.directiveUses, List.mem_append, List.mem_flatMap, List.mem_map, Prod.mk.injEq, or_assoc]
  refine or_congr (exists_congr fun d => and_congr_right fun _ => or_congr ?_ (or_congr ?_ ?_)) (or_congr ?_ ?_)
  · exact site
  · refine exists_congr fun f => and_congr_right fun _ => or_congr ?_ (exists_congr fun a => and_congr_right fun _ => ?_)
    · exact site
    · exact site
  · by_cases hk : d.kind = .enum
    · simp only [hk, ↓reduceIte, true_and]
      exact exists_congr fun v => and_congr_right fun _ => site
    · simp [hk]
  · exact exists_congr fun s => and_congr_right fun _ => site
  · exact exists_congr fun dd => and_congr_right fun _ => exists_congr fun a => and_congr_right fun _ => site

section
variable {ts : Spec.TypeSystem} {st : LState}

/-- **validateDirectives against the directive clauses**: every applied directive passes iff the six
    clauses hold.  Reserved name — `appliedNamesNotReserved`; "cannot refer to itself" — `noSelfReference`;
    "Undefined directive" — `directivesDeclared`; "is not applicable on" — `directiveLocationsOK`;
    "Undefined argument" — `directiveArgsDeclared`; "cannot be null" — `requiredArgsSupplied`. -/
theorem uses_pass_iff (hdir : ∀ n, ts.directive? n = st.directives.lookup n) :
    (∀ u ∈ ts.directiveUses, validateDirectiveUse st u.2.1 u.2.2 u.1 = .pass) ↔
      Spec.directivesDeclared ts = true ∧ Spec.directiveLocationsOK ts = true ∧ Spec.requiredArgsSupplied ts = true ∧
      Spec.directiveArgsDeclared ts = true ∧ Spec.noSelfReference ts = true ∧ Spec.appliedNamesNotReserved ts = true := by
  simp only [Spec.directivesDeclared, Spec.directiveLocationsOK, Spec.requiredArgsSupplied, Spec.directiveArgsDeclared,
    Spec.noSelfReference, Spec.appliedNamesNotReserved, List.all_eq_true, ← forall_and, hdir]
  refine forall_congr' fun ⟨dir, loc, cur⟩ => imp_congr_right fun _ => ?_
  rw [validateDirectiveUse_pass_iff]
  cases st.directives.lookup dir.name with
  | none => simp
  | some dd =>
    simp only [Option.some.injEq, exists_eq_left', Option.isSome_some, true_and, List.all_eq_true, bne_iff_ne, ne_eq,
      Bool.not_eq_true', reserved_eq]
    exact ⟨fun ⟨h1, h2, h3, h4, h5⟩ => ⟨h3, h5, h4, fun e => h2 e, h1⟩, fun ⟨h3, h5, h4, h2, h1⟩ => ⟨h1, fun e => h2 e, h3, h4, h5⟩⟩

/-- **validateArgs against its clauses**: reserved argument name — `argNamesNotReserved`; "Undefined
    type" and "… is not a valid input type" — `argTypesOK` -/
theorem argDefs_ok_iff (hty : ∀ n, ts.type? n = st.types.lookup n) :
    (∀ a ∈ ts.argDefs, hasDunder a.name = false ∧ ∃ d, st.types.lookup a.type.name = some d ∧ isInputKind d.kind = true) ↔
      Spec.argTypesOK ts = true ∧ Spec.argNamesNotReserved ts = true := by
  simp only [Spec.argTypesOK, Spec.argNamesNotReserved, List.all_eq_true, ← forall_and, Spec.TypeSystem.typeIs, hty,
    Bool.not_eq_true', reserved_eq]
  refine forall_congr' fun a => imp_congr_right fun _ => and_comm.trans (and_congr_left fun _ => ?_)
  cases st.types.lookup a.type.name <;> simp [isInputKind_eq]

theorem mem_argDefs {a : ArgDef} :
    a ∈ ts.argDefs ↔ (∃ d ∈ ts.types, ∃ f ∈ d.fields, a ∈ f.args) ∨ ∃ dd ∈ ts.directives, a ∈ dd.args := by
  simp [Spec.TypeSystem.argDefs]

end

/-- the directive clauses and the clauses ranging over directive definitions -/
structure DirectiveClauses (sd : SchemaDoc) : Prop where
  uniqueDirectiveNames : Spec.uniqueDirectiveNames sd = true
  argTypesOK : Spec.argTypesOK (.ofDoc sd) = true
  directivesDeclared : Spec.directivesDeclared (.ofDoc sd) = true
  directiveLocationsOK : Spec.directiveLocationsOK (.ofDoc sd) = true
  requiredArgsSupplied : Spec.requiredArgsSupplied (.ofDoc sd) = true
  argNamesNotReserved : Spec.argNamesNotReserved (.ofDoc sd) = true
  directiveNamesNotReserved : Spec.directiveNamesNotReserved (.ofDoc sd) = true
  directiveArgsDeclared : Spec.directiveArgsDeclared (.ofDoc sd) = true
  noSelfReference : Spec.noSelfReference (.ofDoc sd) = true
  appliedNamesNotReserved : Spec.appliedNamesNotReserved (.ofDoc sd) = true

theorem load_directive_clauses {sd : SchemaDoc} {s : Schema} (h : load sd = .ok s)
    (hext : ∀ e ∈ sd.extensions, e.builtIn = false) (hd : DirectiveNamesDistinct sd) : DirectiveClauses sd := by
  obtain ⟨st, r1, F, C⟩ := loaded_checked h
  have hD := F.defOK_spec hext
  -- every declared directive is stored under its name
  have hDD : ∀ dd ∈ sd.directives, hasDunder dd.name = false ∧ validateArgs st dd.args (some dd.name) = .pass :=
    fun dd hdd => C.dirDefs dd.name dd (by rw [state_directives_lookup F.built, lastD_nodup hd, find?_key_of_mem DirectiveDef.name hd hdd]; rfl)
  have each_pass : ∀ {ds : List Directive} {loc : Bytes} {cur : Option Name},
      validateDirectives st ds loc cur = .pass → ∀ x ∈ ds, validateDirectiveUse st loc cur x = .pass :=
    validateDirectives_pass_iff.mp
  have huses : ∀ u ∈ (Spec.TypeSystem.ofDoc sd).directiveUses, validateDirectiveUse st u.2.1 u.2.2 u.1 = .pass := by
    rintro ⟨dir, loc, cur⟩ hu
    rcases mem_directiveUses.mp hu with ⟨d, hd', hsite⟩ | ⟨b, hb, hx, rfl, rfl⟩ | ⟨dd, hdd, a, ha, hx, rfl, rfl⟩
    · rcases hsite with ⟨hx, rfl, rfl⟩ | ⟨f, hf, ⟨hx, rfl, rfl⟩ | ⟨a, ha, hx, rfl, rfl⟩⟩ | ⟨hk, v, hv, hx, rfl, rfl⟩
      · exact each_pass (kindLocation_eq _ ▸ (hD d hd').dirs) dir hx
      · exact each_pass ((hD d hd').fieldDirs f hf) dir hx
      · exact each_pass (validateArgs_pass ((hD d hd').fieldArgs f hf) a ha).2 dir hx
      · exact each_pass (kindSpecific_enum (hD d hd').kindSpecific hk v hv).2.2 dir hx
    · exact each_pass (C.schemaDirs b hb) dir hx
    · exact each_pass (validateArgs_pass (hDD dd hdd).2 a ha).2 dir hx
  have hargs : ∀ a ∈ (Spec.TypeSystem.ofDoc sd).argDefs,
      hasDunder a.name = false ∧ ∃ t, st.types.lookup a.type.name = some t ∧ isInputKind t.kind = true := by
    intro a ha
    rcases mem_argDefs.mp ha with ⟨d, hd', f, hf, ha⟩ | ⟨dd, hdd, ha⟩
    · exact (validateArgs_pass_iff.mp ((hD d hd').fieldArgs f hf) a ha).imp_right And.left
    · exact (validateArgs_pass_iff.mp (hDD dd hdd).2 a ha).imp_right And.left
  obtain ⟨u1, u2, u3, u4, u5, u6⟩ := (uses_pass_iff (spec_directive_eq F.built hd)).mp huses
  obtain ⟨a1, a2⟩ := (argDefs_ok_iff (spec_type_eq F.built hext)).mp hargs
  refine ⟨?_, a1, u1, u2, u3, a2, ?_, u4, u5, u6⟩
  · simp only [Spec.uniqueDirectiveNames, Bool.and_eq_true, pairwiseDistinct_iff_nodup]
    exact ⟨(hd.sublist (List.filter_sublist.map _)), (hd.sublist (List.filter_sublist.map _))⟩
  · simp only [Spec.directiveNamesNotReserved, List.all_eq_true, Bool.not_eq_true', reserved_eq]
    exact fun dd hdd => (hDD dd hdd).1

/-- **the ⇒ direction of "loads iff well formed"**, for documents in which no directive name is
    declared twice: everything the loader accepts satisfies every clause of `Spec.WellFormed` -/
theorem load_wellFormed {sd : SchemaDoc} {s : Schema} (h : load sd = .ok s)
    (hext : ∀ e ∈ sd.extensions, e.builtIn = false) (hlex : NamesLexical sd) (hd : DirectiveNamesDistinct sd) :
    Spec.WellFormed sd := by
  have S := load_sound h hext
  have I := load_implementsFieldsOK h hext hlex
  have D := load_directive_clauses h hext hd
  exact {
    uniqueTypeNames := S.uniqueTypeNames, uniqueDirectiveNames := D.uniqueDirectiveNames,
    uniqueFieldNames := S.uniqueFieldNames, fieldTypesOK := S.fieldTypesOK, argTypesOK := D.argTypesOK,
    interfacesOK := S.interfacesOK, unionMembersOK := S.unionMembersOK, rootsExist := S.rootsExist,
    directivesDeclared := D.directivesDeclared, directiveLocationsOK := D.directiveLocationsOK,
    requiredArgsSupplied := D.requiredArgsSupplied, implementsFieldsOK := I,
    implementsAncestorsOK := S.implementsAncestorsOK, nonEmpty := S.nonEmpty,
    typeNamesNotReserved := S.typeNamesNotReserved, fieldNamesNotReserved := S.fieldNamesNotReserved,
    argNamesNotReserved := D.argNamesNotReserved, directiveNamesNotReserved := D.directiveNamesNotReserved,
    enumValueNamesNotReserved := S.enumValueNamesNotReserved, singleSchemaDef := S.singleSchemaDef,
    extensionKindsMatch := S.extensionKindsMatch, enumValuesNotLiterals := S.enumValuesNotLiterals,
    directiveArgsDeclared := D.directiveArgsDeclared, noSelfReference := D.noSelfReference,
    appliedNamesNotReserved := D.appliedNamesNotReserved, rootOperationTypesOnce := S.rootOperationTypesOnce,
    rootTypesAreObjects := S.rootTypesAreObjects }

end Gql.Load

open Gql Gql.Load

/-- the document declares (as definitions, e.g. through the prelude) the three types the introspection
    fields `__schema: __Schema!` / `__type(name: String!): __Type` refer to -/
structure IntrospectionTypesDeclared (sd : SchemaDoc) : Prop where
  schema : DeclaresKind sd (str "__Schema") .object
  type : DeclaresKind sd (str "__Type") .object
  string : DeclaresKind sd (str "String") .scalar

/-- the query root of the loaded schema is not an input object (`C07_query_root_not_input`: the loader's last
    check leaves only object types as roots) -/
def QueryRootNotInput (s : Schema) : Prop :=
  ∀ q d, s.query = some q → (q, d) ∈ s.types → d.kind ≠ .inputObject

theorem filter_dunder_nil {fs : List FieldDef} (h : ∀ f ∈ fs, hasDunder f.name = false) {n : Name}
    (hn : hasDunder n = true) : fs.filter (·.name == n) = [] :=
  List.filter_eq_nil_iff.mpr fun f hf he => by simp [← eq_of_beq he, h f hf] at hn

/-- the document contains the built-in scalars, directives and introspection types (the prelude) -/
structure PreludeDeclared (sd : SchemaDoc) : Prop where
  scalars : ∀ n ∈ Spec.builtinScalars, DeclaresKind sd n .scalar
  types : ∀ p ∈ Spec.introspectionTypes, DeclaresKind sd p.1 p.2
  directives : ∀ n ∈ Spec.builtinDirectives, ∃ dd ∈ sd.directives, dd.name = n

theorem declareDirectives_keys {l : List DirectiveDef} {acc r : List (Name × DirectiveDef)}
    (h : declareDirectives l acc = .ok r) :
    (∀ n, (acc.lookup n).isSome → (r.lookup n).isSome) ∧ ∀ dd ∈ l, (r.lookup dd.name).isSome := by
  have key : ∀ {init : Option DirectiveDef} {l : List DirectiveDef} {n : Name},
      (init.isSome ∨ ∃ dd ∈ l, dd.name = n) → (lastD init l n).isSome := by
    intro init l n h
    induction l generalizing init with
    | nil => simpa [lastD] using h
    | cons d rest ih =>
      refine ih ?_
      by_cases hd : d.name = n
      · simp [hd]
      · rcases h with h | ⟨dd, hdd, e⟩
        · simp [hd, h]
        · exact .inr ⟨dd, (List.mem_cons.mp hdd).resolve_left fun e' => hd (e' ▸ e), e⟩
  simp only [declareDirectives_lookup h]
  exact ⟨fun n hn => key (.inl hn), fun dd hdd => key (.inr ⟨dd, hdd, rfl⟩)⟩
