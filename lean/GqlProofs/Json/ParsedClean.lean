import GqlProofs.Parser.Run
import GqlProofs.Json.RoundTrip
set_option linter.unusedSimpArgs false
set_option linter.unusedVariables false
/-
  The parser model puts into the tree only bytes that are token values (or constants): if every
  token the lexer model hands out has a well-formed UTF-8 value, the parsed document satisfies the
  hypothesis of the JSON round-trip theorem (C19).

  `Sat L Q p`: run from a state whose tokens (`prev`, the look-ahead) are clean and whose remaining
  input only lexes to clean tokens, the program `p` ends in such a state and its result satisfies `Q`
  (whether or not the sticky error got set on the way).
-/
namespace Gql.Parser
open Gql Gql.Lexer Gql.Json

/-- the token's value is fixed by the UTF-8 coercion of `json.Marshal` -/
def TokClean (t : Token) : Prop := sanitize t.value = t.value

def LexCleanK : Nat → Bytes → Cur → Prop
  | 0, _, _ => True
  | k + 1, rest, cur =>
    match readToken rest cur with
    | .tok t r c => TokClean t ∧ LexCleanK k r c
    | .err _ => True

def LexClean (rest : Bytes) (cur : Cur) : Prop := ∀ k, LexCleanK k rest cur

theorem LexClean.step {rest : Bytes} {cur : Cur} (h : LexClean rest cur) {t : Token} {r : Bytes} {c : Cur}
    (hr : readToken rest cur = .tok t r c) : TokClean t ∧ LexClean r c := by
  constructor
  · have := h 1
    simp only [LexCleanK, hr] at this
    exact this.1
  · intro k
    have := h (k + 1)
    simp only [LexCleanK, hr] at this
    exact this.2

structure SInv (s : PState) : Prop where
  prev : TokClean s.prev
  peekTok : TokClean s.peekTok
  lex : LexClean s.rest s.cur

theorem tokClean_zero : TokClean zeroTok := by simp [TokClean, zeroTok, sanitize_nil]
theorem tokClean_invalid (e : LexErr) : TokClean (invalidTok e) := by simp [TokClean, invalidTok, sanitize_nil]

theorem SInv.init (src : Nat) (inp : Bytes) (h : LexClean inp Cur.init) : SInv (PState.init src inp) :=
  ⟨tokClean_zero, tokClean_zero, h⟩


theorem SInv.lexRead {s : PState} (h : SInv s) : TokClean s.lexRead.1 ∧ SInv s.lexRead.2.2 := by
  unfold PState.lexRead
  split
  · rename_i t rest c hr
    obtain ⟨h1, h2⟩ := h.lex.step hr
    exact ⟨h1, ⟨h.prev, h.peekTok, h2⟩⟩
  · exact ⟨tokClean_invalid _, ⟨h.prev, h.peekTok, h.lex⟩⟩

theorem SInv.readPeek {s : PState} (h : SInv s) : SInv s.readPeek := by
  obtain ⟨h1, h2⟩ := h.lexRead
  exact ⟨h2.prev, h1, h2.lex⟩

theorem SInv.readPrev {s : PState} (h : SInv s) : SInv s.readPrev := by
  obtain ⟨h1, h2⟩ := h.lexRead
  exact ⟨h1, h2.peekTok, h2.lex⟩

/-- the six state updates keep `SInv`: each copies clean tokens or reads one more token from the lexer -/
theorem SInv.stateInv (L : Nat) : StateInv L SInv where
  readPeek _ _ h := h.readPeek
  trip _ _ h := ⟨h.prev, h.peekTok, h.lex⟩
  takePeeked _ _ _ h := ⟨h.peekTok, h.peekTok, h.lex⟩
  readPrev _ _ _ h := h.readPrev
  setErr _ _ _ h := ⟨h.prev, h.peekTok, h.lex⟩
  setOof h := ⟨h.prev, h.peekTok, h.lex⟩

theorem SInv.consumeCommentGroup (L : Nat) {s : PState} (h : SInv s) : SInv (s.consumeCommentGroup L) := by
  unfold PState.consumeCommentGroup
  split
  · exact h
  · exact (SInv.stateInv L).commentLoop h _

theorem peek_fst (L : Nat) (s : PState) : (s.peek L).1 = (s.peek L).2.prev ∨ (s.peek L).1 = (s.peek L).2.peekTok := by
  unfold PState.peek
  split
  · exact .inl rfl
  · split <;> exact .inr rfl

theorem next_fst (L : Nat) (s : PState) : (s.next L).1 = (s.next L).2.prev := by
  unfold PState.next
  split
  · rfl
  · split
    · rfl
    · split <;> rfl

theorem SInv.peek (L : Nat) {s : PState} (h : SInv s) : TokClean (s.peek L).1 ∧ SInv (s.peek L).2 := by
  have k := (SInv.stateInv L).peek h
  refine ⟨?_, k⟩
  rcases peek_fst L s with e | e <;> rw [e]
  · exact k.prev
  · exact k.peekTok

theorem SInv.next (L : Nat) {s : PState} (h : SInv s) : TokClean (s.next L).1 ∧ SInv (s.next L).2 := by
  have k := (SInv.stateInv L).next h
  exact ⟨next_fst L s ▸ k.prev, k⟩


def Sat {α : Type} (L : Nat) (Q : α → Prop) (p : Prog α) : Prop :=
  ∀ s, SInv s → SInv (run L p s).2 ∧ Q (run L p s).1

theorem Sat.pure {α : Type} {L : Nat} {Q : α → Prop} {a : α} (h : Q a) : Sat L Q (Pure.pure a : Prog α) := by
  intro s hs; exact ⟨by simpa [run] using hs, by simpa [run] using h⟩

theorem Sat.bind {α β : Type} {L : Nat} {Q1 : α → Prop} {Q : β → Prop} {p : Prog α} {f : α → Prog β}
    (h1 : Sat L Q1 p) (h2 : ∀ a, Q1 a → Sat L Q (f a)) : Sat L Q (p >>= f) := by
  intro s hs
  rw [bind_eq, run_bind]
  obtain ⟨hs1, hq1⟩ := h1 s hs
  exact h2 _ hq1 _ hs1

theorem Sat.pure_bind {α β : Type} {L : Nat} {Q : β → Prop} {a : α} {f : α → Prog β} (h : Sat L Q (f a)) :
    Sat L Q (Pure.pure a >>= f) := h

theorem Sat.mono {α : Type} {L : Nat} {Q Q' : α → Prop} {p : Prog α} (h : Sat L Q p) (hq : ∀ a, Q a → Q' a) :
    Sat L Q' p := fun s hs => ⟨(h s hs).1, hq _ (h s hs).2⟩

theorem Sat.peek {L : Nat} : Sat L TokClean peek := by
  intro s hs
  have := hs.peek L
  simpa [Gql.Parser.peek, run] using And.intro this.2 this.1

theorem Sat.next {L : Nat} : Sat L TokClean next := by
  intro s hs
  have := hs.next L
  simpa [Gql.Parser.next, run] using And.intro this.2 this.1

theorem Sat.getPrev {L : Nat} : Sat L TokClean getPrev := by
  intro s hs; simpa [Gql.Parser.getPrev, run] using And.intro hs hs.prev

theorem Sat.hasErr {L : Nat} : Sat L (fun _ => True) hasErr := by
  intro s hs; simpa [Gql.Parser.hasErr, run] using hs

theorem Sat.getSrc {L : Nat} : Sat L (fun _ => True) getSrc := by
  intro s hs; simpa [Gql.Parser.getSrc, run] using hs

theorem Sat.failAt {L : Nat} (tok : Token) (msg : Bytes) : Sat L (fun _ => True) (failAt tok msg) := by
  intro s hs; simpa [Gql.Parser.failAt, run] using (SInv.stateInv L).error hs tok msg

theorem Sat.outOfFuel {α : Type} {L : Nat} {Q : α → Prop} {a : α} (h : Q a) : Sat L Q (outOfFuel a) := by
  intro s hs
  refine ⟨?_, by simpa [Gql.Parser.outOfFuel, run] using h⟩
  simpa [Gql.Parser.outOfFuel, run] using (SInv.stateInv L).setOof hs


theorem Sat.expect {L : Nat} (k : Kind) : Sat L TokClean (expect k) := by
  unfold Gql.Parser.expect
  refine Sat.bind Sat.peek fun tok htok => ?_
  split
  · exact Sat.next
  · exact Sat.bind (Sat.failAt _ _) fun _ _ => Sat.pure htok

theorem Sat.expectKeyword {L : Nat} (v : Bytes) : Sat L TokClean (expectKeyword v) := by
  unfold Gql.Parser.expectKeyword
  refine Sat.bind Sat.peek fun tok htok => ?_
  split
  · exact Sat.next
  · exact Sat.bind (Sat.failAt _ _) fun _ _ => Sat.pure htok

theorem Sat.skip {L : Nat} (k : Kind) : Sat L (fun _ => True) (skip k) := by
  unfold Gql.Parser.skip
  refine Sat.bind Sat.hasErr fun e _ => ?_
  split
  · exact Sat.pure trivial
  · refine Sat.bind Sat.peek fun tok _ => ?_
    split
    · exact Sat.pure trivial
    · exact Sat.bind Sat.next fun _ _ => Sat.pure trivial

theorem Sat.unexpectedToken {L : Nat} (tok : Token) : Sat L (fun _ => True) (unexpectedToken tok) :=
  Sat.failAt _ _

theorem Sat.unexpectedError {L : Nat} : Sat L (fun _ => True) unexpectedError := by
  unfold Gql.Parser.unexpectedError
  exact Sat.bind Sat.peek fun tok _ => Sat.unexpectedToken tok

theorem Sat.peekPos {L : Nat} : Sat L (fun _ => True) peekPos := by
  unfold Gql.Parser.peekPos
  refine Sat.bind Sat.hasErr fun e _ => ?_
  split
  · exact Sat.pure trivial
  · exact Sat.bind Sat.peek fun _ _ => Sat.bind Sat.getSrc fun _ _ => Sat.pure trivial

theorem Sat.itemsLoop {α : Type} {L : Nat} {Q : α → Prop} (stop : Kind) {cb : Prog α} (h : Sat L Q cb) :
    ∀ (n : Nat) (acc : List α), (∀ x ∈ acc, Q x) → Sat L (fun xs => ∀ x ∈ xs, Q x) (itemsLoop stop cb n acc)
  | 0, acc, ha => by unfold Gql.Parser.itemsLoop; exact Sat.outOfFuel ha
  | n + 1, acc, ha => by
    unfold Gql.Parser.itemsLoop
    refine Sat.bind Sat.peek fun t _ => Sat.bind Sat.hasErr fun e _ => ?_
    split
    · exact Sat.bind h fun a hq => Sat.itemsLoop stop h n (a :: acc) (List.forall_mem_cons.mpr ⟨hq, ha⟩)
    · exact Sat.pure ha

theorem Sat.pMany {α : Type} {L : Nat} {Q : α → Prop} (start stop : Kind) (n : Nat) {cb : Prog α} (h : Sat L Q cb) :
    Sat L (fun xs => ∀ x ∈ xs, Q x) (pMany start stop n cb) := by
  unfold Gql.Parser.pMany
  refine Sat.bind (Sat.skip _) fun b _ => ?_
  split
  · exact Sat.pure (by simp)
  · exact Sat.bind (Sat.itemsLoop stop h n [] (by simp)) fun xs hxs => Sat.bind Sat.next fun _ _ =>
      Sat.pure (by simpa using hxs)

theorem Sat.pSome {α : Type} {L : Nat} {Q : α → Prop} (start stop : Kind) (n : Nat) {cb : Prog α} (h : Sat L Q cb) :
    Sat L (fun xs => ∀ x ∈ xs, Q x) (pSome start stop n cb) := by
  unfold Gql.Parser.pSome
  refine Sat.bind (Sat.skip _) fun b _ => ?_
  split
  · exact Sat.pure (by simp)
  · refine Sat.bind (Sat.itemsLoop stop h n [] (by simp)) fun xs hxs => ?_
    split
    · exact Sat.bind Sat.peek fun _ _ => Sat.bind Sat.peek fun _ _ => Sat.bind (Sat.failAt _ _) fun _ _ =>
        Sat.pure (by simp)
    · exact Sat.bind Sat.next fun _ _ => Sat.pure (by simpa using hxs)


abbrev CleanB (b : Bytes) : Prop := sanitize b = b

theorem cleanB_nil : CleanB [] := sanitize_nil

theorem Sat.parseName {L : Nat} : Sat L CleanB parseName := by
  unfold Gql.Parser.parseName
  exact Sat.bind (Sat.expect _) fun t ht => Sat.pure ht

theorem Sat.parseVariable {L : Nat} : Sat L CleanB parseVariable := by
  unfold Gql.Parser.parseVariable
  exact Sat.bind (Sat.expect _) fun _ _ => Sat.parseName

theorem fixChildren_ofList : ∀ (vs : List (Name × Value × Pos)),
    (∀ x ∈ vs, CleanB x.1 ∧ FixValue sanitize x.2.1) → FixChildren sanitize (Children.ofList vs)
  | [], _ => by simp [Children.ofList, FixChildren]
  | (n, v, p) :: rest, h => by
    have h1 := h (n, v, p) (by simp)
    have h2 := fixChildren_ofList rest (fun x hx => h x (by simp [hx]))
    simp only [Children.ofList, FixChildren]
    exact ⟨h1.1, h1.2, h2⟩

theorem fixSels_ofList : ∀ (xs : List Selection), (∀ x ∈ xs, FixSel sanitize x) → FixSels sanitize (Selections.ofList xs)
  | [], _ => by simp [Selections.ofList, FixSels]
  | s :: rest, h => by
    simp only [Selections.ofList, FixSels]
    exact ⟨h s (by simp), fixSels_ofList rest (fun x hx => h x (by simp [hx]))⟩

theorem fixValue_default : FixValue sanitize (default : Value) := by
  show FixValue sanitize (Value.mk _ _ _ _)
  simp [FixValue, FixChildren, sanitize_nil]

theorem Sat.litValue {L : Nat} (src : Nat) (t : Token) (k : ValueKind) (ht : TokClean t) :
    Sat L (FixValue sanitize) (litValue src t k) := by
  unfold Gql.Parser.litValue
  refine Sat.bind Sat.next fun _ _ => Sat.pure ?_
  simp only [FixValue, FixChildren]
  exact ⟨ht, trivial⟩

theorem Sat.parseObjectFieldWith {L : Nat} {pv : Prog Value} (h : Sat L (FixValue sanitize) pv) :
    Sat L (fun x => CleanB x.1 ∧ FixValue sanitize x.2.1) (parseObjectFieldWith pv) := by
  unfold Gql.Parser.parseObjectFieldWith
  exact Sat.bind Sat.peekPos fun _ _ => Sat.bind Sat.parseName fun nm hn => Sat.bind (Sat.expect _) fun _ _ =>
    Sat.bind h fun v hv => Sat.pure ⟨hn, hv⟩

theorem Sat.parseListWith {L : Nat} {pv : Prog Value} (h : Sat L (FixValue sanitize) pv) (n : Nat) :
    Sat L (FixValue sanitize) (parseListWith pv n) := by
  unfold Gql.Parser.parseListWith
  refine Sat.bind Sat.peekPos fun _ _ => Sat.bind (Sat.pMany _ _ n
    (Q := fun x => CleanB x.1 ∧ FixValue sanitize x.2.1) ?_) fun vs hvs => Sat.pure ?_
  · exact Sat.bind h fun v hv => Sat.pure ⟨cleanB_nil, hv⟩
  · simp only [FixValue]
    exact ⟨sanitize_nil, fixChildren_ofList vs hvs⟩

theorem Sat.parseObjectWith {L : Nat} {pv : Prog Value} (h : Sat L (FixValue sanitize) pv) (n : Nat) :
    Sat L (FixValue sanitize) (parseObjectWith pv n) := by
  unfold Gql.Parser.parseObjectWith
  refine Sat.bind Sat.peekPos fun _ _ => Sat.bind (Sat.pMany _ _ n (Sat.parseObjectFieldWith h)) fun vs hvs =>
    Sat.pure ?_
  simp only [FixValue]
  exact ⟨sanitize_nil, fixChildren_ofList vs hvs⟩

theorem Sat.parseValueLiteral {L : Nat} : ∀ (n : Nat) (c : Bool), Sat L (FixValue sanitize) (parseValueLiteral n c)
  | 0, c => by unfold Gql.Parser.parseValueLiteral; exact Sat.outOfFuel fixValue_default
  | n + 1, c => by
    have ih := Sat.parseValueLiteral (L := L) n c
    unfold Gql.Parser.parseValueLiteral
    refine Sat.bind Sat.peek fun token htok => Sat.bind Sat.getSrc fun src _ => ?_
    split
    · exact Sat.parseListWith ih _
    · exact Sat.parseObjectWith ih _
    · split
      · exact Sat.bind Sat.unexpectedError fun _ _ => Sat.pure fixValue_default
      · refine Sat.bind Sat.parseVariable fun raw hraw => Sat.pure ?_
        simp only [FixValue, FixChildren]
        exact ⟨hraw, trivial⟩
    · exact Sat.litValue _ _ _ htok
    · exact Sat.litValue _ _ _ htok
    · exact Sat.litValue _ _ _ htok
    · exact Sat.litValue _ _ _ htok
    · exact Sat.litValue _ _ _ htok
    · exact Sat.bind Sat.unexpectedError fun _ _ => Sat.pure fixValue_default

theorem Sat.parseArgument {L : Nat} (n : Nat) (c : Bool) : Sat L (FixArg sanitize) (parseArgument n c) := by
  unfold Gql.Parser.parseArgument
  exact Sat.bind Sat.peekPos fun _ _ => Sat.bind Sat.parseName fun nm hn => Sat.bind (Sat.expect _) fun _ _ =>
    Sat.bind (Sat.parseValueLiteral n c) fun v hv => Sat.pure ⟨hn, hv⟩

theorem Sat.parseArguments {L : Nat} (n : Nat) (c : Bool) :
    Sat L (fun as => ∀ a ∈ as, FixArg sanitize a) (parseArguments n c) := by
  unfold Gql.Parser.parseArguments
  exact Sat.pSome _ _ n (Sat.parseArgument n c)

theorem Sat.parseDirective {L : Nat} (n : Nat) (c : Bool) : Sat L (FixDir sanitize) (parseDirective n c) := by
  unfold Gql.Parser.parseDirective
  exact Sat.bind (Sat.expect _) fun _ _ => Sat.bind Sat.peekPos fun _ _ => Sat.bind Sat.parseName fun nm hn =>
    Sat.bind (Sat.parseArguments n c) fun as has => Sat.pure ⟨hn, has⟩

theorem Sat.directivesLoop {L : Nat} {pd : Prog Directive} (h : Sat L (FixDir sanitize) pd) :
    ∀ (n : Nat) (acc : List Directive), (∀ d ∈ acc, FixDir sanitize d) →
      Sat L (fun ds => ∀ d ∈ ds, FixDir sanitize d) (directivesLoop pd n acc)
  | 0, acc, ha => by unfold Gql.Parser.directivesLoop; exact Sat.outOfFuel ha
  | n + 1, acc, ha => by
    unfold Gql.Parser.directivesLoop
    refine Sat.bind Sat.peek fun t _ => ?_
    split
    · refine Sat.bind Sat.hasErr fun e _ => ?_
      split
      · exact Sat.pure ha
      · exact Sat.bind h fun d hd => Sat.directivesLoop h n (d :: acc) (List.forall_mem_cons.mpr ⟨hd, ha⟩)
    · exact Sat.pure ha

theorem Sat.parseDirectives {L : Nat} (n : Nat) (c : Bool) :
    Sat L (fun ds => ∀ d ∈ ds, FixDir sanitize d) (parseDirectives n c) := by
  unfold Gql.Parser.parseDirectives
  exact Sat.bind (Sat.directivesLoop (Sat.parseDirective n c) n [] (by simp)) fun ds hds =>
    Sat.pure (by simpa using hds)

theorem fixType_default : FixType sanitize (default : GType) := by
  show sanitize ([] : Bytes) = []
  exact sanitize_nil

theorem Sat.parseTypeReference {L : Nat} : ∀ (n : Nat), Sat L (FixType sanitize) (parseTypeReference n)
  | 0 => by unfold Gql.Parser.parseTypeReference; exact Sat.outOfFuel fixType_default
  | n + 1 => by
    have ih := Sat.parseTypeReference (L := L) n
    unfold Gql.Parser.parseTypeReference
    refine Sat.bind (Sat.skip _) fun b _ => ?_
    split
    · exact Sat.bind Sat.peekPos fun _ _ => Sat.bind ih fun e he => Sat.bind (Sat.expect _) fun _ _ =>
        Sat.bind (Sat.skip _) fun _ _ => Sat.pure (by simpa [FixType] using he)
    · exact Sat.bind Sat.peekPos fun _ _ => Sat.bind Sat.parseName fun nm hn => Sat.bind (Sat.skip _) fun _ _ =>
        Sat.pure (by simpa [FixType] using hn)

theorem Sat.parseVariableDefinition {L : Nat} (n : Nat) : Sat L (FixVarDef sanitize) (parseVariableDefinition n) := by
  unfold Gql.Parser.parseVariableDefinition
  refine Sat.bind Sat.peekPos fun _ _ => Sat.bind Sat.parseVariable fun var hvar => Sat.bind (Sat.expect _) fun _ _ =>
    Sat.bind (Sat.parseTypeReference n) fun ty hty => Sat.bind (Sat.skip _) fun b _ => ?_
  dsimp only
  split
  · refine Sat.bind (Sat.parseValueLiteral n true) fun v hv => Sat.pure_bind ?_
    exact Sat.bind (Sat.parseDirectives n true) fun ds hds =>
      Sat.pure (by exact ⟨hvar, hty, (by intro x hx; cases hx; exact hv), hds⟩)
  · refine Sat.pure_bind ?_
    exact Sat.bind (Sat.parseDirectives n true) fun ds hds =>
      Sat.pure (by exact ⟨hvar, hty, (by intro x hx; cases hx), hds⟩)

theorem Sat.parseVariableDefinitions {L : Nat} (n : Nat) :
    Sat L (fun vs => ∀ v ∈ vs, FixVarDef sanitize v) (parseVariableDefinitions n) := by
  unfold Gql.Parser.parseVariableDefinitions
  exact Sat.pSome _ _ n (Sat.parseVariableDefinition n)

theorem Sat.parseOptionalSelectionSetWith {L : Nat} {sel : Prog Selection} (h : Sat L (FixSel sanitize) sel) (n : Nat) :
    Sat L (FixSels sanitize) (parseOptionalSelectionSetWith sel n) := by
  unfold Gql.Parser.parseOptionalSelectionSetWith
  exact Sat.bind (Sat.pSome _ _ n h) fun xs hxs => Sat.pure (fixSels_ofList xs hxs)

theorem Sat.parseRequiredSelectionSetWith {L : Nat} {sel : Prog Selection} (h : Sat L (FixSel sanitize) sel) (n : Nat) :
    Sat L (FixSels sanitize) (parseRequiredSelectionSetWith sel n) := by
  unfold Gql.Parser.parseRequiredSelectionSetWith
  refine Sat.bind Sat.peek fun t _ => ?_
  split
  · exact Sat.bind Sat.peek fun _ _ => Sat.bind Sat.peek fun _ _ => Sat.bind (Sat.failAt _ _) fun _ _ =>
      Sat.pure (by simp [FixSels])
  · exact Sat.bind (Sat.pSome _ _ n h) fun xs hxs => Sat.pure (fixSels_ofList xs hxs)

theorem fieldTail_sat {L : Nat} {sel : Prog Selection} (h : Sat L (FixSel sanitize) sel) (n : Nat)
    (al nm : Name) (pos : Pos) (hal : CleanB al) (hnm : CleanB nm) :
    Sat L (FixSel sanitize) (do
      let args ← parseArguments n false
      let dirs ← parseDirectives n false
      let t ← peek
      let ss ← do
        if t.kind = .braceL then parseOptionalSelectionSetWith sel n else pure Selections.nil
      pure (.field al nm args dirs ss pos)) := by
  refine Sat.bind (Sat.parseArguments n false) fun as has => Sat.bind (Sat.parseDirectives n false) fun ds hds =>
    Sat.bind Sat.peek fun t _ => ?_
  dsimp only
  split
  · exact Sat.bind (Sat.parseOptionalSelectionSetWith h n) fun ss hss =>
      Sat.pure (by simp only [FixSel]; exact ⟨hal, hnm, has, hds, hss⟩)
  · exact Sat.pure (by simp only [FixSel, FixSels]; exact ⟨hal, hnm, has, hds, trivial⟩)

theorem Sat.parseFieldWith {L : Nat} {sel : Prog Selection} (h : Sat L (FixSel sanitize) sel) (n : Nat) :
    Sat L (FixSel sanitize) (parseFieldWith sel n) := by
  unfold Gql.Parser.parseFieldWith
  refine Sat.bind Sat.peekPos fun pos _ => Sat.bind Sat.parseName fun al hal => Sat.bind (Sat.skip _) fun b _ => ?_
  dsimp only
  split
  · exact Sat.bind Sat.parseName fun nm hnm => fieldTail_sat h n al nm pos hal hnm
  · exact fieldTail_sat h n al al pos hal hal

theorem Sat.parseFragmentName {L : Nat} : Sat L CleanB parseFragmentName := by
  unfold Gql.Parser.parseFragmentName
  refine Sat.bind Sat.peek fun t _ => ?_
  split
  · exact Sat.bind Sat.unexpectedError fun _ _ => Sat.pure cleanB_nil
  · exact Sat.parseName

theorem inlineTail_sat {L : Nat} {sel : Prog Selection} (h : Sat L (FixSel sanitize) sel) (n : Nat)
    (tc : Name) (pos : Pos) (htc : CleanB tc) :
    Sat L (FixSel sanitize) (do
      let dirs ← parseDirectives n false
      let ss ← parseRequiredSelectionSetWith sel n
      pure (.inline tc dirs ss pos)) :=
  Sat.bind (Sat.parseDirectives n false) fun ds hds => Sat.bind (Sat.parseRequiredSelectionSetWith h n) fun ss hss =>
    Sat.pure (by simp only [FixSel]; exact ⟨htc, hds, hss⟩)

theorem Sat.parseFragmentWith {L : Nat} {sel : Prog Selection} (h : Sat L (FixSel sanitize) sel) (n : Nat) :
    Sat L (FixSel sanitize) (parseFragmentWith sel n) := by
  unfold Gql.Parser.parseFragmentWith
  refine Sat.bind (Sat.expect _) fun _ _ => Sat.bind Sat.peek fun pk _ => ?_
  split
  · exact Sat.bind Sat.peekPos fun _ _ => Sat.bind Sat.parseFragmentName fun nm hnm =>
      Sat.bind (Sat.parseDirectives n false) fun ds hds =>
      Sat.pure (by simp only [FixSel]; exact ⟨hnm, hds⟩)
  · refine Sat.bind Sat.peekPos fun pos _ => Sat.bind Sat.peek fun t _ => ?_
    dsimp only
    split
    · exact Sat.bind Sat.next fun _ _ => Sat.bind Sat.parseName fun tc htc => inlineTail_sat h n tc pos htc
    · exact inlineTail_sat h n [] pos cleanB_nil

theorem fixSel_default : FixSel sanitize (default : Selection) := by
  show FixSel sanitize (Selection.spread _ _ _)
  simp [FixSel, sanitize_nil]

theorem Sat.parseSelection {L : Nat} : ∀ (n : Nat), Sat L (FixSel sanitize) (parseSelection n)
  | 0 => by unfold Gql.Parser.parseSelection; exact Sat.outOfFuel fixSel_default
  | n + 1 => by
    have ih := Sat.parseSelection (L := L) n
    unfold Gql.Parser.parseSelection
    refine Sat.bind Sat.peek fun t _ => ?_
    split
    · exact Sat.parseFragmentWith ih _
    · exact Sat.parseFieldWith ih _

theorem Sat.parseRequiredSelectionSet {L : Nat} (n : Nat) : Sat L (FixSels sanitize) (parseRequiredSelectionSet n) := by
  unfold Gql.Parser.parseRequiredSelectionSet
  exact Sat.parseRequiredSelectionSetWith (Sat.parseSelection n) n

theorem cleanB_query : CleanB kwQuery := by decide
theorem cleanB_mutation : CleanB kwMutation := by decide
theorem cleanB_subscription : CleanB kwSubscription := by decide

theorem Sat.parseOperationType {L : Nat} : Sat L CleanB parseOperationType := by
  unfold Gql.Parser.parseOperationType
  refine Sat.bind Sat.next fun tok _ => ?_
  split
  · exact Sat.pure cleanB_query
  · split
    · exact Sat.pure cleanB_mutation
    · split
      · exact Sat.pure cleanB_subscription
      · exact Sat.bind (Sat.unexpectedToken _) fun _ _ => Sat.pure cleanB_nil

theorem opTail_sat {L : Nat} (n : Nat) (op : Operation) (nm : Name) (pos : Pos) (hop : CleanB op) (hnm : CleanB nm) :
    Sat L (FixOp sanitize) (do
      let vars ← parseVariableDefinitions n
      let dirs ← parseDirectives n false
      let ss ← parseRequiredSelectionSet n
      pure { op := op, name := nm, vars := vars, dirs := dirs, sel := ss, pos := pos }) :=
  Sat.bind (Sat.parseVariableDefinitions n) fun vs hvs => Sat.bind (Sat.parseDirectives n false) fun ds hds =>
    Sat.bind (Sat.parseRequiredSelectionSet n) fun ss hss => Sat.pure ⟨hop, hnm, hvs, hds, hss⟩

theorem Sat.parseOperationDefinition {L : Nat} (n : Nat) : Sat L (FixOp sanitize) (parseOperationDefinition n) := by
  unfold Gql.Parser.parseOperationDefinition
  refine Sat.bind Sat.peek fun t _ => ?_
  split
  · refine Sat.bind Sat.peekPos fun _ _ => Sat.bind (Sat.parseRequiredSelectionSet n) fun ss hss => Sat.pure ?_
    exact ⟨cleanB_query, sanitize_nil, by simp, by simp, hss⟩
  · refine Sat.bind Sat.peekPos fun pos _ => Sat.bind Sat.parseOperationType fun op hop => Sat.bind Sat.peek fun t _ => ?_
    dsimp only
    split
    · exact Sat.bind Sat.next fun tk htk => opTail_sat n op tk.value pos hop htk
    · exact opTail_sat n op [] pos hop cleanB_nil

theorem Sat.parseFragmentDefinition {L : Nat} (n : Nat) : Sat L (FixFrag sanitize) (parseFragmentDefinition n) := by
  unfold Gql.Parser.parseFragmentDefinition
  exact Sat.bind Sat.peekPos fun _ _ => Sat.bind (Sat.expectKeyword _) fun _ _ =>
    Sat.bind Sat.parseFragmentName fun nm hnm => Sat.bind (Sat.parseVariableDefinitions n) fun vs hvs =>
    Sat.bind (Sat.expectKeyword _) fun _ _ => Sat.bind Sat.parseName fun tc htc =>
    Sat.bind (Sat.parseDirectives n false) fun ds hds => Sat.bind (Sat.parseRequiredSelectionSet n) fun ss hss =>
    Sat.pure ⟨hnm, hvs, htc, hds, hss⟩

theorem fixDoc_addOp {d : QueryDoc} {o : OperationDef} (hd : FixDoc sanitize d) (ho : FixOp sanitize o) :
    FixDoc sanitize { d with ops := d.ops ++ [o] } :=
  ⟨List.forall_mem_append.mpr ⟨hd.1, by simpa using ho⟩, hd.2⟩

theorem fixDoc_addFrag {d : QueryDoc} {f : FragmentDef} (hd : FixDoc sanitize d) (hf : FixFrag sanitize f) :
    FixDoc sanitize { d with frags := d.frags ++ [f] } :=
  ⟨hd.1, List.forall_mem_append.mpr ⟨hd.2, by simpa using hf⟩⟩

theorem Sat.queryDocLoop {L : Nat} (m : Nat) : ∀ (n : Nat) (doc : QueryDoc), FixDoc sanitize doc →
    Sat L (FixDoc sanitize) (queryDocLoop m n doc)
  | 0, doc, hd => by unfold Gql.Parser.queryDocLoop; exact Sat.outOfFuel hd
  | n + 1, doc, hd => by
    unfold Gql.Parser.queryDocLoop
    refine Sat.bind Sat.peek fun t _ => ?_
    split
    · refine Sat.bind Sat.hasErr fun e _ => ?_
      split
      · exact Sat.pure hd
      · refine Sat.bind Sat.peekPos fun _ _ => Sat.bind Sat.peek fun t1 _ => ?_
        split
        · refine Sat.bind Sat.peek fun t2 _ => ?_
          split
          · exact Sat.bind (Sat.parseOperationDefinition m) fun od hod =>
              Sat.queryDocLoop m n _ (fixDoc_addOp hd hod)
          · split
            · exact Sat.bind (Sat.parseFragmentDefinition m) fun fd hfd =>
                Sat.queryDocLoop m n _ (fixDoc_addFrag hd hfd)
            · exact Sat.bind Sat.unexpectedError fun _ _ => Sat.queryDocLoop m n doc hd
        · exact Sat.bind (Sat.parseOperationDefinition m) fun od hod =>
            Sat.queryDocLoop m n _ (fixDoc_addOp hd hod)
        · exact Sat.bind Sat.unexpectedError fun _ _ => Sat.queryDocLoop m n doc hd
    · exact Sat.pure hd

theorem Sat.parseQueryDocument {L : Nat} (n : Nat) : Sat L (FixDoc sanitize) (parseQueryDocument n) := by
  unfold Gql.Parser.parseQueryDocument
  exact Sat.queryDocLoop n n _ ⟨by simp, by simp⟩

/-- Whatever `ParseQuery` returns for a source whose tokens all have well-formed UTF-8 values is
    `Utf8Clean` (with or without an error on the way). -/
theorem runQuery_clean (limit : Nat) (inp : Bytes) (h : LexClean inp Cur.init) :
    Utf8Clean (runQuery limit inp).1 :=
  (Sat.parseQueryDocument (fuelFor inp) _ (SInv.init 0 inp h)).2


theorem lexClean_of_fixpoint {rest : Bytes} {cur : Cur} {t : Token} (hr : readToken rest cur = .tok t rest cur)
    (ht : TokClean t) : LexClean rest cur := by
  intro k
  induction k with
  | zero => trivial
  | succ k ih => simp only [LexCleanK, hr]; exact ⟨ht, ih⟩

theorem lexCleanB_sound : ∀ (n : Nat) (rest : Bytes) (cur : Cur), lexCleanB n rest cur = true → LexClean rest cur
  | 0, _, _, h => by simp [lexCleanB] at h
  | n + 1, rest, cur, h => by
    unfold lexCleanB at h
    split at h
    · rename_i e he
      intro k
      cases k <;> simp [LexCleanK, he]
    · rename_i t r c hr
      simp only [Bool.and_eq_true, decide_eq_true_eq] at h
      obtain ⟨ht, h2⟩ := h
      split at h2
      · rename_i hfix
        rw [hfix.1, hfix.2] at hr
        exact lexClean_of_fixpoint hr ht
      · intro k
        cases k with
        | zero => trivial
        | succ k => simp only [LexCleanK, hr]; exact ⟨ht, lexCleanB_sound n r c h2 k⟩

theorem sourceCleanB_sound (inp : Bytes) (h : sourceCleanB inp = true) : LexClean inp Cur.init :=
  lexCleanB_sound _ _ _ h

end Gql.Parser
