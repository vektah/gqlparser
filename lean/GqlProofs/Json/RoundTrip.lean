import GqlModel.Json.Spec
import GqlProofs.Lemmas.StrLit
set_option linter.unusedSimpArgs false
/-
  decode ∘ encode = image, level by level (C19), for `f = sanitize`; the selection level is
  proved once for both discriminators (`discOf legacy`).  The second half reads the image: where it
  does not depend on `f` (`img…_fix`) or on the discriminator (`img…_fieldsOnly`), and its selection kinds.
-/
namespace Gql.Json
open Gql

theorem sanitize_nil : sanitize [] = [] := by decide

@[simp] theorem decLink_null : decLink .null = .ok () := rfl

/-- the discriminator that goes with the `legacy` flag of the image -/
def discOf (legacy : Bool) : Disc := if legacy then legacyDisc else repairedDisc

/-- two keys are compared as the string literals they are written with (which `simp` decides) -/
theorem str_inj {a b : String} : str a = str b ↔ a = b := ⟨str_injective, congrArg str⟩

theorem ok_bind {α β : Type} (a : α) (f : α → Dec β) : (Except.ok a >>= f) = f a := rfl

theorem pure_eq_ok {α : Type} (a : α) : (pure a : Dec α) = .ok a := rfl

section
/- With these, `simp [encX, decX, decXKeys]` walks the key loop of a decoder over the fields the encoder
   wrote: every key is a literal, so each `if k = kY` is decided and each value decoded in turn. -/
attribute [local simp] mkObj JFields.ofList encStr decString decBool str_inj ok_bind pure_eq_ok
  kAlias kName kArguments kDirectives kSelectionSet kComment kDefinition kObjectDefinition kParentDefinition
  kLocation kValue kRaw kChildren kKind kVariableDefinition kVariableDefinitions kExpectedType kTypeCondition
  kOperation kOperations kFragments kVariable kType kDefaultValue kUsed kNamedType kElem kNonNull kPosition

@[local simp] theorem decType_encType (t : GType) : decType (encType t) = .ok (some (imgType sanitize t)) := by
  induction t with
  | named n nn p => simp [encType, decType, decTypeKeys, mkType, imgType]
  | list e nn p ih => simp [encType, decType, decTypeKeys, mkType, imgType, ih, sanitize_nil]

@[local simp] theorem decChildren_nullIfEmpty (xs : JList) : decChildren (nullIfEmpty xs) = decChildItems xs := by
  cases xs <;> simp [nullIfEmpty, decChildren, decChildItems]

mutual
  theorem decValue_encValue (v : Value) : decValue (encValue v) = .ok (some (imgValue sanitize v)) := by
    match v with
    | .mk k raw ch p =>
      have hk : decKind ValueKind.variable (Json.num (k.toNat : Int)) = .ok k := by
        cases k <;> rfl
      simp [encValue, decValue, decValueKeys, imgValue, decChildItems_encChildren ch, hk]
  theorem decChildItems_encChildren (ch : Children) :
      decChildItems (encChildren ch) = .ok (imgChildren sanitize ch) := by
    match ch with
    | .nil => simp [encChildren, decChildItems, imgChildren]
    | .cons n v p rest =>
      simp [encChildren, decChildItems, decChild, decChildKeys, imgChildren, decValue_encValue v,
        decChildItems_encChildren rest]
end

attribute [local simp] decValue_encValue

theorem decElem_of_ne_null {α} (f : Json → Dec α) (j : Json) (h : j ≠ .null) : decElem f j = f j := by
  cases j <;> simp_all [decElem]

theorem decList_ofList {α β} (enc : α → Json) (dec : Json → Dec β) (img : α → β)
    (hnn : ∀ a, enc a ≠ .null) (h : ∀ a, dec (enc a) = .ok (img a)) (xs : List α) :
    decList dec (nullIfEmpty (JList.ofList (xs.map enc))) = .ok (xs.map img) := by
  have key : ∀ ys : List α,
      (JList.ofList (ys.map enc)).toList.mapM (decElem dec) = .ok (ys.map img) := by
    intro ys
    induction ys with
    | nil => simp [JList.ofList, JList.toList]
    | cons y ys ih => simp [JList.ofList, JList.toList, List.mapM_cons, decElem_of_ne_null _ _ (hnn y), h y, ih]
  cases xs with
  | nil => simp [JList.ofList, nullIfEmpty, decList]
  | cons a rest => simpa [JList.ofList, nullIfEmpty, decList] using key (a :: rest)

theorem decArgument_enc (a : Argument) : decArgument (encArgument a) = .ok (imgArg sanitize a) := by
  simp [encArgument, decArgument, decArgumentKeys, imgArg]

@[local simp] theorem decArgs_enc (as : List Argument) : decArgs (encArgs as) = .ok (as.map (imgArg sanitize)) :=
  decList_ofList encArgument decArgument (imgArg sanitize) (by intro a; simp [encArgument]) decArgument_enc as

theorem decDirective_enc (d : Directive) : decDirective (encDirective d) = .ok (imgDir sanitize d) := by
  simp [encDirective, decDirective, decDirectiveKeys, imgDir]

@[local simp] theorem decDirs_enc (ds : List Directive) : decDirs (encDirs ds) = .ok (ds.map (imgDir sanitize)) :=
  decList_ofList encDirective decDirective (imgDir sanitize) (by intro a; simp [encDirective]) decDirective_enc ds

theorem decVarDef_enc (v : VarDef) : decVarDef (encVarDef v) = .ok (imgVarDef sanitize v) := by
  have hd : decValue (encOptValue v.default) = .ok (v.default.map (imgValue sanitize)) := by
    cases h : v.default <;> simp [encOptValue, decValue]
  simp [encVarDef, decVarDef, decVarDefKeys, imgVarDef, hd]

@[local simp] theorem decVarDefs_enc (vs : List VarDef) :
    decVarDefs (encVarDefs vs) = .ok (vs.map (imgVarDef sanitize)) :=
  decList_ofList encVarDef decVarDef (imgVarDef sanitize) (by intro a; simp [encVarDef]) decVarDef_enc vs

@[local simp] theorem decSelectionSet_nullIfEmpty (disc : Disc) (xs : JList) :
    decSelectionSet disc (nullIfEmpty xs) = .ok (decSelItems disc xs) := by
  cases xs <;> simp [nullIfEmpty, decSelectionSet, decSelItems]

/- one item: the discriminator is evaluated on the keys of the object (`hasKey`), the decoders it
   names are run (`pick`); with `legacy` the field decoder runs on every object and accepts it -/
attribute [local simp] encSelection decSelItems discOf legacyDisc repairedDisc JFields.hasKey pick consOpt
  Except.map decFieldKeys FieldAcc.toSel imgSel in
mutual
  theorem decSelItems_cons_enc (legacy : Bool) (s : Selection) (rest : JList) :
      decSelItems (discOf legacy) (.cons (encSelection s) rest)
        = .cons (imgSel sanitize legacy s) (decSelItems (discOf legacy) rest) := by
    match s with
    | .field al nm args ds sel p =>
      have ih := decSelItems_encSelections legacy sel
      cases legacy <;> simp [← ih]
    | .spread nm ds p => cases legacy <;> simp [decSpreadKeys, spreadOf]
    | .inline tc ds sel p =>
      have ih := decSelItems_encSelections legacy sel
      cases legacy <;> simp [decInlineKeys, InlineAcc.toSel, ← ih]
  theorem decSelItems_encSelections (legacy : Bool) (ss : Selections) :
      decSelItems (discOf legacy) (encSelections ss) = imgSels sanitize legacy ss := by
    match ss with
    | .nil => simp [encSelections, imgSels]
    | .cons s rest =>
      simp only [encSelections, imgSels, decSelItems_cons_enc legacy s, decSelItems_encSelections legacy rest]
end

attribute [local simp] decSelItems_encSelections

/- `show` first: by definition the decoder is its key loop on the field list.  `simp` takes that step
   and the first unfolding of the loop by `rfl`, without a trace in the proof term, and the kernel then
   compares the two forms of the loop branch by branch, key after key: exponentially many comparisons. -/
theorem decOperation_enc (legacy : Bool) (o : OperationDef) :
    decOperation (discOf legacy) (encOperation o) = .ok (imgOp sanitize legacy o) := by
  show decOperationKeys (discOf legacy) _ emptyOperation = _
  simp [decOperationKeys, emptyOperation, imgOp]

theorem decFragment_enc (legacy : Bool) (fr : FragmentDef) :
    decFragment (discOf legacy) (encFragment fr) = .ok (imgFrag sanitize legacy fr) := by
  show decFragmentKeys (discOf legacy) _ emptyFragment = _
  simp [decFragmentKeys, emptyFragment, imgFrag]

theorem decodeWith_encode (legacy : Bool) (d : QueryDoc) :
    decodeQueryDocWith (discOf legacy) (encodeQueryDoc d) = .ok (imgDoc sanitize legacy d) := by
  have h1 := decList_ofList encOperation (decOperation (discOf legacy)) (imgOp sanitize legacy)
    (by intro a; simp [encOperation]) (decOperation_enc legacy) d.ops
  have h2 := decList_ofList encFragment (decFragment (discOf legacy)) (imgFrag sanitize legacy)
    (by intro a; simp [encFragment]) (decFragment_enc legacy) d.frags
  simp [encodeQueryDoc, decodeQueryDocWith, decDocKeys, h1, h2, imgDoc]

end

theorem imgType_fix (f : Bytes → Bytes) (t : GType) (h : FixType f t) : imgType f t = imgType id t := by
  induction t <;> simp_all [imgType, FixType]

mutual
  theorem imgValue_fix (f : Bytes → Bytes) (v : Value) (h : FixValue f v) : imgValue f v = imgValue id v := by
    match v with
    | .mk k raw ch p =>
      have ih := imgChildren_fix f ch
      simp_all [imgValue, FixValue]
  theorem imgChildren_fix (f : Bytes → Bytes) (ch : Children) (h : FixChildren f ch) :
      imgChildren f ch = imgChildren id ch := by
    match ch with
    | .nil => simp [imgChildren]
    | .cons n v p rest =>
      have ih1 := imgValue_fix f v
      have ih2 := imgChildren_fix f rest
      simp_all [imgChildren, FixChildren]
end

theorem imgArg_fix (f : Bytes → Bytes) (a : Argument) (h : FixArg f a) : imgArg f a = imgArg id a := by
  simp_all [imgArg, FixArg, imgValue_fix f a.value h.2]

theorem imgArgs_fix (f : Bytes → Bytes) (as : List Argument) (h : ∀ a ∈ as, FixArg f a) :
    as.map (imgArg f) = as.map (imgArg id) :=
  List.map_congr_left fun a ha => imgArg_fix f a (h a ha)

theorem imgDir_fix (f : Bytes → Bytes) (d : Directive) (h : FixDir f d) : imgDir f d = imgDir id d := by
  simp_all [imgDir, FixDir, imgArgs_fix f d.args h.2]

theorem imgDirs_fix (f : Bytes → Bytes) (ds : List Directive) (h : ∀ d ∈ ds, FixDir f d) :
    ds.map (imgDir f) = ds.map (imgDir id) :=
  List.map_congr_left fun d hd => imgDir_fix f d (h d hd)

mutual
  theorem imgSel_fix (f : Bytes → Bytes) (l : Bool) (s : Selection) (h : FixSel f s) :
      imgSel f l s = imgSel id l s := by
    match s with
    | .field al nm args ds sel p =>
      obtain ⟨h1, h2, h3, h4, h5⟩ := h
      simp [imgSel, h1, h2, imgArgs_fix f args h3, imgDirs_fix f ds h4, imgSels_fix f l sel h5]
    | .spread nm ds p =>
      obtain ⟨h1, h2⟩ := h
      simp [imgSel, h1, imgDirs_fix f ds h2]
    | .inline tc ds sel p =>
      obtain ⟨h1, h2, h3⟩ := h
      simp [imgSel, h1, imgDirs_fix f ds h2, imgSels_fix f l sel h3]
  theorem imgSels_fix (f : Bytes → Bytes) (l : Bool) (ss : Selections) (h : FixSels f ss) :
      imgSels f l ss = imgSels id l ss := by
    match ss with
    | .nil => simp [imgSels]
    | .cons s rest => simp [imgSels, imgSel_fix f l s h.1, imgSels_fix f l rest h.2]
end

theorem imgVarDef_fix (f : Bytes → Bytes) (v : VarDef) (h : FixVarDef f v) : imgVarDef f v = imgVarDef id v := by
  obtain ⟨h1, h2, h3, h4⟩ := h
  simp [imgVarDef, h1, imgType_fix f v.type h2, imgDirs_fix f v.dirs h4,
    Option.map_congr fun x hx => imgValue_fix f x (h3 x hx)]

theorem imgVarDefs_fix (f : Bytes → Bytes) (vs : List VarDef) (h : ∀ v ∈ vs, FixVarDef f v) :
    vs.map (imgVarDef f) = vs.map (imgVarDef id) :=
  List.map_congr_left fun v hv => imgVarDef_fix f v (h v hv)

theorem imgOp_fix (f : Bytes → Bytes) (l : Bool) (o : OperationDef) (h : FixOp f o) : imgOp f l o = imgOp id l o := by
  obtain ⟨h1, h2, h3, h4, h5⟩ := h
  simp [imgOp, h1, h2, imgVarDefs_fix f o.vars h3, imgDirs_fix f o.dirs h4, imgSels_fix f l o.sel h5]

theorem imgFrag_fix (f : Bytes → Bytes) (l : Bool) (fr : FragmentDef) (h : FixFrag f fr) :
    imgFrag f l fr = imgFrag id l fr := by
  obtain ⟨h1, h2, h3, h4, h5⟩ := h
  simp [imgFrag, h1, h3, imgVarDefs_fix f fr.vars h2, imgDirs_fix f fr.dirs h4, imgSels_fix f l fr.sel h5]

theorem imgDoc_fix (f : Bytes → Bytes) (l : Bool) (d : QueryDoc) (h : FixDoc f d) : imgDoc f l d = imgDoc id l d := by
  rw [imgDoc, List.map_congr_left fun o ho => imgOp_fix f l o (h.1 o ho),
    List.map_congr_left fun fr hfr => imgFrag_fix f l fr (h.2 fr hfr), imgDoc]

mutual
  theorem imgSel_fieldsOnly (f : Bytes → Bytes) (s : Selection) (h : fieldsOnlySel s = true) :
      imgSel f true s = imgSel f false s := by
    match s with
    | .field al nm args ds sel p => simp [imgSel, imgSels_fieldsOnly f sel h]
    | .spread nm ds p => simp [fieldsOnlySel] at h
    | .inline tc ds sel p => simp [fieldsOnlySel] at h
  theorem imgSels_fieldsOnly (f : Bytes → Bytes) (ss : Selections) (h : fieldsOnlySels ss = true) :
      imgSels f true ss = imgSels f false ss := by
    match ss with
    | .nil => simp [imgSels]
    | .cons s rest =>
      simp only [fieldsOnlySels, Bool.and_eq_true] at h
      simp [imgSels, imgSel_fieldsOnly f s h.1, imgSels_fieldsOnly f rest h.2]
end

theorem imgDoc_fieldsOnly (f : Bytes → Bytes) (d : QueryDoc) (h : FieldsOnly d) :
    imgDoc f true d = imgDoc f false d := by
  have h1 : d.ops.map (imgOp f true) = d.ops.map (imgOp f false) :=
    List.map_congr_left fun o ho => by simp [imgOp, imgSels_fieldsOnly f o.sel (h.1 o ho)]
  have h2 : d.frags.map (imgFrag f true) = d.frags.map (imgFrag f false) :=
    List.map_congr_left fun fr hfr => by simp [imgFrag, imgSels_fieldsOnly f fr.sel (h.2 fr hfr)]
  simp [imgDoc, h1, h2]

mutual
  theorem selKinds_img (f : Bytes → Bytes) (s : Selection) : selKinds (imgSel f false s) = selKinds s := by
    match s with
    | .field al nm args ds sel p => simp [imgSel, selKinds, selsKinds_img f sel]
    | .spread nm ds p => simp [imgSel, selKinds]
    | .inline tc ds sel p => simp [imgSel, selKinds, selsKinds_img f sel]
  theorem selsKinds_img (f : Bytes → Bytes) (ss : Selections) : selsKinds (imgSels f false ss) = selsKinds ss := by
    match ss with
    | .nil => simp [imgSels]
    | .cons s rest => simp [imgSels, selsKinds, selKinds_img f s, selsKinds_img f rest]
end

theorem docKinds_img (f : Bytes → Bytes) (d : QueryDoc) : docKinds (imgDoc f false d) = docKinds d := by
  simp [docKinds, imgDoc, List.flatMap_map, imgOp, imgFrag, selsKinds_img]

mutual
  /-- under the legacy discriminator every selection comes back as a field -/
  theorem selKinds_img_legacy (f : Bytes → Bytes) (s : Selection) :
      ∀ k ∈ selKinds (imgSel f true s), k = SelKind.field := by
    match s with
    | .field al nm args ds sel p => simpa [imgSel, selKinds] using selsKinds_img_legacy f sel
    | .spread nm ds p => simp [imgSel, selKinds, selsKinds]
    | .inline tc ds sel p => simpa [imgSel, selKinds] using selsKinds_img_legacy f sel
  theorem selsKinds_img_legacy (f : Bytes → Bytes) (ss : Selections) :
      ∀ k ∈ selsKinds (imgSels f true ss), k = SelKind.field := by
    match ss with
    | .nil => simp [imgSels, selsKinds]
    | .cons s rest =>
      simp only [imgSels, selsKinds, List.forall_mem_append]
      exact ⟨selKinds_img_legacy f s, selsKinds_img_legacy f rest⟩
end

theorem fixTypeB_iff (f : Bytes → Bytes) (t : GType) : fixTypeB f t = true ↔ FixType f t := by
  induction t <;> simp_all [fixTypeB, FixType]

mutual
  theorem fixValueB_iff (f : Bytes → Bytes) (v : Value) : fixValueB f v = true ↔ FixValue f v := by
    match v with
    | .mk k raw ch p => simp [fixValueB, FixValue, fixChildrenB_iff f ch]
  theorem fixChildrenB_iff (f : Bytes → Bytes) (ch : Children) : fixChildrenB f ch = true ↔ FixChildren f ch := by
    match ch with
    | .nil => simp [fixChildrenB, FixChildren]
    | .cons n v p rest => simp [fixChildrenB, FixChildren, fixValueB_iff f v, fixChildrenB_iff f rest]
end

theorem fixArgB_iff (f : Bytes → Bytes) (a : Argument) : fixArgB f a = true ↔ FixArg f a := by
  simp [fixArgB, FixArg, fixValueB_iff]

theorem fixArgsB_iff (f : Bytes → Bytes) (as : List Argument) : as.all (fixArgB f) = true ↔ ∀ a ∈ as, FixArg f a := by
  simp [List.all_eq_true, fixArgB_iff]

theorem fixDirB_iff (f : Bytes → Bytes) (d : Directive) : fixDirB f d = true ↔ FixDir f d := by
  simp only [fixDirB, FixDir, Bool.and_eq_true, decide_eq_true_eq, fixArgsB_iff]

theorem fixDirsB_iff (f : Bytes → Bytes) (ds : List Directive) : ds.all (fixDirB f) = true ↔ ∀ d ∈ ds, FixDir f d := by
  simp [List.all_eq_true, fixDirB_iff]

mutual
  theorem fixSelB_iff (f : Bytes → Bytes) (s : Selection) : fixSelB f s = true ↔ FixSel f s := by
    match s with
    | .field al nm args ds sel p =>
      simp only [fixSelB, FixSel, Bool.and_eq_true, decide_eq_true_eq, fixArgsB_iff, fixDirsB_iff,
        fixSelsB_iff f sel]
    | .spread nm ds p => simp only [fixSelB, FixSel, Bool.and_eq_true, decide_eq_true_eq, fixDirsB_iff]
    | .inline tc ds sel p =>
      simp only [fixSelB, FixSel, Bool.and_eq_true, decide_eq_true_eq, fixDirsB_iff, fixSelsB_iff f sel]
  theorem fixSelsB_iff (f : Bytes → Bytes) (ss : Selections) : fixSelsB f ss = true ↔ FixSels f ss := by
    match ss with
    | .nil => simp [fixSelsB, FixSels]
    | .cons s rest => simp only [fixSelsB, FixSels, Bool.and_eq_true, fixSelB_iff f s, fixSelsB_iff f rest]
end

theorem fixVarDefB_iff (f : Bytes → Bytes) (v : VarDef) : fixVarDefB f v = true ↔ FixVarDef f v := by
  have hd : fixOptValueB f v.default = true ↔ ∀ x, v.default = some x → FixValue f x := by
    cases v.default <;> simp [fixOptValueB, fixValueB_iff]
  simp only [fixVarDefB, FixVarDef, Bool.and_eq_true, decide_eq_true_eq, fixTypeB_iff, hd, fixDirsB_iff]

theorem fixVarDefsB_iff (f : Bytes → Bytes) (vs : List VarDef) :
    vs.all (fixVarDefB f) = true ↔ ∀ v ∈ vs, FixVarDef f v := by
  simp [List.all_eq_true, fixVarDefB_iff]

theorem fixOpB_iff (f : Bytes → Bytes) (o : OperationDef) : fixOpB f o = true ↔ FixOp f o := by
  simp only [fixOpB, FixOp, Bool.and_eq_true, decide_eq_true_eq, fixVarDefsB_iff, fixDirsB_iff, fixSelsB_iff]

theorem fixFragB_iff (f : Bytes → Bytes) (fr : FragmentDef) : fixFragB f fr = true ↔ FixFrag f fr := by
  simp only [fixFragB, FixFrag, Bool.and_eq_true, decide_eq_true_eq, fixVarDefsB_iff, fixDirsB_iff, fixSelsB_iff]

theorem fixDocB_iff (f : Bytes → Bytes) (d : QueryDoc) : fixDocB f d = true ↔ FixDoc f d := by
  simp [fixDocB, FixDoc, List.all_eq_true, fixOpB_iff, fixFragB_iff]

theorem utf8CleanB_iff (d : QueryDoc) : utf8CleanB d = true ↔ Utf8Clean d := fixDocB_iff sanitize d

instance (d : QueryDoc) : Decidable (Utf8Clean d) := decidable_of_iff _ (utf8CleanB_iff d)

theorem nth?_imgSels (f : Bytes → Bytes) (l : Bool) :
    ∀ (ss : Selections) (i : Nat), nth? (imgSels f l ss) i = (nth? ss i).map (imgSel f l)
  | .nil, i => by simp [imgSels, nth?]
  | .cons s rest, 0 => by simp [imgSels, nth?]
  | .cons s rest, i + 1 => by simpa [imgSels, nth?] using nth?_imgSels f l rest i

theorem subsOf_imgSel (f : Bytes → Bytes) (s : Selection) :
    subsOf (imgSel f false s) = imgSels f false (subsOf s) := by
  cases s <;> simp [imgSel, subsOf, imgSels]

theorem kindOf_imgSel (f : Bytes → Bytes) (s : Selection) : kindOf (imgSel f false s) = kindOf s := by
  cases s <;> simp [imgSel, kindOf]

theorem selAt_imgSels (f : Bytes → Bytes) (path : List Nat) :
    ∀ (ss : Selections) (i : Nat),
      selAt (imgSels f false ss) i path = (selAt ss i path).map (imgSel f false) := by
  induction path with
  | nil => intro ss i; simp [selAt, nth?_imgSels]
  | cons j path ih =>
    intro ss i
    simp only [selAt, nth?_imgSels]
    cases nth? ss i <;> simp [subsOf_imgSel, ih]

theorem docRoot_imgDoc (f : Bytes → Bytes) (d : QueryDoc) (r : Root) :
    docRoot (imgDoc f false d) r = (docRoot d r).map (imgSels f false) := by
  cases r <;> simp [docRoot, imgDoc, List.getElem?_map, Function.comp_def, imgOp, imgFrag]

theorem docSelAt_imgDoc (f : Bytes → Bytes) (d : QueryDoc) (r : Root) (i : Nat) (path : List Nat) :
    docSelAt (imgDoc f false d) r i path = (docSelAt d r i path).map (imgSel f false) := by
  simp only [docSelAt, docRoot_imgDoc]
  cases docRoot d r <;> simp [selAt_imgSels]

theorem sanitizeFuel_ascii : ∀ (fuel : Nat) (bs : Bytes), bs.length ≤ fuel → (∀ x ∈ bs, x < 128) →
    sanitizeFuel fuel bs = bs
  | 0, [], _, _ => rfl
  | fuel + 1, [], _, _ => rfl
  | fuel + 1, b :: rest, hl, ha => by
    have hb : b < 128 := ha b (by simp)
    have hne : b ≠ runeError := by unfold runeError; omega
    have ih := sanitizeFuel_ascii fuel rest (by simpa using hl) fun x hx => ha x (by simp [hx])
    simp [sanitizeFuel, decodeRune, hb, hne, ih]

theorem imgType_idem (t : GType) : imgType id (imgType id t) = imgType id t := by
  induction t <;> simp_all [imgType]

mutual
  theorem imgValue_idem (v : Value) : imgValue id (imgValue id v) = imgValue id v := by
    match v with
    | .mk k raw ch p => simp [imgValue, imgChildren_idem ch]
  theorem imgChildren_idem (ch : Children) : imgChildren id (imgChildren id ch) = imgChildren id ch := by
    match ch with
    | .nil => simp [imgChildren]
    | .cons n v p rest => simp [imgChildren, imgValue_idem v, imgChildren_idem rest]
end

theorem imgArg_idem (a : Argument) : imgArg id (imgArg id a) = imgArg id a := by
  simp [imgArg, imgValue_idem]

theorem imgArgs_idem (as : List Argument) : (as.map (imgArg id)).map (imgArg id) = as.map (imgArg id) := by
  simp [List.map_map, Function.comp_def, imgArg_idem]

theorem imgDir_idem (d : Directive) : imgDir id (imgDir id d) = imgDir id d := by
  simp [imgDir, imgArg_idem]

theorem imgDirs_idem (ds : List Directive) : (ds.map (imgDir id)).map (imgDir id) = ds.map (imgDir id) := by
  simp [List.map_map, Function.comp_def, imgDir_idem]

mutual
  theorem imgSel_idem (s : Selection) : imgSel id false (imgSel id false s) = imgSel id false s := by
    match s with
    | .field al nm args ds sel p => simp [imgSel, imgArg_idem, imgDir_idem, imgSels_idem sel]
    | .spread nm ds p => simp [imgSel, imgDir_idem]
    | .inline tc ds sel p => simp [imgSel, imgDir_idem, imgSels_idem sel]
  theorem imgSels_idem (ss : Selections) : imgSels id false (imgSels id false ss) = imgSels id false ss := by
    match ss with
    | .nil => simp [imgSels]
    | .cons s rest => simp [imgSels, imgSel_idem s, imgSels_idem rest]
end

theorem imgVarDef_idem (v : VarDef) : imgVarDef id (imgVarDef id v) = imgVarDef id v := by
  simp [imgVarDef, imgType_idem, imgValue_idem, imgDir_idem, Function.comp_def]

theorem imgVarDefs_idem (vs : List VarDef) : (vs.map (imgVarDef id)).map (imgVarDef id) = vs.map (imgVarDef id) := by
  simp [List.map_map, Function.comp_def, imgVarDef_idem]

theorem kindOf_of_single {disc : Disc} {k : SelKind} {kvs : JFields} {s : Selection} {rest : Selections}
    (hd : disc (.obj kvs) = [k]) (h : decSelItems disc (.cons (.obj kvs) .nil) = .cons s rest) :
    rest = .nil ∧ kindOf s = k := by
  have key : ∀ {α : Type} (r : Dec α) (g : α → Selection), (∀ a, kindOf (g a) = k) →
      consOpt (match r.map g with | .ok sel => some sel | .error _ => none) .nil = .cons s rest →
      rest = .nil ∧ kindOf s = k := by
    intro α r g hg h
    cases r <;> simp [Except.map, consOpt] at h
    exact ⟨h.2.symm, h.1 ▸ hg _⟩
  simp only [decSelItems, hd] at h
  cases k
  · exact key _ FieldAcc.toSel (fun _ => rfl) h
  · exact key _ spreadOf (fun _ => rfl) h
  · exact key _ InlineAcc.toSel (fun _ => rfl) h

end Gql.Json
