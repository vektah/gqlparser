import GqlModel.Lexer.BlockString
/-
  `splitLines` in equations: a newline starts a line, any other byte joins the first line of the rest
  (which always exists), and so does a whole prefix without newline.
-/
namespace Gql.Lexer

theorem splitLines_cons_nl (t : Bytes) : splitLines (10 :: t) = [] :: splitLines t := by simp [splitLines]

theorem splitLines_eq_cons (t : Bytes) : ∃ l ls, splitLines t = l :: ls := by
  induction t with
  | nil => exact ⟨[], [], rfl⟩
  | cons b t ih =>
    obtain ⟨l, ls, e⟩ := ih
    unfold splitLines
    split
    · exact ⟨_, _, rfl⟩
    · exact ⟨b :: l, ls, by rw [e]⟩

theorem splitLines_ne_nil (t : Bytes) : splitLines t ≠ [] := by
  obtain ⟨l, ls, e⟩ := splitLines_eq_cons t
  simp [e]

theorem splitLines_cons_ne {b : Nat} (h : b ≠ 10) {t l : Bytes} {ls : List Bytes} (hs : splitLines t = l :: ls) :
    splitLines (b :: t) = (b :: l) :: ls := by
  rw [splitLines.eq_def]
  simp only [h, if_false, hs]

theorem splitLines_append_prefix (p : Bytes) (h : 10 ∉ p) {X l : Bytes} {ls : List Bytes}
    (hs : splitLines X = l :: ls) : splitLines (p ++ X) = (p ++ l) :: ls := by
  induction p with
  | nil => simpa using hs
  | cons b p ih =>
    rw [List.cons_append, splitLines_cons_ne (by intro e; simp [e] at h) (ih (by intro e; simp [e] at h))]
    rfl

end Gql.Lexer
