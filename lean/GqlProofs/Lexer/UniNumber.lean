import GqlProofs.Lexer.NumShape
import GqlProofs.Lexer.Utf8Dec
/-
  The number scanners of the specification only ever test the next character for Digit, `.`, a sign
  and NameStart (`e`, `E` among them), so a rest that is empty or starts with any other character
  (`NumEnd X`) behaves exactly like the end of the text: a code point ≥ 128 (`Opaque X`) is such a
  character, and so is a separator or punctuator (Format/NumExt.lean).
  The prefix `pre` is arbitrary (no ASCII hypothesis).
-/
namespace Gql.Lexer
open Gql.Lexer.Spec

/-- `omega` after exposing `Cp = Nat` (literals from the specification are typed `Cp`) -/
local macro "cpomega" : tactic => `(tactic| ((try simp only [Cp] at *); omega))

def NumEnd (X : List Nat) : Prop :=
  ∀ c t, X = c :: t →
    c ≠ 43 ∧ c ≠ 45 ∧ c ≠ 46 ∧ ¬ (48 ≤ c ∧ c ≤ 57) ∧ ¬ (65 ≤ c ∧ c ≤ 90) ∧ c ≠ 95 ∧ ¬ (97 ≤ c ∧ c ≤ 122)

theorem NumEnd.of_opaque {X : List Nat} (h : Opaque X) : NumEnd X := fun c t e => by
  have := h c t e; omega

theorem NumEnd.isDigitC {c : Nat} {t : List Nat} (h : NumEnd (c :: t)) : isDigitC c = false := by
  have := h c t rfl
  simp [Spec.isDigitC]; cpomega

theorem NumEnd.isNameStartC {c : Nat} {t : List Nat} (h : NumEnd (c :: t)) : isNameStartC c = false := by
  have := h c t rfl
  have h95 : ¬ c = 95 := by omega
  simp [Spec.isNameStartC, isLetter, h95]; cpomega

theorem NumEnd.isNameCont {c : Nat} {t : List Nat} (h : NumEnd (c :: t)) : isNameCont c = false := by
  have := h c t rfl
  simp [Lexer.isNameCont, isNameStart, isDigit]; omega

theorem isDigitC_high {c : Nat} (h : 128 ≤ c) : isDigitC c = false :=
  (NumEnd.of_opaque (Opaque_cons h [])).isDigitC

theorem isNameStartC_high {c : Nat} (h : 128 ≤ c) : isNameStartC c = false :=
  (NumEnd.of_opaque (Opaque_cons h [])).isNameStartC

theorem isNameCont_high {c : Nat} (h : 128 ≤ c) : isNameCont c = false :=
  (NumEnd.of_opaque (Opaque_cons h [])).isNameCont

theorem spanP_numEnd (p : Cp → Bool) (pre X : List Cp) (hX : ∀ c t, X = c :: t → p c = false) :
    spanP p (pre ++ X) = ((spanP p pre).1, (spanP p pre).2 ++ X) := by
  induction pre with
  | nil =>
    cases X with
    | nil => simp [spanP]
    | cons c t => simp [spanP, hX c t rfl]
  | cons a pre ih =>
    simp only [List.cons_append, spanP]
    cases h : p a
    · simp
    · simp [ih]

theorem numberFollowOk_numEnd (r X : List Cp) (hX : NumEnd X) :
    numberFollowOk (r ++ X) = numberFollowOk r := by
  cases r with
  | nil =>
    cases X with
    | nil => rfl
    | cons c t =>
      have h46 : (c == 46) = false := by have := hX c t rfl; simp; cpomega
      simp [numberFollowOk, hX.isDigitC, hX.isNameStartC, h46]
  | cons c t => rfl

theorem NumLex.within {k : Kind} {lex pre X r : List Nat} (hl : NumLex k lex) (hX : NumEnd X)
    (h : pre ++ X = lex ++ r) : ∃ r0, pre = lex ++ r0 ∧ r = r0 ++ X := by
  rcases List.append_eq_append_iff.1 h with ⟨a, rfl, hXa⟩ | ⟨r0, h1, h2⟩
  · cases a with
    | nil => exact ⟨[], by simp, hXa.symm⟩
    | cons c a =>
      have h1 := hX c _ hXa
      have h2 := hl.chars c (by simp)
      unfold NumChar at h2
      omega
  · exact ⟨r0, h1, h2⟩

theorem numberToken_numEnd (pre X : List Cp) (hX : NumEnd X) :
    numberToken (pre ++ X) = (numberToken pre).map (fun p => (p.1, p.2.1, p.2.2 ++ X)) := by
  cases h : numberToken pre with
  | some q =>
    obtain ⟨k, lex, r⟩ := q
    obtain ⟨rfl, hl, hf⟩ := numberToken_iff.1 h
    exact numberToken_iff.2 ⟨List.append_assoc .., hl, by rwa [numberFollowOk_numEnd r X hX]⟩
  | none =>
    -- a number at the head of `pre ++ X` lies within `pre`, and is a number there
    cases h' : numberToken (pre ++ X) with
    | none => rfl
    | some q =>
      obtain ⟨k, lex, r⟩ := q
      obtain ⟨e, hl, hf⟩ := numberToken_iff.1 h'
      obtain ⟨r0, rfl, rfl⟩ := hl.within hX e
      rw [numberFollowOk_numEnd r0 X hX] at hf
      rw [numberToken_iff.2 ⟨rfl, hl, hf⟩] at h
      cases h

theorem numberToken_opaque (pre X : List Cp) (hX : Opaque X) :
    numberToken (pre ++ X) = (numberToken pre).map (fun p => (p.1, p.2.1, p.2.2 ++ X)) :=
  numberToken_numEnd pre X (.of_opaque hX)

theorem nameSpan_numEnd (pre X : Bytes) (hX : NumEnd X) :
    nameSpan (pre ++ X) = ((nameSpan pre).1, (nameSpan pre).2 ++ X) := by
  rw [nameSpan_eq_spanP, nameSpan_eq_spanP]
  exact spanP_numEnd _ pre X fun c t e => by rw [← isNameCont_eq]; exact (e ▸ hX).isNameCont

theorem nameSpan_opaque (pre X : Bytes) (hX : Opaque X) :
    nameSpan (pre ++ X) = ((nameSpan pre).1, (nameSpan pre).2 ++ X) :=
  nameSpan_numEnd pre X (.of_opaque hX)

theorem quoteRun_opaque (pre X : Bytes) (hX : Opaque X) : quoteRun (pre ++ X) = quoteRun pre := by
  induction pre with
  | nil =>
    cases X with
    | nil => rfl
    | cons c t => have := hX c t rfl; rw [List.nil_append, quoteRun_ne c t (by omega)]; rfl
  | cons a pre ih =>
    by_cases h : a = 34
    · subst h; simp [quoteRun, ih]
    · rw [List.cons_append, quoteRun_ne a _ h, quoteRun_ne a _ h]

end Gql.Lexer
