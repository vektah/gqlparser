import GqlProofs.Lexer.NumShape
/-
  Progress of the lexer model on every byte string, well-formed or not: every scanner returns a
  suffix of what it was given, and a non-EOF token consumes at least one byte.  Basis of
  `C01_lexAll_fuel` / `C01_lexAll_len`.  `readTokenBody_cases` lists the ways `ReadToken` produces its
  result; the facts about its tokens are read off that list.  At the end, what the parser-soundness
  proofs need of the tokens `readToken` returns: a token whose kind carries no text (punctuators, `...`,
  EOF) has the empty value; no token has kind `Invalid`; the rune offsets move forward (a token starts at
  or after the cursor it was read from, and a non-EOF token ends the read at a cursor strictly after its
  start).
-/
namespace Gql.Lexer

theorem ws_len_endR (rest : Bytes) (c : Cur) :
    (ws rest c).1.length ≤ rest.length ∧ c.endR ≤ (ws rest c).2.endR := by
  fun_induction ws rest c <;> simp_all [Cur.adv, Cur.newline] <;> omega

theorem ws_len (rest : Bytes) (c : Cur) : (ws rest c).1.length ≤ rest.length := (ws_len_endR rest c).1

theorem commentSpan_len (l : Bytes) : (commentSpan l).2.2.length ≤ l.length := by
  fun_induction commentSpan l <;> simp_all [List.length_drop] <;> omega

theorem quoteRun_le (l : Bytes) : quoteRun l ≤ l.length := by
  fun_induction quoteRun l <;> simp_all <;> omega

def Step.restLe (s : Step) (n : Nat) : Prop :=
  match s with
  | .tok _ r _ => r.length ≤ n
  | .err _ => True

theorem Step.restLe_mono {s : Step} {a b : Nat} (h : s.restLe a) (hab : a ≤ b) : s.restLe b := by
  cases s <;> simp_all [Step.restLe]; omega

def Step.progress (s : Step) (n : Nat) : Prop :=
  match s with
  | .tok t r _ => r.length ≤ n ∧ (t.kind ≠ .eof → r.length < n)
  | .err _ => True

theorem Step.progress_of_lt {s : Step} {a n : Nat} (h : s.restLe a) (han : a < n) : s.progress n := by
  cases s <;> simp_all [Step.restLe, Step.progress]; omega

def Step.strAt (st : Step) (q lo : Nat) : Prop :=
  match st with
  | .tok t _ c' => t.start = q ∧ lo < c'.endR ∧ (t.kind = .string ∨ t.kind = .blockString)
  | .err _ => True

/-- one more turn of a scanning loop: the cursor was further left, the text longer -/
theorem Step.scan_mono {st : Step} {q a b m n : Nat} (h : st.strAt q a ∧ st.restLe m) (hab : b ≤ a)
    (hmn : m ≤ n) : st.strAt q b ∧ st.restLe n := by
  refine ⟨?_, Step.restLe_mono h.2 hmn⟩
  cases st with
  | err e => trivial
  | tok t r c => exact ⟨h.1.1, Nat.lt_of_le_of_lt hab h.1.2.1, h.1.2.2⟩

theorem readStringLoop_scan (q : Cur) (l : Bytes) (c : Cur) (acc : Bytes) (buf : Bool) :
    (readStringLoop q l c acc buf).strAt q.endR c.endR ∧ (readStringLoop q l c acc buf).restLe l.length := by
  fun_induction readStringLoop q l c acc buf
  case case4 => simp [Step.strAt, Step.restLe, Cur.adv]
  case case6 ih => exact Step.scan_mono ih (by simp [Cur.adv]) (by simp only [List.length_cons]; omega)
  case case9 ih => exact Step.scan_mono ih (by simp [Cur.adv]) (by simp only [List.length_cons]; omega)
  case case11 ih => exact Step.scan_mono ih (by simp [Cur.adv]) (by simp only [List.length_cons, List.length_drop]; omega)
  all_goals exact ⟨trivial, trivial⟩

theorem readBlockLoop_scan (q : Cur) (l : Bytes) (c : Cur) (acc : Bytes) :
    (readBlockLoop q l c acc).strAt q.endR c.endR ∧ (readBlockLoop q l c acc).restLe l.length := by
  fun_induction readBlockLoop q l c acc
  case case2 n hn => simp [Step.strAt, Step.restLe, Cur.adv]; omega
  case case4 ih => exact Step.scan_mono ih (by simp [Cur.adv]) (by simp only [List.length_cons]; omega)
  case case5 ih => exact Step.scan_mono ih (by simp [Cur.adv]) (by simp only [List.length_cons]; omega)
  case case6 ih => exact Step.scan_mono ih (by simp [Cur.adv, Cur.newline]) (by simp only [List.length_cons]; omega)
  case case7 ih => exact Step.scan_mono ih (by simp [Cur.adv, Cur.newline]) (by simp only [List.length_cons]; omega)
  case case8 c' ih =>
    exact Step.scan_mono ih (by simp only [c']; split <;> simp [Cur.adv, Cur.newline])
      (by simp only [List.length_cons, List.length_drop]; omega)
  all_goals exact ⟨trivial, trivial⟩

/-- the `buf` flag (has an escape sequence been seen) does not influence the loop: the value keeps the
    source bytes of every unescaped character either way (see the comment on `readStringLoop`) -/
theorem readStringLoop_buf_false (q : Cur) (l : Bytes) (c : Cur) (acc : Bytes) (b : Bool) :
    readStringLoop q l c acc b = readStringLoop q l c acc false := by
  fun_induction readStringLoop q l c acc b
  all_goals (conv => rhs; rw [readStringLoop.eq_def])
  all_goals simp_all
  split
  · exfalso; simp_all
  · rfl

theorem unexpectedChar_err (c : Cur) (b : Nat) : ∃ e, unexpectedChar c b = .err e := by
  unfold unexpectedChar; split <;> (try split) <;> exact ⟨_, rfl⟩

theorem readNumber_progress (c : Cur) (rest : Bytes) (n : Nat) (hn : rest.length ≤ n) :
    (readNumber c rest).progress n := by
  cases h : readNumber c rest with
  | err e => trivial
  | tok t r c' =>
    obtain ⟨k, lex, _, hne, _, _, e, _⟩ := readNumber_tok h
    have : 0 < lex.length := List.length_pos_iff.2 hne
    rw [e, List.length_append] at hn
    exact ⟨by omega, fun _ => by omega⟩

/-- kinds whose tokens carry their text -/
def Kind.valued : Kind → Bool
  | .name | .int | .float | .string | .blockString | .comment => true
  | _ => false

theorem punct_valued {b : Nat} {k : Kind} (h : punct b = some k) : k.valued = false ∧ k ≠ .eof ∧ k ≠ .invalid :=
  (by decide : ∀ p ∈ punctTable, p.2.valued = false ∧ p.2 ≠ Kind.eof ∧ p.2 ≠ Kind.invalid) (b, k)
    (mem_of_lookup h)

theorem readTokenBody_punct (b : Nat) (tl : Bytes) (c : Cur) (k : Kind) (h : punct b = some k) :
    readTokenBody (b :: tl) c = simpleTok k [] c 1 1 tl := by
  simp only [readTokenBody, h]

theorem readTokenBody_other (b : Nat) (tl : Bytes) (c : Cur) (h : punct b = none) :
    readTokenBody (b :: tl) c =
      if b = 46 then
        match tl with
        | 46 :: 46 :: tl' => simpleTok .spread [] c 3 3 tl'
        | _ => unexpectedChar c b
      else if b = 35 then
        simpleTok .comment ((b :: tl).take ((commentSpan tl).1 + 1)) c ((commentSpan tl).1 + 1)
          ((commentSpan tl).2.1 + 1) (commentSpan tl).2.2
      else if isNameStart b then
        simpleTok .name (b :: (nameSpan tl).1) c ((nameSpan tl).1.length + 1) ((nameSpan tl).1.length + 1)
          (nameSpan tl).2
      else if b = 45 ∨ isDigit b then readNumber c (b :: tl)
      else if b = 34 then
        match tl with
        | 34 :: 34 :: tl' => readBlockLoop c tl' (c.adv 3 3) []
        | _ => readStringLoop c tl (c.adv 1 1) [] false
      else unexpectedChar c b := by
  simp only [readTokenBody, h]
  rfl

theorem ite_ind {α} {P : α → Prop} {c : Prop} [Decidable c] {a b : α} (ha : c → P a) (hb : ¬ c → P b) :
    P (if c then a else b) := by
  split
  · exact ha ‹_›
  · exact hb ‹_›

theorem nameSpan_all_cont (l : Bytes) : (nameSpan l).1.all isNameCont = true := by
  induction l with
  | nil => rfl
  | cons b tl ih =>
    cases hb : isNameCont b
    · simp [nameSpan, hb]
    · simp only [nameSpan, hb, if_true, List.all_cons, Bool.true_and]
      exact ih

theorem readTokenBody_cases {P : Step → Prop} (rest : Bytes) (c : Cur)
    (eof : rest = [] → P (simpleTok .eof [] c 0 0 []))
    (simple : ∀ k v nb nr r, k ≠ .eof → k ≠ .invalid → k ≠ .int → k ≠ .float → (k.valued = false → v = []) →
      (k = .name → ∃ b tl, v = b :: tl ∧ isNameStart b = true ∧ tl.all isNameCont = true) → 0 < nr →
      r.length < rest.length → P (simpleTok k v c nb nr r))
    (err : ∀ e, P (.err e)) (num : P (readNumber c rest))
    (blk : ∀ tl, rest = 34 :: 34 :: 34 :: tl → P (readBlockLoop c tl (c.adv 3 3) []))
    (str : ∀ tl, rest = 34 :: tl → P (readStringLoop c tl (c.adv 1 1) [] false)) :
    P (readTokenBody rest c) := by
  cases rest with
  | nil => exact eof rfl
  | cons b tl =>
    have herr : P (unexpectedChar c b) := by obtain ⟨e, he⟩ := unexpectedChar_err c b; rw [he]; exact err e
    cases hp : punct b with
    | some k =>
      obtain ⟨h1, h2, h3⟩ := punct_valued hp
      rw [readTokenBody_punct b tl c k hp]
      exact simple k [] 1 1 tl h2 h3 (by rintro rfl; cases h1) (by rintro rfl; cases h1) (fun _ => rfl)
        (fun e => by rw [e] at h1; cases h1) (by omega) (by simp)
    | none =>
      rw [readTokenBody_other b tl c hp]
      refine ite_ind (fun h46 => ?_) fun _ => ite_ind (fun _ => ?_) fun _ => ite_ind (fun hb => ?_) fun _ =>
        ite_ind (fun _ => num) fun _ => ite_ind (fun h34 => ?_) fun _ => herr
      · split
        · exact simple .spread [] 3 3 _ (by decide) (by decide) (by decide) (by decide) (fun _ => rfl) nofun
            (by omega) (by simp; omega)
        · exact herr
      · have := commentSpan_len tl
        exact simple .comment _ _ _ _ (by decide) (by decide) (by decide) (by decide) nofun nofun (by omega)
          (by simp; omega)
      · have := congrArg List.length (nameSpan_append tl)
        exact simple .name _ _ _ _ (by decide) (by decide) (by decide) (by decide) nofun
          (fun _ => ⟨b, _, rfl, hb, nameSpan_all_cont tl⟩) (by omega) (by simp at this ⊢; omega)
      · subst h34
        split
        · exact blk _ rfl
        · exact str tl rfl

theorem readTokenBody_progress (rest1 : Bytes) (c1 : Cur) (n : Nat) (hws : rest1.length ≤ n) :
    (readTokenBody rest1 c1).progress n :=
  readTokenBody_cases (P := fun st => st.progress n) rest1 c1 (fun h => by simp [Step.progress, simpleTok])
    (fun k v nb nr r _ _ _ _ _ _ _ hr => ⟨by omega, fun _ => by omega⟩) (fun e => trivial)
    (readNumber_progress c1 rest1 n hws)
    (fun tl e => Step.progress_of_lt (readBlockLoop_scan c1 tl _ _).2 (by rw [e] at hws; simp at hws; omega))
    (fun tl e => Step.progress_of_lt (readStringLoop_scan c1 tl _ _ _).2 (by rw [e] at hws; simp at hws; omega))

theorem readToken_progress (rest : Bytes) (c : Cur) : (readToken rest c).progress rest.length :=
  readTokenBody_progress _ _ _ (ws_len rest c)

@[simp] theorem punct_quote : punct 34 = none := by decide
@[simp] theorem punct_backslash : punct 92 = none := by decide
@[simp] theorem punct_newline : punct 10 = none := by decide

def Step.okAt (st : Step) (lo : Nat) : Prop :=
  match st with
  | .tok t _ c' => lo ≤ t.start ∧ (t.kind = .eof ∨ t.start < c'.endR) ∧ (t.kind.valued = false → t.value = []) ∧
      t.kind ≠ .invalid ∧ (t.kind = .name → t.value ≠ [])
  | .err _ => True

theorem Step.okAt_mono {st : Step} {a b : Nat} (h : st.okAt a) (hab : b ≤ a) : st.okAt b := by
  cases st <;> simp_all [Step.okAt]; omega

theorem readNumber_okAt (start : Cur) (rest0 : Bytes) : (readNumber start rest0).okAt start.endR := by
  cases h : readNumber start rest0 with
  | err e => trivial
  | tok t r c' =>
    obtain ⟨k, lex, hk, hne, _, _, _, e⟩ := readNumber_tok h
    have : 0 < lex.length := List.length_pos_iff.2 hne
    injection e with e1 _ e3
    subst e1 e3
    rcases hk with rfl | rfl <;> simp [Step.okAt, Cur.adv, Kind.valued] <;> omega

theorem Step.okAt_of_strAt {st : Step} {q lo : Nat} (h : st.strAt q lo) (hq : q ≤ lo) : st.okAt q := by
  cases st with
  | err e => trivial
  | tok t r c =>
    obtain ⟨h1, h2, h3⟩ := h
    refine ⟨by omega, .inr (by omega), ?_⟩
    rcases h3 with h3 | h3 <;> simp [h3, Kind.valued]

theorem readTokenBody_okAt (rest1 : Bytes) (c1 : Cur) : (readTokenBody rest1 c1).okAt c1.endR :=
  readTokenBody_cases (P := fun st => st.okAt c1.endR) rest1 c1 (fun _ => by simp [Step.okAt, simpleTok])
    (fun k v nb nr r _ h2 _ _ h3 hn h5 _ => ⟨Nat.le_refl _, .inr (by simp [Cur.adv]; omega), h3, h2,
      fun e => by obtain ⟨b, tl, rfl, _⟩ := hn e; simp⟩)
    (fun e => trivial) (readNumber_okAt c1 rest1)
    (fun tl _ => Step.okAt_of_strAt (readBlockLoop_scan c1 tl _ _).1 (by simp [Cur.adv]))
    (fun tl _ => Step.okAt_of_strAt (readStringLoop_scan c1 tl _ _ _).1 (by simp [Cur.adv]))

theorem readToken_okAt (rest : Bytes) (c : Cur) : (readToken rest c).okAt c.endR :=
  Step.okAt_mono (readTokenBody_okAt _ _) (ws_len_endR rest c).2

end Gql.Lexer
