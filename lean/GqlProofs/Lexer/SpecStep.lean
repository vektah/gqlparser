import GqlProofs.Lexer.Progress
/-
  The dispatch of the lexer model (`readTokenBody`, i.e. `ReadToken` after `ws`) and of the
  specification (`Spec.item`) on the first character: one equation per token class.
-/
namespace Gql.Lexer
open Gql.Lexer.Spec

/-- the head of the text is not an Ignored character (what `ws` leaves, see `C03_ignored_only_ws`) -/
def NotIgnoredHead (l : Bytes) : Prop :=
  match l with
  | [] => True
  | b :: _ => ¬ (b = 9 ∨ b = 32 ∨ b = 44 ∨ b = 10 ∨ b = 13)

theorem item_nil : item [] = .eof := rfl

theorem isWhiteSpace_iff (b : Nat) : isWhiteSpace b = true ↔ (b = 9 ∨ b = 32) := by simp [isWhiteSpace]

theorem item_other (b : Nat) (tl : Bytes)
    (hi : ¬ (b = 9 ∨ b = 32 ∨ b = 44 ∨ b = 10 ∨ b = 13 ∨ b = 0xFEFF)) (h35 : b ≠ 35) (hp : punctOf b = none) :
    item (b :: tl) =
      if b = 46 then (match tl with | 46 :: 46 :: _ => .token .spread [] 3 | _ => .error)
      else if isNameStartC b then
        .token .name (b :: (spanP isNameContinueC tl).1) ((spanP isNameContinueC tl).1.length + 1)
      else if b = 45 ∨ isDigitC b then
        match numberToken (b :: tl) with
        | some (k, lex, _) => .token k lex lex.length
        | none => .error
      else if b = 34 then
        match tl with
        | 34 :: 34 :: body =>
          (match blockBody body with
           | some (raw, n, _) => .token .blockString (Spec.blockStringValue raw) (n + 3)
           | none => .error)
        | body =>
          (match stringBody body with
           | some (val, n, _) => .token .string val (n + 1)
           | none => .error)
      else .error := by
  have h1 : ¬ (b = 0xFEFF ∨ isWhiteSpace b = true ∨ b = 44 ∨ b = 10) := by
    rw [isWhiteSpace_iff]; omega
  have h13 : ¬ b = 13 := by omega
  unfold item
  simp only [h1, h13, h35, hp, if_false]
  rfl

theorem item_comment (tl : Bytes) :
    item (35 :: tl) = .token .comment (35 :: (spanP isCommentChar tl).1) ((spanP isCommentChar tl).1.length + 1) := by
  unfold item
  have h1 : ¬ ((35 : Nat) = 0xFEFF ∨ isWhiteSpace 35 = true ∨ (35 : Nat) = 44 ∨ (35 : Nat) = 10) := by decide
  simp only [h1, if_false]
  rfl

theorem item_punct (b : Nat) (tl : Bytes) (hi : ¬ (b = 9 ∨ b = 32 ∨ b = 44 ∨ b = 10 ∨ b = 13 ∨ b = 0xFEFF))
    (h35 : b ≠ 35) (k : Kind) (hp : punctOf b = some k) : item (b :: tl) = .token k [] 1 := by
  have h1 : ¬ (b = 0xFEFF ∨ isWhiteSpace b = true ∨ b = 44 ∨ b = 10) := by
    rw [isWhiteSpace_iff]; omega
  have h13 : ¬ b = 13 := by omega
  unfold item
  simp only [h1, h13, h35, hp, if_false]

theorem item_block (body : Bytes) :
    item (34 :: 34 :: 34 :: body) = match blockBody body with
      | some (raw, n, _) => .token .blockString (Spec.blockStringValue raw) (n + 3)
      | none => .error := by
  rw [item_other 34 _ (by decide) (by decide) (by decide)]
  rfl

theorem punct_eq_punctOf (b : Nat) : punct b = punctOf b := by
  by_cases hb : b < 126
  · exact (by decide +kernel : ∀ b < 126, punct b = punctOf b) b hb
  · rw [punct_high (Nat.le_of_not_lt hb), eq_comm]
    simp only [punctOf, Cp, ite_eq_iff', reduceCtorEq, and_false, false_or, and_true]
    omega

theorem take_append_len {α} (x r : List α) : (x ++ r).take x.length = x := by simp
theorem drop_append_len {α} (x r : List α) : (x ++ r).drop x.length = r := by simp

theorem readTokenBody_name (b : Nat) (tl : Bytes) (c : Cur) (hp : punct b = none) (h46 : b ≠ 46)
    (h35 : b ≠ 35) (hns : isNameStart b = true) :
    readTokenBody (b :: tl) c =
      simpleTok .name (b :: (nameSpan tl).1) c ((nameSpan tl).1.length + 1) ((nameSpan tl).1.length + 1)
          (nameSpan tl).2 := by
  rw [readTokenBody_other b tl c hp]
  simp only [h46, h35, hns, if_false, if_true]

theorem readTokenBody_number (b : Nat) (tl : Bytes) (c : Cur) (hp : punct b = none) (h46 : b ≠ 46)
    (h35 : b ≠ 35) (hns : ¬ isNameStart b = true) (hnum : b = 45 ∨ isDigit b = true) :
    readTokenBody (b :: tl) c = readNumber c (b :: tl) := by
  rw [readTokenBody_other b tl c hp]
  simp only [h46, h35, hns, hnum, Bool.false_eq_true, if_false, if_true]

theorem readTokenBody_block (body : Bytes) (c : Cur) :
    readTokenBody (34 :: 34 :: 34 :: body) c = readBlockLoop c body (c.adv 3 3) [] := by
  rw [readTokenBody_other 34 _ c (by decide)]
  rfl

theorem readTokenBody_string (tl : Bytes) (c : Cur) (h : ∀ body, tl = 34 :: 34 :: body → False) :
    readTokenBody (34 :: tl) c = readStringLoop c tl (c.adv 1 1) [] false := by
  rw [readTokenBody_other 34 _ c (by decide)]
  have h1 : ¬ ((34 : Nat) = 46) := by decide
  have h2 : ¬ ((34 : Nat) = 35) := by decide
  have h3 : ¬ (isNameStart 34 = true) := by decide
  have h4 : ¬ ((34 : Nat) = 45 ∨ isDigit 34 = true) := by decide
  simp only [h1, h2, h3, h4, Bool.false_eq_true, if_false, if_true]

theorem readTokenBody_bad (b : Nat) (tl : Bytes) (c : Cur) (hp : punct b = none) (h46 : b ≠ 46)
    (h35 : b ≠ 35) (hns : ¬ isNameStart b = true) (hnum : ¬ (b = 45 ∨ isDigit b = true)) (h34 : b ≠ 34) :
    readTokenBody (b :: tl) c = unexpectedChar c b := by
  rw [readTokenBody_other b tl c hp]
  simp only [h46, h35, hns, hnum, h34, Bool.false_eq_true, if_false]

theorem readTokenBody_high (b : Nat) (tl : Bytes) (c : Cur) (hb : 128 ≤ b) :
    readTokenBody (b :: tl) c = unexpectedChar c b :=
  readTokenBody_bad b tl c (punct_high (by omega)) (by omega) (by omega)
    (by simp [isNameStart]; omega) (by simp [isDigit]; omega) (by omega)

end Gql.Lexer
