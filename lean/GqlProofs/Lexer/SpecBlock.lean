import GqlProofs.Lexer.Pos
import GqlProofs.Lexer.BlockSpec
/-
  The specification's block-string body (`Spec.blockBody`) by the cases of the model's
  `readBlockLoop`, and `normCR`: what the model does to the raw value while scanning (CR and CRLF
  become LF), which the specification's BlockStringValue() does not see.

  The model closes a block string with the LAST three quotes of a run of three or more quotes, the
  specification with the FIRST three (recorded known finding); when no quote follows the
  specification's closing quotes (`NoLongQuoteRun`), the two coincide.
-/
namespace Gql.Lexer
open Gql.Lexer.Spec

/-- CRLF and CR replaced by LF: what `readBlockLoop` does to the raw value while scanning -/
def normCR : List Nat → List Nat
  | [] => []
  | 13 :: 10 :: rest => 10 :: normCR rest
  | c :: rest => if c = 13 then 10 :: normCR rest else c :: normCR rest

theorem normCR_nil : normCR [] = [] := by simp [normCR]
theorem normCR_crlf (rest : List Nat) : normCR (13 :: 10 :: rest) = 10 :: normCR rest := by simp [normCR]
theorem normCR_cr (rest : List Nat) (h : ∀ t, rest = 10 :: t → False) : normCR (13 :: rest) = 10 :: normCR rest := by
  rw [normCR.eq_def]
  split
  · rename_i h'; simp at h'
  · rename_i h'; simp at h'; exact (h _ h').elim
  · rename_i h'; simp at h'; obtain ⟨rfl, rfl⟩ := h'; simp
theorem normCR_plain (c : Nat) (rest : List Nat) (hc : c ≠ 13) : normCR (c :: rest) = c :: normCR rest := by
  rw [normCR.eq_def]
  split
  · rename_i h'; simp at h'
  · rename_i h'; simp at h'; exact absurd h'.1 hc
  · rename_i h'; simp at h'; obtain ⟨rfl, rfl⟩ := h'; simp [hc]

theorem normCR_noCR (raw : List Nat) : 13 ∉ normCR raw := by
  fun_induction normCR raw with
  | case1 => simp
  | case2 rest ih => simp [ih]
  | case3 rest h ih => simp [ih]
  | case4 c rest h hc ih => simp [ih]; exact fun h => hc h.symm

theorem splitLinesC_cons (b : Nat) (t : List Nat) (h : b = 13 → ∀ t', t = 10 :: t' → False) :
    splitLinesC (b :: t) =
      if b = 10 ∨ b = 13 then [] :: splitLinesC t
      else match splitLinesC t with
        | [] => [[b]]
        | l :: ls => (b :: l) :: ls := by
  rw [splitLinesC.eq_def]
  split
  · rename_i heq; simp at heq
  · rename_i heq; simp at heq; exact (h heq.1 _ heq.2).elim
  · rename_i c rest hne heq
    simp at heq
    obtain ⟨rfl, rfl⟩ := heq
    rfl

theorem splitLinesC_crlf (t : List Nat) : splitLinesC (13 :: 10 :: t) = [] :: splitLinesC t := by
  simp [splitLinesC]

theorem splitLinesC_normCR (raw : List Nat) : splitLinesC (normCR raw) = splitLinesC raw := by
  fun_induction normCR raw with
  | case1 => rfl
  | case2 rest ih =>
    rw [splitLinesC_crlf, splitLinesC_cons 10 _ (by omega), ih]; simp
  | case3 rest h ih =>
    rw [splitLinesC_cons 10 _ (by omega), splitLinesC_cons 13 rest (fun _ t' ht => h t' rfl ht), ih]; simp
  | case4 c rest h hc ih =>
    rw [splitLinesC_cons c _ (fun h13 => absurd h13 hc), splitLinesC_cons c rest (fun h13 => absurd h13 hc), ih]

theorem blockStringValue_normCR (raw : List Nat) :
    Spec.blockStringValue (normCR raw) = Spec.blockStringValue raw := by
  unfold Spec.blockStringValue
  rw [splitLinesC_normCR]

theorem model_value_eq_spec (raw : List Nat) :
    blockStringValue (normCR raw) = Spec.blockStringValue raw := by
  rw [blockStringValue_eq_spec _ (normCR_noCR raw), blockStringValue_normCR]

/-- prepend the raw characters `cs` that took `k` source characters -/
def consB (cs : List Cp) (k : Nat) (o : Option (List Cp × Nat × List Cp)) : Option (List Cp × Nat × List Cp) :=
  match o with
  | some (raw, n, r) => some (cs ++ raw, n + k, r)
  | none => none

theorem blockBody_nil : blockBody [] = none := by simp [blockBody]
theorem blockBody_close (rest : List Cp) : blockBody (34 :: 34 :: 34 :: rest) = some ([], 3, rest) := by
  simp [blockBody]
theorem blockBody_esc (rest : List Cp) :
    blockBody (92 :: 34 :: 34 :: 34 :: rest) = consB [34, 34, 34] 4 (blockBody rest) := by
  rw [blockBody]
  cases blockBody rest <;> rfl
theorem blockBody_plain (c : Nat) (rest : List Cp) (h1 : ∀ r, c :: rest = 34 :: 34 :: 34 :: r → False)
    (h2 : ∀ r, c :: rest = 92 :: 34 :: 34 :: 34 :: r → False) :
    blockBody (c :: rest) = if !isSourceChar c then none else consB [c] 1 (blockBody rest) := by
  rw [blockBody.eq_def]
  split
  · rename_i h; simp at h
  · rename_i h; exact (h1 _ h).elim
  · rename_i h; exact (h2 _ h).elim
  · rename_i h
    simp at h
    obtain ⟨rfl, rfl⟩ := h
    split
    · rfl
    · cases blockBody rest <;> rfl

theorem blockBody_crlf (rest : List Cp) :
    blockBody (13 :: 10 :: rest) = consB [13, 10] 2 (blockBody rest) := by
  rw [blockBody_plain 13 _ (by intro r e; simp at e) (by intro r e; simp at e),
    blockBody_plain 10 rest (by intro r e; simp at e) (by intro r e; simp at e)]
  cases blockBody rest <;> rfl

/-- a successful recursive call of `blockBody`, out of its `do` block -/
theorem blockBody_bind {f : List Cp × Nat × List Cp → List Cp × Nat × List Cp} {l : List Cp}
    {p : List Cp × Nat × List Cp}
    (h : (do let x ← blockBody l; pure (f x)) = some p) : ∃ q, blockBody l = some q ∧ f q = p := by
  simpa [Option.bind_eq_some_iff] using h

theorem blockBody_head_lf (l raw' : List Cp) (n : Nat) (r : List Cp)
    (h : blockBody l = some (10 :: raw', n, r)) : ∃ t, l = 10 :: t := by
  revert h
  fun_cases blockBody l
  all_goals intro h
  case case3 | case5 =>
    obtain ⟨⟨val, m, r'⟩, hb, h⟩ := blockBody_bind h
    cases h
    try exact ⟨_, rfl⟩
  all_goals cases h

theorem quoteRun_pos (l : Bytes) (h : quoteRun l ≥ 1) : ∃ t, l = 34 :: t := by
  cases l with
  | nil => simp [quoteRun_nil] at h
  | cons a t =>
    by_cases ha : a = 34
    · exact ⟨t, by rw [ha]⟩
    · rw [quoteRun_ne a t ha] at h; omega

theorem quoteRun_ge3 (l : Bytes) (h : quoteRun l ≥ 3) :
    ∃ rest, l = 34 :: 34 :: 34 :: rest ∧ quoteRun l = quoteRun rest + 3 := by
  obtain ⟨t1, rfl⟩ := quoteRun_pos l (by omega)
  rw [quoteRun_q] at h ⊢
  obtain ⟨t2, rfl⟩ := quoteRun_pos t1 (by omega)
  rw [quoteRun_q] at h ⊢
  obtain ⟨t3, rfl⟩ := quoteRun_pos t2 (by omega)
  rw [quoteRun_q]
  exact ⟨t3, rfl, rfl⟩

/-- the first unescaped `"""` of the body is not directly followed by another quote (then the
    model's and the specification's closing quotes coincide); vacuous for unterminated bodies -/
def NoLongQuoteRun (body : List Cp) : Bool :=
  match blockBody body with
  | some (_, _, r) => quoteRun r == 0
  | none => true

theorem blockBody_drop_sub (l : List Cp) : ∀ {raw : List Cp} {n : Nat} {r : List Cp},
    blockBody l = some (raw, n, r) → l.drop n = r ∧ raw.Sublist l := by
  fun_induction blockBody l
  all_goals intro raw n r h
  case case2 => cases h; exact ⟨rfl, List.nil_sublist _⟩
  case case3 ih =>
    obtain ⟨⟨val, m, r'⟩, hb, h⟩ := blockBody_bind h
    cases h
    exact ⟨(ih hb).1, (((ih hb).2.cons_cons _).cons_cons _ |>.cons_cons _).cons _⟩
  case case5 ih =>
    obtain ⟨⟨val, m, r'⟩, hb, h⟩ := blockBody_bind h
    cases h
    exact ⟨(ih hb).1, (ih hb).2.cons_cons _⟩
  all_goals cases h

theorem blockBody_drop {l raw : List Cp} {n : Nat} {r : List Cp} (h : blockBody l = some (raw, n, r)) :
    l.drop n = r := (blockBody_drop_sub l h).1

theorem blockBody_ascii {l raw : List Cp} {n : Nat} {r : List Cp} (h : blockBody l = some (raw, n, r))
    (hA : Ascii l) : Ascii raw :=
  fun x hx => hA x ((blockBody_drop_sub l h).2.subset hx)

end Gql.Lexer
