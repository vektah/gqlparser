import GqlProofs.Lexer.SpecStep
import GqlProofs.Lexer.UniBlock
import GqlProofs.Lexer.UniBlockValue
import GqlProofs.Lexer.UniNumber
/-
  One step of the lexer model on the bytes `utf8Encode cps1` (`readTokenBody`, i.e. `ReadToken` after
  `ws`) against one lexical item of the specification on the code points `cps1` (`Spec.item`), for
  every list of Unicode scalar values whose head is not an Ignored character: `step_u`.  `StepU` says what
  the step is for each kind of item; for a token item, `TokU` lists what is known of the model's token and of
  the cursor after it (kind, value, extent, line and column, the position invariant `InvU`), for every kind of
  token alike.  Whole inputs (`UniLex`) and the per-step statements of C03 read their facts off it.
-/
namespace Gql.Lexer
open Gql.Lexer.Spec

/-- the head of the text is not an Ignored character (what `ws` leaves): blank, comma, line
    terminator or BOM -/
def NotIgnoredHeadU (l : List Nat) : Prop :=
  match l with
  | [] => True
  | c :: _ => ¬ (c = 9 ∨ c = 32 ∨ c = 44 ∨ c = 10 ∨ c = 13 ∨ c = 0xFEFF)

/-- The model's token `t` for the token item `(k, v, n)` of the specification at the head of `cps1`, read at
    cursor `c1` (position state `s1`): it covers the code points `x`, of which the first `n` are the item;
    the others are the quotes that directly follow the closing quotes of a block string, which the model
    takes into the token (`exact`: there are none under `NoLongQuoteRun`; `value`: the value is then the
    specified one). -/
structure TokU (s1 : PState) (c1 : Cur) (cps1 : List Nat) (k : Kind) (v : List Nat) (n : Nat)
    (t : Token) (x r : List Nat) (c' : Cur) : Prop where
  split : cps1 = x ++ r
  len : n ≤ x.length
  inv : InvU (foldPos s1 x) c' r
  kind : t.kind = k
  ne_eof : k ≠ .eof
  start : t.start = c1.endR
  stop : t.stop = c1.endR + n
  endR : c'.endR = c1.endR + x.length
  line : t.line = c1.line
  col : t.col = colOf c1.endR c1.ls + (if k = .string then 1 else 0)
  enc : ∃ w, t.value = utf8Encode w
  value : x.length = n → t.value = utf8Encode v
  -- the `match` of `BlocksOK`, word for word (not generalised over `split`), so that its conjunct applies as it stands
  exact : k ≠ .blockString ∨
    (match (generalizing := false) cps1 with | 34 :: 34 :: 34 :: body => NoLongQuoteRun body | _ => true) = true →
    x.length = n

/-- one step of the model (result `st`, on `utf8Encode cps1` from cursor `c1`) against the item `it` of the
    specification at the head of `cps1` -/
def StepU (s1 : PState) (c1 : Cur) (cps1 : List Nat) (it : Item) (st : Step) : Prop :=
  match it with
  | .eof => cps1 = []
  | .ignored _ => False
  | .error => ∃ e, st = .err e
  | .token k v n => ∃ t x r c', st = .tok t (utf8Encode r) c' ∧ TokU s1 c1 cps1 k v n t x r c'

theorem InvU_self (c : Cur) (rest : List Nat) : InvU ⟨c.line, c.ls, c.endR, false⟩ c rest :=
  ⟨⟨rfl, rfl, rfl⟩, nofun⟩

theorem isNameContinueC_hi {c : Nat} (h : 128 ≤ c) : isNameContinueC c = false := by
  rw [← isNameCont_eq]; exact isNameCont_high h

theorem isCommentChar_hi {c : Nat} (h : 128 ≤ c) : isCommentChar c = true := by
  have h1 : ¬ c = 10 := by omega
  have h2 : ¬ c = 13 := by omega
  have h3 : 32 ≤ c := by omega
  simp [isCommentChar, isSourceChar, isLineTerminatorStart, h1, h2, h3]

theorem item_high (c : Nat) (tl : List Nat) (h : 128 ≤ c) (hb : c ≠ 0xFEFF) : item (c :: tl) = .error := by
  have hn : ¬ (c = 45 ∨ isDigitC c = true) := by rw [isDigitC_high h]; simp; omega
  have h46 : ¬ c = 46 := by omega
  have h34 : ¬ c = 34 := by omega
  rw [item_other c tl (by omega) (by omega) (by rw [← punct_eq_punctOf]; exact punct_high (by omega))]
  simp only [h46, isNameStartC_high h, hn, h34, if_false, Bool.false_eq_true]

theorem item_bom (tl : List Nat) : item (0xFEFF :: tl) = .ignored 1 := by
  unfold item
  simp

theorem isCommentChar_noNL {c : Nat} (h : isCommentChar c = true) : c ≠ 10 ∧ c ≠ 13 := by
  refine ⟨?_, ?_⟩ <;> (intro e; subst e; revert h; decide)

theorem commentSpan_enc (l : List Nat) (hs : AllScalar l) :
    commentSpan (utf8Encode l) =
      ((utf8Encode (spanP isCommentChar l).1).length, (spanP isCommentChar l).1.length,
       utf8Encode (spanP isCommentChar l).2) := by
  induction l with
  | nil => simp [commentSpan, spanP, utf8Encode]
  | cons c t ih =>
    cases hb : utf8Encode (c :: t) with
    | nil => cases utf8Encode_eq_nil hb
    | cons b tl =>
      obtain ⟨hbc, hd, _, hdrop, _⟩ := enc_step (AllScalar_head hs) (utf8Encode t) hb.symm
      have hcc : isCommentChar c = decide (c > 0x1f ∨ c = 9) := by
        by_cases hc : c < 128
        · exact (by decide +kernel : ∀ b < 128, isCommentChar b = decide (b > 0x1f ∨ b = 9)) c hc
        · rw [isCommentChar_hi (by omega)]; exact (decide_eq_true (.inl (by omega))).symm
      rw [commentSpan, hd]
      simp only [hdrop, ih (AllScalar_tail hs), spanP, hcc]
      by_cases h : c > 0x1f ∨ c = 9
      · simp [h, utf8Encode_cons]; omega
      · simp [h, hb, utf8Encode_nil]

theorem nameSpan_enc (l : List Nat) (hs : AllScalar l) :
    nameSpan (utf8Encode l) = ((spanP isNameContinueC l).1, utf8Encode (spanP isNameContinueC l).2) := by
  induction l with
  | nil => simp [nameSpan, spanP, utf8Encode]
  | cons c t ih =>
    have iht := ih (AllScalar_tail hs)
    by_cases hc : c < 128
    · rw [utf8Encode_cons_ascii hc]
      simp only [nameSpan, spanP, iht, isNameCont_eq]
      split <;> simp [utf8Encode_cons_ascii hc]
    · obtain ⟨b, r, e, hb⟩ := enc_head_high (AllScalar_head hs) (by omega) t
      rw [e]
      simp only [nameSpan, spanP, isNameCont_high hb, isNameContinueC_hi (show 128 ≤ c by omega)]
      simp [e]

theorem isNameContinueC_lt {c : Nat} (h : isNameContinueC c = true) : c < 128 ∧ c ≠ 10 ∧ c ≠ 13 := by
  rw [← isNameCont_eq] at h
  refine ⟨?_, isNameCont_noNL h⟩
  simp [isNameCont, isNameStart, isDigit] at h; omega

theorem tok_u {s1 : PState} {c1 : Cur} (hA : AgreeU s1 c1) (t : Token) (c' : Cur) (vs x r : List Nat)
    (hv : t.value = utf8Encode vs) (hst : t.start = c1.endR) (hsp : t.stop = c1.endR + x.length)
    (hl : t.line = c1.line) (hcol : t.col = colOf c1.endR c1.ls + (if t.kind = .string then 1 else 0))
    (hc : c'.endR = c1.endR + x.length ∧ c'.line = c1.line ∧ c'.ls = c1.ls)
    (hk : t.kind ≠ .eof) (hnl : NoNL x) (hne : x ≠ []) :
    StepU s1 c1 (x ++ r) (.token t.kind vs x.length) (.tok t (utf8Encode r) c') := by
  obtain ⟨f1, f2, f3, f4⟩ := foldPos_noNL s1 x hnl
  obtain ⟨a1, a2, a3⟩ := hA
  exact ⟨t, x, r, c', rfl, rfl, Nat.le_refl _,
    ⟨⟨by rw [f1, hc.2.1, a1], by rw [f2, hc.2.2, a2], by rw [f3, hc.1, a3]⟩, fun h => by rw [f4 hne] at h; cases h⟩,
    rfl, hk, hst, hsp, hc.1, hl, hcol, ⟨vs, hv⟩, fun _ => hv, fun _ => rfl⟩

theorem simpleTok_u {s1 : PState} {c1 : Cur} (hA : AgreeU s1 c1) (k : Kind) (v : Bytes) (vs x r : List Nat) (nb : Nat)
    (hv : v = utf8Encode vs) (hk : k ≠ .string) (hk' : k ≠ .eof) (hnl : NoNL x) (hne : x ≠ []) :
    StepU s1 c1 (x ++ r) (.token k vs x.length) (simpleTok k v c1 nb x.length (utf8Encode r)) :=
  tok_u hA _ _ vs x r hv rfl rfl rfl (by simp [hk]) ⟨rfl, rfl, rfl⟩ hk' hnl hne

theorem step_comment_u {s1 : PState} {c1 : Cur} (hA : AgreeU s1 c1) (tl : List Nat) (hs : AllScalar tl) :
    StepU s1 c1 (35 :: tl) (.token .comment (35 :: (spanP isCommentChar tl).1) ((spanP isCommentChar tl).1.length + 1))
      (readTokenBody (35 :: utf8Encode tl) c1) := by
  have hsp := spanP_append isCommentChar tl
  have hall := spanP_all isCommentChar tl
  rw [readTokenBody_other 35 _ c1 (by decide), if_neg (by decide), if_pos rfl, commentSpan_enc tl hs]
  generalize (spanP isCommentChar tl).1 = x at hsp hall ⊢
  generalize (spanP isCommentChar tl).2 = r at hsp ⊢
  subst hsp
  exact simpleTok_u hA .comment _ (35 :: x) (35 :: x) r _
    (by rw [utf8Encode_append, utf8Encode_cons_ascii (show 35 < 128 by omega)]; simp)
    (by decide) (by decide) (NoNL_cons (by omega) fun c hc => isCommentChar_noNL (hall c hc)) (by simp)

theorem step_name_u {s1 : PState} {c1 : Cur} (hA : AgreeU s1 c1) (b : Nat) (tl : List Nat) (hb : b < 128)
    (hp : punct b = none) (h46 : b ≠ 46) (h35 : b ≠ 35) (hns : isNameStart b = true) (hs : AllScalar tl) :
    StepU s1 c1 (b :: tl) (.token .name (b :: (spanP isNameContinueC tl).1) ((spanP isNameContinueC tl).1.length + 1))
      (readTokenBody (b :: utf8Encode tl) c1) := by
  have hsp := spanP_append isNameContinueC tl
  have hall := spanP_all isNameContinueC tl
  rw [readTokenBody_name b _ c1 hp h46 h35 hns, nameSpan_enc tl hs]
  generalize (spanP isNameContinueC tl).1 = x at hsp hall ⊢
  generalize (spanP isNameContinueC tl).2 = r at hsp ⊢
  subst hsp
  have hx : Ascii (b :: x) := Ascii_cons hb fun c hc => (isNameContinueC_lt (hall c hc)).1
  exact simpleTok_u hA .name _ (b :: x) (b :: x) r _ (utf8Encode_ascii _ hx).symm (by decide) (by decide)
    (NoNL_cons (isNameCont_noNL (by simp [isNameCont, hns])) fun c hc => (isNameContinueC_lt (hall c hc)).2)
    (by simp)

theorem step_number_u {s1 : PState} {c1 : Cur} (hA : AgreeU s1 c1) (cps1 : List Nat) (hs : AllScalar cps1) :
    StepU s1 c1 cps1 (match numberToken cps1 with | some (k, lex, _) => .token k lex lex.length | none => .error)
      (readNumber c1 (utf8Encode cps1)) := by
  obtain ⟨pre, X, rfl, hA', hX⟩ := ascii_split cps1
  have hsX : AllScalar X := AllScalar_append_right hs
  have hm := readNumber_spec c1 (pre ++ utf8Encode X)
  rw [utf8Encode_ascii_append hA', numberToken_opaque pre X hX]
  rw [numberToken_opaque pre (utf8Encode X) (Opaque_enc hsX hX)] at hm
  cases hnt : numberToken pre with
  | none =>
    rw [hnt] at hm
    exact hm
  | some p =>
    obtain ⟨k, lex, r0⟩ := p
    have hp := readNumber_spec c1 pre
    rw [hnt] at hm hp
    obtain ⟨m1, _⟩ := hm
    obtain ⟨_, p2⟩ := hp
    obtain ⟨hk', hne, hnl, _⟩ := numberToken_some hnt
    have hA0 : Ascii r0 := by rw [p2] at hA'; exact Ascii_append_right hA'
    have hAl : Ascii lex := by rw [p2] at hA'; exact Ascii_append_left hA'
    have hd : pre ++ X = lex ++ (r0 ++ X) := by rw [p2, List.append_assoc]
    rw [m1, hd, ← utf8Encode_ascii_append hA0]
    exact tok_u hA ⟨k, lex, c1.endR, c1.endR + lex.length, c1.line, colOf c1.endR c1.ls⟩
      (c1.adv lex.length lex.length) lex lex (r0 ++ X) (utf8Encode_ascii _ hAl).symm rfl rfl rfl
      (by rcases hk' with rfl | rfl <;> simp) ⟨rfl, rfl, rfl⟩ (by rcases hk' with rfl | rfl <;> simp) hnl hne

theorem enc_not_prefix {tl : List Nat} (hs : AllScalar tl) (p : Bytes) (hp : Ascii p)
    (h : ∀ body, tl = p ++ body → False) : ∀ body, utf8Encode tl = p ++ body → False := by
  intro body e
  obtain ⟨t, e1, _, _⟩ := enc_ascii_prefix p hs e hp
  exact h t e1

theorem step_string_u {s1 : PState} {c1 : Cur} (hA : AgreeU s1 c1) (tl : List Nat) (hs : AllScalar tl) :
    StepU s1 c1 (34 :: tl) (match stringBody tl with | some (val, n, _) => .token .string val (n + 1) | none => .error)
      (readStringLoop c1 (utf8Encode tl) (c1.adv 1 1) [] false) := by
  have hm := readStringLoop_u c1 (utf8Encode tl) (c1.adv 1 1) [] false tl hs rfl
  cases hsb : stringBody tl with
  | none => rw [hsb] at hm; exact hm
  | some p =>
    obtain ⟨val, n, r⟩ := p
    rw [hsb] at hm
    obtain ⟨x, nb, e1, e2, e3, e4⟩ := hm
    subst e2
    rw [e4, e1]
    exact tok_u hA _ _ val (34 :: x) r (by simp) rfl (by simp [Cur.adv]; omega) rfl
      (by simp [Cur.adv, colOf]; omega) ⟨by simp [Cur.adv]; omega, rfl, rfl⟩ nofun
      (NoNL_cons (by omega) e3) (by simp)

theorem enc_cons3 {a : Nat} (ha : a < 128) (t : List Nat) :
    utf8Encode (a :: a :: a :: t) = a :: a :: a :: utf8Encode t := by
  rw [utf8Encode_cons_ascii ha, utf8Encode_cons_ascii ha, utf8Encode_cons_ascii ha]

theorem normCR_mem (raw : List Nat) : ∀ x ∈ normCR raw, x ∈ raw ∨ x = 10 := by
  fun_induction normCR raw with
  | case1 => simp
  | case2 rest ih =>
    intro x hx; simp at hx; rcases hx with rfl | hx
    · exact Or.inr rfl
    · rcases ih x hx with h | h
      · left; simp [h]
      · exact Or.inr h
  | case3 rest h ih =>
    intro x hx; simp at hx; rcases hx with rfl | hx
    · exact Or.inr rfl
    · rcases ih x hx with h | h
      · left; simp [h]
      · exact Or.inr h
  | case4 c rest h hc ih =>
    intro x hx; simp at hx; rcases hx with rfl | hx
    · left; simp
    · rcases ih x hx with h | h
      · left; simp [h]
      · exact Or.inr h

theorem blockBody_scalar {l raw : List Nat} {n : Nat} {r : List Nat} (h : blockBody l = some (raw, n, r))
    (hs : AllScalar l) : AllScalar (normCR raw) := by
  intro x hx
  rcases normCR_mem raw x hx with h1 | rfl
  · exact hs x ((blockBody_drop_sub l h).2.subset h1)
  · exact IsScalar_of_lt (by omega)

theorem step_block_u (body : List Nat) (c1 : Cur) (s : PState) (hs : AllScalar body)
    (hinv : InvU s (c1.adv 3 3) body) :
    BlkMatchesU c1 s (c1.adv 3 3) [] body (readTokenBody (utf8Encode (34 :: 34 :: 34 :: body)) c1)
      (blockBody body) := by
  rw [enc_cons3 (by omega), readTokenBody_block]
  exact readBlockLoop_u c1 (utf8Encode body) (c1.adv 3 3) [] body s hs rfl hinv

theorem step_blockTok_u {s1 : PState} {c1 : Cur} (hA : AgreeU s1 c1) (body : List Nat) (hs : AllScalar body) :
    StepU s1 c1 (34 :: 34 :: 34 :: body)
      (match blockBody body with
       | some (raw, n, _) => .token .blockString (Spec.blockStringValue raw) (n + 3)
       | none => .error)
      (readTokenBody (utf8Encode (34 :: 34 :: 34 :: body)) c1) := by
  have hm := step_block_u body c1 (foldPos s1 [34, 34, 34]) hs
    (InvU_noNL s1 c1 [34, 34, 34] body 3 hA (by intro x hx; simp at hx; omega) (by simp))
  cases hbb : blockBody body with
  | none => rw [hbb] at hm; exact hm
  | some p =>
    obtain ⟨raw, nb, r⟩ := p
    rw [hbb] at hm
    obtain ⟨c', x, e1, e2, e3, e4, e5⟩ := hm
    have hq : NoLongQuoteRun body = true → quoteRun r = 0 := by
      intro h; unfold NoLongQuoteRun at h; rw [hbb] at h; simpa using h
    have hsx : AllScalar (normCR raw ++ List.replicate (quoteRun r) 34) :=
      AllScalar_append (blockBody_scalar hbb hs) fun b hb => by
        rw [(List.mem_replicate.mp hb).2]; exact IsScalar_of_lt (by decide)
    have hval : blockStringValue ([].reverse ++ utf8Encode (normCR raw) ++ List.replicate (quoteRun r) 34) =
        utf8Encode (blockStringValue (normCR raw ++ List.replicate (quoteRun r) 34)) := by
      rw [← blockStringValue_enc _ hsx, utf8Encode_append,
        utf8Encode_ascii (List.replicate _ 34) fun b hb => by rw [(List.mem_replicate.mp hb).2]; decide]
      rfl
    refine ⟨_, 34 :: 34 :: 34 :: x, r.drop (quoteRun r), c', e5, by rw [e1]; rfl, by simp [e2],
      by simpa [foldPos_append] using e3, rfl, by decide, rfl, by simp [Cur.adv]; omega,
      by rw [e4]; simp [Cur.adv, e2]; omega, rfl, by simp, ⟨_, hval⟩, fun h => ?_, fun h => ?_⟩
    · have h0 : quoteRun r = 0 := by simp [e2] at h; omega
      show blockStringValue _ = _
      rw [hval, h0, List.replicate_zero, List.append_nil, model_value_eq_spec]
    · simp [e2, hq (h.resolve_left fun h => h rfl)]

theorem step_u (s1 : PState) (c1 : Cur) (cps1 : List Nat) (hs : AllScalar cps1) (hH : NotIgnoredHeadU cps1)
    (hinv : InvU s1 c1 cps1) : StepU s1 c1 cps1 (item cps1) (readTokenBody (utf8Encode cps1) c1) := by
  have hA := hinv.1
  cases cps1 with
  | nil => simp [item_nil, StepU]
  | cons b tl =>
    have hst := AllScalar_tail hs
    have hH' : ¬ (b = 9 ∨ b = 32 ∨ b = 44 ∨ b = 10 ∨ b = 13 ∨ b = 0xFEFF) := hH
    by_cases hb : b < 128
    case neg =>
      -- a non-ASCII character where a token must start
      rw [item_high b tl (by omega) (by omega)]
      obtain ⟨b0, r, e, hb0⟩ := enc_head_high (AllScalar_head hs) (by omega) tl
      rw [e, readTokenBody_high b0 r c1 hb0]
      exact unexpectedChar_err _ _
    case pos =>
    have henc : utf8Encode (b :: tl) = b :: utf8Encode tl := utf8Encode_cons_ascii hb tl
    by_cases h35 : b = 35
    · subst h35
      rw [item_comment]
      exact henc ▸ step_comment_u hA tl hst
    cases hp : punct b with
    | some k =>
      have hk := punct_some hp
      rw [item_punct b tl hH' h35 k ((punct_eq_punctOf b).symm.trans hp), henc, readTokenBody_punct b _ c1 k hp]
      exact simpleTok_u hA k [] [] [b] tl 1 rfl hk.2.2.2.1 hk.2.2.2.2.2
        (NoNL_cons ⟨hk.2.1, hk.2.2.1⟩ NoNL_nil) (by simp)
    | none =>
      -- both dispatches are chains of the same tests on `b`
      have hit := item_other b tl hH' h35 ((punct_eq_punctOf b).symm.trans hp)
      have hrt := readTokenBody_other b (utf8Encode tl) c1 hp
      by_cases h46 : b = 46
      · subst h46
        by_cases hsp : ∃ tl', tl = 46 :: 46 :: tl'
        · obtain ⟨tl', rfl⟩ := hsp
          rw [hit, enc_cons3 (by omega), readTokenBody_other 46 _ c1 hp]
          exact simpleTok_u hA .spread [] [] [46, 46, 46] tl' 3 rfl (by decide) (by decide)
            (by intro x hx; simp at hx; omega) (by simp)
        · have hsp' : ∀ tl', tl = 46 :: 46 :: tl' → False := fun tl' e => hsp ⟨tl', e⟩
          have hsp'' := enc_not_prefix hst [46, 46] (by intro x hx; simp at hx; omega) hsp'
          have hit' : item (46 :: tl) = .error := by rw [hit]; simp only [if_true]
          rw [hit', henc, hrt, if_pos rfl]
          split
          · exact (hsp'' _ ‹_›).elim
          · exact unexpectedChar_err _ _
      · by_cases hns : isNameStart b = true
        · have hns' : isNameStartC b = true := hns
          rw [hit, if_neg h46, if_pos hns']
          exact henc ▸ step_name_u hA b tl hb hp h46 h35 hns hst
        · have hns' : ¬ isNameStartC b = true := hns
          by_cases hnum : b = 45 ∨ isDigit b = true
          · have hnum' : b = 45 ∨ isDigitC b = true := hnum
            have hm := step_number_u hA (b :: tl) hs
            rw [henc, ← readTokenBody_number b _ c1 hp h46 h35 hns hnum, ← henc] at hm
            rw [hit, if_neg h46, if_neg hns', if_pos hnum']
            exact hm
          · have hnum' : ¬ (b = 45 ∨ isDigitC b = true) := hnum
            by_cases h34 : b = 34
            · subst h34
              by_cases hbl : ∃ body, tl = 34 :: 34 :: body
              · obtain ⟨body, rfl⟩ := hbl
                rw [item_block]
                exact step_blockTok_u hA body (AllScalar_tail (AllScalar_tail hst))
              · have hbl' : ∀ body, tl = 34 :: 34 :: body → False := fun body e => hbl ⟨body, e⟩
                have hm := step_string_u hA tl hst
                rw [← readTokenBody_string (utf8Encode tl) c1
                  (enc_not_prefix hst [34, 34] (by intro x hx; simp at hx; omega) hbl'), ← henc] at hm
                rw [hit, if_neg h46, if_neg hns', if_neg hnum', if_pos rfl]
                split
                · exact (hbl' _ rfl).elim
                · exact hm
            · rw [hit, if_neg h46, if_neg hns', if_neg hnum', if_neg h34, henc,
                readTokenBody_bad b _ c1 hp h46 h35 hns hnum h34]
              exact unexpectedChar_err _ _

end Gql.Lexer
