import GqlModel.Lexer.Spec
/-
  `Spec.stringBody` by the cases of the model's `readStringLoop`: one equation per form of the head
  of the text, in terms of the model's `unhex4` and `escapeOut`.
-/
namespace Gql.Lexer
open Gql.Lexer.Spec

theorem hexValue_eq (b : Nat) : hexValue b = hexC b := by
  unfold hexValue hexC
  by_cases h1 : 48 ≤ b ∧ b ≤ 57
  · simp [h1]
  · by_cases h2 : 97 ≤ b ∧ b ≤ 102
    · have h3 : ¬ (65 ≤ b ∧ b ≤ 70) := by omega
      simp [h1, h2, h3]
    · simp [h1, h2]

theorem escapeOut_eq (e : Nat) : escapeOut e = escapedChar e := by
  unfold escapeOut escapedChar
  by_cases h1 : e = 34
  · simp [h1]
  · by_cases h2 : e = 92
    · simp [h2]
    · by_cases h3 : e = 47
      · simp [h3]
      · simp [h1, h2, h3]

/-- prepend one decoded character that took `k` source characters -/
def consVal (v : Cp) (k : Nat) (o : Option (List Cp × Nat × List Cp)) : Option (List Cp × Nat × List Cp) :=
  match o with
  | some (val, n, r) => some (v :: val, n + k, r)
  | none => none

theorem stringBody_nil : stringBody [] = none := by simp [stringBody]
theorem stringBody_quote (r : List Cp) : stringBody (34 :: r) = some ([], 1, r) := by simp [stringBody]

theorem stringBody_u4 (a b c d : Nat) (rest : List Cp) :
    stringBody (92 :: 117 :: a :: b :: c :: d :: rest) =
      match unhex4 a b c d with
      | some v => consVal v 6 (stringBody rest)
      | none => none := by
  rw [stringBody]
  simp only [unhex4, hexValue_eq]
  cases hexC a <;> cases hexC b <;> cases hexC c <;> cases hexC d <;>
    simp [bind, Option.bind, consVal] <;> cases stringBody rest <;> rfl

theorem escapedChar_u : escapedChar 117 = none := by decide

theorem stringBody_esc (e : Nat) (rest : List Cp) (he : e ≠ 117) :
    stringBody (92 :: e :: rest) =
      match escapeOut e with
      | some v => consVal v 2 (stringBody rest)
      | none => none := by
  rw [stringBody.eq_def]
  split
  · rename_i h; simp at h
  · rename_i h; simp at h
  · rename_i h; simp at h; exact absurd h.1 he
  · rename_i h; simp at h
    obtain ⟨rfl, rfl⟩ := h
    rw [escapeOut_eq]
    cases escapedChar e <;> simp [bind, Option.bind, consVal] <;> cases stringBody rest <;> rfl
  · rename_i h1 h2 h
    simp at h
    exact (h2 e rest h.1.symm h.2.symm).elim

/-- a `\u` escape is accepted only with four hex digits and at least one more character after them -/
theorem stringBody_u_some {t : List Cp} {p : List Cp × Nat × List Cp}
    (h : stringBody (92 :: 117 :: t) = some p) :
    ∃ a b c d x rest v, t = a :: b :: c :: d :: x :: rest ∧ unhex4 a b c d = some v := by
  match t, h with
  | a :: b :: c :: d :: x :: rest, h =>
    rw [stringBody_u4] at h
    cases hu : unhex4 a b c d with
    | none => rw [hu] at h; cases h
    | some v => exact ⟨a, b, c, d, x, rest, v, rfl, hu⟩
  | [a, b, c, d], h =>
    rw [stringBody_u4, stringBody_nil] at h
    cases hu : unhex4 a b c d <;> rw [hu] at h <;> cases h
  | [], h | [_], h | [_, _], h | [_, _, _], h => simp [stringBody, escapedChar_u] at h

theorem stringBody_bs_end : stringBody [92] = none := by simp [stringBody, isLineTerminatorStart, isSourceChar]

theorem stringBody_plain (c : Nat) (rest : List Cp) (h34 : c ≠ 34) (h92 : c ≠ 92) :
    stringBody (c :: rest) =
      if isLineTerminatorStart c ∨ !isSourceChar c then none else consVal c 1 (stringBody rest) := by
  rw [stringBody.eq_def]
  split
  · rename_i h; simp at h
  · rename_i h; simp at h; exact absurd h.1 h34
  · rename_i h; simp at h; exact absurd h.1 h92
  · rename_i h; simp at h; exact absurd h.1 h92
  · rename_i h
    simp at h
    obtain ⟨rfl, rfl⟩ := h
    simp only [h92, false_or]
    split
    · rfl
    · cases stringBody rest <;> rfl

end Gql.Lexer
