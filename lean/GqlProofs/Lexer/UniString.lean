import GqlProofs.Lexer.Utf8Dec
import GqlProofs.Lexer.SpecString
import GqlProofs.Lexer.Progress
/-
  `readStringLoop` (model, on the BYTES `utf8Encode l`) against `Spec.stringBody l` (specification,
  on the CODE POINTS `l`) for every list of Unicode scalar values `l`: same success / failure, same
  extent in code points, value = UTF-8 of the specification's value, the rest is the encoding of the
  specification's rest, the rune counter advances by the number of code points, and the consumed
  characters contain no line terminator.
-/
namespace Gql.Lexer
open Gql.Lexer.Spec

theorem enc_ascii_prefix (p : Bytes) : ∀ {l : List Nat} {r : Bytes}, AllScalar l → utf8Encode l = p ++ r →
    Ascii p → ∃ t, l = p ++ t ∧ r = utf8Encode t ∧ AllScalar t := by
  induction p with
  | nil => intro l r hs h _; exact ⟨l, rfl, by simpa using h.symm, hs⟩
  | cons b p ih =>
    intro l r hs h hA
    obtain ⟨t, rfl, e, hst⟩ := enc_ascii_head hs (by simpa using h) (Ascii_head hA)
    obtain ⟨t', rfl, e', hst'⟩ := ih hst e.symm (Ascii_tail hA)
    exact ⟨t', rfl, e', hst'⟩

theorem hexValue_some {b v : Nat} (h : hexValue b = some v) : b < 128 ∧ b ≠ 10 ∧ b ≠ 13 := by
  simp only [hexValue, ite_eq_iff', Option.some.injEq, reduceCtorEq, and_false, or_false] at h
  omega

theorem unhex4_some {a b c d v : Nat} (h : unhex4 a b c d = some v) :
    Ascii [a, b, c, d] ∧ NoNL [a, b, c, d] := by
  simp only [unhex4, Option.bind_eq_bind, Option.bind_eq_some_iff] at h
  obtain ⟨_, ha, _, hb, _, hc, _, hd, _⟩ := h
  have ha := hexValue_some ha
  have hb := hexValue_some hb
  have hc := hexValue_some hc
  have hd := hexValue_some hd
  exact ⟨Ascii_cons ha.1 (Ascii_cons hb.1 (Ascii_cons hc.1 (Ascii_cons hd.1 Ascii_nil))),
    NoNL_cons ha.2 (NoNL_cons hb.2 (NoNL_cons hc.2 (NoNL_cons hd.2 NoNL_nil)))⟩

theorem escapeOut_ascii {e v : Nat} (h : escapeOut e = some v) : e < 128 ∧ v < 128 ∧ e ≠ 10 ∧ e ≠ 13 := by
  simp only [escapeOut, ite_eq_iff', Option.some.injEq, reduceCtorEq, and_false, or_false] at h
  omega

theorem escapeOut_high {e : Nat} (h : 128 ≤ e) : escapeOut e = none := by
  cases he : escapeOut e with
  | none => rfl
  | some v => have := escapeOut_ascii he; omega

theorem u_escape_bytes {t : List Nat} (hs : AllScalar t) {p : List Cp × Nat × List Cp}
    (h : stringBody (92 :: 117 :: t) = some p) :
    ∃ a b c d z zs v, utf8Encode t = a :: b :: c :: d :: z :: zs ∧ unhex4 a b c d = some v := by
  obtain ⟨a, b, c, d, x, rest, v, rfl, hu⟩ := stringBody_u_some h
  cases hx : utf8Encode (x :: rest) with
  | nil => cases utf8Encode_eq_nil hx
  | cons z zs =>
    refine ⟨a, b, c, d, z, zs, v, ?_, hu⟩
    rw [show a :: b :: c :: d :: x :: rest = [a, b, c, d] ++ (x :: rest) from rfl,
      utf8Encode_ascii_append (unhex4_some hu).1, hx]
    rfl

/-- the model step agrees with the optional (value, length, rest) of the specification -/
def StrMatchesU (q c : Cur) (acc : Bytes) (l : List Cp) (st : Step) (o : Option (List Cp × Nat × List Cp)) : Prop :=
  match o with
  | none => ∃ e, st = .err e
  | some (val, n, r) => ∃ x nb, l = x ++ r ∧ x.length = n ∧ NoNL x ∧
      st = .tok { kind := .string, value := acc.reverse ++ utf8Encode val, start := q.endR,
                  stop := c.endR + n, line := c.line, col := colOf (q.endR + 1) c.ls }
            (utf8Encode r) (c.adv nb n)

theorem StrMatchesU_cons (q c : Cur) (acc : Bytes) (st : Step) (v : Cp) (chunk l' : List Cp) (kb : Nat)
    (o : Option (List Cp × Nat × List Cp)) (hnl : NoNL chunk)
    (h : StrMatchesU q (c.adv kb chunk.length) ((encodeRune v).reverse ++ acc) l' st o) :
    StrMatchesU q c acc (chunk ++ l') st (consVal v chunk.length o) := by
  cases o with
  | none => exact h
  | some p =>
    obtain ⟨val, n, r⟩ := p
    obtain ⟨x, nb, e1, e2, e3, e4⟩ := h
    refine ⟨chunk ++ x, kb + nb, by simp [e1], by simp [e2]; omega, NoNL_append hnl e3, ?_⟩
    rw [e4]
    simp [Cur.adv, utf8Encode_cons, Nat.add_assoc, Nat.add_comm chunk.length n]

theorem readStringLoop_u (q : Cur) (bs : Bytes) (c : Cur) (acc : Bytes) (buf : Bool) :
    ∀ (l : List Cp), AllScalar l → bs = utf8Encode l →
      StrMatchesU q c acc l (readStringLoop q bs c acc buf) (stringBody l) := by
  fun_induction readStringLoop q bs c acc buf
  case case1 =>
    intro l hs hbs
    have := utf8Encode_eq_nil hbs.symm
    subst this
    simp [stringBody_nil, StrMatchesU, mkErr]
  case case2 b tl c acc buf h =>
    intro l hs hbs
    obtain ⟨t, rfl, _, _⟩ := enc_ascii_head hs hbs.symm (by omega)
    rw [stringBody_plain b t (by omega) (by omega)]
    have : isLineTerminatorStart b = true := (isLineTerminatorStart_iff b).2 h
    simp [this, StrMatchesU, mkErr]
  case case3 b tl c acc buf h1 h2 =>
    intro l hs hbs
    obtain ⟨t, rfl, _, _⟩ := enc_ascii_head hs hbs.symm (by omega)
    rw [stringBody_plain b t (by omega) (by omega)]
    have : isSourceChar b = false := by
      cases hsc : isSourceChar b with
      | false => rfl
      | true => have := (isSourceChar_iff b).1 hsc; omega
    simp [this, StrMatchesU, mkErr]
  case case4 tl c acc buf h1 h2 =>
    intro l hs hbs
    obtain ⟨t, rfl, rfl, _⟩ := enc_ascii_head hs hbs.symm (by omega)
    rw [stringBody_quote]
    exact ⟨[34], 1, rfl, rfl, NoNL_cons (by omega) NoNL_nil, by simp [utf8Encode]⟩
  case case5 c acc buf h1 h2 h3 =>
    intro l hs hbs
    obtain ⟨t, rfl, e, _⟩ := enc_ascii_head hs hbs.symm (by omega)
    have := utf8Encode_eq_nil e.symm
    subst this
    simp [stringBody_bs_end, StrMatchesU, mkErr]
  case case6 c acc buf h1 h2 h3 h4 x tl r hr _ _ _ ih =>
    intro l hs hbs
    obtain ⟨hA4, hnl4⟩ := unhex4_some hr
    have hA : Ascii [92, 117, h1, h2, h3, h4] := Ascii_cons (by omega) (Ascii_cons (by omega) hA4)
    obtain ⟨t, rfl, e, hst⟩ := enc_ascii_prefix [92, 117, h1, h2, h3, h4] hs (by simpa using hbs.symm) hA
    have hnl : NoNL [92, 117, h1, h2, h3, h4] := NoNL_cons (by omega) (NoNL_cons (by omega) hnl4)
    have := StrMatchesU_cons q c acc _ r [92, 117, h1, h2, h3, h4] t 6 (stringBody t) hnl (ih t hst e)
    simpa [stringBody_u4, hr] using this
  case case7 c acc buf h1 h2 h3 h4 x tl hr _ _ _ =>
    intro l hs hbs
    obtain ⟨t, rfl, e, hst⟩ := enc_ascii_prefix [92, 117] hs (by simpa using hbs.symm)
      (Ascii_cons (by omega) (Ascii_cons (by omega) Ascii_nil))
    cases hsb : stringBody ([92, 117] ++ t) with
    | none => simp [StrMatchesU, mkErr]
    | some p =>
      obtain ⟨a, b, c', d, z, zs, v, e', hu⟩ := u_escape_bytes hst hsb
      rw [← e] at e'
      injection e' with e1 e'; injection e' with e2 e'; injection e' with e3 e'; injection e' with e4 _
      subst e1 e2 e3 e4
      rw [hu] at hr; cases hr
  case case8 c acc buf tl' hn _ _ _ =>
    intro l hs hbs
    obtain ⟨t, rfl, e, hst⟩ := enc_ascii_prefix [92, 117] hs (by simpa using hbs.symm)
      (Ascii_cons (by omega) (Ascii_cons (by omega) Ascii_nil))
    cases hsb : stringBody ([92, 117] ++ t) with
    | none => simp [StrMatchesU, mkErr]
    | some p =>
      obtain ⟨a, b, c', d, z, zs, v, e', _⟩ := u_escape_bytes hst hsb
      exact (hn a b c' d z zs (e.trans e')).elim
  case case9 c acc buf e tl he r hr _ _ _ ih =>
    intro l hs hbs
    have hea := escapeOut_ascii hr
    obtain ⟨t, rfl, e', hst⟩ := enc_ascii_prefix [92, e] hs (by simpa using hbs.symm)
      (Ascii_cons (by omega) (Ascii_cons hea.1 Ascii_nil))
    have hnl : NoNL [92, e] := NoNL_cons (by omega) (NoNL_cons ⟨hea.2.2.1, hea.2.2.2⟩ NoNL_nil)
    have := StrMatchesU_cons q c acc _ r [92, e] t 2 (stringBody t) hnl (by
      rw [encodeRune_ascii hea.2.1]
      exact ih t hst e')
    show StrMatchesU q c acc (92 :: e :: t) _ (stringBody (92 :: e :: t))
    rw [stringBody_esc e t he, hr]
    simpa using this
  case case10 c acc buf e tl he hr _ _ _ =>
    intro l hs hbs
    obtain ⟨t, rfl, e', hst⟩ := enc_ascii_head hs hbs.symm (by omega)
    have hnone : stringBody (92 :: t) = none := by
      cases t with
      | nil => simp [utf8Encode] at e'
      | cons d t' =>
        by_cases hd : d < 128
        · rw [utf8Encode_cons_ascii hd] at e'
          simp at e'
          obtain ⟨rfl, _⟩ := e'
          rw [stringBody_esc e t' he, hr]
        · rw [stringBody_esc d t' (by omega), escapeOut_high (by omega)]
    rw [hnone]
    simp [StrMatchesU, mkErr]
  case case11 b tl c acc buf hb1 hb2 hb3 hb4 r w hd taken ih =>
    intro l hs hbs
    cases l with
    | nil => cases hbs
    | cons cp t =>
      obtain ⟨hbc, _, hd', hdrop, htake⟩ := enc_step (AllScalar_head hs) (utf8Encode t) hbs
      obtain ⟨rfl, rfl⟩ := Prod.mk.inj (hd.symm.trans hd')
      rw [stringBody_plain r t (by omega) (by omega)]
      have h1 : isLineTerminatorStart r = false := by
        cases hsc : isLineTerminatorStart r with
        | false => rfl
        | true => have := (isLineTerminatorStart_iff r).1 hsc; omega
      have h2 : isSourceChar r = true := (isSourceChar_iff r).2 (by omega)
      simp only [h1, h2]
      have ht : taken = encodeRune r := htake
      rw [ht, hdrop] at ih ⊢
      simpa using StrMatchesU_cons q c acc _ r [r] t (encodeRune r).length (stringBody t)
        (NoNL_cons (by omega) NoNL_nil) (ih t (AllScalar_tail hs) rfl)

end Gql.Lexer
