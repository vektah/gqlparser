import GqlModel.Lexer.Spec
import GqlProofs.Lemmas.Lists
/-
  Vocabulary of the position proofs: ASCII texts, chunks without line terminators (`NoNL`), the
  position specification folded over a chunk (`foldPos`), name and digit characters are no line
  terminators, and `quoteRun` in equations.  At the end, what the step proofs
  share: a chain of `if`s as the disjunction of its cases (`ite_eq_iff'`) and what the punctuator table
  says of its entries (`punct_some`, `punct_high`).
-/
namespace Gql.Lexer
open Gql.Lexer.Spec

def Ascii (l : Bytes) : Prop := ∀ b ∈ l, b < 128
def NoNL (l : Bytes) : Prop := ∀ b ∈ l, b ≠ 10 ∧ b ≠ 13

def foldPos (s : PState) (l : List Nat) : PState := l.foldl posStep s

@[simp] theorem foldPos_nil (s : PState) : foldPos s [] = s := rfl
@[simp] theorem foldPos_cons (s : PState) (b : Nat) (l : List Nat) :
    foldPos s (b :: l) = foldPos (posStep s b) l := rfl
theorem foldPos_append (s : PState) (a b : List Nat) : foldPos s (a ++ b) = foldPos (foldPos s a) b := by
  simp [foldPos, List.foldl_append]

def Agree (s : PState) (c : Cur) : Prop :=
  s.line = c.line ∧ s.ls = c.ls ∧ s.off = c.endR ∧ s.off = c.endB

theorem posStep_plain (s : PState) (b : Nat) (h1 : b ≠ 10) (h2 : b ≠ 13) :
    posStep s b = { s with off := s.off + 1, cr := false } := by
  simp [posStep, h1, h2]

theorem Agree_adv_plain (s : PState) (c : Cur) (b : Nat) (h : Agree s c) (h1 : b ≠ 10) (h2 : b ≠ 13) :
    Agree (posStep s b) (c.adv 1 1) := by
  rw [posStep_plain s b h1 h2]
  obtain ⟨a1, a2, a3, a4⟩ := h
  exact ⟨a1, a2, by simp [Cur.adv, a3], by simp [Cur.adv, ← a4]⟩

theorem foldPos_off (s : PState) (l : List Nat) : (foldPos s l).off = s.off + l.length := by
  induction l generalizing s with
  | nil => rfl
  | cons b t ih =>
    rw [foldPos_cons, ih, List.length_cons]
    have : (posStep s b).off = s.off + 1 := by unfold posStep; split <;> (try split) <;> rfl
    omega

theorem foldPos_noNL (s : PState) (x : List Nat) (h : NoNL x) :
    (foldPos s x).line = s.line ∧ (foldPos s x).ls = s.ls ∧ (foldPos s x).off = s.off + x.length ∧
      (x ≠ [] → (foldPos s x).cr = false) := by
  induction x generalizing s with
  | nil => simp
  | cons b t ih =>
    have hb := h b (by simp)
    obtain ⟨i1, i2, _, i4⟩ := ih (posStep s b) fun c hc => h c (by simp [hc])
    have hp := posStep_plain s b hb.1 hb.2
    refine ⟨by rw [foldPos_cons, i1, hp], by rw [foldPos_cons, i2, hp], foldPos_off s _, fun _ => ?_⟩
    cases t with
    | nil => rw [foldPos_cons, foldPos_nil, hp]
    | cons c t' => exact i4 (by simp)

theorem Ascii_tail {b : Nat} {l : Bytes} (h : Ascii (b :: l)) : Ascii l := fun c hc => h c (by simp [hc])
theorem Ascii_head {b : Nat} {l : Bytes} (h : Ascii (b :: l)) : b < 128 := h b (by simp)
theorem Ascii_append_right {a b : Bytes} (h : Ascii (a ++ b)) : Ascii b := fun c hc => h c (by simp [hc])

theorem NoNL_nil : NoNL [] := fun _ h => by simp at h
theorem NoNL_cons {b : Nat} {l : Bytes} (hb : b ≠ 10 ∧ b ≠ 13) (hl : NoNL l) : NoNL (b :: l) := by
  intro c hc
  rcases List.mem_cons.1 hc with rfl | hc
  · exact hb
  · exact hl c hc
theorem NoNL_append {a b : Bytes} (ha : NoNL a) (hb : NoNL b) : NoNL (a ++ b) := by
  intro c hc
  rcases List.mem_append.1 hc with hc | hc
  · exact ha c hc
  · exact hb c hc

theorem isNameCont_noNL {b : Nat} (h : isNameCont b = true) : b ≠ 10 ∧ b ≠ 13 := by
  simp [isNameCont, isNameStart, isDigit] at h; omega
theorem isDigit_noNL {b : Nat} (h : isDigit b = true) : b ≠ 10 ∧ b ≠ 13 := by
  simp [isDigit] at h; omega

theorem quoteRun_nil : quoteRun [] = 0 := by simp [quoteRun]
theorem quoteRun_ne (a : Nat) (t : Bytes) (h : a ≠ 34) : quoteRun (a :: t) = 0 := by
  unfold quoteRun; split <;> simp_all
theorem quoteRun_q (t : Bytes) : quoteRun (34 :: t) = quoteRun t + 1 := by simp [quoteRun]

theorem quoteRun_take (l : Bytes) : (l.take (quoteRun l)).length = quoteRun l ∧ NoNL (l.take (quoteRun l)) := by
  fun_induction quoteRun l with
  | case1 t ih => exact ⟨by simp [ih.1], by simpa using NoNL_cons (by omega) ih.2⟩
  | case2 l h => exact ⟨by simp, by simpa using NoNL_nil⟩

/-- an `if` takes a value through one of its branches: turns a chain of `if`s into the disjunction of
    its cases, which `omega` can read -/
theorem ite_eq_iff' {α} {c : Prop} [Decidable c] {a b x : α} :
    (if c then a else b) = x ↔ (c ∧ a = x) ∨ (¬ c ∧ b = x) := by
  split <;> simp [*]

theorem punct_some {b : Nat} {k : Kind} (h : punct b = some k) :
    b < 126 ∧ b ≠ 10 ∧ b ≠ 13 ∧ k ≠ .string ∧ k ≠ .blockString ∧ k ≠ .eof :=
  (by decide : ∀ p ∈ punctTable, p.1 < 126 ∧ p.1 ≠ 10 ∧ p.1 ≠ 13 ∧ p.2 ≠ Kind.string ∧
    p.2 ≠ Kind.blockString ∧ p.2 ≠ Kind.eof) (b, k) (mem_of_lookup h)

theorem punct_high {b : Nat} (h : 126 ≤ b) : punct b = none := by
  cases hp : punct b with
  | none => rfl
  | some k => exact absurd (punct_some hp).1 (Nat.not_lt.2 h)

end Gql.Lexer
