import GqlProofs.Lexer.SpecStep
import GqlProofs.Lexer.SpecBlock
/-
  Whole inputs: the vocabulary in which `lexAll` (model) is compared with `Spec.lex`
  (specification): what is observed of a token, agreement of two runs (`LexAgree`), the hypothesis on
  block strings (`BlocksOK`), and the unfolding equations of the two fuelled loops.
-/
namespace Gql.Lexer
open Gql.Lexer.Spec

/-- Every block string the specification's lexer meets (at an item boundary) satisfies
    `NoLongQuoteRun`; `fuel` bounds the number of items walked. -/
def BlocksOK : Nat → List Cp → Bool
  | 0, _ => true
  | fuel + 1, cs =>
    (match cs with
     | 34 :: 34 :: 34 :: body => NoLongQuoteRun body
     | _ => true) &&
    (match item cs with
     | .ignored n => BlocksOK fuel (cs.drop n)
     | .token _ _ n => BlocksOK fuel (cs.drop n)
     | _ => true)

def obsT (t : Token) : Kind × Bytes × Nat × Nat := (t.kind, t.value, t.start, t.stop)
def obsS (s : STok) : Kind × Bytes × Nat × Nat := (s.kind, utf8Encode s.value, s.start, s.stop)

def LexAgree (m : LexOut) (s : Out) : Prop :=
  match s with
  | .ok toks => ∃ ts eof, m = .done (ts ++ [eof]) ∧ eof.kind = .eof ∧ eof.value = [] ∧
      ts.map obsT = toks.map obsS
  | .error toks => ∃ ts e, m = .fail ts e ∧ ts.map obsT = toks.map obsS

theorem item_ws (b : Nat) (r : Bytes) (h : b = 9 ∨ b = 32 ∨ b = 44 ∨ b = 10) : item (b :: r) = .ignored 1 := by
  have h1 : (b = 0xFEFF ∨ isWhiteSpace b = true ∨ b = 44 ∨ b = 10) := by
    rw [isWhiteSpace_iff]; omega
  unfold item
  simp only [h1, if_true]

theorem item_crlf (r : Bytes) : item (13 :: 10 :: r) = .ignored 2 := by
  unfold item
  have h1 : ¬ ((13 : Nat) = 0xFEFF ∨ isWhiteSpace 13 = true ∨ (13 : Nat) = 44 ∨ (13 : Nat) = 10) := by decide
  simp only [h1, if_false, if_true]

theorem item_cr (r : Bytes) (h : ∀ r', r = 10 :: r' → False) : item (13 :: r) = .ignored 1 := by
  unfold item
  have h1 : ¬ ((13 : Nat) = 0xFEFF ∨ isWhiteSpace 13 = true ∨ (13 : Nat) = 44 ∨ (13 : Nat) = 10) := by decide
  simp only [h1, if_false, if_true]

theorem lexGo_ignored (g : Nat) (cs : List Cp) (off : Nat) (acc : List STok) (n : Nat)
    (h : item cs = .ignored n) : lexGo (g + 1) cs off acc = lexGo g (cs.drop n) (off + n) acc := by
  simp only [lexGo, h]

theorem BlocksOK_ignored (g : Nat) (cs : List Cp) (n : Nat) (h : item cs = .ignored n)
    (hb : BlocksOK (g + 1) cs = true) : BlocksOK g (cs.drop n) = true := by
  simp only [BlocksOK, h, Bool.and_eq_true] at hb
  exact hb.2

theorem lexGo_succ (g : Nat) (cs : List Cp) (off : Nat) (acc : List STok) :
    lexGo (g + 1) cs off acc =
      match item cs with
      | .eof => .ok acc.reverse
      | .error => .error acc.reverse
      | .ignored n => lexGo g (cs.drop n) (off + n) acc
      | .token k v n => lexGo g (cs.drop n) (off + n)
          ({ kind := k, value := v, start := off, stop := off + n } :: acc) := rfl

theorem lexFuel_succ (f : Nat) (rest : Bytes) (c : Cur) (acc : List Token) :
    lexFuel (f + 1) rest c acc =
      match readTokenBody (ws rest c).1 (ws rest c).2 with
      | .err e => .fail acc.reverse e
      | .tok t rest' c' =>
        if t.kind = .eof then .done (t :: acc).reverse
        else lexFuel f rest' c' (t :: acc) := rfl

/-- the text contains no three consecutive quotes (so no block string at all) -/
def NoTripleQuote : Bytes → Bool
  | [] => true
  | b :: t => (match b :: t with
      | 34 :: 34 :: 34 :: _ => false
      | _ => true) && NoTripleQuote t

theorem NoTripleQuote_drop (n : Nat) : ∀ l : Bytes, NoTripleQuote l = true → NoTripleQuote (l.drop n) = true := by
  induction n with
  | zero => intro l h; simpa using h
  | succ n ih =>
    intro l h
    cases l with
    | nil => simpa using h
    | cons b t =>
      simp only [NoTripleQuote, Bool.and_eq_true] at h
      simpa using ih t h.2

theorem BlocksOK_of_noTriple (g : Nat) : ∀ l : Bytes, NoTripleQuote l = true → BlocksOK g l = true := by
  induction g with
  | zero => intro l _; rfl
  | succ g ih =>
    intro l h
    simp only [BlocksOK, Bool.and_eq_true]
    constructor
    · split
      · simp [NoTripleQuote] at h
      · rfl
    · split
      · exact ih _ (NoTripleQuote_drop _ l h)
      · exact ih _ (NoTripleQuote_drop _ l h)
      · rfl

end Gql.Lexer
