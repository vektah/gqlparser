import GqlProofs.Lexer.UniStep
import GqlProofs.Lexer.SpecLex
/-
  Whole inputs: `lexAll (utf8Encode cps)` (model, bytes) against `Spec.lex cps` (specification, code
  points) for every list of Unicode scalar values, i.e. for every well-formed UTF-8 source
  (`Utf8.decode`), and the truthfulness of every reported position (`Spec.posAt` on the decoded
  text).  `ws` = a maximal run of `Ignored` items (blank, comma, LF / CR / CRLF, BOM).
-/
namespace Gql.Lexer
open Gql.Lexer.Spec

/-- what `ws` (result `res`) does on the encoding of `cps` from cursor `c`: it skips the code
    points `ign`, every one an `Ignored` item of the specification, and stops in front of `cps1` -/
def WsOK (c : Cur) (cps : List Nat) (res : Bytes × Cur) : Prop :=
  ∃ ign cps1, cps = ign ++ cps1 ∧ res.1 = utf8Encode cps1 ∧ AllScalar cps1 ∧ NotIgnoredHeadU cps1 ∧
    res.2.endR = c.endR + ign.length ∧
    (∀ x ∈ ign, x = 9 ∨ x = 32 ∨ x = 44 ∨ x = 10 ∨ x = 13 ∨ x = 0xFEFF) ∧
    (∀ (off : Nat) (sacc : List STok) (g : Nat), g ≥ cps.length + 1 →
      ∃ g', g' ≥ cps1.length + 1 ∧ lexGo g cps off sacc = lexGo g' cps1 (off + ign.length) sacc ∧
        (BlocksOK g cps = true → BlocksOK g' cps1 = true)) ∧
    (∀ s, InvU s c cps → InvU (foldPos s ign) res.2 cps1)

theorem WsOK_stop (c : Cur) (cps : List Nat) (bs : Bytes) (h1 : bs = utf8Encode cps) (hs : AllScalar cps)
    (hH : NotIgnoredHeadU cps) : WsOK c cps (bs, c) :=
  ⟨[], cps, rfl, h1, hs, hH, by simp, by simp, fun off sacc g hg => ⟨g, hg, by simp, id⟩,
    fun s h => by simpa using h⟩

theorem WsOK_step (c c2 : Cur) (chunk t : List Nat) (res : Bytes × Cur)
    (hit : item (chunk ++ t) = .ignored chunk.length) (hne : 1 ≤ chunk.length)
    (hig : ∀ x ∈ chunk, x = 9 ∨ x = 32 ∨ x = 44 ∨ x = 10 ∨ x = 13 ∨ x = 0xFEFF)
    (hc : c2.endR = c.endR + chunk.length)
    (hpos : ∀ s, InvU s c (chunk ++ t) → InvU (foldPos s chunk) c2 t)
    (h : WsOK c2 t res) : WsOK c (chunk ++ t) res := by
  obtain ⟨ign, cps1, e, h1, h2, h3, h4, hi, h5, h6⟩ := h
  refine ⟨chunk ++ ign, cps1, by simp [e], h1, h2, h3, by rw [h4, hc]; simp only [List.length_append]; omega,
    fun x hx => (List.mem_append.1 hx).elim (hig x) (hi x), ?_, ?_⟩
  · intro off sacc g hg
    obtain ⟨g0, rfl⟩ : ∃ g0, g = g0 + 1 := ⟨g - 1, by omega⟩
    have hd : (chunk ++ t).drop chunk.length = t := by simp
    obtain ⟨g', a1, a2, a3⟩ := h5 (off + chunk.length) sacc g0 (by simp at hg; omega)
    refine ⟨g', a1, ?_, ?_⟩
    · rw [lexGo_ignored g0 _ off sacc _ hit, hd, a2]
      simp [Nat.add_assoc]
    · intro hbk
      have := BlocksOK_ignored g0 _ _ hit hbk
      rw [hd] at this
      exact a3 this
  · intro s hinv
    rw [foldPos_append]
    exact h6 _ (hpos s hinv)

theorem InvU_plain1 (s : PState) (c : Cur) (b nb : Nat) (t : List Nat) (h : InvU s c (b :: t))
    (h1 : b ≠ 10) (h2 : b ≠ 13) : InvU (foldPos s [b]) (c.adv nb 1) t := by
  have := InvU_noNL s c [b] t nb h.1 (NoNL_cons ⟨h1, h2⟩ NoNL_nil) (by simp)
  simpa using this

theorem ws_u (bs : Bytes) (c : Cur) : ∀ (cps : List Nat), AllScalar cps → bs = utf8Encode cps →
    WsOK c cps (ws bs c) := by
  fun_induction ws bs c
  case case1 c =>
    intro cps hs hbs
    have := utf8Encode_eq_nil hbs.symm
    subst this
    exact WsOK_stop c [] [] rfl hs trivial
  case case2 b r c hb ih =>
    intro cps hs hbs
    obtain ⟨t, rfl, e, hst⟩ := enc_ascii_head hs hbs.symm (by omega)
    exact WsOK_step c (c.adv 1 1) [b] t _ (item_ws b t (by omega)) (by simp)
      (fun x hx => List.mem_singleton.1 hx ▸ hb.imp_right (·.imp_right .inl)) (by simp [Cur.adv])
      (fun s h => InvU_plain1 s c b 1 t h (by omega) (by omega)) (ih t hst e)
  case case3 r c hb1 ih =>
    intro cps hs hbs
    obtain ⟨t, rfl, e, hst⟩ := enc_ascii_head hs hbs.symm (by omega)
    exact WsOK_step c (c.adv 1 1).newline [10] t _ (item_ws 10 t (by omega)) (by simp) (by simp)
      (by simp [Cur.adv, Cur.newline])
      (fun s h => by simpa using InvU_char s c 10 10 1 t h (by omega) Iff.rfl) (ih t hst e)
  case case4 c r' hb1 hb2 ih =>
    intro cps hs hbs
    obtain ⟨t, rfl, e, hst⟩ := enc_ascii_prefix [13, 10] hs (by simpa using hbs.symm)
      (by intro x hx; simp at hx; omega)
    exact WsOK_step c (c.adv 2 2).newline [13, 10] t _ (item_crlf t) (by simp) (by simp)
      (by simp [Cur.adv, Cur.newline]) (fun s h => InvU_crlf s c t h.1) (ih t hst e)
  case case5 c r hr' hb1 hb2 ih =>
    intro cps hs hbs
    obtain ⟨t, rfl, e, hst⟩ := enc_ascii_head hs hbs.symm (by omega)
    have hh := head_ne_10_of_enc e (fun x ex => hr' x ex)
    have hit : item ([13] ++ t) = .ignored 1 := by
      refine item_cr t ?_
      intro r'' e''; rw [e''] at hh; simp at hh
    exact WsOK_step c (c.adv 1 1).newline [13] t _ hit (by simp) (by simp) (by simp [Cur.adv, Cur.newline])
      (fun s h => InvU_cr s c t h.1 hh) (ih t hst e)
  case case6 c r' _ _ _ ih =>
    intro cps hs hbs
    obtain ⟨cp, t, rfl, hcs, hc128, hst, e⟩ := enc_high_head hs hbs.symm (by omega)
    obtain ⟨rfl, e'⟩ := enc_bom hcs e.symm
    exact WsOK_step c (c.adv 3 1) [0xFEFF] t _ (item_bom t) (by simp) (by simp) (by simp [Cur.adv])
      (fun s h => InvU_plain1 s c 0xFEFF 3 t h (by omega) (by omega)) (ih t hst e'.symm)
  case case7 c r' hx _ _ _ =>
    intro cps hs hbs
    obtain ⟨cp, t, rfl, hcs, hc128, hst, e⟩ := enc_high_head hs hbs.symm (by omega)
    refine WsOK_stop c _ _ hbs hs ?_
    show ¬ (cp = 9 ∨ cp = 32 ∨ cp = 44 ∨ cp = 10 ∨ cp = 13 ∨ cp = 0xFEFF)
    intro h
    have hcp : cp = 0xFEFF := by omega
    subst hcp
    rw [encodeRune_bom] at e
    simp at e
    exact hx _ e
  case case8 b r c hb1 hb2 hb3 hb4 =>
    intro cps hs hbs
    refine WsOK_stop c _ _ hbs hs ?_
    by_cases hb : b < 128
    · obtain ⟨t, rfl, _, _⟩ := enc_ascii_head hs hbs.symm hb
      show ¬ (b = 9 ∨ b = 32 ∨ b = 44 ∨ b = 10 ∨ b = 13 ∨ b = 0xFEFF)
      omega
    · obtain ⟨cp, t, rfl, hcs, hc128, hst, e⟩ := enc_high_head hs hbs.symm (by omega)
      show ¬ (cp = 9 ∨ cp = 32 ∨ cp = 44 ∨ cp = 10 ∨ cp = 13 ∨ cp = 0xFEFF)
      intro h
      have hcp : cp = 0xFEFF := by omega
      subst hcp
      rw [encodeRune_bom] at e
      simp at e
      omega

theorem lexFuel_lexGo_u (f : Nat) : ∀ (cps : List Nat) (c : Cur) (off : Nat) (acc : List Token)
    (sacc : List STok) (g : Nat), AllScalar cps → f ≥ (utf8Encode cps).length + 1 → g ≥ cps.length + 1 →
    c.endR = off → BlocksOK g cps = true → acc.map obsT = sacc.map obsS →
    LexAgree (lexFuel f (utf8Encode cps) c acc) (lexGo g cps off sacc) := by
  induction f with
  | zero => intro cps c off acc sacc g _ hf; omega
  | succ f0 ih =>
    intro cps c off acc sacc g hs hf hg hc hb hacc
    obtain ⟨ign, cps1, e0, h1, hs1, hH1, h3, _, h4, _⟩ := ws_u (utf8Encode cps) c cps hs rfl
    obtain ⟨g', hg', h4', h5⟩ := h4 off sacc g hg
    have hb1 := h5 hb
    have hwl := ws_len (utf8Encode cps) c
    rw [h4', lexFuel_succ, h1]
    rw [h1] at hwl
    generalize (ws (utf8Encode cps) c).2 = c1 at *
    obtain ⟨g0, rfl⟩ : ∃ g0, g' = g0 + 1 := ⟨g' - 1, by omega⟩
    rw [lexGo_succ]
    have core := step_u _ c1 cps1 hs1 hH1 (InvU_self c1 cps1)
    cases hit : item cps1 with
    | eof =>
      rw [hit] at core
      subst core
      simp only [utf8Encode_nil, readTokenBody, simpleTok, if_true, LexAgree]
      refine ⟨acc.reverse, Token.mk .eof [] c1.endR c1.endR c1.line (colOf c1.endR c1.ls),
        by simp, rfl, rfl, ?_⟩
      simp [List.map_reverse, hacc]
    | ignored n => rw [hit] at core; exact core.elim
    | error =>
      rw [hit] at core
      obtain ⟨e, he⟩ := core
      simp only [he, LexAgree]
      exact ⟨acc.reverse, e, rfl, by simp [List.map_reverse, hacc]⟩
    | token kd v n =>
      rw [hit] at core
      obtain ⟨t, x, r, c', e1, T⟩ := core
      simp only [BlocksOK, hit, Bool.and_eq_true] at hb1
      have hx := T.exact (.inr hb1.1)
      have hr : cps1.drop n = r := by rw [T.split, ← hx, List.drop_left]
      have hprog := readTokenBody_progress (utf8Encode cps1) c1 (utf8Encode cps1).length (Nat.le_refl _)
      rw [e1] at hprog
      have hkeof : ¬ t.kind = .eof := by rw [T.kind]; exact T.ne_eof
      have hlt := hprog.2 hkeof
      have hne1 : 1 ≤ cps1.length := by
        cases cps1 with
        | nil => simp [item_nil] at hit
        | cons _ _ => simp
      simp only [e1, hkeof, if_false]
      rw [← hr] at hlt ⊢
      apply ih
      · exact AllScalar_drop n hs1
      · omega
      · have hn0 : n ≠ 0 := by intro h0; subst h0; simp at hlt
        simp only [List.length_drop]; omega
      · rw [T.endR, hx, h3, hc]
      · exact hb1.2
      · simp only [List.map_cons, hacc, obsT, obsS, T.kind, T.value hx, T.start, T.stop, h3, hc]

theorem lexAll_lex_u (cps : List Nat) (hs : AllScalar cps) (hb : BlocksOK (cps.length + 1) cps = true) :
    LexAgree (lexAll (utf8Encode cps)) (Spec.lex cps) :=
  lexFuel_lexGo_u _ cps Cur.init 0 [] [] _ hs (Nat.le_refl _) (Nat.le_refl _) rfl hb rfl

/-- one `readToken` call: ignored run `ign`, then the token chunk `x` -/
def TokPosU (s : PState) (cps : List Nat) (st : Step) : Prop :=
  match st with
  | .err _ => True
  | .tok t rest' c' => ∃ ign x r, cps = ign ++ x ++ r ∧ rest' = utf8Encode r ∧ AllScalar r ∧
      InvU (foldPos s (ign ++ x)) c' r ∧
      t.start = (foldPos s ign).off ∧ t.line = (foldPos s ign).line ∧
      t.col = colOf (foldPos s ign).off (foldPos s ign).ls + (if t.kind = .string then 1 else 0) ∧
      t.start ≤ t.stop ∧ t.stop ≤ (foldPos s ign).off + x.length ∧
      (∃ v, t.value = utf8Encode v) ∧ (t.kind = .eof → r = [])

theorem readToken_pos_u (cps : List Nat) (c : Cur) (s : PState) (hs : AllScalar cps) (h : InvU s c cps) :
    TokPosU s cps (readToken (utf8Encode cps) c) := by
  obtain ⟨ign, cps1, e0, h1, hs1, hH1, _, _, _, h6⟩ := ws_u (utf8Encode cps) c cps hs rfl
  have hinv := h6 s h
  have core := step_u _ _ cps1 hs1 hH1 hinv
  unfold readToken
  rw [h1]
  generalize (ws (utf8Encode cps) c).2 = c1 at hinv core ⊢
  obtain ⟨a1, a2, a3⟩ := hinv.1
  cases hit : item cps1 with
  | eof =>
    rw [hit] at core
    subst core
    simp only [utf8Encode_nil, readTokenBody, simpleTok, TokPosU]
    exact ⟨ign, [], [], by simp [e0], rfl, AllScalar_nil, by simpa [Cur.adv] using hinv, a3.symm, a1.symm,
      by simp [a2, a3], by simp, by simp [a3], ⟨[], rfl⟩, fun _ => rfl⟩
  | ignored n => rw [hit] at core; exact core.elim
  | error =>
    rw [hit] at core
    obtain ⟨e, he⟩ := core
    rw [he]; trivial
  | token k v n =>
    rw [hit] at core
    obtain ⟨t, x, r, c', e1, T⟩ := core
    rw [e1]
    exact ⟨ign, x, r, by rw [e0, T.split, List.append_assoc], rfl, AllScalar_append_right (T.split ▸ hs1),
      by rw [foldPos_append]; exact T.inv, by rw [T.start, a3], by rw [T.line, a1],
      by rw [T.col, T.kind, a2, a3], by rw [T.start, T.stop]; omega, by rw [T.stop, a3]; have := T.len; omega,
      T.enc, fun hk => absurd (T.kind ▸ hk) T.ne_eof⟩

/-- what C04 requires of a token of the (decoded) source `cps`: extent inside the source, line and
    column those of the position specification at the start offset (String tokens: column + 1, the
    recorded known finding) -/
def TokenTruthfulU (cps : List Nat) (t : Token) : Prop :=
  t.start ≤ t.stop ∧ t.stop ≤ cps.length ∧ t.line = lineOf cps t.start ∧
    t.col = colOfOffset cps t.start + (if t.kind = .string then 1 else 0)

theorem posAt_prefix_u (pre rest : List Nat) : posAt (pre ++ rest) pre.length = foldPos PState.init pre := by
  simp [posAt, foldPos]

theorem lexFuel_truthful_u (cps0 : List Nat) (fuel : Nat) (pre cps : List Nat) (c : Cur)
    (acc : List Token) (hs : AllScalar cps) (hsplit : cps0 = pre ++ cps)
    (hinv : InvU (foldPos PState.init pre) c cps) (hacc : ∀ t ∈ acc, TokenTruthfulU cps0 t) :
    ∀ t ∈ (lexFuel fuel (utf8Encode cps) c acc).tokens, TokenTruthfulU cps0 t := by
  induction fuel generalizing pre cps c acc with
  | zero => simpa [lexFuel, LexOut.tokens] using hacc
  | succ n ih =>
    have hp := readToken_pos_u cps c _ hs hinv
    unfold lexFuel
    split
    · simpa [LexOut.tokens] using hacc
    · rename_i t rest' c' heq
      rw [heq] at hp
      obtain ⟨ign, x, r, e1, er, hsr, e2, e3, e4, e5, e6, e7, _⟩ := hp
      have hoff : (foldPos (foldPos PState.init pre) ign).off = (pre ++ ign).length := by
        rw [← foldPos_append, foldPos_off]; simp [PState.init]
      have hpos : posAt cps0 (pre ++ ign).length = foldPos (foldPos PState.init pre) ign := by
        have : cps0 = (pre ++ ign) ++ (x ++ r) := by rw [hsplit, e1]; simp
        rw [this, posAt_prefix_u, foldPos_append]
      have ht : TokenTruthfulU cps0 t := by
        refine ⟨e6, ?_, ?_, ?_⟩
        · have : cps0.length = pre.length + ign.length + x.length + r.length := by
            rw [hsplit, e1]; simp; omega
          rw [hoff] at e7; simp at e7; omega
        · rw [e4, e3, hoff, lineOf, hpos]
        · rw [e5, e3, hoff, colOfOffset, lineStartOf, hpos, colOf]
      have hacc' : ∀ u ∈ t :: acc, TokenTruthfulU cps0 u := by
        intro u hu
        simp at hu
        rcases hu with rfl | hu
        · exact ht
        · exact hacc u hu
      split
      · intro u hu
        simp [LexOut.tokens] at hu
        exact hacc' u (by simp; rcases hu with hu | hu <;> simp [hu])
      · rw [er]
        exact ih (pre ++ ign ++ x) r c' (t :: acc) hsr (by rw [hsplit, e1]; simp)
          (by rw [List.append_assoc, foldPos_append]; exact e2) hacc'

theorem lexAll_truthful_u (cps : List Nat) (hs : AllScalar cps) :
    ∀ t ∈ (lexAll (utf8Encode cps)).tokens, TokenTruthfulU cps t := by
  have hinit : InvU (foldPos PState.init []) Cur.init cps := by
    refine ⟨⟨rfl, rfl, rfl⟩, ?_⟩
    simp [PState.init]
  exact lexFuel_truthful_u cps _ [] cps Cur.init [] hs rfl hinit (by simp)

end Gql.Lexer
