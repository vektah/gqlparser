import GqlProofs.Lexer.SpecSpans
/-
  The decoding bridge between the lexer model (a cursor over BYTES that counts runes) and the
  specification (a list of CODE POINTS): facts about `utf8Encode cps` for lists of Unicode scalar
  values (a well-formed UTF-8 source is `utf8Encode cps` for a unique such list: `Utf8Valid.lean`).
  The head byte tells whether the head code point is ASCII (`enc_ascii_head`, `enc_high_head`);
  advancing over one encoded scalar is advancing one code point (`enc_step`: what the model's
  `decodeRune` / `drop (w - 1)` / `take w` logic computes on `encodeRune c` followed by anything);
  `EF BB BF` is the encoding of U+FEFF and of nothing else (`enc_bom`).
-/
namespace Gql.Lexer
open Gql.Lexer.Spec

def AllScalar (l : List Nat) : Prop := ∀ c ∈ l, IsScalar c

theorem AllScalar_nil : AllScalar [] := fun _ h => by simp at h
theorem AllScalar_tail {c : Nat} {l : List Nat} (h : AllScalar (c :: l)) : AllScalar l :=
  fun x hx => h x (by simp [hx])
theorem AllScalar_head {c : Nat} {l : List Nat} (h : AllScalar (c :: l)) : IsScalar c := h c (by simp)
theorem AllScalar_cons {c : Nat} {l : List Nat} (hc : IsScalar c) (hl : AllScalar l) : AllScalar (c :: l) := by
  intro x hx; simp at hx; rcases hx with rfl | hx
  · exact hc
  · exact hl x hx
theorem AllScalar_append {a b : List Nat} (ha : AllScalar a) (hb : AllScalar b) : AllScalar (a ++ b) := by
  intro c hc; simp at hc; rcases hc with hc | hc
  · exact ha c hc
  · exact hb c hc
theorem AllScalar_append_left {a b : List Nat} (h : AllScalar (a ++ b)) : AllScalar a :=
  fun c hc => h c (by simp [hc])
theorem AllScalar_append_right {a b : List Nat} (h : AllScalar (a ++ b)) : AllScalar b :=
  fun c hc => h c (by simp [hc])
theorem AllScalar_drop {l : List Nat} (n : Nat) (h : AllScalar l) : AllScalar (l.drop n) :=
  fun c hc => h c (List.mem_of_mem_drop hc)
theorem AllScalar_take {l : List Nat} (n : Nat) (h : AllScalar l) : AllScalar (l.take n) :=
  fun c hc => h c (List.mem_of_mem_take hc)

theorem IsScalar_of_lt {c : Nat} (h : c < 128) : IsScalar c := by unfold IsScalar; omega
theorem AllScalar_of_ascii {l : List Nat} (h : Ascii l) : AllScalar l := fun c hc => IsScalar_of_lt (h c hc)

theorem decodeRune_ascii (b : Nat) (tl : Bytes) (h : b < 128) : decodeRune (b :: tl) = (b, 1) := by
  simp [decodeRune, h]

theorem utf8Encode_nil : utf8Encode [] = [] := rfl
theorem utf8Encode_append (a b : List Nat) : utf8Encode (a ++ b) = utf8Encode a ++ utf8Encode b := by
  simp [utf8Encode]

theorem utf8Encode_cons_ascii {c : Nat} (h : c < 128) (t : List Nat) :
    utf8Encode (c :: t) = c :: utf8Encode t := by
  rw [utf8Encode_cons, encodeRune_ascii h]; rfl

theorem utf8Encode_ascii_append {a : List Nat} (h : Ascii a) (b : List Nat) :
    utf8Encode (a ++ b) = a ++ utf8Encode b := by
  rw [utf8Encode_append, utf8Encode_ascii a h]

theorem utf8Encode_eq_nil {l : List Nat} (h : utf8Encode l = []) : l = [] := by
  cases l with
  | nil => rfl
  | cons c t =>
    rw [utf8Encode_cons] at h
    have := encodeRune_length_pos c
    have h' := congrArg List.length h
    simp only [List.length_append, List.length_nil] at h'; omega

theorem enc_append_ascii_head {l : List Nat} (hs : AllScalar l) {Y : Bytes} {b : Nat} {r : Bytes}
    (h : utf8Encode l ++ Y = b :: r) (hb : b < 128) :
    (l = [] ∧ Y = b :: r) ∨ ∃ t, l = b :: t ∧ r = utf8Encode t ++ Y ∧ AllScalar t := by
  cases l with
  | nil => exact .inl ⟨rfl, h⟩
  | cons c t =>
    by_cases hc : c < 128
    · rw [utf8Encode_cons_ascii hc, List.cons_append, List.cons.injEq] at h
      exact .inr ⟨t, by rw [h.1], h.2.symm, AllScalar_tail hs⟩
    · obtain ⟨b0, b1, bt, e, h0, _⟩ := encodeRune_high_shape (AllScalar_head hs) (by omega)
      rw [utf8Encode_cons, e, List.cons_append, List.cons_append, List.cons.injEq] at h
      omega

theorem enc_ascii_head {l : List Nat} (hs : AllScalar l) {b : Nat} {r : Bytes}
    (h : utf8Encode l = b :: r) (hb : b < 128) : ∃ t, l = b :: t ∧ r = utf8Encode t ∧ AllScalar t := by
  rcases enc_append_ascii_head hs (Y := []) (by simpa using h) hb with ⟨_, h'⟩ | ⟨t, e, h', ht⟩
  · cases h'
  · exact ⟨t, e, by simpa using h', ht⟩

theorem quoteRun_of_ne {x : Nat} (hx : IsScalar x) (h : x ≠ 34) (Y : Bytes) : quoteRun (encodeRune x ++ Y) = 0 := by
  cases he : encodeRune x with
  | nil => exact absurd (encodeRune_length_pos x) (by simp [he])
  | cons b bs => exact quoteRun_ne b _ fun e => h (encodeRune_mem_ascii hx (by simp [he, e]) (by omega)).symm

theorem enc_high_head {l : List Nat} (hs : AllScalar l) {b : Nat} {r : Bytes}
    (h : utf8Encode l = b :: r) (hb : 128 ≤ b) :
    ∃ c t, l = c :: t ∧ IsScalar c ∧ 128 ≤ c ∧ AllScalar t ∧ b :: r = encodeRune c ++ utf8Encode t := by
  cases l with
  | nil => simp [utf8Encode] at h
  | cons c t =>
    by_cases hc : c < 128
    · rw [utf8Encode_cons_ascii hc] at h
      simp at h
      omega
    · exact ⟨c, t, rfl, AllScalar_head hs, by omega, AllScalar_tail hs, by rw [← h, utf8Encode_cons]⟩

theorem enc_head_high {c : Nat} (hc : IsScalar c) (h : 128 ≤ c) (t : List Nat) :
    ∃ b r, utf8Encode (c :: t) = b :: r ∧ 128 ≤ b := by
  obtain ⟨b0, b1, bt, e, h0, _⟩ := encodeRune_high_shape hc h
  exact ⟨b0, b1 :: bt ++ utf8Encode t, by rw [utf8Encode_cons, e]; rfl, h0⟩

theorem high_step {c : Nat} (hc : IsScalar c) (h128 : 128 ≤ c) (Y : Bytes) {b : Nat} {tl : Bytes}
    (h : b :: tl = encodeRune c ++ Y) :
    128 ≤ b ∧ decodeRune (b :: tl) = (c, (encodeRune c).length) ∧
      tl.drop ((encodeRune c).length - 1) = Y ∧ (b :: tl).take (encodeRune c).length = encodeRune c ∧
      2 ≤ (encodeRune c).length := by
  obtain ⟨b0, b1, bt, e, h0, _⟩ := encodeRune_high_shape hc h128
  have hd := decodeRune_encodeRune hc Y
  rw [← h] at hd
  refine ⟨?_, hd, ?_, ?_, ?_⟩
  · rw [e] at h; simp at h; omega
  · rw [e] at h ⊢; simp at h; rw [h.2]; simp
  · rw [h]; simp
  · rw [e]; simp

/-- the third conjunct is the rune logic as the model's loops write it (`decodeRune` from byte 127 on,
    below that the byte itself) -/
theorem enc_step {c : Nat} (hc : IsScalar c) (Y : Bytes) {b : Nat} {tl : Bytes} (h : b :: tl = encodeRune c ++ Y) :
    ((b = c ∧ c < 128) ∨ (128 ≤ b ∧ 128 ≤ c ∧ 2 ≤ (encodeRune c).length)) ∧
      decodeRune (b :: tl) = (c, (encodeRune c).length) ∧
      (if b ≥ 127 then decodeRune (b :: tl) else (b, 1)) = (c, (encodeRune c).length) ∧
      tl.drop ((encodeRune c).length - 1) = Y ∧
      (b :: tl).take (encodeRune c).length = encodeRune c := by
  by_cases h128 : c < 128
  · rw [encodeRune_ascii h128] at h ⊢
    obtain ⟨rfl, rfl⟩ := List.cons.inj h
    have hd := decodeRune_ascii b tl h128
    exact ⟨.inl ⟨rfl, h128⟩, hd, by split <;> simp [hd], rfl, rfl⟩
  · obtain ⟨hb, hd, hdrop, htake, hw⟩ := high_step hc (Nat.le_of_not_lt h128) Y h
    exact ⟨.inr ⟨hb, Nat.le_of_not_lt h128, hw⟩, hd, by rw [if_pos (by omega), hd], hdrop, htake⟩

theorem encodeRune_bom : encodeRune 0xFEFF = [0xEF, 0xBB, 0xBF] := by decide

theorem enc_bom {c : Nat} (hc : IsScalar c) {Y r' : Bytes}
    (h : encodeRune c ++ Y = 0xEF :: 0xBB :: 0xBF :: r') : c = 0xFEFF ∧ Y = r' := by
  have hd := decodeRune_encodeRune hc Y
  rw [h, decodeRune_three 0xEF 0xBB 0xBF r' (by decide) (by decide) (by decide) (by decide) (by decide) (by decide)] at hd
  have hc' : c = 0xFEFF := by
    have := congrArg Prod.fst hd
    simpa using this.symm
  subst hc'
  rw [encodeRune_bom] at h
  simpa using h

theorem enc_head_eq {l : List Nat} (hs : AllScalar l) {b : Nat} (hb : b < 128) {r : Bytes}
    (h : utf8Encode l = b :: r) : ∃ t, l = b :: t := by
  obtain ⟨t, e, _, _⟩ := enc_ascii_head hs h hb
  exact ⟨t, e⟩

/-- the text is empty or starts with a code point / byte ≥ 128: for every ASCII-only scanner
    (names, numbers, punctuators) this is as good as the end of the text -/
def Opaque (X : List Nat) : Prop := ∀ c t, X = c :: t → 128 ≤ c

theorem Opaque_nil : Opaque [] := fun _ _ h => by simp at h
theorem Opaque_cons {c : Nat} (h : 128 ≤ c) (t : List Nat) : Opaque (c :: t) := by
  intro c' t' e; simp at e; omega

theorem ascii_split (l : List Nat) : ∃ pre X, l = pre ++ X ∧ Ascii pre ∧ Opaque X := by
  induction l with
  | nil => exact ⟨[], [], rfl, Ascii_nil, Opaque_nil⟩
  | cons c t ih =>
    by_cases hc : c < 128
    · obtain ⟨pre, X, e, h1, h2⟩ := ih
      exact ⟨c :: pre, X, by simp [e], Ascii_cons hc h1, h2⟩
    · exact ⟨[], c :: t, rfl, Ascii_nil, Opaque_cons (by omega) t⟩

theorem Opaque_enc {X : List Nat} (hs : AllScalar X) (h : Opaque X) : Opaque (utf8Encode X) := by
  cases X with
  | nil => exact Opaque_nil
  | cons c t =>
    obtain ⟨b, r, e, hb⟩ := enc_head_high (AllScalar_head hs) (h c t rfl) t
    rw [e]; exact Opaque_cons hb r

theorem NoNL_take {l : List Nat} (n : Nat) (h : NoNL l) : NoNL (l.take n) :=
  fun c hc => h c (List.mem_of_mem_take hc)

end Gql.Lexer
