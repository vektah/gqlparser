import GqlProofs.Lexer.Utf8Dec
/-
  An independent strict UTF-8 decoder and its round trip with `utf8Encode`: the well-formed UTF-8
  texts are exactly the encodings of lists of Unicode scalar values, and the list is unique
  (`Utf8.decode_encode`, `Utf8.decode_sound`, `Utf8.valid_iff`).
-/
namespace Gql.Lexer

/-- strict decoding with fuel: `none` as soon as a byte does not start a well-formed encoded scalar
    (a byte ≥ 128 for which Go's DecodeRune reports width 1 is an encoding error; bytes must be < 256) -/
def Utf8.decodeFuel : Nat → Bytes → Option (List Nat)
  | _, [] => some []
  | 0, _ :: _ => none
  | f + 1, b :: tl =>
    if b < 128 then (Utf8.decodeFuel f tl).map (b :: ·)
    else if 1 < (decodeRune (b :: tl)).2 then
      (Utf8.decodeFuel f (tl.drop ((decodeRune (b :: tl)).2 - 1))).map ((decodeRune (b :: tl)).1 :: ·)
    else none

/-- the code points of a well-formed UTF-8 text, `none` if the text is not well-formed UTF-8 -/
def Utf8.decode (inp : Bytes) : Option (List Nat) := Utf8.decodeFuel inp.length inp

def Utf8.valid (inp : Bytes) : Prop := (Utf8.decode inp).isSome = true

theorem Utf8.decodeFuel_nil (f : Nat) : Utf8.decodeFuel f [] = some [] := by
  cases f <;> rfl

theorem Utf8.decodeFuel_succ_cons (f b : Nat) (tl : Bytes) :
    Utf8.decodeFuel (f + 1) (b :: tl) =
      if b < 128 then (Utf8.decodeFuel f tl).map (b :: ·)
      else if 1 < (decodeRune (b :: tl)).2 then
        (Utf8.decodeFuel f (tl.drop ((decodeRune (b :: tl)).2 - 1))).map ((decodeRune (b :: tl)).1 :: ·)
      else none := rfl

theorem Utf8.decodeFuel_encode (cps : List Nat) (hs : AllScalar cps) :
    ∀ f, (utf8Encode cps).length ≤ f → Utf8.decodeFuel f (utf8Encode cps) = some cps := by
  induction cps with
  | nil => intro f _; exact Utf8.decodeFuel_nil f
  | cons c t ih =>
    intro f hf
    cases hb : utf8Encode (c :: t) with
    | nil => cases utf8Encode_eq_nil hb
    | cons b tl =>
      obtain ⟨hbc, hd, _, hdrop, _⟩ := enc_step (AllScalar_head hs) (utf8Encode t) hb.symm
      have hlen := encodeRune_length_pos c
      rw [utf8Encode_cons, List.length_append] at hf
      cases f with
      | zero => omega
      | succ f =>
        have iht := ih (AllScalar_tail hs) f (by omega)
        rw [Utf8.decodeFuel_succ_cons, hd]
        rcases hbc with ⟨rfl, h128⟩ | ⟨hb128, _, hw⟩
        · rw [encodeRune_ascii h128] at hdrop
          rw [if_pos h128, show tl = utf8Encode t from hdrop, iht]; rfl
        · rw [if_neg (by omega), if_pos (show 1 < _ from hw), hdrop, iht]; rfl

theorem Utf8.decode_encode (cps : List Nat) (hs : AllScalar cps) :
    Utf8.decode (utf8Encode cps) = some cps :=
  Utf8.decodeFuel_encode cps hs _ (Nat.le_refl _)

/-
  The value `decodeRune` assembles from the payload bits `a` of a lead byte and the payloads `m`, `l`,
  `k` of the continuation bytes is a scalar whose encoding consists of these very bytes. -/

theorem encodeRune_payload2 {a m : Nat} (ha : 2 ≤ a) (ha' : a < 32) (hm : m < 64) :
    IsScalar (a * 64 + m) ∧ 128 ≤ a * 64 + m ∧ encodeRune (a * 64 + m) = [0xC0 + a, 0x80 + m] := by
  generalize hr : a * 64 + m = r
  have h : 0x80 ≤ r ∧ r < 0x800 ∧ r / 64 = a ∧ r % 64 = m := by omega
  refine ⟨.inl (Nat.lt_trans h.2.1 (by decide)), h.1, ?_⟩
  rw [encodeRune_two (Nat.not_lt.2 h.1) h.2.1, h.2.2.1, h.2.2.2]

/-- `hlo` excludes the overlong forms, `hsur` the surrogates -/
theorem encodeRune_payload3 {a m l : Nat} (ha : a < 16) (hm : m < 64) (hl : l < 64) (hlo : a = 0 → 32 ≤ m)
    (hsur : a = 13 → m < 32) :
    IsScalar (a * 4096 + m * 64 + l) ∧ 128 ≤ a * 4096 + m * 64 + l ∧
      encodeRune (a * 4096 + m * 64 + l) = [0xE0 + a, 0x80 + m, 0x80 + l] := by
  generalize hr : a * 4096 + m * 64 + l = r
  have h : 0x800 ≤ r ∧ r < 0x10000 ∧ (r < 0xD800 ∨ 0xE000 ≤ r) ∧
      r / 4096 = a ∧ r / 64 % 64 = m ∧ r % 64 = l := by omega
  have hsc : IsScalar r := h.2.2.1.imp id fun h' => ⟨h', Nat.lt_trans h.2.1 (by decide)⟩
  refine ⟨hsc, Nat.le_trans (by decide) h.1, ?_⟩
  rw [encodeRune_three hsc (Nat.not_lt.2 h.1) h.2.1, h.2.2.2.1, h.2.2.2.2.1, h.2.2.2.2.2]

/-- `hlo` excludes the overlong forms, `hhi` the values beyond U+10FFFF -/
theorem encodeRune_payload4 {a m l k : Nat} (ha : a < 5) (hm : m < 64) (hl : l < 64) (hk : k < 64)
    (hlo : a = 0 → 16 ≤ m) (hhi : a = 4 → m < 16) :
    IsScalar (a * 262144 + m * 4096 + l * 64 + k) ∧ 128 ≤ a * 262144 + m * 4096 + l * 64 + k ∧
      encodeRune (a * 262144 + m * 4096 + l * 64 + k) = [0xF0 + a, 0x80 + m, 0x80 + l, 0x80 + k] := by
  generalize hr : a * 262144 + m * 4096 + l * 64 + k = r
  have h : 0x10000 ≤ r ∧ r < 0x110000 ∧
      r / 262144 = a ∧ r / 4096 % 64 = m ∧ r / 64 % 64 = l ∧ r % 64 = k := by omega
  have hsc : IsScalar r := .inr ⟨Nat.le_trans (by decide) h.1, h.2.1⟩
  refine ⟨hsc, Nat.le_trans (by decide) h.1, ?_⟩
  rw [encodeRune_four hsc (Nat.not_lt.2 h.1), h.2.2.1, h.2.2.2.1, h.2.2.2.2.1, h.2.2.2.2.2]

theorem byte_payload {b base k : Nat} (h1 : base ≤ b) (h2 : b < base + k) (hk : base % k = 0) :
    b = base + b % k ∧ b % k < k := by
  obtain ⟨x, rfl⟩ := Nat.exists_eq_add_of_le h1
  have hx : x < k := Nat.lt_of_add_lt_add_left h2
  rw [Nat.add_mod, hk, Nat.zero_add, Nat.mod_mod, Nat.mod_eq_of_lt hx]
  exact ⟨rfl, hx⟩

theorem Utf8.decodeRune_sound (l : Bytes) (hw : 1 < (decodeRune l).2) :
    IsScalar (decodeRune l).1 ∧ 128 ≤ (decodeRune l).1 ∧
      encodeRune (decodeRune l).1 ++ l.drop (decodeRune l).2 = l := by
  revert hw
  fun_cases decodeRune l
  case case4 b0 _ _ _ b1 tail h =>
    intro _
    simp only [isCont, Bool.and_eq_true, decide_eq_true_eq] at h
    obtain ⟨e0, p0⟩ := byte_payload (b := b0) (base := 0xC0) (k := 32) (by omega) (by omega) rfl
    obtain ⟨e1, p1⟩ := byte_payload (b := b1) (base := 0x80) (k := 64) h.1 (by omega) rfl
    obtain ⟨s1, s2, s3⟩ := encodeRune_payload2 (a := b0 % 32) (m := b1 % 64) (by omega) p0 p1
    refine ⟨s1, s2, ?_⟩
    simp only [s3, ← e0, ← e1]; rfl
  case case7 b0 _ _ _ _ b1 b2 tail lo hi h =>
    intro _
    simp only [lo, hi, isCont, Bool.and_eq_true, decide_eq_true_eq] at h
    have g1 : 0x80 ≤ b1 ∧ (b0 = 0xE0 → 0xA0 ≤ b1) := by have := h.1.1; split at this <;> omega
    have g2 : b1 ≤ 0xBF ∧ (b0 = 0xED → b1 ≤ 0x9F) := by have := h.1.2; split at this <;> omega
    obtain ⟨e0, p0⟩ := byte_payload (b := b0) (base := 0xE0) (k := 16) (by omega) (by omega) rfl
    obtain ⟨e1, p1⟩ := byte_payload (b := b1) (base := 0x80) (k := 64) g1.1 (by omega) rfl
    obtain ⟨e2, p2⟩ := byte_payload (b := b2) (base := 0x80) (k := 64) h.2.1 (by omega) rfl
    obtain ⟨s1, s2, s3⟩ := encodeRune_payload3 (a := b0 % 16) (m := b1 % 64) (l := b2 % 64) p0 p1 p2
      (by omega) (by omega)
    refine ⟨s1, s2, ?_⟩
    simp only [s3, ← e0, ← e1, ← e2]; rfl
  case case10 b0 _ _ _ _ _ b1 b2 b3 tail lo hi h =>
    intro _
    simp only [lo, hi, isCont, Bool.and_eq_true, decide_eq_true_eq] at h
    have g1 : 0x80 ≤ b1 ∧ (b0 = 0xF0 → 0x90 ≤ b1) := by have := h.1.1.1; split at this <;> omega
    have g2 : b1 ≤ 0xBF ∧ (b0 = 0xF4 → b1 ≤ 0x8F) := by have := h.1.1.2; split at this <;> omega
    obtain ⟨e0, p0⟩ := byte_payload (b := b0) (base := 0xF0) (k := 8) (by omega) (by omega) rfl
    obtain ⟨e1, p1⟩ := byte_payload (b := b1) (base := 0x80) (k := 64) g1.1 (by omega) rfl
    obtain ⟨e2, p2⟩ := byte_payload (b := b2) (base := 0x80) (k := 64) h.1.2.1 (by omega) rfl
    obtain ⟨e3, p3⟩ := byte_payload (b := b3) (base := 0x80) (k := 64) h.2.1 (by omega) rfl
    obtain ⟨s1, s2, s3⟩ := encodeRune_payload4 (a := b0 % 8) (m := b1 % 64) (l := b2 % 64) (k := b3 % 64)
      (by omega) p1 p2 p3 (by omega) (by omega)
    refine ⟨s1, s2, ?_⟩
    simp only [s3, ← e0, ← e1, ← e2, ← e3]; rfl
  all_goals intro hw; simp at hw

theorem Utf8.decodeFuel_sound (f : Nat) :
    ∀ (inp : Bytes) (cps : List Nat), Utf8.decodeFuel f inp = some cps →
      utf8Encode cps = inp ∧ AllScalar cps := by
  induction f with
  | zero =>
    intro inp cps h
    cases inp with
    | nil => cases h; exact ⟨rfl, AllScalar_nil⟩
    | cons b tl => cases h
  | succ f ih =>
    intro inp cps h
    cases inp with
    | nil => cases h; exact ⟨rfl, AllScalar_nil⟩
    | cons b tl =>
      rw [Utf8.decodeFuel_succ_cons] at h
      split at h
      · rename_i hb
        obtain ⟨t, hr, rfl⟩ := Option.map_eq_some_iff.1 h
        obtain ⟨e, hs⟩ := ih tl t hr
        exact ⟨by rw [utf8Encode_cons_ascii hb, e], AllScalar_cons (IsScalar_of_lt hb) hs⟩
      · split at h
        · rename_i hw
          obtain ⟨t, hr, rfl⟩ := Option.map_eq_some_iff.1 h
          obtain ⟨s1, _, s3⟩ := Utf8.decodeRune_sound (b :: tl) hw
          rw [← Nat.sub_add_cancel (Nat.le_of_lt hw), List.drop_succ_cons] at s3
          obtain ⟨e, hs⟩ := ih _ t hr
          exact ⟨by rw [utf8Encode_cons, e, s3], AllScalar_cons s1 hs⟩
        · cases h

theorem Utf8.decode_sound (inp : Bytes) (cps : List Nat) (h : Utf8.decode inp = some cps) :
    utf8Encode cps = inp ∧ AllScalar cps :=
  Utf8.decodeFuel_sound inp.length inp cps h

theorem Utf8.valid_iff (inp : Bytes) :
    Utf8.valid inp ↔ ∃ cps, AllScalar cps ∧ utf8Encode cps = inp := by
  unfold Utf8.valid
  constructor
  · intro h
    cases hd : Utf8.decode inp with
    | none => rw [hd] at h; exact absurd h (by simp)
    | some cps =>
      obtain ⟨e, hs⟩ := Utf8.decode_sound inp cps hd
      exact ⟨cps, hs, e⟩
  · rintro ⟨cps, hs, e⟩
    rw [← e, Utf8.decode_encode cps hs]; rfl

theorem Utf8.decode_ascii (inp : Bytes) (h : ∀ b ∈ inp, b < 128) : Utf8.decode inp = some inp := by
  have hs : AllScalar inp := AllScalar_of_ascii h
  have e : utf8Encode inp = inp := utf8Encode_ascii inp h
  have := Utf8.decode_encode inp hs
  rw [e] at this
  exact this

end Gql.Lexer
