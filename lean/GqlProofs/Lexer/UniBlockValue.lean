import GqlProofs.Lexer.Utf8Dec
import GqlProofs.Lexer.Lines
/-
  The model's block-string value algorithm works on BYTES; the specification's works on CODE POINTS.
  This file shows that `Lexer.blockStringValue` commutes with UTF-8 encoding
  (`blockStringValue_enc`): the line terminator 10 and the blanks 32 and 9 are ASCII, every byte of
  the encoding of a non-ASCII scalar is ≥ 128, so splitting into lines, measuring indentation,
  stripping the common indent (only blanks are dropped), dropping blank lines and joining with 10
  all act on the encoding the way they act on the code points.
-/
namespace Gql.Lexer

theorem splitLines_mem (x : Bytes) : ∀ l ∈ splitLines x, ∀ c ∈ l, c ∈ x := by
  induction x with
  | nil => intro l hl c hc; simp [splitLines] at hl; subst hl; simp at hc
  | cons b t ih =>
    by_cases h : b = 10
    · subst h
      rw [splitLines_cons_nl]
      intro l hl c hc
      simp at hl
      rcases hl with rfl | hl
      · simp at hc
      · exact List.mem_cons_of_mem _ (ih l hl c hc)
    · obtain ⟨l0, ls, e⟩ := splitLines_eq_cons t
      rw [splitLines_cons_ne h e]
      rw [e] at ih
      intro l hl c hc
      simp at hl
      rcases hl with rfl | hl
      · simp at hc
        rcases hc with rfl | hc
        · simp
        · exact List.mem_cons_of_mem _ (ih l0 (by simp) c hc)
      · exact List.mem_cons_of_mem _ (ih l (by simp [hl]) c hc)

theorem splitLines_allScalar {x : List Nat} (hs : AllScalar x) : ∀ l ∈ splitLines x, AllScalar l :=
  fun l hl c hc => hs c (splitLines_mem x l hl c hc)

theorem splitLines_enc (x : List Nat) (hs : AllScalar x) :
    splitLines (utf8Encode x) = (splitLines x).map utf8Encode := by
  induction x with
  | nil => simp [utf8Encode, splitLines]
  | cons c t ih =>
    have iht := ih (AllScalar_tail hs)
    obtain ⟨l, ls, e⟩ := splitLines_eq_cons t
    rw [e, List.map_cons] at iht
    by_cases h10 : c = 10
    · subst h10
      rw [utf8Encode_cons_ascii (by omega), splitLines_cons_nl, splitLines_cons_nl, iht, e]
      simp [utf8Encode]
    · -- no byte of the encoding of another scalar is a newline
      have hp : 10 ∉ encodeRune c := by
        by_cases hc : c < 128
        · simp [encodeRune_ascii hc, Ne.symm h10]
        · intro h; have := (encodeRune_high (AllScalar_head hs) (by omega) 10 h).1; omega
      rw [utf8Encode_cons, splitLines_append_prefix _ hp iht, splitLines_cons_ne h10 e, List.map_cons, utf8Encode_cons]

theorem isBlank_lt {b : Nat} (h : isBlank b = true) : b < 128 := by
  simp [isBlank] at h; omega

theorem isBlank_high {b : Nat} (h : 128 ≤ b) : isBlank b = false := by
  cases e : isBlank b with
  | false => rfl
  | true => have := isBlank_lt e; omega

theorem leadingWs_cons (b : Nat) (rest : Bytes) :
    leadingWs (b :: rest) = if isBlank b then (leadingWs rest).map (· + 1) else some 0 := by
  rw [leadingWs.eq_def]

theorem leadingWs_enc (l : List Nat) (hs : AllScalar l) : leadingWs (utf8Encode l) = leadingWs l := by
  induction l with
  | nil => rfl
  | cons c t ih =>
    have iht := ih (AllScalar_tail hs)
    by_cases hc : c < 128
    · rw [utf8Encode_cons_ascii hc, leadingWs_cons, leadingWs_cons, iht]
    · obtain ⟨b0, b1, bt, e, h0, _⟩ := encodeRune_high_shape (AllScalar_head hs) (by omega)
      rw [utf8Encode_cons, e, List.cons_append, leadingWs_cons, leadingWs_cons,
        isBlank_high h0, isBlank_high (by omega : 128 ≤ c)]
      simp

theorem commonIndent_enc (ls : List (List Nat)) (hs : ∀ l ∈ ls, AllScalar l) :
    commonIndent (ls.map utf8Encode) = commonIndent ls := by
  induction ls with
  | nil => rfl
  | cons l t ih =>
    have iht := ih (fun l' hl' => hs l' (by simp [hl']))
    rw [List.map_cons, commonIndent.eq_def]
    conv => rhs; rw [commonIndent.eq_def]
    simp only
    rw [iht, leadingWs_enc l (hs l (by simp))]

/-- the line is blank or its indentation is at least `n` -/
def IndentGe (n : Nat) (l : Bytes) : Prop := leadingWs l = none ∨ ∃ i, leadingWs l = some i ∧ n ≤ i

theorem IndentGe_tail {n b : Nat} {t : Bytes} (h : IndentGe (n + 1) (b :: t)) :
    isBlank b = true ∧ IndentGe n t := by
  unfold IndentGe at h
  rw [leadingWs_cons] at h
  by_cases hb : isBlank b = true
  · refine ⟨hb, ?_⟩
    simp only [hb, if_true] at h
    unfold IndentGe
    cases e : leadingWs t with
    | none => left; rfl
    | some j =>
      right
      rw [e] at h
      simp at h
      exact ⟨j, rfl, by omega⟩
  · simp [hb] at h

theorem drop_enc_of_blank_prefix (n : Nat) (l : List Nat) (h : IndentGe n l) :
    (utf8Encode l).drop n = utf8Encode (l.drop n) := by
  induction l generalizing n with
  | nil => simp [utf8Encode]
  | cons c t ih =>
    cases n with
    | zero => simp
    | succ n =>
      obtain ⟨hb, ht⟩ := IndentGe_tail h
      rw [utf8Encode_cons_ascii (isBlank_lt hb)]
      simp only [List.drop_succ_cons]
      exact ih n ht

theorem stripIndent_enc (n : Nat) (l : List Nat) (h : IndentGe n l) :
    stripIndent n (utf8Encode l) = utf8Encode (stripIndent n l) := by
  unfold stripIndent; exact drop_enc_of_blank_prefix n l h

theorem commonIndent_le (ls : List Bytes) : ∀ l ∈ ls, ∀ i, leadingWs l = some i →
    ∃ n, commonIndent ls = some n ∧ n ≤ i := by
  induction ls with
  | nil => intro l hl; cases hl
  | cons l0 t ih =>
    intro l hl i hi
    rw [commonIndent.eq_def]
    simp only
    rcases List.mem_cons.1 hl with rfl | hl
    · rw [hi]
      cases commonIndent t with
      | none => exact ⟨i, rfl, Nat.le_refl i⟩
      | some j => exact ⟨min i j, rfl, Nat.min_le_left i j⟩
    · obtain ⟨n, hn, hni⟩ := ih l hl i hi
      rw [hn]
      cases leadingWs l0 with
      | none => exact ⟨n, rfl, hni⟩
      | some i0 => exact ⟨min i0 n, rfl, Nat.le_trans (Nat.min_le_right i0 n) hni⟩

theorem commonIndent_ge (ls : List Bytes) (n : Nat) (h : commonIndent ls = some n) :
    ∀ l ∈ ls, IndentGe n l := by
  intro l hl
  cases hi : leadingWs l with
  | none => exact .inl hi
  | some i =>
    obtain ⟨n', hn, hni⟩ := commonIndent_le ls l hl i hi
    exact .inr ⟨i, hi, by rw [h] at hn; cases hn; exact hni⟩

theorem map_stripIndent_enc (n : Nat) (ls : List (List Nat)) (h : ∀ l ∈ ls, IndentGe n l) :
    (ls.map utf8Encode).map (stripIndent n) = (ls.map (stripIndent n)).map utf8Encode := by
  induction ls with
  | nil => rfl
  | cons l t ih =>
    simp only [List.map_cons]
    rw [stripIndent_enc n l (h l (by simp)), ih (fun l' hl' => h l' (by simp [hl']))]

theorem dropBlankFront_enc (ls : List (List Nat)) (hs : ∀ l ∈ ls, AllScalar l) :
    dropBlankFront (ls.map utf8Encode) = (dropBlankFront ls).map utf8Encode := by
  induction ls with
  | nil => rfl
  | cons l t ih =>
    have iht := ih (fun l' hl' => hs l' (by simp [hl']))
    rw [List.map_cons, dropBlankFront.eq_def]
    conv => rhs; rw [dropBlankFront.eq_def]
    simp only
    rw [leadingWs_enc l (hs l (by simp))]
    by_cases e : leadingWs l = none
    · simp only [e, if_true]; exact iht
    · simp only [e, if_false, List.map_cons]

theorem dropBlankFront_mem (ls : List Bytes) : ∀ l ∈ dropBlankFront ls, l ∈ ls := by
  induction ls with
  | nil => intro l hl; simp [dropBlankFront] at hl
  | cons a t ih =>
    intro l hl
    rw [dropBlankFront.eq_def] at hl
    simp only at hl
    by_cases e : leadingWs a = none
    · simp only [e, if_true] at hl
      exact List.mem_cons_of_mem _ (ih l hl)
    · simp only [e, if_false] at hl
      exact hl

theorem dropBlankBack_enc (ls : List (List Nat)) (hs : ∀ l ∈ ls, AllScalar l) :
    dropBlankBack (ls.map utf8Encode) = (dropBlankBack ls).map utf8Encode := by
  unfold dropBlankBack
  rw [← List.map_reverse, dropBlankFront_enc ls.reverse (fun l hl => hs l (by simpa using hl)),
    List.map_reverse]

theorem joinLines_enc (ls : List (List Nat)) :
    joinLines (ls.map utf8Encode) = utf8Encode (joinLines ls) := by
  induction ls with
  | nil => rfl
  | cons l t ih =>
    cases t with
    | nil => simp [joinLines]
    | cons l' t' =>
      have e1 : joinLines (l :: l' :: t') = l ++ 10 :: joinLines (l' :: t') := by
        rw [joinLines.eq_def]
      have e2 : joinLines ((l :: l' :: t').map utf8Encode) =
          utf8Encode l ++ 10 :: joinLines ((l' :: t').map utf8Encode) := by
        simp only [List.map_cons]
        rw [joinLines.eq_def]
      rw [e1, e2, ih, utf8Encode_append, utf8Encode_cons_ascii (by omega : 10 < 128)]

theorem finish_enc (ls : List (List Nat)) (hs : ∀ l ∈ ls, AllScalar l) :
    joinLines (dropBlankBack (dropBlankFront (ls.map utf8Encode))) =
      utf8Encode (joinLines (dropBlankBack (dropBlankFront ls))) := by
  rw [dropBlankFront_enc ls hs,
    dropBlankBack_enc _ (fun l hl => hs l (dropBlankFront_mem ls l hl)), joinLines_enc]

theorem blockStringValue_enc (x : List Nat) (hs : AllScalar x) :
    blockStringValue (utf8Encode x) = utf8Encode (blockStringValue x) := by
  have hl := splitLines_allScalar hs
  unfold blockStringValue
  simp only
  rw [splitLines_enc x hs]
  cases e : splitLines x with
  | nil => exact absurd e (splitLines_ne_nil x)
  | cons first others =>
    rw [e] at hl
    have ho : ∀ l ∈ others, AllScalar l := fun l h => hl l (by simp [h])
    simp only [List.map_cons]
    rw [commonIndent_enc others ho]
    cases ec : commonIndent others with
    | none =>
      simp only
      rw [← List.map_cons]
      exact finish_enc _ hl
    | some n =>
      simp only
      rw [map_stripIndent_enc n others (commonIndent_ge others n ec), ← List.map_cons]
      apply finish_enc
      intro l h
      simp at h
      rcases h with rfl | ⟨a, ha, rfl⟩
      · exact hl _ (by simp)
      · exact AllScalar_drop n (ho a ha)

end Gql.Lexer
