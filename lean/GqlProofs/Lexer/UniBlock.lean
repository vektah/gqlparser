import GqlProofs.Lexer.UniString
import GqlProofs.Lexer.SpecBlock
/-
  `readBlockLoop` (model, on the BYTES `utf8Encode l`) against `Spec.blockBody l` (specification, on
  the CODE POINTS `l`) for every list of Unicode scalar values, together with the position
  invariant (`InvU`: line, line start and rune offset of the cursor are the specification's count
  over the consumed code points; a pending CR is not followed by LF).

  The model closes the block string with the LAST three quotes of a longer run: the statement
  characterises the model exactly (`quoteRun r` extra quotes go into value and extent).
-/
namespace Gql.Lexer
open Gql.Lexer.Spec

/-- the cursor agrees with a position state (rune offsets; the byte offset is not observable) -/
def AgreeU (s : PState) (c : Cur) : Prop := s.line = c.line ∧ s.ls = c.ls ∧ s.off = c.endR

def InvU (s : PState) (c : Cur) (rest : List Cp) : Prop :=
  AgreeU s c ∧ (s.cr = true → rest.head? ≠ some 10)

theorem InvU_noNL (s : PState) (c : Cur) (x rest : List Cp) (nb : Nat) (h : AgreeU s c) (hx : NoNL x)
    (hne : x ≠ []) : InvU (foldPos s x) (c.adv nb x.length) rest := by
  have := foldPos_noNL s x hx
  obtain ⟨a1, a2, a3⟩ := h
  refine ⟨⟨?_, ?_, ?_⟩, ?_⟩ <;> simp_all [Cur.adv]

/-- one code point other than CR, of any width in bytes; `b` is the byte the model tests for LF -/
theorem InvU_char (s : PState) (c : Cur) (r b nb : Nat) (t : List Cp) (h : InvU s c (r :: t)) (h13 : r ≠ 13)
    (hb : b = 10 ↔ r = 10) :
    InvU (foldPos s [r]) (if b = 10 then (c.adv nb 1).newline else c.adv nb 1) t := by
  obtain ⟨⟨a1, a2, a3⟩, hcr⟩ := h
  by_cases h10 : r = 10
  · subst h10
    have hcr' : s.cr = false := by
      cases hsr : s.cr with
      | false => rfl
      | true => exact absurd rfl (hcr hsr)
    rw [if_pos (hb.2 rfl)]
    refine ⟨⟨?_, ?_, ?_⟩, ?_⟩ <;> simp [posStep, hcr', Cur.adv, Cur.newline, a1, a3]
  · rw [if_neg (mt hb.1 h10)]
    simpa using InvU_noNL s c [r] t nb ⟨a1, a2, a3⟩ (NoNL_cons ⟨h10, h13⟩ NoNL_nil) (by simp)

theorem InvU_cr (s : PState) (c : Cur) (t : List Cp) (h : AgreeU s c) (hh : t.head? ≠ some 10) :
    InvU (foldPos s [13]) (c.adv 1 1).newline t := by
  obtain ⟨a1, a2, a3⟩ := h
  refine ⟨⟨?_, ?_, ?_⟩, ?_⟩ <;> simp [posStep, Cur.adv, Cur.newline, a1, a3]
  exact hh

theorem InvU_crlf (s : PState) (c : Cur) (t : List Cp) (h : AgreeU s c) :
    InvU (foldPos s [13, 10]) (c.adv 2 2).newline t := by
  obtain ⟨a1, a2, a3⟩ := h
  refine ⟨⟨?_, ?_, ?_⟩, ?_⟩ <;> simp [posStep, Cur.adv, Cur.newline, a1, a3]

theorem quoteRun_enc (l : List Nat) (hs : AllScalar l) : quoteRun (utf8Encode l) = quoteRun l := by
  induction l with
  | nil => rfl
  | cons c t ih =>
    by_cases hc : c = 34
    · subst hc
      rw [utf8Encode_cons_ascii (by omega), quoteRun_q, quoteRun_q, ih (AllScalar_tail hs)]
    · rw [utf8Encode_cons, quoteRun_of_ne (AllScalar_head hs) hc, quoteRun_ne c t hc]

theorem drop_quoteRun_enc (l : List Nat) :
    (utf8Encode l).drop (quoteRun l) = utf8Encode (l.drop (quoteRun l)) := by
  fun_induction quoteRun l with
  | case1 t ih => rw [utf8Encode_cons_ascii (by omega)]; simpa using ih
  | case2 l h => simp

/-- the model step agrees with the optional (raw value, length, rest) of the specification; the
    model additionally swallows the `quoteRun r` quotes that follow the closing `"""` -/
def BlkMatchesU (q : Cur) (s : PState) (c : Cur) (acc : Bytes) (l : List Cp) (st : Step)
    (o : Option (List Cp × Nat × List Cp)) : Prop :=
  match o with
  | none => ∃ e, st = .err e
  | some (raw, n, r) => ∃ c' x, l = x ++ r.drop (quoteRun r) ∧ x.length = n + quoteRun r ∧
      InvU (foldPos s x) c' (r.drop (quoteRun r)) ∧ c'.endR = c.endR + n + quoteRun r ∧
      st = .tok
        { kind := .blockString,
          value := blockStringValue (acc.reverse ++ utf8Encode (normCR raw) ++ List.replicate (quoteRun r) 34),
          start := q.endR, stop := c.endR + n, line := q.line, col := colOf q.endR q.ls }
        (utf8Encode (r.drop (quoteRun r))) c'

theorem BlkMatchesU_cons (q : Cur) (s : PState) (c c2 : Cur) (acc : Bytes) (st : Step)
    (chunk l' cs encc : List Nat) (o : Option (List Cp × Nat × List Cp))
    (hc : c2.endR = c.endR + chunk.length)
    (hn : ∀ raw n r, o = some (raw, n, r) → normCR (cs ++ raw) = encc ++ normCR raw)
    (h : BlkMatchesU q (foldPos s chunk) c2 ((utf8Encode encc).reverse ++ acc) l' st o) :
    BlkMatchesU q s c acc (chunk ++ l') st (consB cs chunk.length o) := by
  cases o with
  | none => exact h
  | some p =>
    obtain ⟨raw, n, r⟩ := p
    obtain ⟨c', x, h1, h2, h3, h4, h5⟩ := h
    refine ⟨c', chunk ++ x, by rw [h1]; simp, by simp [h2]; omega, by rw [foldPos_append]; exact h3,
      by rw [h4, hc]; omega, ?_⟩
    rw [h5, hn raw n r rfl, hc]
    simp [utf8Encode_append, Nat.add_assoc, Nat.add_comm chunk.length n]

theorem isSourceChar_false {b : Nat} (h : b < 32 ∧ b ≠ 9 ∧ b ≠ 10 ∧ b ≠ 13) : isSourceChar b = false := by
  cases hs : isSourceChar b with
  | false => rfl
  | true => have := (isSourceChar_iff b).1 hs; omega

theorem head_ne_10_of_enc {t : List Nat} {r' : Bytes} (e : r' = utf8Encode t)
    (h : ∀ x, r' = 10 :: x → False) : t.head? ≠ some 10 := by
  intro h10
  cases t with
  | nil => simp at h10
  | cons d t' =>
    simp at h10; subst h10
    rw [utf8Encode_cons_ascii (by omega)] at e
    exact h _ e

theorem readBlockLoop_u (q : Cur) (bs : Bytes) (c : Cur) (acc : Bytes) :
    ∀ (l : List Cp) (s : PState), AllScalar l → bs = utf8Encode l → InvU s c l →
      BlkMatchesU q s c acc l (readBlockLoop q bs c acc) (blockBody l) := by
  fun_induction readBlockLoop q bs c acc
  case case1 =>
    intro l s hs hbs _
    have := utf8Encode_eq_nil hbs.symm
    subst this
    simp [blockBody_nil, BlkMatchesU, mkErr]
  case case2 b tl c acc n hn =>
    intro l s hs hbs hinv
    have hnl : n = quoteRun l := by simp only [n]; rw [hbs, quoteRun_enc l hs]
    obtain ⟨rest, e, hq⟩ := quoteRun_ge3 l (by omega)
    have hn' : n = quoteRun rest + 3 := by omega
    clear_value n
    subst hn'
    have hdrop : (b :: tl).drop (quoteRun rest + 3) = utf8Encode (rest.drop (quoteRun rest)) := by
      rw [hbs, ← hq, drop_quoteRun_enc, hq, e]; simp
    have htake := quoteRun_take l
    rw [e, blockBody_close]
    refine ⟨c.adv (quoteRun rest + 3) (quoteRun rest + 3), l.take (quoteRun l), ?_, ?_, ?_, ?_, ?_⟩
    · have : l.drop (quoteRun l) = rest.drop (quoteRun rest) := by rw [hq, e]; simp
      rw [← e, ← this]; simp
    · rw [htake.1, hq]; omega
    · have hne : l.take (quoteRun l) ≠ [] := by
        intro h0
        have : (l.take (quoteRun l)).length = 0 := by simp [h0]
        rw [htake.1] at this; omega
      have := InvU_noNL s c (l.take (quoteRun l)) (rest.drop (quoteRun rest)) (quoteRun rest + 3) hinv.1 htake.2 hne
      have hlen : (l.take (quoteRun l)).length = quoteRun rest + 3 := by rw [htake.1, hq]
      rw [hlen] at this
      exact this
    · simp [Cur.adv]; omega
    · rw [hdrop]
      simp [normCR_nil, utf8Encode_nil]
  case case3 b tl c acc n h1 h2 =>
    intro l s hs hbs _
    obtain ⟨t, rfl, _, _⟩ := enc_ascii_head hs hbs.symm (by omega)
    rw [blockBody_plain b t (by intro r e; simp at e; omega) (by intro r e; simp at e; omega)]
    simp [isSourceChar_false h2, BlkMatchesU, mkErr]
  case case4 c acc tl' _ n _ ih =>
    intro l s hs hbs hinv
    obtain ⟨t, rfl, e, hst⟩ := enc_ascii_prefix [92, 34, 34, 34] hs (by simpa using hbs.symm)
      (by intro x hx; simp at hx; omega)
    have hnl : NoNL [92, 34, 34, 34] := by intro x hx; simp at hx; omega
    have hinv' := InvU_noNL s c [92, 34, 34, 34] t 4 hinv.1 hnl (by simp)
    have := BlkMatchesU_cons q s c (c.adv 4 4) acc _ [92, 34, 34, 34] t [34, 34, 34] [34, 34, 34]
      (blockBody t) (by simp [Cur.adv]) (by intro raw n r _; simp [normCR_plain])
      (by simpa [utf8Encode, encodeRune] using ih t _ hst e hinv')
    show BlkMatchesU q s c acc (92 :: 34 :: 34 :: 34 :: t) _ (blockBody (92 :: 34 :: 34 :: 34 :: t))
    rw [blockBody_esc]
    simpa using this
  case case5 c acc tl' hx _ n _ ih =>
    intro l s hs hbs hinv
    obtain ⟨t, rfl, e, hst⟩ := enc_ascii_head hs hbs.symm (by omega)
    rw [blockBody_plain 92 t (by intro r e; simp at e) (by
      intro r e'
      simp at e'
      subst e'
      rw [show (34 :: 34 :: 34 :: r : List Nat) = [34, 34, 34] ++ r from rfl,
        utf8Encode_ascii_append (by intro x hx; simp at hx; omega)] at e
      exact hx _ e)]
    have hsc : isSourceChar 92 = true := by decide
    simp only [hsc]
    have hinv' := InvU_noNL s c [92] t 1 hinv.1 (NoNL_cons (by omega) NoNL_nil) (by simp)
    have := BlkMatchesU_cons q s c (c.adv 1 1) acc _ [92] t [92] [92] (blockBody t) (by simp [Cur.adv])
      (by intro raw n r _; simp [normCR_plain])
      (by simpa [utf8Encode, encodeRune] using ih t _ hst e hinv')
    simpa using this
  case case6 c acc r' _ _ n _ ih =>
    intro l s hs hbs hinv
    obtain ⟨t, rfl, e, hst⟩ := enc_ascii_prefix [13, 10] hs (by simpa using hbs.symm)
      (by intro x hx; simp at hx; omega)
    rw [show blockBody ([13, 10] ++ t) = _ from blockBody_crlf t]
    exact BlkMatchesU_cons q s c (c.adv 2 2).newline acc _ [13, 10] t [13, 10] [10] (blockBody t)
      (by simp [Cur.adv, Cur.newline]) (by intro raw n r _; simp [normCR_crlf])
      (by simpa [utf8Encode, encodeRune] using ih t _ hst e (InvU_crlf s c t hinv.1))
  case case7 c acc r' hx _ _ n _ ih =>
    intro l s hs hbs hinv
    obtain ⟨t, rfl, e, hst⟩ := enc_ascii_head hs hbs.symm (by omega)
    have hh := head_ne_10_of_enc e (fun x ex => hx x ex)
    have hinv' := InvU_cr s c t hinv.1 hh
    rw [blockBody_plain 13 _ (by intro r e; simp at e) (by intro r e; simp at e)]
    have hs1 : isSourceChar 13 = true := by decide
    simp only [hs1]
    have := BlkMatchesU_cons q s c (c.adv 1 1).newline acc _ [13] t [13] [10] (blockBody t)
      (by simp [Cur.adv, Cur.newline])
      (by
        intro raw n r hb
        refine normCR_cr raw ?_
        intro t' ht
        subst ht
        obtain ⟨t'', e'⟩ := blockBody_head_lf t t' n r hb
        rw [e'] at hh; simp at hh)
      (by simpa [utf8Encode, encodeRune] using ih t _ hst e hinv')
    simpa using this
  case case8 b tl c acc n h1 h2 h3 h4 r w hd c' ih =>
    intro l s hs hbs hinv
    cases l with
    | nil => cases hbs
    | cons cp t =>
      obtain ⟨hbc, _, hd', hdrop, _⟩ := enc_step (AllScalar_head hs) (utf8Encode t) hbs
      obtain ⟨rfl, rfl⟩ := Prod.mk.inj (hd.symm.trans hd')
      have hq : ∀ rr, r :: t = 34 :: 34 :: 34 :: rr → False := by
        intro rr e'
        refine h1 ⟨by have := (List.cons.inj e').1; omega, ?_⟩
        simp only [n]
        rw [hbs, quoteRun_enc _ hs, e']
        simp [quoteRun]
      rw [blockBody_plain r t hq (by intro rr e'; have := (List.cons.inj e').1; omega)]
      have hsc : isSourceChar r = true := (isSourceChar_iff r).2 (by omega)
      simp only [hsc]
      have hinv' := InvU_char s c r b (encodeRune r).length t hinv (by omega) (by omega)
      rw [hdrop] at ih ⊢
      simpa using BlkMatchesU_cons q s c (if b = 10 then c'.newline else c') acc _ [r] t [r] [r] (blockBody t)
        (by simp only [c']; split <;> simp [Cur.adv, Cur.newline])
        (by intro raw n r' _; simp [normCR_plain _ _ (show r ≠ 13 by omega)])
        (by simpa [utf8Encode] using ih t _ (AllScalar_tail hs) rfl hinv')

end Gql.Lexer
