import GqlModel.Lexer.Spec
import GqlProofs.Lexer.Pos
import GqlProofs.Format.Utf8
/-
  Small facts shared by the per-class equivalence proofs: an ASCII text is its own UTF-8 encoding
  (`utf8Encode_ascii`), `Ascii` is kept by the list operations, the character classes as arithmetic
  conditions, and the byte-class scanning loops of the lexer model (`nameSpan`, `digitSpan`) are the
  span function of the specification (`Spec.spanP`).
-/
namespace Gql.Lexer
open Gql.Lexer.Spec

theorem utf8Encode_ascii (v : Bytes) (h : Ascii v) : utf8Encode v = v := by
  induction v with
  | nil => rfl
  | cons b t ih =>
    have hb : b < 0x80 := Ascii_head h
    simp only [utf8Encode, List.flatMap_cons] at ih ⊢
    rw [ih (Ascii_tail h), encodeRune_ascii hb]; rfl

theorem utf8Encode_cons (b : Nat) (v : List Nat) : utf8Encode (b :: v) = encodeRune b ++ utf8Encode v := by
  simp [utf8Encode]

theorem Ascii_append_left {a b : Bytes} (h : Ascii (a ++ b)) : Ascii a := fun c hc => h c (by simp [hc])
theorem Ascii_nil : Ascii [] := fun _ h => by simp at h
theorem Ascii_cons {b : Nat} {l : Bytes} (hb : b < 128) (hl : Ascii l) : Ascii (b :: l) := by
  intro c hc; simp at hc; rcases hc with rfl | hc
  · exact hb
  · exact hl c hc
theorem Ascii_drop {l : Bytes} (n : Nat) (h : Ascii l) : Ascii (l.drop n) := fun c hc => h c (List.mem_of_mem_drop hc)
theorem Ascii_take {l : Bytes} (n : Nat) (h : Ascii l) : Ascii (l.take n) := fun c hc => h c (List.mem_of_mem_take hc)

theorem isSourceChar_iff (b : Nat) : isSourceChar b = true ↔ (b = 9 ∨ b = 10 ∨ b = 13 ∨ 32 ≤ b) := by
  simp [isSourceChar, or_assoc]
theorem isLineTerminatorStart_iff (b : Nat) : isLineTerminatorStart b = true ↔ (b = 10 ∨ b = 13) := by
  simp [isLineTerminatorStart]

theorem spanP_append (p : Cp → Bool) (l : List Cp) : l = (spanP p l).1 ++ (spanP p l).2 := by
  fun_induction spanP p l with
  | case1 => rfl
  | case2 c rest hc a b heq ih => simp only [heq] at ih; simp [← ih]
  | case3 c rest hc => rfl

theorem spanP_all (p : Cp → Bool) (l : List Cp) : ∀ c ∈ (spanP p l).1, p c = true := by
  fun_induction spanP p l with
  | case1 => simp
  | case2 c rest hc a b heq ih =>
    simp only [heq] at ih
    intro x hx
    rcases List.mem_cons.1 hx with rfl | hx
    · exact hc
    · exact ih x hx
  | case3 c rest hc => simp

theorem isDigit_eq (b : Nat) : isDigit b = isDigitC b := rfl

theorem digitSpan_eq_spanP (l : Bytes) : digitSpan l = spanP isDigitC l := by
  induction l with
  | nil => rfl
  | cons b t ih => simp only [digitSpan, spanP, ih, isDigit_eq]

theorem digitSpan_append (l : Bytes) : l = (digitSpan l).1 ++ (digitSpan l).2 :=
  digitSpan_eq_spanP l ▸ spanP_append _ l

theorem isNameCont_eq (b : Nat) : isNameCont b = isNameContinueC b := by
  simp only [isNameCont, isNameStart, isDigit, isNameContinueC, isLetter, isDigitC]
  cases (decide (65 ≤ b) && decide (b ≤ 90) || decide (97 ≤ b) && decide (b ≤ 122)) <;>
    cases (b == 95) <;> cases (decide (48 ≤ b) && decide (b ≤ 57)) <;> rfl

theorem isNameStart_eq (b : Nat) : isNameStart b = isNameStartC b := rfl

theorem nameSpan_eq_spanP (l : Bytes) : nameSpan l = spanP isNameContinueC l := by
  induction l with
  | nil => rfl
  | cons b t ih => simp only [nameSpan, spanP, ih, isNameCont_eq]

theorem nameSpan_append (l : Bytes) : l = (nameSpan l).1 ++ (nameSpan l).2 :=
  nameSpan_eq_spanP l ▸ spanP_append _ l

end Gql.Lexer
