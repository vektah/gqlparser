import GqlProofs.Lexer.SpecNumber
/-
  ONE analysis of the specification's number scanner:

      numberToken cs = some (k, lex, r)  ↔  cs = lex ++ r ∧ NumLex k lex ∧ numberFollowOk r = true

  where `NumLex k lex` is the grammar of IntValue / FloatValue written as a predicate on the lexeme
  alone.  Every scanner of the specification (`integerPart`, `fractionalPart`, `exponentPart`) gets two
  lemmas: `_some` (what it returns has the shape of its nonterminal) and `_app` (a text of that shape is
  read back in front of anything that does not start with a digit).
-/
namespace Gql.Lexer
open Gql.Lexer.Spec

def NoHead (p : Nat → Bool) : List Nat → Prop
  | [] => True
  | c :: _ => p c = false

/-- Digit+ -/
def Digits1 (ds : List Nat) : Prop := ds ≠ [] ∧ ∀ c ∈ ds, isDigitC c = true

/-- IntegerPart :: NegativeSign? 0 | NegativeSign? NonZeroDigit Digit* -/
def IsInt (ip : List Nat) : Prop :=
  ∃ sg ds, ip = sg ++ ds ∧ (sg = [] ∨ sg = [45]) ∧ Digits1 ds ∧ ∀ t, ds = 48 :: t → t = []

/-- FractionalPart :: . Digit+ -/
def IsFrac (fp : List Nat) : Prop := ∃ fr, fp = 46 :: fr ∧ Digits1 fr

/-- ExponentPart :: ExponentIndicator Sign? Digit+ -/
def IsExp (ep : List Nat) : Prop :=
  ∃ e s ed, ep = e :: (s ++ ed) ∧ (e = 101 ∨ e = 69) ∧ (s = [] ∨ s = [43] ∨ s = [45]) ∧ Digits1 ed

/-- what follows the IntegerPart: nothing in an IntValue, the three alternatives of FloatValue -/
inductive IsTail : Kind → List Nat → Prop
  | int : IsTail .int []
  | frac {fp} : IsFrac fp → IsTail .float fp
  | exp {ep} : IsExp ep → IsTail .float ep
  | fracExp {fp ep} : IsFrac fp → IsExp ep → IsTail .float (fp ++ ep)

/-- IntValue (`k = .int`) or FloatValue (`k = .float`) -/
def NumLex (k : Kind) (lex : List Nat) : Prop := ∃ ip y, lex = ip ++ y ∧ IsInt ip ∧ IsTail k y

theorem isDigitC_iff {c : Nat} : isDigitC c = true ↔ 48 ≤ c ∧ c ≤ 57 := by simp [isDigitC]

theorem Digits1.head {ds : List Nat} (h : Digits1 ds) : ∃ d tl, ds = d :: tl ∧ 48 ≤ d ∧ d ≤ 57 := by
  cases ds with
  | nil => exact absurd rfl h.1
  | cons d tl => exact ⟨d, tl, rfl, isDigitC_iff.1 (h.2 d (by simp))⟩

theorem IsFrac.noDig {fp : List Nat} (h : IsFrac fp) (X : List Nat) : NoHead isDigitC (fp ++ X) := by
  obtain ⟨fr, rfl, -⟩ := h
  exact (rfl : isDigitC 46 = false)

theorem IsExp.head {ep : List Nat} (h : IsExp ep) (X : List Nat) :
    NoHead isDigitC (ep ++ X) ∧ fractionalPart (ep ++ X) = none := by
  obtain ⟨e, s, ed, rfl, he, -⟩ := h
  constructor
  · show isDigitC e = false
    rcases he with rfl | rfl <;> rfl
  · refine fractionalPart_nodot _ fun t h => ?_
    injection h with h _
    omega

theorem followOk_head {r : List Nat} (h : numberFollowOk r = true) :
    NoHead isDigitC r ∧ fractionalPart r = none ∧ exponentPart r = none := by
  cases r with
  | nil => exact ⟨trivial, rfl, rfl⟩
  | cons c t =>
    have hc : (isDigitC c = false ∧ ¬ c = 46) ∧ isNameStartC c = false := by simpa [numberFollowOk] using h
    refine ⟨hc.1.1, fractionalPart_nodot _ fun t h => ?_, exponentPart_not_e c t ?_⟩
    · injection h with h _
      exact hc.1.2 h
    · rintro (rfl | rfl) <;> cases hc.2

theorem IsTail.noDig {k : Kind} {y r : List Nat} (hy : IsTail k y) (hf : numberFollowOk r = true) :
    NoHead isDigitC (y ++ r) := by
  cases hy with
  | int => exact (followOk_head hf).1
  | frac hF => exact hF.noDig r
  | exp hE => exact (hE.head r).1
  | fracExp hF hE => rw [List.append_assoc]; exact hF.noDig _

theorem spanP_app {p : Nat → Bool} {a b : List Nat} (ha : ∀ c ∈ a, p c = true) (hb : NoHead p b) :
    spanP p (a ++ b) = (a, b) := by
  induction a with
  | nil =>
    cases b with
    | nil => rfl
    | cons c t => simp [spanP, show p c = false from hb]
  | cons x a ih => simp [spanP, ha x (by simp), ih fun c hc => ha c (by simp [hc])]

/-- the right-hand side of `fractionalPart_dot`, `exponentPart_sign`, `exponentPart_nosign` -/
def digitsAfter (pre t : List Nat) : Option (List Nat × List Nat) :=
  if (digitSpan t).1.isEmpty then none else some (pre ++ (digitSpan t).1, (digitSpan t).2)

theorem digitsAfter_some {pre t x r : List Nat} (h : digitsAfter pre t = some (x, r)) :
    ∃ ds, x = pre ++ ds ∧ t = ds ++ r ∧ Digits1 ds := by
  unfold digitsAfter at h
  rw [digitSpan_eq_spanP] at h
  split at h
  · cases h
  · rename_i hne
    cases h
    exact ⟨_, rfl, spanP_append _ t, by simpa using hne, spanP_all _ t⟩

theorem digitsAfter_app (pre : List Nat) {ds r : List Nat} (hd : Digits1 ds) (hr : NoHead isDigitC r) :
    digitsAfter pre (ds ++ r) = some (pre ++ ds, r) := by
  unfold digitsAfter
  rw [digitSpan_eq_spanP, spanP_app hd.2 hr]
  simp [hd.1]

theorem fractionalPart_some {cs fp r : List Nat} (h : fractionalPart cs = some (fp, r)) :
    cs = fp ++ r ∧ IsFrac fp := by
  by_cases hc : ∃ t, cs = 46 :: t
  · obtain ⟨t, rfl⟩ := hc
    rw [fractionalPart_dot] at h
    obtain ⟨fr, rfl, rfl, hd⟩ := digitsAfter_some (pre := [46]) h
    exact ⟨rfl, fr, rfl, hd⟩
  · rw [fractionalPart_nodot cs fun t e => hc ⟨t, e⟩] at h
    cases h

theorem fractionalPart_app {fp r : List Nat} (h : IsFrac fp) (hr : NoHead isDigitC r) :
    fractionalPart (fp ++ r) = some (fp, r) := by
  obtain ⟨fr, rfl, hd⟩ := h
  exact (fractionalPart_dot _).trans (digitsAfter_app [46] hd hr)

theorem exponentPart_some {cs ep r : List Nat} (h : exponentPart cs = some (ep, r)) :
    cs = ep ++ r ∧ IsExp ep := by
  match cs with
  | [] => cases h
  | e :: t =>
    by_cases he : e = 101 ∨ e = 69
    · by_cases hs : ∃ s t', t = s :: t' ∧ (s = 45 ∨ s = 43)
      · obtain ⟨s, t', rfl, hs⟩ := hs
        rw [exponentPart_sign e s t' he hs] at h
        obtain ⟨ed, rfl, rfl, hd⟩ := digitsAfter_some (pre := [e, s]) h
        exact ⟨rfl, e, [s], ed, rfl, he, by rcases hs with rfl | rfl <;> simp, hd⟩
      · rw [exponentPart_nosign e t he fun s t' e h => hs ⟨s, t', e, h⟩] at h
        obtain ⟨ed, rfl, rfl, hd⟩ := digitsAfter_some (pre := [e]) h
        exact ⟨rfl, e, [], ed, rfl, he, .inl rfl, hd⟩
    · rw [exponentPart_not_e e t he] at h
      cases h

theorem exponentPart_app {ep r : List Nat} (h : IsExp ep) (hr : NoHead isDigitC r) :
    exponentPart (ep ++ r) = some (ep, r) := by
  obtain ⟨e, s, ed, rfl, he, hs, hd⟩ := h
  rcases hs with rfl | rfl | rfl
  · -- no sign: the first digit of `ed` is not taken for one
    obtain ⟨d, tl, rfl, hd48⟩ := hd.head
    refine (exponentPart_nosign e _ he fun s t' h => ?_).trans (digitsAfter_app [e] hd hr)
    injection h with h _
    omega
  · exact (exponentPart_sign e 43 _ he (.inr rfl)).trans (digitsAfter_app [e, 43] hd hr)
  · exact (exponentPart_sign e 45 _ he (.inl rfl)).trans (digitsAfter_app [e, 45] hd hr)

theorem intPart_cons (sg : List Cp) (d : Cp) (r : List Cp) (hd : d ≠ 48) :
    intPart sg (d :: r) =
      if isDigitC d then some (sg ++ d :: (spanP isDigitC r).1, (spanP isDigitC r).2) else none := by
  unfold intPart
  split
  · rename_i h; simp at h; exact absurd h.1 hd
  · rename_i h; simp at h; obtain ⟨rfl, rfl⟩ := h; rfl
  · rename_i h; simp at h

theorem intPart_some {sg r1 ip r : List Nat} (h : intPart sg r1 = some (ip, r)) :
    ∃ ds, ip = sg ++ ds ∧ r1 = ds ++ r ∧ Digits1 ds ∧ ∀ t, ds = 48 :: t → t = [] := by
  cases r1 with
  | nil => cases h
  | cons d t =>
    by_cases h48 : d = 48
    · subst h48
      cases (h : some (sg ++ [48], t) = some (ip, r))
      exact ⟨[48], rfl, rfl, ⟨by simp, by simp [isDigitC]⟩, by simp⟩
    · rw [intPart_cons sg d t h48] at h
      split at h
      · cases h
        exact ⟨d :: (spanP isDigitC t).1, rfl, congrArg _ (spanP_append _ t),
          ⟨by simp, List.forall_mem_cons.2 ⟨‹_›, spanP_all _ t⟩⟩, fun _ e => absurd (List.cons.inj e).1 h48⟩
      · cases h

theorem intPart_app (sg : List Nat) {ds r : List Nat} (hd : Digits1 ds) (hz : ∀ t, ds = 48 :: t → t = [])
    (hr : NoHead isDigitC r) : intPart sg (ds ++ r) = some (sg ++ ds, r) := by
  cases ds with
  | nil => exact absurd rfl hd.1
  | cons d tl =>
    by_cases h48 : d = 48
    · subst h48
      rw [hz tl rfl]
      rfl
    · rw [List.cons_append, intPart_cons sg d _ h48, if_pos (hd.2 d (by simp)),
        spanP_app (fun c hc => hd.2 c (by simp [hc])) hr]

theorem integerPart_minus (t : List Nat) : integerPart (45 :: t) = intPart [45] t := by
  rw [integerPart_eq]
  rfl

theorem integerPart_nominus {cs : List Nat} (h : ∀ t, cs ≠ 45 :: t) : integerPart cs = intPart [] cs := by
  rw [integerPart_eq]
  unfold stripSign
  split
  · exact absurd rfl (h _)
  · rfl

theorem integerPart_some {cs ip r : List Nat} (h : integerPart cs = some (ip, r)) : cs = ip ++ r ∧ IsInt ip := by
  by_cases hm : ∃ t, cs = 45 :: t
  · obtain ⟨t, rfl⟩ := hm
    rw [integerPart_minus] at h
    obtain ⟨ds, rfl, rfl, hds⟩ := intPart_some h
    exact ⟨rfl, [45], ds, rfl, .inr rfl, hds⟩
  · rw [integerPart_nominus fun t e => hm ⟨t, e⟩] at h
    obtain ⟨ds, rfl, rfl, hds⟩ := intPart_some h
    exact ⟨rfl, [], _, rfl, .inl rfl, hds⟩

theorem integerPart_app {ip r : List Nat} (h : IsInt ip) (hr : NoHead isDigitC r) :
    integerPart (ip ++ r) = some (ip, r) := by
  obtain ⟨sg, ds, rfl, rfl | rfl, hd, hz⟩ := h
  · obtain ⟨d, tl, rfl, hd48⟩ := hd.head
    refine (integerPart_nominus fun t h => ?_).trans (intPart_app [] hd hz hr)
    injection h with h _
    omega
  · exact (integerPart_minus _).trans (intPart_app [45] hd hz hr)

theorem numTail_iff {x r : List Nat} {k : Kind} {lex r' : List Nat} :
    numTail x r = some (k, lex, r') ↔
      ∃ y, lex = x ++ y ∧ r = y ++ r' ∧ IsTail k y ∧ numberFollowOk r' = true := by
  constructor
  · intro h
    unfold numTail at h
    split at h <;> split at h <;> obtain ⟨rfl, rfl, rfl, hf⟩ := finS_eq_some h
    · obtain ⟨rfl, hF⟩ := fractionalPart_some ‹_›
      obtain ⟨rfl, hE⟩ := exponentPart_some ‹_›
      exact ⟨_, List.append_assoc .., (List.append_assoc ..).symm, .fracExp hF hE, hf⟩
    · obtain ⟨rfl, hF⟩ := fractionalPart_some ‹_›
      exact ⟨_, rfl, rfl, .frac hF, hf⟩
    · obtain ⟨rfl, hE⟩ := exponentPart_some ‹_›
      exact ⟨_, rfl, rfl, .exp hE, hf⟩
    · exact ⟨[], (List.append_nil _).symm, rfl, .int, hf⟩
  · rintro ⟨y, rfl, rfl, hy, hf⟩
    obtain ⟨hd, hF0, hE0⟩ := followOk_head hf
    have expApp {ep} (hE : IsExp ep) := exponentPart_app hE hd
    unfold numTail finS
    cases hy with
    | int => simp [hF0, hE0, hf]
    | frac hF => simp [fractionalPart_app hF hd, hE0, hf]
    | exp hE => simp [(hE.head r').2, expApp hE, hf]
    | fracExp hF hE => simp [fractionalPart_app hF (hE.head r').1, expApp hE, hf]

theorem numberToken_iff {cs : List Nat} {k : Kind} {lex r : List Nat} :
    numberToken cs = some (k, lex, r) ↔ cs = lex ++ r ∧ NumLex k lex ∧ numberFollowOk r = true := by
  rw [numberToken_eq]
  constructor
  · intro h
    split at h
    · cases h
    · obtain ⟨rfl, hip⟩ := integerPart_some ‹_›
      obtain ⟨y, rfl, rfl, hy, hf⟩ := numTail_iff.1 h
      exact ⟨(List.append_assoc ..).symm, ⟨_, y, rfl, hip, hy⟩, hf⟩
  · rintro ⟨rfl, ⟨ip, y, rfl, hip, hy⟩, hf⟩
    rw [List.append_assoc, integerPart_app hip (hy.noDig hf)]
    exact numTail_iff.2 ⟨y, rfl, rfl, hy, hf⟩

theorem IsTail.kind {k : Kind} {y : List Nat} (h : IsTail k y) : k = .int ∨ k = .float := by
  cases h <;> simp

def NumChar (c : Nat) : Prop := c = 43 ∨ c = 45 ∨ c = 46 ∨ (48 ≤ c ∧ c ≤ 57) ∨ c = 69 ∨ c = 101

theorem Digits1.chars {ds : List Nat} (h : Digits1 ds) : ∀ c ∈ ds, NumChar c :=
  fun c hc => .inr (.inr (.inr (.inl (isDigitC_iff.1 (h.2 c hc)))))

theorem IsFrac.chars {fp : List Nat} (h : IsFrac fp) : ∀ c ∈ fp, NumChar c := by
  obtain ⟨fr, rfl, hd⟩ := h
  exact List.forall_mem_cons.2 ⟨by simp [NumChar], hd.chars⟩

theorem IsExp.chars {ep : List Nat} (h : IsExp ep) : ∀ c ∈ ep, NumChar c := by
  obtain ⟨e, s, ed, rfl, he, hs, hd⟩ := h
  refine List.forall_mem_cons.2 ⟨by unfold NumChar; omega, List.forall_mem_append.2 ⟨?_, hd.chars⟩⟩
  rcases hs with rfl | rfl | rfl <;> simp [NumChar]

theorem NumLex.chars {k : Kind} {lex : List Nat} (h : NumLex k lex) : ∀ c ∈ lex, NumChar c := by
  obtain ⟨_, y, rfl, ⟨sg, ds, rfl, hsg, hd, -⟩, hy⟩ := h
  refine List.forall_mem_append.2 ⟨List.forall_mem_append.2 ⟨?_, hd.chars⟩, ?_⟩
  · rcases hsg with rfl | rfl <;> simp [NumChar]
  · cases hy with
    | int => nofun
    | frac hF => exact hF.chars
    | exp hE => exact hE.chars
    | fracExp hF hE => exact List.forall_mem_append.2 ⟨hF.chars, hE.chars⟩

theorem numberToken_some {cs : Bytes} {k : Kind} {lex r : Bytes} (h : numberToken cs = some (k, lex, r)) :
    (k = .int ∨ k = .float) ∧ lex ≠ [] ∧ NoNL lex ∧ numberFollowOk r = true := by
  obtain ⟨-, hl, hf⟩ := numberToken_iff.1 h
  refine ⟨?_, ?_, fun c hc => ?_, hf⟩
  · obtain ⟨_, _, -, -, hy⟩ := hl
    exact hy.kind
  · obtain ⟨_, _, rfl, ⟨sg, ds, rfl, -, hd, -⟩, -⟩ := hl
    simp [hd.1]
  · have := hl.chars c hc
    unfold NumChar at this
    omega

theorem readNumber_tok {start : Cur} {rest0 : Bytes} {t : Token} {r : Bytes} {c' : Cur}
    (h : readNumber start rest0 = .tok t r c') :
    ∃ k lex, (k = .int ∨ k = .float) ∧ lex ≠ [] ∧ NoNL lex ∧ numberFollowOk r = true ∧
      rest0 = lex ++ r ∧ Step.tok t r c' = numTok start k lex r := by
  have hm := readNumber_spec start rest0
  rw [h] at hm
  cases hn : numberToken rest0 with
  | none => rw [hn] at hm; obtain ⟨e, he⟩ := hm; cases he
  | some p =>
    obtain ⟨k, lex, r0⟩ := p
    rw [hn] at hm
    obtain ⟨h1, h2⟩ := hm
    have hr : r0 = r := by injection h1 with _ hr _; exact hr.symm
    subst hr
    obtain ⟨hk, hne, hnl, hf⟩ := numberToken_some hn
    exact ⟨k, lex, hk, hne, hnl, hf, h2, h1⟩

end Gql.Lexer
