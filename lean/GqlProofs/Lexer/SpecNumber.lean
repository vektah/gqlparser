import GqlProofs.Lexer.SpecSpans
/-
  `readNumber` (model) against `Spec.numberToken` (specification): two independent formulations
  of IntValue / FloatValue with the look-ahead restriction.  No ASCII hypothesis is needed: both
  sides only ever test for ASCII characters.  What a number token looks like is read off the grammar
  in `NumShape.lean`.
-/
namespace Gql.Lexer
open Gql.Lexer.Spec

/-- the token `readNumber` returns for lexeme `lex` of kind `k`, leaving `r` -/
def numTok (start : Cur) (k : Kind) (lex r : Bytes) : Step :=
  .tok { kind := k, value := lex, start := start.endR, stop := start.endR + lex.length,
         line := start.line, col := colOf start.endR start.ls } r (start.adv lex.length lex.length)

/-- a model step agrees with an optional (kind, lexeme, rest) of the specification -/
def Matches (st : Step) (start : Cur) (rest0 : Bytes) (o : Option (Kind × List Cp × List Cp)) : Prop :=
  match o with
  | some (k, lex, r) => st = numTok start k lex r ∧ rest0 = lex ++ r
  | none => ∃ e, st = .err e

/-- the look-ahead restriction applied to a candidate lexeme -/
def finS (k : Kind) (lex r : List Cp) : Option (Kind × List Cp × List Cp) :=
  if numberFollowOk r then some (k, lex, r) else none

theorem numFollowBad_eq (r : Bytes) : numFollowBad r = !numberFollowOk r := by
  cases r with
  | nil => rfl
  | cons b t =>
    simp only [numFollowBad, numberFollowOk, isNameCont, isNameStart, isDigit, isNameStartC, isLetter, isDigitC]
    cases (decide (65 ≤ b) && decide (b ≤ 90) || decide (97 ≤ b) && decide (b ≤ 122)) <;>
      cases (b == 95) <;> cases (decide (48 ≤ b) && decide (b ≤ 57)) <;> cases (b == 46) <;> rfl

theorem numFin_spec (start : Cur) (rest0 : Bytes) (n : Nat) (r : Bytes) (f : Bool) (x : Bytes)
    (hx : rest0 = x ++ r) (hn : x.length = n) :
    Matches (if numFollowBad r then mkErr (start.adv n n) (msgExpectedDigit r) else
      Step.tok { kind := if f then .float else .int, value := rest0.take n,
                 start := start.endR, stop := start.endR + n, line := start.line,
                 col := colOf start.endR start.ls } r (start.adv n n)) start rest0
      (finS (if f then .float else .int) x r) := by
  rw [numFollowBad_eq]
  unfold finS
  cases h : numberFollowOk r
  · simp [Matches, mkErr]
  · subst hn; subst hx
    simp [Matches, numTok]

theorem exponentPart_nil : exponentPart [] = none := rfl

theorem exponentPart_not_e (b : Nat) (t : Bytes) (h : ¬ (b = 101 ∨ b = 69)) : exponentPart (b :: t) = none := by
  simp [exponentPart, h]

theorem digits1_eq (l : Bytes) :
    digits1 l = if (digitSpan l).1.isEmpty then none else some ((digitSpan l).1, (digitSpan l).2) := by
  simp [digits1, digitSpan_eq_spanP]

theorem exponentPart_sign (b s : Nat) (t : Bytes) (hb : b = 101 ∨ b = 69) (hs : s = 45 ∨ s = 43) :
    exponentPart (b :: s :: t) =
      if (digitSpan t).1.isEmpty then none else some (b :: s :: (digitSpan t).1, (digitSpan t).2) := by
  have hs' : s = 43 ∨ s = 45 := by omega
  simp only [exponentPart, hb, hs', if_true, digits1_eq]
  split <;> simp

theorem exponentPart_nosign (b : Nat) (t : Bytes) (hb : b = 101 ∨ b = 69)
    (hs : ∀ s t', t = s :: t' → ¬ (s = 45 ∨ s = 43)) :
    exponentPart (b :: t) =
      if (digitSpan t).1.isEmpty then none else some (b :: (digitSpan t).1, (digitSpan t).2) := by
  cases t with
  | nil => simp [exponentPart, hb, digits1_eq, digitSpan]
  | cons s t' =>
    have hs' : ¬ (s = 43 ∨ s = 45) := by have := hs s t' rfl; omega
    simp only [exponentPart, hb, hs', if_true, if_false, digits1_eq]
    split <;> simp

theorem followOk_e (b : Nat) (t : Bytes) (hb : b = 101 ∨ b = 69) : numberFollowOk (b :: t) = false := by
  rcases hb with rfl | rfl <;> rfl

theorem numExp_spec (start : Cur) (rest0 : Bytes) (n : Nat) (r : Bytes) (f : Bool) (x : Bytes)
    (hx : rest0 = x ++ r) (hn : x.length = n) :
    Matches (numExp start rest0 n r f) start rest0
      (match exponentPart r with
       | some (ep, r2) => finS .float (x ++ ep) r2
       | none => finS (if f then .float else .int) x r) := by
  unfold numExp
  cases r with
  | nil => simpa [exponentPart_nil] using numFin_spec start rest0 n [] f x hx hn
  | cons b t =>
    simp only []
    by_cases hb : b = 101 ∨ b = 69
    · rw [if_pos hb]
      cases t with
      | nil =>
        rw [exponentPart_nosign b [] hb (by simp)]
        simp [digitSpan, finS, followOk_e b [] hb, Matches, mkErr]
      | cons sg t' =>
        simp only []
        by_cases hs : sg = 45 ∨ sg = 43
        · rw [if_pos hs, exponentPart_sign b sg t' hb hs]
          have hd := digitSpan_append t'
          by_cases he : (digitSpan t').1.isEmpty = true
          · simp [he, finS, followOk_e b _ hb, Matches, mkErr]
          · simp only [he]
            have := numFin_spec start rest0 (n + 2 + (digitSpan t').1.length) (digitSpan t').2 true
              (x ++ b :: sg :: (digitSpan t').1)
              (by rw [hx]; simp; exact hd) (by simp [hn]; omega)
            simpa using this
        · rw [if_neg hs, exponentPart_nosign b (sg :: t') hb (by intro s t'' h; simp at h; rw [← h.1]; exact hs)]
          have hd := digitSpan_append (sg :: t')
          by_cases he : (digitSpan (sg :: t')).1.isEmpty = true
          · simp [he, finS, followOk_e b _ hb, Matches, mkErr]
          · simp only [he]
            have := numFin_spec start rest0 (n + 1 + (digitSpan (sg :: t')).1.length) (digitSpan (sg :: t')).2 true
              (x ++ b :: (digitSpan (sg :: t')).1)
              (by rw [hx]; simp; exact hd) (by simp [hn]; omega)
            simpa using this
    · rw [if_neg hb, exponentPart_not_e b t hb]
      exact numFin_spec start rest0 n (b :: t) f x hx hn
/-- what follows the integer part `x`: optional fraction, optional exponent, look-ahead check -/
def numTail (x r : List Cp) : Option (Kind × List Cp × List Cp) :=
  match fractionalPart r with
  | some (fp, r1) =>
    (match exponentPart r1 with
     | some (ep, r2) => finS .float (x ++ fp ++ ep) r2
     | none => finS .float (x ++ fp) r1)
  | none =>
    (match exponentPart r with
     | some (ep, r2) => finS .float (x ++ ep) r2
     | none => finS .int x r)

theorem numberToken_eq (cs : List Cp) :
    numberToken cs = match integerPart cs with
      | none => none
      | some (ip, r) => numTail ip r := by
  unfold numberToken numTail finS
  cases integerPart cs with
  | none => rfl
  | some p =>
    obtain ⟨ip, r⟩ := p
    simp only []
    cases fractionalPart r with
    | none => cases exponentPart r with
      | none => rfl
      | some q => rfl
    | some q =>
      obtain ⟨fp, r1⟩ := q
      simp only []
      cases exponentPart r1 with
      | none => rfl
      | some q => rfl

theorem fractionalPart_dot (t : Bytes) :
    fractionalPart (46 :: t) =
      if (digitSpan t).1.isEmpty then none else some (46 :: (digitSpan t).1, (digitSpan t).2) := by
  simp only [fractionalPart, digits1_eq]
  split <;> simp

theorem fractionalPart_nodot (r : Bytes) (h : ∀ t, r = 46 :: t → False) : fractionalPart r = none := by
  unfold fractionalPart
  split
  · exact absurd rfl (h _)
  · rfl

theorem numFrac_spec (start : Cur) (rest0 : Bytes) (n : Nat) (r : Bytes) (x : Bytes)
    (hx : rest0 = x ++ r) (hn : x.length = n) :
    Matches (numFrac start rest0 n r) start rest0 (numTail x r) := by
  unfold numFrac numTail
  split
  · rename_i t
    rw [fractionalPart_dot]
    have hd := digitSpan_append t
    simp only []
    split
    · simp only [exponentPart_not_e 46 t (by omega)]
      simp [finS, numberFollowOk, Matches, mkErr]
    · have := numExp_spec start rest0 (n + 1 + (digitSpan t).1.length) (digitSpan t).2 true
        (x ++ 46 :: (digitSpan t).1) (by rw [hx]; simp; exact hd) (by simp [hn]; omega)
      simpa using this
  · rename_i h
    rw [fractionalPart_nodot r (by intro t ht; exact h t ht)]
    simpa using numExp_spec start rest0 n r false x hx hn

/-- a digit directly after the integer part: no continuation is a number -/
theorem numTail_digit (x : List Cp) (t : Bytes) (h : (digitSpan t).1.isEmpty = false) : numTail x t = none := by
  cases t with
  | nil => simp [digitSpan] at h
  | cons d t' =>
    have hd : isDigit d = true := by
      by_cases hd : isDigit d = true
      · exact hd
      · simp [digitSpan, hd] at h
    have h1 : 48 ≤ d ∧ d ≤ 57 := by simpa [isDigit] using hd
    unfold numTail
    rw [fractionalPart_nodot (d :: t') (by intro t ht; simp at ht; omega),
      exponentPart_not_e d t' (by omega)]
    have : numberFollowOk (d :: t') = false := by
      simp [numberFollowOk, isDigitC, h1]
    simp [finS, this]

/-- `Spec.numberToken` after the optional sign `sg` (`numberToken_intTail`) -/
def intTail (sg : List Cp) (r1 : List Cp) : Option (Kind × List Cp × List Cp) :=
  match r1 with
  | 48 :: r => numTail (sg ++ [48]) r
  | d :: r => if isDigitC d then numTail (sg ++ d :: (spanP isDigitC r).1) (spanP isDigitC r).2 else none
  | [] => none

theorem intTail_zero (sg r : List Cp) : intTail sg (48 :: r) = numTail (sg ++ [48]) r := rfl
theorem intTail_nil (sg : List Cp) : intTail sg [] = none := rfl
theorem intTail_cons (sg : List Cp) (d : Nat) (r : List Cp) (hd : d ≠ 48) :
    intTail sg (d :: r) =
      if isDigitC d then numTail (sg ++ d :: (spanP isDigitC r).1) (spanP isDigitC r).2 else none := by
  unfold intTail
  split
  · rename_i h; simp at h; exact absurd h.1 hd
  · rename_i h; simp at h; obtain ⟨rfl, rfl⟩ := h; rfl
  · rename_i h; simp at h

theorem readNumberCore_spec (start : Cur) (rest0 : Bytes) (n1 : Nat) (r1 : Bytes) (x : Bytes)
    (hx : rest0 = x ++ r1) (hn : x.length = n1) :
    Matches (readNumberCore start rest0 n1 r1) start rest0 (intTail x r1) := by
  unfold readNumberCore
  split
  · rename_i t
    rw [intTail_zero]
    split
    · rename_i he
      rw [numTail_digit _ t (by simpa using he)]
      simp [Matches, mkErr]
    · exact numFrac_spec start rest0 (n1 + 1) t (x ++ [48]) (by rw [hx]; simp) (by simp [hn])
  · rename_i hz
    cases r1 with
    | nil => simp [digitSpan, Matches, mkErr, intTail_nil]
    | cons d r =>
      have hd48 : d ≠ 48 := by intro h; subst h; exact hz r rfl
      rw [intTail_cons x d r hd48]
      by_cases hd : isDigit d = true
      · have e : digitSpan (d :: r) = (d :: (digitSpan r).1, (digitSpan r).2) := by simp [digitSpan, hd]
        have hsp := digitSpan_append r
        simp only [e, List.isEmpty_cons, Bool.false_eq_true, if_false]
        have hdc : isDigitC d = true := hd
        simp only [hdc, if_true, ← digitSpan_eq_spanP]
        exact numFrac_spec start rest0 _ _ (x ++ d :: (digitSpan r).1) (by rw [hx]; simp; exact hsp)
          (by simp [hn])
      · have e : digitSpan (d :: r) = ([], d :: r) := by simp [digitSpan, hd]
        have hdc : isDigitC d = false := by
          show isDigit d = false
          simpa using hd
        simp [e, hdc, Matches, mkErr]

/-- the specification's IntegerPart after the optional sign `sg` -/
def intPart (sg r1 : List Cp) : Option (List Cp × List Cp) :=
  match r1 with
  | 48 :: r => some (sg ++ [48], r)
  | d :: r => if isDigitC d then some (sg ++ d :: (spanP isDigitC r).1, (spanP isDigitC r).2) else none
  | [] => none

theorem integerPart_eq (cs : List Cp) :
    integerPart cs = intPart (List.replicate (stripSign cs).1 45) (stripSign cs).2 := by
  have key : ∀ sg r1, (match r1 with
        | 48 :: r => some (sg ++ [48], r)
        | d :: r => if isDigitC d then
            (match spanP isDigitC r with | (ds, r') => some (sg ++ d :: ds, r')) else none
        | [] => none : Option (List Cp × List Cp)) = intPart sg r1 := by
    intro sg r1
    unfold intPart
    split
    · rfl
    · rfl
    · rfl
  unfold integerPart
  split
  rename_i sign cs1 heq
  refine Eq.trans (key sign cs1) ?_
  unfold stripSign
  split at heq
  · simp at heq; obtain ⟨rfl, rfl⟩ := heq; rfl
  · rename_i h
    simp at heq; obtain ⟨rfl, rfl⟩ := heq
    split
    · exact absurd rfl (h _)
    · rfl

theorem intTail_eq (sg r1 : List Cp) :
    intTail sg r1 = match intPart sg r1 with
      | none => none
      | some (ip, r) => numTail ip r := by
  unfold intTail intPart
  split
  · rfl
  · split <;> rfl
  · rfl

theorem numberToken_intTail (cs : List Cp) :
    numberToken cs = intTail (List.replicate (stripSign cs).1 45) (stripSign cs).2 := by
  rw [numberToken_eq, integerPart_eq, intTail_eq]

theorem readNumber_spec (start : Cur) (rest0 : Bytes) :
    Matches (readNumber start rest0) start rest0 (numberToken rest0) := by
  rw [numberToken_intTail]
  unfold readNumber
  apply readNumberCore_spec
  · unfold stripSign; split <;> simp [List.replicate]
  · simp

theorem finS_eq_some {k k' : Kind} {x r lex r' : Bytes} (h : finS k x r = some (k', lex, r')) :
    k' = k ∧ lex = x ∧ r' = r ∧ numberFollowOk r' = true := by
  unfold finS at h
  split at h
  · cases h; exact ⟨rfl, rfl, rfl, ‹_›⟩
  · cases h

end Gql.Lexer
