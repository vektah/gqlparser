import GqlProofs.EndToEnd.SourceWitness
set_option linter.unusedSimpArgs false
set_option linter.unusedVariables false
/-
  END TO END: the results of the kernel computation `SourceWitness.check_true`, by name.
-/
namespace Gql.EndToEnd.SourceWitness
open Gql Gql.Lexer Gql.Parser Gql.Load Gql.Validate Gql.Validate.Rules

def sdW : SchemaDoc := match parseSchemas 0 srcs with | .ok sd => sd | _ => SchemaDoc.empty
def sW : Schema := match load sdW with | .ok s => s | _ => Schema.empty
def docOf (q : Bytes) : QueryDoc := match parseQuery 0 q with | .ok d => d | _ => { ops := [], frags := [] }

/-- the facts computed about the request `q`: it parses, and the four verdicts are `a b c f` -/
def Req (q : Bytes) (a b c f : Bool) : Prop :=
  parseQuery 0 q = .ok (docOf q) ∧ subscriptionsSelectRoot sW (docOf q) = a ∧
    defaultedLocationsHarmless sW (docOf q) = b ∧ Spec.specValid sW (docOf q) = c ∧
    decide (validate [variablesInAllowedPosition] sW (docOf q) = .ok []) = f

/-- `sdW` with the sources as an argument, and `sW` with the document as an argument.
    The kernel cannot compare a constant defined as a match on a closed term with that match without reducing
    the match, that is, without running the parser on `srcs` as they are written (`String.toList` on the
    literals: minutes).  Against a definition of the same height it unfolds both sides in one step and finds
    them identical: `sdW_eq` and `sW_eq` hold by `rfl`, after them `sdW` and `sW` are applications, and
    `rw [sdWOf]` shows the match.  The unused `sdW` in `sWOf` is there for the height: `sW` mentions `sdW`. -/
def sdWOf (ss : List (Bool × Bytes)) : SchemaDoc :=
  match parseSchemas 0 ss with | .ok sd => sd | _ => SchemaDoc.empty
@[inherit_doc sdWOf]
def sWOf (sd : SchemaDoc) : Schema := (fun (_ : SchemaDoc) => match load sd with | .ok s => s | _ => Schema.empty) sdW

theorem sdW_eq : sdW = sdWOf srcs := rfl
theorem sW_eq : sW = sWOf sdW := rfl

theorem docOf_eq {q : Bytes} {d : QueryDoc} (h : parseQuery 0 q = .ok d) : docOf q = d := by rw [docOf, h]

theorem req_of_verdict {q : Bytes} {a b c f : Bool} (h : ∃ d, parseQuery 0 q = .ok d ∧ verdict sW d = (a, b, c, f)) :
    Req q a b c f := by
  obtain ⟨d, hd, hv⟩ := h
  cases docOf_eq hd
  simp only [verdict, Prod.mk.injEq] at hv
  exact ⟨hd, hv⟩

structure Outcome : Prop where
  valid : ∀ src ∈ srcs, Utf8.valid src.2
  parsed : parseSchemas 0 srcs = .ok sdW
  prelude : PreludeDeclared sdW
  loaded : load sdW = .ok sW
  good : Req qGood true true true true
  bad : Req qBad true true false true
  subOne : Req qSubOne true true true true
  subZero : Req qSubZero false true false true
  subZeroSilent : silent sW (docOf qSubZero) = true
  locDefault : Req qLocDefault true false true false

theorem outcome : Outcome := by
  obtain ⟨hvalid, sd, hsd, hp, s, hs, h1, h2, h3, ⟨d, hd, hv, hsilent⟩, h5⟩ := check_true
  have e1 : sdW = sd := by rw [sdW_eq, sdWOf, hsd]
  subst e1
  have e2 : sW = s := by rw [sW_eq, sWOf, hs]
  subst e2
  cases docOf_eq hd
  exact ⟨hvalid, hsd, preludeDeclared_of_B hp, hs, req_of_verdict h1, req_of_verdict h2, req_of_verdict h3,
    req_of_verdict ⟨_, hd, hv⟩, hsilent, req_of_verdict h5⟩

#print axioms outcome

end Gql.EndToEnd.SourceWitness
