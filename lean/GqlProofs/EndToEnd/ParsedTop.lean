import GqlProofs.EndToEnd.ParsedShape
import GqlProofs.EndToEnd.TokLex
import GqlProofs.Parser.SoundTop
/-
  END TO END: from the program logic to `parseQuery`.  Every document the parser model
  returns is `Formattable` (names are lexer Names, numbers are number lexemes, required selection
  sets are not empty) and the offsets it records for variable usages and fragment definitions are
  pairwise different.
-/
namespace Gql.EndToEnd
open Gql Gql.Lexer Gql.Parser Gql.Format

/-- what the definitions record (`h`; `f` for an operation, `g` for a fragment), operations first, is a
    permutation of what they record in source order -/
theorem defs_perm {f : OperationDef → List Nat} {g : FragmentDef → List Nat} {h : Def → List Nat}
    (hl : ∀ o, h (.inl o) = f o) (hr : ∀ x, h (.inr x) = g x) (defs : List Def) :
    ((opsOf defs).flatMap f ++ (fragsOf defs).flatMap g).Perm (defs.flatMap h) := by
  simpa [List.flatMap_map, hl, hr] using (opsOf_fragsOf_perm defs).flatMap_right h

theorem formattable_iff {d : QueryDoc} :
    Formattable d ↔ (∀ o ∈ d.ops, opOk o = true) ∧ ∀ f ∈ d.frags, fragOk f = true := by
  simp [Formattable, docOk, List.all_eq_true]

/-- ONE reading of the run (a parse that succeeds under a limit is the unlimited parse): the definitions in source
    order with what `Out` says of them over the significant tokens of the source.  The two halves of `Out` meet
    two different facts about those tokens: `parsed_formattable` what the lexer says of their texts,
    `parsed_posDoc_nodup` that their starts are pairwise different. -/
theorem parsed_shape {L : Nat} {inp : Bytes} {doc : QueryDoc} (h : parseQuery L inp = .ok doc) :
    ∃ defs, doc.ops = opsOf defs ∧ doc.frags = fragsOf defs ∧
      Out (∀ x ∈ defs, okDef x) (defs.flatMap posDef) (rawS inp Cur.init).sig.toks := by
  obtain ⟨⟨defs, hops, hfrags, hm⟩, _⟩ :=
    parseQuery_defs (PD := PDef) e_parseOperationDefinition e_parseFragmentDefinition (parseQuery_zero h)
  exact ⟨defs, hops, hfrags, many_out hm⟩

theorem parsed_formattable (L : Nat) (inp : Bytes) (doc : QueryDoc) (h : parseQuery L inp = .ok doc) :
    Formattable doc := by
  obtain ⟨defs, hops, hfrags, o⟩ := parsed_shape h
  have hok := o.lex (sig_toks_tokLex inp Cur.init)
  rw [formattable_iff, hops, hfrags]
  exact ⟨fun o ho => hok _ (mem_opsOf.1 ho), fun f hf => hok _ (mem_fragsOf.1 hf)⟩

theorem parsed_posDoc_nodup (L : Nat) (inp : Bytes) (doc : QueryDoc) (h : parseQuery L inp = .ok doc) :
    (posDoc doc).Nodup := by
  obtain ⟨defs, hops, hfrags, o⟩ := parsed_shape h
  unfold posDoc
  rw [hops, hfrags, (defs_perm (f := usesOp) (g := posFrag) (h := posDef) (fun _ => rfl) (fun _ => rfl) defs).nodup_iff]
  exact (sig_toks_start_nodup inp Cur.init).sublist o.pos

#print axioms parsed_shape

end Gql.EndToEnd
