import GqlProofs.ValSpec.FloatAgree
import GqlProofs.Format.NumExt
/-
  ValuesOfCorrectType, numeric literals: bridge from the lexer to `floatText` / `intText`
  (`ValSpec/FloatAgree.lean`).  A text that is on its own exactly one number lexeme of the lexer
  specification (`Gql.Format.numRaw k raw`, i.e. `Spec.numberToken raw = some (k, raw, [])`) is a
  `floatText`, and an `intText` when `k = .int`; hence both halves of `numLeafOK` and `constErr = false`
  for every Int / Float token text.
-/
namespace Gql.EndToEnd
open Gql Gql.Validate

section
open Gql.Lexer Gql.Lexer.Spec

theorem digits_all {ds : List Nat} (h : Digits1 ds) : ds.all Gql.Validate.Spec.isDigit = true :=
  List.all_eq_true.2 h.2

theorem fracOK_of {fp : List Nat} (h : IsFrac fp) : ∃ fr, FracOK fp fr := by
  obtain ⟨fr, rfl, hd⟩ := h
  exact ⟨fr, .inr ⟨rfl, digits_all hd⟩⟩

theorem expOK_of {ep : List Nat} (h : IsExp ep) : ∃ eneg ed, ExpOK ep eneg ed := by
  obtain ⟨e, s, ed, rfl, he, hs, hd⟩ := h
  refine ⟨s == [45], ed, .inr ⟨e, s, rfl, he, ?_, hd.1, digits_all hd⟩⟩
  rcases hs with rfl | rfl | rfl <;> simp

theorem bodyNF_of {ds y : List Nat} {k : Kind} (hd : Digits1 ds) (hy : IsTail k y) : BodyNF (ds ++ y) := by
  have mk {fp fr ep eneg ed} := BodyNF.mk (ip := ds) (fp := fp) (fr := fr) (ep := ep) (eneg := eneg) (ed := ed)
    hd.1 (digits_all hd)
  have noFrac : FracOK [] [] := .inl ⟨rfl, rfl⟩
  have noExp : ExpOK [] false [] := .inl ⟨rfl, rfl, rfl⟩
  cases hy with
  | int => exact mk noFrac noExp
  | frac hF =>
    obtain ⟨fr, hf⟩ := fracOK_of hF
    simpa using mk hf noExp
  | exp hE =>
    obtain ⟨eneg, ed, he⟩ := expOK_of hE
    exact mk noFrac he
  | fracExp hF hE =>
    obtain ⟨fr, hf⟩ := fracOK_of hF
    obtain ⟨eneg, ed, he⟩ := expOK_of hE
    exact mk hf he

theorem intText_of_nf {sg ds : List Nat} (hsg : sg = [] ∨ sg = [45]) (hne : ds ≠ [])
    (hd : ds.all Gql.Validate.Spec.isDigit = true) : intText (sg ++ ds) = true := by
  have hb : (!ds.isEmpty && ds.all Gql.Validate.Spec.isDigit) = true := by
    rw [List.isEmpty_eq_false_iff.2 hne, hd]; rfl
  rcases hsg with rfl | rfl
  · obtain ⟨c, t, rfl, hc⟩ := head_digit hne hd
    unfold intText
    split
    · rename_i h; simp at h; omega
    · exact hb
  · exact hb

theorem numberToken_nf {cs : List Nat} {k : Kind} {lex rest : List Nat}
    (h : numberToken cs = some (k, lex, rest)) : FloatNF lex ∧ (k = .int → intText lex = true) := by
  obtain ⟨-, ⟨_, y, rfl, ⟨sg, ds, rfl, hsg, hd, -⟩, hy⟩, -⟩ := numberToken_iff.1 h
  constructor
  · rw [List.append_assoc]
    rcases hsg with rfl | rfl
    · exact .pos (bodyNF_of (ds := ds) hd hy)
    · exact .neg (bodyNF_of (ds := ds) hd hy)
  · rintro rfl
    cases hy
    rw [List.append_nil]
    exact intText_of_nf hsg hd.1 (digits_all hd)
end

theorem floatText_of_numRaw' (k : Gql.Lexer.Kind) (raw : Bytes) (h : Gql.Format.numRaw k raw = true) :
    floatText raw = true :=
  floatText_iff.2 (numberToken_nf (of_decide_eq_true h)).1

theorem floatText_of_numRaw (raw : Bytes) (h : Gql.Format.numRaw .float raw = true) : floatText raw = true :=
  floatText_of_numRaw' .float raw h

theorem intText_of_numRaw (raw : Bytes) (h : Gql.Format.numRaw .int raw = true) : intText raw = true :=
  (numberToken_nf (of_decide_eq_true h)).2 rfl

theorem numLeafOK_of_numRaw_float (raw : Bytes) (h : Gql.Format.numRaw .float raw = true) :
    numLeafOK .float raw = true :=
  (numLeafOK_float_of_lexeme raw (floatText_of_numRaw raw h)).1

theorem numLeafOK_of_numRaw_int (raw : Bytes) (h : Gql.Format.numRaw .int raw = true) :
    numLeafOK .int raw = true :=
  (numLeafOK_int_of_lexeme raw (intText_of_numRaw raw h)).1

theorem constErr_of_numRaw_float (raw : Bytes) (h : Gql.Format.numRaw .float raw = true) (ch : Children) (p : Pos) :
    constErr (.mk .float raw ch p) = false :=
  (numLeafOK_float_of_lexeme raw (floatText_of_numRaw raw h)).2 ch p

theorem constErr_of_numRaw_int (raw : Bytes) (h : Gql.Format.numRaw .int raw = true) (ch : Children) (p : Pos) :
    constErr (.mk .int raw ch p) = false :=
  (numLeafOK_int_of_lexeme raw (intText_of_numRaw raw h)).2 ch p

example : floatText (str "1.7976931348623157e308") = true := by decide
example : Gql.Format.numRaw .float (str "1.7976931348623157e308") = true := by decide
example : Gql.Format.numRaw .float (str "-0.0") = true := by decide
example : Gql.Format.numRaw .float (str "1E+2") = true := by decide
example : Gql.Format.numRaw .float (str "0.0e999") = true := by decide
example : Gql.Format.numRaw .int (str "-12") = true := by decide
example : Gql.Format.numRaw .float (str "12") = false := by decide
example : Gql.Format.numRaw .float (str "01.5") = false := by decide
example : Gql.Format.numRaw .float (str "1.") = false := by decide
example : floatText (str "1.") = true := by decide          -- the liberal superset
example : floatText (str ".5") = false := by decide
example : floatText (str "1e") = false := by decide
example : floatText (str "1e+") = false := by decide
example : floatText (str "+1.0") = false := by decide
example : floatText (str "1.0x") = false := by decide
-- both sides of the overflow boundary: largest double, and the first text that rounds to +Inf
example : floatErr (str "1.7976931348623157e308") = false := by decide +kernel
example : floatErr (str "1.7976931348623159e308") = true := by decide +kernel
example : floatErr (str "1e308") = false ∧ floatErr (str "1e309") = true := by decide +kernel
example : Spec.floatLitFinite (str "1.7976931348623157e308") = true := by decide +kernel
example : Spec.floatLitFinite (str "1.7976931348623159e308") = false := by decide +kernel
example : floatErr (str "0.0e999") = false ∧ floatErr (str "1e-400") = false := by decide

end Gql.EndToEnd

#print axioms Gql.EndToEnd.nf_agree
#print axioms Gql.EndToEnd.float_nf_agree
#print axioms Gql.EndToEnd.float_lexeme_agree
#print axioms Gql.EndToEnd.floatStatus_nf_ne_syntax
#print axioms Gql.EndToEnd.numLeafOK_float_of_lexeme
#print axioms Gql.EndToEnd.numberToken_nf
#print axioms Gql.EndToEnd.floatText_of_numRaw
#print axioms Gql.EndToEnd.floatText_of_numRaw'
#print axioms Gql.EndToEnd.intText_of_numRaw
#print axioms Gql.EndToEnd.numLeafOK_of_numRaw_float
#print axioms Gql.EndToEnd.numLeafOK_of_numRaw_int
#print axioms Gql.EndToEnd.constErr_of_numRaw_float
#print axioms Gql.EndToEnd.constErr_of_numRaw_int
#print axioms Gql.EndToEnd.floatText_of_intText
