import GqlProofs.Format.TokText
/-
  END TO END: what the lexer model guarantees about the TEXT of the tokens it hands out
  (definition only; proved for every token of `rawS` in `TokLex.lean`, used by the parser
  traversal in `ParsedShape.lean`).
-/
namespace Gql.EndToEnd
open Gql Gql.Lexer Gql.Format

/-- the text of a Name token is a lexer Name, the text of an Int / Float token is on its own exactly
    one number lexeme of that kind -/
def TokLex (t : Token) : Prop :=
  (t.kind = .name → isNameB t.value = true) ∧
  (t.kind = .int → numRaw .int t.value = true) ∧
  (t.kind = .float → numRaw .float t.value = true)

end Gql.EndToEnd
