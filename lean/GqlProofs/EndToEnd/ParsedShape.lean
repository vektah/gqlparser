import GqlProofs.EndToEnd.TokLexDef
import GqlProofs.Parser.SoundQuery
import GqlProofs.Format.Formattable
/-
  END TO END: one traversal of the query parser model in the program logic `Spec` of `Parser/Spec.lean`, with
  postconditions of the shape `Out ok ps used`.  `ok`: the lexical well-formedness of the subtree (`Format.valueOk`,
  `selOk`, `opOk`, …) holds PROVIDED every consumed token satisfies `TokLex` (what the lexer guarantees about token
  texts, `TokLex.lean`).  `ps`: the start offsets the subtree records for its variable usages (and, for a fragment
  definition, its own position) form a SUBLIST of the start offsets of the consumed tokens, in order.  At the top
  (`parsed_shape` in `ParsedTop.lean`) the consumed tokens are the significant tokens of the source, whose starts
  strictly increase (`rawS_sorted`), so the recorded offsets of one document are pairwise different.
-/
namespace Gql.EndToEnd
open Gql Gql.Lexer Gql.Parser Gql.Format

mutual
  /-- start offsets of the variable usages inside a value (the walk of `Spec.usesInValue`) -/
  def usesV : Value → List Nat
    | .mk k _ ch p =>
      match k with
      | .variable => [p.start]
      | .list => usesCh ch
      | .object => usesCh ch
      | _ => []
  def usesCh : Children → List Nat
    | .nil => []
    | .cons _ v _ rest => usesV v ++ usesCh rest
end

def usesArgs (as : List Argument) : List Nat := as.flatMap fun a => usesV a.value
def usesDirs (ds : List Directive) : List Nat := ds.flatMap fun d => usesArgs d.args

mutual
  def usesSel : Selection → List Nat
    | .field _ _ args ds sub _ => usesArgs args ++ usesDirs ds ++ usesSels sub
    | .spread _ ds _ => usesDirs ds
    | .inline _ ds sub _ => usesDirs ds ++ usesSels sub
  def usesSels : Selections → List Nat
    | .nil => []
    | .cons s rest => usesSel s ++ usesSels rest
end

def usesDefault : Option Value → List Nat
  | some d => usesV d
  | none => []

def usesVarDef (v : VarDef) : List Nat := usesDefault v.default ++ usesDirs v.dirs

def usesOp (o : OperationDef) : List Nat := o.vars.flatMap usesVarDef ++ usesDirs o.dirs ++ usesSels o.sel

def usesFrag (f : FragmentDef) : List Nat := f.vars.flatMap usesVarDef ++ usesDirs f.dirs ++ usesSels f.sel

def posFrag (f : FragmentDef) : List Nat := f.pos.start :: usesFrag f

def posDoc (d : QueryDoc) : List Nat := d.ops.flatMap usesOp ++ d.frags.flatMap posFrag

def starts (u : List Token) : List Nat := u.map (·.start)

structure Out (ok : Prop) (ps : List Nat) (u : List Token) : Prop where
  lex : (∀ t ∈ u, TokLex t) → ok
  pos : ps.Sublist (starts u)

theorem Out.triv (u : List Token) : Out True [] u := ⟨fun _ => trivial, List.nil_sublist _⟩

theorem Out.and {o1 o2 : Prop} {p1 p2 : List Nat} {u1 u2 : List Token} (h1 : Out o1 p1 u1) (h2 : Out o2 p2 u2) :
    Out (o1 ∧ o2) (p1 ++ p2) (u1 ++ u2) :=
  ⟨fun g => ⟨h1.lex fun t ht => g t (List.mem_append_left _ ht), h2.lex fun t ht => g t (List.mem_append_right _ ht)⟩,
   by unfold starts; rw [List.map_append]; exact List.Sublist.append h1.pos h2.pos⟩

theorem Out.cast {o o' : Prop} {p p' : List Nat} {u : List Token} (h : Out o p u) (ho : o → o') (hp : p' = p) :
    Out o' p' u := ⟨fun g => ho (h.lex g), hp ▸ h.pos⟩

theorem Out.tok (t : Token) : Out (TokLex t) [] [t] := ⟨fun g => g t (by simp), List.nil_sublist _⟩

theorem Out.tokPos (t : Token) : Out (TokLex t) [t.start] [t] := ⟨fun g => g t (by simp), by simp [starts]⟩

theorem nameOut {t : Token} (hk : t.kind = .name) : Out (isNameB t.value = true) [] [t] :=
  (Out.tok t).cast (fun h => h.1 hk) rfl

theorem many_out {α : Type} {ok : α → Prop} {ps : α → List Nat} {xs : List α} {mid : List Token}
    (h : Many (fun x u => Out (ok x) (ps x) u) xs mid) : Out (∀ x ∈ xs, ok x) (xs.flatMap ps) mid := by
  induction h with
  | nil => exact ⟨fun _ _ h => (by cases h), by simp⟩
  | cons hx _ ih => exact (hx.and ih).cast (fun h => List.forall_mem_cons.2 h) (by simp)

theorem bracketed_out {α : Type} {ok : α → Prop} {ps : α → List Nat} {start stop : Kind} {xs : List α} {a a' : AS}
    (hb : Bracketed (fun x u => Out (ok x) (ps x) u) start stop xs a a') :
    Eats (fun xs u => Out (∀ x ∈ xs, ok x) (xs.flatMap ps) u) xs a a' := by
  rcases hb with ⟨rfl, _, rfl⟩ | ⟨_, u, hu, t1, mid, t2, rfl, _, _, _, _, hm⟩
  · exact ⟨[], Ate.peeked a, ⟨fun _ _ h => (by cases h), by simp⟩⟩
  · exact ⟨_, hu, ((Out.triv [t1]).and ((many_out hm).and (Out.triv [t2]))).cast (fun h => h.2.1) (by simp)⟩

/-
  A production is proved along its text with the sequencing rules of `Spec.lean`; every step hands on
  an `Out` about the tokens it consumed, and the last step puts them together with `Out.and`. -/

/-- tokens of which nothing is recorded -/
theorem e_eats {α : Type} {p : Prog α} {P : α → List Token → Prop} (h : Spec p (Eats P)) :
    Spec p (Eats fun _ u => Out True [] u) :=
  Spec.last h fun _ u _ => Out.triv u

theorem e_punct (k : Kind) (hk : k ≠ .eof := by decide) (hk' : k ≠ .invalid := by decide) :
    Spec (expect k) (Eats fun _ u => Out True [] u) :=
  e_eats (spec_expect k hk hk')

theorem e_opt (k : Kind) (hk : k ≠ .eof := by decide) (hk' : k ≠ .invalid := by decide)
    (hv : k.valued = false := by decide) : Spec (skip k) (Eats fun _ u => Out True [] u) :=
  e_eats (spec_optPunct k hk hk' hv)

theorem e_name : Spec parseName (Eats fun n u => Out (isNameB n = true) [] u) :=
  Spec.last spec_parseName' fun _ _ ⟨_, hu, hk, hv, _⟩ => by subst hu hv; exact nameOut hk

/-- the last step of a production, in front of the `pure` that builds the node -/
theorem e_ret {α β : Type} {p : Prog α} {g : α → β} {P : α → List Token → Prop} {Q : β → List Token → Prop}
    (hp : Spec p (Eats P)) (h : ∀ x u, P x u → Q (g x) u) : Spec (p >>= fun x => Pure.pure (g x)) (Eats Q) :=
  Spec.seq hp fun x u hx => Spec.ret _ (by rw [List.append_nil]; exact h x u hx)

theorem e_many {α : Type} {ok : α → Prop} {ps : α → List Nat} (start stop : Kind) (n : Nat) {cb : Prog α}
    (hcb : Spec cb (Eats fun x u => Out (ok x) (ps x) u)) (h1 : start ≠ .eof := by decide)
    (h1' : start ≠ .invalid := by decide) (h2 : stop ≠ .eof := by decide) (h2' : stop ≠ .invalid := by decide) :
    Spec (pMany start stop n cb) (Eats fun xs u => Out (∀ x ∈ xs, ok x) (xs.flatMap ps) u) :=
  (spec_pMany start stop h1 h1' h2 h2' n hcb).mono fun _ _ _ _ hb => bracketed_out hb

theorem e_some {α : Type} {ok : α → Prop} {ps : α → List Nat} (start stop : Kind) (n : Nat) {cb : Prog α}
    (hcb : Spec cb (Eats fun x u => Out (ok x) (ps x) u)) (h1 : start ≠ .eof := by decide)
    (h1' : start ≠ .invalid := by decide) (h2 : stop ≠ .eof := by decide) (h2' : stop ≠ .invalid := by decide) :
    Spec (pSome start stop n cb) (Eats fun xs u => Out (∀ x ∈ xs, ok x) (xs.flatMap ps) u) :=
  (spec_pSome start stop h1 h1' h2 h2' n hcb).mono fun _ _ _ _ hb => bracketed_out hb.1

def PV (v : Value) (u : List Token) : Prop := Out (valueOk v = true) (usesV v) u

theorem itemsOk_ofList : ∀ (xs : List (Name × Value × Pos)), (∀ x ∈ xs, valueOk x.2.1 = true) →
    itemsOk (Children.ofList xs) = true
  | [], _ => by simp [Children.ofList, itemsOk]
  | (n, v, p) :: rest, h => by
    simp only [Children.ofList, itemsOk, Bool.and_eq_true]
    exact ⟨h (n, v, p) (by simp), itemsOk_ofList rest fun x hx => h x (by simp [hx])⟩

theorem fieldsOk_ofList : ∀ (xs : List (Name × Value × Pos)),
    (∀ x ∈ xs, isNameB x.1 = true ∧ valueOk x.2.1 = true) → fieldsOk (Children.ofList xs) = true
  | [], _ => by simp [Children.ofList, fieldsOk]
  | (n, v, p) :: rest, h => by
    simp only [Children.ofList, fieldsOk, Bool.and_eq_true]
    exact ⟨h (n, v, p) (by simp), fieldsOk_ofList rest fun x hx => h x (by simp [hx])⟩

theorem usesCh_ofList : ∀ (xs : List (Name × Value × Pos)),
    usesCh (Children.ofList xs) = xs.flatMap fun x => usesV x.2.1
  | [] => by simp [Children.ofList, usesCh]
  | (n, v, p) :: rest => by simp [Children.ofList, usesCh, usesCh_ofList rest]

theorem e_parseListWith {pv : Prog Value} (hpv : Spec pv (Eats PV)) (n : Nat) :
    Spec (parseListWith pv n) (Eats PV) := by
  unfold parseListWith
  exact Spec.seq0 spec_peekPos_eats fun pos => e_ret
    (e_many (ok := fun x : Name × Value × Pos => valueOk x.2.1 = true) (ps := fun x => usesV x.2.1) .bracketL .bracketR n
      (e_ret hpv fun _ _ p => p))
    fun vs _ o => o.cast (fun h => by simp only [valueOk]; exact itemsOk_ofList vs h)
      (by simp only [usesV]; exact usesCh_ofList vs)

theorem e_parseObjectFieldWith {pv : Prog Value} (hpv : Spec pv (Eats PV)) :
    Spec (parseObjectFieldWith pv)
      (Eats fun (x : Name × Value × Pos) u =>
        Out (isNameB x.1 = true ∧ valueOk x.2.1 = true) (usesV x.2.1) u) := by
  unfold parseObjectFieldWith
  exact Spec.seq0 spec_peekPos_eats fun pos => Spec.seq e_name fun name _ p1 => Spec.seq (e_punct .colon) fun _ _ p2 =>
    e_ret hpv fun v _ p3 => (p1.and (p2.and p3)).cast (fun ⟨h1, _, h3⟩ => ⟨h1, h3⟩) (by simp)

theorem e_parseObjectWith {pv : Prog Value} (hpv : Spec pv (Eats PV)) (n : Nat) :
    Spec (parseObjectWith pv n) (Eats PV) := by
  unfold parseObjectWith
  exact Spec.seq0 spec_peekPos_eats fun pos => e_ret (e_many .braceL .braceR n (e_parseObjectFieldWith hpv))
    fun fs _ o => o.cast (fun h => by simp only [valueOk]; exact fieldsOk_ofList fs h)
      (by simp only [usesV]; exact usesCh_ofList fs)

theorem e_parseVariable :
    Spec parseVariable (Eats fun n u => ∃ t1 t2, u = [t1, t2] ∧ t2.kind = .name ∧ t2.value = n) := by
  unfold parseVariable
  exact Spec.seq (spec_expect .dollar (by decide) (by decide)) fun t1 _ h1 =>
    Spec.last spec_parseName' fun _ _ ⟨t2, h2, k2, v2, _⟩ => ⟨t1, t2, by rw [h1.1, h2]; rfl, k2, v2⟩

theorem valueOk_name (v : Bytes) (p : Pos) : valueOk (.mk (nameValueKind v) v .nil p) = isNameB v := by
  unfold nameValueKind
  split
  · simp [valueOk]
  · split <;> simp [valueOk]

theorem usesV_name (v : Bytes) (p : Pos) : usesV (.mk (nameValueKind v) v .nil p) = [] := by
  unfold nameValueKind
  split
  · simp [usesV]
  · split <;> simp [usesV]

theorem e_parseValueLiteral (c : Bool) : ∀ n, Spec (parseValueLiteral n c) (Eats PV)
  | 0 => Spec.of_dead (outOfFuel_dead _)
  | n + 1 => by
    have ih := e_parseValueLiteral c n
    unfold parseValueLiteral
    refine Spec.peek fun token => Spec.getSrc fun src => ?_
    have lit : ∀ (k : ValueKind) (tkk : Kind), token.kind = tkk → tkk ≠ .eof → tkk ≠ .invalid →
        (TokLex token → ∀ p, valueOk (.mk k token.value .nil p) = true) →
        (∀ p, usesV (.mk k token.value .nil p) = []) →
        Spec (litValue src token k) (fun v a a' => a.pk = true → a.σ.head = token → Eats PV v a a') := by
      intro k tkk hk h1 h2 hok hu
      refine (spec_litValue src token k).mono fun v a a' _ h hpk hh => ?_
      obtain ⟨q, rfl⟩ := h hpk hh (hk ▸ h1) (hk ▸ h2)
      exact ⟨[token], q, (Out.tok token).cast (fun h => hok h _) (hu _)⟩
    split
    · exact Spec.forget (e_parseListWith ih (n + 1))
    · exact Spec.forget (e_parseObjectWith ih (n + 1))
    · split
      · exact Spec.of_dead_bind unexpectedError_dead
      · -- the position recorded for the variable is that of the `$` in the look-ahead
        refine (Spec.bind e_parseVariable fun raw => Spec.pure _).mono ?_
        rintro v a a' _ ⟨raw, a1, ⟨u, h1, t1, t2, rfl, k2, rfl⟩, rfl, rfl⟩ _ hh
        have ht : token = t1 := hh.symm.trans h1.head
        exact ⟨_, h1, ((Out.tokPos t1).and (nameOut k2)).cast (fun h => by simp only [valueOk]; exact h.2)
          (by simp [usesV, posOf, ht])⟩
    · exact lit .int .int ‹_› (by decide) (by decide) (fun h _ => by simp only [valueOk]; exact h.2.1 ‹_›)
        (fun _ => by simp [usesV])
    · exact lit .float .float ‹_› (by decide) (by decide) (fun h _ => by simp only [valueOk]; exact h.2.2 ‹_›)
        (fun _ => by simp [usesV])
    · exact lit .string .string ‹_› (by decide) (by decide) (fun _ _ => by simp [valueOk]) (fun _ => by simp [usesV])
    · exact lit .block .blockString ‹_› (by decide) (by decide) (fun _ _ => by simp [valueOk]) (fun _ => by simp [usesV])
    · exact lit _ .name ‹_› (by decide) (by decide) (fun h p => by rw [valueOk_name]; exact h.1 ‹_›)
        (fun p => usesV_name _ p)
    · exact Spec.of_dead_bind unexpectedError_dead

def PArg (x : Argument) (u : List Token) : Prop := Out (argOk x = true) (usesV x.value) u

theorem e_parseArgument (n : Nat) (c : Bool) : Spec (parseArgument n c) (Eats PArg) := by
  unfold parseArgument
  exact Spec.seq0 spec_peekPos_eats fun pos => Spec.seq e_name fun name _ p1 => Spec.seq (e_punct .colon) fun _ _ p2 =>
    e_ret (e_parseValueLiteral c n) fun v _ p3 =>
      (p1.and (p2.and p3)).cast (fun ⟨h1, _, h3⟩ => by simp [argOk, h1, h3]) (by simp)

def PArgs (as : List Argument) (u : List Token) : Prop := Out (as.all argOk = true) (usesArgs as) u

theorem e_parseArguments (n : Nat) (c : Bool) : Spec (parseArguments n c) (Eats PArgs) :=
  Spec.last (e_some .parenL .parenR n (e_parseArgument n c)) fun _ _ o => o.cast List.all_eq_true.2 rfl

def PDir (d : Directive) (u : List Token) : Prop := Out (dirOk d = true) (usesArgs d.args) u

theorem e_parseDirective (n : Nat) (c : Bool) : Spec (parseDirective n c) (Eats PDir) := by
  unfold parseDirective
  exact Spec.seq (e_punct .at) fun _ _ p1 => Spec.seq0 spec_peekPos_eats fun pos => Spec.seq e_name fun name _ p2 =>
    e_ret (e_parseArguments n c) fun args _ p3 =>
      (p1.and (p2.and p3)).cast (fun ⟨_, h2, h3⟩ => by simp [dirOk, h2, h3]) (by simp)

def PDirs (ds : List Directive) (u : List Token) : Prop := Out (ds.all dirOk = true) (usesDirs ds) u

theorem e_parseDirectives (n : Nat) (c : Bool) : Spec (parseDirectives n c) (Eats PDirs) := by
  unfold parseDirectives
  refine e_ret (spec_directivesLoop (e_parseDirective n c) n []) fun _ _ ⟨items, e, hm⟩ => ?_
  subst e
  exact (many_out hm).cast (fun h => by simpa using h) (by simp [usesDirs])

def PType (ty : GType) (u : List Token) : Prop := Out (typeOk ty = true) [] u

theorem e_parseTypeReference : ∀ n, Spec (parseTypeReference n) (Eats PType)
  | 0 => Spec.of_dead (outOfFuel_dead _)
  | n + 1 => by
    have ih := e_parseTypeReference n
    unfold parseTypeReference
    exact Spec.seq (e_opt .bracketL) fun
      | true, _, p1 => Spec.seq0 spec_peekPos_eats fun pos => Spec.seq ih fun elem _ p2 =>
          Spec.seq (e_punct .bracketR) fun _ _ p3 => e_ret (e_opt .bang) fun nn _ p4 =>
            (p1.and (p2.and (p3.and p4))).cast (fun ⟨_, h2, _⟩ => by simpa [typeOk] using h2) (by simp)
      | false, _, p1 => Spec.seq0 spec_peekPos_eats fun pos => Spec.seq e_name fun name _ p2 =>
          e_ret (e_opt .bang) fun nn _ p3 => (p1.and (p2.and p3)).cast (fun ⟨_, h2, _⟩ => by simpa [typeOk] using h2) (by simp)

def PVarDef (v : VarDef) (u : List Token) : Prop := Out (varDefOk v = true) (usesVarDef v) u

theorem e_parseVariableDefinition (n : Nat) : Spec (parseVariableDefinition n) (Eats PVarDef) := by
  unfold parseVariableDefinition
  have var : Spec parseVariable (Eats fun n u => Out (isNameB n = true) [] u) :=
    Spec.last e_parseVariable fun _ _ ⟨t1, t2, hu, k2, hv⟩ => by
      subst hu hv; exact ((Out.triv [t1]).and (nameOut k2)).cast (fun h => h.2) rfl
  exact Spec.seq0 spec_peekPos_eats fun pos => Spec.seq var fun _ _ p1 => Spec.seq (e_punct .colon) fun _ _ p2 =>
    Spec.seq (e_parseTypeReference n) fun ty _ p3 => Spec.seq (e_opt .equals) fun
      | true, _, p4 => Spec.seq (e_parseValueLiteral true n) fun v _ p5 => Spec.pure_bind <|
          e_ret (e_parseDirectives n true) fun dirs _ p6 =>
            (p1.and (p2.and (p3.and (p4.and (p5.and p6))))).cast
              (fun ⟨h1, _, h3, _, h5, h6⟩ => by simp [varDefOk, h1, h3, h5, h6]) (by simp [usesVarDef, usesDefault])
      | false, _, p4 => Spec.pure_bind <| e_ret (e_parseDirectives n true) fun dirs _ p6 =>
          (p1.and (p2.and (p3.and (p4.and p6)))).cast
            (fun ⟨h1, _, h3, _, h6⟩ => by simp [varDefOk, h1, h3, h6]) (by simp [usesVarDef, usesDefault])

def PVarDefs (vs : List VarDef) (u : List Token) : Prop := Out (vs.all varDefOk = true) (vs.flatMap usesVarDef) u

theorem e_parseVariableDefinitions (n : Nat) : Spec (parseVariableDefinitions n) (Eats PVarDefs) :=
  Spec.last (e_some .parenL .parenR n (e_parseVariableDefinition n)) fun _ _ o => o.cast List.all_eq_true.2 rfl

def PSel (s : Selection) (u : List Token) : Prop := Out (selOk s = true) (usesSel s) u

def PSelSet (ss : Selections) (u : List Token) : Prop := ss ≠ .nil ∧ Out (selsOk ss = true) (usesSels ss) u

theorem selsOk_ofList : ∀ (xs : List Selection), (∀ x ∈ xs, selOk x = true) → selsOk (Selections.ofList xs) = true
  | [], _ => by simp [Selections.ofList, selsOk]
  | s :: rest, h => by
    simp only [Selections.ofList, selsOk, Bool.and_eq_true]
    exact ⟨h s (by simp), selsOk_ofList rest fun x hx => h x (by simp [hx])⟩

theorem usesSels_ofList : ∀ (xs : List Selection), usesSels (Selections.ofList xs) = xs.flatMap usesSel
  | [] => by simp [Selections.ofList, usesSels]
  | s :: rest => by simp [Selections.ofList, usesSels, usesSels_ofList rest]

theorem e_parseOptionalSelectionSetWith {sel : Prog Selection} (hsel : Spec sel (Eats PSel)) (n : Nat) :
    Spec (parseOptionalSelectionSetWith sel n) (fun ss a a' => a.σ.head.kind = .braceL → Eats PSelSet ss a a') := by
  unfold parseOptionalSelectionSetWith
  refine (Spec.bind (spec_pSome .braceL .braceR (by decide) (by decide) (by decide) (by decide) n hsel)
    fun xs => Spec.pure (Selections.ofList xs)).mono ?_
  rintro ss a a'' _ ⟨xs, a1, ⟨hb, hne⟩, rfl, rfl⟩ hk
  obtain ⟨u, hu, o⟩ := bracketed_out hb
  refine ⟨u, hu, ?_, o.cast (fun h => selsOk_ofList xs h) (usesSels_ofList xs)⟩
  cases xs with
  | nil => exact absurd rfl (hne hk)
  | cons x xs => simp [Selections.ofList]

theorem e_parseRequiredSelectionSetWith {sel : Prog Selection} (hsel : Spec sel (Eats PSel)) (n : Nat) :
    Spec (parseRequiredSelectionSetWith sel n) (Eats PSelSet) := by
  unfold parseRequiredSelectionSetWith
  exact Spec.peek fun t => Spec.ite_same
    (fun _ => Spec.bind_dead spec_peek fun _ => Spec.bind_dead spec_peek fun _ => Spec.of_dead_bind (failAt_dead _ _))
    (fun hk => (e_parseOptionalSelectionSetWith hsel n).mono fun _ _ _ _ h _ hh => h (by simpa [hh] using hk))

theorem e_fieldTail {sel : Prog Selection} (hsel : Spec sel (Eats PSel)) (n : Nat) (pos : Pos) (al nm : Name) :
    Spec (fieldTail sel n pos al nm) (Eats fun s u => ∃ args ds ss, s = .field al nm args ds ss pos ∧
      Out (args.all argOk = true ∧ ds.all dirOk = true ∧ selsOk ss = true)
        (usesArgs args ++ (usesDirs ds ++ usesSels ss)) u) := by
  unfold fieldTail
  refine Spec.seq (e_parseArguments n false) fun args _ p1 => Spec.seq (e_parseDirectives n false) fun dirs _ p2 =>
    Spec.peek fun t => Spec.ite_same
      (fun hk => (Spec.bind (e_parseOptionalSelectionSetWith hsel n) fun ss => Spec.pure _).mono ?_)
      (fun _ => Spec.forget <| Spec.pure_bind <| Spec.ret _ ⟨args, dirs, .nil, rfl,
        (p1.and (p2.and (Out.triv []))).cast (fun ⟨h1, h2, _⟩ => ⟨h1, h2, by simp [selsOk]⟩) (by simp [usesSels])⟩)
  rintro s a a' _ ⟨ss, a1, hss, rfl, rfl⟩ _ hh
  obtain ⟨u3, h3, _, q⟩ := hss (hh ▸ hk)
  exact ⟨u3, h3, args, dirs, ss, rfl, p1.and (p2.and q)⟩

theorem e_parseFieldWith {sel : Prog Selection} (hsel : Spec sel (Eats PSel)) (n : Nat) :
    Spec (parseFieldWith sel n) (Eats PSel) := by
  rw [parseFieldWith_eq]
  exact Spec.seq0 spec_peekPos_eats fun pos => Spec.seq e_name fun al _ p1 => Spec.seq (e_opt .colon) fun
    | true, _, p0 => Spec.seq e_name fun nm _ p2 => Spec.last (e_fieldTail hsel n pos al nm)
        fun _ _ ⟨args, ds, ss, e, q⟩ => by
          subst e
          exact (p1.and (p0.and (p2.and q))).cast (fun ⟨h1, _, h2, h3, h4, h5⟩ => by simp [selOk, h1, h2, h3, h4, h5])
            (by simp [usesSel])
    | false, _, p0 => Spec.last (e_fieldTail hsel n pos al al)
        fun _ _ ⟨args, ds, ss, e, q⟩ => by
          subst e
          exact (p1.and (p0.and q)).cast (fun ⟨h1, _, h3, h4, h5⟩ => by simp [selOk, h1, h3, h4, h5]) (by simp [usesSel])

theorem e_parseFragmentName :
    Spec parseFragmentName (Eats fun n u => ∃ t, u = [t] ∧ t.kind = .name ∧ t.value = n ∧ TokOK t) := by
  unfold parseFragmentName
  exact Spec.seq0 spec_peek_eats fun t => Spec.ite_same (fun _ => Spec.of_dead_bind unexpectedError_dead)
    (fun _ => spec_parseName')

theorem e_fragmentName : Spec parseFragmentName (Eats fun n u => Out (isNameB n = true) [] u) :=
  Spec.last e_parseFragmentName fun _ _ ⟨_, hu, hk, hv, _⟩ => by subst hu hv; exact nameOut hk

theorem e_inlineTail {sel : Prog Selection} (hsel : Spec sel (Eats PSel)) (n : Nat) (pos : Pos) (tc : Name) :
    Spec (inlineTail sel n pos tc) (Eats fun s u => ∃ ds ss, s = .inline tc ds ss pos ∧ ss ≠ .nil ∧
      Out (ds.all dirOk = true ∧ selsOk ss = true) (usesDirs ds ++ usesSels ss) u) := by
  unfold inlineTail
  exact Spec.seq (e_parseDirectives n false) fun dirs _ p1 => e_ret (e_parseRequiredSelectionSetWith hsel n)
    fun ss _ p2 => ⟨dirs, ss, rfl, p2.1, p1.and p2.2⟩

theorem selOk_inline {tc : Name} {ds : List Directive} {ss : Selections} {pos : Pos}
    (htc : tc = [] ∨ isNameB tc = true) (hds : ds.all dirOk = true) (hne : ss ≠ .nil) (hss : selsOk ss = true) :
    selOk (.inline tc ds ss pos) = true := by
  simp only [selOk, Bool.and_eq_true, Bool.or_eq_true, List.isEmpty_iff]
  cases ss with
  | nil => exact absurd rfl hne
  | cons _ _ => exact ⟨⟨⟨htc, hds⟩, trivial⟩, hss⟩

theorem e_parseFragmentWith {sel : Prog Selection} (hsel : Spec sel (Eats PSel)) (n : Nat) :
    Spec (parseFragmentWith sel n) (Eats PSel) := by
  rw [parseFragmentWith_eq]
  exact Spec.seq (e_punct .spread) fun _ _ p1 => Spec.peek fun pk => Spec.ite_same
    (fun _ => Spec.forget <| Spec.seq0 spec_peekPos_eats fun pos => Spec.seq e_fragmentName fun name _ p2 =>
      e_ret (e_parseDirectives n false) fun dirs _ p3 =>
        (p1.and (p2.and p3)).cast (fun ⟨_, h2, h3⟩ => by simp [selOk, h2, h3]) (by simp [usesSel]))
    (fun _ => Spec.forget <| Spec.seq0 spec_peekPos_eats fun pos => Spec.peek fun t => Spec.ite_same
      (fun hk => Spec.next_peeked (by rw [hk.1]; decide) (by rw [hk.1]; decide) fun _ => Spec.seq e_name fun tc _ p2 =>
        Spec.last (e_inlineTail hsel n pos tc) fun _ _ ⟨ds, ss, e, hne, q⟩ _ _ => by
          subst e
          exact (p1.and ((Out.triv [t]).and (p2.and q))).cast
            (fun ⟨_, _, h2, h3, h4⟩ => selOk_inline (.inr h2) h3 hne h4) (by simp [usesSel]))
      (fun _ => Spec.forget <| Spec.last (e_inlineTail hsel n pos []) fun _ _ ⟨ds, ss, e, hne, q⟩ => by
        subst e
        exact (p1.and q).cast (fun ⟨_, h3, h4⟩ => selOk_inline (.inl rfl) h3 hne h4) (by simp [usesSel])))

theorem e_parseSelection : ∀ n, Spec (parseSelection n) (Eats PSel)
  | 0 => Spec.of_dead (outOfFuel_dead _)
  | n + 1 => by
    unfold parseSelection
    exact Spec.seq0 spec_peek_eats fun t => Spec.ite_same (fun _ => e_parseFragmentWith (e_parseSelection n) (n + 1))
      (fun _ => e_parseFieldWith (e_parseSelection n) (n + 1))

theorem e_parseRequiredSelectionSet (n : Nat) : Spec (parseRequiredSelectionSet n) (Eats PSelSet) :=
  e_parseRequiredSelectionSetWith (e_parseSelection n) n

def POp (o : OperationDef) (u : List Token) : Prop := Out (opOk o = true) (usesOp o) u

theorem e_opTail (n : Nat) (pos : Pos) (op : Operation) (name : Name) :
    Spec (opTail n pos op name) (Eats fun o u => ∃ vars dirs ss,
      o = { op := op, name := name, vars := vars, dirs := dirs, sel := ss, pos := pos } ∧ ss ≠ .nil ∧
      Out (vars.all varDefOk = true ∧ dirs.all dirOk = true ∧ selsOk ss = true)
        (vars.flatMap usesVarDef ++ (usesDirs dirs ++ usesSels ss)) u) := by
  unfold opTail
  exact Spec.seq (e_parseVariableDefinitions n) fun vars _ p1 => Spec.seq (e_parseDirectives n false) fun dirs _ p2 =>
    e_ret (e_parseRequiredSelectionSet n) fun ss _ p3 => ⟨vars, dirs, ss, rfl, p3.1, p1.and (p2.and p3.2)⟩

theorem isNameB_opKind {op : Operation} (h : op = str "query" ∨ op = str "mutation" ∨ op = str "subscription") :
    isNameB op = true := by
  rcases h with rfl | rfl | rfl <;> decide

theorem opOk_mk {op : Operation} {name : Name} {vars : List VarDef} {dirs : List Directive} {ss : Selections} {pos : Pos}
    (hop : isNameB op = true) (hname : name = [] ∨ isNameB name = true) (hv : vars.all varDefOk = true)
    (hd : dirs.all dirOk = true) (hne : ss ≠ .nil) (hss : selsOk ss = true) :
    opOk { op := op, name := name, vars := vars, dirs := dirs, sel := ss, pos := pos } = true := by
  cases ss with
  | nil => exact absurd rfl hne
  | cons _ _ =>
    simp only [opOk, Bool.and_eq_true, Bool.or_eq_true, List.isEmpty_iff]
    exact ⟨⟨⟨⟨⟨hop, hname⟩, hv⟩, hd⟩, trivial⟩, hss⟩

/-- `Name?` and the rest of an operation definition of kind `op` -/
theorem e_opNameTail (n : Nat) (pos : Pos) (op : Operation) :
    Spec (do
      let t ← peek
      if t.kind = .name then do
        let tk ← next
        opTail n pos op tk.value
      else opTail n pos op []) (Eats fun o u => isNameB op = true → Out (opOk o = true) (usesOp o) u) :=
  Spec.peek fun t => Spec.ite_same
    (fun hk => Spec.next_peeked (by rw [hk]; decide) (by rw [hk]; decide) fun tn =>
      Spec.last (e_opTail n pos op tn.value) fun _ _ ⟨vars, dirs, ss, e, hne, q⟩ ht _ hop => by
        subst e ht
        exact ((nameOut hk).and q).cast (fun ⟨h2, h3, h4, h5⟩ => opOk_mk hop (.inr h2) h3 h4 hne h5) (by simp [usesOp]))
    (fun _ => Spec.forget <| Spec.last (e_opTail n pos op []) fun _ _ ⟨vars, dirs, ss, e, hne, q⟩ hop => by
      subst e
      exact q.cast (fun ⟨h3, h4, h5⟩ => opOk_mk hop (.inl rfl) h3 h4 hne h5) (by simp [usesOp]))

/-- `parseOperationType` behind `peekPos` consumes one token, a Name `query`, `mutation` or `subscription` -/
theorem e_opType {β : Type} {f : Pos → Operation → Prog β} {Q : β → List Token → Prop}
    (hf : ∀ pos op, Spec (f pos op) (Eats fun y v => isNameB op = true → ∀ t, Q y (t :: v))) :
    Spec (peekPos >>= fun pos => parseOperationType >>= f pos) (Eats Q) := by
  refine (Spec.bind spec_peekPos fun pos => Spec.bind spec_parseOperationType fun op => hf pos op).mono ?_
  rintro o a a'' _ ⟨pos, a1, ⟨rfl, _⟩, op, a2, hop, u, hu, q⟩
  obtain ⟨t1, e1, _, e3⟩ := hop rfl
  exact ⟨t1 :: u, (Ate.peeked a).trans (e1.trans hu), q (isNameB_opKind e3) t1⟩

theorem e_parseOperationDefinition (n : Nat) : Spec (parseOperationDefinition n) (Eats POp) := by
  rw [parseOperationDefinition_eq]
  exact Spec.peek fun t => Spec.ite_same
    (fun _ => Spec.forget <| Spec.seq0 spec_peekPos_eats fun pos => e_ret (e_parseRequiredSelectionSet n) fun ss _ p =>
      p.2.cast (fun h => opOk_mk (by decide) (.inl rfl) (by simp) (by simp) p.1 h) (by simp [usesOp, usesDirs]))
    (fun _ => Spec.forget <| e_opType fun pos op => Spec.last (e_opNameTail n pos op) fun _ _ q hop t =>
      ((Out.triv [t]).and (q hop)).cast (fun h => h.2) (by simp))

def PFrag (f : FragmentDef) (u : List Token) : Prop := Out (fragOk f = true) (posFrag f) u

theorem e_parseFragmentDefinition (n : Nat) : Spec (parseFragmentDefinition n) (Eats PFrag) := by
  unfold parseFragmentDefinition
  refine Spec.peekPos fun pos => Spec.seq (spec_expectKeyword kwFragment) fun tf u1 p1 =>
    Spec.seq e_fragmentName fun name _ p2 => Spec.seq (e_parseVariableDefinitions n) fun vars _ p3 =>
    Spec.seq (e_eats (spec_expectKeyword kwOn)) fun _ _ p4 => Spec.seq e_name fun tc _ p5 =>
    Spec.seq (e_parseDirectives n false) fun dirs _ p6 => e_ret (e_parseRequiredSelectionSet n) fun ss _ p7 hpos => ?_
  obtain ⟨rfl, _⟩ := p1
  -- the position of the definition is that of the keyword `fragment`
  have hstart : pos.start = tf.start := hpos _ _ rfl
  obtain ⟨hne, q7⟩ := p7
  cases ss with
  | nil => exact absurd rfl hne
  | cons _ _ =>
    exact ((Out.tokPos tf).and (p2.and (p3.and (p4.and (p5.and (p6.and q7)))))).cast
      (fun ⟨_, h2, h3, _, h5, h6, h7⟩ => by simp [fragOk, h2, h3, h5, h6, h7]) (by simp [posFrag, usesFrag, hstart])

def okDef : Def → Prop
  | .inl o => opOk o = true
  | .inr f => fragOk f = true

def posDef : Def → List Nat
  | .inl o => usesOp o
  | .inr f => posFrag f

def PDef (d : Def) (u : List Token) : Prop := Out (okDef d) (posDef d) u

def DocRel (doc : QueryDoc) : QueryDoc → AS → AS → Prop := fun d a a' =>
  ∃ defs used, Ate a a' used ∧ a'.pk = true ∧ a'.σ.head.kind = .eof ∧
    d.ops = doc.ops ++ opsOf defs ∧ d.frags = doc.frags ++ fragsOf defs ∧ Many PDef defs used

theorem DocRel.peeked {doc d : QueryDoc} {a a' : AS} (h : DocRel doc d { a with pk := true } a') : DocRel doc d a a' := by
  obtain ⟨defs, used, g1, g⟩ := h
  exact ⟨defs, used, by simpa using (Ate.peeked a).trans g1, g⟩

end Gql.EndToEnd
