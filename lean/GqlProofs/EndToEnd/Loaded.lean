import GqlProofs.Props.C07
import GqlProofs.EndToEnd.WellParented
import GqlProofs.ValSpec.SingleRootSchema
import GqlProofs.ValSpec.PossibleSpreads
import GqlProofs.ValSpec.VarPosition
import GqlProofs.ValSpec.ValuesCorrectHyps
/-
  END TO END: the schema-side hypotheses of the capstones (`C08Hyps s d`; `Gql.Spec.Closed s` and `String` present, of
  `C09_links_correct`) are invariants of loader output: one theorem `loaded_<condition>` each from `load sd = .ok s`,
  bundled by `loaded_hyps` (`LoadedHyps s`; `C08Hyps_of_loaded` in `Props/C08.lean` adds the document side) and by
  `loaded_wpSchema` (`WPSchema s`).  What is NOT an invariant of `load` on arbitrary `SchemaDoc` trees stays a named
  hypothesis: (P) `PreludeDeclared sd` — the loader appends `__schema: __Schema!` / `__type(name: String!): __Type` AFTER
  validation, so without the prelude these names need not resolve; (T) `KindFieldless k sd`, `NamesNonEmpty sd` — shape
  the parser guarantees (`ParsedSchemaTree.lean`) but the tree type does not and `load` does not look at.  (R), root
  operation types are object types, is an invariant of `load` (`loaded_rootTypesAreObjects`); witnesses at the end.
-/
namespace Gql.EndToEnd
open Gql Gql.Load Gql.Validate

/-- (R) the query root of the loaded schema is not of kind `k` (an invariant of `load` for `k ≠ object`).
    `QueryRootNotInput s` (C07) is `QueryRootNotKind .inputObject s`. -/
def QueryRootNotKind (k : DefKind) (s : Schema) : Prop :=
  ∀ q d, s.query = some q → (q, d) ∈ s.types → d.kind ≠ k

theorem queryRootNotInput_iff (s : Schema) : QueryRootNotInput s ↔ QueryRootNotKind .inputObject s := Iff.rfl

/-- (R) the subscription root, if there is one, is an object type -/
def SubscriptionRootIsObject (s : Schema) : Prop :=
  ∀ n, s.subscription = some n → Gql.Spec.typeIs s n (· == .object) = true

/-- (T) definitions and extensions of kind `k` carry no fields -/
def KindFieldless (k : DefKind) (sd : SchemaDoc) : Prop :=
  ∀ d ∈ sd.definitions ++ sd.extensions, d.kind = k → d.fields = []

/-- (T) no definition or extension has the empty name -/
def NamesNonEmpty (sd : SchemaDoc) : Prop :=
  ∀ d ∈ sd.definitions ++ sd.extensions, d.name ≠ []

/-- Boolean form of `KindFieldless` (for kernel-checked witnesses) -/
theorem kindFieldless_of_all {k : DefKind} {sd : SchemaDoc}
    (h : (sd.definitions ++ sd.extensions).all (fun d => !(d.kind == k) || d.fields.isEmpty) = true) :
    KindFieldless k sd := by
  intro d hd hk
  have := List.all_eq_true.1 h d hd
  simpa [hk] using this

theorem preludeDeclared_introspection {sd : SchemaDoc} (hp : PreludeDeclared sd) : IntrospectionTypesDeclared sd :=
  { schema := hp.types (str "__Schema", .object) (.head _),
    type := hp.types (str "__Type", .object) (.tail _ (.head _)),
    string := hp.scalars (str "String") (.tail _ (.tail _ (.head _))) }

theorem loaded_closed {sd : SchemaDoc} {s : Schema} (h : load sd = .ok s)
    (hp : IntrospectionTypesDeclared sd) : Gql.Spec.Closed s :=
  C07_loaded_closed h hp

theorem loaded_keysConsistent {sd : SchemaDoc} {s : Schema} (h : load sd = .ok s) : Gql.Spec.KeysConsistent s :=
  C07_closed_keys h

theorem loaded_relationsExact {sd : SchemaDoc} {s : Schema} (h : load sd = .ok s) : Gql.Spec.RelationsExact s :=
  C07_relations_exact h

theorem loaded_possibleOK {sd : SchemaDoc} {s : Schema} (h : load sd = .ok s) : possibleOK s = true :=
  possibleOK_of_relationsExact s (C07_relations_exact h) (C07_closed_keys h)

/-- the argument `name: String!` of the appended `__type` field must resolve -/
theorem loaded_closedArgTypes {sd : SchemaDoc} {s : Schema} (h : load sd = .ok s)
    (hp : IntrospectionTypesDeclared sd) : Gql.Spec.ClosedArgTypes s :=
  C07_closed_argTypes h hp

theorem loaded_closedDirectiveArgTypes {sd : SchemaDoc} {s : Schema} (h : load sd = .ok s) :
    Gql.Spec.ClosedDirectiveArgTypes s :=
  C07_closed_directiveArgTypes h

theorem loaded_hasBuiltins {sd : SchemaDoc} {s : Schema} (h : load sd = .ok s) (hp : PreludeDeclared sd) :
    Gql.Spec.HasBuiltins s :=
  C07_prelude_present h hp

theorem loaded_declares {sd : SchemaDoc} {s : Schema} (h : load sd = .ok s) {n : Name} {k : DefKind}
    (hd : DeclaresKind sd n k) : ∃ d, s.type? n = some d ∧ d.kind = k := by
  obtain ⟨st, r1, d1, F⟩ := loaded_facts h
  obtain ⟨d, hl, hk⟩ := buildState_declares F.built hd
  rw [F.eq]
  exact ⟨_, lookup_final hl, (finalDef_kind ..).trans hk⟩

theorem loaded_hasString {sd : SchemaDoc} {s : Schema} (h : load sd = .ok s)
    (hs : DeclaresKind sd (str "String") .scalar) : (s.type? (str "String")).isSome := by
  obtain ⟨d, hd, _⟩ := loaded_declares h hs
  rw [hd]; rfl

theorem loaded_hasString_of_prelude {sd : SchemaDoc} {s : Schema} (h : load sd = .ok s) (hp : PreludeDeclared sd) :
    (s.type? (str "String")).isSome :=
  loaded_hasString h (preludeDeclared_introspection hp).string

theorem lookup_of_mem_loaded {sd : SchemaDoc} {s : Schema} (h : load sd = .ok s) {n : Name} {d : Definition}
    (hm : (n, d) ∈ s.types) : s.types.lookup n = some d := by
  obtain ⟨_, _, hdist, _⟩ := C07_closed_keys h
  exact lookup_of_mem_nodup (Load.nodup_of_pairwiseDistinct hdist) hm

theorem queryRootNotKind_of_rootsObjects {sd : SchemaDoc} {s : Schema} (h : load sd = .ok s)
    (hroots : Gql.Spec.rootTypesAreObjects s = true) {k : DefKind} (hk : k ≠ .object) : QueryRootNotKind k s := by
  intro q d hq hm hkd
  have := ((rootTypesAreObjects_iff s).mp hroots).1 q hq
  simp only [Gql.Spec.typeIs, lookup_of_mem_loaded h hm, beq_iff_eq] at this
  exact hk (hkd.symm.trans this)

theorem subscriptionRootIsObject_of_rootsObjects {s : Schema} (hroots : Gql.Spec.rootTypesAreObjects s = true) :
    SubscriptionRootIsObject s :=
  ((rootTypesAreObjects_iff s).mp hroots).2.2

theorem loaded_queryRootNotKind {sd : SchemaDoc} {s : Schema} (h : load sd = .ok s) {k : DefKind} (hk : k ≠ .object) :
    QueryRootNotKind k s :=
  queryRootNotKind_of_rootsObjects h (loaded_rootTypesAreObjects h) hk

theorem loaded_subscriptionRootIsObject {sd : SchemaDoc} {s : Schema} (h : load sd = .ok s) :
    SubscriptionRootIsObject s :=
  subscriptionRootIsObject_of_rootsObjects (loaded_rootTypesAreObjects h)

/-- `k ≠ object`: the query root, to which the loader appends `__schema` / `__type`, is an object type -/
theorem loaded_kind_no_fields {sd : SchemaDoc} {s : Schema} (h : load sd = .ok s) {k : DefKind}
    (hk : KindFieldless k sd) (hko : k ≠ .object) : ∀ p ∈ s.types, p.2.kind = k → p.2.fields = [] := by
  obtain ⟨st, r1, d1, F⟩ := loaded_facts h
  have hst : ∀ p ∈ st.types, p.2.kind = k → p.2.fields = [] := by
    refine buildState_types_all (Q := fun p => p.2.kind = k → p.2.fields = []) F.built ?_ ?_ ?_
    · intro d hd
      exact hk d (List.mem_append_left _ hd)
    · intro ext _ _
      rfl
    · intro ext hext d hd hkind hkk
      have hdk : d.kind = k := hkk
      have h1 : d.fields = [] := hd hdk
      have h2 : ext.fields = [] := hk ext (List.mem_append_right _ hext) (hkind.symm.trans hdk)
      show d.fields ++ ext.fields = []
      rw [h1, h2]; rfl
  intro p hp hpk
  rw [F.eq] at hp
  obtain ⟨p0, hp0, rfl⟩ := F.mem_types hp
  rcases finalDef_cases (finalRoots sd st r1).query p0 with e | ⟨_, hroot⟩
  · rw [e] at hpk ⊢
    exact hst p0 hp0 hpk
  · -- the query root is an object, by the loader's last check on the state entry
    rw [finalDef_kind, checkRootKinds_pass_iff.mp F.rootKinds Load.opQuery rfl p0.1 p0.2 ((rootOf_query _).trans hroot)
      (F.lookup_self hp0)] at hpk
    exact absurd hpk.symm hko

theorem loaded_scalars_no_fields {sd : SchemaDoc} {s : Schema} (h : load sd = .ok s)
    (hk : KindFieldless .scalar sd) :
    ∀ p ∈ s.types, p.2.kind = .scalar → p.2.fields = [] :=
  loaded_kind_no_fields h hk (by decide)

/-- the form `inputPositionsPlain_of_closed` asks for -/
theorem loaded_leaves_no_fields {sd : SchemaDoc} {s : Schema} (h : load sd = .ok s)
    (hks : KindFieldless .scalar sd) (hke : KindFieldless .enum sd) :
    ∀ p ∈ s.types, p.2.kind = .scalar ∨ p.2.kind = .enum → p.2.fields = [] := by
  intro p hp hkind
  rcases hkind with hkind | hkind
  · exact loaded_kind_no_fields h hks (by decide) p hp hkind
  · exact loaded_kind_no_fields h hke (by decide) p hp hkind

theorem loaded_unions_no_fields {sd : SchemaDoc} {s : Schema} (h : load sd = .ok s)
    (hk : KindFieldless .union sd) :
    ∀ p ∈ s.types, p.2.kind = .union → p.2.fields = [] :=
  loaded_kind_no_fields h hk (by decide)

/-- NOT an invariant of `load` on arbitrary trees: the tree type allows a definition named `[]` and the loader never
    inspects the spelling of a type name that does not start with `__` (`loaded_noEmptyTypeName_counterexample`) -/
theorem loaded_noEmptyTypeName {sd : SchemaDoc} {s : Schema} (h : load sd = .ok s) (hn : NamesNonEmpty sd) :
    s.type? [] = none := by
  obtain ⟨st, r1, d1, F⟩ := loaded_facts h
  have hst : ∀ p ∈ st.types, p.1 ≠ [] := by
    refine buildState_types_all (Q := fun p => p.1 ≠ []) F.built ?_ ?_ ?_
    · intro d hd
      exact hn d (List.mem_append_left _ hd)
    · intro ext hext
      exact hn ext (List.mem_append_right _ hext)
    · intro ext hext d _ _
      exact hn ext (List.mem_append_right _ hext)
  cases hl : s.type? [] with
  | none => rfl
  | some d =>
    have hm : (([] : Name), d) ∈ s.types := mem_of_lookup hl
    rw [F.eq] at hm
    obtain ⟨p0, hp0, e⟩ := F.mem_types hm
    exact absurd ((finalDef_fst _ p0).symm.trans (congrArg Prod.fst e).symm) (hst p0 hp0)

/-- (P): a definition named like a built-in scalar is that scalar -/
theorem loaded_schemaOK {sd : SchemaDoc} {s : Schema} (h : load sd = .ok s) (hp : PreludeDeclared sd)
    (hk : KindFieldless .scalar sd) : schemaOK s = true :=
  schemaOK_of_closed s (C07_closed_keys h) (C07_closed_fieldTypes h (preludeDeclared_introspection hp))
    (C07_prelude_present h hp) (loaded_scalars_no_fields h hk)

theorem loaded_inputPositionsPlain {sd : SchemaDoc} {s : Schema} (h : load sd = .ok s)
    (hp : IntrospectionTypesDeclared sd) (hks : KindFieldless .scalar sd) (hke : KindFieldless .enum sd) :
    inputPositionsPlain s = true :=
  inputPositionsPlain_of_closed s (C07_loaded_closed h hp) (loaded_leaves_no_fields h hks hke)

theorem loaded_subscriptionRootExact {sd : SchemaDoc} {s : Schema} (h : load sd = .ok s) :
    subscriptionRootExact s = true :=
  subscriptionRootExact_of_loaded s (C07_closed_keys h) (C07_relations_exact h).possibleAbstractExact
    (loaded_rootTypesAreObjects h)

/-- `Spec.fieldTypesAreOutputTypes s d` depends on the document only through the field definitions of
    the schema the document's field nodes resolve to; it holds of EVERY document (`field_type_resolves`) -/
theorem fieldTypesAreOutputTypes_of_closed (s : Schema) (d : QueryDoc) (hft : Gql.Spec.ClosedFieldTypes s)
    (hstr : ∃ dd, s.type? (str "String") = some dd ∧ dd.kind = .scalar) :
    Gql.Validate.Spec.fieldTypesAreOutputTypes s d = true := by
  unfold Gql.Validate.Spec.fieldTypesAreOutputTypes
  rw [List.all_eq_true]
  intro t ht
  have hin := docSels_inSch s d t ht
  obtain ⟨par, sel⟩ := t
  cases sel with
  | spread nm dirs p => rfl
  | inline tc dirs sub p => rfl
  | field al nm args dirs sub p =>
    simp only [Gql.Validate.Spec.fieldNodeType]
    cases par with
    | none => rfl
    | some q =>
      obtain ⟨n, hn⟩ := hin q rfl
      cases hfd : Gql.Validate.Spec.fieldDefOn q nm with
      | none => simp [hfd]
      | some fd =>
        obtain ⟨ft, hty, hlc⟩ := field_type_resolves hft hstr hn hfd
        simpa [hfd, hty] using hlc

theorem loaded_fieldTypesAreOutputTypes {sd : SchemaDoc} {s : Schema} (h : load sd = .ok s)
    (hp : IntrospectionTypesDeclared sd) (d : QueryDoc) :
    Gql.Validate.Spec.fieldTypesAreOutputTypes s d = true :=
  fieldTypesAreOutputTypes_of_closed s d (C07_closed_fieldTypes h hp) (loaded_declares h hp.string)

/-- every schema-side hypothesis of `C08_default_rules_iff_spec_partial` (`C08Hyps`) and of
    `C09_links_correct` -/
structure LoadedHyps (s : Schema) : Prop where
  closed : Gql.Spec.Closed s
  keys : Gql.Spec.KeysConsistent s
  relations : Gql.Spec.RelationsExact s
  hasBuiltins : Gql.Spec.HasBuiltins s
  possibleOK : possibleOK s = true
  schemaOK : schemaOK s = true
  scalarsNoFields : ∀ p ∈ s.types, p.2.kind = .scalar → p.2.fields = []
  leavesNoFields : ∀ p ∈ s.types, p.2.kind = .scalar ∨ p.2.kind = .enum → p.2.fields = []
  subscriptionRoot : subscriptionRootExact s = true
  inputPositions : inputPositionsPlain s = true
  noEmptyTypeName : s.type? [] = none
  hasString : (s.type? (str "String")).isSome
  argTypes : Gql.Spec.ClosedArgTypes s
  directiveArgTypes : Gql.Spec.ClosedDirectiveArgTypes s
  outputTypes : ∀ d : QueryDoc, Gql.Validate.Spec.fieldTypesAreOutputTypes s d = true

theorem loaded_hyps {sd : SchemaDoc} {s : Schema} (h : load sd = .ok s) (hp : PreludeDeclared sd)
    (hks : KindFieldless .scalar sd) (hke : KindFieldless .enum sd) (hn : NamesNonEmpty sd) : LoadedHyps s :=
  have hi := preludeDeclared_introspection hp
  { closed := loaded_closed h hi
    keys := loaded_keysConsistent h
    relations := loaded_relationsExact h
    hasBuiltins := loaded_hasBuiltins h hp
    possibleOK := loaded_possibleOK h
    schemaOK := loaded_schemaOK h hp hks
    scalarsNoFields := loaded_scalars_no_fields h hks
    leavesNoFields := loaded_leaves_no_fields h hks hke
    subscriptionRoot := loaded_subscriptionRootExact h
    inputPositions := loaded_inputPositionsPlain h hi hks hke
    noEmptyTypeName := loaded_noEmptyTypeName h hn
    hasString := loaded_hasString h hi.string
    argTypes := loaded_closedArgTypes h hi
    directiveArgTypes := loaded_closedDirectiveArgTypes h
    outputTypes := loaded_fieldTypesAreOutputTypes h hi }

/-- what holds of the schema a document loads to, or of the error it is rejected with, is decided by running
    the loader -/
instance (r : LoadResult) (p : Schema → Prop) [DecidablePred p] : Decidable (∃ s, r = .ok s ∧ p s) :=
  match r with
  | .ok s => decidable_of_iff (p s) ⟨fun h => ⟨s, rfl, h⟩, fun ⟨_, e, h⟩ => by cases e; exact h⟩
  | .err _ => isFalse fun ⟨_, e, _⟩ => by cases e
  | .panic => isFalse fun ⟨_, e, _⟩ => by cases e

theorem loaded_wpSchema {sd : SchemaDoc} {s : Schema} (h : load sd = .ok s) (hp : PreludeDeclared sd)
    (hku : KindFieldless .union sd) : WPSchema s :=
  { fieldTypes := C07_closed_fieldTypes h (preludeDeclared_introspection hp)
    string := loaded_declares h (preludeDeclared_introspection hp).string
    unions := loaded_unions_no_fields h hku
    roots := loaded_rootTypesAreObjects h }

instance (r : LoadResult) (p : LoadError → Prop) [DecidablePred p] : Decidable (∃ e, r = .err e ∧ p e) :=
  match r with
  | .err e => decidable_of_iff (p e) ⟨fun h => ⟨e, rfl, h⟩, fun ⟨_, h', h⟩ => by cases h'; exact h⟩
  | .ok _ => isFalse fun ⟨_, e, _⟩ => by cases e
  | .panic => isFalse fun ⟨_, e, _⟩ => by cases e

namespace Witness
open Gql.Examples

def queryA : Definition := defn .object "Query" 1 [fld "a" (ty "Int")]

/-- `type Query { a: Int }  interface Subscription { a: Int }`: the interface is the default-named subscription root -/
def interfaceSubscriptionDoc : SchemaDoc :=
  doc (miniPrelude ++ [queryA, defn .interface "Subscription" 2 [fld "a" (ty "Int")]])

/-- `scalar Query`: the scalar is the default-named query root -/
def scalarQueryDoc : SchemaDoc := doc (miniPrelude ++ [defn .scalar "Query" 1])

/-- `enum Query { A }  type T { f(x: Query): Int }`: the enum is the default-named query root and the type of an
    argument -/
def enumQueryDoc : SchemaDoc :=
  doc (miniPrelude ++ [defn .enum "Query" 1 (values := ["A"]), defn .object "T" 2 [fld "f" (ty "Int") [arg "x" (ty "Query")]]])

/-- a TREE (no source text parses to it) whose scalar `S` carries a field list -/
def scalarWithFieldsDoc : SchemaDoc := doc (miniPrelude ++ [queryA, defn .scalar "S" 2 [fld "a" (ty "Int")]])

/-- a TREE (no source text parses to it) with a definition whose name is empty -/
def emptyNameDoc : SchemaDoc := doc (miniPrelude ++ [queryA, { queryA with name := [], pos := pos 2 }])

end Witness

open Witness in
/-- `type Query { a: Int }  interface Subscription { a: Int }` is rejected: "Schema root subscription
    must be an object type, Subscription is a INTERFACE." at the definition of `Subscription` (as the
    subscription root the interface would make `subscriptionRootExact` false) -/
theorem loaded_subscriptionRoot_interface_rejected :
    ∃ e, load interfaceSubscriptionDoc = .err e ∧
      e.msg = Msg.rootNotObject Load.opSubscription (str "Subscription") .interface ∧ e.line = 2 := by
  decide +kernel

open Witness in
/-- `scalar Query` is rejected: "Schema root query must be an object type, Query is a SCALAR." (as the query
    root the scalar would receive `__schema` / `__type` and make `schemaOK` false) -/
theorem loaded_scalar_query_rejected :
    ∃ e, load scalarQueryDoc = .err e ∧ e.msg = Msg.rootNotObject Load.opQuery (str "Query") .scalar ∧
      KindFieldless .scalar scalarQueryDoc := by
  have ⟨e, he, hm⟩ : ∃ e, load scalarQueryDoc = .err e ∧ e.msg = Msg.rootNotObject Load.opQuery (str "Query") .scalar := by
    decide +kernel
  exact ⟨e, he, hm, kindFieldless_of_all (by decide)⟩

open Witness in
/-- `enum Query { A }  type T { f(x: Query): Int }` is rejected: "Schema root query must be an object type,
    Query is a ENUM." (as the query root the enum would have fields and be the type of an argument:
    `inputPositionsPlain` false) -/
theorem loaded_enum_query_rejected :
    ∃ e, load enumQueryDoc = .err e ∧ e.msg = Msg.rootNotObject Load.opQuery (str "Query") .enum := by
  decide +kernel

open Witness in
/-- the loader does not look at the field list of a scalar definition: a tree whose scalar `S` carries a
    field loads, all roots are objects, and `schemaOK` is false — `loaded_schemaOK` cannot lose
    `KindFieldless .scalar` (a hypothesis about TREES; no source text parses to this tree) -/
theorem loaded_kindFieldless_counterexample :
    ∃ sd s, load sd = .ok s ∧ Gql.Spec.rootTypesAreObjects s = true ∧ schemaOK s = false :=
  ⟨scalarWithFieldsDoc, by decide +kernel⟩

open Witness in
/-- the loader does not look at the spelling of a type name: a tree with a definition named `[]` loads
    and `s.type? []` is that definition — `loaded_noEmptyTypeName` cannot lose `NamesNonEmpty`
    (a hypothesis about TREES; no source text parses to this tree) -/
theorem loaded_noEmptyTypeName_counterexample :
    ∃ sd s, load sd = .ok s ∧ Gql.Spec.rootTypesAreObjects s = true ∧ (s.type? []).isSome = true :=
  ⟨emptyNameDoc, by decide +kernel⟩

/-- non-vacuity: a document that loads and satisfies (R) and (T) (`Examples.okDoc`, `type Query { a: Int }`
    with the three-type stand-in for the prelude) -/
example : ∃ s, load Examples.okDoc = .ok s ∧ Gql.Spec.rootTypesAreObjects s = true ∧
    subscriptionRootExact s = true ∧ possibleOK s = true ∧ inputPositionsPlain s = true ∧ s.type? [] = none := by
  decide +kernel

end Gql.EndToEnd

#print axioms Gql.EndToEnd.preludeDeclared_introspection
#print axioms Gql.EndToEnd.loaded_wpSchema
#print axioms Gql.EndToEnd.loaded_closed
#print axioms Gql.EndToEnd.loaded_keysConsistent
#print axioms Gql.EndToEnd.loaded_relationsExact
#print axioms Gql.EndToEnd.loaded_possibleOK
#print axioms Gql.EndToEnd.loaded_closedArgTypes
#print axioms Gql.EndToEnd.loaded_closedDirectiveArgTypes
#print axioms Gql.EndToEnd.loaded_hasBuiltins
#print axioms Gql.EndToEnd.loaded_declares
#print axioms Gql.EndToEnd.loaded_hasString
#print axioms Gql.EndToEnd.loaded_hasString_of_prelude
#print axioms Gql.EndToEnd.queryRootNotKind_of_rootsObjects
#print axioms Gql.EndToEnd.subscriptionRootIsObject_of_rootsObjects
#print axioms Gql.Load.buildState_types_all
#print axioms Gql.EndToEnd.loaded_kind_no_fields
#print axioms Gql.EndToEnd.loaded_scalars_no_fields
#print axioms Gql.EndToEnd.loaded_leaves_no_fields
#print axioms Gql.EndToEnd.loaded_unions_no_fields
#print axioms Gql.EndToEnd.loaded_noEmptyTypeName
#print axioms Gql.EndToEnd.loaded_schemaOK
#print axioms Gql.EndToEnd.loaded_inputPositionsPlain
#print axioms Gql.EndToEnd.loaded_subscriptionRootExact
#print axioms Gql.EndToEnd.fieldTypesAreOutputTypes_of_closed
#print axioms Gql.EndToEnd.loaded_fieldTypesAreOutputTypes
#print axioms Gql.EndToEnd.loaded_hyps
#print axioms Gql.EndToEnd.loaded_subscriptionRoot_interface_rejected
#print axioms Gql.EndToEnd.loaded_scalar_query_rejected
#print axioms Gql.EndToEnd.loaded_enum_query_rejected
#print axioms Gql.EndToEnd.loaded_kindFieldless_counterexample
#print axioms Gql.EndToEnd.loaded_noEmptyTypeName_counterexample
