import GqlProofs.EndToEnd.ParsedSchemaShape
import GqlProofs.EndToEnd.Loaded
import GqlProofs.Grammar.ParserFacts
/-
  END TO END: the tree-shape hypotheses (T) of `Loaded.lean` — `KindFieldless` for scalar, enum and
  union, `NamesNonEmpty` — hold of every schema document that the schema parser model
  returns, and of every merge of such documents (`parseSchemas`: what `LoadSchema` hands to the
  validator).
-/
namespace Gql.EndToEnd
open Gql Gql.Lexer Gql.Parser Gql.Format Gql.Load

theorem defOk_of_formattable {d : SchemaDoc} (h : FormattableSchema d) :
    ∀ x ∈ d.definitions ++ d.extensions, defOk x = true := by
  unfold FormattableSchema schemaDocOk at h
  simp only [Bool.and_eq_true] at h
  intro x hx
  rcases List.mem_append.1 hx with hx | hx
  · exact List.all_eq_true.1 h.1.2 x hx
  · have := List.all_eq_true.1 h.2 x hx
    simp only [extOk, Bool.and_eq_true] at this
    exact this.1

theorem kindFieldless_of_formattable {d : SchemaDoc} (h : FormattableSchema d) {k : DefKind}
    (hk : k = .scalar ∨ k = .enum ∨ k = .union) : KindFieldless k d := by
  intro x hx hxk
  have := defOk_of_formattable h x hx
  rcases hk with rfl | rfl | rfl
  all_goals simp only [defOk, Bool.and_eq_true, shapeOk, hxk, List.isEmpty_iff] at this
  · exact this.2.1.2
  · exact this.2.2
  · exact this.2.1.2

theorem namesNonEmpty_of_formattable {d : SchemaDoc} (h : FormattableSchema d) : NamesNonEmpty d := by
  intro x hx hn
  have := defOk_of_formattable h x hx
  simp only [defOk, Bool.and_eq_true] at this
  rw [hn] at this
  simp [isNameB] at this

structure TreeHyps (sd : SchemaDoc) : Prop where
  scalars : KindFieldless .scalar sd
  enums : KindFieldless .enum sd
  unions : KindFieldless .union sd
  names : NamesNonEmpty sd

theorem treeHyps_of_formattable {d : SchemaDoc} (h : FormattableSchema d) : TreeHyps d :=
  ⟨kindFieldless_of_formattable h (.inl rfl), kindFieldless_of_formattable h (.inr (.inl rfl)),
   kindFieldless_of_formattable h (.inr (.inr rfl)), namesNonEmpty_of_formattable h⟩

theorem parsedSchema_treeHyps {L src : Nat} {b : Bool} {inp : Bytes} {d : SchemaDoc} (hv : Utf8.valid inp)
    (hp : parseSchemaSrc L src b inp = .ok d) : TreeHyps d :=
  treeHyps_of_formattable (parsedSchema_formattable L src b inp d hv hp)

theorem treeHyps_empty : TreeHyps SchemaDoc.empty :=
  ⟨fun x hx => by simp [SchemaDoc.empty] at hx, fun x hx => by simp [SchemaDoc.empty] at hx,
   fun x hx => by simp [SchemaDoc.empty] at hx, fun x hx => by simp [SchemaDoc.empty] at hx⟩

theorem mem_merge {a b : SchemaDoc} {x : Definition} (hx : x ∈ (a.merge b).definitions ++ (a.merge b).extensions) :
    x ∈ a.definitions ++ a.extensions ∨ x ∈ b.definitions ++ b.extensions := by
  simp only [SchemaDoc.merge, List.mem_append] at hx ⊢
  rcases hx with (h | h) | (h | h)
  · exact .inl (.inl h)
  · exact .inr (.inl h)
  · exact .inl (.inr h)
  · exact .inr (.inr h)

theorem treeHyps_merge {a b : SchemaDoc} (ha : TreeHyps a) (hb : TreeHyps b) : TreeHyps (a.merge b) :=
  ⟨fun x hx => (mem_merge hx).elim (ha.scalars x) (hb.scalars x),
   fun x hx => (mem_merge hx).elim (ha.enums x) (hb.enums x),
   fun x hx => (mem_merge hx).elim (ha.unions x) (hb.unions x),
   fun x hx => (mem_merge hx).elim (ha.names x) (hb.names x)⟩

theorem treeHyps_foldl (ds : List SchemaDoc) : ∀ acc : SchemaDoc, TreeHyps acc → (∀ d ∈ ds, TreeHyps d) →
    TreeHyps (ds.foldl SchemaDoc.merge acc) := by
  induction ds with
  | nil => intro acc h _; exact h
  | cons d ds ih =>
    intro acc h hd
    exact ih _ (treeHyps_merge h (hd d (by simp))) (fun x hx => hd x (by simp [hx]))

theorem parsedFrom_treeHyps (L : Nat) : ∀ (srcs : List (Bool × Bytes)) (i : Nat) (ds : List SchemaDoc),
    (∀ src ∈ srcs, Utf8.valid src.2) → ParsedFrom L i srcs ds → ∀ d ∈ ds, TreeHyps d
  | [], _, [], _, _ => fun d hd => by cases hd
  | [], _, _ :: _, _, h => by simp [ParsedFrom] at h
  | _ :: _, _, [], _, h => by simp [ParsedFrom] at h
  | (bi, inp) :: rest, i, d :: ds, hv, h => by
    simp only [ParsedFrom] at h
    intro x hx
    rcases List.mem_cons.1 hx with rfl | hx
    · exact parsedSchema_treeHyps (hv (bi, inp) (by simp)) h.1
    · exact parsedFrom_treeHyps L rest (i + 1) ds (fun s hs => hv s (by simp [hs])) h.2 x hx

theorem parseSchemas_treeHyps {L : Nat} {srcs : List (Bool × Bytes)} {sd : SchemaDoc}
    (hv : ∀ src ∈ srcs, Utf8.valid src.2) (hp : parseSchemas L srcs = .ok sd) : TreeHyps sd := by
  unfold parseSchemas at hp
  obtain ⟨ds, hpf, rfl⟩ := parseSchemasFrom_ok L srcs 0 SchemaDoc.empty sd hp
  exact treeHyps_foldl ds _ treeHyps_empty (parsedFrom_treeHyps L srcs 0 ds hv hpf)

#print axioms parsedSchema_treeHyps
#print axioms parseSchemas_treeHyps

end Gql.EndToEnd
