import GqlModel.Gen.Prelude
import GqlProofs.EndToEnd.SourceWitness
/-
  The prelude inside the model.  `Gen.preludeBytes` is regenerated on every run from
  /repo/validator/imported/prelude.graphql (the text `validator.Prelude` embeds and `LoadSchema` puts in
  front of the caller's sources, marked BuiltIn).  One kernel evaluation runs the lexer and parser MODELS
  on it and checks that the parsed document declares every built-in scalar, every introspection type and
  every built-in directive, so `PreludeDeclared` holds of every document that `ParseSchemas` merges from the
  prelude followed by any sources (`sources_with_prelude_declared`).
-/
namespace Gql.EndToEnd.Prelude
open Gql Gql.Parser Gql.Load Gql.EndToEnd.SourceWitness

/-- parse the regenerated prelude text with the parser model (source index 0, BuiltIn) and test the declarations -/
def preludeChecked : Option Bool :=
  match parseSchemaSrc 0 0 true Gen.preludeBytes with
  | .ok d => some (preludeDeclaredB d)
  | _ => none

/-- the prelude followed by one user source: `ParseSchemas` and the loader model both succeed -/
def loadsWithPrelude (user : Bytes) : Bool :=
  match parseSchemas 0 [(true, Gen.preludeBytes), (false, user)] with
  | .ok sd => (match load sd with | .ok _ => true | _ => false)
  | _ => false

/-- `preludeChecked` and `loadsWithPrelude` with the text of the prelude as an argument.  The kernel cannot
    compare a constant defined as a match on a closed term with that match without reducing the match (running
    the parser); against a definition of the same height it unfolds both sides in one step and finds them
    identical, so the two equations below hold by `rfl`, and after them `rw [checkedOn]` shows the match. -/
def checkedOn (bs : Bytes) : Option Bool :=
  match parseSchemaSrc 0 0 true bs with
  | .ok d => some (preludeDeclaredB d)
  | _ => none
@[inherit_doc checkedOn]
def loadsOn (bs user : Bytes) : Bool :=
  match parseSchemas 0 [(true, bs), (false, user)] with
  | .ok sd => (match load sd with | .ok _ => true | _ => false)
  | _ => false

theorem preludeChecked_eq : preludeChecked = checkedOn Gen.preludeBytes := rfl
theorem loadsWithPrelude_eq (user : Bytes) : loadsWithPrelude user = loadsOn Gen.preludeBytes user := rfl

/-- ONE KERNEL EVALUATION of the lexer, parser and loader models over the 8 kB of the prelude, alone and
    followed by `type Query { a: Int }`.  Everything this file says about the text of the prelude is read off it. -/
theorem prelude_evaluated :
    Gen.preludeBytes.all (· < 128) = true ∧
    (∃ d, parseSchemaSrc 0 0 true Gen.preludeBytes = .ok d ∧ preludeDeclaredB d = true) ∧
    ∃ sd, parseSchemas 0 [(true, Gen.preludeBytes), (false, str "type Query { a: Int }")] = .ok sd ∧
      (load sd).isOk = true := by
  -- the 41 chunks of the text appended from the right: the kernel then walks the text in linear time
  unfold Gen.preludeBytes
  simp only [List.append_assoc]
  decide +kernel

theorem prelude_checked : preludeChecked = some true := by
  obtain ⟨d, hd, hB⟩ := prelude_evaluated.2.1
  rw [preludeChecked_eq, checkedOn, hd]
  exact congrArg some hB

theorem prelude_parses : ∃ d, parseSchemaSrc 0 0 true Gen.preludeBytes = .ok d ∧ PreludeDeclared d :=
  have ⟨d, hd, hB⟩ := prelude_evaluated.2.1
  ⟨d, hd, preludeDeclared_of_B hB⟩

theorem valid_of_ascii (inp : Bytes) (h : Lexer.Ascii inp) : Lexer.Utf8.valid inp :=
  (Lexer.Utf8.valid_iff inp).2 ⟨inp, Lexer.AllScalar_of_ascii h, Lexer.utf8Encode_ascii inp h⟩

theorem prelude_utf8 : Lexer.Utf8.valid Gen.preludeBytes :=
  valid_of_ascii _ fun b hb => of_decide_eq_true (List.all_eq_true.1 prelude_evaluated.1 b hb)

/-- the sources as `LoadSchema` hands them over: the prelude first -/
theorem sources_utf8 {user : List (Bool × Bytes)} (huser : ∀ src ∈ user, Lexer.Utf8.valid src.2) :
    ∀ src ∈ (true, Gen.preludeBytes) :: user, Lexer.Utf8.valid src.2 := fun src h => by
  rcases List.mem_cons.1 h with rfl | h
  · exact prelude_utf8
  · exact huser src h

/-- `PreludeDeclared` only asks for definitions and directives to be present -/
theorem preludeDeclared_mono {a b : SchemaDoc} (h : PreludeDeclared a)
    (hdef : ∀ d ∈ a.definitions, d ∈ b.definitions) (hdir : ∀ dd ∈ a.directives, dd ∈ b.directives) :
    PreludeDeclared b :=
  have declares {n k} : DeclaresKind a n k → DeclaresKind b n k := fun ⟨d, hd, hk⟩ => ⟨d, hdef d hd, hk⟩
  ⟨fun n hn => declares (h.scalars n hn), fun p hp => declares (h.types p hp),
   fun n hn => have ⟨dd, hd, he⟩ := h.directives n hn; ⟨dd, hdir dd hd, he⟩⟩

theorem preludeDeclared_merge_left {a : SchemaDoc} (b : SchemaDoc) (h : PreludeDeclared a) : PreludeDeclared (a.merge b) :=
  preludeDeclared_mono h (fun _ => List.mem_append_left _) (fun _ => List.mem_append_left _)

theorem preludeDeclared_merge_right (a : SchemaDoc) {b : SchemaDoc} (h : PreludeDeclared b) : PreludeDeclared (a.merge b) :=
  preludeDeclared_mono h (fun _ => List.mem_append_right _) (fun _ => List.mem_append_right _)

theorem parseSchemasFrom_preludeDeclared {L : Nat} {srcs : List (Bool × Bytes)} {i : Nat} {acc sd : SchemaDoc}
    (h : parseSchemasFrom L i acc srcs = .ok sd) (hacc : PreludeDeclared acc) : PreludeDeclared sd := by
  induction srcs generalizing i acc with
  | nil => cases h; exact hacc
  | cons x rest ih =>
    unfold parseSchemasFrom at h
    cases h1 : parseSchemaSrc L i x.1 x.2 with
    | ok d1 => rw [h1] at h; exact ih h (preludeDeclared_merge_left d1 hacc)
    | error e => rw [h1] at h; cases h
    | outOfFuel => rw [h1] at h; cases h

/-- **what `LoadSchema` hands to the loader declares the prelude**: for ANY sources after the prelude
    (marked BuiltIn, first — `gqlparser.LoadSchema`, `validator.LoadSchema`) and under any token limit, the
    merged document satisfies `PreludeDeclared` -/
theorem sources_with_prelude_declared {L : Nat} {srcs : List (Bool × Bytes)} {sd : SchemaDoc}
    (h : parseSchemas L ((true, Gen.preludeBytes) :: srcs) = .ok sd) : PreludeDeclared sd := by
  obtain ⟨d0, hd0, hp0⟩ := prelude_parses
  -- from here on the text is a variable, and `h` is only rewritten (`unfold … at h` would change the type of
  -- `h` up to unfolding, which the kernel checks on the closed text by running the parser on it)
  generalize Gen.preludeBytes = inp at hd0 h
  rw [parseSchemas, parseSchemasFrom] at h
  cases h1 : parseSchemaSrc L 0 true inp with
  | ok d1 =>
    rw [h1] at h
    -- success under the limit `L` is success without limit, with the same document
    have h0 := parseSchemaSrc_zero h1
    rw [hd0] at h0
    cases h0
    exact parseSchemasFrom_preludeDeclared h (preludeDeclared_merge_right _ hp0)
  | error e => rw [h1] at h; cases h
  | outOfFuel => rw [h1] at h; cases h

/-- read off `prelude_evaluated`: the lexer, parser and LOADER models succeed on the prelude followed by
    `type Query { a: Int }` -/
theorem prelude_and_user_source_load : loadsWithPrelude (str "type Query { a: Int }") = true := by
  obtain ⟨sd, hsd, hl⟩ := prelude_evaluated.2.2
  obtain ⟨s, hs⟩ := (isOk_iff _).1 hl
  rw [loadsWithPrelude_eq, loadsOn, hsd]
  simp only [hs]

/-- non-vacuity of the `…_loadSchema` theorems: their hypotheses about the schema sources are satisfiable -/
theorem loadSchema_hyps_satisfiable :
    ∃ sd s, parseSchemas 0 [(true, Gen.preludeBytes), (false, str "type Query { a: Int }")] = .ok sd ∧ load sd = .ok s :=
  have ⟨sd, hsd, hl⟩ := prelude_evaluated.2.2
  have ⟨s, hs⟩ := (isOk_iff _).1 hl
  ⟨sd, s, hsd, hs⟩

end Gql.EndToEnd.Prelude
