import GqlProofs.Lexer.UniLex
import GqlProofs.Json.ParsedClean
import GqlProofs.EndToEnd.TokLex
/-
  END TO END: the lexer model on well-formed UTF-8 text only hands out token values that are
  well-formed UTF-8 (they are `utf8Encode` of code-point lists, by the lexer = specification
  theorems).  Hence `Utf8.valid inp` gives `sourceCleanB inp = true` (`lexCleanB_enc`, `C19_valid_source_clean`) and
  `LexClean inp cur` (`valid_source_lexClean`): the hypothesis on the source of `C19_parsed_roundtrip` and
  `C19_parsed_document_wellformed` (`Props/C19.lean`) holds for every well-formed UTF-8 source.
-/
namespace Gql.EndToEnd
open Gql Gql.Lexer Gql.Lexer.Spec Gql.Json Gql.Parser

/-- what `encodeRune` does to a code point that has no encoding -/
def normCp (c : Nat) : Nat := if IsScalar c then c else 0xFFFD

theorem normCp_scalar (c : Nat) : IsScalar (normCp c) := by
  unfold normCp
  split
  · assumption
  · unfold IsScalar; omega

theorem encodeRune_normCp (c : Nat) : encodeRune (normCp c) = encodeRune c := by
  unfold normCp
  split
  · rfl
  · rename_i h
    unfold IsScalar at h
    have h1 : ¬ c < 0x80 := by omega
    have h2 : ¬ c < 0x800 := by omega
    have h3 : ((decide (0xD800 ≤ c) && decide (c ≤ 0xDFFF)) || decide (0x10FFFF < c)) = true := by
      simp only [Bool.or_eq_true, Bool.and_eq_true, decide_eq_true_eq]; omega
    rw [show encodeRune c = [0xEF, 0xBF, 0xBD] by simp only [encodeRune, h1, h2, h3, if_false, if_true]]
    decide

theorem utf8Encode_scalars (v : List Nat) : ∃ cps, AllScalar cps ∧ utf8Encode v = utf8Encode cps := by
  refine ⟨v.map normCp, ?_, ?_⟩
  · intro c hc
    obtain ⟨x, _, rfl⟩ := List.mem_map.mp hc
    exact normCp_scalar x
  · induction v with
    | nil => rfl
    | cons c t ih => rw [List.map_cons, utf8Encode_cons, utf8Encode_cons, ih, encodeRune_normCp]

theorem sanitizeFuel_enc (cps : List Nat) (hs : AllScalar cps) :
    ∀ f, (utf8Encode cps).length ≤ f → sanitizeFuel f (utf8Encode cps) = utf8Encode cps := by
  induction cps with
  | nil => intro f _; cases f <;> rfl
  | cons c t ih =>
    intro f hf
    have hc := AllScalar_head hs
    -- a scalar's encoding is not empty, and U+FFFD is not encoded in one byte
    have hlen : 1 ≤ (encodeRune c).length ∧ (c = runeError → 2 ≤ (encodeRune c).length) := by
      by_cases h128 : c < 128
      · rw [encodeRune_ascii h128]; exact ⟨Nat.le_refl _, by unfold runeError; omega⟩
      · obtain ⟨b0, b1, bt, e, _, _⟩ := encodeRune_high_shape hc (Nat.le_of_not_lt h128)
        rw [e]; simp
    rw [utf8Encode_cons] at hf ⊢
    rw [List.length_append] at hf
    have hd := decodeRune_encodeRune hc (utf8Encode t)
    have hne : ¬ (c = runeError ∧ (encodeRune c).length ≤ 1) := by omega
    cases f with
    | zero => omega
    | succ f =>
      cases hE : encodeRune c ++ utf8Encode t with
      | nil => rw [← List.length_eq_zero_iff, List.length_append] at hE; omega
      | cons b rest =>
        rw [hE] at hd
        simp only [sanitizeFuel, hd, hne, if_false]
        rw [← hE, List.take_left' rfl, List.drop_left' rfl, ih (AllScalar_tail hs) f (by omega)]

/-- the UTF-8 coercion of `json.Marshal` fixes every encoded list of scalars -/
theorem sanitize_enc_scalars (cps : List Nat) (hs : AllScalar cps) : sanitize (utf8Encode cps) = utf8Encode cps :=
  sanitizeFuel_enc cps hs _ (Nat.le_refl _)

/-- … hence every `utf8Encode v` -/
theorem sanitize_utf8Encode (v : List Nat) : sanitize (utf8Encode v) = utf8Encode v := by
  obtain ⟨cps, hs, e⟩ := utf8Encode_scalars v
  rw [e]; exact sanitize_enc_scalars cps hs

theorem readToken_enc_step (cps : List Nat) (cur : Cur) (hs : AllScalar cps) {t : Token} {r : Bytes} {c' : Cur}
    (h : readToken (utf8Encode cps) cur = .tok t r c') :
    (∃ v, t.value = utf8Encode v) ∧ (∃ cps', AllScalar cps' ∧ r = utf8Encode cps') ∧ (t.kind = .eof → r = []) := by
  have hp := readToken_pos_u cps cur _ hs (InvU_self cur cps)
  rw [h] at hp
  obtain ⟨_, _, r', _, rfl, hsr, _, _, _, _, _, _, hv, he⟩ := hp
  exact ⟨hv, ⟨r', hsr, rfl⟩, fun hk => by rw [he hk]; rfl⟩

theorem lexCleanB_enc : ∀ (n : Nat) (cps : List Nat) (cur : Cur), AllScalar cps →
    (utf8Encode cps).length + 2 ≤ n → lexCleanB n (utf8Encode cps) cur = true
  | 0, _, _, _, h => by omega
  | n + 1, cps, cur, hs, hn => by
    unfold lexCleanB
    split
    · rfl
    · rename_i t r c hr
      obtain ⟨⟨v, hv⟩, ⟨cps', hs', hr'⟩, heof⟩ := readToken_enc_step cps cur hs hr
      have hclean : sanitize t.value = t.value := by rw [hv]; exact sanitize_utf8Encode v
      simp only [hclean, decide_true, Bool.true_and]
      split
      · rfl
      · rename_i hfix
        have hp := readToken_progress (utf8Encode cps) cur
        rw [hr] at hp
        simp only [Step.progress] at hp
        by_cases hk : t.kind = .eof
        · -- nothing is left: the next step is the EOF fixpoint
          have hr0 := heof hk
          subst hr0
          cases n with
          | zero => omega
          | succ n =>
            unfold lexCleanB
            have : readToken [] c = .tok (Token.mk .eof [] c.endR c.endR c.line (colOf c.endR c.ls)) [] c := by
              simp [readToken, ws, readTokenBody, simpleTok, Cur.adv]
            rw [this]
            simp [sanitize_nil]
        · subst hr'
          exact lexCleanB_enc n cps' c hs' (by have := hp.2 hk; omega)

theorem lexClean_enc (cps : List Nat) (hs : AllScalar cps) (cur : Cur) : LexClean (utf8Encode cps) cur :=
  lexCleanB_sound _ _ cur (lexCleanB_enc _ cps cur hs (Nat.le_refl _))

theorem valid_source_lexClean (inp : Bytes) (h : Utf8.valid inp) (cur : Cur) : LexClean inp cur := by
  obtain ⟨cps, hs, rfl⟩ := (Utf8.valid_iff _).1 h
  exact lexClean_enc cps hs cur

theorem utf8Encode_valid (v : List Nat) : Utf8.valid (utf8Encode v) :=
  have ⟨cps, hs, e⟩ := utf8Encode_scalars v
  (Utf8.valid_iff _).2 ⟨cps, hs, e.symm⟩

theorem rawS_values_enc (cps : List Nat) (hs : AllScalar cps) (cur : Cur) :
    ∀ t ∈ (rawS (utf8Encode cps) cur).toks, ∃ v, t.value = utf8Encode v :=
  (rawS_forall (I := fun rest _ => ∃ cps, AllScalar cps ∧ rest = utf8Encode cps)
    (fun _ c _ _ _ ⟨cps, hs, e⟩ h => have h' := readToken_enc_step cps c hs (e ▸ h); ⟨h'.1, h'.2.1⟩)
    _ cur ⟨cps, hs, rfl⟩).1

theorem valid_source_token_values (inp : Bytes) (h : Utf8.valid inp) (cur : Cur) :
    ∀ t ∈ (rawS inp cur).toks, Utf8.valid t.value := by
  obtain ⟨cps, hs, rfl⟩ := (Utf8.valid_iff _).1 h
  intro t ht
  obtain ⟨v, hv⟩ := rawS_values_enc cps hs cur t ht
  rw [hv]; exact utf8Encode_valid v

end Gql.EndToEnd
