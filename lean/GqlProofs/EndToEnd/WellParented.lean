import GqlProofs.ValSpec.TypedBridge
import GqlModel.Schema.Spec
/-
  END TO END: `Spec.wellParented s d` — the one hypothesis of the typed C08 / C09 theorems that is neither an invariant
  of parser output nor of loader output — is a CONSEQUENCE of what both sides of the C08 equivalences say, on a schema
  with the loader's invariants.  `wellParented_of_spec`: the specification predicates knownRootType,
  fragmentSpreadTypeExistence, fragmentsOnCompositeTypes, fieldSelections, leafFieldSelections imply it;
  `wellParented_of_rules`: the first three and the silence of FieldsOnCorrectType and ScalarLeafs imply it.
  One top-down induction (`wp_sel` / `wp_sels`): below a parent that is a composite type of the schema (`Good`) the
  walker's typing and the declarative typing agree (`wNext_eq`, `wInline_eq`), so the local facts about a node — from the
  specification predicate on `Spec.docSels` or from the rule on its event — make the parent of its children `Good` again.
-/
namespace Gql.EndToEnd
open Gql Gql.Validate Gql.Validate.Rules

/-- what the proof needs of the schema (all of it holds of loaded schemas, `Loaded.lean`) -/
structure WPSchema (s : Schema) : Prop where
  fieldTypes : Gql.Spec.ClosedFieldTypes s
  string : ∃ dd, s.type? (str "String") = some dd ∧ dd.kind = .scalar
  unions : ∀ p ∈ s.types, p.2.kind = .union → p.2.fields = []
  roots : Gql.Spec.rootTypesAreObjects s = true

/-- the parent is a composite type of the schema (a union declaring no fields) -/
def Good (s : Schema) (p : Option Definition) : Prop :=
  ∃ q n, p = some q ∧ s.type? n = some q ∧ Spec.isComposite q = true ∧ (q.kind = .union → q.fields = [])

theorem Good.wp {s : Schema} {p : Option Definition} (h : Good s p) (y : Selection) :
    Spec.nodeWellParented ⟨p, y⟩ = true := by
  obtain ⟨q, n, rfl, _, hc, hu⟩ := h
  unfold Spec.nodeWellParented
  simp only [Bool.and_eq_true, Bool.or_eq_true, bne_iff_ne, ne_eq, List.isEmpty_iff]
  refine ⟨hc, ?_⟩
  by_cases hk : q.kind = .union
  · exact Or.inr (hu hk)
  · exact Or.inl hk

theorem good_of_type {s : Schema} (hu : ∀ p ∈ s.types, p.2.kind = .union → p.2.fields = []) {n : Name} {q : Definition}
    (hq : s.type? n = some q) (hc : Spec.isComposite q = true) : Good s (some q) :=
  ⟨q, n, rfl, hq, hc, fun hk => hu (n, q) (mem_of_lookup hq) hk⟩

/-- what is known locally of a node whose parent is `Good` -/
def LocalOK (s : Schema) (p : Option Definition) (y : Selection) : Prop :=
  match y with
  | .field _ nm _ _ sub _ => ∀ q, p = some q →
      ∃ fd, Spec.fieldDefOn q nm = some fd ∧
        (sub ≠ .nil → ∃ ft, s.type? fd.type.name = some ft ∧ Spec.isComposite ft = true)
  | .inline tc _ _ _ => tc ≠ [] → ∃ q', s.type? tc = some q' ∧ Spec.isComposite q' = true
  | .spread .. => True

section
variable (s : Schema) (d : QueryDoc) (hu : ∀ p ∈ s.types, p.2.kind = .union → p.2.fields = [])
  (Loc : ∀ p' y, InDocW s.view d p' y → (⟨p', y⟩ : Spec.TSel) ∈ Spec.docSels s d → Good s p' → LocalOK s p' y)
include hu Loc

mutual
  theorem wp_sel : ∀ (x : Selection) (p : Option Definition), Good s p →
      (∀ p' y, InSelW s.view p x p' y → InDocW s.view d p' y) →
      (∀ t ∈ Spec.typedSel s p x, t ∈ Spec.docSels s d) →
      ∀ t ∈ Spec.typedSel s p x, Spec.nodeWellParented t = true
    | .field al nm args dirs sub pos, p, hg, hW, hD, t, ht => by
      have hnode := hg.wp (.field al nm args dirs sub pos)
      rw [Spec.typedSel] at ht
      rcases List.mem_cons.1 ht with rfl | ht
      · exact hnode
      · have hloc := Loc p _ (hW _ _ (InSelW.self _ _)) (hD _ (typedSel_head s p _)) hg
        have hnext : wNext s.view p nm = Spec.fieldType s p nm := wNext_eq s p al nm args dirs sub pos hnode
        obtain ⟨q, n, rfl, hn, hc, hun⟩ := hg
        obtain ⟨fd, hfd, hsub⟩ := hloc q rfl
        have hne : sub ≠ .nil := by intro e; subst e; simp [Spec.typedSels] at ht
        obtain ⟨ft, hft, hcft⟩ := hsub hne
        have hft' : Spec.fieldType s (some q) nm = some ft := by simp [Spec.fieldType, hfd, hft]
        have hg' : Good s (Spec.fieldType s (some q) nm) := by rw [hft']; exact good_of_type hu hft hcft
        exact wp_sels sub _ hg'
          (fun p' y hi => hW p' y (InSelW.fieldSub _ _ _ _ _ _ _ _ _ (hnext ▸ hi)))
          (fun t ht => hD t (by simp only [Spec.typedSel, List.mem_cons]; exact Or.inr ht)) t ht
    | .spread nm dirs pos, p, hg, hW, hD, t, ht => by
      rw [Spec.typedSel] at ht
      rw [List.mem_singleton.1 ht]
      exact hg.wp _
    | .inline tc dirs sub pos, p, hg, hW, hD, t, ht => by
      have hnode := hg.wp (.inline tc dirs sub pos)
      rw [Spec.typedSel] at ht
      rcases List.mem_cons.1 ht with rfl | ht
      · exact hnode
      · have hloc := Loc p _ (hW _ _ (InSelW.self _ _)) (hD _ (typedSel_head s p _)) hg
        have hnext : wInline s.view p tc = Spec.inlineType s p tc := wInline_eq s p tc
        have hg' : Good s (Spec.inlineType s p tc) := by
          unfold Spec.inlineType
          by_cases htc : tc = []
          · simp [htc]; exact hg
          · obtain ⟨q', hq', hc'⟩ := hloc htc
            simp only [beq_iff_eq, htc, if_false]
            rw [hq']; exact good_of_type hu hq' hc'
        exact wp_sels sub _ hg'
          (fun p' y hi => hW p' y (InSelW.inlineSub _ _ _ _ _ _ _ (hnext ▸ hi)))
          (fun t ht => hD t (by simp only [Spec.typedSel, List.mem_cons]; exact Or.inr ht)) t ht
  theorem wp_sels : ∀ (xs : Selections) (p : Option Definition), Good s p →
      (∀ p' y, InSelsW s.view p xs p' y → InDocW s.view d p' y) →
      (∀ t ∈ Spec.typedSels s p xs, t ∈ Spec.docSels s d) →
      ∀ t ∈ Spec.typedSels s p xs, Spec.nodeWellParented t = true
    | .nil, p, _, _, _, t, ht => by simp [Spec.typedSels] at ht
    | .cons x rest, p, hg, hW, hD, t, ht => by
      rw [Spec.typedSels] at ht
      rcases List.mem_append.1 ht with ht | ht
      · exact wp_sel x p hg (fun p' y hi => hW p' y (InSelsW.head _ _ _ _ _ hi))
          (fun t ht => hD t (by simp only [Spec.typedSels, List.mem_append]; exact Or.inl ht)) t ht
      · exact wp_sels rest p hg (fun p' y hi => hW p' y (InSelsW.tail _ _ _ _ _ hi))
          (fun t ht => hD t (by simp only [Spec.typedSels, List.mem_append]; exact Or.inr ht)) t ht
end

theorem wellParented_of_local (hops : ∀ op ∈ d.ops, Good s (Spec.rootDef s op.op))
    (hfrags : ∀ f ∈ d.frags, Good s (s.type? f.typeCond)) : Spec.wellParented s d = true := by
  unfold Spec.wellParented
  rw [List.all_eq_true]
  intro t ht
  have ht0 := ht
  unfold Spec.docSels at ht
  rcases List.mem_append.1 ht with ht | ht
  · obtain ⟨op, hop, ht⟩ := List.mem_flatMap.1 ht
    refine wp_sels s d hu Loc op.sel _ (hops op hop) (fun p' y hi => Or.inl ⟨op, hop, ?_⟩) (fun t ht => ?_) t ht
    · rw [opRoot_def]; exact hi
    · unfold Spec.docSels
      exact List.mem_append_left _ (List.mem_flatMap.2 ⟨op, hop, ht⟩)
  · obtain ⟨f, hf, ht⟩ := List.mem_flatMap.1 ht
    refine wp_sels s d hu Loc f.sel _ (hfrags f hf) (fun p' y hi => Or.inr ⟨f, hf, hi⟩) (fun t ht => ?_) t ht
    unfold Spec.docSels
    exact List.mem_append_right _ (List.mem_flatMap.2 ⟨f, hf, ht⟩)

end

theorem isLeaf_or_isComposite {d : Definition} (h : d.kind ≠ .inputObject) :
    (Gql.Validate.Spec.isLeaf d || Gql.Validate.Spec.isComposite d) = true := by
  unfold Gql.Validate.Spec.isLeaf Gql.Validate.Spec.isComposite
  cases hk : d.kind <;> first | rfl | exact absurd hk h

/-- the type of a field defined on a type of the schema is `String` (the type of `__typename`) or a
    type of the schema of an output kind -/
theorem fieldDefOn_outputKind {s : Schema} (hft : Gql.Spec.ClosedFieldTypes s) {n : Name} {q : Definition}
    (hq : s.type? n = some q) {nm : Name} {fd : FieldDef} (hfd : Spec.fieldDefOn q nm = some fd) :
    fd.type.name = str "String" ∨ Gql.Spec.typeIs s fd.type.name Gql.Spec.isOutputKind = true := by
  unfold Spec.fieldDefOn at hfd
  split at hfd
  · split at hfd
    · cases hfd
      exact .inl rfl
    · cases hfd
  · split at hfd
    · rename_i hk
      have := hft (n, q) (mem_of_lookup hq) fd (List.mem_of_find?_eq_some hfd)
      have hpos : Gql.Spec.fieldPosition q.kind = Gql.Spec.isOutputKind := by
        simp only [Bool.or_eq_true, beq_iff_eq] at hk
        rcases hk with hk | hk <;> rw [hk] <;> rfl
      exact .inr (hpos ▸ this)
    · cases hfd

theorem field_type_resolves {s : Schema} (hft : Gql.Spec.ClosedFieldTypes s)
    (hstr : ∃ dd, s.type? (str "String") = some dd ∧ dd.kind = .scalar) {n : Name} {q : Definition}
    (hq : s.type? n = some q) {nm : Name} {fd : FieldDef} (hfd : Spec.fieldDefOn q nm = some fd) :
    ∃ ft, s.type? fd.type.name = some ft ∧ (Spec.isLeaf ft = true ∨ Spec.isComposite ft = true) := by
  rcases fieldDefOn_outputKind hft hq hfd with e | h
  · obtain ⟨dd, hdd, hk⟩ := hstr
    exact ⟨dd, by rw [e]; exact hdd, Or.inl (by simp [Spec.isLeaf, hk])⟩
  · unfold Gql.Spec.typeIs at h
    cases hl : s.types.lookup fd.type.name with
    | none => rw [hl] at h; cases h
    | some ft =>
      rw [hl] at h
      refine ⟨ft, hl, ?_⟩
      have hne : ft.kind ≠ .inputObject := by
        intro e
        simp only [e] at h
        cases h
      exact Bool.or_eq_true _ _ ▸ isLeaf_or_isComposite hne

theorem good_root {s : Schema} (S : WPSchema s) {op : Operation} (h : (Spec.rootDef s op).isSome = true) :
    Good s (Spec.rootDef s op) := by
  unfold Spec.rootDef at h ⊢
  cases hr : Spec.rootName s op with
  | none => rw [hr] at h; simp at h
  | some n =>
    rw [hr] at h
    simp only [Option.bind_some] at h ⊢
    cases hq : s.type? n with
    | none => rw [hq] at h; simp at h
    | some q =>
      have hmem : some n ∈ [s.query, s.mutation, s.subscription] := by
        unfold Spec.rootName at hr
        split at hr
        · simp [hr]
        · split at hr
          · simp [hr]
          · split at hr
            · simp [hr]
            · cases hr
      have hobj := List.all_eq_true.1 S.roots (some n) hmem
      simp only [Gql.Spec.typeIs] at hobj
      have hq' : s.types.lookup n = some q := hq
      rw [hq'] at hobj
      have hk : q.kind = .object := by simpa using hobj
      exact ⟨q, n, rfl, hq, by simp [Spec.isComposite, hk], fun hu => by rw [hk] at hu; cases hu⟩

theorem good_typeCond {s : Schema} (S : WPSchema s) {tc : Name} (h1 : (s.type? tc).isSome = true)
    (h2 : (match s.type? tc with | some t => Spec.isComposite t | none => true) = true) : Good s (s.type? tc) := by
  cases hq : s.type? tc with
  | none => rw [hq] at h1; simp at h1
  | some q =>
    rw [hq] at h2
    exact good_of_type S.unions hq h2

/-- the two derivations differ only in where the two facts about a field node below a composite parent
    come from: the field is defined on the parent, and a field of leaf type has no sub-selection -/
theorem wellParented_of_fields {s : Schema} (S : WPSchema s) (d : QueryDoc)
    (h1 : Spec.knownRootType s d = true) (h2 : Spec.fragmentSpreadTypeExistence s d = true)
    (h3 : Spec.fragmentsOnCompositeTypes s d = true)
    (hfield : ∀ (q : Definition) al nm args dirs sub pos, Good s (some q) →
      InDocW s.view d (some q) (.field al nm args dirs sub pos) →
      (⟨some q, .field al nm args dirs sub pos⟩ : Spec.TSel) ∈ Spec.docSels s d →
      ∃ fd, Spec.fieldDefOn q nm = some fd ∧
        ∀ ft, s.type? fd.type.name = some ft → Spec.isLeaf ft = true → sub = .nil) :
    Spec.wellParented s d = true := by
  unfold Spec.knownRootType at h1
  unfold Spec.fragmentSpreadTypeExistence at h2
  unfold Spec.fragmentsOnCompositeTypes at h3
  rw [List.all_eq_true] at h1 h2 h3
  refine wellParented_of_local s d S.unions ?_ (fun op hop => good_root S (h1 op hop)) (fun f hf => ?_)
  · intro p' y hin hmem hg
    obtain ⟨q, n, rfl, hq, hc, hun⟩ := hg
    cases y with
    | field al nm args dirs sub pos =>
      intro q' hq'
      cases hq'
      obtain ⟨fd, hfd, hleaf⟩ := hfield q al nm args dirs sub pos ⟨q, n, rfl, hq, hc, hun⟩ hin hmem
      refine ⟨fd, hfd, fun hne => ?_⟩
      obtain ⟨ft, hft, hlc⟩ := field_type_resolves S.fieldTypes S.string hq hfd
      exact ⟨ft, hft, hlc.resolve_left fun hl => hne (hleaf ft hft hl)⟩
    | spread nm dirs pos => trivial
    | inline tc dirs sub pos =>
      intro htc
      have hmemtc : tc ∈ Spec.typeConditions s d := by
        unfold Spec.typeConditions
        refine List.mem_append_right _ (List.mem_filterMap.2 ⟨_, hmem, ?_⟩)
        simp [htc]
      have e1 := h2 tc hmemtc
      have e2 := h3 tc hmemtc
      cases hq' : s.type? tc with
      | none => rw [hq'] at e1; simp at e1
      | some q' => rw [hq'] at e2; exact ⟨q', rfl, e2⟩
  · have hmemtc : f.typeCond ∈ Spec.typeConditions s d := by
      unfold Spec.typeConditions
      exact List.mem_append_left _ (List.mem_map_of_mem hf)
    exact good_typeCond S (h2 _ hmemtc) (h3 _ hmemtc)

theorem wellParented_of_spec {s : Schema} (S : WPSchema s) (d : QueryDoc)
    (h1 : Spec.knownRootType s d = true) (h2 : Spec.fragmentSpreadTypeExistence s d = true)
    (h3 : Spec.fragmentsOnCompositeTypes s d = true) (h4 : Spec.fieldSelections s d = true)
    (h5 : Spec.leafFieldSelections s d = true) : Spec.wellParented s d = true := by
  unfold Spec.fieldSelections at h4
  unfold Spec.leafFieldSelections at h5
  rw [List.all_eq_true] at h4 h5
  refine wellParented_of_fields S d h1 h2 h3 fun q al nm args dirs sub pos _ _ hmem => ?_
  have hfs := h4 _ hmem
  simp only at hfs
  cases hfd : Spec.fieldDefOn q nm with
  | none => rw [hfd] at hfs; simp at hfs
  | some fd =>
    refine ⟨fd, rfl, fun ft hft hl => ?_⟩
    have hlf := h5 _ hmem
    have hnt : Spec.fieldNodeType s ⟨some q, .field al nm args dirs sub pos⟩ = some ft := by
      simp [Spec.fieldNodeType, hfd, hft]
    rw [hnt] at hlf
    simp only [Spec.leafShapeOk, hl, if_true, Spec.subSelectionOf] at hlf
    cases sub with
    | nil => rfl
    | cons x r => simp [Selections.toList] at hlf

theorem wellParented_of_rules {s : Schema} (S : WPSchema s) (d : QueryDoc)
    (h1 : Spec.knownRootType s d = true) (h2 : Spec.fragmentSpreadTypeExistence s d = true)
    (h3 : Spec.fragmentsOnCompositeTypes s d = true)
    (hF : validate [fieldsOnCorrectType] s d = .ok []) (hS : validate [scalarLeafs] s d = .ok []) :
    Spec.wellParented s d = true := by
  obtain ⟨evs, hw⟩ := walkDoc_isSome s.view d
  unfold fieldsOnCorrectType at hF
  unfold scalarLeafs at hS
  rw [validate_stateless_nil s d _ _ evs hw] at hF hS
  refine wellParented_of_fields S d h1 h2 h3 fun q al nm args dirs sub pos hg hin _ => ?_
  obtain ⟨e, he, hp⟩ := walkDoc_hasW s.view d evs hw _ _ hin
  have hdef : wFieldDef (some q) nm = Spec.fieldDefOn q nm := by
    simpa using wFieldDef_eq (some q) al nm args dirs sub pos (hg.wp _)
  rw [hdef] at hp
  cases hfd : Spec.fieldDefOn q nm with
  | none =>
    rw [hfd] at hp
    have := hF e he
    simp [fieldsOnCorrectTypeStep, hp] at this
  | some fd =>
    rw [hfd] at hp
    refine ⟨fd, rfl, fun ft hft hl => ?_⟩
    have := hS e he
    have hft' : s.view.type? fd.type.name = some ft := hft
    have hleaf : isLeafType ft = true := by
      simp only [Spec.isLeaf, Bool.or_eq_true, beq_iff_eq] at hl
      simp only [isLeafType, Bool.or_eq_true, beq_iff_eq]
      exact hl.symm
    cases sub with
    | nil => rfl
    | cons x r => simp [scalarLeafsStep, hp, hft', hleaf, selEmpty] at this

#print axioms wellParented_of_spec
#print axioms wellParented_of_rules

end Gql.EndToEnd
