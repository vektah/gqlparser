import GqlProofs.EndToEnd.ParsedTop
import GqlProofs.EndToEnd.FloatLexeme
import GqlProofs.Parser.FwdTop
import GqlProofs.ValSpec.InputFields
/-
  END TO END: from the two structural invariants of parser output — `Formattable d`
  (`parsed_formattable`: lexical well-formedness) and `PrintableQuery d` (`parseQuery_printable`, restated as `C05_parse_printable`: the
  shape of the tree) — to the conditions on VALUES that the C08 theorems carry as hypotheses:
  `valuesShaped`, `leavesWellFormed`, `numLiteralsOK`.

  The specification enumerates the values of a document through its typing (`Spec.allValues`,
  `Spec.typedValueSites`: argument sites of `Spec.docSels` …); `docValues` enumerates them
  structurally, and `mem_docValues_of_allValues` connects the two.
-/
namespace Gql.EndToEnd
open Gql Gql.Parser Gql.Format Gql.Validate

/-- what the parser guarantees of one value -/
def GoodV (v : Value) : Prop := Format.valueOk v = true ∧ ValueOK v

mutual
  theorem shaped_of_ValueOK : ∀ v : Value, ValueOK v → shapedValue v = true
    | .mk k raw ch p, h => by
      cases k <;> simp only [ValueOK] at h <;> simp only [shapedValue]
      case list => exact shaped_of_ItemsOK ch h.2
      case object => exact shaped_of_FieldsOK ch h.2
      all_goals (first | (rw [h]) | (rw [h.1]))
  theorem shaped_of_ItemsOK : ∀ ch : Children, ItemsOK ch → shapedChildren ch = true
    | .nil, _ => by simp [shapedChildren]
    | .cons n v p rest, h => by
      simp only [ItemsOK] at h
      simp only [shapedChildren, Bool.and_eq_true]
      exact ⟨shaped_of_ValueOK v h.2.1, shaped_of_ItemsOK rest h.2.2⟩
  theorem shaped_of_FieldsOK : ∀ ch : Children, FieldsOK ch → shapedChildren ch = true
    | .nil, _ => by simp [shapedChildren]
    | .cons n v p rest, h => by
      simp only [FieldsOK] at h
      simp only [shapedChildren, Bool.and_eq_true]
      exact ⟨shaped_of_ValueOK v h.1, shaped_of_FieldsOK rest h.2⟩
end

theorem boolean_text {raw : Bytes} (h : ValueKind.boolean = nameValueKind raw) : raw = kwTrue ∨ raw = kwFalse := by
  unfold nameValueKind at h
  split at h
  · assumption
  · split at h <;> cases h

mutual
  theorem constErr_of_good : ∀ v : Value, Format.valueOk v = true → ValueOK v → constErr v = false
    | .mk k raw ch p, h1, h2 => by
      cases k <;> simp only [Format.valueOk] at h1 <;> simp only [ValueOK] at h2
      case int => exact constErr_of_numRaw_int raw h1 ch p
      case float => exact constErr_of_numRaw_float raw h1 ch p
      case boolean =>
        simp only [constErr]
        rcases boolean_text h2.2 with rfl | rfl <;> decide
      case list => simp only [constErr]; exact constErrs_of_items ch h1 h2.2
      case object => simp only [constErr]; exact constErrs_of_fields ch h1 h2.2
      all_goals simp only [constErr]
  theorem constErrs_of_items : ∀ ch : Children, itemsOk ch = true → ItemsOK ch → constErrs ch = false
    | .nil, _, _ => by simp [constErrs]
    | .cons n v p rest, h1, h2 => by
      simp only [itemsOk, Bool.and_eq_true] at h1
      simp only [ItemsOK] at h2
      simp only [constErrs, Bool.or_eq_false_iff]
      exact ⟨constErr_of_good v h1.1 h2.2.1, constErrs_of_items rest h1.2 h2.2.2⟩
  theorem constErrs_of_fields : ∀ ch : Children, fieldsOk ch = true → FieldsOK ch → constErrs ch = false
    | .nil, _, _ => by simp [constErrs]
    | .cons n v p rest, h1, h2 => by
      simp only [fieldsOk, Bool.and_eq_true] at h1
      simp only [FieldsOK] at h2
      simp only [constErrs, Bool.or_eq_false_iff]
      exact ⟨constErr_of_good v h1.1.2 h2.1, constErrs_of_fields rest h1.2 h2.2⟩
end

/-- the test `numLiteralsLexemes` makes on every sub-value -/
def numLexB (w : Value) : Bool :=
  match w.kind with
  | .int => intText w.raw
  | .float => floatErr w.raw == !Spec.floatLitFinite w.raw
  | _ => true

mutual
  theorem numLex_sub : ∀ v : Value, Format.valueOk v = true → ValueOK v → ∀ w ∈ subValues v, numLexB w = true
    | .mk k raw ch p, h1, h2, w, hw => by
      cases k <;> simp only [Format.valueOk] at h1 <;> simp only [ValueOK] at h2 <;>
        simp only [subValues, List.nil_append, List.mem_singleton, List.mem_append] at hw
      case int => subst hw; simp only [numLexB, Value.kind, Value.raw]; exact intText_of_numRaw raw h1
      case float =>
        subst hw; simp only [numLexB, Value.kind, Value.raw]
        rw [float_lexeme_agree raw (floatText_of_numRaw raw h1)]; simp
      case list =>
        rcases hw with hw | hw
        · exact numLex_items ch h1 h2.2 w hw
        · subst hw; simp [numLexB, Value.kind]
      case object =>
        rcases hw with hw | hw
        · exact numLex_fields ch h1 h2.2 w hw
        · subst hw; simp [numLexB, Value.kind]
      all_goals (subst hw; simp [numLexB, Value.kind])
  theorem numLex_items : ∀ ch : Children, itemsOk ch = true → ItemsOK ch → ∀ w ∈ childValues ch, numLexB w = true
    | .nil, _, _, w, hw => by simp [childValues] at hw
    | .cons n v p rest, h1, h2, w, hw => by
      simp only [itemsOk, Bool.and_eq_true] at h1
      simp only [ItemsOK] at h2
      simp only [childValues, List.mem_append] at hw
      rcases hw with hw | hw
      · exact numLex_sub v h1.1 h2.2.1 w hw
      · exact numLex_items rest h1.2 h2.2.2 w hw
  theorem numLex_fields : ∀ ch : Children, fieldsOk ch = true → FieldsOK ch → ∀ w ∈ childValues ch, numLexB w = true
    | .nil, _, _, w, hw => by simp [childValues] at hw
    | .cons n v p rest, h1, h2, w, hw => by
      simp only [fieldsOk, Bool.and_eq_true] at h1
      simp only [FieldsOK] at h2
      simp only [childValues, List.mem_append] at hw
      rcases hw with hw | hw
      · exact numLex_sub v h1.1.2 h2.1 w hw
      · exact numLex_fields rest h1.2 h2.2 w hw
end

def argsValues (as : List Argument) : List Value := as.map (·.value)
def dirsValues (ds : List Directive) : List Value := ds.flatMap fun d => argsValues d.args

mutual
  def selValues : Selection → List Value
    | .field _ _ args ds sub _ => argsValues args ++ dirsValues ds ++ selsValues sub
    | .spread _ ds _ => dirsValues ds
    | .inline _ ds sub _ => dirsValues ds ++ selsValues sub
  def selsValues : Selections → List Value
    | .nil => []
    | .cons s rest => selValues s ++ selsValues rest
end

def varDefValues (v : VarDef) : List Value := v.default.toList ++ dirsValues v.dirs
def opValues (o : OperationDef) : List Value := o.vars.flatMap varDefValues ++ dirsValues o.dirs ++ selsValues o.sel
def fragValues (f : FragmentDef) : List Value := f.vars.flatMap varDefValues ++ dirsValues f.dirs ++ selsValues f.sel
def docValues (d : QueryDoc) : List Value := d.ops.flatMap opValues ++ d.frags.flatMap fragValues

/-- the values written at one selection node (not below it) -/
def nodeValues : Selection → List Value
  | .field _ _ args ds _ _ => argsValues args ++ dirsValues ds
  | .spread _ ds _ => dirsValues ds
  | .inline _ ds _ _ => dirsValues ds

mutual
  theorem nodeValues_sub_sel (s : Schema) : ∀ (x : Selection) (p : Option Definition), ∀ t ∈ Spec.typedSel s p x,
      ∀ v ∈ nodeValues t.sel, v ∈ selValues x
    | .field al nm args dirs sub pos, p, t, ht, v, hv => by
      rw [Spec.typedSel] at ht
      rw [selValues]
      rcases List.mem_cons.1 ht with rfl | ht
      · exact List.mem_append_left _ hv
      · exact List.mem_append_right _ (nodeValues_sub_sels s sub _ t ht v hv)
    | .spread nm dirs pos, p, t, ht, v, hv => by
      rw [Spec.typedSel] at ht
      rw [List.mem_singleton.1 ht] at hv
      exact hv
    | .inline tc dirs sub pos, p, t, ht, v, hv => by
      rw [Spec.typedSel] at ht
      rw [selValues]
      rcases List.mem_cons.1 ht with rfl | ht
      · exact List.mem_append_left _ hv
      · exact List.mem_append_right _ (nodeValues_sub_sels s sub _ t ht v hv)
  theorem nodeValues_sub_sels (s : Schema) : ∀ (xs : Selections) (p : Option Definition), ∀ t ∈ Spec.typedSels s p xs,
      ∀ v ∈ nodeValues t.sel, v ∈ selsValues xs
    | .nil, p, t, ht, _, _ => by simp [Spec.typedSels] at ht
    | .cons x rest, p, t, ht, v, hv => by
      rw [Spec.typedSels] at ht
      rw [selsValues]
      rcases List.mem_append.1 ht with ht | ht
      · exact List.mem_append_left _ (nodeValues_sub_sel s x p t ht v hv)
      · exact List.mem_append_right _ (nodeValues_sub_sels s rest p t ht v hv)
end

theorem nodeValues_sub_doc (s : Schema) (d : QueryDoc) (t : Spec.TSel) (ht : t ∈ Spec.docSels s d)
    (v : Value) (hv : v ∈ nodeValues t.sel) : v ∈ docValues d := by
  unfold Spec.docSels at ht
  unfold docValues
  rcases List.mem_append.1 ht with ht | ht
  · obtain ⟨op, hop, ht⟩ := List.mem_flatMap.1 ht
    exact List.mem_append_left _ (List.mem_flatMap.2 ⟨op, hop,
      List.mem_append_right _ (nodeValues_sub_sels s op.sel _ t ht v hv)⟩)
  · obtain ⟨f, hf, ht⟩ := List.mem_flatMap.1 ht
    exact List.mem_append_right _ (List.mem_flatMap.2 ⟨f, hf,
      List.mem_append_right _ (nodeValues_sub_sels s f.sel _ t ht v hv)⟩)

theorem mem_dirsValues {ds : List Directive} {dir : Directive} (hd : dir ∈ ds) {a : Argument} (ha : a ∈ dir.args) :
    a.value ∈ dirsValues ds :=
  List.mem_flatMap.2 ⟨dir, hd, List.mem_map_of_mem ha⟩

theorem selDirs_sub_nodeValues (y : Selection) {dir : Directive} (hd : dir ∈ Spec.selDirs y) {a : Argument}
    (ha : a ∈ dir.args) : a.value ∈ nodeValues y := by
  cases y with
  | field al nm args ds sub p => exact List.mem_append_right _ (mem_dirsValues hd ha)
  | spread nm ds p => exact mem_dirsValues hd ha
  | inline tc ds sub p => exact mem_dirsValues hd ha

theorem directive_values_sub_doc (s : Schema) (d : QueryDoc) (dir : Directive) (hdir : dir ∈ Spec.allDirectives s d)
    (a : Argument) (ha : a ∈ dir.args) : a.value ∈ docValues d := by
  unfold Spec.allDirectives at hdir
  obtain ⟨site, hsite, hd⟩ := List.mem_flatMap.1 hdir
  unfold Spec.directiveSites at hsite
  rcases List.mem_append.1 hsite with hsite | hsite
  · rcases List.mem_append.1 hsite with hsite | hsite
    · obtain ⟨op, hop, hs⟩ := List.mem_flatMap.1 hsite
      refine List.mem_append_left _ (List.mem_flatMap.2 ⟨op, hop, ?_⟩)
      rcases List.mem_cons.1 hs with rfl | hs
      · exact List.mem_append_left _ (List.mem_append_right _ (mem_dirsValues hd ha))
      · obtain ⟨vd, hvd, rfl⟩ := List.mem_map.1 hs
        exact List.mem_append_left _ (List.mem_append_left _ (List.mem_flatMap.2 ⟨vd, hvd,
          List.mem_append_right _ (mem_dirsValues hd ha)⟩))
    · obtain ⟨f, hf, rfl⟩ := List.mem_map.1 hsite
      exact List.mem_append_right _ (List.mem_flatMap.2 ⟨f, hf,
        List.mem_append_left _ (List.mem_append_right _ (mem_dirsValues hd ha))⟩)
  · obtain ⟨t, ht, rfl⟩ := List.mem_map.1 hsite
    exact nodeValues_sub_doc s d t ht _ (selDirs_sub_nodeValues t.sel hd ha)

theorem mem_docValues_of_allValues (s : Schema) (d : QueryDoc) (v : Value) (hv : v ∈ Spec.allValues s d) :
    v ∈ docValues d := by
  rcases (mem_allValues_iff s d v).1 hv with ⟨site, hsite, a, ha, rfl⟩ | ⟨op, hop, vd, hvd, hdv⟩
  · rcases mem_argSites_iff.1 hsite with ⟨par, al, nm, args, ds, sub, p, ht, rfl⟩ | ⟨dir, hdir, rfl⟩
    · exact nodeValues_sub_doc s d _ ht _ (List.mem_append_left _ (List.mem_map_of_mem ha))
    · exact directive_values_sub_doc s d dir hdir a ha
  · refine List.mem_append_left _ (List.mem_flatMap.2 ⟨op, hop, ?_⟩)
    refine List.mem_append_left _ (List.mem_append_left _ (List.mem_flatMap.2 ⟨vd, hvd, ?_⟩))
    exact List.mem_append_left _ (by rw [hdv]; simp)

theorem typedValueSites_sub_allValues (s : Schema) (d : QueryDoc) (tv : GType × Value)
    (h : tv ∈ Spec.typedValueSites s d) : tv.2 ∈ Spec.allValues s d := by
  unfold Spec.typedValueSites at h
  unfold Spec.allValues
  rcases List.mem_append.1 h with h | h
  · obtain ⟨site, hsite, h⟩ := List.mem_flatMap.1 h
    refine List.mem_append_left _ (List.mem_flatMap.2 ⟨site, hsite, ?_⟩)
    cases hd : site.defs with
    | none => rw [hd] at h; cases h
    | some defs =>
      rw [hd] at h
      simp only [List.mem_filterMap, Option.map_eq_some_iff] at h
      obtain ⟨a, ha, ad, _, rfl⟩ := h
      exact List.mem_map_of_mem ha
  · obtain ⟨op, hop, h⟩ := List.mem_flatMap.1 h
    refine List.mem_append_right _ (List.mem_flatMap.2 ⟨op, hop, ?_⟩)
    simp only [List.mem_filterMap, Option.map_eq_some_iff] at h ⊢
    obtain ⟨vd, hvd, dv, hdv, rfl⟩ := h
    exact ⟨vd, hvd, hdv⟩

theorem good_args {as : List Argument} (h1 : as.all argOk = true) (h2 : ArgsOK as) : ∀ v ∈ argsValues as, GoodV v := by
  intro v hv
  obtain ⟨a, ha, rfl⟩ := List.mem_map.1 hv
  have := List.all_eq_true.1 h1 a ha
  simp only [argOk, Bool.and_eq_true] at this
  exact ⟨this.2, h2 a ha⟩

theorem good_dirs {ds : List Directive} (h1 : ds.all dirOk = true) (h2 : DirsOK ds) : ∀ v ∈ dirsValues ds, GoodV v := by
  intro v hv
  obtain ⟨dir, hd, hv⟩ := List.mem_flatMap.1 hv
  have := List.all_eq_true.1 h1 dir hd
  simp only [dirOk, Bool.and_eq_true] at this
  exact good_args this.2 (h2 dir hd) v hv

mutual
  theorem good_sel : ∀ x : Selection, selOk x = true → SelOK x → ∀ v ∈ selValues x, GoodV v
    | .field al nm args ds sub p, h1, h2, v, hv => by
      simp only [selOk, Bool.and_eq_true] at h1
      simp only [SelOK] at h2
      rw [selValues] at hv
      rcases List.mem_append.1 hv with hv | hv
      · rcases List.mem_append.1 hv with hv | hv
        · exact good_args h1.1.1.2 h2.1 v hv
        · exact good_dirs h1.1.2 h2.2.1 v hv
      · exact good_sels sub h1.2 h2.2.2 v hv
    | .spread nm ds p, h1, h2, v, hv => by
      simp only [selOk, Bool.and_eq_true] at h1
      simp only [SelOK] at h2
      rw [selValues] at hv
      exact good_dirs h1.2 h2 v hv
    | .inline tc ds sub p, h1, h2, v, hv => by
      simp only [selOk, Bool.and_eq_true] at h1
      simp only [SelOK] at h2
      rw [selValues] at hv
      rcases List.mem_append.1 hv with hv | hv
      · exact good_dirs h1.1.1.2 h2.1 v hv
      · exact good_sels sub h1.2 h2.2 v hv
  theorem good_sels : ∀ xs : Selections, selsOk xs = true → SelsOK xs → ∀ v ∈ selsValues xs, GoodV v
    | .nil, _, _, v, hv => by simp [selsValues] at hv
    | .cons x rest, h1, h2, v, hv => by
      simp only [selsOk, Bool.and_eq_true] at h1
      simp only [SelsOK] at h2
      rw [selsValues] at hv
      rcases List.mem_append.1 hv with hv | hv
      · exact good_sel x h1.1 h2.1 v hv
      · exact good_sels rest h1.2 h2.2 v hv
end

theorem good_varDefs {vs : List VarDef} (h1 : vs.all varDefOk = true) (h2 : ∀ v ∈ vs, VarDefOK v) :
    ∀ v ∈ vs.flatMap varDefValues, GoodV v := by
  intro v hv
  obtain ⟨vd, hvd, hv⟩ := List.mem_flatMap.1 hv
  have h1' := List.all_eq_true.1 h1 vd hvd
  simp only [varDefOk, Bool.and_eq_true] at h1'
  have h2' := h2 vd hvd
  unfold varDefValues at hv
  rcases List.mem_append.1 hv with hv | hv
  · cases hdv : vd.default with
    | none => rw [hdv] at hv; simp at hv
    | some dv =>
      rw [hdv] at hv
      simp only [Option.toList, List.mem_singleton] at hv
      subst hv
      have := h1'.1.2
      rw [hdv] at this
      exact ⟨this, h2'.1 _ hdv⟩
  · exact good_dirs h1'.2 h2'.2 v hv

theorem good_docValues (d : QueryDoc) (hf : Formattable d) (hp : PrintableQuery d) : ∀ v ∈ docValues d, GoodV v := by
  intro v hv
  obtain ⟨hfo, hff⟩ := formattable_iff.1 hf
  unfold docValues at hv
  rcases List.mem_append.1 hv with hv | hv
  · obtain ⟨o, ho, hv⟩ := List.mem_flatMap.1 hv
    have h1 := hfo o ho
    simp only [opOk, Bool.and_eq_true] at h1
    obtain ⟨_, k1, k2, k3⟩ := hp.1 o ho
    unfold opValues at hv
    rcases List.mem_append.1 hv with hv | hv
    · rcases List.mem_append.1 hv with hv | hv
      · exact good_varDefs h1.1.1.1.2 k1 v hv
      · exact good_dirs h1.1.1.2 k2 v hv
    · exact good_sels o.sel h1.2 k3 v hv
  · obtain ⟨f, hf', hv⟩ := List.mem_flatMap.1 hv
    have h1 := hff f hf'
    simp only [fragOk, Bool.and_eq_true] at h1
    obtain ⟨_, k1, k2, k3⟩ := hp.2.1 f hf'
    unfold fragValues at hv
    rcases List.mem_append.1 hv with hv | hv
    · rcases List.mem_append.1 hv with hv | hv
      · exact good_varDefs h1.1.1.1.1.2 k1 v hv
      · exact good_dirs h1.1.1.2 k2 v hv
    · exact good_sels f.sel h1.2 k3 v hv

section
variable (s : Schema) (d : QueryDoc) (hf : Formattable d) (hp : PrintableQuery d)
include hf hp

theorem good_allValues : ∀ v ∈ Spec.allValues s d, GoodV v := fun v hv =>
  good_docValues d hf hp v (mem_docValues_of_allValues s d v hv)

theorem valuesShaped_of_good : valuesShaped s d = true := by
  unfold valuesShaped
  rw [List.all_eq_true]
  intro v hv
  exact shaped_of_ValueOK v (good_allValues s d hf hp v hv).2

theorem leavesWellFormed_of_good : leavesWellFormed s d = true := by
  unfold leavesWellFormed
  rw [List.all_eq_true]
  intro v hv
  obtain ⟨h1, h2⟩ := good_allValues s d hf hp v hv
  simp [constErr_of_good v h1 h2]

theorem numLiteralsLexemes_of_good : numLiteralsLexemes s d = true := by
  unfold numLiteralsLexemes
  rw [List.all_eq_true]
  intro tv htv
  obtain ⟨h1, h2⟩ := good_allValues s d hf hp tv.2 (typedValueSites_sub_allValues s d tv htv)
  rw [List.all_eq_true]
  intro w hw
  exact numLex_sub tv.2 h1 h2 w hw

theorem numLiteralsOK_of_good : numLiteralsOK s d = true :=
  numLiteralsOK_of_lexemes s d (numLiteralsLexemes_of_good s d hf hp)

end

end Gql.EndToEnd
