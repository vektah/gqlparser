import GqlProofs.EndToEnd.DocPositions
import GqlProofs.Validate.OverlapIds
import GqlProofs.EndToEnd.ParsedTop
/-
  END TO END: node identity of SELECTION nodes.  A second traversal of the query parser model in the program logic of
  `Parser/Spec.lean`: the start offsets a parsed subtree records for its selection nodes (`nodeStarts`: a field records
  the offset of its first name token, a fragment spread that of the fragment name, an inline fragment that of the token
  after `...`) form a SUBLIST of the start offsets of the consumed tokens, in order.  The significant tokens of a source
  start at strictly increasing offsets, hence the selection nodes of a parsed document start at pairwise different
  offsets (`parsed_nodeStarts_nodup`), and in particular so do the first nodes of its selection sets:
  `parsed_setStartsNodup`, the node identity assumption `SetStartsNodup` of the OverlappingFieldsCanBeMerged model.
-/
namespace Gql.EndToEnd
open Gql Gql.Lexer Gql.Parser Gql.Format Gql.Validate

mutual
  def nodeStartsSel : Selection → List Nat
    | .field _ _ _ _ sub p => p.start :: nodeStarts sub
    | .spread _ _ p => [p.start]
    | .inline _ _ sub p => p.start :: nodeStarts sub
  def nodeStarts : Selections → List Nat
    | .nil => []
    | .cons x rest => nodeStartsSel x ++ nodeStarts rest
end

def nodeStartsDoc (d : QueryDoc) : List Nat :=
  d.ops.flatMap (fun op => nodeStarts op.sel) ++ d.frags.flatMap (fun f => nodeStarts f.sel)

mutual
  theorem selStarts_sub : ∀ x : Selection, (x.pos.start :: innerStartsSel x).Sublist (nodeStartsSel x)
    | .field _ _ _ _ sub _ => by
      simp only [innerStartsSel, nodeStartsSel, Selection.pos]
      exact List.Sublist.cons_cons _ (setStarts_sub sub)
    | .spread _ _ _ => by simp [innerStartsSel, nodeStartsSel, Selection.pos]
    | .inline _ _ sub _ => by
      simp only [innerStartsSel, nodeStartsSel, Selection.pos]
      exact List.Sublist.cons_cons _ (setStarts_sub sub)
  theorem setStarts_sub : ∀ sels : Selections, (setStarts sels).Sublist (nodeStarts sels)
    | .nil => by simp [setStarts, nodeStarts]
    | .cons x rest => by
      rw [setStarts, nodeStarts, ← List.cons_append]
      exact (selStarts_sub x).append (innerStarts_sub rest)
  theorem innerStarts_sub : ∀ sels : Selections, (innerStarts sels).Sublist (nodeStarts sels)
    | .nil => by simp [innerStarts, nodeStarts]
    | .cons x rest => by
      rw [innerStarts, nodeStarts]
      exact ((List.sublist_cons_self _ _).trans (selStarts_sub x)).append (innerStarts_sub rest)
end

theorem setStartsNodup_of_nodeStarts {d : QueryDoc} (h : (nodeStartsDoc d).Nodup) : SetStartsNodup d := by
  unfold SetStartsNodup
  refine h.sublist ?_
  unfold nodeStartsDoc
  exact List.Sublist.append (flatMap_sublist (fun op => setStarts_sub op.sel) d.ops)
    (flatMap_sublist (fun f => setStarts_sub f.sel) d.frags)

theorem starts_append (u v : List Token) : starts (u ++ v) = starts u ++ starts v := by
  unfold starts; rw [List.map_append]

theorem sub_tail {ps : List Nat} {u : List Token} (h : ps.Sublist (starts u.tail)) : ps.Sublist (starts u) := by
  cases u with
  | nil => exact h
  | cons t r => exact List.Sublist.cons _ h

theorem sub_right {ps : List Nat} {v : List Token} (u : List Token) (h : ps.Sublist (starts v)) :
    ps.Sublist (starts (u ++ v)) := by
  rw [starts_append]; exact h.trans (List.sublist_append_right _ _)

theorem sub_cons {ps : List Nat} {u : List Token} (t : Token) (h : ps.Sublist (starts u)) :
    (t.start :: ps).Sublist (starts (t :: u)) :=
  List.Sublist.cons_cons _ h

/-- the start of the first consumed token in front of offsets recorded behind the first token of the
    second part -/
theorem head_cons_sub {ps : List Nat} {u2 : List Token} (h : ps.Sublist (starts u2.tail)) (hne : u2 ≠ []) :
    ∀ u1 : List Token, ∃ hd r, u1 ++ u2 = hd :: r ∧ (hd.start :: ps).Sublist (starts (u1 ++ u2))
  | [] => by
    cases u2 with
    | nil => exact absurd rfl hne
    | cons t r => exact ⟨t, r, rfl, sub_cons t h⟩
  | t :: r1 => ⟨t, r1 ++ u2, rfl, sub_cons t (sub_right r1 (sub_tail h))⟩

theorem many_sub {α : Type} {P : α → List Token → Prop} {ps : α → List Nat}
    (hP : ∀ x u, P x u → (ps x).Sublist (starts u)) {xs : List α} {mid : List Token}
    (h : Many P xs mid) : (xs.flatMap ps).Sublist (starts mid) := by
  induction h with
  | nil => simp
  | @cons x xs u us hx _ ih =>
    rw [List.flatMap_cons, starts_append]
    exact List.Sublist.append (hP _ _ hx) ih

def QSel (x : Selection) (u : List Token) : Prop := (nodeStartsSel x).Sublist (starts u)

/-- a bracketed selection set: the recorded offsets lie behind the opening brace -/
def QSelSet (ss : Selections) (u : List Token) : Prop := u ≠ [] ∧ (nodeStarts ss).Sublist (starts u.tail)

theorem nodeStarts_ofList : ∀ xs : List Selection, nodeStarts (Selections.ofList xs) = xs.flatMap nodeStartsSel
  | [] => by simp [Selections.ofList, nodeStarts]
  | s :: rest => by simp [Selections.ofList, nodeStarts, nodeStarts_ofList rest]

theorem f_optSelSet {sel : Prog Selection} (hsel : Spec sel (Eats QSel)) (n : Nat) :
    Spec (parseOptionalSelectionSetWith sel n) (fun ss a a' => a.σ.head.kind = .braceL → Eats QSelSet ss a a') := by
  unfold parseOptionalSelectionSetWith
  refine (Spec.bind (spec_pSome .braceL .braceR (by decide) (by decide) (by decide) (by decide) n hsel)
    fun xs => Spec.pure (Selections.ofList xs)).mono ?_
  rintro ss a a'' _ ⟨xs, a1, ⟨⟨_, hk', _⟩ | ⟨_, u, hu, t1, mid, t2, rfl, _, _, _, _, hm⟩, _⟩, rfl, rfl⟩ hk
  · exact absurd hk hk'
  · refine ⟨_, hu, by simp, ?_⟩
    rw [nodeStarts_ofList]
    exact (many_sub (fun _ _ h => h) hm).trans (by simp [starts])

theorem f_reqSelSet {sel : Prog Selection} (hsel : Spec sel (Eats QSel)) (n : Nat) :
    Spec (parseRequiredSelectionSetWith sel n) (Eats QSelSet) := by
  unfold parseRequiredSelectionSetWith
  exact Spec.peek fun t => Spec.ite_same
    (fun _ => Spec.bind_dead spec_peek fun _ => Spec.bind_dead spec_peek fun _ => Spec.of_dead_bind (failAt_dead _ _))
    (fun hk => (f_optSelSet hsel n).mono fun _ _ _ _ h _ hh => h (by simpa [hh] using hk))

theorem f_fieldTail {sel : Prog Selection} (hsel : Spec sel (Eats QSel)) (n : Nat) (pos : Pos) (al nm : Name) :
    Spec (fieldTail sel n pos al nm) (Eats fun s u => ∃ args ds ss, s = .field al nm args ds ss pos ∧
      (nodeStarts ss).Sublist (starts u)) := by
  unfold fieldTail
  refine Spec.seq (e_parseArguments n false) fun args u1 _ => Spec.seq (e_parseDirectives n false) fun dirs u2 _ =>
    Spec.peek fun t => Spec.ite_same
      (fun hk => (Spec.bind (f_optSelSet hsel n) fun ss => Spec.pure _).mono ?_)
      (fun _ => Spec.forget <| Spec.pure_bind <| Spec.ret _ ⟨args, dirs, .nil, rfl, by simp [nodeStarts]⟩)
  rintro s a a' _ ⟨ss, a1, hss, rfl, rfl⟩ _ hh
  obtain ⟨u3, h3, _, q⟩ := hss (hh ▸ hk)
  exact ⟨u3, h3, args, dirs, ss, rfl, sub_right u1 (sub_right u2 (sub_tail q))⟩

theorem f_parseFieldWith {sel : Prog Selection} (hsel : Spec sel (Eats QSel)) (n : Nat) :
    Spec (parseFieldWith sel n) (Eats QSel) := by
  rw [parseFieldWith_eq]
  exact Spec.peekPos fun pos => Spec.seq spec_parseName' fun al _ ⟨t1, h1, _⟩ => Spec.seq (e_opt .colon) fun
    | true, u0, _ => Spec.seq spec_parseName' fun nm u2 _ => Spec.last (f_fieldTail hsel n pos al nm)
        fun _ _ ⟨args, ds, ss, e, q⟩ hpos => by
          subst e h1
          simp only [QSel, nodeStartsSel, hpos _ _ rfl]
          exact sub_cons t1 (sub_right u0 (sub_right u2 q))
    | false, u0, _ => Spec.last (f_fieldTail hsel n pos al al) fun _ _ ⟨args, ds, ss, e, q⟩ hpos => by
        subst e h1
        simp only [QSel, nodeStartsSel, hpos _ _ rfl]
        exact sub_cons t1 (sub_right u0 q)

theorem f_inlineTail {sel : Prog Selection} (hsel : Spec sel (Eats QSel)) (n : Nat) (pos : Pos) (tc : Name) :
    Spec (inlineTail sel n pos tc) (Eats fun s u => ∃ ds ss, s = .inline tc ds ss pos ∧
      ∃ hd r, u = hd :: r ∧ (hd.start :: nodeStarts ss).Sublist (starts u)) := by
  unfold inlineTail
  exact Spec.seq (e_parseDirectives n false) fun dirs u1 _ => e_ret (f_reqSelSet hsel n)
    fun ss _ p2 => ⟨dirs, ss, rfl, head_cons_sub p2.2 p2.1 u1⟩

theorem f_parseFragmentWith {sel : Prog Selection} (hsel : Spec sel (Eats QSel)) (n : Nat) :
    Spec (parseFragmentWith sel n) (Eats QSel) := by
  rw [parseFragmentWith_eq]
  exact Spec.seq (e_punct .spread) fun _ u1 _ => Spec.peek fun pk => Spec.ite_same
    (fun _ => Spec.forget <| Spec.peekPos fun pos => Spec.seq e_parseFragmentName fun name _ ⟨t2, h2, _⟩ =>
      e_ret (e_parseDirectives n false) fun dirs u3 _ hpos => by
        subst h2
        simp only [QSel, nodeStartsSel, hpos _ _ rfl]
        exact sub_right u1 (sub_cons t2 (List.nil_sublist _)))
    (fun _ => Spec.forget <| Spec.peekPos fun pos => Spec.peek fun t => Spec.ite_same
      (fun hk => Spec.next_peeked (by rw [hk.1]; decide) (by rw [hk.1]; decide) fun _ =>
        Spec.seq spec_parseName' fun tc u2 _ => Spec.last (f_inlineTail hsel n pos tc)
          fun _ _ ⟨ds, ss, e, hd, r, hu, q⟩ _ _ hpos => by
            subst e
            simp only [QSel, nodeStartsSel, hpos _ _ rfl]
            exact sub_right u1 (sub_cons t (sub_right u2 ((List.sublist_cons_self _ _).trans q))))
      (fun _ => Spec.forget <| Spec.last (f_inlineTail hsel n pos []) fun _ _ ⟨ds, ss, e, hd, r, hu, q⟩ hpos => by
        subst e
        simp only [QSel, nodeStartsSel, hpos _ _ hu]
        exact sub_right u1 q))

theorem f_parseSelection : ∀ n, Spec (parseSelection n) (Eats QSel)
  | 0 => Spec.of_dead (outOfFuel_dead _)
  | n + 1 => by
    unfold parseSelection
    exact Spec.seq0 spec_peek_eats fun t => Spec.ite_same (fun _ => f_parseFragmentWith (f_parseSelection n) (n + 1))
      (fun _ => f_parseFieldWith (f_parseSelection n) (n + 1))

theorem f_parseRequiredSelectionSet (n : Nat) : Spec (parseRequiredSelectionSet n) (Eats QSelSet) :=
  f_reqSelSet (f_parseSelection n) n

def QOp (o : OperationDef) (u : List Token) : Prop := (nodeStarts o.sel).Sublist (starts u)

theorem f_opTail (n : Nat) (pos : Pos) (op : Operation) (name : Name) : Spec (opTail n pos op name) (Eats QOp) := by
  unfold opTail
  exact Spec.seq (e_parseVariableDefinitions n) fun vars u1 _ => Spec.seq (e_parseDirectives n false) fun dirs u2 _ =>
    e_ret (f_parseRequiredSelectionSet n) fun ss _ p3 => sub_right u1 (sub_right u2 (sub_tail p3.2))

theorem f_parseOperationDefinition (n : Nat) : Spec (parseOperationDefinition n) (Eats QOp) := by
  rw [parseOperationDefinition_eq]
  exact Spec.peek fun t => Spec.ite_same
    (fun _ => Spec.forget <| Spec.seq0 spec_peekPos_eats fun pos => e_ret (f_parseRequiredSelectionSet n)
      fun ss _ p => sub_tail p.2)
    (fun _ => Spec.forget <| e_opType fun pos op => Spec.last
      (show Spec _ (Eats QOp) from Spec.peek fun t2 => Spec.ite_same
        (fun hk => Spec.next_peeked (by rw [hk]; decide) (by rw [hk]; decide) fun tn =>
          Spec.last (f_opTail n pos op tn.value) fun _ _ q _ _ => sub_right [t2] q)
        (fun _ => Spec.forget (f_opTail n pos op [])))
      fun _ _ q _ t => sub_right [t] q)

def QFrag (f : FragmentDef) (u : List Token) : Prop := (nodeStarts f.sel).Sublist (starts u)

theorem f_parseFragmentDefinition (n : Nat) : Spec (parseFragmentDefinition n) (Eats QFrag) := by
  unfold parseFragmentDefinition
  exact Spec.seq0 spec_peekPos_eats fun pos => Spec.seq (spec_expectKeyword kwFragment) fun _ u1 _ =>
    Spec.seq e_parseFragmentName fun name u2 _ => Spec.seq (e_parseVariableDefinitions n) fun vars u3 _ =>
    Spec.seq (spec_expectKeyword kwOn) fun _ u4 _ => Spec.seq spec_parseName' fun tc u5 _ =>
    Spec.seq (e_parseDirectives n false) fun dirs u6 _ => e_ret (f_parseRequiredSelectionSet n) fun ss _ p7 =>
      sub_right u1 (sub_right u2 (sub_right u3 (sub_right u4 (sub_right u5 (sub_right u6 (sub_tail p7.2))))))

def nodeStartsDef : Def → List Nat
  | .inl o => nodeStarts o.sel
  | .inr f => nodeStarts f.sel

def QDef (d : Def) (u : List Token) : Prop := (nodeStartsDef d).Sublist (starts u)

def DocRelQ (doc : QueryDoc) : QueryDoc → AS → AS → Prop := fun d a a' =>
  ∃ defs used, Ate a a' used ∧ a'.pk = true ∧ a'.σ.head.kind = .eof ∧
    d.ops = doc.ops ++ opsOf defs ∧ d.frags = doc.frags ++ fragsOf defs ∧ Many QDef defs used

theorem DocRelQ.peeked {doc d : QueryDoc} {a a' : AS} (h : DocRelQ doc d { a with pk := true } a') : DocRelQ doc d a a' := by
  obtain ⟨defs, used, g1, g⟩ := h
  exact ⟨defs, used, by simpa using (Ate.peeked a).trans g1, g⟩

theorem parsed_nodeStarts_nodup0 (inp : Bytes) (doc : QueryDoc) (h : parseQuery 0 inp = .ok doc) :
    (nodeStartsDoc doc).Nodup := by
  obtain ⟨⟨defs, hops, hfrags, hm⟩, _⟩ := parseQuery_defs (PD := QDef) f_parseOperationDefinition f_parseFragmentDefinition h
  unfold nodeStartsDoc
  rw [hops, hfrags, (defs_perm (f := fun op => nodeStarts op.sel) (g := fun f => nodeStarts f.sel) (h := nodeStartsDef)
    (fun _ => rfl) (fun _ => rfl) defs).nodup_iff]
  exact (sig_toks_start_nodup inp Cur.init).sublist (many_sub (fun _ _ h => h) hm)

theorem parsed_nodeStarts_nodup {L : Nat} {inp : Bytes} {d : QueryDoc} (h : parseQuery L inp = .ok d) :
    (nodeStartsDoc d).Nodup :=
  parsed_nodeStarts_nodup0 inp d (parseQuery_zero h)

theorem parsed_setStartsNodup {L : Nat} {inp : Bytes} {d : QueryDoc} (h : parseQuery L inp = .ok d) :
    SetStartsNodup d :=
  setStartsNodup_of_nodeStarts (parsed_nodeStarts_nodup h)

#print axioms parsed_setStartsNodup

end Gql.EndToEnd
