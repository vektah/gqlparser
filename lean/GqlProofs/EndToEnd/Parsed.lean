import GqlProofs.EndToEnd.DocPositions
import GqlProofs.EndToEnd.DocValues
import GqlProofs.Parser.RetQuery
import GqlProofs.ValSpec.VarPosition
/-
  END TO END: every parser-shape hypothesis of the C08 / C09 / C12 theorems as a theorem
  `parsed_<condition> : parseQuery L inp = .ok d → <condition> d` (any token limit `L`, any source
  bytes `inp`; the schema `s`, where a condition mentions one, is arbitrary).
-/
namespace Gql.EndToEnd
open Gql Gql.Parser Gql.Format Gql.Validate

section
variable {L : Nat} {inp : Bytes} {d : QueryDoc} (h : parseQuery L inp = .ok d)
include h

theorem parsed_printable : PrintableQuery d := parseQuery_printable inp d (parseQuery_zero h)

theorem parsed_kinds : ∀ op ∈ d.ops, op.op ∈ parserOpKinds := by
  intro op hop
  have := ((parsed_printable h).1 op hop).1.1
  unfold parserOpKinds opQuery opMutation opSubscription
  rcases this with e | e | e <;> simp [e]

theorem parsed_valuesShaped (s : Schema) : valuesShaped s d = true :=
  valuesShaped_of_good s d (parsed_formattable L inp d h) (parsed_printable h)

theorem parsed_leavesWellFormed (s : Schema) : leavesWellFormed s d = true :=
  leavesWellFormed_of_good s d (parsed_formattable L inp d h) (parsed_printable h)

theorem parsed_numLiteralsLexemes (s : Schema) : numLiteralsLexemes s d = true :=
  numLiteralsLexemes_of_good s d (parsed_formattable L inp d h) (parsed_printable h)

theorem parsed_numLiteralsOK (s : Schema) : numLiteralsOK s d = true :=
  numLiteralsOK_of_good s d (parsed_formattable L inp d h) (parsed_printable h)

theorem parsed_usePosDistinct (s : Schema) : usePosDistinct s d = true :=
  usePosDistinct_of_nodup s d (parsed_posDoc_nodup L inp d h)

theorem parsed_fragPosDistinct : FragPosDistinct d :=
  fragPosDistinct_of_nodup d (parsed_posDoc_nodup L inp d h)

end

mutual
  theorem varNames_of_const : ∀ v : Value, Print.ConstValue v → varNamesV v = []
    | .mk k raw ch p, hc => by
      simp only [Print.ConstValue] at hc
      unfold varNamesV
      cases k <;> simp only []
      · exact absurd rfl hc.1
      · exact varNamesCh_of_const ch hc.2
      · exact varNamesCh_of_const ch hc.2
  theorem varNamesCh_of_const : ∀ ch : Children, Print.ConstChildren ch → varNamesCh ch = []
    | .nil, _ => by simp [varNamesCh]
    | .cons n v p rest, hc => by
      simp only [Print.ConstChildren] at hc
      simp only [varNamesCh, varNames_of_const v hc.1, varNamesCh_of_const rest hc.2, List.append_nil]
end

theorem isNameB_ne_nil {n : Bytes} (h : isNameB n = true) : n ≠ [] := by
  intro e; subst e; simp [isNameB] at h

theorem typeOk_name_ne_nil : ∀ ty : GType, typeOk ty = true → ty.name ≠ []
  | .named n _ _, h => by simp only [typeOk] at h; exact isNameB_ne_nil h
  | .list e _ _, h => by simp only [typeOk] at h; exact typeOk_name_ne_nil e h

section
variable {L : Nat} {inp : Bytes} {d : QueryDoc} (h : parseQuery L inp = .ok d)
include h

theorem parsed_constDefaults : constDefaults d = true := by
  unfold constDefaults
  rw [List.all_eq_true]
  intro op hop
  rw [List.all_eq_true]
  intro v hv
  have hwf := ((parsed_printable h).1 op hop).1.2.1 v hv
  cases hd : v.default with
  | none => rfl
  | some dv => simp [varNames_of_const dv (hwf.1 dv hd)]

theorem parsed_variableTypesNamed : variableTypesNamed d = true := by
  unfold variableTypesNamed
  rw [List.all_eq_true]
  intro op hop
  rw [List.all_eq_true]
  intro v hv
  have h1 := (formattable_iff.1 (parsed_formattable L inp d h)).1 op hop
  simp only [opOk, Bool.and_eq_true] at h1
  have h2 := List.all_eq_true.1 h1.1.1.1.2 v hv
  simp only [varDefOk, Bool.and_eq_true] at h2
  simpa using typeOk_name_ne_nil v.type h2.1.1.2

theorem parsed_typeConds : ∀ f ∈ d.frags, f.typeCond ≠ [] := by
  intro f hf'
  have h1 := (formattable_iff.1 (parsed_formattable L inp d h)).2 f hf'
  simp only [fragOk, Bool.and_eq_true] at h1
  exact isNameB_ne_nil h1.1.1.1.2

end

#print axioms parsed_kinds
#print axioms parsed_valuesShaped
#print axioms parsed_leavesWellFormed
#print axioms parsed_numLiteralsOK
#print axioms parsed_usePosDistinct
#print axioms parsed_fragPosDistinct
#print axioms parsed_constDefaults
#print axioms parsed_variableTypesNamed
#print axioms parsed_typeConds

end Gql.EndToEnd
