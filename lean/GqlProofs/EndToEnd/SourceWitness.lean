import GqlProofs.EndToEnd.Loaded
import GqlProofs.EndToEnd.Parsed
set_option linter.unusedSimpArgs false
set_option linter.unusedVariables false
/-
  END TO END: a kernel-checked witness over SOURCE TEXTS.  A (minimal) prelude source and a
  schema source are lexed, parsed, merged and loaded, five request sources are lexed and parsed, and
  the verdicts of the specification and of the validator are computed — all by ONE evaluation in the
  kernel (`check_true`).  `C08.lean` uses it to show that the hypotheses of the final statement of C08
  are satisfiable together (with both sides true and with both sides false) and that each of the two
  residual hypotheses is needed.
-/
namespace Gql.EndToEnd.SourceWitness
open Gql Gql.Lexer Gql.Parser Gql.Load Gql.Validate Gql.Validate.Rules

/-- a minimal prelude: the five built-in scalars, the four built-in directives, the eight introspection types -/
def preludeText : String :=
  "scalar Int scalar Float scalar String scalar Boolean scalar ID directive @include(if: Boolean!) on FIELD directive @skip(if: Boolean!) on FIELD directive @deprecated(reason: String) on ENUM_VALUE directive @specifiedBy(url: String!) on SCALAR type __Schema { types: [__Type!]! } type __Type { kind: __TypeKind! name: String } type __Field { name: String! } type __InputValue { name: String! } type __EnumValue { name: String! } type __Directive { name: String! locations: [__DirectiveLocation!]! } enum __TypeKind { SCALAR } enum __DirectiveLocation { QUERY }"

def schemaText : String :=
  "schema { query: Q subscription: S } interface I { a: Int } type S implements I { a: Int } type O implements I { a: Int } type Q { a: Int f(x: Int): Int g(r: Int! = 5): Int }"

/-- the prelude (`BuiltIn`) and the user's schema source -/
def srcs : List (Bool × Bytes) := [(true, str preludeText), (false, str schemaText)]

/-- valid on both sides -/
def qGood : Bytes := str "query($v: Int) { f(x: $v) ...F } fragment F on Q { a }"
/-- invalid on both sides (`$w` is not defined, `$v` is not used) -/
def qBad : Bytes := str "query($v: Int) { f(x: $w) ...F } fragment F on Q { a }"
/-- a subscription with one root field: valid on both sides -/
def qSubOne : Bytes := str "subscription { ... on I { a } }"
/-- a subscription that collects NO root field (`O` does not apply to the root type `S`): the 27 rules
    report nothing, §5.2.3.1 demands exactly one entry -/
def qSubZero : Bytes := str "subscription { ... on I { ... on O { a } } }"
/-- the recorded finding about VariablesInAllowedPosition: a nullable variable at a non-null location
    WITH a default value — the specification allows it, the rule reports it -/
def qLocDefault : Bytes := str "query($v: Int) { g(r: $v) }"

/-- what holds of the value of a parse result is decided by looking at the result -/
instance {α : Type} (r : Result α) (p : α → Prop) [DecidablePred p] : Decidable (∃ a, r = .ok a ∧ p a) :=
  match r with
  | .ok a => decidable_of_iff (p a) ⟨fun h => ⟨a, rfl, h⟩, fun ⟨_, e, h⟩ => by cases e; exact h⟩
  | .error _ => isFalse fun ⟨_, e, _⟩ => by cases e
  | .outOfFuel => isFalse fun ⟨_, e, _⟩ => by cases e

instance (sd : SchemaDoc) (n : Name) (k : DefKind) : Decidable (DeclaresKind sd n k) := by
  unfold DeclaresKind; infer_instance

/-- `PreludeDeclared` as a test the kernel can run: `check_true` runs it on the minimal prelude above, and
    `EndToEnd/Prelude.lean` (which imports this file) on the text of the real prelude -/
def preludeDeclaredB (sd : SchemaDoc) : Bool :=
  decide (∀ n ∈ Gql.Spec.builtinScalars, DeclaresKind sd n .scalar) &&
  decide (∀ p ∈ Gql.Spec.introspectionTypes, DeclaresKind sd p.1 p.2) &&
  decide (∀ n ∈ Gql.Spec.builtinDirectives, ∃ dd ∈ sd.directives, dd.name = n)

theorem preludeDeclared_of_B {sd : SchemaDoc} (h : preludeDeclaredB sd = true) : PreludeDeclared sd := by
  unfold preludeDeclaredB at h
  simp only [Bool.and_eq_true, decide_eq_true_eq] at h
  exact ⟨h.1.1, h.1.2, h.2⟩

/-- every default rule, run alone, reports nothing -/
def silent (s : Schema) (d : QueryDoc) : Bool := defaultRules.all fun r => decide (validate [r] s d = .ok [])

/-- what is computed about one request: `subscriptionsSelectRoot`, `defaultedLocationsHarmless`,
    `Spec.specValid`, VariablesInAllowedPosition silent -/
def verdict (s : Schema) (d : QueryDoc) : Bool × Bool × Bool × Bool :=
  (subscriptionsSelectRoot s d, defaultedLocationsHarmless s d, Spec.specValid s d,
    decide (validate [variablesInAllowedPosition] s d = .ok []))

/-- the five requests parse, with these verdicts -/
def Requests (s : Schema) (good bad subOne subZero locDefault : Bytes) : Prop :=
  (∃ d, parseQuery 0 good = .ok d ∧ verdict s d = (true, true, true, true)) ∧
  (∃ d, parseQuery 0 bad = .ok d ∧ verdict s d = (true, true, false, true)) ∧
  (∃ d, parseQuery 0 subOne = .ok d ∧ verdict s d = (true, true, true, true)) ∧
  (∃ d, parseQuery 0 subZero = .ok d ∧ verdict s d = (false, true, false, true) ∧ silent s d = true) ∧
  (∃ d, parseQuery 0 locDefault = .ok d ∧ verdict s d = (true, false, true, false))

instance (s : Schema) (good bad subOne subZero locDefault : Bytes) :
    Decidable (Requests s good bad subOne subZero locDefault) := by
  unfold Requests; infer_instance

-- `preludeText` has more characters than the default depth allows for the list of them
set_option maxRecDepth 100000 in
theorem check_true :
    (∀ src ∈ srcs, (Utf8.decode src.2).isSome = true) ∧
    ∃ sd, parseSchemas 0 srcs = .ok sd ∧ preludeDeclaredB sd = true ∧
    ∃ s, load sd = .ok s ∧ Requests s qGood qBad qSubOne qSubZero qLocDefault := by
  rw [srcs, str_lit preludeText.eq_1, str_lit schemaText.eq_1, qGood.eq_1.trans (str_lit rfl),
    qBad.eq_1.trans (str_lit rfl), qSubOne.eq_1.trans (str_lit rfl), qSubZero.eq_1.trans (str_lit rfl),
    qLocDefault.eq_1.trans (str_lit rfl)]
  decide +kernel

#print axioms check_true


end Gql.EndToEnd.SourceWitness
