import GqlModel.Validate.Rules
/-
  OverlappingFieldsCanBeMerged: what `sameArguments` / `sameValue` decide, as a small inductive
  specification of "identical arguments" (DESIGN C08, reading choice (i): syntactic identity of the
  literals, kinds included; the order of arguments and of the fields of an input object is not
  significant, the order of list items is).

  `ValSame`   two literals are the same: equal kind and raw text, and
              - object literals: equally many fields, and every field of the first has a field of
                that name in the second (`findChild`: the first one of that name — THE one when
                names are unique, which UniqueInputFieldNames demands) with the same value;
              - every other kind: the children (list items; none for scalars) are pairwise the
                same, in order.
  `ArgsSame`  equally many arguments, and every argument of the first list has an argument of the
              same name and the same value in the second.

  `sameValue_iff` / `sameArguments_iff`: the Go functions decide exactly these relations, so the
  "they have differing arguments" branch fires iff `¬ ArgsSame`.  `ValSame_refl`: a literal whose
  object literals have pairwise distinct field names is the same as itself — on documents that
  pass UniqueInputFieldNames two textually identical fields are never reported.
-/
namespace Gql.Validate
open Gql Gql.Validate.Rules

mutual
  inductive ValSame : Value → Value → Prop
    | object {r : Bytes} {c1 c2 : Children} {p1 p2 : Pos} :
        c1.length = c2.length → FieldsSame c1 c2 → ValSame (.mk .object r c1 p1) (.mk .object r c2 p2)
    | other {k : ValueKind} {r : Bytes} {c1 c2 : Children} {p1 p2 : Pos} :
        k ≠ .object → ItemsSame c1 c2 → ValSame (.mk k r c1 p1) (.mk k r c2 p2)
  /-- same length, pairwise the same, in order (names are not looked at: list items have none) -/
  inductive ItemsSame : Children → Children → Prop
    | nil : ItemsSame .nil .nil
    | cons {n1 n2 : Name} {v1 v2 : Value} {p1 p2 : Pos} {r1 r2 : Children} :
        ValSame v1 v2 → ItemsSame r1 r2 → ItemsSame (.cons n1 v1 p1 r1) (.cons n2 v2 p2 r2)
  inductive FieldsSame : Children → Children → Prop
    | nil {c2 : Children} : FieldsSame .nil c2
    | cons {n1 : Name} {v1 v2 : Value} {p1 : Pos} {r1 c2 : Children} :
        findChild c2 n1 = some v2 → ValSame v1 v2 → FieldsSame r1 c2 → FieldsSame (.cons n1 v1 p1 r1) c2
end

def ArgsSame (as bs : List Argument) : Prop :=
  as.length = bs.length ∧ ∀ a ∈ as, ∃ b ∈ bs, a.name = b.name ∧ ValSame a.value b.value

theorem childrenTail_length : ∀ c : Children, (childrenTail c).length = c.length - 1
  | .nil => rfl
  | .cons _ _ _ rest => by simp [childrenTail, Children.length]

mutual
  theorem sameValue_iff : ∀ (v1 v2 : Value), sameValue v1 v2 = true ↔ ValSame v1 v2
    | .mk k1 r1 c1 p1, .mk k2 r2 c2 p2 => by
      unfold sameValue
      simp only [Value.kind, Value.raw, Value.children, Bool.and_eq_true, beq_iff_eq]
      constructor
      · rintro ⟨⟨⟨rfl, rfl⟩, hl⟩, hc⟩
        by_cases hobj : k1 = .object
        · subst hobj
          exact .object hl ((sameChildren_fields c1 c2 c2).1 hc)
        · rw [beq_false_of_ne hobj] at hc
          exact .other hobj ((sameChildren_items c1 c2 c2).1 ⟨hc, hl⟩)
      · intro h
        cases h with
        | object hl hf => exact ⟨⟨⟨rfl, rfl⟩, hl⟩, (sameChildren_fields c1 c2 c2).2 hf⟩
        | other hk hi =>
          rw [beq_false_of_ne hk]
          have h2 := (sameChildren_items c1 c2 c2).2 hi
          exact ⟨⟨⟨rfl, rfl⟩, h2.2⟩, h2.1⟩
  -- Lean does not try all the argument combinations of a block like this one by itself
  termination_by structural v1 => v1
  theorem sameChildren_items : ∀ (c1 r2 all2 : Children),
      (sameChildren false c1 r2 all2 = true ∧ c1.length = r2.length) ↔ ItemsSame c1 r2
    | .nil, r2, all2 => by
      constructor
      · rintro ⟨_, hl⟩
        cases r2 with
        | nil => exact .nil
        | cons _ _ _ _ => cases hl
      · intro h
        cases h
        exact ⟨rfl, rfl⟩
    | .cons n1 v1 p1 rest1, r2, all2 => by
      constructor
      · rintro ⟨hs, hl⟩
        cases r2 with
        | nil => cases hl
        | cons n2 v2 p2 rest2 =>
          simp only [sameChildren, Bool.false_eq_true, if_false, Bool.and_eq_true, childrenTail] at hs
          exact .cons ((sameValue_iff v1 v2).1 hs.1) ((sameChildren_items rest1 rest2 all2).1 ⟨hs.2, Nat.succ.inj hl⟩)
      · intro h
        cases h with
        | cons hv hr =>
          have h2 := (sameChildren_items rest1 _ all2).2 hr
          simp only [sameChildren, Bool.false_eq_true, if_false, Bool.and_eq_true, childrenTail]
          exact ⟨⟨(sameValue_iff v1 _).2 hv, h2.1⟩, congrArg (· + 1) h2.2⟩
  theorem sameChildren_fields : ∀ (c1 r2 all2 : Children),
      sameChildren true c1 r2 all2 = true ↔ FieldsSame c1 all2
    | .nil, r2, all2 => ⟨fun _ => .nil, fun _ => rfl⟩
    | .cons n1 v1 p1 rest1, r2, all2 => by
      simp only [sameChildren, if_true, Bool.and_eq_true]
      constructor
      · intro hs
        cases hf : findChild all2 n1 with
        | none => rw [hf] at hs; cases hs.1
        | some v2 =>
          rw [hf] at hs
          exact .cons hf ((sameValue_iff v1 v2).1 hs.1) ((sameChildren_fields rest1 _ all2).1 hs.2)
      · intro h
        cases h with
        | cons hf hv hr =>
          rw [hf]
          exact ⟨(sameValue_iff v1 _).2 hv, (sameChildren_fields rest1 _ all2).2 hr⟩
end

theorem sameArguments_iff (as bs : List Argument) : sameArguments as bs = true ↔ ArgsSame as bs := by
  unfold sameArguments ArgsSame
  simp only [Bool.and_eq_true, beq_iff_eq, List.all_eq_true, List.any_eq_true, sameValue_iff]


def childNames : Children → List Name
  | .nil => []
  | .cons n _ _ rest => n :: childNames rest

inductive InChildren (n : Name) (v : Value) : Children → Prop
  | head {p : Pos} {rest : Children} : InChildren n v (.cons n v p rest)
  | tail {n' : Name} {v' : Value} {p : Pos} {rest : Children} : InChildren n v rest → InChildren n v (.cons n' v' p rest)

mutual
  /-- every object literal inside the value has pairwise distinct field names (UniqueInputFieldNames) -/
  inductive UniqueFields : Value → Prop
    | mk {k : ValueKind} {r : Bytes} {c : Children} {p : Pos} :
        (k = .object → (childNames c).Nodup) → UniqueFieldsCh c → UniqueFields (.mk k r c p)
  inductive UniqueFieldsCh : Children → Prop
    | nil : UniqueFieldsCh .nil
    | cons {n : Name} {v : Value} {p : Pos} {rest : Children} :
        UniqueFields v → UniqueFieldsCh rest → UniqueFieldsCh (.cons n v p rest)
end

theorem inChildren_name {n : Name} {v : Value} : ∀ {c : Children}, InChildren n v c → n ∈ childNames c
  | _, .head => List.mem_cons_self ..
  | _, .tail h => List.mem_cons_of_mem _ (inChildren_name h)

theorem findChild_of_nodup {n : Name} {v : Value} : ∀ {c : Children}, (childNames c).Nodup → InChildren n v c →
    findChild c n = some v
  | _, _, .head => by simp [findChild]
  | .cons n' v' p rest, hnd, .tail h => by
    simp only [childNames, List.nodup_cons] at hnd
    have hne : n' ≠ n := fun e => hnd.1 (e ▸ inChildren_name h)
    have : (n' == n) = false := by simpa using hne
    simp only [findChild, this]
    exact findChild_of_nodup hnd.2 h

mutual
  theorem ValSame_refl : ∀ (v : Value), UniqueFields v → ValSame v v
    | .mk k r c p, h => by
      cases h with
      | mk hk hc =>
        by_cases hobj : k = .object
        · subst hobj
          exact .object rfl (FieldsSame_refl c c hc (fun n v hin => findChild_of_nodup (hk rfl) hin))
        · exact .other hobj (ItemsSame_refl c hc)
  theorem ItemsSame_refl : ∀ (c : Children), UniqueFieldsCh c → ItemsSame c c
    | .nil, _ => .nil
    | .cons n v p rest, h => by
      cases h with
      | cons hv hr => exact .cons (ValSame_refl v hv) (ItemsSame_refl rest hr)
  theorem FieldsSame_refl : ∀ (c all : Children), UniqueFieldsCh c →
      (∀ n v, InChildren n v c → findChild all n = some v) → FieldsSame c all
    | .nil, _, _, _ => .nil
    | .cons n v p rest, all, h, hin => by
      cases h with
      | cons hv hr =>
        exact .cons (hin n v .head) (ValSame_refl v hv) (FieldsSame_refl rest all hr (fun n' v' h' => hin n' v' (.tail h')))
end

theorem ArgsSame_refl (as : List Argument) (h : ∀ a ∈ as, UniqueFields a.value) : ArgsSame as as :=
  ⟨rfl, fun a ha => ⟨a, ha, rfl, ValSame_refl a.value (h a ha)⟩⟩


mutual
  /-- the literal without its positions (what two occurrences of the same text have in common) -/
  def eraseV : Value → Value
    | .mk k r c _ => .mk k r (eraseC c) Pos.zero
  def eraseC : Children → Children
    | .nil => .nil
    | .cons n v _ rest => .cons n (eraseV v) Pos.zero (eraseC rest)
end

theorem eraseC_length : ∀ c : Children, (eraseC c).length = c.length
  | .nil => rfl
  | .cons _ _ _ rest => by simp [eraseC, Children.length, eraseC_length rest]

theorem findChild_erase (n : Name) : ∀ c : Children, findChild (eraseC c) n = (findChild c n).map eraseV
  | .nil => rfl
  | .cons n' v p rest => by
    simp only [eraseC, findChild]
    split
    · rfl
    · exact findChild_erase n rest

theorem childrenTail_erase : ∀ c : Children, childrenTail (eraseC c) = eraseC (childrenTail c)
  | .nil => rfl
  | .cons _ _ _ _ => rfl

mutual
  theorem sameValue_erase : ∀ (v1 v2 : Value), sameValue (eraseV v1) (eraseV v2) = sameValue v1 v2
    | .mk k1 r1 c1 p1, .mk k2 r2 c2 p2 => by
      simp only [eraseV, sameValue, Value.kind, Value.raw, Value.children, eraseC_length,
        sameChildren_erase (k1 == .object) c1 c2 c2]
  theorem sameChildren_erase (obj : Bool) : ∀ (c1 r2 all2 : Children),
      sameChildren obj (eraseC c1) (eraseC r2) (eraseC all2) = sameChildren obj c1 r2 all2
    | .nil, _, _ => by simp [eraseC, sameChildren]
    | .cons n1 v1 p1 rest1, r2, all2 => by
      simp only [eraseC, sameChildren, childrenTail_erase, sameChildren_erase obj rest1 (childrenTail r2) all2]
      congr 1
      cases obj with
      | true =>
        simp only [if_true, findChild_erase]
        cases findChild all2 n1 with
        | none => rfl
        | some v2 => exact sameValue_erase v1 v2
      | false =>
        simp only [Bool.false_eq_true, if_false]
        cases r2 with
        | nil => rfl
        | cons n2 v2 p2 rest2 => exact sameValue_erase v1 v2
end

theorem sameValue_of_erase_eq (v1 v2 : Value) (hu : UniqueFields v1) (he : eraseV v1 = eraseV v2) :
    sameValue v1 v2 = true := by
  rw [← sameValue_erase, ← he, sameValue_erase]
  exact (sameValue_iff v1 v1).2 (ValSame_refl v1 hu)

end Gql.Validate
