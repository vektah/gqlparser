import GqlProofs.Validate.OverlapSwap
import GqlProofs.Validate.OverlapProps
import GqlProofs.Validate.OverlapSilent
/-
  OverlappingFieldsCanBeMerged: the MEMOS.  In a document without fragment cycles a silent observer
  call refutes `TopHolds` although `comparedFragmentPairs` (global) and
  `comparedFieldsAndFragmentPairs` (per call) suppress repeated comparisons.

  Invariant: every memo key stands for a comparison that found nothing — its judgment is refuted —
  except the keys whose expansion is under way.  Keys are ranked (`rkN`: the number of fragment
  definitions reachable); every comparison made during the expansion of a key has a strictly
  smaller rank, so an expansion never looks up a key that is under way: the invariant is stated
  "for the keys of rank below ρ" (`memoFrame ρ`) and an expansion of rank `r` runs in the frame `r`.

  `overlapRun_memo` is the statement for one observer call, `overlap_silent_iff` the one for the
  whole run (an instance of `silent_iff_noTop`).
-/
namespace Gql.Validate
open Gql Gql.Validate.Rules

def rkS (d : QueryDoc) (sels : Selections) : Nat := rkN d (Spec.spreadsOfSels sels)
def rkSp (d : QueryDoc) (sp : SpreadNode) : Nat := rkN d (Spec.fragSpreads d sp.name)

section
variable (s : Schema) (d : QueryDoc)

def PairsI (ρ : Nat) (P : Pairs) : Prop :=
  ∀ a b ex, DSpread d a → DSpread d b → rkSp d a + rkSp d b < ρ → P.has a.name b.name ex = true →
    ¬ Holds (envOf s d (fullLinks d)) (.check ex a b)

def SeenI (ρ : Nat) (S : List FragKey) : Prop :=
  ∀ t ∈ Spec.docSets s d, ∀ sp ex, DSpread d sp → rkS d t.sels + rkSp d sp < ρ →
    (selId t.sels, sp.name, ex) ∈ S → ¬ Holds (envOf s d (fullLinks d)) (.chain ex t.parent t.sels sp)

/-- new keys of the fragment-pair memo have rank below `ρ` and are refuted -/
def PairsT (ρ : Nat) (P P' : Pairs) : Prop :=
  ∀ a b ex, DSpread d a → DSpread d b → P'.has a.name b.name ex = true →
    P.has a.name b.name ex = true ∨
      (rkSp d a + rkSp d b < ρ ∧ ¬ Holds (envOf s d (fullLinks d)) (.check ex a b))

def SeenT (ρ : Nat) (S S' : List FragKey) : Prop :=
  ∀ t ∈ Spec.docSets s d, ∀ sp ex, DSpread d sp → (selId t.sels, sp.name, ex) ∈ S' →
    (selId t.sels, sp.name, ex) ∈ S ∨
      (rkS d t.sels + rkSp d sp < ρ ∧ ¬ Holds (envOf s d (fullLinks d)) (.chain ex t.parent t.sels sp))

def memoFrame (ρ : Nat) : TFrame :=
  { I := fun st => PairsI s d ρ st.pairs ∧ SeenI s d ρ st.seen
    T := fun st st' => PairsT s d ρ st.pairs st'.pairs ∧ SeenT s d ρ st.seen st'.seen
    refl := fun _ => ⟨fun _ _ _ _ _ h => Or.inl h, fun _ _ _ _ _ h => Or.inl h⟩
    trans := fun {a b c} h1 h2 =>
      ⟨fun x y ex hx hy h => by
          rcases h2.1 x y ex hx hy h with h | h
          · exact h1.1 x y ex hx hy h
          · exact Or.inr h,
       fun t ht sp ex hsp h => by
          rcases h2.2 t ht sp ex hsp h with h | h
          · exact h1.2 t ht sp ex hsp h
          · exact Or.inr h⟩
    tick := fun _ h => ⟨h, ⟨fun _ _ _ _ _ h => Or.inl h, fun _ _ _ _ _ h => Or.inl h⟩⟩ }

variable {s d}

theorem memo_I_of_T {ρ : Nat} {st st' : OSt} (hI : (memoFrame s d ρ).I st) (hT : (memoFrame s d ρ).T st st') :
    (memoFrame s d ρ).I st' := by
  constructor
  · intro a b ex ha hb hr hh
    rcases hT.1 a b ex ha hb hh with h | h
    · exact hI.1 a b ex ha hb hr h
    · exact h.2
  · intro t ht sp ex hsp hr hm
    rcases hT.2 t ht sp ex hsp hm with h | h
    · exact hI.2 t ht sp ex hsp hr h
    · exact h.2

theorem memo_I_weaken {ρ r : Nat} (hle : r ≤ ρ) {st : OSt} (hI : (memoFrame s d ρ).I st) : (memoFrame s d r).I st :=
  ⟨fun a b ex ha hb hr hh => hI.1 a b ex ha hb (by omega) hh,
   fun t ht sp ex hsp hr hm => hI.2 t ht sp ex hsp (by omega) hm⟩

theorem memo_T_weaken {ρ r : Nat} (hle : r ≤ ρ) {st st' : OSt} (hT : (memoFrame s d r).T st st') :
    (memoFrame s d ρ).T st st' :=
  ⟨fun a b ex ha hb hh => by
      rcases hT.1 a b ex ha hb hh with h | h
      · exact Or.inl h
      · exact Or.inr ⟨by omega, h.2⟩,
   fun t ht sp ex hsp hm => by
      rcases hT.2 t ht sp ex hsp hm with h | h
      · exact Or.inl h
      · exact Or.inr ⟨by omega, h.2⟩⟩

end

/-- what the memo argument needs of the document -/
structure MemoHyps (s : Schema) (d : QueryDoc) : Prop where
  H : OvHyps s d
  acyclic : Acyclic d
  /-- KnownFragmentNames -/
  defined : ∀ sp, DSpread d sp → ∃ F, fragForName d sp.name = some F
  /-- node identity: a selection set is identified by its first selection node -/
  ids : ∀ t ∈ Spec.docSets s d, ∀ t' ∈ Spec.docSets s d, selId t.sels = selId t'.sels → t.sels ≠ .nil → t = t'
  sym : ArgsSym s d

theorem rkS_sub {sv : SV} {l : Links} {d : QueryDoc} {sels : Selections} {p : Option Definition} {a : FInfo}
    (ha : a ∈ collectFields sv l p sels) : rkS d a.node.sel ≤ rkS d sels :=
  rkN_mono_sub (collectFields_spreads sv l sels p a ha)

theorem rkSp_lt {d : QueryDoc} (hac : Acyclic d) {sels : Selections} {sp : SpreadNode} (hsp : sp ∈ collectSpreads sels)
    {F : FragmentDef} (hF : fragForName d sp.name = some F) : rkSp d sp + 1 ≤ rkS d sels :=
  rkN_strict hac (Reach.base (collectSpreads_names sels sp hsp)) hF

/-- the fragment of the spread is defined (`MemoHyps.defined`), so the ranks differ -/
theorem MemoHyps.rkSp_lt {s : Schema} {d : QueryDoc} (M : MemoHyps s d) {sels : Selections} {sp : SpreadNode}
    (hd : DSpread d sp) (hsp : sp ∈ collectSpreads sels) : rkSp d sp + 1 ≤ rkS d sels := by
  obtain ⟨F, hF⟩ := M.defined sp hd
  exact Gql.Validate.rkSp_lt M.acyclic hsp hF

theorem rkSp_eq {d : QueryDoc} {sp : SpreadNode} {F : FragmentDef} (hF : fragForName d sp.name = some F) :
    rkSp d sp = rkS d F.sel := by
  unfold rkSp rkS
  rw [fragSpreads_of_forName hF]

theorem selId_nil_iff (sels : Selections) : selId sels = none ↔ sels = .nil := by
  cases sels <;> simp [selId]


section
variable {s : Schema} {d : QueryDoc} (M : MemoHyps s d)
include M

/-- two keys of the (selection set, fragment) memo that coincide stand for the same comparison -/
theorem chain_key_lift {t t' : Spec.TSet} (ht : t ∈ Spec.docSets s d) (ht' : t' ∈ Spec.docSets s d) {sp sp' : SpreadNode}
    (hsp : DSpread d sp) (hsp' : DSpread d sp') (ex : Bool) (hid : selId t'.sels = selId t.sels) (hn : sp'.name = sp.name) :
    (rkS d t'.sels = rkS d t.sels ∧ rkSp d sp' = rkSp d sp) ∧
      (¬ Holds (envOf s d (fullLinks d)) (.chain ex t.parent t.sels sp) →
        ¬ Holds (envOf s d (fullLinks d)) (.chain ex t'.parent t'.sels sp')) := by
  have hr : rkSp d sp' = rkSp d sp := by unfold rkSp; rw [hn]
  by_cases hnil : t.sels = .nil
  · have hnil' : t'.sels = .nil := by
      rw [← selId_nil_iff, hid, selId_nil_iff]
      exact hnil
    refine ⟨⟨by rw [hnil, hnil'], hr⟩, fun _ => ?_⟩
    rw [hnil']
    exact not_holds_chain_nil
  · have e := M.ids t ht t' ht' hid.symm hnil
    subst e
    exact ⟨⟨rfl, hr⟩, fun hc hh => hc (holds_chain_rename hh hsp' hsp hn.symm)⟩

/-- the frame in which the expansion of a (selection set, fragment) key runs -/
theorem chain_start {ρ : Nat} {st0 : OSt} {t : Spec.TSet} (ht : t ∈ Spec.docSets s d) {sp : SpreadNode} (hsp : DSpread d sp)
    (excl : Bool) (hr : rkS d t.sels + rkSp d sp < ρ) (hI : (memoFrame s d ρ).I st0) :
    (memoFrame s d (rkS d t.sels + rkSp d sp)).I
      { st0 with seen := (selId t.sels, sp.name, excl) :: st0.seen } := by
  refine ⟨fun a b ex ha hb hr' hh => hI.1 a b ex ha hb (by omega) hh, ?_⟩
  intro t' ht' sp' ex hsp' hr' hm
  rcases List.mem_cons.1 hm with hm | hm
  · injection hm with h1 h2
    injection h2 with h2 h3
    have := (chain_key_lift M ht ht' hsp hsp' ex h1 h2).1
    omega
  · exact hI.2 t' ht' sp' ex hsp' (by omega) hm

/-- … and what its silent end means in the frame of the caller -/
theorem chain_finish {ρ : Nat} {st0 st3 : OSt} {t : Spec.TSet} (ht : t ∈ Spec.docSets s d) {sp : SpreadNode}
    (hsp : DSpread d sp) (excl : Bool) (hr : rkS d t.sels + rkSp d sp < ρ) (hI : (memoFrame s d ρ).I st0)
    (hclean : ¬ Holds (envOf s d (fullLinks d)) (.chain excl t.parent t.sels sp))
    (hT : (memoFrame s d (rkS d t.sels + rkSp d sp)).T { st0 with seen := (selId t.sels, sp.name, excl) :: st0.seen } st3) :
    (memoFrame s d ρ).I st3 ∧ (memoFrame s d ρ).T st0 st3 := by
  have hW := memo_T_weaken (Nat.le_of_lt hr) hT
  have hT' : (memoFrame s d ρ).T st0 st3 := by
    refine ⟨hW.1, fun t' ht' sp' ex hsp' hm => ?_⟩
    rcases hW.2 t' ht' sp' ex hsp' hm with h | h
    · rcases List.mem_cons.1 h with h | h
      · injection h with h1 h2
        injection h2 with h2 h3
        subst h3
        have := chain_key_lift M ht ht' hsp hsp' ex h1 h2
        exact Or.inr ⟨by omega, this.2 hclean⟩
      · exact Or.inl h
    · exact Or.inr h
  exact ⟨memo_I_of_T hI hT', hT'⟩

def PRank (s : Schema) (d : QueryDoc) (ρ : Nat) (a b : FInfo) : Prop :=
  DocF s d (fullLinks d) a ∧ DocF s d (fullLinks d) b ∧ rkS d a.node.sel + rkS d b.node.sel ≤ ρ

def FCAll (s : Schema) (d : QueryDoc) (fc : FC) : Prop :=
  ∀ ρ, FCSilent (memoFrame s d ρ) (envOf s d (fullLinks d)) fc (PRank s d ρ)

omit M in
theorem docF_spread {a : FInfo} (ha : DocF s d (fullLinks d) a) {sp : SpreadNode} (hsp : sp ∈ collectSpreads a.node.sel) :
    DSpread d sp := by
  have hin := docSels_mem_inDocSel s d _ ha.inDoc
  have hi := collectSpreads_inSels _ _ hsp
  rcases hin with ⟨op, hop, h⟩ | ⟨f, hf, h⟩
  · exact Or.inl ⟨op, hop, inSels_trans _ _ _ h (InSel.fieldSub _ _ _ _ _ _ _ hi)⟩
  · exact Or.inr ⟨f, hf, inSels_trans _ _ _ h (InSel.fieldSub _ _ _ _ _ _ _ hi)⟩

omit M in
theorem docSet_spread {t : Spec.TSet} (ht : t ∈ Spec.docSets s d) {sp : SpreadNode} (hsp : sp ∈ collectSpreads t.sels) :
    DSpread d sp := docSets_inDoc ht _ (collectSpreads_inSels _ _ hsp)

omit M in
theorem frag_spread {F : FragmentDef} (hF : F ∈ d.frags) {sp : SpreadNode} (hsp : sp ∈ collectSpreads F.sel) :
    DSpread d sp := Or.inr ⟨F, hF, collectSpreads_inSels _ _ hsp⟩

theorem chain_memo {fc : FC} (hfc : FCAll s d fc) :
    ∀ (n ρ : Nat) (excl : Bool) (t : Spec.TSet), t ∈ Spec.docSets s d → ∀ (sp : SpreadNode), DSpread d sp →
      rkS d t.sels + rkSp d sp < ρ →
      StepSilent (memoFrame s d ρ)
        (chain (envOf s d (fullLinks d)) fc excl (getFieldsAndFragmentNames s.view (fullLinks d) t.parent t.sels).1 n sp)
        (¬ Holds (envOf s d (fullLinks d)) (.chain excl t.parent t.sels sp))
  | 0, _, _, _, _, _, _, _ => by
    intro st r _ h _
    simp [chain] at h
  | n + 1, ρ, excl, t, ht, sp, hsp, hr => by
    intro st0 r hI h he
    obtain ⟨hIt, hTt⟩ := (memoFrame s d ρ).tick st0 hI
    -- the cases that record the key and stop: nothing is derivable, for the reason `hclean`
    have stop : ¬ Holds (envOf s d (fullLinks d)) (.chain excl t.parent t.sels sp) →
        (memoFrame s d ρ).I { st0.tick with seen := (selId t.sels, sp.name, excl) :: st0.seen } ∧
          (memoFrame s d ρ).T st0 { st0.tick with seen := (selId t.sels, sp.name, excl) :: st0.seen } ∧
          ¬ Holds (envOf s d (fullLinks d)) (.chain excl t.parent t.sels sp) := fun hclean =>
      have ⟨a1, a2⟩ := chain_finish M ht hsp excl hr hIt hclean ((memoFrame s d _).refl _)
      ⟨a1, (memoFrame s d ρ).trans hTt a2, hclean⟩
    rcases chain_succ_some h with ⟨hmem, rfl⟩ | ⟨_, ⟨hs, rfl⟩ | ⟨F, hs, ⟨hfirst, rfl⟩ | ⟨_, h⟩⟩⟩
    · exact ⟨hIt, hTt, hI.2 t ht sp excl hsp hr (List.contains_iff_mem.1 hmem)⟩
    · refine stop fun hh => ?_
      cases hh with
      | chainHere hF => rw [hs] at hF; cases hF
      | chainNext hF => rw [hs] at hF; cases hF
    · refine stop fun hh => ?_
      cases hh with
      | chainHere hF hid => rw [hs] at hF; injection hF with hF; subst hF; exact hid hfirst
      | chainNext hF hid => rw [hs] at hF; injection hF with hF; subst hF; exact hid hfirst
    · have hFf : fragForName d sp.name = some F := spreadDef_some hs
      have hFm : F ∈ d.frags := fragForName_mem hFf
      have hrF : rkSp d sp = rkS d F.sel := rkSp_eq hFf
      -- (D), then (E), in the frame of this key
      obtain ⟨b1, b2, b3, c3⟩ := ((between_silent (hfc (rkS d t.sels + rkSp d sp)) excl
          (collectFields s.view (fullLinks d) t.parent t.sels) (fragFieldList (envOf s d (fullLinks d)) F)
          (fun a ha g hg => ⟨DocF.ofSet ht ha, DocF.ofSet (t := ⟨s.type? F.typeCond, F.sel⟩) (docSets_frag hFm) hg, by
            have h1 := rkS_sub (d := d) ha
            have h2 := rkS_sub (d := d) hg
            omega⟩)).seq
        (StepSilent.loop (P := fun sp' => ¬ Holds (envOf s d (fullLinks d)) (.chain excl t.parent t.sels sp'))
          fun sp' hsp' => by
            have hm := List.mem_filter.1 hsp'
            have hd' : DSpread d sp' := frag_spread hFm hm.1
            have hlt := M.rkSp_lt hd' hm.1
            exact chain_memo hfc n _ excl t ht sp' hd' (by omega))) _ _ (chain_start M ht hsp excl hr hIt) h he
      have hclean : ¬ Holds (envOf s d (fullLinks d)) (.chain excl t.parent t.sels sp) := by
        intro hh
        cases hh with
        | chainHere hF hid ha hg hrn hc =>
          rw [hs] at hF; injection hF with hF; subst hF
          exact b3 _ ha _ hg hrn hc
        | chainNext hF hid hx hne hc =>
          rw [hs] at hF; injection hF with hF; subst hF
          exact c3 _ (List.mem_filter.2 ⟨hx, by simpa using hne⟩) hc
      obtain ⟨a1, a2⟩ := chain_finish M ht hsp excl hr hIt hclean b2
      exact ⟨a1, (memoFrame s d ρ).trans hTt a2, hclean⟩

end


section
variable {s : Schema} {d : QueryDoc} (M : MemoHyps s d)
include M

omit M in
theorem rkSp_pair {a b x y : SpreadNode}
    (hnames : (x.name = a.name ∧ y.name = b.name) ∨ (x.name = b.name ∧ y.name = a.name)) :
    rkSp d x + rkSp d y = rkSp d a + rkSp d b := by
  unfold rkSp
  rcases hnames with ⟨n1, n2⟩ | ⟨n1, n2⟩
  · rw [n1, n2]
  · rw [n1, n2]; omega

/-- what recording the pair `(a, b, e)` claims about every key that `Has` answers with it -/
theorem check_key_clean {a b x y : SpreadNode} (ha : DSpread d a) (hb : DSpread d b) (hx : DSpread d x) (hy : DSpread d y)
    {e e' : Bool} (hnames : (x.name = a.name ∧ y.name = b.name) ∨ (x.name = b.name ∧ y.name = a.name))
    (hflag : e' = true ∨ e = false) (hclean : ¬ Holds (envOf s d (fullLinks d)) (.check e a b)) :
    ¬ Holds (envOf s d (fullLinks d)) (.check e' x y) ∧ rkSp d x + rkSp d y = rkSp d a + rkSp d b := by
  refine ⟨fun hh => ?_, rkSp_pair hnames⟩
  have h1 : Holds (envOf s d (fullLinks d)) (.check e x y) := by
    cases e with
    | false => exact holds_unflag hh
    | true =>
      rcases hflag with h | h
      · rw [h] at hh; exact hh
      · cases h
  rcases hnames with ⟨n1, n2⟩ | ⟨n1, n2⟩
  · exact hclean (holds_check_rename h1 hx hy ha hb n1.symm n2.symm)
  · have h2 := holds_swap M.H M.sym h1 trivial
    exact hclean (holds_check_rename h2 hy hx ha hb n2.symm n1.symm)

omit M in
theorem check_start {ρ : Nat} {st0 : OSt} {a b : SpreadNode}
    (excl : Bool) (hr : rkSp d a + rkSp d b < ρ) (hI : (memoFrame s d ρ).I st0) :
    (memoFrame s d (rkSp d a + rkSp d b)).I { st0 with pairs := st0.pairs.add a.name b.name excl } := by
  refine ⟨?_, fun t ht sp ex hsp hr' hm => hI.2 t ht sp ex hsp (by omega) hm⟩
  intro x y ex hx hy hr' hh
  rcases has_add hh with h | ⟨hn, _⟩
  · exact hI.1 x y ex hx hy (by omega) h
  · have := rkSp_pair (d := d) hn
    omega

theorem check_finish {ρ : Nat} {st0 st4 : OSt} {a b : SpreadNode} (ha : DSpread d a) (hb : DSpread d b)
    (excl : Bool) (hr : rkSp d a + rkSp d b < ρ) (hI : (memoFrame s d ρ).I st0)
    (hclean : ¬ Holds (envOf s d (fullLinks d)) (.check excl a b))
    (hT : (memoFrame s d (rkSp d a + rkSp d b)).T { st0 with pairs := st0.pairs.add a.name b.name excl } st4) :
    (memoFrame s d ρ).I st4 ∧ (memoFrame s d ρ).T st0 st4 := by
  have hW := memo_T_weaken (Nat.le_of_lt hr) hT
  have hT' : (memoFrame s d ρ).T st0 st4 := by
    refine ⟨fun x y ex hx hy hh => ?_, hW.2⟩
    rcases hW.1 x y ex hx hy hh with h | h
    · rcases has_add h with h | ⟨hn, hf⟩
      · exact Or.inl h
      · have := check_key_clean M ha hb hx hy hn hf hclean
        exact Or.inr ⟨by omega, this.1⟩
    · exact Or.inr h
  exact ⟨memo_I_of_T hI hT', hT'⟩

theorem check_memo {fc : FC} (hfc : FCAll s d fc) :
    ∀ (n ρ : Nat) (excl : Bool) (a b : SpreadNode), DSpread d a → DSpread d b → rkSp d a + rkSp d b < ρ →
      StepSilent (memoFrame s d ρ) (check (envOf s d (fullLinks d)) fc excl n a b)
        (¬ Holds (envOf s d (fullLinks d)) (.check excl a b))
  | 0, _, _, _, _, _, _, _ => by
    intro st r _ h _
    simp [check] at h
  | n + 1, ρ, excl, a, b, ha, hb, hr => by
    intro st0 r hI h he
    obtain ⟨hIt, hTt⟩ := (memoFrame s d ρ).tick st0 hI
    rcases check_succ_some h with ⟨hname | hhas, rfl⟩ | ⟨_, _, ⟨hno, rfl⟩ | ⟨A, B, hsa, hsb, h⟩⟩
    · refine ⟨hIt, hTt, fun hh => ?_⟩
      cases hh with
      | checkHere hne => exact hne hname
      | checkRight hne => exact hne hname
      | checkLeft hne => exact hne hname
    · exact ⟨hIt, hTt, hI.1 a b excl ha hb hr hhas⟩
    · have hclean : ¬ Holds (envOf s d (fullLinks d)) (.check excl a b) := by
        intro hh
        cases hh with
        | checkHere hne hA hB => exact hno _ _ hA hB
        | checkRight hne hA hB => exact hno _ _ hA hB
        | checkLeft hne hA hB => exact hno _ _ hA hB
      obtain ⟨a1, a2⟩ := check_finish M ha hb excl hr hIt hclean ((memoFrame s d _).refl _)
      exact ⟨a1, (memoFrame s d ρ).trans hTt a2, hclean⟩
    · have hAf : fragForName d a.name = some A := spreadDef_some hsa
      have hBf : fragForName d b.name = some B := spreadDef_some hsb
      have hAm : A ∈ d.frags := fragForName_mem hAf
      have hBm : B ∈ d.frags := fragForName_mem hBf
      have hrA : rkSp d a = rkS d A.sel := rkSp_eq hAf
      have hrB : rkSp d b = rkS d B.sel := rkSp_eq hBf
      -- (F), then (G) on either side, in the frame of this key
      obtain ⟨b1, b2, ⟨b3, c3⟩, d3⟩ := ((between_silent (hfc (rkSp d a + rkSp d b)) excl
          (fragFieldList (envOf s d (fullLinks d)) A) (fragFieldList (envOf s d (fullLinks d)) B)
          (fun x hx y hy => ⟨DocF.ofSet (t := ⟨s.type? A.typeCond, A.sel⟩) (docSets_frag hAm) hx,
            DocF.ofSet (t := ⟨s.type? B.typeCond, B.sel⟩) (docSets_frag hBm) hy, by
            have h1 := rkS_sub (d := d) hx
            have h2 := rkS_sub (d := d) hy
            omega⟩)).seq3
        (StepSilent.loop (P := fun x => ¬ Holds (envOf s d (fullLinks d)) (.check excl a x)) fun x hx => by
          have hd' : DSpread d x := frag_spread hBm hx
          have hlt := M.rkSp_lt hd' hx
          exact check_memo hfc n _ excl a x ha hd' (by omega))
        (StepSilent.loop (P := fun x => ¬ Holds (envOf s d (fullLinks d)) (.check excl x b)) fun x hx => by
          have hd' : DSpread d x := frag_spread hAm hx
          have hlt := M.rkSp_lt hd' hx
          exact check_memo hfc n _ excl x b hd' hb (by omega))) _ _ (check_start (a := a) (b := b) excl hr hIt) h he
      have hclean : ¬ Holds (envOf s d (fullLinks d)) (.check excl a b) := by
        intro hh
        cases hh with
        | checkHere hne hA hB hfa hfb hrn hc =>
          rw [hsa] at hA; injection hA with hA; subst hA
          rw [hsb] at hB; injection hB with hB; subst hB
          exact b3 _ hfa _ hfb hrn hc
        | checkRight hne hA hB hx hc =>
          rw [hsb] at hB; injection hB with hB; subst hB
          exact c3 _ hx hc
        | checkLeft hne hA hB hx hc =>
          rw [hsa] at hA; injection hA with hA; subst hA
          exact d3 _ hx hc
      obtain ⟨a1, a2⟩ := check_finish M ha hb excl hr hIt hclean b2
      exact ⟨a1, (memoFrame s d ρ).trans hTt a2, hclean⟩

end


section
variable {s : Schema} {d : QueryDoc} (M : MemoHyps s d)
include M

theorem fcLevel_memo : ∀ k, FCAll s d (fcLevel (envOf s d (fullLinks d)) k)
  | 0 => by
    intro _ _ _ _ _ _ _ _ h
    simp [fcLevel] at h
  | k + 1 => by
    intro ρ excl a b st st' hP hI h
    obtain ⟨ha, hb, hrk⟩ := hP
    simp only [fcLevel] at h
    have hta : (⟨a.next s.view, a.node.sel⟩ : Spec.TSet) ∈ Spec.docSets s d := by
      rw [ha.next_fieldType M.H]
      exact docSets_field ha.inDoc
    have htb : (⟨b.next s.view, b.node.sel⟩ : Spec.TSet) ∈ Spec.docSets s d := by
      rw [hb.next_fieldType M.H]
      exact docSets_field hb.inDoc
    refine findConflictBody_silent (envOf s d (fullLinks d)) _ excl a b st st'
      (fun excl' => subSets_silent (fcLevel_memo k ρ) excl' a b ?_ ?_ ?_ ?_) hI h
    · intro a' ha' b' hb'
      have h1 := rkS_sub (d := d) ha'
      have h2 := rkS_sub (d := d) hb'
      exact ⟨ha.sub M.H ha', hb.sub M.H hb', by omega⟩
    · intro sp hsp
      have hd' : DSpread d sp := docF_spread hb hsp
      have hlt := M.rkSp_lt hd' hsp
      exact chain_memo M (fcLevel_memo k) _ ρ excl' _ hta sp hd' (by simp only; omega)
    · intro sp hsp
      have hd' : DSpread d sp := docF_spread ha hsp
      have hlt := M.rkSp_lt hd' hsp
      exact chain_memo M (fcLevel_memo k) _ ρ excl' _ htb sp hd' (by simp only; omega)
    · intro sa hsa sb hsb
      have hda : DSpread d sa := docF_spread ha hsa
      have hdb : DSpread d sb := docF_spread hb hsb
      have h1 := M.rkSp_lt hda hsa
      have h2 := M.rkSp_lt hdb hsb
      exact check_memo M (fcLevel_memo k) _ ρ excl' sa sb hda hdb (by omega)

/-- a rank above every rank -/
def rkTop (d : QueryDoc) : Nat := 2 * d.frags.length + 1

theorem overlapRun_memo (t : Spec.TSet) (ht : t ∈ Spec.docSets s d) (st0 : OSt) (r : OSt × List Conflict)
    (hP : PairsI s d (rkTop d) st0.pairs) (h : overlapRun s.view d (fullLinks d) t.parent t.sels st0 = some r) (he : r.2 = []) :
    ¬ TopHolds (envOf s d (fullLinks d)) t.parent t.sels ∧ PairsI s d (rkTop d) r.1.pairs := by
  unfold overlapRun at h
  simp only at h
  have hrk : ∀ names, rkN d names + rkN d names < rkTop d + 0 ∧ True := fun names => by
    have := rkN_le d names
    exact ⟨by unfold rkTop; omega, trivial⟩
  have hI0 : (memoFrame s d (rkTop d)).I { st0 with seen := [] } :=
    ⟨hP, fun _ _ _ _ _ _ hm => by cases hm⟩
  have key := top_silent (F := memoFrame s d (rkTop d)) (P := PRank s d (rkTop d)) (fcLevel_memo M _ (rkTop d))
    t.parent t.sels
    (fun a ha b hb => ⟨DocF.ofSet ht ha, DocF.ofSet ht hb, by
      have h1 := rkN_le d (Spec.spreadsOfSels a.node.sel)
      have h2 := rkN_le d (Spec.spreadsOfSels b.node.sel)
      unfold rkS rkTop
      omega⟩)
    (fun sp hsp => by
      have hd' : DSpread d sp := docSet_spread ht hsp
      have h1 := rkN_le d (Spec.spreadsOfSels t.sels)
      have h2 := rkN_le d (Spec.fragSpreads d sp.name)
      exact chain_memo M (fcLevel_memo M _) _ (rkTop d) false t ht sp hd' (by unfold rkS rkSp rkTop; omega))
    (fun sa hsa sb hsb => by
      have hda : DSpread d sa := docSet_spread ht hsa
      have hdb : DSpread d sb := docSet_spread ht hsb
      have h1 := rkN_le d (Spec.fragSpreads d sa.name)
      have h2 := rkN_le d (Spec.fragSpreads d sb.name)
      exact check_memo M (fcLevel_memo M _) _ (rkTop d) false sa sb hda hdb (by unfold rkSp rkTop; omega))
    st0 r hI0 h he
  refine ⟨key.1, ?_⟩
  cases hemp : selsEmpty t.sels with
  | false => exact (key.2 hemp).1.1
  | true =>
    unfold findConflictsWithinSelectionSet at h
    rw [hemp] at h
    simp only [if_true] at h
    injection h with h
    subst h
    exact hP

end

/-- **the rule against its memo-free semantics**: on a document without fragment cycles (unique
    fragment names, every fragment used) OverlappingFieldsCanBeMerged reports nothing iff no selection
    set of the document has a derivable conflict — the memos and the order in which the walker links
    the nodes do not change the verdict -/
theorem overlap_silent_iff (s : Schema) (d : QueryDoc) (M : MemoHyps s d)
    (hu : Spec.fragmentNameUniqueness d = true) (hused : Spec.fragmentsMustBeUsed d = true) :
    validate [overlappingFieldsCanBeMerged] s d = .ok [] ↔
      ∀ t ∈ Spec.docSets s d, ¬ TopHolds (envOf s d (fullLinks d)) t.parent t.sels :=
  -- the invariant of the manager state: every key of the fragment-pair memo is refuted
  silent_iff_noTop (Inv := fun st => PairsI s d (rkTop d) st.pairs)
    (fun _ _ _ _ _ _ hh => by simp [OSt.init, Pairs.has] at hh)
    (overlapRun_memo M) M.H.wp M.acyclic hu hused

end Gql.Validate
