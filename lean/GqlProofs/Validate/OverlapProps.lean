import GqlProofs.Validate.OverlapFull
/-
  OverlappingFieldsCanBeMerged: properties of the memo-free judgments that the memos of the rule
  rely on — a `check` made for non-exclusive parents covers the one for exclusive parents
  (`holds_check_flag`, from `holds_unflag`), the judgments about spreads only depend on the fragment
  NAMES (`holds_chain_rename`, `holds_check_rename`) — and the rank of a fragment name
  (`rkN`: how many fragment definitions it reaches), which strictly decreases along spreads in a
  document without fragment cycles.
-/
namespace Gql.Validate
open Gql Gql.Validate.Rules

theorem holds_check_flag {env : Env} {ex ex' : Bool} {a b : SpreadNode} (h : Holds env (.check ex' a b))
    (hle : ex' = true ∨ ex = false) (hne : ex' = ex ∨ ex = false) : Holds env (.check ex a b) := by
  cases ex with
  | false => exact holds_unflag h
  | true =>
    rcases hle with h1 | h1
    · rw [h1] at h; exact h
    · cases h1


/-- a spread node written in the document -/
def DSpread (d : QueryDoc) (sp : SpreadNode) : Prop := InDocSel d (.sel (.spread sp.name sp.dirs sp.pos))

theorem spreadDef_full {d : QueryDoc} {sp : SpreadNode} (h : DSpread d sp) :
    (fullLinks d).spreadDef d sp.name sp.pos = fragForName d sp.name :=
  spreadDef_linked (fullLinks_linked h)

theorem spreadDef_full_congr {d : QueryDoc} {sp sp' : SpreadNode} (h : DSpread d sp) (h' : DSpread d sp')
    (hn : sp'.name = sp.name) : (fullLinks d).spreadDef d sp'.name sp'.pos = (fullLinks d).spreadDef d sp.name sp.pos := by
  rw [spreadDef_full h, spreadDef_full h', hn]

section
variable {s : SV} {d : QueryDoc}

theorem holds_chain_rename {ex : Bool} {p : Option Definition} {sels : Selections} {sp sp' : SpreadNode}
    (h : Holds (overlapEnv s d (fullLinks d)) (.chain ex p sels sp)) (hsp : DSpread d sp) (hsp' : DSpread d sp')
    (hn : sp'.name = sp.name) : Holds (overlapEnv s d (fullLinks d)) (.chain ex p sels sp') := by
  have e := spreadDef_full_congr hsp hsp' hn
  cases h with
  | chainHere hF hid ha hg hrn hc => exact .chainHere (e.trans hF) hid ha hg hrn hc
  | chainNext hF hid hx hne hc => exact .chainNext (e.trans hF) hid hx (by rw [hn]; exact hne) hc

theorem holds_check_rename {ex : Bool} {a b : SpreadNode}
    (h : Holds (overlapEnv s d (fullLinks d)) (.check ex a b)) : ∀ {a' b' : SpreadNode}, DSpread d a → DSpread d b →
      DSpread d a' → DSpread d b' → a'.name = a.name → b'.name = b.name →
      Holds (overlapEnv s d (fullLinks d)) (.check ex a' b') := by
  generalize hj : Jg.check ex a b = j at h
  induction h generalizing a b with
  | @checkHere ex0 a0 b0 A B fa fb hne hA hB hfa hfb hrn hc _ =>
    injection hj with h1 h2 h3
    subst h1 h2 h3
    intro a' b' ha hb ha' hb' hna hnb
    exact .checkHere (by rw [hna, hnb]; exact hne) ((spreadDef_full_congr ha ha' hna).trans hA)
      ((spreadDef_full_congr hb hb' hnb).trans hB) hfa hfb hrn hc
  | @checkRight ex0 a0 b0 x A B hne hA hB hx hc ih =>
    injection hj with h1 h2 h3
    subst h1 h2 h3
    intro a' b' ha hb ha' hb' hna hnb
    have hxd : DSpread d x :=
      Or.inr ⟨B, fragForName_mem ((spreadDef_full hb).symm.trans hB), collectSpreads_inSels _ _ hx⟩
    exact .checkRight (by rw [hna, hnb]; exact hne) ((spreadDef_full_congr ha ha' hna).trans hA)
      ((spreadDef_full_congr hb hb' hnb).trans hB) hx (ih rfl ha hxd ha' hxd hna rfl)
  | @checkLeft ex0 a0 b0 x A B hne hA hB hx hc ih =>
    injection hj with h1 h2 h3
    subst h1 h2 h3
    intro a' b' ha hb ha' hb' hna hnb
    have hxd : DSpread d x :=
      Or.inr ⟨A, fragForName_mem ((spreadDef_full ha).symm.trans hA), collectSpreads_inSels _ _ hx⟩
    exact .checkLeft (by rw [hna, hnb]; exact hne) ((spreadDef_full_congr ha ha' hna).trans hA)
      ((spreadDef_full_congr hb hb' hnb).trans hB) hx (ih rfl hxd hb hxd hb' rfl hnb)
  | _ => cases hj

theorem not_holds_chain_nil {env : Env} {ex : Bool} {p : Option Definition} {sp : SpreadNode} :
    ¬ Holds env (.chain ex p .nil sp) := by
  intro h
  generalize hj : Jg.chain ex p .nil sp = j at h
  induction h generalizing sp with
  | chainHere _ _ ha =>
    injection hj with _ _ h3 _
    subst h3
    simp [collectFields] at ha
  | chainNext _ _ _ _ _ ih =>
    injection hj with h1 h2 h3 h4
    subst h1 h2 h3
    exact ih rfl
  | _ => cases hj

end

def rkN (d : QueryDoc) (names : List Name) : Nat :=
  d.frags.countP fun f => (Spec.reachFrom d names).contains f.name

theorem rkN_mono {d : QueryDoc} {a b : List Name} (h : ∀ x, Reach d a x → Reach d b x) : rkN d a ≤ rkN d b := by
  unfold rkN
  apply List.countP_mono_left
  intro f _ hf
  rw [reachFrom_contains_iff] at hf ⊢
  exact h _ hf

theorem rkN_mono_sub {d : QueryDoc} {a b : List Name} (h : ∀ x ∈ a, x ∈ b) : rkN d a ≤ rkN d b :=
  rkN_mono (fun _ hr => hr.mono h)

/-- why a measure over the reachable definitions is strict along a spread (no cycles): what the
    fragment `f` of a reachable name reaches is reachable, `f` is, and `f` does not reach itself -/
theorem reach_below {d : QueryDoc} (hac : Acyclic d) {names : List Name} {n : Name} {f : FragmentDef}
    (hr : Reach d names n) (hf : fragForName d n = some f) :
    (∀ g : FragmentDef, (Spec.reachFrom d (Spec.fragSpreads d n)).contains g.name = true →
        (Spec.reachFrom d names).contains g.name = true) ∧
      (Spec.reachFrom d names).contains f.name = true ∧
      (Spec.reachFrom d (Spec.fragSpreads d n)).contains f.name = false := by
  refine ⟨fun g hg => ?_, ?_, ?_⟩
  · rw [reachFrom_contains_iff] at hg ⊢
    exact Reach.trans hr hg
  · rw [reachFrom_contains_iff, fragForName_name hf]
    exact hr
  · cases hc : (Spec.reachFrom d (Spec.fragSpreads d n)).contains f.name with
    | false => rfl
    | true =>
      rw [reachFrom_contains_iff, fragForName_name hf] at hc
      exact absurd hc (hac n)

theorem rkN_strict {d : QueryDoc} (hac : Acyclic d) {names : List Name} {n : Name} {f : FragmentDef}
    (hr : Reach d names n) (hf : fragForName d n = some f) : rkN d (Spec.fragSpreads d n) + 1 ≤ rkN d names := by
  obtain ⟨h1, h2, h3⟩ := reach_below hac hr hf
  unfold rkN
  rw [List.countP_eq_length_filter, List.countP_eq_length_filter]
  exact filter_length_lt_of_imp _ _ (fun g hg => h1 g hg) f h2 h3 _ (fragForName_mem hf)

theorem rkN_le (d : QueryDoc) (names : List Name) : rkN d names ≤ d.frags.length := List.countP_le_length

end Gql.Validate
