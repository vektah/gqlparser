import GqlModel.Validate.Rules
import GqlProofs.ValSpec.Coverage
import GqlModel.Validate.Spec.Fields
/-
  OverlappingFieldsCanBeMerged: WHERE the collected fields and spreads lie.  A collected field is a
  field node of the selection set it was collected from, reached through inline fragments only
  (`collectFields_inSels`), and likewise a collected spread (`collectSpreads_inSels`); what only
  depends on the position follows from that: the spreads and the nesting depth (`sdepth`) of the
  sub-selection of a collected field (`collectFields_spreads`, `collectFields_sdepth`).
-/
namespace Gql.Validate
open Gql Gql.Validate.Rules

/-- the selection node of a collected field -/
def Rules.FInfo.sel' (f : FInfo) : Selection :=
  .field f.node.alias f.node.name f.node.args f.node.dirs f.node.sel f.node.pos

mutual
  theorem collectFields_inSels (s : SV) (l : Links) : ∀ (sels : Selections) (p : Option Definition) (f : FInfo),
      f ∈ collectFields s l p sels → InSels sels (.sel f.sel')
    | .nil, _, _, h => by simp [collectFields] at h
    | .cons y rest, p, f, h => by
      simp only [collectFields, List.mem_append] at h
      rcases h with h | h
      · exact InSels.head _ _ _ (collectFieldsSel_inSel s l y p f h)
      · exact InSels.tail _ _ _ (collectFields_inSels s l rest p f h)
  theorem collectFieldsSel_inSel (s : SV) (l : Links) : ∀ (y : Selection) (p : Option Definition) (f : FInfo),
      f ∈ collectFieldsSel s l p y → InSel y (.sel f.sel')
    | .field al nm args dirs sub pos, p, f, h => by
      simp only [collectFieldsSel, List.mem_singleton] at h
      subst h
      exact InSel.self _
    | .inline tc dirs sub pos, p, f, h => by
      simp only [collectFieldsSel] at h
      exact InSel.inlineSub _ _ _ _ _ (collectFields_inSels s l sub _ f h)
    | .spread _ _ _, _, _, h => by simp [collectFieldsSel] at h
end

mutual
  theorem collectSpreads_inSels : ∀ (sels : Selections) (sp : SpreadNode),
      sp ∈ collectSpreads sels → InSels sels (.sel (.spread sp.name sp.dirs sp.pos))
    | .nil, _, h => by simp [collectSpreads] at h
    | .cons y rest, sp, h => by
      simp only [collectSpreads, List.mem_append] at h
      rcases h with h | h
      · exact InSels.head _ _ _ (collectSpreadsSel_inSel y sp h)
      · exact InSels.tail _ _ _ (collectSpreads_inSels rest sp h)
  theorem collectSpreadsSel_inSel : ∀ (y : Selection) (sp : SpreadNode),
      sp ∈ collectSpreadsSel y → InSel y (.sel (.spread sp.name sp.dirs sp.pos))
    | .field .., _, h => by simp [collectSpreadsSel] at h
    | .inline tc dirs sub pos, sp, h => by
      simp only [collectSpreadsSel] at h
      exact InSel.inlineSub _ _ _ _ _ (collectSpreads_inSels sub sp h)
    | .spread nm dirs pos, sp, h => by
      simp only [collectSpreadsSel, List.mem_singleton] at h
      subst h
      exact InSel.self _
end

theorem collectSpreads_names (sels : Selections) (sp : SpreadNode) (h : sp ∈ collectSpreads sels) :
    sp.name ∈ Spec.spreadsOfSels sels :=
  (mem_spreadsOfSels_iff sp.name sels).2 ⟨sp.dirs, sp.pos, collectSpreads_inSels sels sp h⟩

theorem collectSpreadsSel_names : ∀ (y : Selection) (sp : SpreadNode),
      sp ∈ collectSpreadsSel y → sp.name ∈ Spec.spreadsOfSel y
  | .field .., _, h => by simp [collectSpreadsSel] at h
  | .inline tc dirs sub pos, sp, h => by
    simp only [collectSpreadsSel] at h
    simp only [Spec.spreadsOfSel]
    exact collectSpreads_names sub sp h
  | .spread nm dirs pos, sp, h => by
    simp only [collectSpreadsSel, List.mem_singleton] at h
    subst h
    simp [Spec.spreadsOfSel]

mutual
  theorem inSels_trans : ∀ (sels : Selections) (y : Selection) (i : Item), InSels sels (.sel y) → InSel y i → InSels sels i
    | .nil, _, _, h, _ => by cases h
    | .cons x rest, y, i, h, hi => by
      cases h with
      | head _ _ _ hx => exact InSels.head _ _ _ (inSel_trans x y i hx hi)
      | tail _ _ _ hx => exact InSels.tail _ _ _ (inSels_trans rest y i hx hi)
  theorem inSel_trans : ∀ (x y : Selection) (i : Item), InSel x (.sel y) → InSel y i → InSel x i
    | .field al nm args dirs sub pos, y, i, h, hi => by
      cases h with
      | self => exact hi
      | fieldSub _ _ _ _ _ _ _ hs => exact InSel.fieldSub _ _ _ _ _ _ _ (inSels_trans sub y i hs hi)
    | .inline tc dirs sub pos, y, i, h, hi => by
      cases h with
      | self => exact hi
      | inlineSub _ _ _ _ _ hs => exact InSel.inlineSub _ _ _ _ _ (inSels_trans sub y i hs hi)
    | .spread nm dirs pos, y, i, h, hi => by
      cases h with
      | self => exact hi
end

theorem spreads_sub_of_inSels {sub X : Selections} (h : ∀ i, InSels sub i → InSels X i) :
    ∀ n ∈ Spec.spreadsOfSels sub, n ∈ Spec.spreadsOfSels X := by
  intro n hn
  obtain ⟨dirs, p, hi⟩ := (mem_spreadsOfSels_iff n sub).1 hn
  exact (mem_spreadsOfSels_iff n X).2 ⟨dirs, p, h _ hi⟩

theorem collectFields_spreads (s : SV) (l : Links) (sels : Selections) (parent : Option Definition) (f : FInfo)
    (h : f ∈ collectFields s l parent sels) : ∀ n ∈ Spec.spreadsOfSels f.node.sel, n ∈ Spec.spreadsOfSels sels :=
  spreads_sub_of_inSels fun _ hi =>
    inSels_trans _ _ _ (collectFields_inSels s l sels parent f h) (InSel.fieldSub _ _ _ _ _ _ _ hi)

theorem collectFieldsSel_spreads (s : SV) (l : Links) : ∀ (y : Selection) (parent : Option Definition) (f : FInfo),
    f ∈ collectFieldsSel s l parent y → ∀ n ∈ Spec.spreadsOfSels f.node.sel, n ∈ Spec.spreadsOfSel y := by
  intro y parent f h n hn
  obtain ⟨dirs, p, hi⟩ := (mem_spreadsOfSels_iff n _).1 hn
  exact (mem_spreadsOfSel_iff n y).2
    ⟨dirs, p, inSel_trans _ _ _ (collectFieldsSel_inSel s l y parent f h) (InSel.fieldSub _ _ _ _ _ _ _ hi)⟩

mutual
  def sdepth : Selections → Nat
    | .nil => 0
    | .cons x rest => max (sdepthSel x) (sdepth rest)
  def sdepthSel : Selection → Nat
    | .field _ _ _ _ sub _ => sdepth sub + 1
    | .inline _ _ sub _ => sdepth sub
    | .spread _ _ _ => 0
end

mutual
  theorem sdepth_le_nodes : ∀ sels : Selections, sdepth sels ≤ Spec.selsNodes sels
    | .nil => Nat.le_refl _
    | .cons x rest => by
      simp only [sdepth, Spec.selsNodes]
      have := sdepthSel_le_nodes x
      have := sdepth_le_nodes rest
      omega
  theorem sdepthSel_le_nodes : ∀ x : Selection, sdepthSel x ≤ Spec.selNodes x
    | .field _ _ _ _ sub _ => by
      simp only [sdepthSel, Spec.selNodes]
      have := sdepth_le_nodes sub
      omega
    | .inline _ _ sub _ => by
      simp only [sdepthSel, Spec.selNodes]
      have := sdepth_le_nodes sub
      omega
    | .spread _ _ _ => by simp [sdepthSel]
end

mutual
  theorem inSels_sdepth : ∀ (sels : Selections) (y : Selection), InSels sels (.sel y) → sdepthSel y ≤ sdepth sels
    | .nil, _, h => by cases h
    | .cons x rest, y, h => by
      simp only [sdepth]
      cases h with
      | head _ _ _ hx => have := inSel_sdepth x y hx; omega
      | tail _ _ _ hx => have := inSels_sdepth rest y hx; omega
  theorem inSel_sdepth : ∀ (x y : Selection), InSel x (.sel y) → sdepthSel y ≤ sdepthSel x
    | .field al nm args dirs sub p, y, h => by
      cases h with
      | self => exact Nat.le_refl _
      | fieldSub _ _ _ _ _ _ _ hs =>
        simp only [sdepthSel]
        have := inSels_sdepth sub y hs
        omega
    | .inline tc dirs sub p, y, h => by
      cases h with
      | self => exact Nat.le_refl _
      | inlineSub _ _ _ _ _ hs =>
        simp only [sdepthSel]
        exact inSels_sdepth sub y hs
    | .spread nm dirs p, y, h => by
      cases h with
      | self => exact Nat.le_refl _
end

theorem collectFields_sdepth (s : SV) (l : Links) (sels : Selections) (p : Option Definition) (f : FInfo)
    (h : f ∈ collectFields s l p sels) : sdepth f.node.sel + 1 ≤ sdepth sels :=
  inSels_sdepth _ _ (collectFields_inSels s l sels p f h)

theorem collectFieldsSel_sdepth (s : SV) (l : Links) : ∀ (y : Selection) (p : Option Definition) (f : FInfo),
    f ∈ collectFieldsSel s l p y → sdepth f.node.sel + 1 ≤ sdepthSel y :=
  fun y p f h => inSel_sdepth _ _ (collectFieldsSel_inSel s l y p f h)

end Gql.Validate
