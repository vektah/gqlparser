import GqlProofs.Validate.OverlapFMap
import GqlProofs.Validate.OverlapCollect
import GqlProofs.ValSpec.TypedBridge
import GqlProofs.Validate.OverlapSem
/-
  OverlappingFieldsCanBeMerged vs. §5.3.2 on selection sets WITHOUT fragment spreads:
  helper lemmas on the specification side (`allPairs`, also on the lists of collected fields that
  stand for the specification's sets: `allPairs_keyed`; the collected sets of spread-free selection sets).
-/
namespace Gql.Validate
open Gql Gql.Validate.Rules

theorem allPairs_iff {α : Type} (p : α → α → Bool) : ∀ l : List α, Spec.allPairs p l = true ↔ l.Pairwise fun x y => p x y = true
  | [] => by simp [Spec.allPairs]
  | x :: xs => by
    simp only [Spec.allPairs, Bool.and_eq_true, List.all_eq_true, List.pairwise_cons, allPairs_iff p xs]

theorem allPairs_false_of_pair {α : Type} (p : α → α → Bool) {l : List α} {x y : α} (hs : [x, y].Sublist l)
    (h : p x y = false) : Spec.allPairs p l = false := by
  cases hp : Spec.allPairs p l with
  | false => rfl
  | true =>
    have := List.pairwise_iff_forall_sublist.1 ((allPairs_iff p l).1 hp) hs
    rw [h] at this
    cases this

theorem key_eq_iff (x y : FInfo) : (toM x).key = (toM y).key ↔ rnOf x = rnOf y := by
  simp only [toM_key, rnOf]

/-- the specification's predicates on collected sets look at pairs of equal response name only -/
theorem allPairs_keyed (q : Spec.MField → Spec.MField → Bool) (L : List FInfo)
    (hp : ∀ {u v}, [u, v].Sublist L → rnOf u = rnOf v → q (toM u) (toM v) = true) :
    Spec.allPairs (fun x y => x.key != y.key || q x y) (L.map toM) = true := by
  rw [allPairs_iff, List.pairwise_map]
  refine List.pairwise_iff_forall_sublist.2 fun {u v} hs => ?_
  by_cases hk : (toM u).key = (toM v).key
  · simp [hp hs ((key_eq_iff u v).1 hk)]
  · simp [hk]

theorem allPairs_keyed_false (q : Spec.MField → Spec.MField → Bool) {L : List FInfo} {u v : FInfo}
    (hs : [u, v].Sublist L) (hrn : rnOf u = rnOf v) (hq : q (toM u) (toM v) = false) :
    Spec.allPairs (fun x y => x.key != y.key || q x y) (L.map toM) = false :=
  allPairs_false_of_pair _ (hs.map toM) (by simp [(key_eq_iff u v).2 hrn, hq])

theorem sublist_pair_append {α : Type} {u v : α} {l1 l2 : List α} (h : [u, v].Sublist (l1 ++ l2)) :
    [u, v].Sublist l1 ∨ (u ∈ l1 ∧ v ∈ l2) ∨ [u, v].Sublist l2 := by
  have hp : (l1 ++ l2).Pairwise fun x y => [x, y].Sublist l1 ∨ (x ∈ l1 ∧ y ∈ l2) ∨ [x, y].Sublist l2 :=
    List.pairwise_append.2 ⟨List.pairwise_iff_forall_sublist.2 Or.inl,
      List.pairwise_iff_forall_sublist.2 fun h => Or.inr (Or.inr h), fun _ hx _ hy => Or.inr (Or.inl ⟨hx, hy⟩)⟩
  exact hp.forall_sublist h

theorem inlineNext_eq (s : Schema) (p : Option Definition) (tc : Name) :
    inlineNext s.view p tc = Spec.inlineType s p tc := wInline_eq s p tc

mutual
  theorem collectSels_flat (s : Schema) (d : QueryDoc) (l : Links) (jump : Spec.MJump) :
      ∀ (sels : Selections) (parent : Option Definition) (vis : List Name), Spec.spreadsOfSels sels = [] →
        Spec.collectSels s d jump parent sels vis = ((collectFields s.view l parent sels).map toM, vis)
    | .nil, _, _, _ => rfl
    | .cons x rest, parent, vis, h => by
      simp only [Spec.spreadsOfSels, List.append_eq_nil_iff] at h
      simp only [Spec.collectSels, collectFields, collectSel_flat s d l jump x parent vis h.1,
        collectSels_flat s d l jump rest parent vis h.2, List.map_append]
  theorem collectSel_flat (s : Schema) (d : QueryDoc) (l : Links) (jump : Spec.MJump) :
      ∀ (x : Selection) (parent : Option Definition) (vis : List Name), Spec.spreadsOfSel x = [] →
        Spec.collectSel s d jump parent x vis = ((collectFieldsSel s.view l parent x).map toM, vis)
    | .field al nm args dirs sub p, parent, vis, _ => by
      simp [Spec.collectSel, collectFieldsSel, toM]
    | .spread nm dirs p, _, _, h => by simp [Spec.spreadsOfSel] at h
    | .inline tc dirs sub p, parent, vis, h => by
      simp only [Spec.spreadsOfSel] at h
      simp only [Spec.collectSel, collectFieldsSel, inlineNext_eq]
      exact collectSels_flat s d l jump sub _ vis h
end

theorem collectLevel_flat (s : Schema) (d : QueryDoc) (l : Links) (n : Nat) (sels : Selections)
    (parent : Option Definition) (vis : List Name) (h : Spec.spreadsOfSels sels = []) :
    Spec.collectLevel s d (n + 1) parent sels vis = ((collectFields s.view l parent sels).map toM, vis) := by
  simp only [Spec.collectLevel]
  exact collectSels_flat s d l _ sels parent vis h

theorem collectSet_flat (s : Schema) (d : QueryDoc) (l : Links) (sels : Selections) (parent : Option Definition)
    (h : Spec.spreadsOfSels sels = []) :
    Spec.collectSet s d parent sels = (collectFields s.view l parent sels).map toM := by
  unfold Spec.collectSet
  rw [collectLevel_flat s d l _ sels parent [] h]

theorem not_mem_spreads_flat {sels : Selections} (h : Spec.spreadsOfSels sels = []) {sp : SpreadNode} :
    sp ∉ collectSpreads sels := fun hsp => by
  have := collectSpreads_names sels sp hsp
  rw [h] at this
  cases this

theorem collectSpreadsSel_flat : ∀ (x : Selection), Spec.spreadsOfSel x = [] → collectSpreadsSel x = [] :=
  fun x h => List.eq_nil_iff_forall_not_mem.2 fun sp hsp => by
    have := collectSpreadsSel_names x sp hsp
    rw [h] at this
    cases this

theorem flat_sub {s : SV} {l : Links} {sels : Selections} {parent : Option Definition} {f : FInfo}
    (hf : f ∈ collectFields s l parent sels) (h : Spec.spreadsOfSels sels = []) : Spec.spreadsOfSels f.node.sel = [] := by
  apply List.eq_nil_iff_forall_not_mem.2
  intro n hn
  have := collectFields_spreads s l sels parent f hf n hn
  rw [h] at this
  cases this

end Gql.Validate
