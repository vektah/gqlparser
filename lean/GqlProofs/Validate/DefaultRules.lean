import GqlModel.Validate.Rules
/-
  The default rule set as an explicit list: the one evaluation of the registry look-ups
  (`ruleByName` on every name of `defaultRuleNames`); the other closed facts about `defaultRules`
  are derived from it, and from a comparison of the names as strings (the conversion `str` is what
  is slow to evaluate).
-/
namespace Gql.Validate
open Gql Gql.Validate.Rules

theorem defaultRules_eq : defaultRules =
    [ fieldsOnCorrectType, fragmentsOnCompositeTypes, knownArgumentNames, knownDirectives, knownFragmentNames,
      knownRootType, knownTypeNames, loneAnonymousOperation, maxIntrospectionDepth, noFragmentCycles,
      noUndefinedVariables, noUnusedFragments, noUnusedVariables, overlappingFieldsCanBeMerged, possibleFragmentSpreads,
      providedRequiredArguments, scalarLeafs, singleFieldSubscriptions, uniqueArgumentNames, uniqueDirectivesPerLocation,
      uniqueFragmentNames, uniqueInputFieldNames, uniqueOperationNames, uniqueVariableNames, valuesOfCorrectType,
      variablesAreInputTypes, variablesInAllowedPosition ] := by
  rfl

theorem defaultRules_names : defaultRules.map (·.name) = defaultRuleNames.map str := by
  rw [defaultRules_eq]
  -- unfolding the rules shows the very same `str "…"` terms on both sides
  simp only [defaultRuleNames, List.map, Rule.stateless, Rule.statelessP,
    fieldsOnCorrectType, fragmentsOnCompositeTypes, knownArgumentNames, knownDirectives, knownFragmentNames,
    knownRootType, knownTypeNames, loneAnonymousOperation, maxIntrospectionDepth, noFragmentCycles,
    noUndefinedVariables, noUnusedFragments, noUnusedVariables, overlappingFieldsCanBeMerged, possibleFragmentSpreads,
    providedRequiredArguments, scalarLeafs, singleFieldSubscriptions, uniqueArgumentNames, uniqueDirectivesPerLocation,
    uniqueFragmentNames, uniqueInputFieldNames, uniqueOperationNames, uniqueVariableNames, valuesOfCorrectType,
    variablesAreInputTypes, variablesInAllowedPosition]

theorem filter_ne_of_nodup {α : Type} [BEq α] [LawfulBEq α] {l₁ l₂ : List α} {x : α} (h : (l₁ ++ x :: l₂).Nodup) :
    (l₁ ++ x :: l₂).filter (fun n => !([x].contains n)) = l₁ ++ l₂ := by
  have hne : ∀ n ∈ l₁ ++ l₂, (!([x].contains n)) = true := by
    intro n hn
    have : n ≠ x := by
      rintro rfl
      rw [List.nodup_append] at h
      rcases List.mem_append.1 hn with h1 | h2
      · exact h.2.2 n h1 n List.mem_cons_self rfl
      · exact (List.nodup_cons.1 h.2.1).1 h2
    simpa using this
  rw [List.filter_append, List.filter_cons]
  simp only [List.contains_cons, beq_self_eq_true, Bool.true_or, Bool.not_true, Bool.false_eq_true, if_false]
  rw [← List.filter_append]
  exact List.filter_eq_self.2 hne

end Gql.Validate
