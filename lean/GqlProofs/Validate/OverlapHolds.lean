import GqlProofs.Validate.OverlapSound
/-
  OverlappingFieldsCanBeMerged: the MEMO-FREE semantics of the rule as an inductive relation, and
  its SOUNDNESS half.

  `Holds env j`: the judgment `j` — "`findConflict(pe, a, b)` reports a conflict", "`findConflicts-
  BetweenSubSelectionSets(ex, a, b)` reports one", "`collectConflictsBetweenFieldsAndFragment(ex,
  fields of (parent, sels), sp)` reports one", "`collectConflictsBetweenFragments.check(ex, a, b)`
  reports one" — is derivable when every comparison the Go code makes is really made (no memo
  suppresses anything).  The relation follows the code, INCLUDING what it deliberately skips: two
  spreads of the same name are not compared, a fragment's field map is not compared with itself, a
  nested spread with the name of the fragment being expanded is skipped.

  Soundness: whatever the memoised functions report is derivable (`fcLevel_holds`, `within_holds`,
  …; no hypothesis on the memo state is needed).
-/
namespace Gql.Validate
open Gql Gql.Validate.Rules

/-- the fields of `field.SelectionSet` as `findConflictsBetweenSubSelectionSets` collects them -/
def subFields (env : Env) (a : FInfo) : List FInfo := collectFields env.s env.l (a.next env.s) a.node.sel

def fragFieldList (env : Env) (F : FragmentDef) : List FInfo :=
  collectFields env.s env.l (env.s.type? F.typeCond) F.sel

inductive Jg
  | conf (pe : Bool) (a b : FInfo)
  | sub (ex : Bool) (a b : FInfo)
  | chain (ex : Bool) (parent : Option Definition) (sels : Selections) (sp : SpreadNode)
  | check (ex : Bool) (a b : SpreadNode)

inductive Holds (env : Env) : Jg → Prop
  | names {pe : Bool} {a b : FInfo} {oa ob : Definition} :
      a.obj = some oa → b.obj = some ob → (pe || goExcl a b) = false → a.node.name ≠ b.node.name →
      Holds env (.conf pe a b)
  | args {pe : Bool} {a b : FInfo} {oa ob : Definition} :
      a.obj = some oa → b.obj = some ob → (pe || goExcl a b) = false →
      sameArguments a.node.args b.node.args = false → Holds env (.conf pe a b)
  | types {pe : Bool} {a b : FInfo} {oa ob : Definition} {da db : FieldDef} :
      a.obj = some oa → b.obj = some ob → a.dfn = some da → b.dfn = some db →
      doTypesConflict env.s da.type db.type = true → Holds env (.conf pe a b)
  | sub {pe : Bool} {a b : FInfo} {oa ob : Definition} :
      a.obj = some oa → b.obj = some ob → Holds env (.sub (pe || goExcl a b) a b) → Holds env (.conf pe a b)
  | subFields {ex : Bool} {a b a' b' : FInfo} :
      a' ∈ subFields env a → b' ∈ subFields env b → rnOf a' = rnOf b' → Holds env (.conf ex a' b') →
      Holds env (.sub ex a b)
  | subChainB {ex : Bool} {a b : FInfo} {sp : SpreadNode} :
      sp ∈ collectSpreads b.node.sel → Holds env (.chain ex (a.next env.s) a.node.sel sp) → Holds env (.sub ex a b)
  | subChainA {ex : Bool} {a b : FInfo} {sp : SpreadNode} :
      sp ∈ collectSpreads a.node.sel → Holds env (.chain ex (b.next env.s) b.node.sel sp) → Holds env (.sub ex a b)
  | subCheck {ex : Bool} {a b : FInfo} {sa sb : SpreadNode} :
      sa ∈ collectSpreads a.node.sel → sb ∈ collectSpreads b.node.sel → Holds env (.check ex sa sb) →
      Holds env (.sub ex a b)
  | chainHere {ex : Bool} {parent : Option Definition} {sels : Selections} {sp : SpreadNode} {F : FragmentDef}
      {a g : FInfo} :
      env.l.spreadDef env.d sp.name sp.pos = some F → selId sels ≠ selId F.sel →
      a ∈ collectFields env.s env.l parent sels → g ∈ fragFieldList env F → rnOf a = rnOf g →
      Holds env (.conf ex a g) → Holds env (.chain ex parent sels sp)
  | chainNext {ex : Bool} {parent : Option Definition} {sels : Selections} {sp sp' : SpreadNode} {F : FragmentDef} :
      env.l.spreadDef env.d sp.name sp.pos = some F → selId sels ≠ selId F.sel →
      sp' ∈ collectSpreads F.sel → sp'.name ≠ sp.name → Holds env (.chain ex parent sels sp') →
      Holds env (.chain ex parent sels sp)
  | checkHere {ex : Bool} {a b : SpreadNode} {A B : FragmentDef} {fa fb : FInfo} :
      a.name ≠ b.name → env.l.spreadDef env.d a.name a.pos = some A → env.l.spreadDef env.d b.name b.pos = some B →
      fa ∈ fragFieldList env A → fb ∈ fragFieldList env B → rnOf fa = rnOf fb → Holds env (.conf ex fa fb) →
      Holds env (.check ex a b)
  | checkRight {ex : Bool} {a b x : SpreadNode} {A B : FragmentDef} :
      a.name ≠ b.name → env.l.spreadDef env.d a.name a.pos = some A → env.l.spreadDef env.d b.name b.pos = some B →
      x ∈ collectSpreads B.sel → Holds env (.check ex a x) → Holds env (.check ex a b)
  | checkLeft {ex : Bool} {a b x : SpreadNode} {A B : FragmentDef} :
      a.name ≠ b.name → env.l.spreadDef env.d a.name a.pos = some A → env.l.spreadDef env.d b.name b.pos = some B →
      x ∈ collectSpreads A.sel → Holds env (.check ex x b) → Holds env (.check ex a b)

/-- what `findConflictsWithinSelectionSet` reports about the selection set `(parent, sels)` -/
def TopHolds (env : Env) (parent : Option Definition) (sels : Selections) : Prop :=
  (∃ a b, [a, b].Sublist (collectFields env.s env.l parent sels) ∧ rnOf a = rnOf b ∧ Holds env (.conf false a b)) ∨
  (∃ sp ∈ collectSpreads sels, Holds env (.chain false parent sels sp)) ∨
  (∃ sa sb, [sa, sb].Sublist (collectSpreads sels) ∧ Holds env (.check false sa sb))

/- a comparison made for non-exclusive parents covers the one for exclusive parents -/

def Jg.unflag : Jg → Jg
  | .conf _ a b => .conf false a b
  | .sub _ a b => .sub false a b
  | .chain _ p sels sp => .chain false p sels sp
  | .check _ a b => .check false a b

theorem holds_unflag {env : Env} {j : Jg} (h : Holds env j) : Holds env j.unflag := by
  induction h with
  | names hoa hob hex hne =>
    simp only [Bool.or_eq_false_iff] at hex
    exact .names hoa hob (by simp [hex.2]) hne
  | args hoa hob hex ha =>
    simp only [Bool.or_eq_false_iff] at hex
    exact .args hoa hob (by simp [hex.2]) ha
  | types hoa hob hda hdb hc => exact .types hoa hob hda hdb hc
  | @sub pe a b oa ob hoa hob hs ih =>
    refine .sub hoa hob ?_
    cases hg : goExcl a b with
    | false => simpa [Jg.unflag, hg] using ih
    | true => simpa [hg] using hs
  | subFields ha' hb' hrn _ ih => exact .subFields ha' hb' hrn ih
  | subChainB hsp _ ih => exact .subChainB hsp ih
  | subChainA hsp _ ih => exact .subChainA hsp ih
  | subCheck hsa hsb _ ih => exact .subCheck hsa hsb ih
  | chainHere hF hid ha hg hrn _ ih => exact .chainHere hF hid ha hg hrn ih
  | chainNext hF hid hsp hne _ ih => exact .chainNext hF hid hsp hne ih
  | checkHere hne hA hB hfa hfb hrn _ ih => exact .checkHere hne hA hB hfa hfb hrn ih
  | checkRight hne hA hB hx _ ih => exact .checkRight hne hA hB hx ih
  | checkLeft hne hA hB hx _ ih => exact .checkLeft hne hA hB hx ih

def FCHolds (env : Env) (fc : FC) : Prop :=
  ∀ excl a b st st' c, fc excl a b st = some (st', some c) → Holds env (.conf excl a b)

section
variable {env : Env} {fc : FC} (hfc : FCHolds env fc)
include hfc

theorem fcStep_holds {excl : Bool} {fa fb : FInfo} : StepLoud (fcStep fc excl fa fb) (Holds env (.conf excl fa fb)) := by
  intro st r h hne
  unfold fcStep at h
  split at h
  · cases h
  · rename_i st1 c h1
    injection h with h
    subst h
    cases c with
    | none => exact absurd rfl hne
    | some c => exact hfc _ _ _ _ _ _ h1

theorem between_holds (excl : Bool) (LA LB : List FInfo) :
    StepLoud (collectConflictsBetween fc excl (fmOfList LB) (fmOfList LA))
      (∃ a ∈ LA, ∃ b ∈ LB, rnOf a = rnOf b ∧ Holds env (.conf excl a b)) := by
  rw [between_eq]
  refine (StepLoud.loop (P := fun e => ∃ a ∈ e.2, ∃ b ∈ bucket LB e.1, Holds env (.conf excl a b)) fun e _ => ?_).imp ?_
  · unfold betweenStep
    cases hB : fmGet (fmOfList LB) e.1 with
    | none => exact StepLoud.ret
    | some fsB =>
      obtain rfl := fmGet_mem hB
      exact StepLoud.loop fun fa _ => StepLoud.loop fun fb _ => fcStep_holds hfc
  · rintro ⟨e, he, fa, hfa, fb, hfb, hh⟩
    have ha := entry_mem e he fa hfa
    have hb := mem_bucket.1 hfb
    exact ⟨fa, ha.1, fb, hb.1, ha.2.trans hb.2.symm, hh⟩

theorem pairTriangle_holds : ∀ (fs : List FInfo),
    StepLoud (pairTriangle fc fs) (∃ a b, [a, b].Sublist fs ∧ Holds env (.conf false a b))
  | [] => StepLoud.ret
  | fa :: rest => by
    rw [pairTriangle_cons, pairRow_eq]
    refine ((StepLoud.loop fun fb _ => fcStep_holds hfc).seq (pairTriangle_holds rest)).imp ?_
    rintro (⟨fb, hfb, hh⟩ | ⟨a, b, hs, hh⟩)
    · exact ⟨fa, fb, List.Sublist.cons_cons _ (List.singleton_sublist.2 hfb), hh⟩
    · exact ⟨a, b, hs.trans (List.sublist_cons_self _ _), hh⟩

theorem within_holds (L : List FInfo) :
    StepLoud (collectConflictsWithin fc (fmOfList L))
      (∃ a b, [a, b].Sublist L ∧ rnOf a = rnOf b ∧ Holds env (.conf false a b)) := by
  rw [within_eq]
  refine (StepLoud.loop fun e _ => pairTriangle_holds hfc e.2).imp ?_
  rintro ⟨e, hent, a, b, hs, hh⟩
  have ha := (entry_mem e hent a (hs.subset (by simp))).2
  have hb := (entry_mem e hent b (hs.subset (by simp))).2
  exact ⟨a, b, hs.trans (entry_sublist L e hent), ha.trans hb.symm, hh⟩

theorem chain_holds (excl : Bool) (parent : Option Definition) (sels : Selections) :
    ∀ n sp, StepLoud (chain env fc excl (getFieldsAndFragmentNames env.s env.l parent sels).1 n sp)
      (Holds env (.chain excl parent sels sp))
  | 0, _, _, _, h, _ => by simp [chain] at h
  | n + 1, sp, st, r, h, hne => by
    rcases chain_succ_some h with ⟨_, rfl⟩ | ⟨_, ⟨_, rfl⟩ | ⟨F, hs, ⟨_, rfl⟩ | ⟨hid, h⟩⟩⟩
    · exact absurd rfl hne
    · exact absurd rfl hne
    · exact absurd rfl hne
    · rcases ((between_holds hfc excl _ _).seq (StepLoud.loop fun sp' _ => chain_holds excl parent sels n sp')) _ _ h hne
        with ⟨a, ha, g, hg, hrn, hh⟩ | ⟨sp', hsp', hh⟩
      · exact .chainHere hs hid ha hg hrn hh
      · have hm := List.mem_filter.1 hsp'
        exact .chainNext hs hid hm.1 (by simpa using hm.2) hh

theorem check_holds (excl : Bool) : ∀ n a b, StepLoud (check env fc excl n a b) (Holds env (.check excl a b))
  | 0, _, _, _, _, h, _ => by simp [check] at h
  | n + 1, a, b, st, r, h, hne => by
    rcases check_succ_some h with ⟨_, rfl⟩ | ⟨hnm, _, ⟨_, rfl⟩ | ⟨A, B, hsa, hsb, h⟩⟩
    · exact absurd rfl hne
    · exact absurd rfl hne
    · rcases ((between_holds hfc excl _ _).seq3 (StepLoud.loop fun x _ => check_holds excl n a x)
          (StepLoud.loop fun x _ => check_holds excl n x b)) _ _ h hne
        with (⟨x, hx, y, hy, hrn, hh⟩ | ⟨x, hx, hh⟩) | ⟨x, hx, hh⟩
      · exact .checkHere hnm hsa hsb hx hy hrn hh
      · exact .checkRight hnm hsa hsb hx hh
      · exact .checkLeft hnm hsa hsb hx hh

theorem subSets_holds (excl : Bool) (a b : FInfo) :
    StepLoud (findConflictsBetweenSubSelectionSets env fc excl a b) (Holds env (.sub excl a b)) := by
  rw [subSets_eq]
  refine (((between_holds hfc excl (subFields env a) (subFields env b)).seq3
      (StepLoud.loop fun sp _ => chain_holds hfc excl _ _ _ sp)
      (StepLoud.loop fun sp _ => chain_holds hfc excl _ _ _ sp)).seq
    (StepLoud.loop fun sa _ => StepLoud.loop fun sb _ => check_holds hfc excl _ sa sb)).imp ?_
  rintro (((⟨x, hx, y, hy, hrn, hh⟩ | ⟨sp, hsp, hh⟩) | ⟨sp, hsp, hh⟩) | ⟨sa, hsa, sb, hsb, hh⟩)
  · exact .subFields hx hy hrn hh
  · exact .subChainB hsp hh
  · exact .subChainA hsp hh
  · exact .subCheck hsa hsb hh

end

theorem findConflictBody_holds (env : Env)
    (sub : Bool → FInfo → FInfo → OSt → Option (OSt × List Conflict))
    (excl0 : Bool) (a b : FInfo) (st st' : OSt) (c : Conflict)
    (hsub : ∀ excl st1 r, sub excl a b st1 = some r → r.2 ≠ [] → Holds env (.sub excl a b))
    (h : findConflictBody env.s sub excl0 a b st = some (st', some c)) : Holds env (.conf excl0 a b) := by
  rcases findConflictBody_some h with ⟨_, e⟩ | ⟨oa, ob, hoa, hob, ⟨hex, hne, _⟩ | ⟨_, ⟨hex, hargs, _⟩ | ⟨_, ⟨da, db, hda, hdb, hconf, _⟩ |
    ⟨_, st1, cs, hs, e⟩⟩⟩⟩
  · cases e
  · exact .names hoa hob hex hne
  · exact .args hoa hob hex hargs
  · exact .types hoa hob hda hdb hconf
  · cases cs with
    | nil => cases e
    | cons c1 cs => exact .sub hoa hob (hsub _ _ _ hs (by simp))

theorem fcLevel_holds (env : Env) : ∀ n, FCHolds env (fcLevel env n)
  | 0 => by
    intro _ _ _ _ _ _ h
    simp [fcLevel] at h
  | n + 1 => by
    intro excl a b st st' c h
    simp only [fcLevel] at h
    exact findConflictBody_holds env _ excl a b st st' c
      (fun excl' => subSets_holds (fcLevel_holds env n) excl' a b) h

theorem withinLoop_holds {env : Env} {fc : FC} (hfc : FCHolds env fc) (parent : Option Definition) (sels : Selections) :
    ∀ (sps : List SpreadNode), StepLoud (withinLoop env fc (getFieldsAndFragmentNames env.s env.l parent sels).1 sps)
      ((∃ sp ∈ sps, Holds env (.chain false parent sels sp)) ∨
        (∃ sa sb, [sa, sb].Sublist sps ∧ Holds env (.check false sa sb)))
  | [] => StepLoud.ret
  | sa :: rest => by
    rw [withinLoop_cons]
    refine ((chain_holds hfc false parent sels _ sa).seq3 (StepLoud.loop fun sb _ => check_holds hfc false _ sa sb)
      (withinLoop_holds hfc parent sels rest)).imp ?_
    rintro ((hh | ⟨sb, hsb, hh⟩) | ⟨sp, hsp, hh⟩ | ⟨x, y, hs, hh⟩)
    · exact Or.inl ⟨sa, List.mem_cons_self .., hh⟩
    · exact Or.inr ⟨sa, sb, List.Sublist.cons_cons _ (List.singleton_sublist.2 hsb), hh⟩
    · exact Or.inl ⟨sp, List.mem_cons_of_mem _ hsp, hh⟩
    · exact Or.inr ⟨x, y, hs.trans (List.sublist_cons_self _ _), hh⟩

theorem top_holds {env : Env} {fc : FC} (hfc : FCHolds env fc) (parent : Option Definition) (sels : Selections)
    (st : OSt) (r : OSt × List Conflict) (h : findConflictsWithinSelectionSet env fc parent sels st = some r)
    (hne : r.2 ≠ []) : TopHolds env parent sels := by
  rw [within_top_eq] at h
  split at h
  · injection h with h
    subst h
    exact absurd rfl hne
  · exact ((within_holds hfc _).seq (withinLoop_holds hfc parent sels _)) _ _ h hne

theorem overlapRun_holds (s : SV) (d : QueryDoc) (l : Links) (parent : Option Definition) (sels : Selections)
    (st : OSt) (r : OSt × List Conflict) (h : overlapRun s d l parent sels st = some r) (hne : r.2 ≠ []) :
    TopHolds (overlapEnv s d l) parent sels := by
  unfold overlapRun at h
  simp only at h
  exact top_holds (fcLevel_holds _ _) parent sels st r h hne

end Gql.Validate
