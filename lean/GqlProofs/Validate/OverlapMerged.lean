import GqlProofs.Validate.OverlapFlatList
import GqlProofs.Validate.OverlapFlat
/-
  `Spec.mergedSet` of two document fields as a list of collected fields (`mergedSet_mirror`): the first
  part lists what is reachable from the first field's sub-selection, the second part what is
  reachable from the second's and was not visited before.
-/
namespace Gql.Validate
open Gql Gql.Validate.Rules

/-- the two parts of `Spec.mergedSet` -/
def mergedA (s : Schema) (d : QueryDoc) (l : Links) (a : FInfo) : List FInfo × List Name :=
  flatLevel s.view l d (d.frags.length + 1) (a.next s.view) a.node.sel []

def mergedB (s : Schema) (d : QueryDoc) (l : Links) (a b : FInfo) : List FInfo × List Name :=
  flatLevel s.view l d (d.frags.length + 1) (b.next s.view) b.node.sel (mergedA s d l a).2

section
variable {s : Schema} {d : QueryDoc} {l : Links} (H : OvHyps s d)
include H

theorem mergedSet_mirror {a b : FInfo} (ha : DocF s d l a) (hb : DocF s d l b) :
    Spec.mergedSet s d (toM a) (toM b) = ((mergedA s d l a).1 ++ (mergedB s d l a b).1).map toM := by
  rw [mergedSet_eq H ha hb, collectLevel_mirror s d l]
  simp only
  rw [collectLevel_mirror s d l]
  simp only [mergedA, mergedB, List.map_append]

end

section
variable (s : Schema) (d : QueryDoc) (l : Links)

theorem mergedA_sound {a x : FInfo} (h : x ∈ (mergedA s d l a).1) : RFld s.view l d (a.next s.view) a.node.sel x :=
  flatLevel_sound s.view l d _ _ _ _ x h

theorem mergedB_sound {a b x : FInfo} (h : x ∈ (mergedB s d l a b).1) : RFld s.view l d (b.next s.view) b.node.sel x :=
  flatLevel_sound s.view l d _ _ _ _ x h

theorem mergedA_complete {a x : FInfo} (h : RFld s.view l d (a.next s.view) a.node.sel x) : x ∈ (mergedA s d l a).1 :=
  flatSet_complete s d l _ _ h

theorem mergedA_own (a : FInfo) : (collectFields s.view l (a.next s.view) a.node.sel).Sublist (mergedA s d l a).1 :=
  flatSels_own s.view l d _ _ _ _

theorem mergedB_own (a b : FInfo) : (collectFields s.view l (b.next s.view) b.node.sel).Sublist (mergedB s d l a b).1 :=
  flatSels_own s.view l d _ _ _ _

theorem mergedB_complete {a b y : FInfo} (h : RFld s.view l d (b.next s.view) b.node.sel y) :
    y ∈ (mergedA s d l a).1 ++ (mergedB s d l a b).1 := by
  obtain ⟨hc1, _⟩ := flatLevel_complete s.view l d (d.frags.length + 1) (a.next s.view) a.node.sel []
    (by have := unvisited_le_length d []; omega)
  obtain ⟨hc2, hown2⟩ := flatLevel_complete s.view l d (d.frags.length + 1) (b.next s.view) b.node.sel (mergedA s d l a).2
    (by have := unvisited_le_length d (mergedA s d l a).2; omega)
  rcases h with h | ⟨n, F, hr, hF, hf⟩
  · exact List.mem_append_right _ (hown2 y h)
  · have hclosed : ∀ m ∈ (mergedA s d l a).2, ∀ G, fragForName d m = some G →
        ∀ sp ∈ collectSpreads G.sel, sp.name ∈ (mergedA s d l a).2 :=
      fun m hm G hG sp hsp => (hc1.new m hm (fun h0 => by cases h0) G hG).2 sp hsp
    have hn := hc2.reach hclosed n hr
    by_cases hv : n ∈ (mergedA s d l a).2
    · exact List.mem_append_left _ ((hc1.new n hv (fun h0 => by cases h0) F hF).1 y hf)
    · exact List.mem_append_right _ ((hc2.new n hn hv F hF).1 y hf)

end

theorem sublist_pair_of_mem {α : Type} {x y : α} (hne : x ≠ y) {l : List α} (hx : x ∈ l) (hy : y ∈ l) :
    [x, y].Sublist l ∨ [y, x].Sublist l :=
  List.Pairwise.forall_of_forall_of_flip (R := fun a b => a ≠ b → [a, b].Sublist l ∨ [b, a].Sublist l)
    (fun _ _ h => absurd rfl h) (List.pairwise_iff_forall_sublist.2 fun h _ => Or.inl h)
    (List.pairwise_iff_forall_sublist.2 fun h _ => Or.inr h) hx hy hne

end Gql.Validate
