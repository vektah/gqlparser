import GqlProofs.Validate.OverlapWalk
import GqlProofs.Validate.OverlapSafe
import GqlProofs.ValSpec.UnusedFragments
import GqlProofs.Validate.OverlapFlatSpec
/-
  OverlappingFieldsCanBeMerged, the run: `validate [rule]` reports nothing iff every observer call
  does (`validate_overlap_nil`); the observer calls are about the selection sets of
  `Spec.docSets` — every call is about one of them (`eventSet_sound`) and every one of them has a
  call (`eventSet_complete`, for documents all of whose fragments are reachable from an
  operation).
-/
namespace Gql.Validate
open Gql Gql.Validate.Rules

abbrev SilentRun (s : SV) (d : QueryDoc) (st : OSt) (evs : List Event) : Prop :=
  runAll s d [⟨overlappingFieldsCanBeMerged, st⟩] evs = .ok []

theorem validate_overlap_nil (s : Schema) (d : QueryDoc) (evs : List Event) (hw : walkDoc s.view d = some evs) :
    validate [overlappingFieldsCanBeMerged] s d = .ok [] ↔ SilentRun s.view d OSt.init evs :=
  validate_single_nil_iff overlappingFieldsCanBeMerged s d evs hw

theorem eventSet_linked (s : SV) (d : QueryDoc) {e : Event} (hl : EvLinked d e) {p : Option Definition} {sels : Selections}
    (h : eventSet s e = some (p, sels)) : LinkedAll e.links d sels := by
  unfold eventSet at h
  unfold EvLinked at hl
  cases hp : e.p with
  | operation op u => simp only [hp] at h hl; injection h with h; injection h with _ h; subst h; exact hl
  | field f par dfn =>
    simp only [hp] at h hl
    split at h
    · cases h
    · injection h with h; injection h with _ h; subst h; exact hl
  | inlineFragment f par => simp only [hp] at h hl; injection h with h; injection h with _ h; subst h; exact hl
  | fragment f dfn => simp only [hp] at h hl; injection h with h; injection h with _ h; subst h; exact hl
  | _ => simp [hp] at h

theorem docSets_op {s : Schema} {d : QueryDoc} {op : OperationDef} (h : op ∈ d.ops) :
    (⟨Spec.rootDef s op.op, op.sel⟩ : Spec.TSet) ∈ Spec.docSets s d := by
  simp only [Spec.docSets, List.mem_append, List.mem_map]
  exact Or.inl (Or.inl ⟨op, h, rfl⟩)

theorem docSets_frag {s : Schema} {d : QueryDoc} {f : FragmentDef} (h : f ∈ d.frags) :
    (⟨s.type? f.typeCond, f.sel⟩ : Spec.TSet) ∈ Spec.docSets s d := by
  simp only [Spec.docSets, List.mem_append, List.mem_map]
  exact Or.inl (Or.inr ⟨f, h, rfl⟩)

theorem docSets_field {s : Schema} {d : QueryDoc} {p : Option Definition} {al nm : Name} {args : List Argument}
    {dirs : List Directive} {sub : Selections} {pos : Pos}
    (h : (⟨p, .field al nm args dirs sub pos⟩ : Spec.TSel) ∈ Spec.docSels s d) :
    (⟨Spec.fieldType s p nm, sub⟩ : Spec.TSet) ∈ Spec.docSets s d := by
  simp only [Spec.docSets, List.mem_append, List.mem_filterMap]
  exact Or.inr ⟨_, h, rfl⟩

theorem docSets_inline {s : Schema} {d : QueryDoc} {p : Option Definition} {tc : Name}
    {dirs : List Directive} {sub : Selections} {pos : Pos}
    (h : (⟨p, .inline tc dirs sub pos⟩ : Spec.TSel) ∈ Spec.docSels s d) :
    (⟨Spec.inlineType s p tc, sub⟩ : Spec.TSet) ∈ Spec.docSets s d := by
  simp only [Spec.docSets, List.mem_append, List.mem_filterMap]
  exact Or.inr ⟨_, h, rfl⟩

theorem docSets_cases {s : Schema} {d : QueryDoc} {t : Spec.TSet} (ht : t ∈ Spec.docSets s d) :
    (∃ op ∈ d.ops, t = ⟨Spec.rootDef s op.op, op.sel⟩) ∨ (∃ f ∈ d.frags, t = ⟨s.type? f.typeCond, f.sel⟩) ∨
    (∃ p al nm args dirs sub pos, (⟨p, .field al nm args dirs sub pos⟩ : Spec.TSel) ∈ Spec.docSels s d ∧
      t = ⟨Spec.fieldType s p nm, sub⟩) ∨
    (∃ p tc dirs sub pos, (⟨p, .inline tc dirs sub pos⟩ : Spec.TSel) ∈ Spec.docSels s d ∧
      t = ⟨Spec.inlineType s p tc, sub⟩) := by
  simp only [Spec.docSets, List.mem_append, List.mem_map, List.mem_filterMap] at ht
  rcases ht with (⟨op, hop, rfl⟩ | ⟨f, hf, rfl⟩) | ⟨⟨par, y⟩, hx, hsome⟩
  · exact Or.inl ⟨op, hop, rfl⟩
  · exact Or.inr (Or.inl ⟨f, hf, rfl⟩)
  · cases y with
    | spread nm dirs pos => simp at hsome
    | field al nm args dirs sub pos =>
      simp only [Option.some.injEq] at hsome
      exact Or.inr (Or.inr (Or.inl ⟨par, al, nm, args, dirs, sub, pos, hx, hsome.symm⟩))
    | inline tc dirs sub pos =>
      simp only [Option.some.injEq] at hsome
      exact Or.inr (Or.inr (Or.inr ⟨par, tc, dirs, sub, pos, hx, hsome.symm⟩))

section
variable (s : Schema) (d : QueryDoc) (evs : List Event) (hw : walkDoc s.view d = some evs)
  (hwp : Spec.wellParented s d = true)
include hw hwp

theorem eventSet_sound (e : Event) (he : e ∈ evs) (p : Option Definition) (sels : Selections)
    (h : eventSet s.view e = some (p, sels)) : (⟨p, sels⟩ : Spec.TSet) ∈ Spec.docSets s d := by
  unfold eventSet at h
  cases hp : e.p with
  | operation op u =>
    simp only [hp, Option.some.injEq, Prod.mk.injEq] at h
    obtain ⟨rfl, rfl⟩ := h
    rw [opRoot_def]
    exact docSets_op ((operation_event_iff s.view d evs hw op).1 ⟨e, he, u, hp⟩)
  | field f par dfn =>
    obtain ⟨hmem, h2⟩ := walk_parent_type s d evs hw hwp e he f par dfn hp
    simp only [hp] at h
    split at h
    · cases h
    · injection h with h
      injection h with h1 h3
      subst h1 h3 h2
      exact docSets_field hmem
  | inlineFragment f par =>
    simp only [hp, Option.some.injEq, Prod.mk.injEq] at h
    obtain ⟨rfl, rfl⟩ := h
    rw [inlineNext_eq]
    exact docSets_inline (inline_parent_type s d evs hw hwp e he f par hp)
  | fragment f dfn =>
    obtain ⟨hf, hd⟩ := (fragment_event_iff s.view d evs hw f dfn).1 ⟨e, he, hp⟩
    simp only [hp, Option.some.injEq, Prod.mk.injEq] at h
    obtain ⟨rfl, rfl⟩ := h
    rw [hd]
    exact docSets_frag hf
  | _ => simp [hp] at h

variable (hu : Spec.fragmentNameUniqueness d = true) (hac : Acyclic d) (hused : Spec.fragmentsMustBeUsed d = true)
include hu hac hused

theorem eventSet_complete (t : Spec.TSet) (ht : t ∈ Spec.docSets s d) :
    ∃ e ∈ evs, eventSet s.view e = some (t.parent, t.sels) := by
  have hwp' := wellParented_docSels hwp
  have hnd : (d.frags.map (·.name)).Nodup := (distinct_iff_nodup _).1 hu
  rcases docSets_cases ht with ⟨op, hop, rfl⟩ | ⟨f, hf, rfl⟩ | ⟨par, al, nm, args, dirs, sub, pos, hx, rfl⟩ |
    ⟨par, tc, dirs, sub, pos, hx, rfl⟩
  · obtain ⟨e, he, u, hp⟩ := (operation_event_iff s.view d evs hw op).2 hop
    refine ⟨e, he, ?_⟩
    simp only [eventSet, hp, opRoot_def]
  · obtain ⟨e, he, hp⟩ := (fragment_event_iff s.view d evs hw f _).2 ⟨hf, rfl⟩
    refine ⟨e, he, ?_⟩
    simp only [eventSet, hp]
    rfl
  · have h1 := (inDocW_iff s d hwp par _).2 hx
    -- the operation in whose scope the node lies
    have hscope : ∃ op ∈ d.ops, NodeScope s.view d (Spec.spreadsOfSels op.sel)
        (InSelsW s.view (opRoot s.view op.op).1 op.sel) par (.field al nm args dirs sub pos) := by
      rcases h1 with ⟨op, hop, hi⟩ | ⟨f, hf, hi⟩
      · exact ⟨op, hop, Or.inl hi⟩
      · obtain ⟨op, hop, hr⟩ := used_from_op hnd (fun g hg hr => hac g.name (by
          rw [fragSpreads_of_forName (fragForName_of_nodup hnd hg)]
          exact hr)) hused f hf
        exact ⟨op, hop, Or.inr ⟨f.name, f, hr, fragForName_of_nodup hnd hf, hi⟩⟩
    obtain ⟨op, hop, hns⟩ := hscope
    obtain ⟨e, he, hcur, hp⟩ := ((walkDoc_scope_complete s.view d evs hw op hop).nodes _ _ hns).1
    refine ⟨e, he, ?_⟩
    have e1 := wNext_eq s par al nm args dirs sub pos (hwp' _ hx)
    unfold wNext at e1
    simp only [eventSet, hp, hcur, Option.isNone_some, Bool.false_eq_true, if_false, e1]
  · obtain ⟨e, he, hp⟩ := node_event_complete s d evs hw hwp _ hx
    refine ⟨e, he, ?_⟩
    simp only [eventSet, hp, inlineNext_eq]
end

end Gql.Validate
