import GqlProofs.Validate.OverlapWalk
import GqlProofs.Validate.OverlapCollect
/-
  OverlappingFieldsCanBeMerged: what "everything reachable from the selection set is linked"
  (`LinkedAll`) passes on to the collected fields and spreads (`LinkedAll.sub`, `LinkedAll.spread`),
  and the collectors under two link tables that agree on the nodes of the selection set
  (`collectFields_congr`).
-/
namespace Gql.Validate
open Gql Gql.Validate.Rules


theorem LinkedAll.sub {s : SV} {l l0 : Links} {d : QueryDoc} {sels : Selections} {p : Option Definition} {f : FInfo}
    (h : LinkedAll l d sels) (hf : f ∈ collectFields s l0 p sels) : LinkedAll l d f.node.sel := by
  have hin := collectFields_inSels s l0 sels p f hf
  constructor
  · intro y hy
    exact h.1 y (inSels_trans sels _ _ hin (InSel.fieldSub _ _ _ _ _ _ _ hy))
  · intro n g hr hg y hy
    exact h.2 n g (hr.mono (collectFields_spreads s l0 sels p f hf)) hg y hy

theorem LinkedAll.self_linked {s : SV} {l l0 : Links} {d : QueryDoc} {sels : Selections} {p : Option Definition} {f : FInfo}
    (h : LinkedAll l d sels) (hf : f ∈ collectFields s l0 p sels) : l.linked f.node.pos.start = true :=
  h.1 _ (collectFields_inSels s l0 sels p f hf)

theorem LinkedAll.spread {l : Links} {d : QueryDoc} {sels : Selections} {sp : SpreadNode}
    (h : LinkedAll l d sels) (hsp : sp ∈ collectSpreads sels) :
    l.linked sp.pos.start = true ∧ ∀ F, fragForName d sp.name = some F → LinkedAll l d F.sel := by
  refine ⟨h.1 _ (collectSpreads_inSels sels sp hsp), fun F hF => ⟨fun y hy => ?_, fun n g hr hg y hy => ?_⟩⟩
  · exact h.2 sp.name F (Reach.base (collectSpreads_names sels sp hsp)) hF y hy
  · refine h.2 n g (Reach.trans (Reach.base (collectSpreads_names sels sp hsp)) ?_) hg y hy
    unfold Spec.fragSpreads
    rw [fragByName_eq, hF]
    exact hr

def SpreadLinked (l : Links) (d : QueryDoc) (sp : SpreadNode) : Prop :=
  l.linked sp.pos.start = true ∧ ∀ F, fragForName d sp.name = some F → LinkedAll l d F.sel


mutual
  theorem collectFields_congr (s : SV) (l l' : Links) : ∀ (sels : Selections) (p : Option Definition),
      (∀ y, InSels sels (.sel y) → l.linked (selPos y).start = l'.linked (selPos y).start) →
        collectFields s l p sels = collectFields s l' p sels
    | .nil, _, _ => rfl
    | .cons y rest, p, h => by
      simp only [collectFields]
      rw [collectFieldsSel_congr s l l' y p (fun z hz => h z (InSels.head _ _ _ hz)),
        collectFields_congr s l l' rest p (fun z hz => h z (InSels.tail _ _ _ hz))]
  theorem collectFieldsSel_congr (s : SV) (l l' : Links) : ∀ (y : Selection) (p : Option Definition),
      (∀ z, InSel y (.sel z) → l.linked (selPos z).start = l'.linked (selPos z).start) →
        collectFieldsSel s l p y = collectFieldsSel s l' p y
    | .field al nm args dirs sub pos, p, h => by
      simp only [collectFieldsSel]
      have := h _ (InSel.self _)
      simp only [selPos] at this
      rw [this]
    | .inline tc dirs sub pos, p, h => by
      simp only [collectFieldsSel]
      exact collectFields_congr s l l' sub _ (fun z hz => h z (InSel.inlineSub _ _ _ _ _ hz))
    | .spread _ _ _, _, _ => rfl
end

theorem collectFields_linked_congr (s : SV) {l l' : Links} {d : QueryDoc} {sels : Selections} (p : Option Definition)
    (h : LinkedAll l d sels) (h' : LinkedAll l' d sels) : collectFields s l p sels = collectFields s l' p sels :=
  collectFields_congr s l l' sels p (fun y hy => by rw [h.1 y hy, h'.1 y hy])

theorem spreadDef_linked {l : Links} {d : QueryDoc} {sp : SpreadNode} (h : l.linked sp.pos.start = true) :
    l.spreadDef d sp.name sp.pos = fragForName d sp.name := by
  simp [Links.spreadDef, h]

end Gql.Validate
