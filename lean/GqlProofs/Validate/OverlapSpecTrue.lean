import GqlProofs.Validate.OverlapPaths
/-
  OverlappingFieldsCanBeMerged vs. §5.3.2, completeness of the rule in the general case: if no
  selection set of the document has a derivable conflict then `FieldsInSetCanMerge` holds for every
  selection set (`mergeOK_of_noTop`, an instance of `mergeOK_of_ok`; `noTop_spec` in OverlapMain).
-/
namespace Gql.Validate
open Gql Gql.Validate.Rules

/-- node identity: the sub-selection of a field or inline fragment is not the selection set of a
    fragment definition -/
def IdsNested (s : Schema) (d : QueryDoc) : Prop :=
  ∀ t ∈ Spec.docSels s d, ∀ F ∈ d.frags, Spec.subSelectionOf t.sel ≠ .nil →
    selId (Spec.subSelectionOf t.sel) ≠ selId F.sel

section
variable {s : Schema} {d : QueryDoc} (S : SemHyps s d) (hids : IdsInj s d) (hnest : IdsNested s d) (NT : NoTop s d)
include S hids hnest NT

omit S hids NT in
theorem nested_side {x : FInfo} (hx : DocF s d (fullLinks d) x) (hne : x.node.sel ≠ .nil) {m : Name} {F : FragmentDef}
    (hF : fragForName d m = some F) : selId x.node.sel ≠ selId F.sel :=
  hnest _ hx.inDoc F (fragForName_mem hF) hne

theorem sub_of_cross {ex : Bool} {x y u v : FInfo} (hx : DocF s d (fullLinks d) x) (hy : DocF s d (fullLinks d) y)
    (hu : RFld s.view (fullLinks d) d (x.next s.view) x.node.sel u)
    (hv : RFld s.view (fullLinks d) d (y.next s.view) y.node.sel v) (hne : u ≠ v) (hrn : rnOf u = rnOf v)
    (hh : Holds (envOf s d (fullLinks d)) (.conf ex u v)) : Holds (envOf s d (fullLinks d)) (.sub ex x y) := by
  have H := S.H
  have hnx : x.node.sel ≠ .nil := rfld_ne_nil hu
  have hny : y.node.sel ≠ .nil := rfld_ne_nil hv
  have hlow : CoreBelow s d (rkTop d) := fun M hM _ u' v' hu' hv' hne' hrn' =>
    core_all S hids NT (t := ⟨s.type? M.typeCond, M.sel⟩) (docSets_frag hM) hu' hv' hne' hrn'
  have hrk : ∀ sp : SpreadNode, rkSp d sp < rkTop d := fun sp => by
    have := rkN_le d (Spec.fragSpreads d sp.name)
    unfold rkSp rkTop
    omega
  rcases cross_cases S hlow (docSets_sub H hx) (docSets_sub H hy) (fun sp _ _ _ => hrk sp) (fun sp _ _ _ => hrk sp)
      (fun _ _ _ _ _ hF => nested_side hnest hx hnx hF) (fun _ _ _ _ _ hF => nested_side hnest hy hny hF)
      hu hv hne hrn hh with
    ⟨hu, hv⟩ | ⟨sp, hsp, hc⟩ | ⟨sp, hsp, hc⟩ | ⟨sa, hsa, sb, hsb, _, hc⟩
  · exact .subFields hu hv hrn hh
  · exact .subChainB hsp hc
  · exact .subChainA hsp hc
  · exact .subCheck hsa hsb hc

def GenOk (s : Schema) (d : QueryDoc) (pe : Bool) (x y : FInfo) : Prop :=
  DocF s d (fullLinks d) x ∧ DocF s d (fullLinks d) y ∧ (x = y ∨ ¬ Holds (envOf s d (fullLinks d)) (.conf pe x y))

theorem genOk_merged {pe : Bool} {x y : FInfo} (h : GenOk s d pe x y) {u v : FInfo}
    (hs : [u, v].Sublist ((mergedA s d (fullLinks d) x).1 ++ (mergedB s d (fullLinks d) x y).1)) (hrn : rnOf u = rnOf v) :
    GenOk s d (pe || goExcl x y) u v := by
  obtain ⟨hx, hy, hxy⟩ := h
  have H := S.H
  have htx := docSets_sub H hx
  have hty := docSets_sub H hy
  have hwithin : ∀ {t : Spec.TSet}, t ∈ Spec.docSets s d → RFld s.view (fullLinks d) d t.parent t.sels u →
      RFld s.view (fullLinks d) d t.parent t.sels v → GenOk s d (pe || goExcl x y) u v := by
    intro t ht hu hv
    exact ⟨rfld_docF ht hu, rfld_docF ht hv,
      Classical.or_iff_not_imp_left.2 fun he hc => core_all S hids NT ht hu hv he hrn (holds_unflag hc)⟩
  rcases sublist_pair_append hs with h | ⟨h1, h2⟩ | h
  · exact hwithin htx (mergedA_sound s d _ (h.subset (by simp))) (mergedA_sound s d _ (h.subset (by simp)))
  · have hu := mergedA_sound s d _ h1
    have hv := mergedB_sound s d _ h2
    rcases hxy with rfl | hxy
    · exact hwithin htx hu hv
    · obtain ⟨px, hox⟩ := hx.obj_some H
      obtain ⟨py, hoy⟩ := hy.obj_some H
      exact ⟨rfld_docF htx hu, rfld_docF hty hv, Classical.or_iff_not_imp_left.2 fun he hc =>
        hxy (.sub hox hoy (sub_of_cross S hids hnest NT hx hy hu hv he hrn hc))⟩
  · exact hwithin hty (mergedB_sound s d _ (h.subset (by simp))) (mergedB_sound s d _ (h.subset (by simp)))

theorem mergeOK_of_noTop (n : Nat) {x y : FInfo} (h : GenOk s d false x y) :
    (Spec.sameResponseShape s d (n + 1) (toM x) (toM y) && mergePart s d n (toM x) (toM y)) = true :=
  mergeOK_of_ok S.H (GenOk s d) (fun h => ⟨h.1, h.2.1⟩)
    (fun h => h.2.2.imp (fun e => ⟨e, docF_argsRefl S h.1⟩) id)
    (fun h => ⟨_, mergedSet_mirror S.H h.1 h.2.1, genOk_merged S hids hnest NT h⟩) n h

end

end Gql.Validate
