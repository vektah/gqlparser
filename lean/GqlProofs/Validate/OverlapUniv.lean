import GqlProofs.Validate.OverlapFMap
/-
  OverlappingFieldsCanBeMerged: the universe of field nodes one observer call can reach, and the
  SIZES the cost argument is stated in.

  `nodeSize f = 1 + countNodes f.sel` (field and spread nodes at and below the field `f`);
  the fields collected from a selection set together with the spreads collected from it account
  for exactly its nodes (`collect_size`): every node of the selection set is a spread collected
  from it (through inline fragments) or lies at/below exactly one collected field.
-/
namespace Gql.Validate
open Gql Gql.Validate.Rules

mutual
  /-- `(pos.start, sub-selection)` of every field node of a selection set, at any depth -/
  def allFields : Selections → List (Nat × Selections)
    | .nil => []
    | .cons x rest => allFieldsSel x ++ allFields rest
  def allFieldsSel : Selection → List (Nat × Selections)
    | .field _ _ _ _ sub p => (p.start, sub) :: allFields sub
    | .inline _ _ sub _ => allFields sub
    | .spread _ _ _ => []
end

mutual
  theorem length_allFields : ∀ sels : Selections, (allFields sels).length = countFields sels
    | .nil => rfl
    | .cons x rest => by
      simp only [allFields, countFields, List.length_append, length_allFieldsSel x, length_allFields rest]
  theorem length_allFieldsSel : ∀ x : Selection, (allFieldsSel x).length = countFieldsSel x
    | .field _ _ _ _ sub _ => by simp only [allFieldsSel, countFieldsSel, List.length_cons, length_allFields sub]
    | .inline _ _ sub _ => by simp only [allFieldsSel, countFieldsSel, length_allFields sub]
    | .spread _ _ _ => rfl
end

mutual
  theorem allFields_sub : ∀ (sels : Selections) (k : Nat) (sub : Selections), (k, sub) ∈ allFields sels →
      ∀ x ∈ allFields sub, x ∈ allFields sels
    | .nil, _, _, h, _, _ => by simp [allFields] at h
    | .cons y rest, k, sub, h, x, hx => by
      simp only [allFields, List.mem_append] at h ⊢
      rcases h with h | h
      · exact Or.inl (allFieldsSel_sub y k sub h x hx)
      · exact Or.inr (allFields_sub rest k sub h x hx)
  theorem allFieldsSel_sub : ∀ (y : Selection) (k : Nat) (sub : Selections), (k, sub) ∈ allFieldsSel y →
      ∀ x ∈ allFields sub, x ∈ allFieldsSel y
    | .field _ _ _ _ sub0 p, k, sub, h, x, hx => by
      simp only [allFieldsSel, List.mem_cons] at h ⊢
      rcases h with h | h
      · injection h with _ h2
        subst h2
        exact Or.inr hx
      · exact Or.inr (allFields_sub sub0 k sub h x hx)
    | .inline _ _ sub0 _, k, sub, h, x, hx => by
      simp only [allFieldsSel] at h ⊢
      exact allFields_sub sub0 k sub h x hx
    | .spread _ _ _, _, _, h, _, _ => by simp [allFieldsSel] at h
end

mutual
  theorem collectFields_mem (s : SV) (l : Links) : ∀ (sels : Selections) (parent : Option Definition) (f : FInfo),
      f ∈ collectFields s l parent sels → (f.key, f.node.sel) ∈ allFields sels
    | .nil, _, _, h => by simp [collectFields] at h
    | .cons y rest, parent, f, h => by
      simp only [collectFields, allFields, List.mem_append] at h ⊢
      rcases h with h | h
      · exact Or.inl (collectFieldsSel_mem s l y parent f h)
      · exact Or.inr (collectFields_mem s l rest parent f h)
  theorem collectFieldsSel_mem (s : SV) (l : Links) : ∀ (y : Selection) (parent : Option Definition) (f : FInfo),
      f ∈ collectFieldsSel s l parent y → (f.key, f.node.sel) ∈ allFieldsSel y
    | .field _ _ _ _ sub p, parent, f, h => by
      simp only [collectFieldsSel, List.mem_singleton] at h
      subst h
      simp [allFieldsSel, FInfo.key]
    | .inline tc _ sub _, parent, f, h => by
      simp only [collectFieldsSel, allFieldsSel] at h ⊢
      exact collectFields_mem s l sub _ f h
    | .spread _ _ _, _, _, h => by simp [collectFieldsSel] at h
end

abbrev Univ := List (Nat × Selections)

/-- the field nodes one top-level call on `sels` can reach -/
def univOf (d : QueryDoc) (sels : Selections) : Univ :=
  allFields sels ++ d.frags.flatMap fun f => allFields f.sel

theorem length_fragFields (fs : List FragmentDef) :
    (fs.flatMap fun f => allFields f.sel).length = sumNat (fs.map fun f => countFields f.sel) := by
  induction fs with
  | nil => rfl
  | cons f rest ih =>
    simp only [List.flatMap_cons, List.length_append, List.map_cons, sumNat, List.foldr_cons, length_allFields] at ih ⊢
    rw [ih]

theorem length_univOf (d : QueryDoc) (sels : Selections) : (univOf d sels).length = reachableFieldCount d sels := by
  simp only [univOf, List.length_append, length_allFields, length_fragFields, reachableFieldCount, fragFieldCount]

def UClosed (U : Univ) : Prop := ∀ k sub, (k, sub) ∈ U → ∀ x ∈ allFields sub, x ∈ U

def UFrags (d : QueryDoc) (U : Univ) : Prop := ∀ f ∈ d.frags, ∀ x ∈ allFields f.sel, x ∈ U

theorem univOf_closed (d : QueryDoc) (sels : Selections) : UClosed (univOf d sels) := by
  intro k sub h x hx
  simp only [univOf, List.mem_append, List.mem_flatMap] at h ⊢
  rcases h with h | ⟨f, hf, h⟩
  · exact Or.inl (allFields_sub sels k sub h x hx)
  · exact Or.inr ⟨f, hf, allFields_sub f.sel k sub h x hx⟩

theorem univOf_frags (d : QueryDoc) (sels : Selections) : UFrags d (univOf d sels) := by
  intro f hf x hx
  simp only [univOf, List.mem_append, List.mem_flatMap]
  exact Or.inr ⟨f, hf, hx⟩

def Good (U : Univ) (f : FInfo) : Prop := (f.key, f.node.sel) ∈ U

def GoodK (U : Univ) (k : Name) (f : FInfo) : Prop := Good U f ∧ responseName f.node = k

def GoodMapK (U : Univ) (A : FMap) : Prop := ∀ e ∈ A, ∀ f ∈ e.2, GoodK U e.1 f

theorem goodMapK_get {U : Univ} {B : FMap} (hB : GoodMapK U B) {rn : Name} {fs : List FInfo}
    (h : fmGet B rn = some fs) : ∀ f ∈ fs, GoodK U rn f :=
  fun f hf => hB (rn, fs) (mem_of_lookup h) f hf

theorem goodMapK_collect {U : Univ} (s : SV) (l : Links) (parent : Option Definition) (sels : Selections)
    (h : ∀ x ∈ allFields sels, x ∈ U) : GoodMapK U (getFieldsAndFragmentNames s l parent sels).1.map := by
  unfold getFieldsAndFragmentNames
  exact fmOfList_allK (GoodK U) _ fun f hf => ⟨h _ (collectFields_mem s l sels parent f hf), rfl⟩

theorem goodMapK_sub {U : Univ} (hcl : UClosed U) (s : SV) (l : Links) (parent : Option Definition) {a : FInfo}
    (ha : Good U a) : GoodMapK U (getFieldsAndFragmentNames s l parent a.node.sel).1.map :=
  goodMapK_collect s l parent a.node.sel (hcl _ _ ha)

theorem goodMapK_frag {U : Univ} (env : Env) (hfr : UFrags env.d U) {f : FragmentDef} (hf : f ∈ env.d.frags) :
    GoodMapK U (env.fragFields f).1.map := by
  unfold Env.fragFields
  exact goodMapK_collect _ _ _ f.sel (hfr f hf)

def nodeSize (f : FInfo) : Nat := countNodes f.node.sel + 1

def listSize (fs : List FInfo) : Nat := sumNat (fs.map nodeSize)

def mapSize (A : FMap) : Nat := sumNat (A.map fun e => listSize e.2)

theorem sumNat_cons (x : Nat) (l : List Nat) : sumNat (x :: l) = x + sumNat l := rfl

theorem sumNat_append (a b : List Nat) : sumNat (a ++ b) = sumNat a + sumNat b := by
  induction a with
  | nil => simp [sumNat]
  | cons x rest ih => simp only [List.cons_append, sumNat_cons, ih]; omega

theorem sumNat_map_mul_left {α : Type} (c : Nat) (f : α → Nat) : ∀ l : List α,
    sumNat (l.map fun x => c * f x) = c * sumNat (l.map f)
  | [] => rfl
  | x :: l => by simp only [List.map_cons, sumNat_cons, sumNat_map_mul_left c f l, Nat.mul_add]

theorem sumNat_map_mul_right {α : Type} (f : α → Nat) (c : Nat) : ∀ l : List α,
    sumNat (l.map fun x => f x * c) = sumNat (l.map f) * c
  | [] => (Nat.zero_mul c).symm
  | x :: l => by simp only [List.map_cons, sumNat_cons, sumNat_map_mul_right f c l, Nat.add_mul]

theorem sumNat_map_const {α : Type} (c : Nat) : ∀ l : List α, sumNat (l.map fun _ => c) = l.length * c
  | [] => (Nat.zero_mul c).symm
  | x :: l => by simp only [List.map_cons, sumNat_cons, sumNat_map_const c l, List.length_cons, Nat.add_mul]; omega

theorem sumNat_mem {x : Nat} : ∀ {l : List Nat}, x ∈ l → x ≤ sumNat l
  | y :: rest, h => by
    rw [sumNat_cons]
    rcases List.mem_cons.1 h with rfl | h
    · omega
    · have := sumNat_mem h; omega

theorem listSize_nil : listSize [] = 0 := rfl
theorem listSize_cons (f : FInfo) (fs : List FInfo) : listSize (f :: fs) = nodeSize f + listSize fs := rfl
theorem listSize_append (a b : List FInfo) : listSize (a ++ b) = listSize a + listSize b := by
  simp only [listSize, List.map_append, sumNat_append]
theorem mapSize_nil : mapSize [] = 0 := rfl
theorem mapSize_cons (e : Name × List FInfo) (A : FMap) : mapSize (e :: A) = listSize e.2 + mapSize A := rfl

theorem nodeSize_pos (f : FInfo) : 1 ≤ nodeSize f := by unfold nodeSize; omega

theorem listSize_mem {f : FInfo} : ∀ {fs : List FInfo}, f ∈ fs → nodeSize f ≤ listSize fs :=
  fun h => sumNat_mem (List.mem_map.2 ⟨f, h, rfl⟩)

theorem mapSize_mem {e : Name × List FInfo} : ∀ {A : FMap}, e ∈ A → listSize e.2 ≤ mapSize A :=
  fun h => sumNat_mem (List.mem_map.2 ⟨e, h, rfl⟩)

theorem mapSize_get {B : FMap} {rn : Name} {fs : List FInfo} (h : fmGet B rn = some fs) : listSize fs ≤ mapSize B :=
  mapSize_mem (e := (rn, fs)) (mem_of_lookup h)

theorem mapSize_fmPush (rn : Name) (f : FInfo) : ∀ m : FMap, mapSize (fmPush rn f m) = mapSize m + nodeSize f
  | [] => by simp [fmPush, mapSize, listSize, sumNat]
  | (k, fs) :: rest => by
    simp only [fmPush]
    split
    · simp only [mapSize_cons, listSize_append, listSize_cons, listSize_nil]; omega
    · simp only [mapSize_cons, mapSize_fmPush rn f rest]; omega

theorem mapSize_fmOfList (fs : List FInfo) : mapSize (fmOfList fs) = listSize fs := by
  unfold fmOfList
  suffices h : ∀ (fs : List FInfo) (m : FMap),
      mapSize (fs.foldl (fun m f => fmPush (responseName f.node) f m) m) = mapSize m + listSize fs by
    have := h fs []
    simpa [mapSize_nil] using this
  intro fs
  induction fs with
  | nil => intro m; simp [listSize_nil]
  | cons f rest ih =>
    intro m
    simp only [List.foldl_cons, ih, mapSize_fmPush, listSize_cons]
    omega

mutual
  theorem collect_size (s : SV) (l : Links) : ∀ (sels : Selections) (parent : Option Definition),
      listSize (collectFields s l parent sels) + (collectSpreads sels).length = countNodes sels
    | .nil, _ => rfl
    | .cons x rest, parent => by
      simp only [collectFields, collectSpreads, countNodes, listSize_append, List.length_append]
      have h1 := collectSel_size s l x parent
      have h2 := collect_size s l rest parent
      omega
  theorem collectSel_size (s : SV) (l : Links) : ∀ (x : Selection) (parent : Option Definition),
      listSize (collectFieldsSel s l parent x) + (collectSpreadsSel x).length = countNodesSel x
    | .field _ _ _ _ sub _, _ => by
      simp [collectFieldsSel, collectSpreadsSel, countNodesSel, listSize_cons, listSize_nil, nodeSize]
    | .inline tc _ sub _, parent => by
      simp only [collectFieldsSel, collectSpreadsSel, countNodesSel]
      exact collect_size s l sub _
    | .spread _ _ _, _ => by
      simp [collectFieldsSel, collectSpreadsSel, countNodesSel, listSize_nil]
end

theorem getFields_size (s : SV) (l : Links) (parent : Option Definition) (sels : Selections) :
    mapSize (getFieldsAndFragmentNames s l parent sels).1.map + (getFieldsAndFragmentNames s l parent sels).2.length
      = countNodes sels := by
  simp only [getFieldsAndFragmentNames, mapSize_fmOfList]
  exact collect_size s l sels parent

mutual
  theorem allFields_nodes : ∀ (sels : Selections) (k : Nat) (sub : Selections), (k, sub) ∈ allFields sels →
      countNodes sub + 1 ≤ countNodes sels
    | .nil, _, _, h => by simp [allFields] at h
    | .cons y rest, k, sub, h => by
      simp only [allFields, List.mem_append] at h
      simp only [countNodes]
      rcases h with h | h
      · have := allFieldsSel_nodes y k sub h; omega
      · have := allFields_nodes rest k sub h; omega
  theorem allFieldsSel_nodes : ∀ (y : Selection) (k : Nat) (sub : Selections), (k, sub) ∈ allFieldsSel y →
      countNodes sub + 1 ≤ countNodesSel y
    | .field _ _ _ _ sub0 p, k, sub, h => by
      simp only [allFieldsSel, List.mem_cons] at h
      simp only [countNodesSel]
      rcases h with h | h
      · injection h with _ h2
        subst h2
        omega
      · have := allFields_nodes sub0 k sub h; omega
    | .inline _ _ sub0 _, k, sub, h => by
      simp only [allFieldsSel] at h
      simp only [countNodesSel]
      exact allFields_nodes sub0 k sub h
    | .spread _ _ _, _, _, h => by simp [allFieldsSel] at h
end

theorem frag_nodes_le (d : QueryDoc) {f : FragmentDef} (hf : f ∈ d.frags) : countNodes f.sel ≤ fragNodeCount d :=
  sumNat_mem (List.mem_map.2 ⟨f, hf, rfl⟩)

theorem univOf_nodes (d : QueryDoc) (sels : Selections) {k : Nat} {sub : Selections} (h : (k, sub) ∈ univOf d sels) :
    countNodes sub + 1 ≤ reachableNodeCount d sels := by
  simp only [univOf, List.mem_append, List.mem_flatMap] at h
  unfold reachableNodeCount
  rcases h with h | ⟨f, hf, h⟩
  · have := allFields_nodes sels k sub h; omega
  · have h1 := allFields_nodes f.sel k sub h
    have h2 := frag_nodes_le d hf
    omega

end Gql.Validate
