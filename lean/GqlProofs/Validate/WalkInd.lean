import GqlProofs.ValSpec.ValueWalk
/-
  The walker as seen by proofs.  A statement about the events (or the state) of a walk is proved by
  saying what it means for one selection (`MS`) and for a selection set (`ML`) and checking the six
  places where `walkSelection` / `walkSelections` build their result (`WalkCases`, `walkSelection_induct`,
  `walkSelections_induct`); the jump
  into a fragment definition is a hypothesis about the jump function, discharged level by level
  (`walkLevel_induct`).  Operations, fragment definitions and the document are unfolded once here
  (`walkOperation_inv`, `walkFragment_inv`, `walkDoc_fold`, `walkDoc_op_events`, `walkDoc_frag_events`).
-/
namespace Gql.Validate
open Gql

theorem walkValue_visited (s : SV) (cur : Option OperationDef) (exp : Option GType) (dfn : Option Definition) :
    ∀ (v : Value) (ws : WS), (walkValue s cur exp dfn v ws).1.visited = ws.visited :=
  fun v ws => by rw [walkValue_emit]; exact emit_visited cur _ ws

theorem walkObjChildren_visited (s : SV) (cur : Option OperationDef) (dfn : Option Definition) :
    ∀ (ch : Children) (ws : WS), (walkObjChildren s cur dfn ch ws).1.visited = ws.visited :=
  fun ch ws => by rw [walkObjChildren_emit]; exact emit_visited cur _ ws

theorem walkListChildren_visited (s : SV) (cur : Option OperationDef) (exp : Option GType) (dfn : Option Definition) :
    ∀ (ch : Children) (ws : WS), (walkListChildren s cur exp dfn ch ws).1.visited = ws.visited :=
  fun ch ws => by rw [walkListChildren_emit]; exact emit_visited cur _ ws

theorem walkArgs_visited (s : SV) (cur : Option OperationDef) (ad : Option (List ArgDef)) :
    ∀ (as : List Argument) (ws : WS), (walkArgs s cur ad as ws).1.visited = ws.visited :=
  fun as ws => by rw [walkArgs_emit]; exact emit_visited cur _ ws

theorem walkDirectiveItems_visited (s : SV) (cur : Option OperationDef) (parent : Option Definition) (loc : Bytes) :
    ∀ (ds : List Directive) (ws : WS), (walkDirectiveItems s cur parent loc ds ws).1.visited = ws.visited
  | [], ws => rfl
  | dir :: rest, ws => by
    simp only [walkDirectiveItems]
    rw [walkDirectiveItems_visited s cur parent loc rest, walkArgs_visited]

theorem walkDirectives_visited (s : SV) (cur : Option OperationDef) (parent : Option Definition) (ds : List Directive)
    (loc : Bytes) (ws : WS) : (walkDirectives s cur parent ds loc ws).1.visited = ws.visited := by
  simp only [walkDirectives]
  exact walkDirectiveItems_visited s cur parent loc ds ws

theorem markSel_visited (ws : WS) (n : Nat) : (ws.markSel n).visited = ws.visited := rfl

/-- `Field.Definition` as the walker computes it -/
def wFieldDef (parent : Option Definition) (nm : Name) : Option FieldDef :=
  if nm == nameTypename then some typenameDef
  else match parent with
    | some pd => fieldForName pd.fields nm
    | none => none

/-- parent definition inside the selection set of a field -/
def wNext (sv : SV) (parent : Option Definition) (nm : Name) : Option Definition :=
  (wFieldDef parent nm).bind fun fd => sv.type? fd.type.name

/-- parent definition inside an inline fragment -/
def wInline (sv : SV) (parent : Option Definition) (tc : Name) : Option Definition :=
  if tc != [] then sv.type? tc else parent

section sel
variable {s : SV} {d : QueryDoc} {cur : Option OperationDef} {J : Jump}
  {MS : Option Definition → Selection → WS → WS × List Event → Prop}
  {ML : Option Definition → Selections → WS → WS × List Event → Prop}

/-- what has to be checked of `MS` / `ML`: one clause per place where the walker returns; the
    sub-walks come with their equations, so that what is already known of them can be used.
    `field`, `inline`: mark, (arguments,) directives, the selection set, the node's own event.
    `spreadStop`: the fragment is undefined or already visited.  `spreadJump`: first visit; the
    spread's directives, the directives of the fragment DEFINITION, the jump, the spread event. -/
structure WalkCases (s : SV) (d : QueryDoc) (cur : Option OperationDef) (J : Jump)
    (MS : Option Definition → Selection → WS → WS × List Event → Prop)
    (ML : Option Definition → Selections → WS → WS × List Event → Prop) : Prop where
  field : ∀ parent al nm args dirs sub p ws r3,
    walkSelections s d cur J (wNext s parent nm) sub
      (walkDirectives s cur (wNext s parent nm) dirs locField
        (walkArgs s cur ((wFieldDef parent nm).map (·.args)) args (ws.markSel p.start)).1).1 = some r3 →
    ML (wNext s parent nm) sub
      (walkDirectives s cur (wNext s parent nm) dirs locField
        (walkArgs s cur ((wFieldDef parent nm).map (·.args)) args (ws.markSel p.start)).1).1 r3 →
    MS parent (.field al nm args dirs sub p) ws
      (r3.1, (walkArgs s cur ((wFieldDef parent nm).map (·.args)) args (ws.markSel p.start)).2 ++
        (walkDirectives s cur (wNext s parent nm) dirs locField
          (walkArgs s cur ((wFieldDef parent nm).map (·.args)) args (ws.markSel p.start)).1).2 ++ r3.2 ++
        [{ cur := cur, links := r3.1.links, p := .field ⟨al, nm, args, dirs, sub, p⟩ parent (wFieldDef parent nm) }])
  inline : ∀ parent tc dirs sub p ws r3,
    walkSelections s d cur J (wInline s parent tc) sub
      (walkDirectives s cur (wInline s parent tc) dirs locInlineFragment (ws.markSel p.start)).1 = some r3 →
    ML (wInline s parent tc) sub (walkDirectives s cur (wInline s parent tc) dirs locInlineFragment (ws.markSel p.start)).1 r3 →
    MS parent (.inline tc dirs sub p) ws
      (r3.1, (walkDirectives s cur (wInline s parent tc) dirs locInlineFragment (ws.markSel p.start)).2 ++ r3.2 ++
        [{ cur := cur, links := r3.1.links, p := .inlineFragment ⟨tc, dirs, sub, p⟩ parent }])
  spreadStop : ∀ parent nm dirs p ws,
    (∀ f, fragForName d nm = some f → f.name ∈ ws.visited) →
    MS parent (.spread nm dirs p) ws
      ((walkDirectives s cur ((fragForName d nm).bind fun f => s.type? f.typeCond) dirs locFragmentSpread (ws.markSel p.start)).1,
        (walkDirectives s cur ((fragForName d nm).bind fun f => s.type? f.typeCond) dirs locFragmentSpread (ws.markSel p.start)).2 ++
        [{ cur := cur,
           links := (walkDirectives s cur ((fragForName d nm).bind fun f => s.type? f.typeCond) dirs locFragmentSpread
             (ws.markSel p.start)).1.links,
           p := .fragmentSpread ⟨nm, dirs, p⟩ (fragForName d nm) parent }])
  spreadJump : ∀ parent nm dirs p ws f r3, fragForName d nm = some f → f.name ∉ ws.visited →
    J (s.type? f.typeCond) f.sel
      (walkDirectives s cur (s.type? f.typeCond) f.dirs locFragmentDefinition
        { (walkDirectives s cur (s.type? f.typeCond) dirs locFragmentSpread (ws.markSel p.start)).1 with
          visited := f.name :: ws.visited }).1 = some r3 →
    MS parent (.spread nm dirs p) ws
      (r3.1, (walkDirectives s cur (s.type? f.typeCond) dirs locFragmentSpread (ws.markSel p.start)).2 ++
        (walkDirectives s cur (s.type? f.typeCond) f.dirs locFragmentDefinition
          { (walkDirectives s cur (s.type? f.typeCond) dirs locFragmentSpread (ws.markSel p.start)).1 with
            visited := f.name :: ws.visited }).2 ++ r3.2 ++
        [{ cur := cur, links := r3.1.links, p := .fragmentSpread ⟨nm, dirs, p⟩ (some f) parent }])
  nil : ∀ parent ws, ML parent .nil ws (ws, [])
  cons : ∀ parent x rest ws r1 r2, walkSelection s d cur J parent x ws = some r1 →
    walkSelections s d cur J parent rest r1.1 = some r2 → MS parent x ws r1 → ML parent rest r1.1 r2 →
    ML parent (.cons x rest) ws (r2.1, r1.2 ++ r2.2)

mutual
  theorem walkSelection_induct (hc : WalkCases s d cur J MS ML) :
      ∀ (x : Selection) (parent : Option Definition) (ws : WS) r,
        walkSelection s d cur J parent x ws = some r → MS parent x ws r
    | .field al nm args dirs sub p, parent, ws, r, h => by
      unfold walkSelection at h
      simp only at h
      split at h
      · cases h
      · rename_i r3 h3
        injection h with h
        subst h
        exact hc.field parent al nm args dirs sub p ws r3 h3 (walkSelections_induct hc sub _ _ r3 h3)
    | .inline tc dirs sub p, parent, ws, r, h => by
      unfold walkSelection at h
      simp only at h
      split at h
      · cases h
      · rename_i r3 h3
        injection h with h
        subst h
        exact hc.inline parent tc dirs sub p ws r3 h3 (walkSelections_induct hc sub _ _ r3 h3)
    | .spread nm dirs p, parent, ws, r, h => by
      unfold walkSelection at h
      simp only [walkDirectives_visited, markSel_visited, List.contains_iff_mem] at h
      cases hf : fragForName d nm with
      | none =>
        rw [hf] at h
        injection h with h
        subst h
        have := hc.spreadStop parent nm dirs p ws
        rw [hf] at this
        exact this (fun f hf' => by cases hf')
      | some f =>
        rw [hf] at h
        simp only at h
        split at h
        · rename_i hv
          injection h with h
          subst h
          have := hc.spreadStop parent nm dirs p ws
          rw [hf] at this
          exact this (fun f' hf' => by cases hf'; exact hv)
        · rename_i hv
          split at h
          · cases h
          · rename_i r3 h3
            injection h with h
            subst h
            exact hc.spreadJump parent nm dirs p ws f r3 hf hv h3
  theorem walkSelections_induct (hc : WalkCases s d cur J MS ML) :
      ∀ (xs : Selections) (parent : Option Definition) (ws : WS) r,
        walkSelections s d cur J parent xs ws = some r → ML parent xs ws r
    | .nil, parent, ws, r, h => by
      simp only [walkSelections] at h
      injection h with h
      subst h
      exact hc.nil parent ws
    | .cons x rest, parent, ws, r, h => by
      unfold walkSelections at h
      split at h
      · cases h
      · rename_i r1 h1
        split at h
        · cases h
        · rename_i r2 h2
          injection h with h
          subst h
          exact hc.cons parent x rest ws r1 r2 h1 h2 (walkSelection_induct hc x parent ws r1 h1)
            (walkSelections_induct hc rest parent r1.1 r2 h2)
end

theorem walkLevel_induct
    (hc : ∀ J : Jump, (∀ parent sels ws r, J parent sels ws = some r → ML parent sels ws r) → WalkCases s d cur J MS ML) :
    ∀ (n : Nat) parent sels ws r, walkLevel s d cur n parent sels ws = some r → ML parent sels ws r
  | 0, _, _, _, _, h => by cases h
  | n + 1, parent, sels, ws, r, h => walkSelections_induct (hc _ (walkLevel_induct hc n)) sels parent ws r h

end sel

section doc
variable {s : SV} {d : QueryDoc}

theorem walkOperation_inv {fuel : Nat} {op : OperationDef} {l : Links} {r : Links × List Event}
    (h : walkOperation s d fuel op l = some r) :
    ∃ r4, walkLevel s d (some op) fuel (opRoot s op.op).1 op.sel
        (walkDirectives s (some op) (opRoot s op.op).1 op.dirs (opRoot s op.op).2
          (walkVarDefsB s (some op) op.vars { visited := [], links := l, used := [] }).1).1 = some r4 ∧
      r = (r4.1.links, walkVarDefsA s (some op) { visited := [], links := l, used := [] } op.vars ++
        (walkVarDefsB s (some op) op.vars { visited := [], links := l, used := [] }).2 ++
        (walkDirectives s (some op) (opRoot s op.op).1 op.dirs (opRoot s op.op).2
          (walkVarDefsB s (some op) op.vars { visited := [], links := l, used := [] }).1).2 ++ r4.2 ++
        [{ cur := some op, links := r4.1.links, p := .operation op (usedFlags r4.1.used op.vars []) }]) := by
  unfold walkOperation at h
  simp only at h
  split at h
  · cases h
  · rename_i r4 h4
    injection h with h
    exact ⟨r4, h4, h.symm⟩

theorem walkFragment_inv {fuel : Nat} {f : FragmentDef} {l : Links} {r : Links × List Event}
    (h : walkFragment s d fuel f l = some r) :
    ∃ r2, walkLevel s d none fuel (s.type? f.typeCond) f.sel
        (walkDirectives s none (s.type? f.typeCond) f.dirs locFragmentDefinition
          { visited := [], links := l, used := [] }).1 = some r2 ∧
      r = (r2.1.links, (walkDirectives s none (s.type? f.typeCond) f.dirs locFragmentDefinition
          { visited := [], links := l, used := [] }).2 ++ r2.2 ++
        [{ cur := none, links := r2.1.links, p := .fragment f (s.type? f.typeCond) }]) := by
  unfold walkFragment at h
  simp only at h
  split at h
  · cases h
  · rename_i r2 h2
    injection h with h
    exact ⟨r2, h2, h.symm⟩

theorem walkOps_induct {fuel : Nat} {M : List OperationDef → Links → Links × List Event → Prop}
    (nil : ∀ l, M [] l (l, []))
    (cons : ∀ op rest l r1 r2, walkOperation s d fuel op l = some r1 → M rest r1.1 r2 →
      M (op :: rest) l (r2.1, r1.2 ++ r2.2)) :
    ∀ ops l r, walkOps s d fuel ops l = some r → M ops l r
  | [], l, r, h => by
    injection h with h
    subst h
    exact nil l
  | op :: rest, l, r, h => by
    unfold walkOps at h
    split at h
    · cases h
    · rename_i r1 h1
      split at h
      · cases h
      · rename_i r2 h2
        injection h with h
        subst h
        exact cons op rest l r1 r2 h1 (walkOps_induct nil cons rest r1.1 r2 h2)

theorem walkFrags_induct {fuel : Nat} {M : List FragmentDef → Links → Links × List Event → Prop}
    (nil : ∀ l, M [] l (l, []))
    (cons : ∀ f rest l r1 r2, walkFragment s d fuel f l = some r1 → M rest r1.1 r2 →
      M (f :: rest) l (r2.1, r1.2 ++ r2.2)) :
    ∀ fs l r, walkFrags s d fuel fs l = some r → M fs l r
  | [], l, r, h => by
    injection h with h
    subst h
    exact nil l
  | f :: rest, l, r, h => by
    unfold walkFrags at h
    split at h
    · cases h
    · rename_i r1 h1
      split at h
      · cases h
      · rename_i r2 h2
        injection h with h
        subst h
        exact cons f rest l r1 r2 h1 (walkFrags_induct nil cons rest r1.1 r2 h2)

theorem walkDoc_inv {evs : List Event} (h : walkDoc s d = some evs) :
    ∃ r1 r2, walkOps s d (walkFuel d) d.ops Links.empty = some r1 ∧
      walkFrags s d (walkFuel d) d.frags r1.1 = some r2 ∧ evs = r1.2 ++ r2.2 := by
  unfold walkDoc at h
  split at h
  · cases h
  · rename_i r1 h1
    split at h
    · cases h
    · rename_i r2 h2
      injection h with h
      exact ⟨r1, r2, h1, h2, h.symm⟩

theorem walkDoc_fold {M : Links → List Event → Links → Prop} (nil : ∀ l, M l [] l)
    (append : ∀ {a b c x y}, M a x b → M b y c → M a (x ++ y) c)
    (op : ∀ op ∈ d.ops, ∀ l r, walkOperation s d (walkFuel d) op l = some r → M l r.2 r.1)
    (frag : ∀ f ∈ d.frags, ∀ l r, walkFragment s d (walkFuel d) f l = some r → M l r.2 r.1)
    {evs : List Event} (h : walkDoc s d = some evs) : ∃ l, M Links.empty evs l := by
  obtain ⟨r1, r2, h1, h2, rfl⟩ := walkDoc_inv h
  have a := walkOps_induct (M := fun ops l r => (∀ x ∈ ops, x ∈ d.ops) → M l r.2 r.1) (fun l _ => nil l)
    (fun o rest l r1 r2 ho ih hs => append (op o (hs o List.mem_cons_self) l r1 ho)
      (ih fun x hx => hs x (List.mem_cons_of_mem _ hx))) _ _ _ h1 (fun _ hx => hx)
  have b := walkFrags_induct (M := fun fs l r => (∀ x ∈ fs, x ∈ d.frags) → M l r.2 r.1) (fun l _ => nil l)
    (fun f rest l r1 r2 hf ih hs => append (frag f (hs f List.mem_cons_self) l r1 hf)
      (ih fun x hx => hs x (List.mem_cons_of_mem _ hx))) _ _ _ h2 (fun _ hx => hx)
  exact ⟨_, append a b⟩

theorem walkOps_events_mem {fuel : Nat} : ∀ {ops : List OperationDef} {l : Links} {r : Links × List Event},
    walkOps s d fuel ops l = some r →
    (∀ e ∈ r.2, ∃ op ∈ ops, ∃ l' r', walkOperation s d fuel op l' = some r' ∧ e ∈ r'.2) ∧
    (∀ op ∈ ops, ∃ l' r', walkOperation s d fuel op l' = some r' ∧ ∀ e ∈ r'.2, e ∈ r.2) :=
  fun {ops l r} => walkOps_induct
    (M := fun ops _ r => (∀ e ∈ r.2, ∃ op ∈ ops, ∃ l' r', walkOperation s d fuel op l' = some r' ∧ e ∈ r'.2) ∧
      (∀ op ∈ ops, ∃ l' r', walkOperation s d fuel op l' = some r' ∧ ∀ e ∈ r'.2, e ∈ r.2))
    (fun _ => ⟨fun _ he => (by cases he), fun _ hm => (by cases hm)⟩)
    (fun o rest l r1 r2 ho ih => by
      refine ⟨fun e he => ?_, fun op hm => ?_⟩
      · rcases List.mem_append.1 he with he | he
        · exact ⟨o, List.mem_cons_self, l, r1, ho, he⟩
        · obtain ⟨op, hop, x⟩ := ih.1 e he
          exact ⟨op, List.mem_cons_of_mem _ hop, x⟩
      · rcases List.mem_cons.1 hm with rfl | hm
        · exact ⟨l, r1, ho, fun e he => List.mem_append_left _ he⟩
        · obtain ⟨l', r', hr, hs⟩ := ih.2 op hm
          exact ⟨l', r', hr, fun e he => List.mem_append_right _ (hs e he)⟩) ops l r

theorem walkFrags_events_mem {fuel : Nat} : ∀ {fs : List FragmentDef} {l : Links} {r : Links × List Event},
    walkFrags s d fuel fs l = some r →
    (∀ e ∈ r.2, ∃ f ∈ fs, ∃ l' r', walkFragment s d fuel f l' = some r' ∧ e ∈ r'.2) ∧
    (∀ f ∈ fs, ∃ l' r', walkFragment s d fuel f l' = some r' ∧ ∀ e ∈ r'.2, e ∈ r.2) :=
  fun {fs l r} => walkFrags_induct
    (M := fun fs _ r => (∀ e ∈ r.2, ∃ f ∈ fs, ∃ l' r', walkFragment s d fuel f l' = some r' ∧ e ∈ r'.2) ∧
      (∀ f ∈ fs, ∃ l' r', walkFragment s d fuel f l' = some r' ∧ ∀ e ∈ r'.2, e ∈ r.2))
    (fun _ => ⟨fun _ he => (by cases he), fun _ hm => (by cases hm)⟩)
    (fun g rest l r1 r2 hg ih => by
      refine ⟨fun e he => ?_, fun f hm => ?_⟩
      · rcases List.mem_append.1 he with he | he
        · exact ⟨g, List.mem_cons_self, l, r1, hg, he⟩
        · obtain ⟨f, hf, x⟩ := ih.1 e he
          exact ⟨f, List.mem_cons_of_mem _ hf, x⟩
      · rcases List.mem_cons.1 hm with rfl | hm
        · exact ⟨l, r1, hg, fun e he => List.mem_append_left _ he⟩
        · obtain ⟨l', r', hr, hs⟩ := ih.2 f hm
          exact ⟨l', r', hr, fun e he => List.mem_append_right _ (hs e he)⟩) fs l r

theorem walkDoc_forall {P : Event → Prop}
    (op : ∀ op ∈ d.ops, ∀ l r, walkOperation s d (walkFuel d) op l = some r → ∀ e ∈ r.2, P e)
    (frag : ∀ f ∈ d.frags, ∀ l r, walkFragment s d (walkFuel d) f l = some r → ∀ e ∈ r.2, P e)
    {evs : List Event} (h : walkDoc s d = some evs) : ∀ e ∈ evs, P e := by
  obtain ⟨r1, r2, h1, h2, rfl⟩ := walkDoc_inv h
  intro e he
  rcases List.mem_append.1 he with he | he
  · obtain ⟨o, ho, l, r, hr, he'⟩ := (walkOps_events_mem h1).1 e he
    exact op o ho l r hr e he'
  · obtain ⟨f, hf, l, r, hr, he'⟩ := (walkFrags_events_mem h2).1 e he
    exact frag f hf l r hr e he'

theorem walkDoc_op_events {evs : List Event} (h : walkDoc s d = some evs) {op : OperationDef} (hop : op ∈ d.ops) :
    ∃ l r, walkOperation s d (walkFuel d) op l = some r ∧ ∀ e ∈ r.2, e ∈ evs := by
  obtain ⟨r1, r2, h1, _, rfl⟩ := walkDoc_inv h
  obtain ⟨l, r, hr, hs⟩ := (walkOps_events_mem h1).2 op hop
  exact ⟨l, r, hr, fun e he => List.mem_append_left _ (hs e he)⟩

theorem walkDoc_frag_events {evs : List Event} (h : walkDoc s d = some evs) {f : FragmentDef} (hf : f ∈ d.frags) :
    ∃ l r, walkFragment s d (walkFuel d) f l = some r ∧ ∀ e ∈ r.2, e ∈ evs := by
  obtain ⟨r1, r2, _, h2, rfl⟩ := walkDoc_inv h
  obtain ⟨l, r, hr, hs⟩ := (walkFrags_events_mem h2).2 f hf
  exact ⟨l, r, hr, fun e he => List.mem_append_right _ (hs e he)⟩

end doc

end Gql.Validate
