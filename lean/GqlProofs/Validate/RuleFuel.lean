import GqlProofs.Validate.NoPanic
import GqlProofs.Validate.WalkTerm
/-
  The fuelled searches inside rules never run out of fuel (so their `model: out of fuel` panic is
  unreachable): MaxIntrospectionDepth (chain of fragments being visited has distinct names),
  SingleFieldSubscriptions and NoFragmentCycles (global visited sets only grow).
-/
namespace Gql.Validate
open Gql Gql.Validate.Rules

theorem fragForName_name {d : QueryDoc} {n : Name} {f : FragmentDef} (h : fragForName d n = some f) : f.name = n := by
  have := List.find?_some h
  simpa using this

theorem spreadDef_some {l : Links} {d : QueryDoc} {n : Name} {p : Pos} {f : FragmentDef}
    (h : l.spreadDef d n p = some f) : fragForName d n = some f := by
  unfold Links.spreadDef at h
  split at h
  · exact h
  · cases h

def DJumpOK (d : QueryDoc) (n : Nat) (J : DJump) : Prop :=
  ∀ visited depth cl sels, unvisited d visited + 1 ≤ n → ∃ b, J visited depth cl sels = some b

mutual
  theorem checkDepthSelection_ok (l : Links) (d : QueryDoc) (J : DJump) (n : Nat) (hJ : DJumpOK d n J) :
      ∀ (x : Selection) (visited : List Name) (depth : Nat) (cl : Cleared), unvisited d visited ≤ n →
        ∃ b, checkDepthSelection l d J visited depth cl x = some b
    | .field _ nm _ _ sub _, visited, depth, cl, h => by
      unfold checkDepthSelection
      split
      · split
        · exact ⟨_, rfl⟩
        · exact checkDepthSelections_ok l d J n hJ sub visited (depth + 1) cl h
      · exact checkDepthSelections_ok l d J n hJ sub visited depth cl h
    | .spread nm _ p, visited, depth, cl, h => by
      unfold checkDepthSelection
      split
      · exact ⟨_, rfl⟩
      · rename_i hc
        split
        · exact ⟨_, rfl⟩
        · cases hs : l.spreadDef d nm p with
          | none => exact ⟨_, rfl⟩
          | some f =>
            simp only
            have hf := spreadDef_some hs
            have hn := fragForName_name hf
            have hc' : visited.contains f.name = false := by rw [hn]; simpa using hc
            have hlt := unvisited_lt d visited f (fragForName_mem hf) hc'
            rw [hn] at hlt
            obtain ⟨r, hr⟩ := hJ (nm :: visited) depth cl f.sel (by omega)
            rw [hr]
            obtain ⟨b, cl'⟩ := r
            cases b <;> exact ⟨_, rfl⟩
    | .inline _ _ sub _, visited, depth, cl, h => by
      unfold checkDepthSelection
      exact checkDepthSelections_ok l d J n hJ sub visited depth cl h
  theorem checkDepthSelections_ok (l : Links) (d : QueryDoc) (J : DJump) (n : Nat) (hJ : DJumpOK d n J) :
      ∀ (xs : Selections) (visited : List Name) (depth : Nat) (cl : Cleared), unvisited d visited ≤ n →
        ∃ b, checkDepthSelections l d J visited depth cl xs = some b
    | .nil, _, _, _, _ => ⟨_, rfl⟩
    | .cons x rest, visited, depth, cl, h => by
      unfold checkDepthSelections
      obtain ⟨r, hb⟩ := checkDepthSelection_ok l d J n hJ x visited depth cl h
      rw [hb]
      obtain ⟨b, cl'⟩ := r
      cases b with
      | true => exact ⟨_, rfl⟩
      | false => exact checkDepthSelections_ok l d J n hJ rest visited depth cl' h
end

theorem depthLevel_ok (l : Links) (d : QueryDoc) : ∀ n, DJumpOK d n (depthLevel l d n)
  | 0 => by intro _ _ _ _ h; omega
  | n + 1 => by
    intro visited depth cl sels h
    simp only [depthLevel]
    exact checkDepthSelections_ok l d _ n (depthLevel_ok l d n) sels visited depth cl (by omega)

theorem maxIntrospectionDepth_neverPanics : maxIntrospectionDepth.NeverPanics := by
  intro s d st e m h
  simp only [maxIntrospectionDepth, Rule.statelessP] at h
  cases hstep : maxIntrospectionDepthStep s d e with
  | ok errs => rw [hstep] at h; cases h
  | error m' =>
    unfold maxIntrospectionDepthStep at hstep
    cases hp : e.p with
    | field f parent dfn =>
      rw [hp] at hstep
      simp only at hstep
      split at hstep
      · obtain ⟨b, hb⟩ := checkDepthSelection_ok e.links d _ (d.frags.length + 1)
          (depthLevel_ok e.links d (d.frags.length + 1)) (.field f.alias f.name f.args f.dirs f.sel f.pos) [] 0 []
          (by rw [unvisited_nil]; omega)
        rw [hb] at hstep
        obtain ⟨b1, cl1⟩ := b
        cases b1 <;> cases hstep
      · cases hstep
    | _ => rw [hp] at hstep; cases hstep

def TopJumpOK (d : QueryDoc) (n : Nat) (J : TopJump) : Prop :=
  ∀ sels (st : TopState), unvisited d st.inFrag + 1 ≤ n → ∃ r, J sels st = some r ∧ st.inFrag ⊆ r.inFrag

theorem topWalk_ok (s : SV) (root : Name) (l : Links) (d : QueryDoc) (J : TopJump) (n : Nat) (hJ : TopJumpOK d n J) :
    ∀ (sels : Selections) (st : TopState), unvisited d st.inFrag ≤ n →
      ∃ r, topWalk s root l d J sels st = some r ∧ st.inFrag ⊆ r.inFrag
  | .nil, st, _ => ⟨st, by simp [topWalk], fun _ hx => hx⟩
  | .cons (.field al nm _ _ _ p) rest, st, h => by
    unfold topWalk
    exact topWalk_ok s root l d J n hJ rest { st with fields := st.fields ++ [(if al != [] then al else nm, nm, p)] } h
  | .cons (.inline tc _ sub _) rest, st, h => by
    unfold topWalk
    split
    · obtain ⟨r1, h1, m1⟩ := topWalk_ok s root l d J n hJ sub st h
      rw [h1]
      simp only
      obtain ⟨r2, h2, m2⟩ := topWalk_ok s root l d J n hJ rest r1 (Nat.le_trans (unvisited_mono d m1) h)
      exact ⟨r2, h2, fun a ha => m2 (m1 ha)⟩
    · exact topWalk_ok s root l d J n hJ rest st h
  | .cons (.spread nm _ p) rest, st, h => by
    unfold topWalk
    cases hs : l.spreadDef d nm p with
    | none => exact ⟨st, rfl, fun _ hx => hx⟩
    | some f =>
      simp only
      split
      · exact topWalk_ok s root l d J n hJ rest st h
      · rename_i hc
        have hf := spreadDef_some hs
        have hc' : st.inFrag.contains f.name = false := by simpa using hc
        have hlt := unvisited_lt d st.inFrag f (fragForName_mem hf) hc'
        split
        · obtain ⟨r1, h1, m1⟩ := hJ f.sel { st with inFrag := f.name :: st.inFrag } (by simp only; omega)
          rw [h1]
          simp only
          have m1' : st.inFrag ⊆ r1.inFrag := fun a ha => m1 (List.mem_cons_of_mem _ ha)
          obtain ⟨r2, h2, m2⟩ := topWalk_ok s root l d J n hJ rest r1 (Nat.le_trans (unvisited_mono d m1') h)
          exact ⟨r2, h2, fun a ha => m2 (m1' ha)⟩
        · obtain ⟨r2, h2, m2⟩ := topWalk_ok s root l d J n hJ rest { st with inFrag := f.name :: st.inFrag }
            (by simp only; omega)
          exact ⟨r2, h2, fun a ha => m2 (List.mem_cons_of_mem _ ha)⟩

theorem topLevel_ok (s : SV) (root : Name) (l : Links) (d : QueryDoc) : ∀ n, TopJumpOK d n (topLevel s root l d n)
  | 0 => by intro _ _ h; omega
  | n + 1 => by
    intro sels st h
    simp only [topLevel]
    exact topWalk_ok s root l d _ n (topLevel_ok s root l d n) sels st (by omega)

theorem singleFieldSubscriptions_neverPanics : singleFieldSubscriptions.NeverPanics := by
  intro s d st e m h
  simp only [singleFieldSubscriptions, Rule.statelessP] at h
  cases hstep : singleFieldSubscriptionsStep s d e with
  | ok errs => rw [hstep] at h; cases h
  | error m' =>
    unfold singleFieldSubscriptionsStep at hstep
    cases hp : e.p with
    | operation op used =>
      rw [hp] at hstep
      simp only at hstep
      split at hstep
      · cases hstep
      · obtain ⟨r, hr, _⟩ := topLevel_ok s (s.subscription.getD []) e.links d (d.frags.length + 1) op.sel
          { fields := [], inFrag := [] } (by simp only [unvisited_nil]; omega)
        rw [hr] at hstep
        cases hstep
    | _ => rw [hp] at hstep; cases hstep

theorem unvisited_le_length (d : QueryDoc) (v : List Name) : unvisited d v ≤ d.frags.length := by
  unfold unvisited
  exact List.length_filter_le _ _

def CycRecOK (d : QueryDoc) (n : Nat) (R : CycRec) : Prop :=
  ∀ (frag : FragmentDef) path index (st : CycState), frag ∈ d.frags → unvisited d st.visited + 1 ≤ n →
    ∃ r, R frag path index st = some r ∧ st.visited ⊆ r.visited

theorem cycLoop_ok (d : QueryDoc) (R : CycRec) (n : Nat) (hR : CycRecOK d n R) (path : List SpreadNode)
    (index : List (Name × Nat)) :
    ∀ (nodes : List SpreadNode) (st : CycState), unvisited d st.visited + 1 ≤ n →
      ∃ r, cycLoop d R path index nodes st = some r ∧ st.visited ⊆ r.visited
  | [], st, _ => ⟨st, rfl, fun _ hx => hx⟩
  | node :: rest, st, h => by
    unfold cycLoop
    split
    · split
      · rename_i f hf
        obtain ⟨r1, h1, m1⟩ := hR f (path ++ [node]) index st (fragForName_mem hf) h
        rw [h1]
        simp only
        obtain ⟨r2, h2, m2⟩ := cycLoop_ok d R n hR path index rest r1
          (by have := unvisited_mono d m1; omega)
        exact ⟨r2, h2, fun a ha => m2 (m1 ha)⟩
      · exact cycLoop_ok d R n hR path index rest st h
    · exact cycLoop_ok d R n hR path index rest _ h

theorem cycLevel_ok (d : QueryDoc) : ∀ n, CycRecOK d n (cycLevel d n)
  | 0 => by intro _ _ _ _ _ h; omega
  | n + 1 => by
    intro frag path index st hmem h
    simp only [cycLevel]
    split
    · exact ⟨st, rfl, fun _ hx => hx⟩
    · rename_i hc
      have hc' : st.visited.contains frag.name = false := by simpa using hc
      have hlt := unvisited_lt d st.visited frag hmem hc'
      split
      · exact ⟨_, rfl, fun a ha => List.mem_cons_of_mem _ ha⟩
      · obtain ⟨r, hr, hm⟩ := cycLoop_ok d (cycLevel d n) n (cycLevel_ok d n) path ((frag.name, path.length) :: index)
          (spreadsOf frag.sel) { st with visited := frag.name :: st.visited } (by simp only; omega)
        exact ⟨r, hr, fun a ha => hm (List.mem_cons_of_mem _ ha)⟩

theorem noFragmentCycles_neverPanics : noFragmentCycles.NeverPanics := by
  intro s d st e m h
  simp only [noFragmentCycles] at h
  unfold noFragmentCyclesStep at h
  cases hp : e.p with
  | fragment f dfn =>
    rw [hp] at h
    simp only at h
    have key : ∃ r, cycLevel d (d.frags.length + 2) f [] [] { visited := st, errs := [] } = some r := by
      simp only [cycLevel]
      split
      · exact ⟨_, rfl⟩
      · split
        · exact ⟨_, rfl⟩
        · obtain ⟨r, hr, _⟩ := cycLoop_ok d (cycLevel d (d.frags.length + 1)) (d.frags.length + 1)
            (cycLevel_ok d _) [] [(f.name, ([] : List SpreadNode).length)] (spreadsOf f.sel)
            { visited := f.name :: st, errs := [] } (by have := unvisited_le_length d (f.name :: st); simp only; omega)
          exact ⟨r, hr⟩
    obtain ⟨r, hr⟩ := key
    rw [hr] at h
    cases h
  | _ => rw [hp] at h; cases h

/-- every modelled rule except KnownRootType and OverlappingFieldsCanBeMerged (29 of the 31) -/
def panicFreeRules' : List Rule := panicFreeRules ++ [maxIntrospectionDepth, singleFieldSubscriptions, noFragmentCycles]

theorem panicFreeRules'_neverPanic : ∀ r ∈ panicFreeRules', r.NeverPanics := by
  intro r hr
  rcases List.mem_append.1 hr with h | h
  · exact panicFreeRules_neverPanic r h
  · simp only [List.mem_cons, List.mem_nil_iff, or_false] at h
    rcases h with h | h | h <;> subst h
    · exact maxIntrospectionDepth_neverPanics
    · exact singleFieldSubscriptions_neverPanics
    · exact noFragmentCycles_neverPanics

end Gql.Validate
