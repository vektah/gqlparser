import GqlProofs.Validate.NoPanic
import GqlProofs.ValSpec.Sequence
/-
  `operation` events carry operations of the document (needed to state panic freedom of
  KnownRootType, whose explicit `panic` is reached exactly on an operation kind that the parser
  never produces), and panic freedom relative to a predicate on events.
-/
namespace Gql.Validate
open Gql Gql.Validate.Rules

def Payload.isOperation : Payload → Bool
  | .operation .. => true
  | _ => false

def noOps (evs : List Event) : Bool := evs.all fun e => !e.p.isOperation

theorem noOps_iff (evs : List Event) : noOps evs = true ↔ AllP (fun p => p.isOperation = false) evs := by
  simp [noOps, AllP, List.all_eq_true]

theorem notOp_selSites (s : SV) (d : QueryDoc) : SelSites s d (fun _ => True) (fun p => p.isOperation = false) :=
  { value := fun _ _ _ => rfl, directive := fun _ _ _ => rfl, directiveList := fun _ => rfl,
    field := fun _ _ _ => rfl, inline := fun _ _ => rfl, spread := fun _ _ _ => rfl, frags := fun _ _ _ _ => trivial }

theorem walkObjChildren_noOps (s : SV) (cur : Option OperationDef) (dfn : Option Definition) :
    ∀ (ch : Children) (ws : WS), noOps (walkObjChildren s cur dfn ch ws).2 = true :=
  fun ch ws => (noOps_iff _).2 (walkObjChildren_all (fun _ _ _ => rfl) cur dfn ch ws)

theorem walkListChildren_noOps (s : SV) (cur : Option OperationDef) (exp : Option GType) (dfn : Option Definition) :
    ∀ (ch : Children) (ws : WS), noOps (walkListChildren s cur exp dfn ch ws).2 = true :=
  fun ch ws => (noOps_iff _).2 (walkListChildren_all (fun _ _ _ => rfl) cur exp dfn ch ws)

def JumpNoOps (J : Jump) : Prop := ∀ parent sels (ws : WS) r, J parent sels ws = some r → noOps r.2 = true

theorem walkSelection_noOps (s : SV) (d : QueryDoc) (cur : Option OperationDef) (J : Jump) (hJ : JumpNoOps J) :
    ∀ (x : Selection) (parent : Option Definition) (ws : WS) r, walkSelection s d cur J parent x ws = some r →
      noOps r.2 = true :=
  fun x parent ws r h => (noOps_iff _).2 (walkSelection_all (notOp_selSites s d) cur J
    (fun p x w r _ h => (noOps_iff _).1 (hJ p x w r h)) x parent ws r (fun _ _ => trivial) h)

def OpsIn (ops : List OperationDef) (evs : List Event) : Prop :=
  ∀ e ∈ evs, ∀ op u, e.p = .operation op u → op ∈ ops

theorem OpsIn.append {ops : List OperationDef} {a b : List Event} (ha : OpsIn ops a) (hb : OpsIn ops b) : OpsIn ops (a ++ b) := by
  intro e he
  rcases List.mem_append.1 he with h | h
  · exact ha e h
  · exact hb e h

theorem walkDoc_opsIn (s : SV) (d : QueryDoc) (evs : List Event) (h : walkDoc s d = some evs) : OpsIn d.ops evs :=
  fun e he op u hp => (operation_event_iff s d evs h op).1 ⟨e, he, u, hp⟩

def Rule.NeverPanicsOn (P : Event → Prop) (r : Rule) : Prop := ∀ s d st e m, P e → r.step s d st e ≠ .panic m

theorem Rule.NeverPanics.on {r : Rule} (h : r.NeverPanics) (P : Event → Prop) : r.NeverPanicsOn P :=
  fun s d st e m _ => h s d st e m

/-- the operation kinds the parser produces (`""` is accepted by the code like `query`) -/
def parserOpKinds : List Operation := [opQuery, opMutation, opSubscription, []]

def OpKindOK (e : Event) : Prop := ∀ op u, e.p = .operation op u → op.op ∈ parserOpKinds

theorem knownRootType_neverPanicsOn : knownRootType.NeverPanicsOn OpKindOK := by
  intro s d st e m hP h
  simp only [knownRootType, Rule.statelessP] at h
  cases hstep : knownRootTypeStep s d e with
  | ok errs => rw [hstep] at h; cases h
  | error m' =>
    unfold knownRootTypeStep at hstep
    cases hp : e.p with
    | operation op used =>
      rw [hp] at hstep
      simp only at hstep
      have hk := hP op used hp
      simp only [parserOpKinds, List.mem_cons, List.mem_nil_iff, or_false] at hk
      split at hstep
      · split at hstep <;> cases hstep
      · rename_i hne
        simp only [Bool.or_eq_true, beq_iff_eq, not_or] at hne
        rcases hk with h1 | h1 | h1 | h1
        · exact absurd h1 hne.1.1.1
        · exact absurd h1 hne.1.2
        · exact absurd h1 hne.2
        · exact absurd h1 hne.1.1.2
    | _ => rw [hp] at hstep; cases hstep

end Gql.Validate
