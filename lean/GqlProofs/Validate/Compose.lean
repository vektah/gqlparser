import GqlModel.Validate.Rules
/-
  Engine-level lemmas for C18.  `runAll` is an event-major, rule-minor interleaving of the columns of
  independent state machines.  `runAll_cons` says so once: the run of `q :: qs` returns an order-preserving
  merge (`Shuffle`) of the errors of `q` run alone (`runAll s d [q]`) and of the run of `qs`, and panics
  exactly when one of the two does (`Merged`); `runAll_ok_iff`, `runAll_nil_iff`, `runAll_tagged` and
  `runAll_filter` follow by induction on the rule list.  A rule and its `…WithoutSuggestions` twin, run
  alone, return errors that correspond one to one (`Forall2 (NoSuggErr n')`) or panic alike:
  `runAll_withoutSuggestions` for the engine, `validate_withoutSuggestions` for `validate` (where the walk
  may also run out of fuel).
-/
namespace Gql.Validate
open Gql

/-- `c` is an order-preserving merge of `a` and `b` -/
inductive Shuffle {α : Type} : List α → List α → List α → Prop
  | nil : Shuffle [] [] []
  | left {a b c} (x : α) : Shuffle a b c → Shuffle (x :: a) b (x :: c)
  | right {a b c} (x : α) : Shuffle a b c → Shuffle a (x :: b) (x :: c)

namespace Shuffle
variable {α : Type} {a b c : List α}

theorem appendLeft (x : List α) (h : Shuffle a b c) : Shuffle (x ++ a) b (x ++ c) := by
  induction x with
  | nil => exact h
  | cons y _ ih => exact .left y ih

theorem appendRight (x : List α) (h : Shuffle a b c) : Shuffle a (x ++ b) (x ++ c) := by
  induction x with
  | nil => exact h
  | cons y _ ih => exact .right y ih

theorem mem_iff (h : Shuffle a b c) (x : α) : x ∈ c ↔ x ∈ a ∨ x ∈ b := by
  induction h with
  | nil => simp
  | left y _ ih => simp only [List.mem_cons, ih, or_assoc]
  | right y _ ih => simp only [List.mem_cons, ih, or_left_comm]

theorem filter (p : α → Bool) (h : Shuffle a b c) : Shuffle (a.filter p) (b.filter p) (c.filter p) := by
  induction h with
  | nil => exact .nil
  | left x _ ih => simp only [List.filter_cons]; split <;> first | exact .left x ih | exact ih
  | right x _ ih => simp only [List.filter_cons]; split <;> first | exact .right x ih | exact ih

theorem eq_of_nil_left : ∀ {b c : List α}, Shuffle [] b c → c = b
  | _, _, .nil => rfl
  | _, _, .right x h => congrArg (x :: ·) (eq_of_nil_left h)

theorem eq_of_nil_right : ∀ {a c : List α}, Shuffle a [] c → c = a
  | _, _, .nil => rfl
  | _, _, .left x h => congrArg (x :: ·) (eq_of_nil_right h)

end Shuffle

def rnames (rs : List Running) : List Bytes := rs.map (·.rule.name)

variable {s : SV} {d : QueryDoc}

theorem runAll_nil : ∀ evs : List Event, runAll s d [] evs = .ok []
  | [] => rfl
  | _ :: es => by simp only [runAll, stepAll, runAll_nil es, List.append_nil]

theorem runAll_single_cons {r : Running} {e : Event} {es : List Event} :
    runAll s d [r] (e :: es) =
      match r.step s d e with
      | .error m => .error m
      | .ok (r', er) =>
        match runAll s d [r'] es with
        | .error m => .error m
        | .ok errs => .ok (er ++ errs) := by
  simp only [runAll, stepAll]
  cases h : r.step s d e with
  | error m => rfl
  | ok p =>
    obtain ⟨r', er⟩ := p
    simp only [List.append_nil]
    cases runAll s d [r'] es <;> rfl

theorem runAll_single_tagged : ∀ (evs : List Event) (q : Running) {errs : List Err}, runAll s d [q] evs = .ok errs →
    ∀ x ∈ errs, x.rule = q.rule.name
  | [], _, _, h, x, hx => by cases h; cases hx
  | e :: es, q, errs, h, x, hx => by
    rw [runAll_single_cons] at h
    unfold Running.step at h
    cases hs : q.rule.step s d q.st e with
    | panic m => rw [hs] at h; cases h
    | ok st' er =>
      rw [hs] at h
      simp only at h
      cases hr : runAll s d [{ rule := q.rule, st := st' }] es with
      | error m => rw [hr] at h; cases h
      | ok rest =>
        rw [hr] at h
        cases h
        rcases List.mem_append.1 hx with hx | hx
        · obtain ⟨_, _, rfl⟩ := List.mem_map.1 hx
          rfl
        · exact runAll_single_tagged es _ hr x hx

/-- how the outcome of a run of `q :: qs` is made of the outcome of `q` alone and that of `qs` -/
inductive Merged : Except Bytes (List Err) → Except Bytes (List Err) → Except Bytes (List Err) → Prop
  | ok {a b c} : Shuffle a b c → Merged (.ok a) (.ok b) (.ok c)
  | panicL {m x} (m' : Bytes) : Merged (.error m) x (.error m')
  | panicR {m x} (m' : Bytes) : Merged x (.error m) (.error m')

theorem Merged.ok_iff {x y z : Except Bytes (List Err)} (h : Merged x y z) :
    (∃ c, z = .ok c) ↔ (∃ a, x = .ok a) ∧ ∃ b, y = .ok b := by
  cases h with
  | ok _ => exact ⟨fun _ => ⟨⟨_, rfl⟩, _, rfl⟩, fun _ => ⟨_, rfl⟩⟩
  | panicL _ => exact ⟨fun ⟨_, h⟩ => (nomatch h), fun ⟨⟨_, h⟩, _⟩ => (nomatch h)⟩
  | panicR _ => exact ⟨fun ⟨_, h⟩ => (nomatch h), fun ⟨_, _, h⟩ => (nomatch h)⟩

theorem Merged.nil_iff {x y z : Except Bytes (List Err)} (h : Merged x y z) : z = .ok [] ↔ x = .ok [] ∧ y = .ok [] := by
  cases h with
  | ok hs =>
    constructor
    · intro hz
      cases hz
      cases hs
      exact ⟨rfl, rfl⟩
    · rintro ⟨ha, hb⟩
      cases ha
      cases hb
      cases hs
      rfl
  | panicL _ => exact ⟨fun h => (nomatch h), fun ⟨h, _⟩ => (nomatch h)⟩
  | panicR _ => exact ⟨fun h => (nomatch h), fun ⟨_, h⟩ => (nomatch h)⟩

theorem runAll_cons : ∀ (evs : List Event) (q : Running) (qs : List Running),
    Merged (runAll s d [q] evs) (runAll s d qs evs) (runAll s d (q :: qs) evs)
  | [], _, _ => .ok .nil
  | e :: es, q, qs => by
    rw [runAll_single_cons]
    simp only [runAll, stepAll]
    cases q.step s d e with
    | error m => exact .panicL m
    | ok p =>
      obtain ⟨q', er⟩ := p
      cases stepAll s d e qs with
      | error m => exact .panicR m
      | ok p' =>
        obtain ⟨qs', ers⟩ := p'
        have ih := runAll_cons es q' qs'
        simp only
        revert ih
        generalize runAll s d [q'] es = x
        generalize runAll s d qs' es = y
        generalize runAll s d (q' :: qs') es = z
        intro ih
        cases ih with
        | ok h => exact .ok (by rw [List.append_assoc]; exact (h.appendRight ers).appendLeft er)
        | panicL m' => exact .panicL m'
        | panicR m' => exact .panicR m'

theorem runAll_ok_iff (evs : List Event) : ∀ qs : List Running,
    (∃ errs, runAll s d qs evs = .ok errs) ↔ ∀ q ∈ qs, ∃ a, runAll s d [q] evs = .ok a
  | [] => ⟨fun _ _ h => (nomatch h), fun _ => ⟨[], runAll_nil evs⟩⟩
  | q :: qs => by
    rw [List.forall_mem_cons, ← runAll_ok_iff evs qs]
    exact (runAll_cons evs q qs).ok_iff

theorem runAll_nil_iff (evs : List Event) : ∀ qs : List Running,
    runAll s d qs evs = .ok [] ↔ ∀ q ∈ qs, runAll s d [q] evs = .ok []
  | [] => ⟨fun _ _ h => (nomatch h), fun _ => runAll_nil evs⟩
  | q :: qs => by
    rw [List.forall_mem_cons, ← runAll_nil_iff evs qs]
    exact (runAll_cons evs q qs).nil_iff

theorem runAll_tagged (evs : List Event) : ∀ (qs : List Running) {errs : List Err}, runAll s d qs evs = .ok errs →
    ∀ x ∈ errs, x.rule ∈ rnames qs
  | [], errs, h, x, hx => by
    rw [runAll_nil] at h
    cases h
    cases hx
  | q :: qs, errs, h, x, hx => by
    have hm := runAll_cons (s := s) (d := d) evs q qs
    rw [h] at hm
    generalize ha : runAll s d [q] evs = a at hm
    generalize hb : runAll s d qs evs = b at hm
    cases hm with
    | ok hsh =>
      rcases (hsh.mem_iff x).1 hx with hx | hx
      · exact List.mem_cons.2 (.inl (runAll_single_tagged evs q ha x hx))
      · exact List.mem_cons_of_mem _ (runAll_tagged evs qs hb x hx)

theorem runAll_filter (evs : List Event) : ∀ (qs : List Running) {errs : List Err}, runAll s d qs evs = .ok errs →
    (rnames qs).Nodup → ∀ r ∈ qs, runAll s d [r] evs = .ok (errs.filter fun x => decide (x.rule = r.rule.name))
  | [], _, _, _, r, hr => nomatch hr
  | q :: qs, errs, h, hnd, r, hr => by
    have hm := runAll_cons (s := s) (d := d) evs q qs
    rw [h] at hm
    generalize ha : runAll s d [q] evs = a at hm
    generalize hb : runAll s d qs evs = b at hm
    obtain ⟨hq, hnd'⟩ : q.rule.name ∉ rnames qs ∧ (rnames qs).Nodup := List.nodup_cons.1 hnd
    cases hm with
    | @ok a b _ hsh =>
      -- the errors of `q` carry its name, those of `qs` names of `qs`, and the name of `q` is not among these
      have ta := runAll_single_tagged evs q ha
      have tb := runAll_tagged evs qs hb
      have hf := hsh.filter fun x => decide (x.rule = r.rule.name)
      rcases List.mem_cons.1 hr with rfl | hr
      · rw [List.filter_eq_self.2 fun x hx => decide_eq_true (ta x hx),
          List.filter_eq_nil_iff.2 fun x hx => by
            simp only [decide_eq_true_eq]
            exact fun e => hq (e ▸ tb x hx)] at hf
        rw [ha, hf.eq_of_nil_right]
      · rw [List.filter_eq_nil_iff.2 fun x hx => by
          simp only [decide_eq_true_eq]
          exact fun e => hq (((ta x hx).symm.trans e) ▸ (List.mem_map.2 ⟨r, hr, rfl⟩ : r.rule.name ∈ rnames qs))] at hf
        rw [hf.eq_of_nil_left]
        exact runAll_filter evs qs hb hnd' r hr

end Gql.Validate

namespace Gql.Validate
open Gql

/-- pointwise relation of two lists of equal length (core Lean has no `Forall2`) -/
inductive Forall2 {α β : Type} (R : α → β → Prop) : List α → List β → Prop
  | nil : Forall2 R [] []
  | cons {a b l₁ l₂} : R a b → Forall2 R l₁ l₂ → Forall2 R (a :: l₁) (b :: l₂)

theorem Forall2.length_eq {α β : Type} {R : α → β → Prop} {l₁ : List α} {l₂ : List β}
    (h : Forall2 R l₁ l₂) : l₁.length = l₂.length := by
  induction h with
  | nil => rfl
  | cons _ _ ih => simp [ih]

def NoSuggErr (n' : Bytes) (e e' : Err) : Prop := e'.rule = n' ∧ e'.locs = e.locs ∧ e'.msg <+: e.msg

inductive NoSuggRes (n' : Bytes) : Except Bytes (List Err) → Except Bytes (List Err) → Prop
  | ok {es es' : List Err} : Forall2 (NoSuggErr n') es es' → NoSuggRes n' (.ok es) (.ok es')
  | panic (m : Bytes) : NoSuggRes n' (.error m) (.error m)

theorem forall2_map_dropSugg (n n' : Bytes) :
    ∀ errs : List RErr, Forall2 (NoSuggErr n') (errs.map (RErr.toErr n)) ((errs.map RErr.dropSugg).map (RErr.toErr n'))
  | [] => .nil
  | e :: rest => .cons ⟨rfl, rfl, by simp [RErr.toErr, RErr.dropSugg]⟩ (forall2_map_dropSugg n n' rest)

theorem Forall2.append {α β : Type} {R : α → β → Prop} {a₁ a₂ : List α} {b₁ b₂ : List β}
    (h₁ : Forall2 R a₁ b₁) (h₂ : Forall2 R a₂ b₂) : Forall2 R (a₁ ++ a₂) (b₁ ++ b₂) := by
  induction h₁ with
  | nil => exact h₂
  | cons h _ ih => exact .cons h ih

theorem runAll_withoutSuggestions {s : SV} {d : QueryDoc} (n' : Bytes) (r : Rule) :
    ∀ (evs : List Event) (st : r.σ),
      NoSuggRes n' (runAll s d [⟨r, st⟩] evs) (runAll s d [⟨r.withoutSuggestions n', st⟩] evs)
  | [], _ => .ok .nil
  | e :: es, st => by
    rw [runAll_single_cons, runAll_single_cons]
    simp only [Running.step, Rule.withoutSuggestions]
    cases h : r.step s d st e with
    | panic m => exact .panic m
    | ok st' errs =>
      simp only
      have ih := runAll_withoutSuggestions (s := s) (d := d) n' r es st'
      simp only [Rule.withoutSuggestions] at ih
      revert ih
      generalize runAll s d [⟨r, st'⟩] es = a
      generalize runAll s d [⟨{ name := n', σ := r.σ, init := r.init, step := _ }, st'⟩] es = b
      intro ih
      cases ih with
      | ok hf => exact .ok (Forall2.append (forall2_map_dropSugg _ _ errs) hf)
      | panic m => exact .panic m

end Gql.Validate

namespace Gql.Validate
open Gql

theorem validate_ok_iff {rs : List Rule} {s : Schema} {d : QueryDoc} {evs : List Event} (hw : walkDoc s.view d = some evs)
    {errs : List Err} : validate rs s d = .ok errs ↔ runAll s.view d (rs.map Rule.start) evs = .ok errs := by
  simp only [validate, validateV, hw]
  cases runAll s.view d (rs.map Rule.start) evs <;> simp

theorem rnames_start (rs : List Rule) : rnames (rs.map Rule.start) = rs.map (·.name) := by
  simp [rnames, Rule.start, List.map_map, Function.comp_def]

inductive NoSuggestTwin (n' : Bytes) : VResult → VResult → Prop
  | ok {es es' : List Err} : Forall2 (NoSuggErr n') es es' → NoSuggestTwin n' (.ok es) (.ok es')
  | panic (m : Bytes) : NoSuggestTwin n' (.panic m) (.panic m)
  | outOfFuel : NoSuggestTwin n' .outOfFuel .outOfFuel

theorem validate_withoutSuggestions (n' : Bytes) (r : Rule) (s : Schema) (d : QueryDoc) :
    NoSuggestTwin n' (validate [r] s d) (validate [r.withoutSuggestions n'] s d) := by
  unfold validate validateV
  cases walkDoc s.view d with
  | none => exact .outOfFuel
  | some evs =>
    have key : NoSuggRes n' (runAll s.view d [r.start] evs) (runAll s.view d [(r.withoutSuggestions n').start] evs) :=
      runAll_withoutSuggestions n' r evs r.init
    simp only [List.map_cons, List.map_nil]
    generalize runAll s.view d [r.start] evs = a at key ⊢
    generalize runAll s.view d [(r.withoutSuggestions n').start] evs = b at key ⊢
    cases key with
    | ok hf => exact .ok hf
    | panic m => exact .panic m

end Gql.Validate
