import GqlProofs.Validate.OverlapDepth
import GqlProofs.Validate.OverlapSwap
import GqlProofs.Validate.OverlapMerged
/-
  OverlappingFieldsCanBeMerged vs. §5.3.2, soundness of the rule in the general case: a derivable
  judgment of the memo-free semantics makes `FieldsInSetCanMerge` fail for some selection set of
  the document (`topHolds_specFalse`).
-/
namespace Gql.Validate
open Gql Gql.Validate.Rules

def ArgsRefl (s : Schema) (d : QueryDoc) : Prop :=
  ∀ t ∈ Spec.docSels s d, ∀ al nm args dirs sub pos, t.sel = .field al nm args dirs sub pos →
    sameArguments args args = true

/-- what the comparison with §5.3.2 needs of the document -/
structure SemHyps (s : Schema) (d : QueryDoc) : Prop where
  H : OvHyps s d
  acyclic : Acyclic d
  names : (d.frags.map (·.name)).Nodup
  sym : ArgsSym s d
  refl : ArgsRefl s d

def ClaimBoth (s : Schema) (d : QueryDoc) (n : Nat) (pe : Bool) (a b : FInfo) : Prop :=
  ClaimPair s d n pe a b ∧ ClaimPair s d n pe b a

def Claims (s : Schema) (d : QueryDoc) (pe : Bool) (a b : FInfo) : Prop :=
  ∀ n, phi d a.node.sel ≤ n → phi d b.node.sel ≤ n → ClaimBoth s d n pe a b

theorem Claims.symm {s : Schema} {d : QueryDoc} {pe : Bool} {a b : FInfo} (h : Claims s d pe a b) : Claims s d pe b a :=
  fun n h1 h2 => ⟨(h n h2 h1).2, (h n h2 h1).1⟩

def SpecFalse (s : Schema) (d : QueryDoc) : Prop :=
  ∃ t ∈ Spec.docSets s d, Spec.fieldsInSetCanMerge s d (Spec.mergeFuel d) (Spec.collectSet s d t.parent t.sels) = false

theorem sreachL_nil {d : QueryDoc} {n : Name} (h : SReachL d [] n) : False := by
  induction h with
  | base hs => cases hs
  | step _ _ _ ih => exact ih

theorem rfld_ne_nil {sv : SV} {l : Links} {d : QueryDoc} {p : Option Definition} {sels : Selections} {x : FInfo}
    (h : RFld sv l d p sels x) : sels ≠ .nil := by
  intro e
  subst e
  rcases h with h | ⟨n, F, hr, _, _⟩
  · simp [collectFields] at h
  · exact sreachL_nil (by simpa [collectSpreads] using hr)

theorem docSets_sub {s : Schema} {d : QueryDoc} {l : Links} (H : OvHyps s d) {a : FInfo} (ha : DocF s d l a) :
    (⟨a.next s.view, a.node.sel⟩ : Spec.TSet) ∈ Spec.docSets s d := by
  rw [ha.next_fieldType H]
  exact docSets_field ha.inDoc

theorem rfld_docF {s : Schema} {d : QueryDoc} {t : Spec.TSet} (ht : t ∈ Spec.docSets s d) {x : FInfo}
    (h : RFld s.view (fullLinks d) d t.parent t.sels x) : DocF s d (fullLinks d) x := by
  rcases h with h | ⟨n, F, _, hF, hx⟩
  · exact DocF.ofSet ht h
  · exact DocF.ofSet (t := ⟨s.type? F.typeCond, F.sel⟩) (docSets_frag (fragForName_mem hF)) hx

section
variable {s : Schema} {d : QueryDoc} (S : SemHyps s d)
include S

theorem pairStep {pe : Bool} {a b a' b' : FInfo} (ha : DocF s d (fullLinks d) a) (hb : DocF s d (fullLinks d) b)
    (ha' : RFld s.view (fullLinks d) d (a.next s.view) a.node.sel a')
    (hb' : RFld s.view (fullLinks d) d (b.next s.view) b.node.sel b') (hne : a' ≠ b') (hrn : rnOf a' = rnOf b') {m : Nat}
    (hcl : ClaimBoth s d m (pe || goExcl a b) a' b') : ClaimPair s d (m + 1) pe a b := by
  have step := @claim_step s d (fullLinks d) S.H pe a b ha hb (rfld_ne_nil ha') (rfld_ne_nil hb') _
    (mergedSet_mirror S.H ha hb)
  -- the two fields occur in the merged list in one order or the other
  rcases sublist_pair_of_mem hne (List.mem_append_left _ (mergedA_complete s d _ ha')) (mergedB_complete s d _ hb') with h | h
  · exact step h hrn hcl.1
  · exact step h hrn.symm hcl.2

end


theorem SReachL.single {d : QueryDoc} {sps : List SpreadNode} {sp : SpreadNode} (hsp : sp ∈ sps) {n : Name}
    (h : SReachL d [sp] n) : SReachL d sps n :=
  h.mono (fun x hx => by simp only [List.mem_singleton] at hx; subst hx; exact hsp)

def FromSpread (s : Schema) (d : QueryDoc) (sp : SpreadNode) (f : FInfo) : Prop :=
  RFldL s.view (fullLinks d) d [] [sp] f

theorem FromSpread.here {s : Schema} {d : QueryDoc} {sp : SpreadNode} {F : FragmentDef} {f : FInfo}
    (hF : fragForName d sp.name = some F) (hf : f ∈ fragFieldsOf s.view (fullLinks d) F) : FromSpread s d sp f :=
  Or.inr ⟨sp.name, F, .base (List.mem_singleton.2 rfl), hF, hf⟩

theorem FromSpread.rfld {s : Schema} {d : QueryDoc} {sp : SpreadNode} {f : FInfo} (h : FromSpread s d sp f)
    {p : Option Definition} {sels : Selections} (hsp : sp ∈ collectSpreads sels) : RFld s.view (fullLinks d) d p sels f :=
  RFldL.mono h (fun _ hx => by cases hx) (fun x hx => by rw [List.mem_singleton.1 hx]; exact hsp)

theorem FromSpread.below {s : Schema} {d : QueryDoc} {sp sp' : SpreadNode} {F : FragmentDef} {f : FInfo}
    (hF : fragForName d sp.name = some F) (hsp' : sp' ∈ collectSpreads F.sel) (h : FromSpread s d sp' f) :
    FromSpread s d sp f :=
  (h.rfld hsp').ofSpread hF (List.mem_singleton.2 rfl)

/-- two distinct fields of one response name, one from each side, that fail §5.3.2 at every depth
    that bounds them -/
def Wit (s : Schema) (d : QueryDoc) (ex : Bool) (P Q : FInfo → Prop) : Prop :=
  ∃ f g, P f ∧ Q g ∧ rnOf f = rnOf g ∧ f ≠ g ∧ Claims s d ex f g

theorem Wit.mono {s : Schema} {d : QueryDoc} {ex : Bool} {P Q P' Q' : FInfo → Prop} (h : Wit s d ex P Q)
    (hP : ∀ f, P f → P' f) (hQ : ∀ g, Q g → Q' g) : Wit s d ex P' Q' := by
  obtain ⟨f, g, hf, hg, h⟩ := h
  exact ⟨f, g, hP f hf, hQ g hg, h⟩

theorem Wit.symm {s : Schema} {d : QueryDoc} {ex : Bool} {P Q : FInfo → Prop} (h : Wit s d ex P Q) : Wit s d ex Q P := by
  obtain ⟨f, g, hf, hg, hrn, hne, hcl⟩ := h
  exact ⟨g, f, hg, hf, hrn.symm, fun e => hne e.symm, hcl.symm⟩

/-- what a derivable judgment means for the specification -/
def Smot (s : Schema) (d : QueryDoc) : Jg → Prop
  | .conf pe a b => DocF s d (fullLinks d) a → DocF s d (fullLinks d) b → rnOf a = rnOf b →
      SpecFalse s d ∨ (a ≠ b ∧ Claims s d pe a b)
  | .sub ex a b => DocF s d (fullLinks d) a → DocF s d (fullLinks d) b →
      SpecFalse s d ∨ Wit s d ex (RFld s.view (fullLinks d) d (a.next s.view) a.node.sel)
        (RFld s.view (fullLinks d) d (b.next s.view) b.node.sel)
  | .chain ex p sels sp => (⟨p, sels⟩ : Spec.TSet) ∈ Spec.docSets s d →
      SpecFalse s d ∨ Wit s d ex (· ∈ collectFields s.view (fullLinks d) p sels) (FromSpread s d sp)
  | .check ex sa sb => SpecFalse s d ∨ Wit s d ex (FromSpread s d sa) (FromSpread s d sb)

section
variable {s : Schema} {d : QueryDoc} (S : SemHyps s d)
include S

theorem docF_argsRefl {a : FInfo} (ha : DocF s d (fullLinks d) a) : sameArguments a.node.args a.node.args = true :=
  S.refl _ ha.inDoc _ _ _ _ _ _ rfl

theorem docF_argsSym {a b : FInfo} (ha : DocF s d (fullLinks d) a) (hb : DocF s d (fullLinks d) b) :
    sameArguments a.node.args b.node.args = sameArguments b.node.args a.node.args :=
  S.sym _ ha.inDoc _ hb.inDoc _ _ _ _ _ _ _ _ _ _ _ _ rfl rfl

theorem specFalse_of_pair {t : Spec.TSet} (ht : t ∈ Spec.docSets s d) {x y : FInfo}
    (hx : RFld s.view (fullLinks d) d t.parent t.sels x) (hy : RFld s.view (fullLinks d) d t.parent t.sels y)
    (hne : x ≠ y) (hrn : rnOf x = rnOf y) {pe : Bool} (hcl : Claims s d pe x y) : SpecFalse s d := by
  obtain ⟨k, hk⟩ : ∃ k, Spec.mergeFuel d = k + 1 := ⟨_, rfl⟩
  have hb := phi_bound S.acyclic S.names ht
  have h1 := phi_sub S.acyclic hx
  have h2 := phi_sub S.acyclic hy
  have hc := hcl k (by omega) (by omega)
  refine ⟨t, ht, ?_⟩
  rw [hk, fieldsInSetCanMerge_succ, collectSet_mirror s d (fullLinks d)]
  rcases sublist_pair_of_mem hne (flatSet_complete s d _ _ _ hx) (flatSet_complete s d _ _ _ hy) with h | h
  · exact allPairs_keyed_false _ h hrn (mergeOK_false_of_claim hc.1)
  · exact allPairs_keyed_false _ h hrn.symm (mergeOK_false_of_claim hc.2)

theorem holds_spec {j : Jg} (h : Holds (envOf s d (fullLinks d)) j) : Smot s d j := by
  have H := S.H
  induction h with
  | @names pe a b oa ob hoa hob hex hne =>
    intro ha hb hrn
    exact Or.inr ⟨fun e => hne (by rw [e]), fun n _ _ =>
      ⟨claim_names H ha hb hex hne n, claim_names H hb ha (by rw [goExcl_comm]; exact hex) hne.symm n⟩⟩
  | @args pe a b oa ob hoa hob hex hargs =>
    intro ha hb hrn
    refine Or.inr ⟨fun e => ?_, fun n _ _ =>
      ⟨claim_args H ha hb hex hargs n,
        claim_args H hb ha (by rw [goExcl_comm]; exact hex) (by rw [← docF_argsSym S ha hb]; exact hargs) n⟩⟩
    subst e
    rw [docF_argsRefl S ha] at hargs
    cases hargs
  | @types pe a b oa ob da db hoa hob hda hdb hconf =>
    intro ha hb hrn
    have hconf0 : doTypesConflict s.view da.type db.type = true := hconf
    refine Or.inr ⟨fun e => ?_, fun n _ _ =>
      ⟨claim_types H ha hb hda hdb hconf0 n, claim_types H hb ha hdb hda (by rw [doTypesConflict_comm]; exact hconf0) n⟩⟩
    subst e
    rw [hda] at hdb
    injection hdb with hdb
    subst hdb
    rw [doTypesConflict_eq s H.keys, sameWrappers_self] at hconf0
    cases hconf0
  | @sub pe a b oa ob hoa hob hsub ih =>
    intro ha hb hrn
    rcases ih ha hb with hsf | ⟨a', b', ha', hb', hrn', hne', hcl⟩
    · exact Or.inl hsf
    · by_cases hab : a = b
      · subst hab
        exact Or.inl (specFalse_of_pair S (docSets_sub H ha) ha' hb' hne' hrn' hcl)
      · refine Or.inr ⟨hab, fun n h1 h2 => ?_⟩
        have p1 := phi_sub S.acyclic ha'
        have p2 := phi_sub S.acyclic hb'
        obtain ⟨m, rfl⟩ : ∃ m, n = m + 1 := ⟨n - 1, by omega⟩
        have hc := hcl m (by omega) (by omega)
        exact ⟨pairStep S ha hb ha' hb' hne' hrn' hc,
          pairStep S hb ha hb' ha' (fun e => hne' e.symm) hrn'.symm (goExcl_comm a b ▸ ⟨hc.2, hc.1⟩)⟩
  | @subFields ex a b a' b' ha' hb' hrn hc ih =>
    exact fun ha hb => (ih (ha.sub H ha') (hb.sub H hb') hrn).imp id fun ⟨hne, hcl⟩ =>
      ⟨a', b', Or.inl ha', Or.inl hb', hrn, hne, hcl⟩
  | @subChainB ex a b sp hsp hc ih =>
    exact fun ha hb => (ih (docSets_sub H ha)).imp id fun w => w.mono (fun _ => Or.inl) fun _ h => h.rfld hsp
  | @subChainA ex a b sp hsp hc ih =>
    exact fun ha hb => (ih (docSets_sub H hb)).imp id fun w => (w.mono (fun _ => Or.inl) fun _ h => h.rfld hsp).symm
  | @subCheck ex a b sa sb hsa hsb hc ih =>
    exact fun ha hb => ih.imp id fun w => w.mono (fun _ h => h.rfld hsa) fun _ h => h.rfld hsb
  | @chainHere ex parent sels sp F a g hF hid ha hg hrn hc ih =>
    intro ht
    have hFf : fragForName d sp.name = some F := spreadDef_some hF
    exact (ih (DocF.ofSet ht ha) (fragFieldList_docF hF hg) hrn).imp id
      fun ⟨hne, hcl⟩ => ⟨a, g, ha, .here hFf hg, hrn, hne, hcl⟩
  | @chainNext ex parent sels sp sp' F hF hid hsp' hne hc ih =>
    exact fun ht => (ih ht).imp id fun w => w.mono (fun _ h => h) fun _ h => h.below (spreadDef_some hF) hsp'
  | @checkHere ex a b A B fa fb hne hA hB hfa hfb hrn hc ih =>
    have hAf : fragForName d a.name = some A := spreadDef_some hA
    have hBf : fragForName d b.name = some B := spreadDef_some hB
    exact (ih (fragFieldList_docF hA hfa) (fragFieldList_docF hB hfb) hrn).imp id
      fun ⟨hne', hcl⟩ => ⟨fa, fb, .here hAf hfa, .here hBf hfb, hrn, hne', hcl⟩
  | @checkRight ex a b x A B hne hA hB hx hc ih =>
    exact ih.imp id fun w => w.mono (fun _ h => h) fun _ h => h.below (spreadDef_some hB) hx
  | @checkLeft ex a b x A B hne hA hB hx hc ih =>
    exact ih.imp id fun w => w.mono (fun _ h => h.below (spreadDef_some hA) hx) fun _ h => h

theorem topHolds_specFalse {t : Spec.TSet} (ht : t ∈ Spec.docSets s d)
    (h : TopHolds (envOf s d (fullLinks d)) t.parent t.sels) : SpecFalse s d := by
  rcases h with ⟨a, b, hs, hrn, hh⟩ | ⟨sp, hsp, hh⟩ | ⟨sa, sb, hs, hh⟩
  · have ha : a ∈ collectFields s.view (fullLinks d) t.parent t.sels := hs.subset (by simp)
    have hb : b ∈ collectFields s.view (fullLinks d) t.parent t.sels := hs.subset (by simp)
    rcases holds_spec S hh (DocF.ofSet ht ha) (DocF.ofSet ht hb) hrn with hsf | ⟨hne, hcl⟩
    · exact hsf
    · exact specFalse_of_pair S ht (Or.inl ha) (Or.inl hb) hne hrn hcl
  · rcases holds_spec S hh ht with hsf | ⟨x, g, hx, hg, hrn, hne, hcl⟩
    · exact hsf
    · exact specFalse_of_pair S ht (Or.inl hx) (hg.rfld hsp) hne hrn hcl
  · rcases holds_spec S hh with hsf | ⟨f, g, hf, hg, hrn, hne, hcl⟩
    · exact hsf
    · exact specFalse_of_pair S ht (hf.rfld (hs.subset (by simp))) (hg.rfld (hs.subset (by simp))) hne hrn hcl

end

end Gql.Validate
