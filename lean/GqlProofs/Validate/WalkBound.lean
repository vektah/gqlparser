import GqlProofs.Validate.WalkTerm
/-
  Number of events the walker fires (C02): every node fires its own events once per walk of the
  selection set that contains it; the body of a fragment is walked at most once per operation /
  stand-alone fragment walk (guard `validatedFragmentSpreads`).  Amortised over the visited set:
    events(walk of sels from v to v') + W(v') ≤ own(sels) + W(v)
  where `W v` (`fragWeight`) is the total own-event count of the bodies (directives of the definition, which the
  walker walks on every first visit of the fragment, and its selection set) of the fragments not
  named in `v`.
-/
namespace Gql.Validate
open Gql

mutual
  def evValue : Value → Nat
    | .mk k _ ch _ =>
      (match k with
        | .object => evChildren ch
        | .list => evChildren ch
        | _ => 0) + 1
  def evChildren : Children → Nat
    | .nil => 0
    | .cons _ v _ rest => evValue v + evChildren rest
end

def evArgs : List Argument → Nat
  | [] => 0
  | a :: rest => evValue a.value + evArgs rest

def evDirItems : List Directive → Nat
  | [] => 0
  | d :: rest => evArgs d.args + 1 + evDirItems rest

/-- events of `walkDirectives`: arguments' values, one `directive` each, one `directiveList` -/
def evDirs (ds : List Directive) : Nat := evDirItems ds + 1

mutual
  /-- own events of a selection (not following spreads) -/
  def evSel : Selection → Nat
    | .field _ _ args dirs sub _ => evArgs args + evDirs dirs + evSels sub + 1
    | .inline _ dirs sub _ => evDirs dirs + evSels sub + 1
    | .spread _ dirs _ => evDirs dirs + 1
  def evSels : Selections → Nat
    | .nil => 0
    | .cons x rest => evSel x + evSels rest
end

mutual
  theorem walkValue_len (s : SV) (cur : Option OperationDef) (exp : Option GType) (dfn : Option Definition) :
      ∀ (v : Value) (ws : WS), (walkValue s cur exp dfn v ws).2.length = evValue v
    | .mk k raw ch p, ws => by
      unfold walkValue
      have h1 : ∀ ws1 : WS, (walkObjChildren s cur dfn ch ws1).2.length = evChildren ch :=
        fun ws1 => walkObjChildren_len s cur dfn ch ws1
      have h2 : ∀ ws1 : WS, (walkListChildren s cur exp dfn ch ws1).2.length = evChildren ch :=
        fun ws1 => walkListChildren_len s cur exp dfn ch ws1
      cases k <;> simp [evValue, h1, h2]
  theorem walkObjChildren_len (s : SV) (cur : Option OperationDef) (dfn : Option Definition) :
      ∀ (ch : Children) (ws : WS), (walkObjChildren s cur dfn ch ws).2.length = evChildren ch
    | .nil, ws => by simp [walkObjChildren, evChildren]
    | .cons name v p rest, ws => by
      unfold walkObjChildren
      simp only [List.length_append, evChildren]
      rw [walkObjChildren_len s cur dfn rest, walkValue_len]
  theorem walkListChildren_len (s : SV) (cur : Option OperationDef) (exp : Option GType) (dfn : Option Definition) :
      ∀ (ch : Children) (ws : WS), (walkListChildren s cur exp dfn ch ws).2.length = evChildren ch
    | .nil, ws => by simp [walkListChildren, evChildren]
    | .cons name v p rest, ws => by
      unfold walkListChildren
      simp only [List.length_append, evChildren]
      rw [walkListChildren_len s cur exp dfn rest, walkValue_len]
end


theorem walkArgs_len (s : SV) (cur : Option OperationDef) (ad : Option (List ArgDef)) :
    ∀ (as : List Argument) (ws : WS), (walkArgs s cur ad as ws).2.length = evArgs as
  | [], ws => rfl
  | a :: rest, ws => by
    simp only [walkArgs, List.length_append, evArgs]
    rw [walkArgs_len s cur ad rest, walkValue_len]

theorem walkDirectiveItems_len (s : SV) (cur : Option OperationDef) (parent : Option Definition) (loc : Bytes) :
    ∀ (ds : List Directive) (ws : WS), (walkDirectiveItems s cur parent loc ds ws).2.length = evDirItems ds
  | [], ws => rfl
  | dir :: rest, ws => by
    simp only [walkDirectiveItems, List.length_append, List.length_cons, evDirItems]
    rw [walkDirectiveItems_len s cur parent loc rest, walkArgs_len]
    omega

theorem walkDirectives_len (s : SV) (cur : Option OperationDef) (parent : Option Definition) (ds : List Directive)
    (loc : Bytes) (ws : WS) : (walkDirectives s cur parent ds loc ws).2.length = evDirs ds := by
  simp only [walkDirectives, List.length_append, List.length_cons, List.length_nil, evDirs]
  rw [walkDirectiveItems_len]

/-- events one jump into a fragment definition fires for the definition itself: the directives of
    the definition (walked with location FRAGMENT_DEFINITION) and the own events of its selection set -/
def evFragBody (f : FragmentDef) : Nat := evDirs f.dirs + evSels f.sel

def fragWeight (d : QueryDoc) (v : List Name) : Nat :=
  ((d.frags.filter fun f => !v.contains f.name).map evFragBody).sum

theorem sum_filter_le {α : Type} (g : α → Nat) (q : α → Bool) : ∀ l : List α, ((l.filter q).map g).sum ≤ (l.map g).sum
  | [] => Nat.le_refl _
  | x :: xs => by
    have := sum_filter_le g q xs
    simp only [List.filter_cons]
    split <;> simp only [List.map_cons, List.sum_cons] <;> omega

theorem sum_filter_add_le {α : Type} (g : α → Nat) (q : α → Bool) (x0 : α) (hq0 : q x0 = false) :
    ∀ l : List α, x0 ∈ l → ((l.filter q).map g).sum + g x0 ≤ (l.map g).sum
  | x :: xs, hm => by
    rcases List.mem_cons.1 hm with rfl | hm'
    · have := sum_filter_le g q xs
      simp only [List.filter_cons, hq0, Bool.false_eq_true, if_false, List.map_cons, List.sum_cons]
      omega
    · have := sum_filter_add_le g q x0 hq0 xs hm'
      simp only [List.filter_cons]
      split <;> simp only [List.map_cons, List.sum_cons] <;> omega

theorem fragWeight_jump (d : QueryDoc) (v : List Name) (f : FragmentDef) (hf : f ∈ d.frags)
    (hn : v.contains f.name = false) : fragWeight d (f.name :: v) + evFragBody f ≤ fragWeight d v := by
  unfold fragWeight
  rw [← filter_filter_of_imp (fun g : FragmentDef => !v.contains g.name) (fun g => !(f.name :: v).contains g.name)
    (fun x hx => by simp_all)]
  exact sum_filter_add_le evFragBody _ f (by simp) _ (List.mem_filter.2 ⟨hf, by simpa using hn⟩)

def JumpBound (d : QueryDoc) (J : Jump) : Prop :=
  ∀ parent sels (ws : WS) r, J parent sels ws = some r →
    r.2.length + fragWeight d r.1.visited ≤ evSels sels + fragWeight d ws.visited

theorem walkSel_bound_cases (s : SV) (d : QueryDoc) (cur : Option OperationDef) (J : Jump) (hJ : JumpBound d J) :
    WalkCases s d cur J
      (fun _ x ws r => r.2.length + fragWeight d r.1.visited ≤ evSel x + fragWeight d ws.visited)
      (fun _ xs ws r => r.2.length + fragWeight d r.1.visited ≤ evSels xs + fragWeight d ws.visited) where
  field := fun _ _ _ _ _ _ _ _ _ _ hb => by
    simp only [walkDirectives_visited, walkArgs_visited, markSel_visited] at hb
    simp only [List.length_append, List.length_cons, List.length_nil, walkArgs_len, walkDirectives_len, evSel]
    omega
  inline := fun _ _ _ _ _ _ _ _ hb => by
    simp only [walkDirectives_visited, markSel_visited] at hb
    simp only [List.length_append, List.length_cons, List.length_nil, walkDirectives_len, evSel]
    omega
  spreadStop := fun _ _ _ _ _ _ => by
    simp only [List.length_append, List.length_cons, List.length_nil, walkDirectives_len, walkDirectives_visited,
      markSel_visited, evSel]
    omega
  spreadJump := fun _ _ _ _ ws f r3 hf hnot h3 => by
    -- the body of `f` is paid for by the weight `f` leaves behind when it becomes visited
    have hw := fragWeight_jump d ws.visited f (fragForName_mem hf) (by simpa using hnot)
    have hb := hJ _ _ _ r3 h3
    simp only [walkDirectives_visited] at hb
    simp only [List.length_append, List.length_cons, List.length_nil, walkDirectives_len, evSel]
    simp only [evFragBody] at hw
    omega
  nil := fun _ _ => by simp [evSels]
  cons := fun _ _ _ _ _ _ _ _ b1 b2 => by
    simp only [List.length_append, evSels]
    omega

theorem walkSelection_bound (s : SV) (d : QueryDoc) (cur : Option OperationDef) (J : Jump) (hJ : JumpBound d J) :
    ∀ (x : Selection) (parent : Option Definition) (ws : WS) r, walkSelection s d cur J parent x ws = some r →
      r.2.length + fragWeight d r.1.visited ≤ evSel x + fragWeight d ws.visited :=
  walkSelection_induct (walkSel_bound_cases s d cur J hJ)

theorem walkLevel_jumpBound (s : SV) (d : QueryDoc) (cur : Option OperationDef) : ∀ n, JumpBound d (walkLevel s d cur n) :=
  walkLevel_induct fun J hJ => walkSel_bound_cases s d cur J hJ

def evVarDefsB : List VarDef → Nat
  | [] => 0
  | v :: rest => (match v.default with | some dv => evValue dv | none => 0) + evDirs v.dirs + evVarDefsB rest

/-- own events of an operation: `variable` per definition, defaults and directives of the
    definitions, the operation's directives, its selection set, the `operation` event -/
def evOp (op : OperationDef) : Nat := op.vars.length + evVarDefsB op.vars + evDirs op.dirs + evSels op.sel + 1

def evFrag (f : FragmentDef) : Nat := evDirs f.dirs + evSels f.sel + 1

/-- own events of a document = what one walk over every node once fires (a syntactic size) -/
def docEvents (d : QueryDoc) : Nat := (d.ops.map evOp).sum + (d.frags.map evFrag).sum

def fragEvents (d : QueryDoc) : Nat := (d.frags.map evFragBody).sum

theorem fragWeight_nil (d : QueryDoc) : fragWeight d [] = fragEvents d := by
  simp only [fragWeight, fragEvents]
  congr 2
  apply List.filter_eq_self.2
  intro a _
  simp

theorem fragEvents_le_docEvents (d : QueryDoc) : fragEvents d ≤ docEvents d := by
  have : ∀ fs : List FragmentDef, (fs.map evFragBody).sum ≤ (fs.map evFrag).sum := by
    intro fs
    induction fs with
    | nil => exact Nat.le_refl _
    | cons f rest ih => simp only [List.map_cons, List.sum_cons, evFrag, evFragBody]; omega
  have := this d.frags
  simp only [fragEvents, docEvents]
  omega

theorem walkVarDefsA_len (s : SV) (cur : Option OperationDef) (ws : WS) :
    ∀ vs : List VarDef, (walkVarDefsA s cur ws vs).length = vs.length
  | [] => rfl
  | v :: rest => by simp [walkVarDefsA, walkVarDefsA_len s cur ws rest]

theorem walkVarDefsB_len (s : SV) (cur : Option OperationDef) :
    ∀ (vs : List VarDef) (ws : WS), (walkVarDefsB s cur vs ws).2.length = evVarDefsB vs
  | [], ws => rfl
  | v :: rest, ws => by
    simp only [walkVarDefsB, List.length_append, evVarDefsB]
    rw [walkVarDefsB_len s cur rest, walkDirectives_len]
    cases v.default with
    | none => simp
    | some dv => simp [walkValue_len]

theorem walkOperation_bound (s : SV) (d : QueryDoc) (fuel : Nat) (op : OperationDef) (l : Links) (r : Links × List Event)
    (h : walkOperation s d fuel op l = some r) : r.2.length ≤ evOp op + fragEvents d := by
  obtain ⟨r4, h4, rfl⟩ := walkOperation_inv h
  have hb := walkLevel_jumpBound s d (some op) fuel _ _ _ r4 h4
  simp only [walkDirectives_visited, walkVarDefsB_visited, fragWeight_nil] at hb
  simp only [List.length_append, List.length_cons, List.length_nil, walkVarDefsA_len, walkVarDefsB_len,
    walkDirectives_len, evOp]
  omega

theorem walkFragment_bound (s : SV) (d : QueryDoc) (fuel : Nat) (f : FragmentDef) (l : Links) (r : Links × List Event)
    (h : walkFragment s d fuel f l = some r) : r.2.length ≤ evFrag f + fragEvents d := by
  obtain ⟨r2, h2, rfl⟩ := walkFragment_inv h
  have hb := walkLevel_jumpBound s d none fuel _ _ _ r2 h2
  simp only [walkDirectives_visited, fragWeight_nil] at hb
  simp only [List.length_append, List.length_cons, List.length_nil, walkDirectives_len, evFrag]
  omega

theorem walkDoc_bound (s : SV) (d : QueryDoc) (evs : List Event) (h : walkDoc s d = some evs) :
    evs.length ≤ docEvents d + (d.ops.length + d.frags.length) * fragEvents d := by
  obtain ⟨r1, r2, h1, h2, rfl⟩ := walkDoc_inv h
  have b1 := walkOps_induct (M := fun ops _ r => r.2.length ≤ (ops.map evOp).sum + ops.length * fragEvents d)
    (fun _ => Nat.zero_le _) (fun op rest l r1 r2 h1 ih => by
      have := walkOperation_bound s d _ op l r1 h1
      simp only [List.length_append, List.map_cons, List.sum_cons, List.length_cons, Nat.add_mul, Nat.one_mul]
      omega) _ _ _ h1
  have b2 := walkFrags_induct (M := fun fs _ r => r.2.length ≤ (fs.map evFrag).sum + fs.length * fragEvents d)
    (fun _ => Nat.zero_le _) (fun f rest l r1 r2 h1 ih => by
      have := walkFragment_bound s d _ f l r1 h1
      simp only [List.length_append, List.map_cons, List.sum_cons, List.length_cons, Nat.add_mul, Nat.one_mul]
      omega) _ _ _ h2
  simp only [List.length_append, docEvents, Nat.add_mul]
  omega

end Gql.Validate
