import GqlProofs.Validate.OverlapFull
/-
  §5.3.2 "the set of selections … including visiting fragments": the specification's collected sets
  (`Spec.collectSet`, `Spec.mergedSet`) as lists of the rule's collected fields.

  `flatSels` mirrors `Spec.collectSels` on `FInfo` (`collectSels_mirror`); its members are the own
  fields of the selection set and the fields of the fragments reachable through spreads
  (`SReachL`/`RFldL`: soundness `flatSels_sound`), and with enough fuel every such field is a member
  or lies in a fragment visited before (`FlatC`, `flatLevel_complete`).
-/
namespace Gql.Validate
open Gql Gql.Validate.Rules

abbrev FJump := Option Definition → Selections → List Name → List FInfo × List Name

mutual
  def flatSel (sv : SV) (l : Links) (d : QueryDoc) (jump : FJump) (parent : Option Definition) :
      Selection → List Name → List FInfo × List Name
    | .field al nm args dirs sub p, vis =>
      ([{ node := ⟨al, nm, args, dirs, sub, p⟩, sparent := parent, sdfn := staticFieldDef parent nm,
          linked := l.linked p.start }], vis)
    | .spread nm _ _, vis =>
      if vis.contains nm then ([], vis)
      else match fragForName d nm with
        | none => ([], nm :: vis)
        | some f => jump (sv.type? f.typeCond) f.sel (nm :: vis)
    | .inline tc _ sub _, vis => flatSels sv l d jump (inlineNext sv parent tc) sub vis
  def flatSels (sv : SV) (l : Links) (d : QueryDoc) (jump : FJump) (parent : Option Definition) :
      Selections → List Name → List FInfo × List Name
    | .nil, vis => ([], vis)
    | .cons x rest, vis =>
      let r1 := flatSel sv l d jump parent x vis
      let r2 := flatSels sv l d jump parent rest r1.2
      (r1.1 ++ r2.1, r2.2)
end

def flatLevel (sv : SV) (l : Links) (d : QueryDoc) : Nat → FJump
  | 0 => fun _ _ vis => ([], vis)
  | n + 1 => fun parent sels vis => flatSels sv l d (flatLevel sv l d n) parent sels vis

def JMirror (jump : Spec.MJump) (fj : FJump) : Prop :=
  ∀ p sels vis, jump p sels vis = ((fj p sels vis).1.map toM, (fj p sels vis).2)

mutual
  theorem collectSel_mirror (s : Schema) (d : QueryDoc) (l : Links) {jump : Spec.MJump} {fj : FJump} (hj : JMirror jump fj) :
      ∀ (x : Selection) (parent : Option Definition) (vis : List Name),
        Spec.collectSel s d jump parent x vis =
          ((flatSel s.view l d fj parent x vis).1.map toM, (flatSel s.view l d fj parent x vis).2)
    | .field al nm args dirs sub p, parent, vis => by simp [Spec.collectSel, flatSel, toM]
    | .spread nm dirs p, parent, vis => by
      simp only [Spec.collectSel, flatSel, fragByName_eq]
      split
      · rfl
      · cases fragForName d nm with
        | none => rfl
        | some f => exact hj _ _ _
    | .inline tc dirs sub p, parent, vis => by
      simp only [Spec.collectSel, flatSel, inlineNext_eq]
      exact collectSels_mirror s d l hj sub _ vis
  theorem collectSels_mirror (s : Schema) (d : QueryDoc) (l : Links) {jump : Spec.MJump} {fj : FJump} (hj : JMirror jump fj) :
      ∀ (sels : Selections) (parent : Option Definition) (vis : List Name),
        Spec.collectSels s d jump parent sels vis =
          ((flatSels s.view l d fj parent sels vis).1.map toM, (flatSels s.view l d fj parent sels vis).2)
    | .nil, _, _ => rfl
    | .cons x rest, parent, vis => by
      simp only [Spec.collectSels, flatSels, collectSel_mirror s d l hj x parent vis,
        collectSels_mirror s d l hj rest parent, List.map_append]
end

theorem collectLevel_mirror (s : Schema) (d : QueryDoc) (l : Links) : ∀ n,
    JMirror (Spec.collectLevel s d n) (flatLevel s.view l d n)
  | 0 => fun _ _ _ => rfl
  | n + 1 => fun p sels vis => by
    simp only [Spec.collectLevel, flatLevel]
    exact collectSels_mirror s d l (collectLevel_mirror s d l n) sels p vis

def flatSet (s : Schema) (d : QueryDoc) (l : Links) (parent : Option Definition) (sels : Selections) : List FInfo :=
  (flatLevel s.view l d (d.frags.length + 1) parent sels []).1

theorem collectSet_mirror (s : Schema) (d : QueryDoc) (l : Links) (parent : Option Definition) (sels : Selections) :
    Spec.collectSet s d parent sels = (flatSet s d l parent sels).map toM := by
  unfold Spec.collectSet flatSet
  rw [collectLevel_mirror s d l]

/-- fragment names reachable from a list of spreads through the spreads collected from fragment
    definitions (through inline fragments, not into sub-selections of fields) -/
inductive SReachL (d : QueryDoc) (sps : List SpreadNode) : Name → Prop
  | base {sp : SpreadNode} : sp ∈ sps → SReachL d sps sp.name
  | step {m : Name} {F : FragmentDef} {sp : SpreadNode} :
      SReachL d sps m → fragForName d m = some F → sp ∈ collectSpreads F.sel → SReachL d sps sp.name

theorem SReachL.mono {d : QueryDoc} {a b : List SpreadNode} (h : ∀ x ∈ a, x ∈ b) {n : Name} (hr : SReachL d a n) :
    SReachL d b n := by
  induction hr with
  | base hs => exact .base (h _ hs)
  | step _ hF hsp ih => exact .step ih hF hsp

theorem SReachL.trans {d : QueryDoc} {sps : List SpreadNode} {m n : Name} {F : FragmentDef} (hm : SReachL d sps m)
    (hF : fragForName d m = some F) (hn : SReachL d (collectSpreads F.sel) n) : SReachL d sps n := by
  induction hn with
  | base hs => exact .step hm hF hs
  | step _ hF' hsp ih => exact .step ih hF' hsp

def fragFieldsOf (sv : SV) (l : Links) (F : FragmentDef) : List FInfo := collectFields sv l (sv.type? F.typeCond) F.sel

def RFldL (sv : SV) (l : Links) (d : QueryDoc) (own : List FInfo) (sps : List SpreadNode) (f : FInfo) : Prop :=
  f ∈ own ∨ ∃ n F, SReachL d sps n ∧ fragForName d n = some F ∧ f ∈ fragFieldsOf sv l F

theorem RFldL.mono {sv : SV} {l : Links} {d : QueryDoc} {own own' : List FInfo} {sps sps' : List SpreadNode} {f : FInfo}
    (h : RFldL sv l d own sps f) (h1 : ∀ x ∈ own, x ∈ own') (h2 : ∀ x ∈ sps, x ∈ sps') : RFldL sv l d own' sps' f := by
  rcases h with h | ⟨n, F, hr, hF, hf⟩
  · exact Or.inl (h1 _ h)
  · exact Or.inr ⟨n, F, hr.mono h2, hF, hf⟩

def RFld (sv : SV) (l : Links) (d : QueryDoc) (p : Option Definition) (sels : Selections) (f : FInfo) : Prop :=
  RFldL sv l d (collectFields sv l p sels) (collectSpreads sels) f

/-- what is reachable from the selection set of a fragment is reachable from a spread of that fragment -/
theorem RFld.ofSpread {sv : SV} {l : Links} {d : QueryDoc} {sp : SpreadNode} {F : FragmentDef} {f : FInfo}
    (h : RFld sv l d (sv.type? F.typeCond) F.sel f) (hF : fragForName d sp.name = some F) {own : List FInfo}
    {sps : List SpreadNode} (hsp : sp ∈ sps) : RFldL sv l d own sps f := by
  rcases h with h | ⟨n, G, hr, hG, hf⟩
  · exact Or.inr ⟨_, F, .base hsp, hF, h⟩
  · exact Or.inr ⟨n, G, (SReachL.base hsp).trans hF hr, hG, hf⟩

def JSound (sv : SV) (l : Links) (d : QueryDoc) (fj : FJump) : Prop :=
  ∀ p sels vis f, f ∈ (fj p sels vis).1 → RFld sv l d p sels f

mutual
  theorem flatSel_sound (sv : SV) (l : Links) (d : QueryDoc) {fj : FJump} (hj : JSound sv l d fj) :
      ∀ (x : Selection) (parent : Option Definition) (vis : List Name) (f : FInfo),
        f ∈ (flatSel sv l d fj parent x vis).1 → RFldL sv l d (collectFieldsSel sv l parent x) (collectSpreadsSel x) f
    | .field al nm args dirs sub p, parent, vis, f, h => by
      simp only [flatSel, List.mem_singleton] at h
      subst h
      exact Or.inl (by simp [collectFieldsSel])
    | .spread nm dirs p, parent, vis, f, h => by
      simp only [flatSel] at h
      split at h
      · cases h
      · cases hF : fragForName d nm with
        | none => rw [hF] at h; cases h
        | some F =>
          rw [hF] at h
          simp only at h
          exact (hj _ _ _ f h).ofSpread (sp := ⟨nm, dirs, p⟩) hF (by simp [collectSpreadsSel])
    | .inline tc dirs sub p, parent, vis, f, h => by
      simp only [flatSel] at h
      simp only [collectFieldsSel, collectSpreadsSel]
      exact flatSels_sound sv l d hj sub _ vis f h
  theorem flatSels_sound (sv : SV) (l : Links) (d : QueryDoc) {fj : FJump} (hj : JSound sv l d fj) :
      ∀ (sels : Selections) (parent : Option Definition) (vis : List Name) (f : FInfo),
        f ∈ (flatSels sv l d fj parent sels vis).1 → RFld sv l d parent sels f
    | .nil, _, _, _, h => by simp [flatSels] at h
    | .cons x rest, parent, vis, f, h => by
      simp only [flatSels, List.mem_append] at h
      unfold RFld
      simp only [collectFields, collectSpreads]
      rcases h with h | h
      · exact (flatSel_sound sv l d hj x parent vis f h).mono (fun _ hx => List.mem_append_left _ hx)
          (fun _ hx => List.mem_append_left _ hx)
      · exact (flatSels_sound sv l d hj rest parent _ f h).mono (fun _ hx => List.mem_append_right _ hx)
          (fun _ hx => List.mem_append_right _ hx)
end

theorem flatLevel_sound (sv : SV) (l : Links) (d : QueryDoc) : ∀ n, JSound sv l d (flatLevel sv l d n)
  | 0 => fun _ _ _ _ h => by simp [flatLevel] at h
  | n + 1 => fun p sels vis f h => by
    simp only [flatLevel] at h
    exact flatSels_sound sv l d (flatLevel_sound sv l d n) sels p vis f h



mutual
  theorem flatSel_own (sv : SV) (l : Links) (d : QueryDoc) (fj : FJump) :
      ∀ (x : Selection) (parent : Option Definition) (vis : List Name),
        (collectFieldsSel sv l parent x).Sublist (flatSel sv l d fj parent x vis).1
    | .field al nm args dirs sub p, parent, vis => by simp [collectFieldsSel, flatSel]
    | .spread nm dirs p, parent, vis => by simp [collectFieldsSel]
    | .inline tc dirs sub p, parent, vis => by
      simp only [collectFieldsSel, flatSel]
      exact flatSels_own sv l d fj sub _ vis
  theorem flatSels_own (sv : SV) (l : Links) (d : QueryDoc) (fj : FJump) :
      ∀ (sels : Selections) (parent : Option Definition) (vis : List Name),
        (collectFields sv l parent sels).Sublist (flatSels sv l d fj parent sels vis).1
    | .nil, _, _ => by simp [collectFields, flatSels]
    | .cons x rest, parent, vis => by
      simp only [collectFields, flatSels]
      exact List.Sublist.append (flatSel_own sv l d fj x parent vis) (flatSels_own sv l d fj rest parent _)
end

/-- what one collection adds: the names of the spreads it met are visited afterwards, and every
    fragment that BECAME visited has all its fields in the output and its own spreads visited -/
structure FlatC (sv : SV) (l : Links) (d : QueryDoc) (sps : List SpreadNode) (vis : List Name)
    (r : List FInfo × List Name) : Prop where
  mono : vis ⊆ r.2
  src : ∀ sp ∈ sps, sp.name ∈ r.2
  new : ∀ n ∈ r.2, n ∉ vis → ∀ F, fragForName d n = some F →
    (∀ f ∈ fragFieldsOf sv l F, f ∈ r.1) ∧ ∀ sp ∈ collectSpreads F.sel, sp.name ∈ r.2

def JComplete (sv : SV) (l : Links) (d : QueryDoc) (n : Nat) (fj : FJump) : Prop :=
  ∀ p sels vis, unvisited d vis + 1 ≤ n →
    FlatC sv l d (collectSpreads sels) vis (fj p sels vis) ∧ ∀ f ∈ collectFields sv l p sels, f ∈ (fj p sels vis).1

theorem FlatC.stay {sv : SV} {l : Links} {d : QueryDoc} {sps : List SpreadNode} {vis : List Name} {fs : List FInfo}
    (h : ∀ sp ∈ sps, sp.name ∈ vis) : FlatC sv l d sps vis (fs, vis) :=
  ⟨fun _ h => h, h, fun _ hn hnv => absurd hn hnv⟩

theorem FlatC.seq {sv : SV} {l : Links} {d : QueryDoc} {s1 s2 : List SpreadNode} {vis : List Name}
    {r1 r2 : List FInfo × List Name} (h1 : FlatC sv l d s1 vis r1) (h2 : FlatC sv l d s2 r1.2 r2) :
    FlatC sv l d (s1 ++ s2) vis (r1.1 ++ r2.1, r2.2) where
  mono := fun _ hx => h2.mono (h1.mono hx)
  src := fun sp hsp => by
    rcases List.mem_append.1 hsp with h | h
    · exact h2.mono (h1.src sp h)
    · exact h2.src sp h
  new := fun n hn hnv F hF => by
    by_cases hm : n ∈ r1.2
    · obtain ⟨a, b⟩ := h1.new n hm hnv F hF
      exact ⟨fun f hf => List.mem_append_left _ (a f hf), fun sp hsp => h2.mono (b sp hsp)⟩
    · obtain ⟨a, b⟩ := h2.new n hn hm F hF
      exact ⟨fun f hf => List.mem_append_right _ (a f hf), b⟩

mutual
  theorem flatSel_complete (sv : SV) (l : Links) (d : QueryDoc) (k : Nat) {fj : FJump} (hj : JComplete sv l d k fj) :
      ∀ (x : Selection) (parent : Option Definition) (vis : List Name), unvisited d vis ≤ k →
        FlatC sv l d (collectSpreadsSel x) vis (flatSel sv l d fj parent x vis)
    | .field al nm args dirs sub p, parent, vis, _ => .stay (by simp [collectSpreadsSel])
    | .spread nm dirs p, parent, vis, hk => by
      simp only [flatSel]
      split
      · rename_i hc
        exact .stay (List.forall_mem_singleton.2 (List.contains_iff_mem.1 hc))
      · rename_i hc
        have hnot : nm ∉ vis := fun hm => hc (List.contains_iff_mem.2 hm)
        cases hF : fragForName d nm with
        | none =>
          exact { mono := fun _ h => List.mem_cons_of_mem _ h
                  src := List.forall_mem_singleton.2 List.mem_cons_self
                  new := fun n hn hnv F hF' => by
                    rcases List.mem_cons.1 hn with rfl | hn
                    · rw [hF] at hF'; cases hF'
                    · exact absurd hn hnv }
        | some F =>
          simp only
          have hname : F.name = nm := fragForName_name hF
          have hlt := unvisited_lt d vis F (fragForName_mem hF) (by rw [hname]; exact eq_false_of_ne_true hc)
          rw [hname] at hlt
          obtain ⟨hc1, hown⟩ := hj (sv.type? F.typeCond) F.sel (nm :: vis) (by omega)
          exact { mono := fun _ h => hc1.mono (List.mem_cons_of_mem _ h)
                  src := List.forall_mem_singleton.2 (hc1.mono List.mem_cons_self)
                  new := fun n hn hnv G hG => by
                    by_cases hnm : n = nm
                    · subst hnm
                      rw [hF] at hG
                      injection hG with hG
                      subst hG
                      exact ⟨hown, hc1.src⟩
                    · exact hc1.new n hn (fun hm => by
                        rcases List.mem_cons.1 hm with h | h
                        · exact hnm h
                        · exact hnv h) G hG }
    | .inline tc dirs sub p, parent, vis, hk => by
      simp only [flatSel, collectSpreadsSel]
      exact flatSels_complete sv l d k hj sub _ vis hk
  theorem flatSels_complete (sv : SV) (l : Links) (d : QueryDoc) (k : Nat) {fj : FJump} (hj : JComplete sv l d k fj) :
      ∀ (sels : Selections) (parent : Option Definition) (vis : List Name), unvisited d vis ≤ k →
        FlatC sv l d (collectSpreads sels) vis (flatSels sv l d fj parent sels vis)
    | .nil, _, vis, _ => .stay (by simp [collectSpreads])
    | .cons x rest, parent, vis, hk => by
      simp only [flatSels, collectSpreads]
      have h1 := flatSel_complete sv l d k hj x parent vis hk
      have h2 := flatSels_complete sv l d k hj rest parent (flatSel sv l d fj parent x vis).2
        (Nat.le_trans (unvisited_mono d h1.mono) hk)
      exact h1.seq h2
end

theorem flatLevel_complete (sv : SV) (l : Links) (d : QueryDoc) : ∀ n, JComplete sv l d n (flatLevel sv l d n)
  | 0 => fun _ _ _ h => by omega
  | n + 1 => fun p sels vis hk => by
    simp only [flatLevel]
    exact ⟨flatSels_complete sv l d n (flatLevel_complete sv l d n) sels p vis (by omega),
      fun f hf => (flatSels_own sv l d _ sels p vis).subset hf⟩

theorem FlatC.reach {sv : SV} {l : Links} {d : QueryDoc} {sps : List SpreadNode} {vis : List Name}
    {r : List FInfo × List Name} (h : FlatC sv l d sps vis r)
    (hclosed : ∀ m ∈ vis, ∀ F, fragForName d m = some F → ∀ sp ∈ collectSpreads F.sel, sp.name ∈ vis) :
    ∀ n, SReachL d sps n → n ∈ r.2 := by
  intro n hr
  induction hr with
  | base hs => exact h.src _ hs
  | @step m F sp _ hF hsp ih =>
    by_cases hm : m ∈ vis
    · exact h.mono (hclosed m hm F hF sp hsp)
    · exact (h.new m ih hm F hF).2 sp hsp

theorem flatSet_complete (s : Schema) (d : QueryDoc) (l : Links) (parent : Option Definition) (sels : Selections)
    {f : FInfo} (h : RFld s.view l d parent sels f) : f ∈ flatSet s d l parent sels := by
  unfold flatSet
  obtain ⟨hc, hown⟩ := flatLevel_complete s.view l d (d.frags.length + 1) parent sels []
    (by have := unvisited_le_length d []; omega)
  rcases h with h | ⟨n, F, hr, hF, hf⟩
  · exact hown f h
  · have hn := hc.reach (fun _ hm => by cases hm) n hr
    exact (hc.new n hn (fun hm => by cases hm) F hF).1 f hf

theorem flatSet_sound (s : Schema) (d : QueryDoc) (l : Links) (parent : Option Definition) (sels : Selections)
    {f : FInfo} (h : f ∈ flatSet s d l parent sels) : RFld s.view l d parent sels f :=
  flatLevel_sound s.view l d _ parent sels [] f h

theorem flatSet_own (s : Schema) (d : QueryDoc) (l : Links) (parent : Option Definition) (sels : Selections) :
    (collectFields s.view l parent sels).Sublist (flatSet s d l parent sels) := by
  unfold flatSet
  exact flatSels_own s.view l d _ sels parent []

end Gql.Validate
