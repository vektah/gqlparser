import GqlProofs.Validate.OverlapFull
/-
  OverlappingFieldsCanBeMerged: the memo-free judgments are symmetric on documents in which
  `sameArguments` is (argument names and input-object field names are unique): the fragment-pair
  memo of the rule records a pair in both orders, so the rule relies on this.
-/
namespace Gql.Validate
open Gql Gql.Validate.Rules

def ArgsSym (s : Schema) (d : QueryDoc) : Prop :=
  ∀ t ∈ Spec.docSels s d, ∀ t' ∈ Spec.docSels s d,
    ∀ al nm args dirs sub pos al' nm' args' dirs' sub' pos',
      t.sel = .field al nm args dirs sub pos → t'.sel = .field al' nm' args' dirs' sub' pos' →
      sameArguments args args' = sameArguments args' args

theorem goExcl_comm (a b : FInfo) : goExcl a b = goExcl b a := by
  unfold goExcl
  cases ha : a.obj with
  | none => cases hb : b.obj <;> rfl
  | some oa =>
    cases hb : b.obj with
    | none => rfl
    | some ob =>
      simp only
      rw [bne_comm (a := oa.name)]
      generalize (ob.name != oa.name) = x
      generalize (oa.kind == DefKind.object) = y
      generalize (ob.kind == DefKind.object) = z
      generalize a.dfn.isSome = u
      generalize b.dfn.isSome = v
      cases x <;> cases y <;> cases z <;> cases u <;> cases v <;> rfl

theorem doTypesConflict_comm (s : SV) : ∀ (t1 t2 : GType), doTypesConflict s t1 t2 = doTypesConflict s t2 t1
  | .list e1 nn1 _, .list e2 nn2 _ => by
    unfold doTypesConflict
    rw [doTypesConflict_comm s e1 e2]
    cases nn1 <;> cases nn2 <;> rfl
  | .list _ _ _, .named _ _ _ => by simp [doTypesConflict]
  | .named _ _ _, .list _ _ _ => by simp [doTypesConflict]
  | .named n1 nn1 _, .named n2 nn2 _ => by
    unfold doTypesConflict
    have hb : (nn1 != nn2) = (nn2 != nn1) := by cases nn1 <;> cases nn2 <;> rfl
    rw [hb]
    split
    · rfl
    · cases h1 : s.type? n1 with
      | none => cases h2 : s.type? n2 <;> rfl
      | some t1 =>
        cases h2 : s.type? n2 with
        | none => rfl
        | some t2 =>
          simp only
          rw [Bool.or_comm, bne_comm]

def Jg.swap : Jg → Jg
  | .conf pe a b => .conf pe b a
  | .sub ex a b => .sub ex b a
  | .chain ex p sels sp => .chain ex p sels sp
  | .check ex a b => .check ex b a

def SwapPre (s : Schema) (d : QueryDoc) : Jg → Prop
  | .conf _ a b => DocF s d (fullLinks d) a ∧ DocF s d (fullLinks d) b
  | .sub _ a b => DocF s d (fullLinks d) a ∧ DocF s d (fullLinks d) b
  | .chain .. => True
  | .check .. => True

theorem fragFieldList_docF {s : Schema} {d : QueryDoc} {sp : SpreadNode} {F : FragmentDef} {f : FInfo}
    (hF : (envOf s d (fullLinks d)).l.spreadDef (envOf s d (fullLinks d)).d sp.name sp.pos = some F)
    (hf : f ∈ fragFieldList (envOf s d (fullLinks d)) F) : DocF s d (fullLinks d) f :=
  DocF.ofSet (t := ⟨s.type? F.typeCond, F.sel⟩) (docSets_frag (fragForName_mem (spreadDef_some hF))) hf

theorem holds_swap {s : Schema} {d : QueryDoc} (H : OvHyps s d) (hsym : ArgsSym s d) {j : Jg}
    (h : Holds (envOf s d (fullLinks d)) j) : SwapPre s d j → Holds (envOf s d (fullLinks d)) j.swap := by
  induction h with
  | @names pe a b oa ob hoa hob hex hne =>
    intro _
    exact .names hob hoa (by rw [goExcl_comm]; exact hex) (fun e => hne e.symm)
  | @args pe a b oa ob hoa hob hex ha =>
    intro hp
    refine .args hob hoa (by rw [goExcl_comm]; exact hex) ?_
    rw [← hsym _ hp.1.inDoc _ hp.2.inDoc _ _ _ _ _ _ _ _ _ _ _ _ rfl rfl]
    exact ha
  | types hoa hob hda hdb hc =>
    intro _
    refine .types hob hoa hdb hda ?_
    rw [doTypesConflict_comm]
    exact hc
  | @sub pe a b oa ob hoa hob _ ih =>
    intro hp
    refine .sub hob hoa ?_
    rw [goExcl_comm b a]
    exact ih hp
  | subFields ha' hb' hrn _ ih =>
    intro hp
    exact .subFields hb' ha' hrn.symm (ih ⟨hp.1.sub H ha', hp.2.sub H hb'⟩)
  | subChainB hsp hc _ => exact fun _ => .subChainA hsp hc
  | subChainA hsp hc _ => exact fun _ => .subChainB hsp hc
  | subCheck hsa hsb _ ih => exact fun _ => .subCheck hsb hsa (ih trivial)
  | chainHere hF hid ha hg hrn hc _ => exact fun _ => .chainHere hF hid ha hg hrn hc
  | chainNext hF hid hsp hne hc _ => exact fun _ => .chainNext hF hid hsp hne hc
  | checkHere hne hA hB hfa hfb hrn _ ih =>
    intro _
    exact .checkHere (fun e => hne e.symm) hB hA hfb hfa hrn.symm (ih ⟨fragFieldList_docF hA hfa, fragFieldList_docF hB hfb⟩)
  | checkRight hne hA hB hx _ ih => exact fun _ => .checkLeft (fun e => hne e.symm) hB hA hx (ih trivial)
  | checkLeft hne hA hB hx _ ih => exact fun _ => .checkRight (fun e => hne e.symm) hB hA hx (ih trivial)

end Gql.Validate
