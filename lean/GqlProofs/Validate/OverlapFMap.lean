import GqlModel.Validate.Rules
import GqlProofs.Lemmas.Lists
/-
  OverlappingFieldsCanBeMerged: the field map `fmOfList L` (`sequentialFieldsMap`) groups the
  collected fields by response name, in order.

    * every entry lists, in order, fields of `L` that have its key as response name
      (`entry_sub_bucket`; read off it: `entry_mem`, `entry_sublist`, `fmOfList_allK`);
    * `Get(k)` returns the bucket of `k` (`fmGet_fmOfList`; `fmGet_of_mem`, `entry_of_mem`, `fmGet_mem`).
-/
namespace Gql.Validate
open Gql Gql.Validate.Rules

def rnOf (f : FInfo) : Name := responseName f.node

def bucket (L : List FInfo) (k : Name) : List FInfo := L.filter fun f => rnOf f == k

theorem mem_bucket {L : List FInfo} {k : Name} {f : FInfo} : f ∈ bucket L k ↔ f ∈ L ∧ rnOf f = k := by
  simp [bucket]

theorem bucket_append (L : List FInfo) (f : FInfo) (k : Name) :
    bucket (L ++ [f]) k = bucket L k ++ (if rnOf f == k then [f] else []) := by
  unfold bucket
  rw [List.filter_append]
  by_cases h : rnOf f == k <;> simp [h]


theorem fmPush_sub_bucket (f : FInfo) (L0 : List FInfo) : ∀ (m : FMap), (∀ e ∈ m, e.2.Sublist (bucket L0 e.1)) →
    ∀ e ∈ fmPush (rnOf f) f m, e.2.Sublist (bucket (L0 ++ [f]) e.1)
  | [], _, e, he => by
    simp only [fmPush, List.mem_singleton] at he
    subst he
    simp [bucket, rnOf]
  | (k, fs) :: rest, hm, e, he => by
    -- an entry that `Push` leaves as it is: its bucket has not become shorter
    have old : ∀ e' ∈ (k, fs) :: rest, e'.2.Sublist (bucket (L0 ++ [f]) e'.1) := fun e' he' => by
      rw [bucket_append]
      exact (hm e' he').trans (List.sublist_append_left _ _)
    simp only [fmPush] at he
    split at he
    · rename_i hk
      rcases List.mem_cons.1 he with rfl | he
      · have hk' : (rnOf f == k) = true := by rw [beq_iff_eq] at hk ⊢; exact hk.symm
        rw [bucket_append, if_pos hk']
        exact (hm (k, fs) (List.mem_cons_self ..)).append (List.Sublist.refl _)
      · exact old e (List.mem_cons_of_mem _ he)
    · rcases List.mem_cons.1 he with rfl | he
      · exact old _ (List.mem_cons_self ..)
      · exact fmPush_sub_bucket f L0 rest (fun e' he' => hm e' (List.mem_cons_of_mem _ he')) e he

theorem entry_sub_bucket (L : List FInfo) : ∀ e ∈ fmOfList L, e.2.Sublist (bucket L e.1) := by
  unfold fmOfList
  suffices h : ∀ (L L0 : List FInfo) (m : FMap), (∀ e ∈ m, e.2.Sublist (bucket L0 e.1)) →
      ∀ e ∈ L.foldl (fun m f => fmPush (responseName f.node) f m) m, e.2.Sublist (bucket (L0 ++ L) e.1) by
    simpa using h L [] [] (fun e he => by cases he)
  intro L
  induction L with
  | nil => intro L0 m hm; simpa using hm
  | cons f rest ih =>
    intro L0 m hm
    simpa [rnOf] using ih (L0 ++ [f]) _ (fmPush_sub_bucket f L0 m hm)

theorem entry_mem {L : List FInfo} : ∀ e ∈ fmOfList L, ∀ f ∈ e.2, f ∈ L ∧ rnOf f = e.1 :=
  fun e he _ hf => mem_bucket.1 ((entry_sub_bucket L e he).subset hf)

theorem entry_sublist (L : List FInfo) : ∀ e ∈ fmOfList L, e.2.Sublist L :=
  fun e he => (entry_sub_bucket L e he).trans List.filter_sublist

theorem fmOfList_allK (Q : Name → FInfo → Prop) (fs : List FInfo) (h : ∀ f ∈ fs, Q (responseName f.node) f) :
    ∀ e ∈ fmOfList fs, ∀ f ∈ e.2, Q e.1 f := fun e he f hf => by
  obtain ⟨h1, h2⟩ := entry_mem e he f hf
  exact h2 ▸ h f h1


theorem lookup_fmPush (rn : Name) (f : FInfo) : ∀ (m : FMap) (k : Name),
    (fmPush rn f m).lookup k = if k == rn then some ((m.lookup k).getD [] ++ [f]) else m.lookup k
  | [], k => by
    simp only [fmPush, List.lookup_cons, List.lookup_nil]
    by_cases h : k == rn <;> simp [h]
  | (k0, fs) :: rest, k => by
    simp only [fmPush]
    by_cases h0 : k0 == rn
    · have e0 : k0 = rn := by simpa using h0
      subst e0
      simp only [beq_self_eq_true, if_true, List.lookup_cons]
      by_cases hk : k == k0 <;> simp [hk]
    · simp only [h0, Bool.false_eq_true, if_false, List.lookup_cons]
      by_cases hk : k == k0
      · have e : k = k0 := by simpa using hk
        subst e
        simp [h0]
      · simp only [hk]
        exact lookup_fmPush rn f rest k

def bucketOpt (L : List FInfo) (k : Name) : Option (List FInfo) :=
  match bucket L k with
  | [] => none
  | fs => some fs

theorem fmGet_fmOfList (L : List FInfo) (k : Name) : fmGet (fmOfList L) k = bucketOpt L k := by
  unfold fmGet fmOfList
  suffices h : ∀ (L L0 : List FInfo) (m : FMap), (∀ k, m.lookup k = bucketOpt L0 k) →
      ∀ k, (L.foldl (fun m f => fmPush (responseName f.node) f m) m).lookup k = bucketOpt (L0 ++ L) k by
    have := h L [] [] (fun k => by simp [bucketOpt, bucket]) k
    simpa using this
  intro L
  induction L with
  | nil => intro L0 m hm k; simpa using hm k
  | cons f rest ih =>
    intro L0 m hm k
    simp only [List.foldl_cons]
    have := ih (L0 ++ [f]) (fmPush (responseName f.node) f m) (fun k' => by
      rw [lookup_fmPush, hm k']
      unfold bucketOpt
      rw [bucket_append]
      by_cases hk : k' == responseName f.node
      · have e : k' = responseName f.node := by simpa using hk
        subst e
        simp only [beq_self_eq_true, if_true, rnOf]
        cases hb : bucket L0 (responseName f.node) with
        | nil => simp
        | cons x xs => simp
      · have hk' : (rnOf f == k') = false := by
          simp only [rnOf]
          cases h : responseName f.node == k' with
          | false => rfl
          | true =>
            have : responseName f.node = k' := by simpa using h
            subst this
            simp at hk
        simp only [hk, hk', Bool.false_eq_true, if_false, List.append_nil]) k
    simpa using this

theorem fmGet_of_mem {L : List FInfo} {f : FInfo} (h : f ∈ L) :
    ∃ fs, fmGet (fmOfList L) (rnOf f) = some fs ∧ fs = bucket L (rnOf f) ∧ f ∈ fs := by
  rw [fmGet_fmOfList]
  have hm : f ∈ bucket L (rnOf f) := mem_bucket.2 ⟨h, rfl⟩
  unfold bucketOpt
  cases hb : bucket L (rnOf f) with
  | nil => rw [hb] at hm; cases hm
  | cons x xs => exact ⟨x :: xs, rfl, rfl, by rw [← hb]; exact hm⟩

theorem entry_of_mem {L : List FInfo} {f : FInfo} (h : f ∈ L) : (rnOf f, bucket L (rnOf f)) ∈ fmOfList L := by
  obtain ⟨fs, h1, h2, _⟩ := fmGet_of_mem h
  subst h2
  exact mem_of_lookup h1

theorem fmGet_mem {L : List FInfo} {k : Name} {fs : List FInfo} (h : fmGet (fmOfList L) k = some fs) :
    fs = bucket L k := by
  rw [fmGet_fmOfList] at h
  unfold bucketOpt at h
  split at h
  · cases h
  · injection h with h; exact h.symm

theorem pairwise_of_buckets {R : FInfo → FInfo → Prop} : ∀ (L : List FInfo),
    (∀ k, (bucket L k).Pairwise R) → L.Pairwise fun a b => rnOf a = rnOf b → R a b
  | [], _ => List.Pairwise.nil
  | x :: xs, h => by
    refine List.Pairwise.cons ?_ (pairwise_of_buckets xs fun k => ?_)
    · intro y hy hrn
      have := h (rnOf x)
      simp only [bucket, List.filter_cons, beq_self_eq_true, if_true] at this
      exact (List.pairwise_cons.1 this).1 y (List.mem_filter.2 ⟨hy, by simp [hrn]⟩)
    · have := h k
      simp only [bucket, List.filter_cons] at this
      split at this
      · exact (List.pairwise_cons.1 this).2
      · exact this

theorem bucket_nil_of_get_none {L : List FInfo} {k : Name} (h : fmGet (fmOfList L) k = none) : bucket L k = [] := by
  rw [fmGet_fmOfList] at h
  unfold bucketOpt at h
  split at h
  · assumption
  · cases h

end Gql.Validate
