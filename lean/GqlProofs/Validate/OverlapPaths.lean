import GqlProofs.Validate.OverlapSpecFalse
import GqlProofs.Validate.OverlapMemo
/-
  OverlappingFieldsCanBeMerged: why what the rule skips is harmless.  If NO selection set of the
  document has a derivable conflict (`NoTop`), then no two distinct fields reachable from one
  selection set conflict (`core`), and a conflict between a field reachable from the sub-selection
  of `x` and one reachable from the sub-selection of `y` is a derivable `sub` judgment for `x`, `y`
  (`sub_of_cross`, in OverlapSpecTrue, from `cross_cases` here) — although two spreads of the same name are never compared, a fragment's fields
  are compared among themselves only by the observer of that fragment, and `check` stops at a
  spread with the name of the other side.
-/
namespace Gql.Validate
open Gql Gql.Validate.Rules

def NoTop (s : Schema) (d : QueryDoc) : Prop :=
  ∀ t ∈ Spec.docSets s d, ¬ TopHolds (envOf s d (fullLinks d)) t.parent t.sels

def IdsInj (s : Schema) (d : QueryDoc) : Prop :=
  ∀ t ∈ Spec.docSets s d, ∀ t' ∈ Spec.docSets s d, selId t.sels = selId t'.sels → t.sels ≠ .nil → t = t'

/-- a path of spreads, from the root -/
inductive SPath (d : QueryDoc) : SpreadNode → Name → Prop
  | here {sp : SpreadNode} : SPath d sp sp.name
  | next {sp sp' : SpreadNode} {F : FragmentDef} {n : Name} :
      fragForName d sp.name = some F → sp' ∈ collectSpreads F.sel → SPath d sp' n → SPath d sp n

theorem SPath.snoc {d : QueryDoc} {sp : SpreadNode} {m : Name} (h : SPath d sp m) {F : FragmentDef} {sp' : SpreadNode}
    (hF : fragForName d m = some F) (hsp' : sp' ∈ collectSpreads F.sel) : SPath d sp sp'.name := by
  induction h with
  | here => exact .next hF hsp' .here
  | next hF0 hx _ ih => exact .next hF0 hx (ih hF)

theorem spath_of_sreach {d : QueryDoc} {sps : List SpreadNode} {n : Name} (h : SReachL d sps n) :
    ∃ sp ∈ sps, SPath d sp n := by
  induction h with
  | base hs => exact ⟨_, hs, .here⟩
  | step _ hF hsp ih =>
    obtain ⟨sp0, h0, hp⟩ := ih
    exact ⟨sp0, h0, hp.snoc hF hsp⟩

theorem sreach_of_spath {d : QueryDoc} {sp : SpreadNode} {n : Name} (h : SPath d sp n) : SReachL d [sp] n := by
  induction h with
  | here => exact .base (List.mem_singleton.2 rfl)
  | next hF hsp' _ ih => exact (SReachL.base (List.mem_singleton.2 rfl)).trans hF (ih.single hsp')

theorem SPath.beneath {d : QueryDoc} {sp : SpreadNode} {n : Name} (h : SPath d sp n) (hne : n ≠ sp.name) :
    ∃ F, fragForName d sp.name = some F ∧ SReachL d (collectSpreads F.sel) n := by
  cases h with
  | here => exact absurd rfl hne
  | next hF hsp' hp => exact ⟨_, hF, (sreach_of_spath hp).single hsp'⟩

theorem Reach.through {d : QueryDoc} {names : List Name} {x m : Name} (hb : Reach d names x)
    (hm : m = x ∨ Reach d (Spec.fragSpreads d x) m) : Reach d names m := by
  rcases hm with rfl | hm
  · exact hb
  · exact Reach.trans hb hm

theorem reach_spread {d : QueryDoc} {sp sp' : SpreadNode} {F : FragmentDef} (hF : fragForName d sp.name = some F)
    (hsp' : sp' ∈ collectSpreads F.sel) : Reach d (Spec.fragSpreads d sp.name) sp'.name := by
  rw [fragSpreads_of_forName hF]
  exact Reach.base (collectSpreads_names _ _ hsp')

theorem spreadDef_env {s : Schema} {d : QueryDoc} {sp : SpreadNode} {F : FragmentDef} (hsp : DSpread d sp)
    (hF : fragForName d sp.name = some F) :
    (envOf s d (fullLinks d)).l.spreadDef (envOf s d (fullLinks d)).d sp.name sp.pos = some F :=
  (spreadDef_full hsp).trans hF

theorem SPath.reach {d : QueryDoc} {sp : SpreadNode} {n : Name} (h : SPath d sp n) :
    n = sp.name ∨ Reach d (Spec.fragSpreads d sp.name) n := by
  induction h with
  | here => exact Or.inl rfl
  | next hF hsp' _ ih => exact Or.inr ((reach_spread hF hsp').through ih)

theorem rkN_frag_le {d : QueryDoc} {a n : Name} (h : n = a ∨ Reach d (Spec.fragSpreads d a) n) :
    rkN d (Spec.fragSpreads d n) ≤ rkN d (Spec.fragSpreads d a) := by
  rcases h with rfl | h
  · exact Nat.le_refl _
  · exact rkN_mono (fun x hx => Reach.trans h hx)

/-- the selection set is not the selection set of the fragment the spread names, nor of one below it -/
def NotFragBelow (d : QueryDoc) (sels : Selections) (sp : SpreadNode) : Prop :=
  ∀ m F, (m = sp.name ∨ Reach d (Spec.fragSpreads d sp.name) m) → fragForName d m = some F → selId sels ≠ selId F.sel

section
variable {s : Schema} {d : QueryDoc} (S : SemHyps s d) (hids : IdsInj s d) (NT : NoTop s d)
include S hids NT

omit hids in
/-- two distinct own fields of a selection set: the rule compares them -/
theorem own_pair_false {t : Spec.TSet} (ht : t ∈ Spec.docSets s d) {u v : FInfo}
    (hu : u ∈ collectFields s.view (fullLinks d) t.parent t.sels) (hv : v ∈ collectFields s.view (fullLinks d) t.parent t.sels)
    (hne : u ≠ v) (hrn : rnOf u = rnOf v) (hh : Holds (envOf s d (fullLinks d)) (.conf false u v)) : False := by
  rcases sublist_pair_of_mem hne hu hv with h | h
  · exact NT t ht (Or.inl ⟨u, v, h, hrn, hh⟩)
  · exact NT t ht (Or.inl ⟨v, u, h, hrn.symm, holds_swap S.H S.sym hh ⟨DocF.ofSet ht hu, DocF.ofSet ht hv⟩⟩)

omit NT in
theorem selId_ne_reach {t : Spec.TSet} (ht : t ∈ Spec.docSets s d) (hne : t.sels ≠ .nil) {n : Name} {F : FragmentDef}
    (hr : Reach d (Spec.spreadsOfSels t.sels) n) (hF : fragForName d n = some F) : selId t.sels ≠ selId F.sel := by
  intro e
  have := hids t ht ⟨s.type? F.typeCond, F.sel⟩ (docSets_frag (fragForName_mem hF)) e hne
  have hs : t.sels = F.sel := by rw [this]
  rw [hs] at hr
  apply S.acyclic n
  rw [fragSpreads_of_forName hF]
  exact hr

omit hids NT in
theorem chain_of_path {ex : Bool} {p : Option Definition} {sels : Selections} {a g : FInfo} {G : FragmentDef}
    (ha : a ∈ collectFields s.view (fullLinks d) p sels) (hg : g ∈ fragFieldsOf s.view (fullLinks d) G)
    (hrn : rnOf a = rnOf g) (hh : Holds (envOf s d (fullLinks d)) (.conf ex a g)) :
    ∀ {sp : SpreadNode} {n : Name}, SPath d sp n → fragForName d n = some G → DSpread d sp → NotFragBelow d sels sp →
      Holds (envOf s d (fullLinks d)) (.chain ex p sels sp) := by
  intro sp n hp
  induction hp with
  | @here sp =>
    intro hG hsp hside
    exact .chainHere (spreadDef_env hsp hG) (hside _ G (Or.inl rfl) hG) ha hg hrn hh
  | @next sp sp' F n hF hsp' _ ih =>
    intro hG hsp hside
    have hb := reach_spread hF hsp'
    have hnm : sp'.name ≠ sp.name := by
      intro e
      rw [e] at hb
      exact S.acyclic _ hb
    exact .chainNext (spreadDef_env hsp hF) (hside _ F (Or.inl rfl) hF) hsp' hnm
      (ih hG (frag_spread (fragForName_mem hF) hsp') (fun m F' hm hF' => hside m F' (Or.inr (hb.through hm)) hF'))

end


theorem SPath.root_defined {d : QueryDoc} {sp : SpreadNode} {n : Name} (h : SPath d sp n) {F : FragmentDef}
    (hF : fragForName d n = some F) : ∃ F', fragForName d sp.name = some F' := by
  cases h with
  | here => exact ⟨F, hF⟩
  | next hF' => exact ⟨_, hF'⟩

theorem rfld_of_path {s : Schema} {d : QueryDoc} {a : SpreadNode} {n : Name} (h : SPath d a n) {F A : FragmentDef}
    (hF : fragForName d n = some F) {u : FInfo} (hu : u ∈ fragFieldsOf s.view (fullLinks d) F) {m : Name} (hm : a.name = m)
    (hA : fragForName d m = some A) : RFld s.view (fullLinks d) d (s.type? A.typeCond) A.sel u := by
  subst hm
  by_cases hn : n = a.name
  · subst hn
    rw [hF] at hA
    injection hA with hA
    subst hA
    exact Or.inl hu
  · obtain ⟨F', hF', hr⟩ := h.beneath hn
    rw [hF'] at hA
    injection hA with hA
    subst hA
    exact Or.inr ⟨n, F, hr, hF, hu⟩

section
variable {s : Schema} {d : QueryDoc} (S : SemHyps s d)
include S

def CoreBelow (s : Schema) (d : QueryDoc) (ρ : Nat) : Prop :=
  ∀ M ∈ d.frags, rkS d M.sel < ρ → ∀ u v, RFld s.view (fullLinks d) d (s.type? M.typeCond) M.sel u →
    RFld s.view (fullLinks d) d (s.type? M.typeCond) M.sel v → u ≠ v → rnOf u = rnOf v →
    Holds (envOf s d (fullLinks d)) (.conf false u v) → False

/-- a conflict between fields of two different fragments at the ends of two paths whose roots have
    different names is a `check` judgment for the roots — unless a fragment below is not clean -/
theorem checkPath {ex : Bool} {ρ : Nat} (hlow : CoreBelow s d ρ) {u v : FInfo} {F1 F2 : FragmentDef} {n1 n2 : Name}
    (hu : u ∈ fragFieldsOf s.view (fullLinks d) F1) (hv : v ∈ fragFieldsOf s.view (fullLinks d) F2)
    (hF1 : fragForName d n1 = some F1) (hF2 : fragForName d n2 = some F2) (hne : u ≠ v)
    (hrn : rnOf u = rnOf v) (hh : Holds (envOf s d (fullLinks d)) (.conf ex u v)) :
    ∀ {b : SpreadNode}, SPath d b n2 → DSpread d b → rkSp d b < ρ → ∀ {a : SpreadNode}, SPath d a n1 → DSpread d a →
      rkSp d a < ρ → a.name ≠ b.name → Holds (envOf s d (fullLinks d)) (.check ex a b) := by
  intro b hb
  induction hb with
  | @here b =>
    intro hDb hrb a ha
    induction ha with
    | @here a =>
      intro hDa _ hnm
      exact .checkHere hnm (spreadDef_env hDa hF1) (spreadDef_env hDb hF2) hu hv hrn hh
    | @next a a' A n1' hA ha' hp' ih =>
      intro hDa hra hnm
      by_cases he : a'.name = b.name
      · exfalso
        have hru : RFld s.view (fullLinks d) d (s.type? F2.typeCond) F2.sel u := rfld_of_path hp' hF1 hu he hF2
        have hrk : rkS d F2.sel < ρ := by rw [← rkSp_eq hF2]; exact hrb
        exact hlow F2 (fragForName_mem hF2) hrk u v hru (Or.inl hv) hne hrn (holds_unflag hh)
      · obtain ⟨A', hA'⟩ := hp'.root_defined hF1
        have hlt := rkSp_lt S.acyclic ha' hA'
        have hra' : rkSp d a = rkS d A.sel := rkSp_eq hA
        exact .checkLeft hnm (spreadDef_env hDa hA) (spreadDef_env hDb hF2) ha'
          (ih hF1 (frag_spread (fragForName_mem hA) ha') (by omega) he)
  | @next b b' B n2' hB hb' hp' ih =>
    intro hDb hrb a ha hDa hra hnm
    obtain ⟨A, hA⟩ := ha.root_defined hF1
    by_cases he : a.name = b'.name
    · exfalso
      have hru : RFld s.view (fullLinks d) d (s.type? A.typeCond) A.sel u := rfld_of_path ha hF1 hu rfl hA
      have hrv : RFld s.view (fullLinks d) d (s.type? A.typeCond) A.sel v := rfld_of_path hp' hF2 hv he.symm hA
      have hrk : rkS d A.sel < ρ := by rw [← rkSp_eq hA]; exact hra
      exact hlow A (fragForName_mem hA) hrk u v hru hrv hne hrn (holds_unflag hh)
    · obtain ⟨B', hB'⟩ := hp'.root_defined hF2
      have hlt := rkSp_lt S.acyclic hb' hB'
      have hrb' : rkSp d b = rkS d B.sel := rkSp_eq hB
      exact .checkRight hnm (spreadDef_env hDa hA) (spreadDef_env hDb hB) hb'
        (ih hF2 (frag_spread (fragForName_mem hB) hb') (by omega) ha hDa hra he)

theorem cross_cases {ex : Bool} {ρ : Nat} (hlow : CoreBelow s d ρ) {tx ty : Spec.TSet}
    (htx : tx ∈ Spec.docSets s d) (hty : ty ∈ Spec.docSets s d)
    (hrx : ∀ sp ∈ collectSpreads tx.sels, ∀ F, fragForName d sp.name = some F → rkSp d sp < ρ)
    (hry : ∀ sp ∈ collectSpreads ty.sels, ∀ F, fragForName d sp.name = some F → rkSp d sp < ρ)
    (hsx : ∀ sp ∈ collectSpreads ty.sels, NotFragBelow d tx.sels sp)
    (hsy : ∀ sp ∈ collectSpreads tx.sels, NotFragBelow d ty.sels sp) {u v : FInfo}
    (hu : RFld s.view (fullLinks d) d tx.parent tx.sels u) (hv : RFld s.view (fullLinks d) d ty.parent ty.sels v)
    (hne : u ≠ v) (hrn : rnOf u = rnOf v) (hh : Holds (envOf s d (fullLinks d)) (.conf ex u v)) :
    (u ∈ collectFields s.view (fullLinks d) tx.parent tx.sels ∧ v ∈ collectFields s.view (fullLinks d) ty.parent ty.sels) ∨
    (∃ sp ∈ collectSpreads ty.sels, Holds (envOf s d (fullLinks d)) (.chain ex tx.parent tx.sels sp)) ∨
    (∃ sp ∈ collectSpreads tx.sels, Holds (envOf s d (fullLinks d)) (.chain ex ty.parent ty.sels sp)) ∨
    (∃ sa ∈ collectSpreads tx.sels, ∃ sb ∈ collectSpreads ty.sels, sa.name ≠ sb.name ∧
      Holds (envOf s d (fullLinks d)) (.check ex sa sb)) := by
  have du := rfld_docF htx hu
  have dv := rfld_docF hty hv
  rcases hu with hu | ⟨n1, F1, hr1, hF1, hu⟩
  · rcases hv with hv | ⟨n2, F2, hr2, hF2, hv⟩
    · exact Or.inl ⟨hu, hv⟩
    · obtain ⟨sp, hsp, hp⟩ := spath_of_sreach hr2
      exact Or.inr (Or.inl ⟨sp, hsp, chain_of_path S hu hv hrn hh hp hF2 (docSet_spread hty hsp) (hsx sp hsp)⟩)
  · obtain ⟨sp1, hsp1, hp1⟩ := spath_of_sreach hr1
    rcases hv with hv | ⟨n2, F2, hr2, hF2, hv⟩
    · exact Or.inr (Or.inr (Or.inl ⟨sp1, hsp1, chain_of_path S hv hu hrn.symm (holds_swap S.H S.sym hh ⟨du, dv⟩) hp1 hF1
        (docSet_spread htx hsp1) (hsy sp1 hsp1)⟩))
    · obtain ⟨sp2, hsp2, hp2⟩ := spath_of_sreach hr2
      obtain ⟨M1, hM1⟩ := hp1.root_defined hF1
      obtain ⟨M2, hM2⟩ := hp2.root_defined hF2
      have hk1 := hrx sp1 hsp1 M1 hM1
      by_cases he : sp1.name = sp2.name
      · -- both reachable from the fragment that the two spreads name
        have hru : RFld s.view (fullLinks d) d (s.type? M1.typeCond) M1.sel u := rfld_of_path hp1 hF1 hu rfl hM1
        have hrv : RFld s.view (fullLinks d) d (s.type? M1.typeCond) M1.sel v := rfld_of_path hp2 hF2 hv he.symm hM1
        have hrk : rkS d M1.sel < ρ := by rw [← rkSp_eq hM1]; exact hk1
        exact (hlow M1 (fragForName_mem hM1) hrk u v hru hrv hne hrn (holds_unflag hh)).elim
      · exact Or.inr (Or.inr (Or.inr ⟨sp1, hsp1, sp2, hsp2, he, checkPath S hlow hu hv hF1 hF2 hne hrn hh hp2
          (docSet_spread hty hsp2) (hry sp2 hsp2 M2 hM2) hp1 (docSet_spread htx hsp1) hk1 he⟩))

variable (hids : IdsInj s d) (NT : NoTop s d)
include hids NT

theorem core : ∀ (ρ : Nat) (t : Spec.TSet), t ∈ Spec.docSets s d → rkS d t.sels < ρ → ∀ u v,
    RFld s.view (fullLinks d) d t.parent t.sels u → RFld s.view (fullLinks d) d t.parent t.sels v → u ≠ v →
    rnOf u = rnOf v → Holds (envOf s d (fullLinks d)) (.conf false u v) → False
  | 0, _, _, h, _, _, _, _, _, _, _ => by omega
  | ρ + 1, t, ht, hr, u, v, hu, hv, hne, hrn, hh => by
    have hlow : CoreBelow s d (rkS d t.sels) := fun M hM hrM u' v' hu' hv' =>
      core ρ ⟨s.type? M.typeCond, M.sel⟩ (docSets_frag hM) (by simp only; omega) u' v' hu' hv'
    have hnil : t.sels ≠ .nil := rfld_ne_nil hu
    have hside : ∀ sp ∈ collectSpreads t.sels, NotFragBelow d t.sels sp := by
      intro sp hsp m F hm hF
      exact selId_ne_reach S hids ht hnil ((Reach.base (collectSpreads_names _ _ hsp)).through hm) hF
    have hrk : ∀ sp ∈ collectSpreads t.sels, ∀ F, fragForName d sp.name = some F → rkSp d sp < rkS d t.sels :=
      fun sp hsp F hF => rkSp_lt S.acyclic hsp hF
    rcases cross_cases S hlow ht ht hrk hrk hside hside hu hv hne hrn hh with
      ⟨hu, hv⟩ | ⟨sp, hsp, hc⟩ | ⟨sp, hsp, hc⟩ | ⟨sa, hsa, sb, hsb, hnm, hc⟩
    · exact own_pair_false S NT ht hu hv hne hrn hh
    · exact NT t ht (Or.inr (Or.inl ⟨sp, hsp, hc⟩))
    · exact NT t ht (Or.inr (Or.inl ⟨sp, hsp, hc⟩))
    · rcases sublist_pair_of_mem (fun e => hnm (by rw [e])) hsa hsb with h | h
      · exact NT t ht (Or.inr (Or.inr ⟨sa, sb, h, hc⟩))
      · exact NT t ht (Or.inr (Or.inr ⟨sb, sa, h, holds_swap S.H S.sym hc trivial⟩))

theorem core_all {t : Spec.TSet} (ht : t ∈ Spec.docSets s d) {u v : FInfo}
    (hu : RFld s.view (fullLinks d) d t.parent t.sels u) (hv : RFld s.view (fullLinks d) d t.parent t.sels v) (hne : u ≠ v)
    (hrn : rnOf u = rnOf v) : ¬ Holds (envOf s d (fullLinks d)) (.conf false u v) :=
  fun hh => core S hids NT (rkS d t.sels + 1) t ht (by omega) u v hu hv hne hrn hh

end

end Gql.Validate
