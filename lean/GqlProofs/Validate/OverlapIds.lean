import GqlProofs.Validate.OverlapSpecTrue
/-
  Node identity.  The rule model identifies a selection set by the start offset of its first
  selection node (`selId`).  From ONE assumption on the document — the first nodes of all its
  non-empty selection sets have pairwise different start offsets (`SetStartsNodup`, a decidable
  property of the syntax tree that every parse has: distinct nodes start at distinct offsets and
  a node is the first element of one selection set) — follow the two facts the proofs use:
  `IdsInj` and `IdsNested`.
-/
namespace Gql.Validate
open Gql Gql.Validate.Rules

mutual
  /-- start offsets of the first nodes of the non-empty selection sets in `sels`, itself included -/
  def setStarts : Selections → List Nat
    | .nil => []
    | .cons x rest => x.pos.start :: (innerStartsSel x ++ innerStarts rest)
  /-- … of the selection sets nested in `sels` -/
  def innerStarts : Selections → List Nat
    | .nil => []
    | .cons x rest => innerStartsSel x ++ innerStarts rest
  def innerStartsSel : Selection → List Nat
    | .field _ _ _ _ sub _ => setStarts sub
    | .inline _ _ sub _ => setStarts sub
    | .spread _ _ _ => []
end

theorem setStarts_eq : ∀ sels : Selections, setStarts sels = (selId sels).toList ++ innerStarts sels
  | .nil => rfl
  | .cons x rest => by simp [setStarts, innerStarts, selId]

/-- the first nodes of the non-empty selection sets of the document start at different offsets -/
def SetStartsNodup (d : QueryDoc) : Prop :=
  (d.ops.flatMap (fun op => setStarts op.sel) ++ d.frags.flatMap (fun f => setStarts f.sel)).Nodup

instance (d : QueryDoc) : Decidable (SetStartsNodup d) := by unfold SetStartsNodup; infer_instance

theorem nodup_flatMap_parts {α β : Type} (f : α → List β) : ∀ (l : List α), (l.flatMap f).Nodup →
    (∀ x ∈ l, (f x).Nodup) ∧ l.Pairwise fun x y => ∀ a ∈ f x, a ∉ f y
  | [], _ => ⟨fun _ h => (by cases h), List.Pairwise.nil⟩
  | x :: xs, h => by
    simp only [List.flatMap_cons, List.nodup_append] at h
    obtain ⟨h1, h2, h3⟩ := h
    obtain ⟨ih1, ih2⟩ := nodup_flatMap_parts f xs h2
    refine ⟨fun y hy => ?_, List.Pairwise.cons (fun y hy a ha hay => ?_) ih2⟩
    · rcases List.mem_cons.1 hy with rfl | hy
      · exact h1
      · exact ih1 y hy
    · exact h3 a ha a (List.mem_flatMap.2 ⟨y, hy, hay⟩) rfl

theorem pairwise_mem_ne {α : Type} {R : α → α → Prop} {l : List α} (h : l.Pairwise R) {x y : α} (hx : x ∈ l) (hy : y ∈ l)
    (hne : x ≠ y) : R x y ∨ R y x :=
  (sublist_pair_of_mem hne hx hy).imp h.forall_sublist h.forall_sublist

/-- the selection set below a selection node (with its type in scope), as `Spec.docSets` lists it -/
def nestedSetOf (s : Schema) (t : Spec.TSel) : Option Spec.TSet :=
  match t.sel with
  | .field _ nm _ _ sub _ => some ⟨Spec.fieldType s t.parent nm, sub⟩
  | .inline tc _ sub _ => some ⟨Spec.inlineType s t.parent tc, sub⟩
  | .spread .. => none

def NS (s : Schema) (p : Option Definition) (sels : Selections) : List Spec.TSet :=
  (Spec.typedSels s p sels).filterMap (nestedSetOf s)

def NSsel (s : Schema) (p : Option Definition) (x : Selection) : List Spec.TSet :=
  (Spec.typedSel s p x).filterMap (nestedSetOf s)

theorem NS_cons (s : Schema) (p : Option Definition) (x : Selection) (rest : Selections) :
    NS s p (.cons x rest) = NSsel s p x ++ NS s p rest := by
  simp [NS, NSsel, Spec.typedSels, List.filterMap_append]

theorem NSsel_field (s : Schema) (p : Option Definition) (al nm : Name) (args : List Argument) (dirs : List Directive)
    (sub : Selections) (pos : Pos) :
    NSsel s p (.field al nm args dirs sub pos) = ⟨Spec.fieldType s p nm, sub⟩ :: NS s (Spec.fieldType s p nm) sub := by
  simp [NSsel, NS, Spec.typedSel, nestedSetOf]

theorem NSsel_inline (s : Schema) (p : Option Definition) (tc : Name) (dirs : List Directive) (sub : Selections) (pos : Pos) :
    NSsel s p (.inline tc dirs sub pos) = ⟨Spec.inlineType s p tc, sub⟩ :: NS s (Spec.inlineType s p tc) sub := by
  simp [NSsel, NS, Spec.typedSel, nestedSetOf]

theorem NSsel_spread (s : Schema) (p : Option Definition) (nm : Name) (dirs : List Directive) (pos : Pos) :
    NSsel s p (.spread nm dirs pos) = [] := by
  simp [NSsel, Spec.typedSel, nestedSetOf]

theorem mem_setStarts_of_selId {sels : Selections} {k : Nat} (h : selId sels = some k) : k ∈ setStarts sels := by
  rw [setStarts_eq, h]
  simp

theorem inner_sub_setStarts {sels : Selections} {k : Nat} (h : k ∈ innerStarts sels) : k ∈ setStarts sels := by
  rw [setStarts_eq]
  exact List.mem_append_right _ h

mutual
  theorem NS_start (s : Schema) : ∀ (sels : Selections) (p : Option Definition) (t : Spec.TSet) (k : Nat),
      t ∈ NS s p sels → selId t.sels = some k → k ∈ innerStarts sels
    | .nil, _, _, _, h, _ => by simp [NS, Spec.typedSels] at h
    | .cons x rest, p, t, k, h, hk => by
      rw [NS_cons] at h
      simp only [innerStarts, List.mem_append]
      rcases List.mem_append.1 h with h | h
      · exact Or.inl (NSsel_start s x p t k h hk)
      · exact Or.inr (NS_start s rest p t k h hk)
  theorem NSsel_start (s : Schema) : ∀ (x : Selection) (p : Option Definition) (t : Spec.TSet) (k : Nat),
      t ∈ NSsel s p x → selId t.sels = some k → k ∈ innerStartsSel x
    | .field al nm args dirs sub pos, p, t, k, h, hk => by
      rw [NSsel_field] at h
      simp only [innerStartsSel]
      rcases List.mem_cons.1 h with rfl | h
      · exact mem_setStarts_of_selId hk
      · exact inner_sub_setStarts (NS_start s sub _ t k h hk)
    | .inline tc dirs sub pos, p, t, k, h, hk => by
      rw [NSsel_inline] at h
      simp only [innerStartsSel]
      rcases List.mem_cons.1 h with rfl | h
      · exact mem_setStarts_of_selId hk
      · exact inner_sub_setStarts (NS_start s sub _ t k h hk)
    | .spread nm dirs pos, p, t, k, h, _ => by
      rw [NSsel_spread] at h
      cases h
end

theorem setStarts_nodup_head {sels : Selections} (h : (setStarts sels).Nodup) {k : Nat} (hk : selId sels = some k) :
    k ∉ innerStarts sels := by
  rw [setStarts_eq, hk] at h
  simp only [Option.toList, List.cons_append, List.nil_append, List.nodup_cons] at h
  exact h.1

theorem setStarts_nodup_inner {sels : Selections} (h : (setStarts sels).Nodup) : (innerStarts sels).Nodup := by
  rw [setStarts_eq] at h
  exact (List.nodup_append.1 h).2.1

theorem set_or_nested_inj {s : Schema} {q : Option Definition} {sub : Selections} (hnd : (setStarts sub).Nodup)
    (ih : ∀ t ∈ NS s q sub, ∀ t' ∈ NS s q sub, ∀ k, selId t.sels = some k → selId t'.sels = some k → t = t')
    {t t' : Spec.TSet} (ht : t = ⟨q, sub⟩ ∨ t ∈ NS s q sub) (ht' : t' = ⟨q, sub⟩ ∨ t' ∈ NS s q sub) {k : Nat}
    (hk : selId t.sels = some k) (hk' : selId t'.sels = some k) : t = t' := by
  rcases ht with rfl | ht
  · rcases ht' with rfl | ht'
    · rfl
    · exact absurd (NS_start s sub q t' k ht' hk') (setStarts_nodup_head hnd hk)
  · rcases ht' with rfl | ht'
    · exact absurd (NS_start s sub q t k ht hk) (setStarts_nodup_head hnd hk')
    · exact ih t ht t' ht' k hk hk'

mutual
  theorem NS_inj (s : Schema) : ∀ (sels : Selections) (p : Option Definition), (innerStarts sels).Nodup →
      ∀ t ∈ NS s p sels, ∀ t' ∈ NS s p sels, ∀ k, selId t.sels = some k → selId t'.sels = some k → t = t'
    | .nil, _, _, t, h, _, _, _, _, _ => by simp [NS, Spec.typedSels] at h
    | .cons x rest, p, hnd, t, ht, t', ht', k, hk, hk' => by
      rw [NS_cons] at ht ht'
      simp only [innerStarts, List.nodup_append] at hnd
      obtain ⟨h1, h2, h3⟩ := hnd
      rcases List.mem_append.1 ht with ht | ht
      · rcases List.mem_append.1 ht' with ht' | ht'
        · exact NSsel_inj s x p h1 t ht t' ht' k hk hk'
        · exact absurd rfl (h3 k (NSsel_start s x p t k ht hk) k (NS_start s rest p t' k ht' hk'))
      · rcases List.mem_append.1 ht' with ht' | ht'
        · exact absurd rfl (h3 k (NSsel_start s x p t' k ht' hk') k (NS_start s rest p t k ht hk))
        · exact NS_inj s rest p h2 t ht t' ht' k hk hk'
  theorem NSsel_inj (s : Schema) : ∀ (x : Selection) (p : Option Definition), (innerStartsSel x).Nodup →
      ∀ t ∈ NSsel s p x, ∀ t' ∈ NSsel s p x, ∀ k, selId t.sels = some k → selId t'.sels = some k → t = t'
    | .field al nm args dirs sub pos, p, hnd, t, ht, t', ht', k, hk, hk' => by
      rw [NSsel_field] at ht ht'
      simp only [innerStartsSel] at hnd
      exact set_or_nested_inj hnd (NS_inj s sub _ (setStarts_nodup_inner hnd)) (List.mem_cons.1 ht) (List.mem_cons.1 ht') hk hk'
    | .inline tc dirs sub pos, p, hnd, t, ht, t', ht', k, hk, hk' => by
      rw [NSsel_inline] at ht ht'
      simp only [innerStartsSel] at hnd
      exact set_or_nested_inj hnd (NS_inj s sub _ (setStarts_nodup_inner hnd)) (List.mem_cons.1 ht) (List.mem_cons.1 ht') hk hk'
    | .spread nm dirs pos, p, _, t, ht, _, _, _, _, _ => by
      rw [NSsel_spread] at ht
      cases ht
end


def docDefs (s : Schema) (d : QueryDoc) : List (Option Definition × Selections) :=
  d.ops.map (fun op => (Spec.rootDef s op.op, op.sel)) ++ d.frags.map (fun f => (s.type? f.typeCond, f.sel))

theorem starts_eq_defs (s : Schema) (d : QueryDoc) :
    d.ops.flatMap (fun op => setStarts op.sel) ++ d.frags.flatMap (fun f => setStarts f.sel) =
      (docDefs s d).flatMap (fun D => setStarts D.2) := by
  simp [docDefs, List.flatMap_append, List.flatMap_map]

theorem docSels_def {s : Schema} {d : QueryDoc} {x : Spec.TSel} (h : x ∈ Spec.docSels s d) :
    ∃ D ∈ docDefs s d, x ∈ Spec.typedSels s D.1 D.2 := by
  simp only [Spec.docSels, List.mem_append, List.mem_flatMap] at h
  simp only [docDefs, List.mem_append, List.mem_map]
  rcases h with ⟨op, hop, h⟩ | ⟨f, hf, h⟩
  · exact ⟨_, Or.inl ⟨op, hop, rfl⟩, h⟩
  · exact ⟨_, Or.inr ⟨f, hf, rfl⟩, h⟩

theorem docSets_loc {s : Schema} {d : QueryDoc} {t : Spec.TSet} (h : t ∈ Spec.docSets s d) :
    ∃ D ∈ docDefs s d, t = ⟨D.1, D.2⟩ ∨ t ∈ NS s D.1 D.2 := by
  simp only [Spec.docSets, List.mem_append, List.mem_map, List.mem_filterMap] at h
  rcases h with (⟨op, hop, rfl⟩ | ⟨f, hf, rfl⟩) | ⟨x, hx, hsome⟩
  · exact ⟨(Spec.rootDef s op.op, op.sel), by simp only [docDefs, List.mem_append, List.mem_map]; exact Or.inl ⟨op, hop, rfl⟩, Or.inl rfl⟩
  · exact ⟨(s.type? f.typeCond, f.sel), by simp only [docDefs, List.mem_append, List.mem_map]; exact Or.inr ⟨f, hf, rfl⟩, Or.inl rfl⟩
  · obtain ⟨D, hD, hxD⟩ := docSels_def hx
    refine ⟨D, hD, Or.inr ?_⟩
    simp only [NS, List.mem_filterMap]
    exact ⟨x, hxD, hsome⟩

section
variable {s : Schema} {d : QueryDoc} (hnd : SetStartsNodup d)
include hnd

theorem defs_parts :
    (∀ D ∈ docDefs s d, (setStarts D.2).Nodup) ∧
      (docDefs s d).Pairwise fun D D' => ∀ a ∈ setStarts D.2, a ∉ setStarts D'.2 := by
  unfold SetStartsNodup at hnd
  rw [starts_eq_defs s d] at hnd
  exact nodup_flatMap_parts _ _ hnd

theorem defs_disjoint {D D' : Option Definition × Selections} (hD : D ∈ docDefs s d) (hD' : D' ∈ docDefs s d) (hne : D ≠ D')
    {k : Nat} (h1 : k ∈ setStarts D.2) (h2 : k ∈ setStarts D'.2) : False := by
  rcases pairwise_mem_ne (defs_parts (s := s) hnd).2 hD hD' hne with h | h
  · exact h k h1 h2
  · exact h k h2 h1

omit hnd in
theorem loc_start {D : Option Definition × Selections} {t : Spec.TSet} (h : t = ⟨D.1, D.2⟩ ∨ t ∈ NS s D.1 D.2) {k : Nat}
    (hk : selId t.sels = some k) : k ∈ setStarts D.2 := by
  rcases h with rfl | h
  · exact mem_setStarts_of_selId hk
  · exact inner_sub_setStarts (NS_start s D.2 D.1 t k h hk)

theorem idsInj_of_starts : IdsInj s d := by
  intro t ht t' ht' hid hne
  obtain ⟨k, hk⟩ : ∃ k, selId t.sels = some k := by
    cases h : selId t.sels with
    | none => exact absurd ((selId_nil_iff _).1 h) hne
    | some k => exact ⟨k, rfl⟩
  have hk' : selId t'.sels = some k := by rw [← hid]; exact hk
  obtain ⟨D, hD, hl⟩ := docSets_loc ht
  obtain ⟨D', hD', hl'⟩ := docSets_loc ht'
  by_cases hDD : D = D'
  · subst hDD
    have hnD := (defs_parts (s := s) hnd).1 D hD
    exact set_or_nested_inj hnD (NS_inj s D.2 D.1 (setStarts_nodup_inner hnD)) hl hl' hk hk'
  · exact (defs_disjoint hnd hD hD' hDD (loc_start hl hk) (loc_start hl' hk')).elim

theorem idsNested_of_starts : IdsNested s d := by
  intro x hx F hF hne hid
  obtain ⟨k, hk⟩ : ∃ k, selId (Spec.subSelectionOf x.sel) = some k := by
    cases h : selId (Spec.subSelectionOf x.sel) with
    | none => exact absurd ((selId_nil_iff _).1 h) hne
    | some k => exact ⟨k, rfl⟩
  have hkF : selId F.sel = some k := by rw [← hid]; exact hk
  obtain ⟨D, hD, hxD⟩ := docSels_def hx
  have hDF : (s.type? F.typeCond, F.sel) ∈ docDefs s d := by
    simp only [docDefs, List.mem_append, List.mem_map]
    exact Or.inr ⟨F, hF, rfl⟩
  obtain ⟨t, htn, hts⟩ : ∃ t, nestedSetOf s x = some t ∧ t.sels = Spec.subSelectionOf x.sel := by
    obtain ⟨p, y⟩ := x
    cases y with
    | field al nm args dirs sub pos => exact ⟨_, rfl, rfl⟩
    | inline tc dirs sub pos => exact ⟨_, rfl, rfl⟩
    | spread nm dirs pos => exact absurd rfl hne
  have htNS : t ∈ NS s D.1 D.2 := by
    simp only [NS, List.mem_filterMap]
    exact ⟨x, hxD, htn⟩
  have hin : k ∈ innerStarts D.2 := NS_start s D.2 D.1 t k htNS (by rw [hts]; exact hk)
  by_cases hDD : D = (s.type? F.typeCond, F.sel)
  · subst hDD
    exact setStarts_nodup_head ((defs_parts (s := s) hnd).1 _ hD) hkF hin
  · exact defs_disjoint hnd hD hDF hDD (inner_sub_setStarts hin) (mem_setStarts_of_selId hkF)

end

end Gql.Validate
