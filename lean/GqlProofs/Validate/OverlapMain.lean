import GqlProofs.Validate.OverlapSpecTrue
import GqlProofs.Validate.OverlapFlatMain
/-
  OverlappingFieldsCanBeMerged ⇔ `Spec.fieldSelectionMerging` on documents without fragment cycles
  (`overlap_iff`).
-/
namespace Gql.Validate
open Gql Gql.Validate.Rules

section
variable {s : Schema} {d : QueryDoc} (S : SemHyps s d)
include S

theorem noTop_spec (hids : IdsInj s d) (hnest : IdsNested s d) (NT : NoTop s d) (hj : Spec.mergingJudged s d = true) :
    Spec.fieldSelectionMerging s d = true := by
  obtain ⟨k, hk⟩ : ∃ k, Spec.mergeFuel d = k + 1 := ⟨_, rfl⟩
  rw [fieldSelectionMerging_iff hj]
  intro t ht
  rw [hk, fieldsInSetCanMerge_succ, collectSet_mirror s d (fullLinks d)]
  refine allPairs_keyed _ _ fun {u v} hs hrn => ?_
  have hu := flatSet_sound s d (fullLinks d) _ _ (hs.subset (by simp : u ∈ [u, v]))
  have hv := flatSet_sound s d (fullLinks d) _ _ (hs.subset (by simp : v ∈ [u, v]))
  exact mergeOK_of_noTop S hids hnest NT k ⟨rfld_docF ht hu, rfld_docF ht hv,
    Classical.or_iff_not_imp_left.2 fun he => core_all S hids NT ht hu hv he hrn⟩

theorem spec_noTop (hj : Spec.mergingJudged s d = true) (h : Spec.fieldSelectionMerging s d = true) : NoTop s d := by
  intro t ht hth
  obtain ⟨t', ht', hf⟩ := topHolds_specFalse S ht hth
  rw [(fieldSelectionMerging_iff hj).1 h t' ht'] at hf
  cases hf

end

theorem defined_of_spec {d : QueryDoc} (h : Spec.fragmentSpreadTargetDefined d = true) :
    ∀ sp, DSpread d sp → ∃ F, fragForName d sp.name = some F := by
  intro sp hsp
  unfold Spec.fragmentSpreadTargetDefined at h
  simp only [List.all_eq_true] at h
  have := h _ (spread_mem_allSpreadNames hsp)
  rw [fragByName_eq] at this
  cases hF : fragForName d sp.name with
  | none => rw [hF] at this; cases this
  | some F => exact ⟨F, rfl⟩

/-- **OverlappingFieldsCanBeMerged reports nothing iff §5.3.2 holds**, for documents without fragment
    cycles, with unique fragment names, all fragments used and all spreads defined -/
theorem overlap_iff (s : Schema) (d : QueryDoc) (H : OvHyps s d) (hj : Spec.mergingJudged s d = true)
    (hu : Spec.fragmentNameUniqueness d = true) (hused : Spec.fragmentsMustBeUsed d = true)
    (hsym : ArgsSym s d) (hrefl : ArgsRefl s d) (hids : IdsInj s d) (hnest : IdsNested s d) :
    validate [overlappingFieldsCanBeMerged] s d = .ok [] ↔ Spec.fieldSelectionMerging s d = true := by
  obtain ⟨hdef, hcyc, _⟩ := mergingJudged_iff.1 hj
  have hac : Acyclic d := acyclic_of_spec d hcyc
  have hnd : (d.frags.map (·.name)).Nodup := (distinct_iff_nodup _).1 hu
  have S : SemHyps s d := ⟨H, hac, hnd, hsym, hrefl⟩
  have M : MemoHyps s d := ⟨H, hac, defined_of_spec hdef, hids, hsym⟩
  rw [overlap_silent_iff s d M hu hused]
  exact ⟨fun NT => noTop_spec S hids hnest NT hj, fun h => spec_noTop S hj h⟩

end Gql.Validate
