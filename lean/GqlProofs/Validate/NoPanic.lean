import GqlProofs.Validate.Compose
/-
  Rules whose steps never panic (C02).  That a rule list made of such rules returns an error list is
  the engine lemma `validateV_safe'` (`GqlProofs/Validate/OverlapSafe.lean`).
-/
namespace Gql.Validate
open Gql Gql.Validate.Rules

/-- no step of the rule reaches a Go panic site (nor the model's out-of-fuel outcome) -/
def Rule.NeverPanics (r : Rule) : Prop := ∀ s d st e m, r.step s d st e ≠ .panic m

theorem neverPanics_stateless (n : Bytes) (f : SV → QueryDoc → Event → List RErr) : (Rule.stateless n f).NeverPanics := by
  intro s d st e m h
  simp [Rule.stateless] at h

theorem neverPanics_withoutSuggestions (n : Bytes) (r : Rule) (h : r.NeverPanics) : (r.withoutSuggestions n).NeverPanics := by
  intro s d st e m hm
  simp only [Rule.withoutSuggestions] at hm
  split at hm
  · cases hm
  · rename_i m' hs
    exact h s d st e m' hs

/-- the modelled rules in which no Go panic site (and no fuelled search) occurs -/
def panicFreeRules : List Rule :=
  [ fieldsOnCorrectType, fragmentsOnCompositeTypes, knownArgumentNames, knownDirectives, knownFragmentNames,
    knownTypeNames, loneAnonymousOperation, noUndefinedVariables, noUnusedFragments, noUnusedVariables,
    possibleFragmentSpreads, providedRequiredArguments, scalarLeafs, uniqueArgumentNames,
    uniqueDirectivesPerLocation, uniqueFragmentNames, uniqueInputFieldNames, uniqueOperationNames,
    uniqueVariableNames, variablesAreInputTypes, variablesInAllowedPosition,
    fieldsOnCorrectTypeWithoutSuggestions, knownArgumentNamesWithoutSuggestions, knownTypeNamesWithoutSuggestions,
    -- since the repairs of R2a/R2b (nil `VariableDefinition`), of `Definition.Fields[0]` and of R15
    -- (`Value.Value` on out-of-range literals) the body of ValuesOfCorrectType has no panic site left
    valuesOfCorrectType, valuesOfCorrectTypeWithoutSuggestions ]

theorem knownDirectives_neverPanics : knownDirectives.NeverPanics := by
  intro s d st e m h
  simp only [knownDirectives, knownDirectivesStep] at h
  repeat' split at h
  all_goals cases h

theorem noUnusedFragments_neverPanics : noUnusedFragments.NeverPanics := by
  intro s d st e m h
  simp only [noUnusedFragments, noUnusedFragmentsStep] at h
  repeat' split at h
  all_goals cases h

theorem uniqueFragmentNames_neverPanics : uniqueFragmentNames.NeverPanics := by
  intro s d st e m h
  simp only [uniqueFragmentNames, uniqueFragmentNamesStep] at h
  repeat' split at h
  all_goals cases h

theorem uniqueOperationNames_neverPanics : uniqueOperationNames.NeverPanics := by
  intro s d st e m h
  simp only [uniqueOperationNames, uniqueOperationNamesStep] at h
  repeat' split at h
  all_goals cases h

/-- rule by rule, in the order of the list: `S` for a stateless rule, `W` for the twin without
    suggestions of a stateless rule -/
theorem panicFreeRules_neverPanic : ∀ r ∈ panicFreeRules, r.NeverPanics := by
  have S := neverPanics_stateless
  have W := fun n' n f => neverPanics_withoutSuggestions n' _ (S n f)
  simp only [panicFreeRules, List.forall_mem_cons, List.not_mem_nil, false_imp_iff, implies_true, and_true]
  exact ⟨S _ _, S _ _, S _ _, knownDirectives_neverPanics, S _ _, S _ _, S _ _, S _ _, noUnusedFragments_neverPanics,
    S _ _, S _ _, S _ _, S _ _, S _ _, S _ _, uniqueFragmentNames_neverPanics, S _ _, uniqueOperationNames_neverPanics,
    S _ _, S _ _, S _ _, W _ _ _, W _ _ _, W _ _ _, S _ _, W _ _ _⟩

end Gql.Validate
