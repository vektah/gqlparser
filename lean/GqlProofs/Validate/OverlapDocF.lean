import GqlProofs.Validate.OverlapFlatSpec
import GqlProofs.Validate.OverlapUniv
/-
  Document-level facts about the fields the rule collects (`DocF`): a collected field is a field
  node of `Spec.docSels` with its declarative parent type; under the hypotheses that the other
  rules guarantee (`OvHyps`) its links, as the rule reads them, are the ones the specification
  computes.
-/
namespace Gql.Validate
open Gql Gql.Validate.Rules


mutual
  theorem typedSel_trans (s : Schema) : ∀ (x : Selection) (p : Option Definition) (t t' : Spec.TSel),
      t ∈ Spec.typedSel s p x → t' ∈ Spec.typedSel s t.parent t.sel → t' ∈ Spec.typedSel s p x
    | .field al nm args dirs sub pos, p, t, t', ht, ht' => by
      simp only [Spec.typedSel, List.mem_cons] at ht ⊢
      rcases ht with rfl | ht
      · simpa [Spec.typedSel] using ht'
      · exact Or.inr (typedSels_trans s sub _ t t' ht ht')
    | .spread nm dirs pos, p, t, t', ht, ht' => by
      simp only [Spec.typedSel, List.mem_singleton] at ht
      subst ht
      exact ht'
    | .inline tc dirs sub pos, p, t, t', ht, ht' => by
      simp only [Spec.typedSel, List.mem_cons] at ht ⊢
      rcases ht with rfl | ht
      · simpa [Spec.typedSel] using ht'
      · exact Or.inr (typedSels_trans s sub _ t t' ht ht')
  theorem typedSels_trans (s : Schema) : ∀ (xs : Selections) (p : Option Definition) (t t' : Spec.TSel),
      t ∈ Spec.typedSels s p xs → t' ∈ Spec.typedSel s t.parent t.sel → t' ∈ Spec.typedSels s p xs
    | .nil, _, _, _, ht, _ => by simp [Spec.typedSels] at ht
    | .cons x rest, p, t, t', ht, ht' => by
      simp only [Spec.typedSels, List.mem_append] at ht ⊢
      rcases ht with ht | ht
      · exact Or.inl (typedSel_trans s x p t t' ht ht')
      · exact Or.inr (typedSels_trans s rest p t t' ht ht')
end

theorem docSels_trans (s : Schema) (d : QueryDoc) (t t' : Spec.TSel) (ht : t ∈ Spec.docSels s d)
    (ht' : t' ∈ Spec.typedSel s t.parent t.sel) : t' ∈ Spec.docSels s d := by
  simp only [Spec.docSels, List.mem_append, List.mem_flatMap] at ht ⊢
  rcases ht with ⟨op, hop, h⟩ | ⟨f, hf, h⟩
  · exact Or.inl ⟨op, hop, typedSels_trans s _ _ t t' h ht'⟩
  · exact Or.inr ⟨f, hf, typedSels_trans s _ _ t t' h ht'⟩

mutual
  theorem collectFields_typed (s : Schema) (l : Links) : ∀ (sels : Selections) (p : Option Definition) (f : FInfo),
      f ∈ collectFields s.view l p sels → (⟨f.sparent, f.sel'⟩ : Spec.TSel) ∈ Spec.typedSels s p sels
    | .nil, _, _, h => by simp [collectFields] at h
    | .cons y rest, p, f, h => by
      simp only [collectFields, List.mem_append] at h
      simp only [Spec.typedSels, List.mem_append]
      rcases h with h | h
      · exact Or.inl (collectFieldsSel_typed s l y p f h)
      · exact Or.inr (collectFields_typed s l rest p f h)
  theorem collectFieldsSel_typed (s : Schema) (l : Links) : ∀ (y : Selection) (p : Option Definition) (f : FInfo),
      f ∈ collectFieldsSel s.view l p y → (⟨f.sparent, f.sel'⟩ : Spec.TSel) ∈ Spec.typedSel s p y
    | .field al nm args dirs sub pos, p, f, h => by
      simp only [collectFieldsSel, List.mem_singleton] at h
      subst h
      simp [Spec.typedSel, FInfo.sel']
    | .inline tc dirs sub pos, p, f, h => by
      simp only [collectFieldsSel, inlineNext_eq] at h
      exact List.mem_cons_of_mem _ (collectFields_typed s l sub _ f h)
    | .spread _ _ _, _, _, h => by simp [collectFieldsSel] at h
end

mutual
  theorem collectFields_shape (s : SV) (l : Links) : ∀ (sels : Selections) (p : Option Definition) (f : FInfo),
      f ∈ collectFields s l p sels → f.sdfn = staticFieldDef f.sparent f.node.name ∧ f.linked = l.linked f.node.pos.start
    | .nil, _, _, h => by simp [collectFields] at h
    | .cons y rest, p, f, h => by
      simp only [collectFields, List.mem_append] at h
      rcases h with h | h
      · exact collectFieldsSel_shape s l y p f h
      · exact collectFields_shape s l rest p f h
  theorem collectFieldsSel_shape (s : SV) (l : Links) : ∀ (y : Selection) (p : Option Definition) (f : FInfo),
      f ∈ collectFieldsSel s l p y → f.sdfn = staticFieldDef f.sparent f.node.name ∧ f.linked = l.linked f.node.pos.start
    | .field al nm args dirs sub pos, p, f, h => by
      simp only [collectFieldsSel, List.mem_singleton] at h
      subst h
      exact ⟨rfl, rfl⟩
    | .inline tc dirs sub pos, p, f, h => by
      simp only [collectFieldsSel] at h
      exact collectFields_shape s l sub _ f h
    | .spread _ _ _, _, _, h => by simp [collectFieldsSel] at h
end

/-- what the other rules guarantee and the comparison with §5.3.2 needs -/
structure OvHyps (s : Schema) (d : QueryDoc) : Prop where
  wp : Spec.wellParented s d = true
  fields : Spec.fieldSelections s d = true
  leaf : Spec.leafFieldSelections s d = true
  /-- the type in scope is determined at every selection node -/
  parents : ∀ t ∈ Spec.docSels s d, t.parent.isSome
  keys : KeysOK s

/-- a collected field that is a field node of the document, fully linked -/
structure DocF (s : Schema) (d : QueryDoc) (l : Links) (a : FInfo) : Prop where
  inDoc : (⟨a.sparent, a.sel'⟩ : Spec.TSel) ∈ Spec.docSels s d
  sdfn : a.sdfn = staticFieldDef a.sparent a.node.name
  linked : a.linked = true
  below : ∀ x ∈ allFields a.node.sel, l.linked x.1 = true

theorem staticFieldDef_eq (p : Option Definition) (nm : Name) : staticFieldDef p nm = wFieldDef p nm := rfl

section
variable {s : Schema} {d : QueryDoc} {l : Links} (H : OvHyps s d) {a : FInfo} (ha : DocF s d l a)
include H ha

theorem DocF.wpNode : Spec.nodeWellParented ⟨a.sparent, a.sel'⟩ = true :=
  wellParented_docSels H.wp _ ha.inDoc

theorem DocF.parent_some : ∃ pa, a.sparent = some pa := by
  have := H.parents _ ha.inDoc
  simp only at this
  cases h : a.sparent with
  | none => rw [h] at this; cases this
  | some pa => exact ⟨pa, rfl⟩

omit H in
theorem DocF.obj_eq : a.obj = a.sparent := by simp [FInfo.obj, ha.linked]

theorem DocF.obj_some : ∃ pa, a.obj = some pa := by
  rw [ha.obj_eq]
  exact ha.parent_some H

theorem DocF.dfn_eq : a.dfn = (toM a).fdef := by
  simp only [FInfo.dfn, ha.linked, if_true, ha.sdfn, staticFieldDef_eq, Spec.MField.fdef, toM]
  exact wFieldDef_eq a.sparent a.node.alias a.node.name a.node.args a.node.dirs a.node.sel a.node.pos (ha.wpNode H)

theorem DocF.fdef_some : ∃ fd, (toM a).fdef = some fd := by
  obtain ⟨pa, hpa⟩ := ha.parent_some H
  have := H.fields
  unfold Spec.fieldSelections at this
  simp only [List.all_eq_true] at this
  have := this _ ha.inDoc
  simp only [FInfo.sel', hpa] at this
  simp only [Spec.MField.fdef, toM, hpa, Option.bind_some]
  cases h : Spec.fieldDefOn pa a.node.name with
  | none => rw [h] at this; cases this
  | some fd => exact ⟨fd, rfl⟩

theorem DocF.next_eq : a.next s.view = (toM a).fdef.bind fun fd => s.type? fd.type.name := by
  have h1 := ha.dfn_eq H
  simp only [FInfo.dfn, ha.linked, if_true] at h1
  simp only [FInfo.next, h1]
  rfl

theorem DocF.next_fieldType : a.next s.view = Spec.fieldType s a.sparent a.node.name := by
  rw [ha.next_eq H]
  rfl

theorem DocF.below_inDoc {t : Spec.TSel} (ht : t ∈ Spec.typedSels s (a.next s.view) a.node.sel) : t ∈ Spec.docSels s d := by
  rw [ha.next_fieldType H] at ht
  exact docSels_trans s d _ _ ha.inDoc (List.mem_cons_of_mem _ ht)

theorem DocF.sub {a' : FInfo} (h : a' ∈ collectFields s.view l (a.next s.view) a.node.sel) : DocF s d l a' := by
  have hs := collectFields_shape s.view l _ _ a' h
  have hm := collectFields_mem s.view l _ _ a' h
  refine ⟨?_, hs.1, ?_, fun x hx => ha.below x (allFields_sub _ _ _ hm x hx)⟩
  · exact ha.below_inDoc H (collectFields_typed s l _ _ a' h)
  · rw [hs.2]
    exact ha.below _ hm

theorem DocF.leaf_nil {fd : FieldDef} {dx : Definition} (hfd : (toM a).fdef = some fd) (hdx : s.type? fd.type.name = some dx)
    (hl : Spec.isLeaf dx = true) : a.node.sel = .nil := by
  have := H.leaf
  unfold Spec.leafFieldSelections at this
  simp only [List.all_eq_true] at this
  have := this _ ha.inDoc
  have hnt : Spec.fieldNodeType s ⟨a.sparent, a.sel'⟩ = some dx := by
    simp only [Spec.fieldNodeType, FInfo.sel']
    simp only [Spec.MField.fdef, toM] at hfd
    rw [hfd]
    exact hdx
  rw [hnt] at this
  simp only [Spec.leafShapeOk, hl, if_true, FInfo.sel', Spec.subSelectionOf] at this
  cases hsel : a.node.sel with
  | nil => rfl
  | cons x rest => rw [hsel] at this; simp [Selections.toList] at this

end

end Gql.Validate
