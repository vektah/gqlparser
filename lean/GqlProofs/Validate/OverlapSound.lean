import GqlProofs.Validate.OverlapCost
import GqlProofs.Validate.OverlapArgs
/-
  OverlappingFieldsCanBeMerged: soundness of the reported conflicts
  (`overlapRun_sound`; in Props/C08.lean: `C08_overlap_sound_partial`).

  `Sound s U pe c`: the conflict message `c`, produced while the parent fields were
  (`pe = true`) / were not (`pe = false`) known to be mutually exclusive, is backed by two field
  nodes `a`, `b` of the universe `U` (the selection set the observer was called for and the
  fragment definitions — `univOf`) with the SAME response name such that
    * "different fields":       no enclosing pair and not `a`,`b` themselves are exclusive
                                (`goExcl`: both parents are Object types with different names and
                                both field definitions are known), and the field names differ;
    * "differing arguments":    the same, the names are equal, and `¬ ArgsSame` (OverlapArgs);
    * "conflicting types":      both field definitions are known and `doTypesConflict` holds of
                                their types (this branch is taken for exclusive parents as well,
                                as §5.3.2 SameResponseShape demands);
    * "subfields":              a non-empty list of conflicts that are sound in the context
                                `pe || goExcl a b`.
  So the first two kinds are only ever reported for two same-named-response fields that the rule
  could NOT prove to lie on different object types — a spec-valid document (where
  FieldsInSetCanMerge demands equal names and identical arguments for exactly such pairs) is never
  rejected by those branches.
-/
namespace Gql.Validate
open Gql Gql.Validate.Rules

/-- `findConflict`'s own exclusivity test -/
def goExcl (a b : FInfo) : Bool :=
  match a.obj, b.obj with
  | some oa, some ob =>
    oa.name != ob.name && oa.kind == .object && ob.kind == .object && a.dfn.isSome && b.dfn.isSome
  | _, _ => false

theorem goExcl_eq {a b : FInfo} {oa ob : Definition} (hoa : a.obj = some oa) (hob : b.obj = some ob) :
    goExcl a b = (oa.name != ob.name && oa.kind == DefKind.object && ob.kind == DefKind.object &&
      a.dfn.isSome && b.dfn.isSome) := by
  simp only [goExcl, hoa, hob]

theorem findConflictBody_some {s : SV} {sub : Bool → FInfo → FInfo → OSt → Option (OSt × List Conflict)} {pe : Bool}
    {a b : FInfo} {st0 : OSt} {r : OSt × Option Conflict} (h : findConflictBody s sub pe a b st0 = some r) :
    ((∀ oa ob, a.obj = some oa → b.obj = some ob → False) ∧ r = (st0.tick, none)) ∨
    ∃ oa ob, a.obj = some oa ∧ b.obj = some ob ∧
      (((pe || goExcl a b) = false ∧ a.node.name ≠ b.node.name ∧
          r = (st0.tick, some (.mk (responseName a.node)
            (dq a.node.name ++ andSep ++ dq b.node.name ++ msgDifferentFields) [] b.node.pos))) ∨
        (((pe || goExcl a b) = false → a.node.name = b.node.name) ∧
          (((pe || goExcl a b) = false ∧ sameArguments a.node.args b.node.args = false ∧
              r = (st0.tick, some (.mk (responseName a.node) msgDifferingArguments [] b.node.pos))) ∨
            (((pe || goExcl a b) = false → sameArguments a.node.args b.node.args = true) ∧
              ((∃ da db, a.dfn = some da ∧ b.dfn = some db ∧ doTypesConflict s da.type db.type = true ∧
                  r = (st0.tick, some (.mk (responseName a.node) (typesConflictMsg da.type db.type) [] b.node.pos))) ∨
                ((∀ da db, a.dfn = some da → b.dfn = some db → doTypesConflict s da.type db.type = false) ∧
                  ∃ st1 cs, sub (pe || goExcl a b) a b st0.tick = some (st1, cs) ∧
                    r = (st1, match cs with
                      | [] => none
                      | c :: cs => some (.mk (responseName a.node) [] (c :: cs) b.node.pos)))))))) := by
  unfold findConflictBody at h
  simp only at h
  split at h
  · rename_i oa ob hoa hob
    refine Or.inr ⟨oa, ob, hoa, hob, ?_⟩
    rw [← goExcl_eq hoa hob] at h
    split at h
    · rename_i hc
      simp only [Bool.and_eq_true, Bool.not_eq_true', bne_iff_ne, ne_eq] at hc
      exact Or.inl ⟨hc.1, hc.2, (Option.some.inj h).symm⟩
    · rename_i hc1
      refine Or.inr ⟨fun hex => by simpa [hex] using hc1, ?_⟩
      split at h
      · rename_i hc
        simp only [Bool.and_eq_true, Bool.not_eq_true'] at hc
        exact Or.inl ⟨hc.1, hc.2, (Option.some.inj h).symm⟩
      · rename_i hc2
        refine Or.inr ⟨fun hex => by simpa [hex] using hc2, ?_⟩
        split at h
        · rename_i ta tb htc
          split at htc
          · rename_i da db hda hdb
            split at htc
            · rename_i hconf
              injection htc with htc
              injection htc with h1 h2
              subst h1 h2
              exact Or.inl ⟨da, db, hda, hdb, hconf, (Option.some.inj h).symm⟩
            · cases htc
          · cases htc
        · rename_i htc
          refine Or.inr ⟨fun da db hda hdb => ?_, ?_⟩
          · rw [hda, hdb] at htc
            cases hd : doTypesConflict s da.type db.type with
            | false => rfl
            | true => simp [hd] at htc
          · split at h
            · cases h
            · rename_i st1 hs
              exact ⟨st1, [], hs, (Option.some.inj h).symm⟩
            · rename_i st1 c cs hs
              exact ⟨st1, c :: cs, hs, (Option.some.inj h).symm⟩
  · rename_i hno
    exact Or.inl ⟨fun oa ob h1 h2 => hno oa ob h1 h2, (Option.some.inj h).symm⟩

inductive Sound (s : SV) (U : Univ) : Bool → Conflict → Prop
  | differentFields {pe : Bool} {a b : FInfo} :
      Good U a → Good U b → responseName a.node = responseName b.node →
      pe = false → goExcl a b = false → a.node.name ≠ b.node.name →
      Sound s U pe (.mk (responseName a.node) (dq a.node.name ++ andSep ++ dq b.node.name ++ msgDifferentFields) []
        b.node.pos)
  | differingArguments {pe : Bool} {a b : FInfo} :
      Good U a → Good U b → responseName a.node = responseName b.node →
      pe = false → goExcl a b = false → a.node.name = b.node.name → ¬ ArgsSame a.node.args b.node.args →
      Sound s U pe (.mk (responseName a.node) msgDifferingArguments [] b.node.pos)
  | conflictingTypes {pe : Bool} {a b : FInfo} {da db : FieldDef} :
      Good U a → Good U b → responseName a.node = responseName b.node →
      a.dfn = some da → b.dfn = some db → doTypesConflict s da.type db.type = true →
      Sound s U pe (.mk (responseName a.node) (typesConflictMsg da.type db.type) [] b.node.pos)
  | subfields {pe : Bool} {a b : FInfo} {c : Conflict} {cs : List Conflict} :
      Good U a → Good U b → responseName a.node = responseName b.node →
      (∀ x ∈ c :: cs, Sound s U (pe || goExcl a b) x) →
      Sound s U pe (.mk (responseName a.node) [] (c :: cs) b.node.pos)

def AllSound (s : SV) (U : Univ) (pe : Bool) (cs : List Conflict) : Prop := ∀ c ∈ cs, Sound s U pe c

theorem allSound_nil {s : SV} {U : Univ} {pe : Bool} : AllSound s U pe [] := fun _ h => by cases h

def FCSound (s : SV) (U : Univ) (fc : FC) : Prop :=
  ∀ excl a b st r, Good U a → Good U b → responseName a.node = responseName b.node →
    fc excl a b st = some r → AllSound s U excl (optToList r.2)

section
variable {s : SV} {U : Univ} {fc : FC} (hfc : FCSound s U fc)
include hfc

theorem fcStep_sound {excl : Bool} {k : Name} {fa fb : FInfo} (ha : GoodK U k fa) (hb : GoodK U k fb) :
    StepAll (Sound s U excl) (fcStep fc excl fa fb) := by
  intro st r h
  unfold fcStep at h
  split at h
  · cases h
  · rename_i st1 c h1
    injection h with h
    subst h
    exact hfc excl fa fb st _ ha.1 hb.1 (ha.2.trans hb.2.symm) h1

theorem between_sound (excl : Bool) {B : FMap} (hB : GoodMapK U B) (A : FMap) (hA : GoodMapK U A) :
    StepAll (Sound s U excl) (collectConflictsBetween fc excl B A) := by
  rw [between_eq]
  refine StepAll.loop fun e he => ?_
  unfold betweenStep
  cases hg : fmGet B e.1 with
  | none => exact StepAll.ret
  | some fsB =>
    exact StepAll.loop fun fa hfa => StepAll.loop fun fb hfb =>
      fcStep_sound hfc (hA e he fa hfa) (goodMapK_get hB hg fb hfb)

theorem pairTriangle_sound {k : Name} : ∀ (fs : List FInfo), (∀ f ∈ fs, GoodK U k f) →
    StepAll (Sound s U false) (pairTriangle fc fs)
  | [], _ => StepAll.ret
  | fa :: rest, hA => by
    have hrest : ∀ f ∈ rest, GoodK U k f := fun f hf => hA f (List.mem_cons_of_mem _ hf)
    rw [pairTriangle_cons, pairRow_eq]
    exact (StepAll.loop fun fb hfb => fcStep_sound hfc (hA fa (List.mem_cons_self ..)) (hrest fb hfb)).seq
      (pairTriangle_sound rest hrest)

theorem within_sound (A : FMap) (hA : GoodMapK U A) : StepAll (Sound s U false) (collectConflictsWithin fc A) := by
  rw [within_eq]
  exact StepAll.loop fun e he => pairTriangle_sound hfc e.2 (hA e he)

end

section
variable {s : SV} {U : Univ} (env : Env) {fc : FC} (hfc : FCSound s U fc) (hfr : UFrags env.d U)
include hfc hfr

theorem chain_sound (excl : Bool) {A : FM} (hA : GoodMapK U A.map) :
    ∀ n sp, StepAll (Sound s U excl) (chain env fc excl A n sp)
  | 0, _, _, _, h => by simp [chain] at h
  | n + 1, sp, st, r, h => by
    rcases chain_succ_some h with ⟨_, rfl⟩ | ⟨_, ⟨_, rfl⟩ | ⟨F, hs, ⟨_, rfl⟩ | ⟨_, h⟩⟩⟩
    · exact allSound_nil
    · exact allSound_nil
    · exact allSound_nil
    · exact ((between_sound hfc excl (goodMapK_frag env hfr (fragForName_mem (spreadDef_some hs))) A.map hA).seq
        (StepAll.loop fun sp' _ => chain_sound excl hA n sp')) _ _ h

theorem check_sound (excl : Bool) : ∀ n a b, StepAll (Sound s U excl) (check env fc excl n a b)
  | 0, _, _, _, _, h => by simp [check] at h
  | n + 1, a, b, st, r, h => by
    rcases check_succ_some h with ⟨_, rfl⟩ | ⟨_, _, ⟨_, rfl⟩ | ⟨A, B, hsa, hsb, h⟩⟩
    · exact allSound_nil
    · exact allSound_nil
    · exact ((between_sound hfc excl (goodMapK_frag env hfr (fragForName_mem (spreadDef_some hsb))) _
          (goodMapK_frag env hfr (fragForName_mem (spreadDef_some hsa)))).seq3
        (StepAll.loop fun x _ => check_sound excl n a x) (StepAll.loop fun x _ => check_sound excl n x b)) _ _ h

theorem subSets_sound (hcl : UClosed U) (excl : Bool) {a b : FInfo} (ha : Good U a) (hb : Good U b) :
    StepAll (Sound s U excl) (findConflictsBetweenSubSelectionSets env fc excl a b) := by
  have gA := goodMapK_sub hcl env.s env.l (a.next env.s) ha
  have gB := goodMapK_sub hcl env.s env.l (b.next env.s) hb
  rw [subSets_eq]
  exact ((between_sound hfc excl gB _ gA).seq3
      (StepAll.loop fun sp _ => chain_sound env hfc hfr excl gA _ sp)
      (StepAll.loop fun sp _ => chain_sound env hfc hfr excl gB _ sp)).seq
    (StepAll.loop fun sa _ => StepAll.loop fun sb _ => check_sound env hfc hfr excl _ sa sb)

end

theorem findConflictBody_sound (s : SV) (U : Univ)
    (sub : Bool → FInfo → FInfo → OSt → Option (OSt × List Conflict))
    (excl0 : Bool) (a b : FInfo) (st : OSt) (ha : Good U a) (hb : Good U b)
    (hrn : responseName a.node = responseName b.node)
    (hsub : ∀ excl st' r, sub excl a b st' = some r → AllSound s U excl r.2)
    (r : OSt × Option Conflict) (h : findConflictBody s sub excl0 a b st = some r) :
    AllSound s U excl0 (optToList r.2) := by
  have one : ∀ {c : Conflict}, Sound s U excl0 c → AllSound s U excl0 (optToList (some c)) := fun hc x hx => by
    rw [List.mem_singleton.1 hx]
    exact hc
  rcases findConflictBody_some h with ⟨_, rfl⟩ | ⟨oa, ob, _, _, ⟨hex, hne, rfl⟩ | ⟨hnm, ⟨hex, hargs, rfl⟩ | ⟨_, ⟨da, db, hda, hdb, hconf, rfl⟩ |
    ⟨_, st1, cs, hs, rfl⟩⟩⟩⟩
  · exact allSound_nil
  · simp only [Bool.or_eq_false_iff] at hex
    exact one (.differentFields ha hb hrn hex.1 hex.2 hne)
  · refine one (.differingArguments ha hb hrn ?_ ?_ (hnm hex) fun hsame => ?_)
    · simp only [Bool.or_eq_false_iff] at hex; exact hex.1
    · simp only [Bool.or_eq_false_iff] at hex; exact hex.2
    · rw [(sameArguments_iff _ _).2 hsame] at hargs
      cases hargs
  · exact one (.conflictingTypes ha hb hrn hda hdb hconf)
  · cases cs with
    | nil => exact allSound_nil
    | cons c cs => exact one (.subfields ha hb hrn (hsub _ _ _ hs))

theorem fcLevel_sound {s : SV} {U : Univ} (env : Env) (hs : env.s = s) (hcl : UClosed U) (hfr : UFrags env.d U) :
    ∀ n, FCSound s U (fcLevel env n)
  | 0 => by
    intro _ _ _ _ _ _ _ _ h
    simp [fcLevel] at h
  | n + 1 => by
    intro excl a b st r ha hb hrn h
    simp only [fcLevel] at h
    rw [hs] at h
    exact findConflictBody_sound s U _ excl a b st ha hb hrn
      (fun excl' => subSets_sound env (fcLevel_sound env hs hcl hfr n) hfr hcl excl' ha hb) r h

section
variable {s : SV} {U : Univ} (env : Env) {fc : FC} (hfc : FCSound s U fc) (hfr : UFrags env.d U)
include hfc hfr

theorem withinLoop_sound {A : FM} (hA : GoodMapK U A.map) : ∀ (sps : List SpreadNode),
    StepAll (Sound s U false) (withinLoop env fc A sps)
  | [] => StepAll.ret
  | sa :: rest => by
    rw [withinLoop_cons]
    exact (chain_sound env hfc hfr false hA _ sa).seq3
      (StepAll.loop fun sb _ => check_sound env hfc hfr false _ sa sb) (withinLoop_sound hA rest)

theorem findConflictsWithinSelectionSet_sound (parent : Option Definition) (sels : Selections) (hsels : ∀ x ∈ allFields sels, x ∈ U)
    (st : OSt) (r : OSt × List Conflict) (h : findConflictsWithinSelectionSet env fc parent sels st = some r) :
    AllSound s U false r.2 := by
  rw [within_top_eq] at h
  split at h
  · injection h with h
    subst h
    exact allSound_nil
  · exact ((within_sound hfc _ (goodMapK_collect env.s env.l parent sels hsels)).seq
      (withinLoop_sound env hfc hfr (goodMapK_collect env.s env.l parent sels hsels) _)) _ _ h

end

theorem overlapRun_sound (s : SV) (d : QueryDoc) (l : Links) (parent : Option Definition) (sels : Selections)
    (st : OSt) (r : OSt × List Conflict) (h : overlapRun s d l parent sels st = some r) :
    AllSound s (univOf d sels) false r.2 := by
  unfold overlapRun at h
  simp only at h
  exact findConflictsWithinSelectionSet_sound (overlapEnv s d l)
    (fcLevel_sound (overlapEnv s d l) rfl (univOf_closed d sels) (univOf_frags d sels) _)
    (univOf_frags d sels) parent sels
    (fun x hx => by simp only [univOf, List.mem_append]; exact Or.inl hx) st r h

end Gql.Validate
