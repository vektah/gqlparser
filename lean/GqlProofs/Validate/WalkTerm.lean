import GqlProofs.Lemmas.Lists
import GqlProofs.Validate.WalkInd
/-
  Termination of the walker (C02): the jump levels of `walkDoc` never run out.

  Measure: `unvisited d v` = number of fragment definitions of the document whose name is not in
  the visited set `v`.  The walker only jumps into a fragment whose name is not yet visited and
  marks it first, so along a chain of nested jumps the measure strictly decreases; along a
  selection set the visited set only grows.
-/
namespace Gql.Validate
open Gql

def unvisited (d : QueryDoc) (v : List Name) : Nat := (d.frags.filter fun f => !v.contains f.name).length

theorem unvisited_mono (d : QueryDoc) {v v' : List Name} (h : v ⊆ v') : unvisited d v' ≤ unvisited d v := by
  unfold unvisited
  apply filter_length_le_of_imp
  intro f hf
  simp only [Bool.not_eq_true', List.contains_eq_mem, decide_eq_false_iff_not] at *
  exact fun hm => hf (h hm)

theorem unvisited_lt (d : QueryDoc) (v : List Name) (f : FragmentDef) (hf : f ∈ d.frags)
    (hn : v.contains f.name = false) : unvisited d (f.name :: v) + 1 ≤ unvisited d v := by
  unfold unvisited
  apply filter_length_lt_of_imp _ _ _ f _ _ _ hf
  · intro x hx
    simp only [Bool.not_eq_true', List.contains_eq_mem, decide_eq_false_iff_not, List.mem_cons, not_or] at *
    exact hx.2
  · simpa using hn
  · simp

theorem fragForName_mem {d : QueryDoc} {n : Name} {f : FragmentDef} (h : fragForName d n = some f) : f ∈ d.frags :=
  List.mem_of_find?_eq_some h

def JumpOK (d : QueryDoc) (n : Nat) (J : Jump) : Prop :=
  ∀ parent sels (ws : WS), unvisited d ws.visited + 1 ≤ n → ∃ r, J parent sels ws = some r ∧ ws.visited ⊆ r.1.visited

mutual
  theorem walkSelection_ok (s : SV) (d : QueryDoc) (cur : Option OperationDef) (J : Jump) (n : Nat) (hJ : JumpOK d n J) :
      ∀ (x : Selection) (parent : Option Definition) (ws : WS), unvisited d ws.visited ≤ n →
        ∃ r, walkSelection s d cur J parent x ws = some r ∧ ws.visited ⊆ r.1.visited
    | .field al nm args dirs sub p, parent, ws, h => by
      unfold walkSelection
      simp only
      generalize hdfn : (if nm == nameTypename then some typenameDef else
        match parent with
        | some pd => fieldForName pd.fields nm
        | none => none) = dfn
      have hv : (walkDirectives s cur (dfn.bind fun fd => s.type? fd.type.name) dirs locField
          (walkArgs s cur (dfn.map (·.args)) args (ws.markSel p.start)).1).1.visited = ws.visited := by
        rw [walkDirectives_visited, walkArgs_visited, markSel_visited]
      obtain ⟨r3, h3, hm3⟩ := walkSelections_ok s d cur J n hJ sub (dfn.bind fun fd => s.type? fd.type.name) _ (by rw [hv]; exact h)
      rw [h3]
      exact ⟨_, rfl, by rw [hv] at hm3; exact hm3⟩
    | .inline tc dirs sub p, parent, ws, h => by
      unfold walkSelection
      simp only
      have hv : (walkDirectives s cur (if tc != [] then s.type? tc else parent) dirs locInlineFragment
          (ws.markSel p.start)).1.visited = ws.visited := by
        rw [walkDirectives_visited, markSel_visited]
      obtain ⟨r3, h3, hm3⟩ := walkSelections_ok s d cur J n hJ sub (if tc != [] then s.type? tc else parent) _ (by rw [hv]; exact h)
      rw [h3]
      exact ⟨_, rfl, by rw [hv] at hm3; exact hm3⟩
    | .spread nm dirs p, parent, ws, h => by
      unfold walkSelection
      simp only
      have hv : ∀ nx, (walkDirectives s cur nx dirs locFragmentSpread (ws.markSel p.start)).1.visited = ws.visited := by
        intro nx
        rw [walkDirectives_visited, markSel_visited]
      cases hf : fragForName d nm with
      | none => exact ⟨_, rfl, by simp only [hv]; exact fun _ hx => hx⟩
      | some f =>
        simp only
        split
        · exact ⟨_, rfl, by simp only [hv]; exact fun _ hx => hx⟩
        · rename_i hc
          rw [hv] at hc
          have hc' : ws.visited.contains f.name = false := by simpa using hc
          have hlt := unvisited_lt d ws.visited f (fragForName_mem hf) hc'
          obtain ⟨r3, h3, hm3⟩ := hJ (Option.bind (some f) fun f => s.type? f.typeCond) f.sel
            (walkDirectives s cur (Option.bind (some f) fun f => s.type? f.typeCond) f.dirs locFragmentDefinition
              { (walkDirectives s cur (Option.bind (some f) fun f => s.type? f.typeCond) dirs locFragmentSpread
                  (ws.markSel p.start)).1 with
                visited := f.name :: (walkDirectives s cur (Option.bind (some f) fun f => s.type? f.typeCond) dirs
                  locFragmentSpread (ws.markSel p.start)).1.visited }).1
            (by simp only [walkDirectives_visited, markSel_visited]; omega)
          rw [h3]
          refine ⟨_, rfl, ?_⟩
          simp only [walkDirectives_visited, markSel_visited] at hm3
          exact fun a ha => hm3 (List.mem_cons_of_mem _ ha)
  theorem walkSelections_ok (s : SV) (d : QueryDoc) (cur : Option OperationDef) (J : Jump) (n : Nat) (hJ : JumpOK d n J) :
      ∀ (xs : Selections) (parent : Option Definition) (ws : WS), unvisited d ws.visited ≤ n →
        ∃ r, walkSelections s d cur J parent xs ws = some r ∧ ws.visited ⊆ r.1.visited
    | .nil, parent, ws, _ => ⟨(ws, []), by simp [walkSelections], fun _ hx => hx⟩
    | .cons x rest, parent, ws, h => by
      unfold walkSelections
      obtain ⟨r1, h1, hm1⟩ := walkSelection_ok s d cur J n hJ x parent ws h
      rw [h1]
      simp only
      obtain ⟨r2, h2, hm2⟩ := walkSelections_ok s d cur J n hJ rest parent r1.1
        (Nat.le_trans (unvisited_mono d hm1) h)
      rw [h2]
      exact ⟨_, rfl, fun a ha => hm2 (hm1 ha)⟩
end

theorem walkLevel_jumpOK (s : SV) (d : QueryDoc) (cur : Option OperationDef) : ∀ n, JumpOK d n (walkLevel s d cur n)
  | 0 => by intro _ _ _ h; omega
  | n + 1 => by
    intro parent sels ws h
    simp only [walkLevel]
    exact walkSelections_ok s d cur _ n (walkLevel_jumpOK s d cur n) sels parent ws (by omega)

theorem unvisited_nil (d : QueryDoc) : unvisited d [] = d.frags.length := by
  simp [unvisited]

theorem walkLevel_fuel_ok (s : SV) (d : QueryDoc) (cur : Option OperationDef) (parent : Option Definition)
    (sels : Selections) (ws : WS) (hv : ws.visited = []) :
    ∃ r, walkLevel s d cur (walkFuel d) parent sels ws = some r := by
  obtain ⟨r, h, _⟩ := walkLevel_jumpOK s d cur (walkFuel d) parent sels ws
    (by rw [hv, unvisited_nil]; simp [walkFuel])
  exact ⟨r, h⟩

theorem walkVarDefsB_visited (s : SV) (cur : Option OperationDef) :
    ∀ (vs : List VarDef) (ws : WS), (walkVarDefsB s cur vs ws).1.visited = ws.visited
  | [], ws => rfl
  | v :: rest, ws => by
    simp only [walkVarDefsB]
    rw [walkVarDefsB_visited s cur rest, walkDirectives_visited]
    cases v.default with
    | none => rfl
    | some dv => exact walkValue_visited ..

theorem walkOperation_isSome (s : SV) (d : QueryDoc) (op : OperationDef) (l : Links) :
    ∃ r, walkOperation s d (walkFuel d) op l = some r := by
  unfold walkOperation
  simp only
  obtain ⟨r, h⟩ := walkLevel_fuel_ok s d (some op) (opRoot s op.op).1 op.sel
    (walkDirectives s (some op) (opRoot s op.op).1 op.dirs (opRoot s op.op).2
      (walkVarDefsB s (some op) op.vars { visited := [], links := l, used := [] }).1).1
    (by rw [walkDirectives_visited, walkVarDefsB_visited])
  rw [h]
  exact ⟨_, rfl⟩

theorem walkFragment_isSome (s : SV) (d : QueryDoc) (f : FragmentDef) (l : Links) :
    ∃ r, walkFragment s d (walkFuel d) f l = some r := by
  unfold walkFragment
  simp only
  obtain ⟨r, h⟩ := walkLevel_fuel_ok s d none (s.type? f.typeCond) f.sel
    (walkDirectives s none (s.type? f.typeCond) f.dirs locFragmentDefinition { visited := [], links := l, used := [] }).1
    (by rw [walkDirectives_visited])
  rw [h]
  exact ⟨_, rfl⟩

theorem walkOps_isSome (s : SV) (d : QueryDoc) : ∀ (ops : List OperationDef) (l : Links),
    ∃ r, walkOps s d (walkFuel d) ops l = some r
  | [], l => ⟨_, rfl⟩
  | op :: rest, l => by
    obtain ⟨r1, h1⟩ := walkOperation_isSome s d op l
    obtain ⟨r2, h2⟩ := walkOps_isSome s d rest r1.1
    refine ⟨(r2.1, r1.2 ++ r2.2), ?_⟩
    simp only [walkOps, h1, h2]

theorem walkFrags_isSome (s : SV) (d : QueryDoc) : ∀ (fs : List FragmentDef) (l : Links),
    ∃ r, walkFrags s d (walkFuel d) fs l = some r
  | [], l => ⟨_, rfl⟩
  | f :: rest, l => by
    obtain ⟨r1, h1⟩ := walkFragment_isSome s d f l
    obtain ⟨r2, h2⟩ := walkFrags_isSome s d rest r1.1
    refine ⟨(r2.1, r1.2 ++ r2.2), ?_⟩
    simp only [walkFrags, h1, h2]

theorem walkDoc_isSome (s : SV) (d : QueryDoc) : ∃ evs, walkDoc s d = some evs := by
  obtain ⟨r1, h1⟩ := walkOps_isSome s d d.ops Links.empty
  obtain ⟨r2, h2⟩ := walkFrags_isSome s d d.frags r1.1
  refine ⟨r1.2 ++ r2.2, ?_⟩
  simp only [walkDoc, h1, h2]

end Gql.Validate
