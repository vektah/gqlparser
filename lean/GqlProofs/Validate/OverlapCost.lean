import GqlProofs.Validate.OverlapUniv
import GqlProofs.Validate.OverlapLoops
import GqlProofs.Validate.OverlapPairs
import GqlProofs.Validate.RuleFuel
/-
  OverlappingFieldsCanBeMerged (the repaired algorithm with the fields-and-fragment memo):
  termination AND cost in one amortised argument.

  Potential.  `phi st` = number of memo keys not yet present:
      `unHas`   (fragment name, fragment name, exclusive) triples `comparedFragmentPairs` does not answer,
      `unSeen`  (selection set, fragment name, exclusive) triples not in `comparedFieldsAndFragmentPairs`,
  over the fragment names of the document and the identities `ids` of the reachable selection sets.
  Both memos only advance (`AdvS`), so `phi` never increases.

  Cost.  `cost st = st.steps + W · phi st` with `W = (N+1)²`.  Every function `f` of the model
  satisfies `Spec n Pre b f`: started in a state with `b + W · phi st < n` (and `Pre st`) it returns
  (`n` levels of `findConflict` fuel suffice) and `cost` grows by at most its LOCAL budget `b`:
      findConflict(a, b)                         nodeSize a · nodeSize b
      collectConflictsBetween(A, B)              mapSize A · mapSize B
      collectConflictsBetweenFieldsAndFragment   1      (the call itself; an expansion is paid by `phi`)
      check                                      1
  An expansion of a memo key lowers `phi` by one, which pays `W` steps: enough for the comparison of
  the two field maps (`mapSize · mapSize`) and for the entry step of each nested call.  What
  `findConflict(a, b)` does without touching a memo descends the tree on both sides, hence
  `1 + Σ nodeSize a' · nodeSize b' + spreads… ≤ nodeSize a · nodeSize b`.
  The same inequality bounds the recursion DEPTH, so `n = overlapFuel` levels are never exhausted.
-/
namespace Gql.Validate
open Gql Gql.Validate.Rules

def keyTriples (ids : List (Option Nat)) (names : List Name) : List FragKey :=
  ids.flatMap fun i => names.flatMap fun n => [(i, n, false), (i, n, true)]

def unSeen (ids : List (Option Nat)) (d : QueryDoc) (seen : List FragKey) : Nat :=
  ((keyTriples ids (fragNames d)).filter fun k => !seen.contains k).length

/-- the measure of one (E) recursion: fragment names not yet compared with THIS selection set -/
def chainMu (d : QueryDoc) (i : Option Nat) (excl : Bool) (seen : List FragKey) : Nat :=
  ((fragNames d).filter fun n => !seen.contains (i, n, excl)).length

theorem not_contains_of_subset {seen seen' : List FragKey} (h : seen ⊆ seen') {k : FragKey}
    (hk : (!seen'.contains k) = true) : (!seen.contains k) = true := by
  simp only [Bool.not_eq_true', List.contains_eq_mem, decide_eq_false_iff_not] at hk ⊢
  exact fun hm => hk (h hm)

/-- both measures count the members `x` of a list whose key `g x` is not in the memo: a larger memo
    leaves fewer -/
theorem unmarked_mono {α : Type} (g : α → FragKey) (l : List α) {seen seen' : List FragKey} (h : seen ⊆ seen') :
    (l.filter fun x => !seen'.contains (g x)).length ≤ (l.filter fun x => !seen.contains (g x)).length :=
  filter_length_le_of_imp _ _ (fun _ hx => not_contains_of_subset h hx) l

theorem unmarked_cons_lt {α : Type} (g : α → FragKey) {l : List α} {seen seen' : List FragKey} {x : α} (hx : x ∈ l)
    (hn : seen.contains (g x) = false) (h : g x :: seen ⊆ seen') :
    (l.filter fun x => !seen'.contains (g x)).length + 1 ≤ (l.filter fun x => !seen.contains (g x)).length := by
  refine filter_length_lt_of_imp _ _
    (fun _ hy => not_contains_of_subset (fun _ hm => h (List.mem_cons_of_mem _ hm)) hy) x ?_ ?_ _ hx
  · simpa using hn
  · simpa using h (List.mem_cons_self ..)

theorem unSeen_le (ids : List (Option Nat)) (d : QueryDoc) (seen : List FragKey) :
    unSeen ids d seen ≤ 2 * ids.length * d.frags.length := by
  have h := List.length_filter_le (fun k : FragKey => !seen.contains k) (keyTriples ids (fragNames d))
  rw [show (keyTriples ids (fragNames d)).length = _ from length_flagTriples _ _] at h
  simpa [unSeen, fragNames] using h

theorem chainMu_le (d : QueryDoc) (i : Option Nat) (excl : Bool) (seen : List FragKey) :
    chainMu d i excl seen ≤ d.frags.length := by
  have h := List.length_filter_le (fun n : Name => !seen.contains (i, n, excl)) (fragNames d)
  simpa [chainMu, fragNames] using h

def AdvS (st st' : OSt) : Prop := PSym st'.pairs ∧ PLe st.pairs st'.pairs ∧ st.seen ⊆ st'.seen

theorem AdvS_refl {st : OSt} (h : PSym st.pairs) : AdvS st st := ⟨h, PLe_refl _, fun _ hx => hx⟩

theorem AdvS_trans {a b c : OSt} (h1 : AdvS a b) (h2 : AdvS b c) : AdvS a c :=
  ⟨h2.1, PLe_trans h1.2.1 h2.2.1, fun _ hx => h2.2.2 (h1.2.2 hx)⟩

theorem AdvS_tick {st : OSt} (h : PSym st.pairs) : AdvS st st.tick := ⟨h, PLe_refl _, fun _ hx => hx⟩

/-- the context of one observer call: environment, reachable fields, identities of the reachable
    selection sets, bound on the nodes of a reachable selection set -/
structure Cx where
  env : Env
  U : Univ
  ids : List (Option Nat)
  N : Nat

def Cx.W (cx : Cx) : Nat := (cx.N + 1) * (cx.N + 1)

def Cx.phi (cx : Cx) (st : OSt) : Nat := unHas cx.env.d st.pairs + unSeen cx.ids cx.env.d st.seen

def Cx.cost (cx : Cx) (st : OSt) : Nat := st.steps + cx.W * cx.phi st

theorem phi_mono (cx : Cx) {st st' : OSt} (h : AdvS st st') : cx.phi st' ≤ cx.phi st := by
  unfold Cx.phi
  have h1 := unHas_mono cx.env.d h.2.1
  have h2 : unSeen cx.ids cx.env.d st'.seen ≤ unSeen cx.ids cx.env.d st.seen := unmarked_mono id _ h.2.2
  omega

theorem Wphi_mono (cx : Cx) {st st' : OSt} (h : AdvS st st') : cx.W * cx.phi st' ≤ cx.W * cx.phi st :=
  Nat.mul_le_mul_left _ (phi_mono cx h)

theorem phi_tick (cx : Cx) (st : OSt) : cx.phi st.tick = cx.phi st := rfl

theorem cost_tick (cx : Cx) (st : OSt) : cx.cost st.tick = cx.cost st + 1 := by
  have h : cx.phi st.tick = cx.phi st := rfl
  simp only [Cx.cost, h]
  simp only [OSt.tick]
  omega

/-- a key expansion pays `W` -/
theorem Wphi_drop (cx : Cx) {st st' : OSt} (h : cx.phi st' + 1 ≤ cx.phi st) :
    cx.W * cx.phi st' + cx.W ≤ cx.W * cx.phi st := by
  have := Nat.mul_le_mul_left cx.W h
  rw [Nat.mul_add, Nat.mul_one] at this
  exact this

structure CxOk (cx : Cx) : Prop where
  closed : UClosed cx.U
  frags : UFrags cx.env.d cx.U
  nodes : ∀ k sub, (k, sub) ∈ cx.U → countNodes sub + 1 ≤ cx.N
  ids : ∀ k sub, (k, sub) ∈ cx.U → selId sub ∈ cx.ids
  fragNodes : ∀ f ∈ cx.env.d.frags, countNodes f.sel ≤ cx.N
  chainFuel : cx.env.d.frags.length + 1 ≤ cx.env.chainFuel
  checkFuel : 2 * cx.env.d.frags.length * cx.env.d.frags.length + 1 ≤ cx.env.checkFuel

def Spec (cx : Cx) (n : Nat) (Pre : OSt → Prop) (b : Nat) {β : Type} (f : OSt → Option (OSt × β)) : Prop :=
  ∀ st, PSym st.pairs → Pre st → b + cx.W * cx.phi st < n →
    ∃ r, f st = some r ∧ AdvS st r.1 ∧ cx.cost r.1 ≤ cx.cost st + b

def PreMono (Pre : OSt → Prop) : Prop := ∀ st st', AdvS st st' → Pre st → Pre st'

theorem preMono_true : PreMono (fun _ => True) := fun _ _ _ _ => trivial

theorem Spec.mono {cx : Cx} {n : Nat} {Pre : OSt → Prop} {b b' : Nat} {β : Type} {f : OSt → Option (OSt × β)}
    (h : Spec cx n Pre b f) (hb : b ≤ b') : Spec cx n Pre b' f := by
  intro st hP hpre hn
  obtain ⟨r, hr, ha, hc⟩ := h st hP hpre (by omega)
  exact ⟨r, hr, ha, by omega⟩

theorem Spec.weaken {cx : Cx} {n : Nat} {Pre : OSt → Prop} {b : Nat} {β : Type} {f : OSt → Option (OSt × β)}
    (h : Spec cx n (fun _ => True) b f) : Spec cx n Pre b f :=
  fun st hP _ hn => h st hP trivial hn

/-- run a component with budget `b1` inside a computation with budget `b ≥ b1`: what is left of the
    budget is still covered afterwards -/
theorem Spec.step {cx : Cx} {n : Nat} {Pre : OSt → Prop} {b1 : Nat} {β : Type} {f : OSt → Option (OSt × β)}
    (h : Spec cx n Pre b1 f) {st : OSt} {b : Nat} (hP : PSym st.pairs) (hpre : Pre st)
    (hn : b + cx.W * cx.phi st < n) (hle : b1 ≤ b) :
    ∃ r, f st = some r ∧ AdvS st r.1 ∧ cx.cost r.1 ≤ cx.cost st + b1 ∧
      ∀ b2, b1 + b2 ≤ b → b2 + cx.W * cx.phi r.1 < n := by
  obtain ⟨r, hr, ha, hc⟩ := h st hP hpre (by omega)
  have := Wphi_mono cx ha
  exact ⟨r, hr, ha, hc, fun b2 hb2 => by omega⟩

theorem Spec.ret {cx : Cx} {n : Nat} {Pre : OSt → Prop} {β : Type} (x : β) : Spec cx n Pre 0 fun st => some (st, x) :=
  fun st hP _ _ => ⟨(st, x), rfl, AdvS_refl hP, Nat.le_refl _⟩

theorem Spec.seq {cx : Cx} {n : Nat} {Pre : OSt → Prop} {b1 b2 : Nat} {f g : OSt → Option (OSt × List Conflict)}
    (hf : Spec cx n Pre b1 f) (hg : Spec cx n Pre b2 g) (hmono : PreMono Pre) : Spec cx n Pre (b1 + b2) (seqC f g) := by
  intro st hP hpre hn
  obtain ⟨⟨st1, c1⟩, h1, a1, k1, n1⟩ := hf.step hP hpre hn (Nat.le_add_right _ _)
  obtain ⟨⟨st2, c2⟩, h2, a2, k2⟩ := hg st1 a1.1 (hmono _ _ a1 hpre) (n1 _ (Nat.le_refl _))
  exact ⟨(st2, c1 ++ c2), seqC_some.2 ⟨st1, c1, st2, c2, h1, h2, rfl⟩, AdvS_trans a1 a2, by simp only at k1 k2 ⊢; omega⟩

theorem Spec.seq3 {cx : Cx} {n : Nat} {Pre : OSt → Prop} {b1 b2 b3 : Nat} {f g h : OSt → Option (OSt × List Conflict)}
    (hf : Spec cx n Pre b1 f) (hg : Spec cx n Pre b2 g) (hh : Spec cx n Pre b3 h) (hmono : PreMono Pre) :
    Spec cx n Pre (b1 + b2 + b3) (seqC3 f g h) :=
  seqC3_eq f g h ▸ (hf.seq hg hmono).seq hh hmono

theorem stLoop_spec {cx : Cx} {n : Nat} {Pre : OSt → Prop} (hmono : PreMono Pre) {α : Type} (w : α → Nat)
    (step : α → OSt → Option (OSt × List Conflict)) :
    ∀ (xs : List α), (∀ x ∈ xs, Spec cx n Pre (w x) (step x)) → Spec cx n Pre (sumNat (xs.map w)) (stLoop step xs)
  | [], _ => Spec.ret []
  | x :: rest, h =>
    (h x (List.mem_cons_self ..)).seq (stLoop_spec hmono w step rest fun y hy => h y (List.mem_cons_of_mem _ hy)) hmono

theorem stLoop_spec_const {cx : Cx} {n : Nat} {Pre : OSt → Prop} (hmono : PreMono Pre) {α : Type} (c : Nat)
    (step : α → OSt → Option (OSt × List Conflict)) (xs : List α) (h : ∀ x ∈ xs, Spec cx n Pre c (step x)) :
    Spec cx n Pre (xs.length * c) (stLoop step xs) := by
  rw [← sumNat_map_const]
  exact stLoop_spec hmono _ step xs h

/-- the expansion of a memo key: recording the key (`st1`) lowers the potential by one, which pays
    for a body of budget at most `W`; seen from outside, the call costs its own step only -/
theorem Spec.expand {cx : Cx} {n : Nat} {Pre : OSt → Prop} {b : Nat} {β : Type} {g : OSt → Option (OSt × β)}
    (hg : Spec cx n Pre b g) (hb : b ≤ cx.W) {st st1 : OSt} (a1 : AdvS st st1) (hsteps : st1.steps = st.steps + 1)
    (hphi : cx.phi st1 + 1 ≤ cx.phi st) (hpre : Pre st1) (hn : 1 + cx.W * cx.phi st < n) :
    ∃ r, g st1 = some r ∧ AdvS st r.1 ∧ cx.cost r.1 ≤ cx.cost st + 1 := by
  have hW := Wphi_drop cx hphi
  obtain ⟨r, hr, a2, k2⟩ := hg st1 a1.1 hpre (by omega)
  exact ⟨r, hr, AdvS_trans a1 a2, by simp only [Cx.cost] at k2 ⊢; omega⟩

theorem stop_ok (cx : Cx) {β : Type} (x : β) {st st1 : OSt} (a1 : AdvS st st1) (hsteps : st1.steps = st.steps + 1) :
    ∃ r, some (st1, x) = some r ∧ AdvS st r.1 ∧ cx.cost r.1 ≤ cx.cost st + 1 := by
  have := Wphi_mono cx a1
  exact ⟨_, rfl, a1, by simp only [Cx.cost, hsteps]; omega⟩

def FCOk (cx : Cx) (n : Nat) (fc : FC) : Prop :=
  ∀ excl a b, Good cx.U a → Good cx.U b → Spec cx n (fun _ => True) (nodeSize a * nodeSize b) (fc excl a b)

section
variable {cx : Cx} {n : Nat} {fc : FC} (hfc : FCOk cx n fc) (excl : Bool)
include hfc

theorem fcRow_spec {fa : FInfo} (ha : Good cx.U fa) (fbs : List FInfo) (hb : ∀ f ∈ fbs, Good cx.U f) :
    Spec cx n (fun _ => True) (nodeSize fa * listSize fbs) (stLoop (fcStep fc excl fa) fbs) := by
  rw [listSize, ← sumNat_map_mul_left]
  refine stLoop_spec preMono_true _ _ fbs fun fb h st hP _ hn => ?_
  obtain ⟨⟨st1, c⟩, h1, a1, k1⟩ := hfc excl fa fb ha (hb fb h) st hP trivial hn
  exact ⟨(st1, optToList c), by simp only [fcStep, h1], a1, k1⟩

theorem between_spec {B : FMap} (hB : GoodMapK cx.U B) (A : FMap) (hA : GoodMapK cx.U A) :
    Spec cx n (fun _ => True) (mapSize A * mapSize B) (collectConflictsBetween fc excl B A) := by
  rw [between_eq, mapSize, ← sumNat_map_mul_right]
  refine stLoop_spec preMono_true _ _ A fun e he => ?_
  unfold betweenStep
  cases hg : fmGet B e.1 with
  | none => exact (Spec.ret []).mono (Nat.zero_le _)
  | some fsB =>
    refine Spec.mono ?_ (Nat.mul_le_mul_left _ (mapSize_get hg))
    rw [listSize, ← sumNat_map_mul_right]
    exact stLoop_spec preMono_true _ _ e.2 fun fa h => fcRow_spec hfc excl (hA e he fa h).1 fsB fun f hf => (goodMapK_get hB hg f hf).1

theorem pairTriangle_spec : ∀ (fs : List FInfo), (∀ f ∈ fs, Good cx.U f) →
    Spec cx n (fun _ => True) (listSize fs * listSize fs) (pairTriangle fc fs)
  | [], _ => Spec.ret []
  | fa :: rest, hA => by
    have hrest : ∀ f ∈ rest, Good cx.U f := fun f hf => hA f (List.mem_cons_of_mem _ hf)
    rw [pairTriangle_cons, pairRow_eq]
    refine ((fcRow_spec hfc false (hA fa (List.mem_cons_self ..)) rest hrest).seq (pairTriangle_spec rest hrest)
      preMono_true).mono ?_
    rw [listSize_cons, ← Nat.add_mul]
    exact Nat.mul_le_mul_left _ (Nat.le_add_left ..)

theorem within_spec (A : FMap) (hA : GoodMapK cx.U A) :
    Spec cx n (fun _ => True) (mapSize A * mapSize A) (collectConflictsWithin fc A) := by
  have step : ∀ e ∈ A, Spec cx n (fun _ => True) (listSize e.2 * mapSize A) (pairTriangle fc e.2) := fun e he =>
    (pairTriangle_spec hfc e.2 fun f hf => (hA e he f hf).1).mono (Nat.mul_le_mul_left _ (mapSize_mem he))
  have h := stLoop_spec preMono_true _ _ A step
  rw [sumNat_map_mul_right, ← within_eq] at h
  exact h

end


structure GoodFM (cx : Cx) (A : FM) : Prop where
  map : GoodMapK cx.U A.map
  first : A.first ∈ cx.ids
  size : mapSize A.map ≤ cx.N

theorem spreadDef_fragName {l : Links} {d : QueryDoc} {n : Name} {p : Pos} {f : FragmentDef}
    (h : l.spreadDef d n p = some f) : n ∈ fragNames d := by
  have hf := spreadDef_some h
  rw [← fragForName_name hf]
  exact List.mem_map.2 ⟨f, fragForName_mem hf, rfl⟩

theorem fragFields_le {cx : Cx} (hcx : CxOk cx) {f : FragmentDef} (hf : f ∈ cx.env.d.frags) :
    mapSize (cx.env.fragFields f).1.map + (cx.env.fragFields f).2.length ≤ cx.N :=
  Nat.le_trans (Nat.le_of_eq (getFields_size _ _ _ _)) (hcx.fragNodes f hf)

/-- local budget of `findConflictsBetweenSubSelectionSets`: comparing the two field maps (`mA · mB`),
    entering (I) for each spread of either side and (J) for each pair of spreads -/
def subBudget (mA sA mB sB : Nat) : Nat := mA * mB + sB + sA + sA * sB

theorem subBudget_lt (mA sA mB sB : Nat) : subBudget mA sA mB sB + 1 ≤ (mA + sA + 1) * (mB + sB + 1) := by
  unfold subBudget
  simp only [Nat.add_mul, Nat.mul_add, Nat.one_mul, Nat.mul_one]
  omega

/-- the arithmetic of every expansion and of the top-level call: such a budget over two selection
    sets of at most `N` nodes fits into `W` -/
theorem subBudget_le_W (cx : Cx) {mA sA mB sB : Nat} (hA : mA + sA ≤ cx.N) (hB : mB + sB ≤ cx.N) :
    subBudget mA sA mB sB + 1 ≤ cx.W :=
  Nat.le_trans (subBudget_lt mA sA mB sB) (Nat.mul_le_mul (Nat.succ_le_succ hA) (Nat.succ_le_succ hB))

theorem goodFM_sub {cx : Cx} (hcx : CxOk cx) {a : FInfo} (ha : Good cx.U a) : GoodFM cx (cx.env.subOf a).1 := by
  refine ⟨goodMapK_sub hcx.closed _ _ _ ha, hcx.ids _ _ ha, ?_⟩
  have h1 : mapSize (cx.env.subOf a).1.map + (cx.env.subOf a).2.length = countNodes a.node.sel := getFields_size ..
  have h2 := hcx.nodes _ _ ha
  omega

section
variable {cx : Cx} (hcx : CxOk cx) {n : Nat} {fc : FC} (hfc : FCOk cx n fc)
include hcx hfc

theorem chain_spec (excl : Bool) {A : FM} (hA : GoodFM cx A) : ∀ (m : Nat) (sp : SpreadNode),
      Spec cx n (fun st => chainMu cx.env.d A.first excl st.seen + 1 ≤ m) 1 (chain cx.env fc excl A m sp)
  | 0, _ => by intro _ _ h _; omega
  | m + 1, sp => by
    intro st hP hpre hn
    unfold chain
    simp only
    split
    · exact stop_ok cx [] (AdvS_tick hP) rfl
    · rename_i hc
      have hc' : st.seen.contains (A.first, sp.name, excl) = false := by simpa [OSt.tick] using hc
      have a1 : AdvS st { st.tick with seen := (A.first, sp.name, excl) :: st.tick.seen } :=
        ⟨hP, PLe_refl _, fun _ hx => List.mem_cons_of_mem _ hx⟩
      cases hs : cx.env.l.spreadDef cx.env.d sp.name sp.pos with
      | none => exact stop_ok cx [] a1 rfl
      | some f =>
        simp only
        split
        · exact stop_ok cx [] a1 rfl
        · have hmem := fragForName_mem (spreadDef_some hs)
          have hname := spreadDef_fragName hs
          -- adding the key lowers the potential and the measure of this recursion
          have hphi : cx.phi { st.tick with seen := (A.first, sp.name, excl) :: st.tick.seen } + 1 ≤ cx.phi st := by
            have : unSeen cx.ids cx.env.d ((A.first, sp.name, excl) :: st.seen) + 1 ≤ unSeen cx.ids cx.env.d st.seen :=
              unmarked_cons_lt id (mem_flagTriples excl hA.first hname) hc' (fun _ hx => hx)
            simp only [Cx.phi, OSt.tick] at this ⊢
            omega
          have hmu : chainMu cx.env.d A.first excl ((A.first, sp.name, excl) :: st.seen) + 1 ≤ m := by
            have : chainMu cx.env.d A.first excl ((A.first, sp.name, excl) :: st.seen) + 1 ≤
                chainMu cx.env.d A.first excl st.seen :=
              unmarked_cons_lt (fun n => (A.first, n, excl)) hname hc' (fun _ hx => hx)
            have hpre' : chainMu cx.env.d A.first excl st.seen + 1 ≤ m + 1 := hpre
            omega
          have hmono : PreMono (fun st => chainMu cx.env.d A.first excl st.seen + 1 ≤ m) := by
            intro s1 s2 hadv hp
            have : chainMu cx.env.d A.first excl s2.seen ≤ chainMu cx.env.d A.first excl s1.seen :=
              unmarked_mono (fun n => (A.first, n, excl)) _ hadv.2.2
            omega
          -- (D), then (E): comparing the two field maps and entering each nested call fits into `W`
          refine Spec.expand (((between_spec hfc excl (goodMapK_frag cx.env hcx.frags hmem) A.map hA.map).weaken.seq
            (stLoop_spec_const hmono 1 (chain cx.env fc excl A m) _ fun x _ => chain_spec excl hA m x) hmono).mono
            (Nat.add_le_add_left (Nat.mul_le_mul_right 1 (List.length_filter_le _ _)) _)) ?_ a1 rfl hphi hmu hn
          have hW := subBudget_le_W cx (sA := 0) hA.size (fragFields_le hcx hmem)
          simp only [subBudget, Nat.zero_mul, Nat.add_zero] at hW
          rw [Nat.mul_one]
          exact Nat.le_of_succ_le hW


theorem check_spec (excl : Bool) :
    ∀ (m : Nat) (a b : SpreadNode),
      Spec cx n (fun st => unHas cx.env.d st.pairs + 1 ≤ m) 1 (check cx.env fc excl m a b)
  | 0, _, _ => by intro _ _ h _; omega
  | m + 1, a, b => by
    intro st hP hpre hn
    unfold check
    simp only
    split
    · exact stop_ok cx [] (AdvS_tick hP) rfl
    · split
      · exact stop_ok cx [] (AdvS_tick hP) rfl
      · rename_i hne hhas
        have hhas' : st.pairs.has a.name b.name excl = false := by simpa [OSt.tick] using hhas
        have ap : Adv st.pairs (st.pairs.add a.name b.name excl) := Adv_add hP _ _ _ hhas'
        have a1 : AdvS st { st.tick with pairs := st.tick.pairs.add a.name b.name excl } :=
          ⟨ap.1, ap.2, fun _ hx => hx⟩
        split
        · rename_i fa fb hsa hsb
          have hma := fragForName_mem (spreadDef_some hsa)
          have hmb := fragForName_mem (spreadDef_some hsb)
          have hdrop := unHas_add_lt cx.env.d hP excl (spreadDef_fragName hsa) (spreadDef_fragName hsb) hhas'
            (PLe_refl _)
          have hphi : cx.phi { st.tick with pairs := st.tick.pairs.add a.name b.name excl } + 1 ≤ cx.phi st := by
            simp only [Cx.phi, OSt.tick]
            omega
          have hmono : PreMono (fun st => unHas cx.env.d st.pairs + 1 ≤ m) := by
            intro s1 s2 hadv hp
            have := unHas_mono cx.env.d hadv.2.1
            omega
          -- (F), then (G): comparing the two field maps and entering each nested call fits into `W`
          refine Spec.expand ((between_spec hfc excl (goodMapK_frag cx.env hcx.frags hmb) _
              (goodMapK_frag cx.env hcx.frags hma)).weaken.seq3
            (stLoop_spec_const hmono 1 (fun x => check cx.env fc excl m a x) _ fun x _ => check_spec excl m a x)
            (stLoop_spec_const hmono 1 (fun x => check cx.env fc excl m x b) _ fun x _ => check_spec excl m x b)
            hmono) ?_ a1 rfl hphi (by have hpre' : unHas cx.env.d st.pairs + 1 ≤ m + 1 := hpre; simp only [OSt.tick]; omega) hn
          have hW := subBudget_le_W cx (fragFields_le hcx hma) (fragFields_le hcx hmb)
          rw [Nat.mul_one, Nat.mul_one]
          exact Nat.le_trans (Nat.le_add_right _ _) (Nat.le_of_succ_le hW)
        · exact stop_ok cx [] a1 rfl

theorem fieldsAndFragment_spec (excl : Bool) {A : FM} (hA : GoodFM cx A) (sp : SpreadNode) :
    Spec cx n (fun _ => True) 1 (fieldsAndFragment cx.env fc excl A sp) := by
  intro st hP _ hn
  exact chain_spec hcx hfc excl hA cx.env.chainFuel sp st hP
    (by have := chainMu_le cx.env.d A.first excl st.seen; have := hcx.chainFuel; omega) hn

theorem betweenFragments_spec (excl : Bool) (a b : SpreadNode) :
    Spec cx n (fun _ => True) 1 (collectConflictsBetweenFragments cx.env fc excl a b) := by
  intro st hP _ hn
  exact check_spec hcx hfc excl cx.env.checkFuel a b st hP
    (by have := unHas_le_max cx.env.d st.pairs; have := hcx.checkFuel; omega) hn

theorem subSets_spec (excl : Bool) {a b : FInfo} (ha : Good cx.U a) (hb : Good cx.U b) :
    Spec cx n (fun _ => True)
      (subBudget (mapSize (cx.env.subOf a).1.map) (cx.env.subOf a).2.length
        (mapSize (cx.env.subOf b).1.map) (cx.env.subOf b).2.length)
      (findConflictsBetweenSubSelectionSets cx.env fc excl a b) := by
  have gA := goodFM_sub hcx ha
  have gB := goodFM_sub hcx hb
  rw [subSets_eq]
  refine Spec.mono (((between_spec hfc excl gB.map _ gA.map).seq3
      (stLoop_spec_const preMono_true 1 _ _ fun sp _ => fieldsAndFragment_spec hcx hfc excl gA sp)
      (stLoop_spec_const preMono_true 1 _ _ fun sp _ => fieldsAndFragment_spec hcx hfc excl gB sp) preMono_true).seq
    (stLoop_spec_const preMono_true ((cx.env.subOf b).2.length * 1) _ _ fun sa _ =>
      stLoop_spec_const preMono_true 1 _ _ fun sb _ => betweenFragments_spec hcx hfc excl sa sb) preMono_true) ?_
  unfold subBudget
  simp only [Nat.mul_one]
  omega

end

theorem findConflictBody_spec {cx : Cx} {n : Nat} (s : SV)
    (sub : Bool → FInfo → FInfo → OSt → Option (OSt × List Conflict)) (excl0 : Bool) (a b : FInfo) (bsub : Nat)
    (hsub : ∀ excl, Spec cx n (fun _ => True) bsub (sub excl a b))
    (hb : bsub + 1 ≤ nodeSize a * nodeSize b) :
    Spec cx (n + 1) (fun _ => True) (nodeSize a * nodeSize b) (findConflictBody s sub excl0 a b) := by
  intro st hP _ hn
  have at' : AdvS st st.tick := AdvS_tick hP
  have kt : cx.cost st.tick ≤ cx.cost st + nodeSize a * nodeSize b := by rw [cost_tick]; omega
  unfold findConflictBody
  simp only
  split
  · split
    · exact ⟨_, rfl, at', kt⟩
    · split
      · exact ⟨_, rfl, at', kt⟩
      · split
        · exact ⟨_, rfl, at', kt⟩
        · obtain ⟨⟨st1, cs⟩, h1, a1, k1⟩ := hsub _ st.tick hP trivial (by rw [phi_tick]; omega)
          rw [h1]
          have k1' : cx.cost st1 ≤ cx.cost st + nodeSize a * nodeSize b := by
            rw [cost_tick] at k1
            simp only at k1
            omega
          cases cs with
          | nil => exact ⟨_, rfl, AdvS_trans at' a1, k1'⟩
          | cons c cs => exact ⟨_, rfl, AdvS_trans at' a1, k1'⟩
  · exact ⟨_, rfl, at', kt⟩

theorem nodeSize_split (s : SV) (l : Links) (parent : Option Definition) (a : FInfo) :
    nodeSize a = mapSize (getFieldsAndFragmentNames s l parent a.node.sel).1.map +
      (getFieldsAndFragmentNames s l parent a.node.sel).2.length + 1 := by
  unfold nodeSize
  rw [getFields_size]

theorem fcLevel_spec {cx : Cx} (hcx : CxOk cx) : ∀ n, FCOk cx n (fcLevel cx.env n)
  | 0 => by intro _ _ _ _ _ _ _ _ h; omega
  | n + 1 => by
    intro excl a b ha hb
    simp only [fcLevel]
    refine findConflictBody_spec cx.env.s _ excl a b _ (fun excl' => subSets_spec hcx (fcLevel_spec hcx n) excl' ha hb) ?_
    rw [nodeSize_split cx.env.s cx.env.l (a.next cx.env.s) a, nodeSize_split cx.env.s cx.env.l (b.next cx.env.s) b]
    exact subBudget_lt _ _ _ _

theorem withinLoop_spec {cx : Cx} (hcx : CxOk cx) {n : Nat} {fc : FC} (hfc : FCOk cx n fc) {A : FM} (hA : GoodFM cx A) :
    ∀ (sps : List SpreadNode), Spec cx n (fun _ => True) (sps.length + sps.length * sps.length) (withinLoop cx.env fc A sps)
  | [] => fun st hP _ _ => ⟨(st, []), rfl, AdvS_refl hP, Nat.le_add_right _ _⟩
  | sa :: rest => by
    refine Spec.mono (b := 1 + rest.length * 1 + (rest.length + rest.length * rest.length))
      ((fieldsAndFragment_spec hcx hfc false hA sa).seq3
        (stLoop_spec_const preMono_true 1 _ rest fun sb _ => betweenFragments_spec hcx hfc false sa sb)
        (withinLoop_spec hcx hfc hA rest) preMono_true) ?_
    simp only [List.length_cons, Nat.add_mul, Nat.mul_add, Nat.one_mul, Nat.mul_one]
    omega

/-- the top-level comparison starts with an empty memo of (selection set, fragment) comparisons -/
theorem findConflictsWithinSelectionSet_spec {cx : Cx} (hcx : CxOk cx) {n : Nat} {fc : FC} (hfc : FCOk cx n fc)
    (parent : Option Definition) (sels : Selections) (hsels : ∀ x ∈ allFields sels, x ∈ cx.U)
    (hid : selId sels ∈ cx.ids) (hN : countNodes sels ≤ cx.N) (st : OSt) (hP : PSym st.pairs)
    (hn : cx.W + cx.W * cx.phi { st with seen := [] } < n) :
    ∃ r, findConflictsWithinSelectionSet cx.env fc parent sels st = some r ∧ PSym r.1.pairs ∧ PLe st.pairs r.1.pairs ∧
      r.1.steps + cx.W * cx.phi r.1 ≤ st.steps + cx.W * cx.phi { st with seen := [] } + cx.W := by
  unfold findConflictsWithinSelectionSet
  split
  · refine ⟨(st, []), rfl, hP, PLe_refl _, ?_⟩
    have : cx.phi st ≤ cx.phi { st with seen := [] } := by
      unfold Cx.phi
      have : unSeen cx.ids cx.env.d st.seen ≤ unSeen cx.ids cx.env.d [] := unmarked_mono id _ (fun _ h => by cases h)
      simp only
      omega
    have := Nat.mul_le_mul_left cx.W this
    simp only
    omega
  · simp only
    have hsz := getFields_size cx.env.s cx.env.l parent sels
    generalize hAdef : getFieldsAndFragmentNames cx.env.s cx.env.l parent sels = A at hsz ⊢
    have gA : GoodFM cx A.1 := by
      subst hAdef
      exact ⟨goodMapK_collect _ _ _ sels hsels, hid, by omega⟩
    have hW := subBudget_le_W cx (mA := mapSize A.1.map) (sA := A.2.length) (mB := mapSize A.1.map) (sB := A.2.length)
      (by omega) (by omega)
    simp only [subBudget] at hW
    obtain ⟨r, hr, a12, k12⟩ := ((within_spec hfc A.1.map gA.map).seq (withinLoop_spec hcx hfc gA A.2) preMono_true).mono
      (by omega) { st with seen := [] } hP trivial hn
    exact ⟨r, hr, a12.1, a12.2.1, k12⟩

def overlapCx (s : SV) (d : QueryDoc) (l : Links) (sels : Selections) : Cx :=
  { env := overlapEnv s d l, U := univOf d sels,
    ids := selId sels :: (univOf d sels).map (fun x => selId x.2), N := reachableNodeCount d sels }

theorem overlapCx_ok (s : SV) (d : QueryDoc) (l : Links) (sels : Selections) : CxOk (overlapCx s d l sels) where
  closed := univOf_closed d sels
  frags := univOf_frags d sels
  nodes := fun _ _ h => univOf_nodes d sels h
  ids := fun k sub h => List.mem_cons_of_mem _ (List.mem_map.2 ⟨(k, sub), h, rfl⟩)
  fragNodes := fun f hf => by
    have := frag_nodes_le d hf
    simp only [overlapCx, reachableNodeCount]
    omega
  chainFuel := by simp only [overlapCx, overlapEnv, overlapChainFuel]; omega
  checkFuel := by simp only [overlapCx, overlapEnv, overlapCheckFuel]; omega

theorem overlapCx_W (s : SV) (d : QueryDoc) (l : Links) (sels : Selections) :
    (overlapCx s d l sels).W = expansionCost d sels := rfl

theorem overlapCx_phi_le (s : SV) (d : QueryDoc) (l : Links) (sels : Selections) (st : OSt) :
    (overlapCx s d l sels).phi st ≤ memoKeyCount d sels := by
  unfold Cx.phi memoKeyCount
  have h1 := unHas_le_max d st.pairs
  have h2 := unSeen_le (overlapCx s d l sels).ids d st.seen
  have h3 : (overlapCx s d l sels).ids.length = reachableFieldCount d sels + 1 := by
    simp only [overlapCx, List.length_cons, List.length_map, length_univOf]
  rw [h3] at h2
  simp only [overlapCx, overlapEnv] at h1 h2 ⊢
  omega

/-- One observer call from a state whose fragment-pair memo is symmetric: it returns (the fuel is
    not exhausted), the fragment-pair memo has only advanced and is symmetric again, and it took at
    most `overlapStepBound d sels` comparison steps — whatever the memos contained before. -/
theorem overlapRun_ok (s : SV) (d : QueryDoc) (l : Links) (parent : Option Definition) (sels : Selections)
    (st : OSt) (hP : PSym st.pairs) :
    ∃ r, overlapRun s d l parent sels st = some r ∧ PSym r.1.pairs ∧ PLe st.pairs r.1.pairs ∧
      r.1.steps ≤ st.steps + overlapStepBound d sels := by
  have hcx := overlapCx_ok s d l sels
  have hphi := overlapCx_phi_le s d l sels { st with seen := [] }
  have hmul : expansionCost d sels * (overlapCx s d l sels).phi { st with seen := [] } ≤
      expansionCost d sels * memoKeyCount d sels := Nat.mul_le_mul_left _ hphi
  have hbound : overlapStepBound d sels = expansionCost d sels * memoKeyCount d sels + expansionCost d sels := by
    unfold overlapStepBound
    rw [Nat.mul_add, Nat.mul_one]
  obtain ⟨r, hr, hp, hle, hc⟩ := findConflictsWithinSelectionSet_spec (cx := overlapCx s d l sels) hcx
    (fcLevel_spec hcx (overlapFuel d sels)) parent sels
    (fun x hx => by simp only [overlapCx, univOf, List.mem_append]; exact Or.inl hx)
    (List.mem_cons_self ..) (by simp only [overlapCx, reachableNodeCount]; omega)
    st hP (by rw [overlapCx_W]; unfold overlapFuel; omega)
  refine ⟨r, hr, hp, hle, ?_⟩
  rw [overlapCx_W] at hc
  omega

end Gql.Validate
