import GqlModel.Validate.Rules.OverlappingFieldsCanBeMerged
import GqlModel.Validate.Spec.Fields
/-
  OverlappingFieldsCanBeMerged, completeness (C08): correspondences between what the rule model
  computes on its collected fields (`FInfo`) and what the specification computes on its merged
  fields (`Spec.MField`).

  * `toM`: the specification's view of a collected field;
  * `sameArguments` of the model IS `Spec.sameArguments` (`sameArguments_eq_spec`);
  * `doTypesConflict` is the negation of the wrapper/leaf test of `SameResponseShape`
    (`doTypesConflict_eq`), for schemas whose type table is keyed by the names of its definitions;
  * `goExcl` (the rule's "parents are two different Object types") is the negation of the `mayOverlap`
    test of `FieldsInSetCanMerge` when both parents are determined and both fields defined
    (`goExcl_mayOverlap`, in OverlapFlat.lean).
-/
namespace Gql.Validate
open Gql Gql.Validate.Rules

def toM (f : FInfo) : Spec.MField :=
  { parent := f.sparent, alias := f.node.alias, name := f.node.name, args := f.node.args, sel := f.node.sel }

theorem toM_key (f : FInfo) : (toM f).key = responseName f.node := by
  unfold Spec.MField.key responseName toM
  by_cases h : f.node.alias = []
  · simp [h]
  · simp [h]

theorem sameFieldIn_eq (n1 : Name) (v1 : Value) (ih : ∀ v2, sameValue v1 v2 = Spec.sameValue v1 v2) :
    ∀ c : Children, Spec.sameFieldIn n1 v1 c = (findChild c n1).any (sameValue v1)
  | .nil => by simp [Spec.sameFieldIn, findChild]
  | .cons n2 v2 p2 rest => by
    unfold findChild Spec.sameFieldIn
    rw [sameFieldIn_eq n1 v1 ih rest, Bool.beq_comm (a := n1)]
    split
    · exact (ih v2).symm
    · rfl

mutual
  theorem sameValue_eq_spec : ∀ (v1 v2 : Value), sameValue v1 v2 = Spec.sameValue v1 v2
    | .mk k1 r1 c1 p1, .mk k2 r2 c2 p2 => by
      unfold sameValue Spec.sameValue
      simp only [Value.kind, Value.raw, Value.children]
      cases k1 == ValueKind.object
      · simp only [Bool.false_eq_true, if_false, ← sameChildren_items_spec c1 c2 c2, Bool.and_assoc]
      · simp only [if_true, sameChildren_fields_spec c1 c2 c2, Bool.and_assoc]
  -- Lean does not try all the argument combinations of a block like this one by itself
  termination_by structural v1 => v1
  theorem sameChildren_fields_spec : ∀ (c1 r2 all2 : Children),
      sameChildren true c1 r2 all2 = Spec.sameFields c1 all2
    | .nil, _, _ => by simp [sameChildren, Spec.sameFields]
    | .cons n1 v1 p1 rest1, r2, all2 => by
      unfold sameChildren Spec.sameFields
      rw [sameChildren_fields_spec rest1 (childrenTail r2) all2, sameFieldIn_eq n1 v1 (sameValue_eq_spec v1) all2]
      cases findChild all2 n1 <;> rfl
  theorem sameChildren_items_spec : ∀ (c1 r2 all2 : Children),
      (c1.length == r2.length && sameChildren false c1 r2 all2) = Spec.sameItems c1 r2
    | .nil, .nil, _ => by simp [sameChildren, Spec.sameItems, Children.length]
    | .nil, .cons _ _ _ _, _ => by simp [Spec.sameItems, Children.length]
    | .cons n1 v1 p1 rest1, .nil, _ => by simp [Spec.sameItems, Children.length]
    | .cons n1 v1 p1 rest1, .cons n2 v2 p2 rest2, all2 => by
      unfold sameChildren Spec.sameItems
      rw [← sameChildren_items_spec rest1 rest2 all2, ← sameValue_eq_spec v1 v2]
      have hlen : (rest1.length + 1 == rest2.length + 1) = (rest1.length == rest2.length) := by simp
      simp only [Bool.false_eq_true, if_false, childrenTail, Children.length, hlen]
      exact Bool.and_left_comm ..
end

theorem sameFieldIn_spec (n1 : Name) (v1 : Value) : ∀ (c : Children),
    (match findChild c n1 with | none => false | some v2 => sameValue v1 v2) = Spec.sameFieldIn n1 v1 c := by
  intro c
  rw [sameFieldIn_eq n1 v1 (sameValue_eq_spec v1) c]
  cases findChild c n1 <;> rfl

theorem sameArguments_eq_spec (as bs : List Argument) : sameArguments as bs = Spec.sameArguments as bs := by
  unfold sameArguments Spec.sameArguments
  congr 1
  congr 1
  funext a
  congr 1
  funext b
  rw [sameValue_eq_spec]

/-- the leaf test of `SameResponseShape` at two named types -/
def specNamed (s : Schema) (x y : Name) : Bool :=
  match s.type? x, s.type? y with
  | some dx, some dy => if Spec.isLeaf dx || Spec.isLeaf dy then x == y else true
  | _, _ => true

/-- the type table is keyed by the names of the definitions (loaded schemas: `Closed.keys`) -/
def KeysOK (s : Schema) : Prop := ∀ n t, s.type? n = some t → t.name = n

theorem specNamed_self (s : Schema) (x : Name) : specNamed s x x = true := by
  unfold specNamed
  cases s.type? x <;> simp

theorem sameWrappers_self (s : Schema) : ∀ t : GType, Spec.sameWrappers (specNamed s) t t = true
  | .named n nn _ => by simp [Spec.sameWrappers, specNamed_self]
  | .list e nn _ => by simp [Spec.sameWrappers, sameWrappers_self s e]

theorem isLeafType_eq_isLeaf (t : Definition) : isLeafType t = Spec.isLeaf t := by
  unfold isLeafType Spec.isLeaf
  exact Bool.or_comm _ _

theorem doTypesConflict_eq (s : Schema) (hk : KeysOK s) : ∀ (t1 t2 : GType),
    doTypesConflict s.view t1 t2 = !Spec.sameWrappers (specNamed s) t1 t2
  | .list e1 nn1 _, .list e2 nn2 _ => by
    unfold doTypesConflict Spec.sameWrappers
    rw [doTypesConflict_eq s hk e1 e2]
    cases nn1 <;> cases nn2 <;> simp
  | .list _ _ _, .named _ _ _ => by simp [doTypesConflict, Spec.sameWrappers]
  | .named _ _ _, .list _ _ _ => by simp [doTypesConflict, Spec.sameWrappers]
  | .named n1 nn1 _, .named n2 nn2 _ => by
    unfold doTypesConflict Spec.sameWrappers specNamed
    simp only [Schema.view]
    cases h1 : s.type? n1 with
    | none => cases nn1 <;> cases nn2 <;> simp
    | some t1 =>
      cases h2 : s.type? n2 with
      | none => cases nn1 <;> cases nn2 <;> simp
      | some t2 =>
        simp only [isLeafType_eq_isLeaf, hk n1 t1 h1, hk n2 t2 h2]
        cases nn1 <;> cases nn2 <;> cases (Spec.isLeaf t1 || Spec.isLeaf t2) <;> simp [bne]

end Gql.Validate
