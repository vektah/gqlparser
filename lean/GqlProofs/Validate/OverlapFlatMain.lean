import GqlProofs.Validate.OverlapFull
import GqlProofs.Validate.OverlapSilent
/-
  OverlappingFieldsCanBeMerged on documents WITHOUT fragment spreads: the rule reports nothing iff
  `Spec.fieldSelectionMerging` holds (`overlap_flat_iff`).
-/
namespace Gql.Validate
open Gql Gql.Validate.Rules


def flatFrame : TFrame :=
  { I := fun _ => True, T := fun _ _ => True, refl := fun _ => trivial, trans := fun _ _ => trivial,
    tick := fun _ _ => ⟨trivial, trivial⟩ }

def FlatPair (a b : FInfo) : Prop := FlatBelow a ∧ FlatBelow b

theorem fcLevel_silent_flat (env : Env) : ∀ n, FCSilent flatFrame env (fcLevel env n) FlatPair
  | 0 => by
    intro _ _ _ _ _ _ _ h
    simp [fcLevel] at h
  | n + 1 => by
    intro excl a b st st' hP hI h
    simp only [fcLevel] at h
    refine findConflictBody_silent env _ excl a b st st'
      (fun excl' => subSets_silent (fcLevel_silent_flat env n) excl' a b ?_ ?_ ?_ ?_) hI h
    · intro a' ha' b' hb'
      exact ⟨flat_sub ha' hP.1, flat_sub hb' hP.2⟩
    · exact fun _ hsp => absurd hsp (not_mem_spreads_flat hP.2)
    · exact fun _ hsp => absurd hsp (not_mem_spreads_flat hP.1)
    · exact fun _ hsp => absurd hsp (not_mem_spreads_flat hP.1)

theorem overlapRun_silent_flat (s : SV) (d : QueryDoc) (l : Links) (parent : Option Definition) (sels : Selections)
    (hflat : Spec.spreadsOfSels sels = []) (st : OSt) (r : OSt × List Conflict)
    (h : overlapRun s d l parent sels st = some r) (he : r.2 = []) : ¬ TopHolds (overlapEnv s d l) parent sels := by
  unfold overlapRun at h
  simp only at h
  refine (top_silent (F := flatFrame) (fcLevel_silent_flat _ _) parent sels ?_ ?_ ?_ st r trivial h he).1
  · intro a ha b hb
    exact ⟨flat_sub ha hflat, flat_sub hb hflat⟩
  · exact fun _ hsp => absurd hsp (not_mem_spreads_flat hflat)
  · exact fun _ hsp => absurd hsp (not_mem_spreads_flat hflat)

theorem inDocSel_sdepth {d : QueryDoc} {y : Selection} (h : InDocSel d (.sel y)) : sdepthSel y + 1 ≤ Spec.mergeFuel d := by
  unfold Spec.mergeFuel
  rcases h with ⟨op, hop, hi⟩ | ⟨f, hf, hi⟩
  · have h1 := inSels_sdepth _ _ hi
    have h2 := sdepth_le_nodes op.sel
    have h3 : Spec.selsNodes op.sel ≤ (d.ops.map fun op => Spec.selsNodes op.sel).sum :=
      sumNat_mem (List.mem_map.2 ⟨op, hop, rfl⟩)
    omega
  · have h1 := inSels_sdepth _ _ hi
    have h2 := sdepth_le_nodes f.sel
    have h3 : Spec.selsNodes f.sel ≤ (d.frags.map fun f => Spec.selsNodes f.sel).sum :=
      sumNat_mem (List.mem_map.2 ⟨f, hf, rfl⟩)
    omega


theorem spread_mem_allSpreadNames {d : QueryDoc} {n : Name} {dirs : List Directive} {p : Pos}
    (h : InDocSel d (.sel (.spread n dirs p))) : n ∈ Spec.allSpreadNames d := by
  rcases h with ⟨op, hop, hi⟩ | ⟨f, hf, hi⟩
  · exact mem_allSpreadNames.2 (Or.inl ⟨op, hop, (mem_spreadsOfSels_iff n _).2 ⟨dirs, p, hi⟩⟩)
  · exact mem_allSpreadNames.2 (Or.inr ⟨f, hf, (mem_spreadsOfSels_iff n _).2 ⟨dirs, p, hi⟩⟩)

section
variable {s : Schema} {d : QueryDoc} (H : OvHyps s d) (hflat : Spec.allSpreadNames d = [])
include H hflat

omit H in
theorem flatDoc_sels {sels : Selections} (h : ∀ y, InSels sels (.sel y) → InDocSel d (.sel y)) :
    Spec.spreadsOfSels sels = [] := by
  apply List.eq_nil_iff_forall_not_mem.2
  intro n hn
  obtain ⟨dirs, p, hi⟩ := (mem_spreadsOfSels_iff n sels).1 hn
  have := spread_mem_allSpreadNames (h _ hi)
  rw [hflat] at this
  cases this

omit H in
theorem flatDoc_docSets {t : Spec.TSet} (ht : t ∈ Spec.docSets s d) : Spec.spreadsOfSels t.sels = [] :=
  flatDoc_sels hflat (docSets_inDoc ht)

omit H in
theorem flatDoc_docF {a : FInfo} (ha : DocF s d (fullLinks d) a) : FlatBelow a :=
  flatDoc_sels hflat fun _ hy => inDocSel_below ha.inDoc (InSel.fieldSub _ _ _ _ _ _ _ hy)

omit H hflat in
theorem topHolds_flat {p : Option Definition} {sels : Selections} (hf : Spec.spreadsOfSels sels = []) (l : Links) :
    TopHolds (envOf s d l) p sels ↔
      ∃ a b, [a, b].Sublist (collectFields s.view l p sels) ∧ rnOf a = rnOf b ∧ Holds (envOf s d l) (.conf false a b) := by
  constructor
  · rintro (h | ⟨sp, hsp, _⟩ | ⟨sa, sb, hs, _⟩)
    · exact h
    · exact absurd hsp (not_mem_spreads_flat hf)
    · exact absurd (hs.subset (List.mem_cons_self ..)) (not_mem_spreads_flat hf)
  · exact Or.inl

theorem flat_semantic (hj : Spec.mergingJudged s d = true) :
    (∀ t ∈ Spec.docSets s d, ¬ TopHolds (envOf s d (fullLinks d)) t.parent t.sels) ↔
      Spec.fieldSelectionMerging s d = true := by
  obtain ⟨k, hk⟩ : ∃ k, Spec.mergeFuel d = k + 1 := ⟨_, rfl⟩
  rw [fieldSelectionMerging_iff hj]
  constructor
  · intro hclean t ht
    have hcb : CleanBelow s d (fullLinks d) := by
      intro a ha fa
      have hset := docSets_field ha.inDoc
      rw [← ha.next_fieldType H] at hset
      have := hclean _ hset
      rw [topHolds_flat fa] at this
      exact List.pairwise_iff_forall_sublist.2 fun {x y} hs hrn hh => this ⟨x, y, hs, hrn, hh⟩
    have hft := flatDoc_docSets hflat ht
    have := hclean t ht
    rw [topHolds_flat hft] at this
    rw [hk, fieldsInSetCanMerge_succ, collectSet_flat s d (fullLinks d) _ _ hft]
    refine allPairs_keyed _ _ fun {x y} hs hrn => ?_
    have dx := DocF.ofSet ht (hs.subset (by simp : x ∈ [x, y]))
    have dy := DocF.ofSet ht (hs.subset (by simp : y ∈ [x, y]))
    exact mergeOK_of_clean H hcb k
      ⟨⟨dx, flatDoc_docF hflat dx⟩, ⟨dy, flatDoc_docF hflat dy⟩, fun hh => this ⟨x, y, hs, hrn, hh⟩⟩
  · intro hspec t ht hth
    have hft := flatDoc_docSets hflat ht
    rw [topHolds_flat hft] at hth
    obtain ⟨a, b, hs, hrn, hh⟩ := hth
    have ha : a ∈ collectFields s.view (fullLinks d) t.parent t.sels := hs.subset (by simp)
    have hb : b ∈ collectFields s.view (fullLinks d) t.parent t.sels := hs.subset (by simp)
    have da := DocF.ofSet ht ha
    have db := DocF.ofSet ht hb
    have hdep : sdepth a.node.sel ≤ k := by
      have h1 := inDocSel_sdepth (docSels_mem_inDocSel s d _ da.inDoc)
      simp only [FInfo.sel', sdepthSel] at h1
      omega
    have hB := holds_flat H hh da db (flatDoc_docF hflat da) (flatDoc_docF hflat db) k hdep
    have := hspec t ht
    rw [hk, fieldsInSetCanMerge_succ, collectSet_flat s d (fullLinks d) _ _ hft] at this
    have e : Spec.allPairs (pairOK s d k) ((collectFields s.view (fullLinks d) t.parent t.sels).map toM) = false :=
      allPairs_keyed_false _ hs hrn (mergeOK_false_of_claim hB)
    rw [e] at this
    cases this

end


/-- **spread-free documents**: the rule reports nothing iff §5.3.2 holds -/
theorem overlap_flat_iff (s : Schema) (d : QueryDoc) (H : OvHyps s d) (hflat : Spec.allSpreadNames d = [])
    (hj : Spec.mergingJudged s d = true) (hu : Spec.fragmentNameUniqueness d = true)
    (hused : Spec.fragmentsMustBeUsed d = true) :
    validate [overlappingFieldsCanBeMerged] s d = .ok [] ↔ Spec.fieldSelectionMerging s d = true := by
  have hac : Acyclic d := acyclic_of_spec d (mergingJudged_iff.1 hj).2.1
  rw [← flat_semantic H hflat hj]
  -- no memo is consulted: silent observer calls need no invariant of the manager state
  exact silent_iff_noTop (Inv := fun _ => True) trivial
    (fun t ht st r _ hr he => ⟨overlapRun_silent_flat s.view d _ _ _ (flatDoc_docSets hflat ht) st r hr he, trivial⟩)
    H.wp hac hu hused

end Gql.Validate
