import GqlModel.Validate.Rules
import GqlProofs.Lemmas.Lists
/-
  OverlappingFieldsCanBeMerged: the order on `comparedFragmentPairs` (`pairSet`) and the measure
  that `check` decreases (`unHas`: the number of (fragment, fragment, exclusive) triples the memo
  does not answer; `unHas_add_lt`), used by the termination and cost argument of OverlapCost.

  `pairSet.Has` is asymmetric in the exclusivity flag ("not exclusive" answers are stronger), and
  `pairSet.Add` overwrites BOTH directions.  The memo is therefore monotone ("once had, always
  had") only on SYMMETRIC pair sets — which is an invariant, since `Add` is the only writer.
-/
namespace Gql.Validate
open Gql Gql.Validate.Rules

def PSym (P : Pairs) : Prop := ∀ x y : Name, P.lookup (x, y) = P.lookup (y, x)

def PLe (P Q : Pairs) : Prop := ∀ (x y : Name) (e : Bool), P.has x y e = true → Q.has x y e = true

def Adv (P Q : Pairs) : Prop := PSym Q ∧ PLe P Q

theorem PSym_nil : PSym [] := fun _ _ => rfl

theorem PLe_refl (P : Pairs) : PLe P P := fun _ _ _ h => h

theorem PLe_trans {P Q R : Pairs} (h1 : PLe P Q) (h2 : PLe Q R) : PLe P R :=
  fun x y e h => h2 x y e (h1 x y e h)

theorem Adv_refl {P : Pairs} (h : PSym P) : Adv P P := ⟨h, PLe_refl P⟩

theorem Adv_trans {P Q R : Pairs} (h1 : Adv P Q) (h2 : Adv Q R) : Adv P R :=
  ⟨h2.1, PLe_trans h1.2 h2.2⟩

theorem lookup_add (P : Pairs) (a b : Name) (e : Bool) (k : Name × Name) :
    (P.add a b e).lookup k = if k = (b, a) ∨ k = (a, b) then some e else P.lookup k := by
  unfold Pairs.add
  by_cases h1 : k = (b, a)
  · simp [h1]
  · by_cases h2 : k = (a, b)
    · subst h2
      simp [List.lookup_cons, beq_false_of_ne h1]
    · simp [List.lookup_cons, beq_false_of_ne h1, beq_false_of_ne h2, h1, h2]

theorem PSym_add {P : Pairs} (h : PSym P) (a b : Name) (e : Bool) : PSym (P.add a b e) := by
  intro x y
  have hk : ((x, y) = (b, a) ∨ (x, y) = (a, b)) ↔ ((y, x) = (b, a) ∨ (y, x) = (a, b)) := by
    simp only [Prod.mk.injEq]
    exact ⟨Or.symm ∘ Or.imp And.symm And.symm, Or.symm ∘ Or.imp And.symm And.symm⟩
  rw [lookup_add, lookup_add, h x y]
  exact ite_congr (propext hk) (fun _ => rfl) (fun _ => rfl)

theorem has_add_self (P : Pairs) (a b : Name) (e : Bool) : (P.add a b e).has a b e = true := by
  simp [Pairs.has, lookup_add]

theorem has_add {P : Pairs} {a b x y : Name} {e e' : Bool} (h : (P.add a b e).has x y e' = true) :
    P.has x y e' = true ∨ (((x = a ∧ y = b) ∨ (x = b ∧ y = a)) ∧ (e' = true ∨ e = false)) := by
  unfold Pairs.has at h ⊢
  rw [lookup_add] at h
  by_cases hk : (x, y) = (b, a) ∨ (x, y) = (a, b)
  · rw [if_pos hk] at h
    simp only [Prod.mk.injEq] at hk
    exact Or.inr ⟨hk.symm, by cases e' <;> cases e <;> simp_all⟩
  · rw [if_neg hk] at h
    exact Or.inl h

theorem PLe_add {P : Pairs} (hs : PSym P) (a b : Name) (e : Bool) (hn : P.has a b e = false) :
    PLe P (P.add a b e) := by
  intro x y e' hxy
  unfold Pairs.has at hn hxy ⊢
  rw [lookup_add]
  by_cases hk : (x, y) = (b, a) ∨ (x, y) = (a, b)
  · -- the old entry at `(x, y)` is the old entry at `(a, b)`: absent, or `true` while `e = false`
    have hold : P.lookup (x, y) = P.lookup (a, b) := by
      rcases hk with hk | hk
      · rw [hk]; exact hs b a
      · rw [hk]
    rw [hold] at hxy
    rw [if_pos hk]
    cases hl : P.lookup (a, b) with
    | none => rw [hl] at hxy; cases hxy
    | some r =>
      rw [hl] at hn hxy
      cases e <;> cases r <;> cases e' <;> simp_all
  · rw [if_neg hk]
    exact hxy

theorem Adv_add {P : Pairs} (hs : PSym P) (a b : Name) (e : Bool) (hn : P.has a b e = false) :
    Adv P (P.add a b e) := ⟨PSym_add hs a b e, PLe_add hs a b e hn⟩

def allTriples {α : Type} (ns : List α) : List (α × α × Bool) :=
  ns.flatMap fun x => ns.flatMap fun y => [(x, y, false), (x, y, true)]

theorem mem_flagTriples {α β : Type} {xs : List α} {ys : List β} {x : α} {y : β} (e : Bool) (hx : x ∈ xs) (hy : y ∈ ys) :
    (x, y, e) ∈ xs.flatMap fun x => ys.flatMap fun y => [(x, y, false), (x, y, true)] := by
  simp only [List.mem_flatMap]
  refine ⟨x, hx, y, hy, ?_⟩
  cases e <;> simp

theorem length_flatMap_const {α β : Type} (f : α → List β) (c : Nat) (h : ∀ a, (f a).length = c) :
    ∀ l : List α, (l.flatMap f).length = l.length * c
  | [] => by simp
  | a :: l => by
    simp only [List.flatMap_cons, List.length_append, List.length_cons, h a, length_flatMap_const f c h l]
    rw [Nat.add_mul, Nat.one_mul, Nat.add_comm]

theorem length_flagTriples {α β : Type} (xs : List α) (ys : List β) :
    (xs.flatMap fun x => ys.flatMap fun y => [(x, y, false), (x, y, true)]).length = 2 * xs.length * ys.length := by
  rw [length_flatMap_const _ (ys.length * 2) fun _ => length_flatMap_const _ 2 (fun _ => rfl) ys,
    Nat.mul_comm 2, Nat.mul_assoc, Nat.mul_comm 2]

def fragNames (d : QueryDoc) : List Name := d.frags.map (·.name)

def unHas (d : QueryDoc) (P : Pairs) : Nat :=
  ((allTriples (fragNames d)).filter fun t => !P.has t.1 t.2.1 t.2.2).length

theorem unHas_le_max (d : QueryDoc) (P : Pairs) : unHas d P ≤ 2 * d.frags.length * d.frags.length := by
  unfold unHas
  have h := List.length_filter_le (fun t : Name × Name × Bool => !P.has t.1 t.2.1 t.2.2) (allTriples (fragNames d))
  rw [show (allTriples (fragNames d)).length = _ from length_flagTriples _ _] at h
  simpa [fragNames] using h

theorem PLe.not_has {P Q : Pairs} (h : PLe P Q) {x y : Name} {e : Bool} (hq : (!Q.has x y e) = true) :
    (!P.has x y e) = true := by
  cases hp : P.has x y e with
  | false => rfl
  | true => rw [h _ _ _ hp] at hq; cases hq

theorem unHas_mono (d : QueryDoc) {P Q : Pairs} (h : PLe P Q) : unHas d Q ≤ unHas d P :=
  filter_length_le_of_imp _ _ (fun _ ht => h.not_has ht) _

/-- an `Add` of two fragment names that were not had strictly decreases the measure — also
    through anything that happens afterwards -/
theorem unHas_add_lt (d : QueryDoc) {P Q : Pairs} (hs : PSym P) {a b : Name} (e : Bool)
    (ha : a ∈ fragNames d) (hb : b ∈ fragNames d) (hn : P.has a b e = false)
    (hq : PLe (P.add a b e) Q) : unHas d Q + 1 ≤ unHas d P := by
  refine filter_length_lt_of_imp _ _ (fun _ ht => (PLe_trans (PLe_add hs a b e hn) hq).not_has ht) (a, b, e) ?_ ?_ _
    (mem_flagTriples e ha hb)
  · simp [hn]
  · simp [hq _ _ _ (has_add_self P a b e)]

end Gql.Validate
