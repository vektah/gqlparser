import GqlModel.Validate.Rules
/-
  OverlappingFieldsCanBeMerged: the loops of the rule model over `findConflict` are `stLoop`s
  (`pairRow_eq`, `pairGrid_eq`, `between_eq`, `within_eq`), so a property of all of them is proved
  once, for `stLoop`; the functions that run several collectors in a row are `seqC`/`seqC3` of them
  (`subSets_eq`, `withinLoop_cons`, `within_top_eq`), so each walk over the model has one rule for
  a sequence and one for a loop (`StepAll`: every reported conflict satisfies `Q`; `StepLoud`: a run
  that reports something establishes `Q`); and the branches of the two memoised comparisons.
-/
namespace Gql.Validate
open Gql Gql.Validate.Rules

def seqC (f g : OSt → Option (OSt × List Conflict)) (st : OSt) : Option (OSt × List Conflict) :=
  match f st with
  | none => none
  | some (st1, cs1) =>
    match g st1 with
    | none => none
    | some (st2, cs2) => some (st2, cs1 ++ cs2)

theorem seqC_some {f g : OSt → Option (OSt × List Conflict)} {st : OSt} {r : OSt × List Conflict} :
    seqC f g st = some r ↔
      ∃ st1 cs1 st2 cs2, f st = some (st1, cs1) ∧ g st1 = some (st2, cs2) ∧ r = (st2, cs1 ++ cs2) := by
  unfold seqC
  constructor
  · intro h
    split at h
    · cases h
    · rename_i st1 cs1 h1
      split at h
      · cases h
      · rename_i st2 cs2 h2
        injection h with h
        exact ⟨st1, cs1, st2, cs2, h1, h2, h.symm⟩
  · rintro ⟨st1, cs1, st2, cs2, h1, h2, rfl⟩
    simp only [h1, h2]

/-- three in a row, as the model writes it -/
def seqC3 (f g h : OSt → Option (OSt × List Conflict)) (st : OSt) : Option (OSt × List Conflict) :=
  match f st with
  | none => none
  | some (st1, cs1) =>
    match g st1 with
    | none => none
    | some (st2, cs2) =>
      match h st2 with
      | none => none
      | some (st3, cs3) => some (st3, cs1 ++ cs2 ++ cs3)

theorem seqC3_eq (f g h : OSt → Option (OSt × List Conflict)) : seqC3 f g h = seqC (seqC f g) h := by
  funext st
  unfold seqC3 seqC
  cases f st with
  | none => rfl
  | some r1 =>
    obtain ⟨st1, cs1⟩ := r1
    dsimp only
    cases g st1 with
    | none => rfl
    | some r2 =>
      obtain ⟨st2, cs2⟩ := r2
      rfl

theorem seq2_congr {f f' g g' : OSt → Option (OSt × List Conflict)} (hf : ∀ st, f st = f' st) (hg : ∀ st, g st = g' st)
    (st : OSt) : seqC f g st = seqC f' g' st := by
  simp only [seqC, hf, hg]

theorem seq3_congr {f f' g g' h h' : OSt → Option (OSt × List Conflict)} (hf : ∀ st, f st = f' st)
    (hg : ∀ st, g st = g' st) (hh : ∀ st, h st = h' st) (st : OSt) : seqC3 f g h st = seqC3 f' g' h' st := by
  simp only [seqC3, hf, hg, hh]

/-- four in a row, as `findConflictsBetweenSubSelectionSets` writes it -/
theorem seq4_eq (f g h k : OSt → Option (OSt × List Conflict)) (st : OSt) :
    (match f st with
      | none => none
      | some (st1, cs1) =>
        match g st1 with
        | none => none
        | some (st2, cs2) =>
          match h st2 with
          | none => none
          | some (st3, cs3) =>
            match k st3 with
            | none => none
            | some (st4, cs4) => some (st4, cs1 ++ cs2 ++ cs3 ++ cs4)) = seqC (seqC3 f g h) k st := by
  unfold seqC seqC3
  cases f st with
  | none => rfl
  | some r1 =>
    obtain ⟨st1, cs1⟩ := r1
    dsimp only
    cases g st1 with
    | none => rfl
    | some r2 =>
      obtain ⟨st2, cs2⟩ := r2
      dsimp only
      cases h st2 with
      | none => rfl
      | some r3 =>
        obtain ⟨st3, cs3⟩ := r3
        rfl

theorem stLoop_cons {α : Type} (step : α → OSt → Option (OSt × List Conflict)) (x : α) (rest : List α) :
    stLoop step (x :: rest) = seqC (step x) (stLoop step rest) := rfl

theorem pairTriangle_cons (fc : FC) (fa : FInfo) (rest : List FInfo) :
    pairTriangle fc (fa :: rest) = seqC (pairRow fc false fa rest) (pairTriangle fc rest) := rfl

/-- fields and spreads of `field.SelectionSet`, as `findConflictsBetweenSubSelectionSets` collects them -/
abbrev Rules.Env.subOf (env : Env) (a : FInfo) : FM × List SpreadNode :=
  getFieldsAndFragmentNames env.s env.l (a.next env.s) a.node.sel

/-- (H), (I) twice, (J) -/
theorem subSets_eq (env : Env) (fc : FC) (excl : Bool) (a b : FInfo) :
    findConflictsBetweenSubSelectionSets env fc excl a b =
      seqC
        (seqC3 (collectConflictsBetween fc excl (env.subOf b).1.map (env.subOf a).1.map)
          (stLoop (fieldsAndFragment env fc excl (env.subOf a).1) (env.subOf b).2)
          (stLoop (fieldsAndFragment env fc excl (env.subOf b).1) (env.subOf a).2))
        (stLoop (fun sa => stLoop (collectConflictsBetweenFragments env fc excl sa) (env.subOf b).2) (env.subOf a).2) :=
  funext fun st => seq4_eq _ _ _ _ st

/-- (B) for the first spread, (C) for it against the later ones, then the later ones -/
theorem withinLoop_cons (env : Env) (fc : FC) (A : FM) (sa : SpreadNode) (rest : List SpreadNode) :
    withinLoop env fc A (sa :: rest) =
      seqC3 (fieldsAndFragment env fc false A sa) (stLoop (collectConflictsBetweenFragments env fc false sa) rest)
        (withinLoop env fc A rest) := rfl

/-- (A), then (B)/(C), from an empty memo of (selection set, fragment) comparisons -/
theorem within_top_eq (env : Env) (fc : FC) (parent : Option Definition) (sels : Selections) (st0 : OSt) :
    findConflictsWithinSelectionSet env fc parent sels st0 =
      if selsEmpty sels then some (st0, [])
      else seqC (collectConflictsWithin fc (getFieldsAndFragmentNames env.s env.l parent sels).1.map)
        (withinLoop env fc (getFieldsAndFragmentNames env.s env.l parent sels).1
          (getFieldsAndFragmentNames env.s env.l parent sels).2) { st0 with seen := [] } := rfl

theorem stLoop_congr {α : Type} {f g : α → OSt → Option (OSt × List Conflict)} :
    ∀ (xs : List α), (∀ x ∈ xs, ∀ st, f x st = g x st) → ∀ st, stLoop f xs st = stLoop g xs st
  | [], _, _ => rfl
  | x :: rest, h, st => by
    have ih := stLoop_congr rest fun y hy => h y (List.mem_cons_of_mem _ hy)
    simp only [stLoop_cons, seqC, h x (List.mem_cons_self ..), ih]

def StepAll (Q : Conflict → Prop) (step : OSt → Option (OSt × List Conflict)) : Prop :=
  ∀ st r, step st = some r → ∀ c ∈ r.2, Q c

section
variable {Q : Conflict → Prop} {f g h : OSt → Option (OSt × List Conflict)}

theorem StepAll.ret : StepAll Q fun st => some (st, []) := by
  intro st r hr c hc
  injection hr with hr
  subst hr
  cases hc

theorem StepAll.seq (hf : StepAll Q f) (hg : StepAll Q g) : StepAll Q (seqC f g) := by
  intro st r hr c hc
  obtain ⟨st1, c1, st2, c2, h1, h2, rfl⟩ := seqC_some.1 hr
  rcases List.mem_append.1 hc with hc | hc
  · exact hf st _ h1 c hc
  · exact hg st1 _ h2 c hc

theorem StepAll.seq3 (hf : StepAll Q f) (hg : StepAll Q g) (hh : StepAll Q h) : StepAll Q (seqC3 f g h) :=
  seqC3_eq f g h ▸ (hf.seq hg).seq hh

theorem StepAll.loop {α : Type} {step : α → OSt → Option (OSt × List Conflict)} :
    ∀ {xs : List α}, (∀ x ∈ xs, StepAll Q (step x)) → StepAll Q (stLoop step xs)
  | [], _ => StepAll.ret
  | x :: _, hs =>
    (hs x (List.mem_cons_self ..)).seq (StepAll.loop fun y hy => hs y (List.mem_cons_of_mem _ hy))

end

def StepLoud (step : OSt → Option (OSt × List Conflict)) (Q : Prop) : Prop :=
  ∀ st r, step st = some r → r.2 ≠ [] → Q

section
variable {f g h : OSt → Option (OSt × List Conflict)} {Q Q' Q'' : Prop}

theorem StepLoud.imp (hf : StepLoud f Q) (hQ : Q → Q') : StepLoud f Q' := fun st r hr hne => hQ (hf st r hr hne)

theorem StepLoud.ret : StepLoud (fun st => some (st, [])) Q := by
  intro st r hr hne
  injection hr with hr
  subst hr
  exact absurd rfl hne

theorem StepLoud.seq (hf : StepLoud f Q) (hg : StepLoud g Q') : StepLoud (seqC f g) (Q ∨ Q') := by
  intro st r hr hne
  obtain ⟨st1, c1, st2, c2, h1, h2, rfl⟩ := seqC_some.1 hr
  by_cases hc : c1 = []
  · subst hc
    exact Or.inr (hg st1 _ h2 hne)
  · exact Or.inl (hf st _ h1 hc)

theorem StepLoud.seq3 (hf : StepLoud f Q) (hg : StepLoud g Q') (hh : StepLoud h Q'') :
    StepLoud (seqC3 f g h) ((Q ∨ Q') ∨ Q'') :=
  seqC3_eq f g h ▸ (hf.seq hg).seq hh

theorem StepLoud.loop {α : Type} {step : α → OSt → Option (OSt × List Conflict)} {P : α → Prop} :
    ∀ {xs : List α}, (∀ x ∈ xs, StepLoud (step x) (P x)) → StepLoud (stLoop step xs) (∃ x ∈ xs, P x)
  | [], _ => StepLoud.ret
  | x :: rest, hs =>
    ((hs x (List.mem_cons_self ..)).seq (StepLoud.loop fun y hy => hs y (List.mem_cons_of_mem _ hy))).imp fun hx => by
      rcases hx with hx | ⟨y, hy, hx⟩
      · exact ⟨x, List.mem_cons_self .., hx⟩
      · exact ⟨y, List.mem_cons_of_mem _ hy, hx⟩

end

/-- `findConflict` as a loop step -/
def fcStep (fc : FC) (excl : Bool) (fa fb : FInfo) (st : OSt) : Option (OSt × List Conflict) :=
  match fc excl fa fb st with
  | none => none
  | some (st1, c) => some (st1, optToList c)

theorem pairRow_eq (fc : FC) (excl : Bool) (fa : FInfo) (fbs : List FInfo) :
    pairRow fc excl fa fbs = stLoop (fcStep fc excl fa) fbs := by
  funext st
  induction fbs generalizing st with
  | nil => rfl
  | cons fb rest ih =>
    simp only [pairRow, stLoop, fcStep]
    cases fc excl fa fb st with
    | none => rfl
    | some r1 => simp only [ih]

theorem pairGrid_eq (fc : FC) (excl : Bool) (fsB fsA : List FInfo) :
    pairGrid fc excl fsB fsA = stLoop (fun fa => stLoop (fcStep fc excl fa) fsB) fsA := by
  funext st
  induction fsA generalizing st with
  | nil => rfl
  | cons fa rest ih =>
    simp only [pairGrid, stLoop, pairRow_eq]
    cases stLoop (fcStep fc excl fa) fsB st with
    | none => rfl
    | some r1 => simp only [ih]

/-- one iteration of the outer loop of the Go `collectConflictsBetween`: the entry `e` of its
    parameter `fieldsMapA` (here `A`) against `fieldsMapB` (here `B`) -/
def betweenStep (fc : FC) (excl : Bool) (B : FMap) (e : Name × List FInfo) (st : OSt) : Option (OSt × List Conflict) :=
  match fmGet B e.1 with
  | none => some (st, [])
  | some fsB => stLoop (fun fa => stLoop (fcStep fc excl fa) fsB) e.2 st

theorem between_eq (fc : FC) (excl : Bool) (B A : FMap) :
    collectConflictsBetween fc excl B A = stLoop (betweenStep fc excl B) A := by
  funext st
  induction A generalizing st with
  | nil => rfl
  | cons e rest ih =>
    unfold collectConflictsBetween
    simp only [stLoop, betweenStep]
    cases fmGet B e.1 with
    | none =>
      simp only [ih]
      cases stLoop (betweenStep fc excl B) rest st with
      | none => rfl
      | some r => simp
    | some fsB =>
      simp only [pairGrid_eq]
      cases stLoop (fun fa => stLoop (fcStep fc excl fa) fsB) e.2 st with
      | none => rfl
      | some r1 => simp only [ih]

theorem within_eq (fc : FC) (A : FMap) : collectConflictsWithin fc A = stLoop (fun e => pairTriangle fc e.2) A := by
  funext st
  induction A generalizing st with
  | nil => rfl
  | cons e rest ih =>
    simp only [collectConflictsWithin, stLoop]
    cases pairTriangle fc e.2 st with
    | none => rfl
    | some r1 => simp only [ih]

theorem chain_succ_some {env : Env} {fc : FC} {excl : Bool} {A : FM} {n : Nat} {sp : SpreadNode} {st0 : OSt}
    {r : OSt × List Conflict} (h : chain env fc excl A (n + 1) sp st0 = some r) :
    (st0.seen.contains (A.first, sp.name, excl) = true ∧ r = (st0.tick, [])) ∨
    (st0.seen.contains (A.first, sp.name, excl) = false ∧
      ((env.l.spreadDef env.d sp.name sp.pos = none ∧
          r = ({ st0.tick with seen := (A.first, sp.name, excl) :: st0.seen }, [])) ∨
        ∃ F, env.l.spreadDef env.d sp.name sp.pos = some F ∧
          ((A.first = (env.fragFields F).1.first ∧
              r = ({ st0.tick with seen := (A.first, sp.name, excl) :: st0.seen }, [])) ∨
            (A.first ≠ (env.fragFields F).1.first ∧
              seqC (collectConflictsBetween fc excl (env.fragFields F).1.map A.map)
                (stLoop (chain env fc excl A n) ((env.fragFields F).2.filter fun x => x.name != sp.name))
                { st0.tick with seen := (A.first, sp.name, excl) :: st0.seen } = some r)))) := by
  unfold chain at h
  simp only at h
  split at h
  · rename_i hc
    exact Or.inl ⟨hc, (Option.some.inj h).symm⟩
  · rename_i hc
    refine Or.inr ⟨by simpa [OSt.tick] using hc, ?_⟩
    cases hs : env.l.spreadDef env.d sp.name sp.pos with
    | none =>
      rw [hs] at h
      exact Or.inl ⟨rfl, (Option.some.inj h).symm⟩
    | some F =>
      rw [hs] at h
      refine Or.inr ⟨F, rfl, ?_⟩
      simp only at h
      split at h
      · rename_i he
        exact Or.inl ⟨by simpa using he, (Option.some.inj h).symm⟩
      · rename_i he
        exact Or.inr ⟨by simpa using he, h⟩

theorem check_succ_some {env : Env} {fc : FC} {excl : Bool} {n : Nat} {a b : SpreadNode} {st0 : OSt}
    {r : OSt × List Conflict} (h : check env fc excl (n + 1) a b st0 = some r) :
    ((a.name = b.name ∨ st0.pairs.has a.name b.name excl = true) ∧ r = (st0.tick, [])) ∨
    (a.name ≠ b.name ∧ st0.pairs.has a.name b.name excl = false ∧
      (((∀ A B, env.l.spreadDef env.d a.name a.pos = some A → env.l.spreadDef env.d b.name b.pos = some B → False) ∧
          r = ({ st0.tick with pairs := st0.pairs.add a.name b.name excl }, [])) ∨
        ∃ A B, env.l.spreadDef env.d a.name a.pos = some A ∧ env.l.spreadDef env.d b.name b.pos = some B ∧
          seqC3 (collectConflictsBetween fc excl (env.fragFields B).1.map (env.fragFields A).1.map)
            (stLoop (fun x => check env fc excl n a x) (env.fragFields B).2)
            (stLoop (fun x => check env fc excl n x b) (env.fragFields A).2)
            { st0.tick with pairs := st0.pairs.add a.name b.name excl } = some r)) := by
  unfold check at h
  simp only at h
  split at h
  · rename_i hn
    exact Or.inl ⟨Or.inl (by simpa using hn), (Option.some.inj h).symm⟩
  · rename_i hn
    split at h
    · rename_i hh
      exact Or.inl ⟨Or.inr hh, (Option.some.inj h).symm⟩
    · rename_i hh
      refine Or.inr ⟨by simpa using hn, by simpa [OSt.tick] using hh, ?_⟩
      split at h
      · rename_i A B hA hB
        exact Or.inr ⟨A, B, hA, hB, h⟩
      · rename_i hno
        exact Or.inl ⟨fun A B hA hB => hno A B hA hB, (Option.some.inj h).symm⟩

end Gql.Validate
