import GqlProofs.Validate.OverlapDocF
import GqlProofs.Validate.OverlapHolds
/-
  OverlappingFieldsCanBeMerged vs. §5.3.2 on selection sets without fragment spreads: the
  memo-free judgments `Holds` against `Spec.sameResponseShape` / `Spec.fieldsInSetCanMerge`.
-/
namespace Gql.Validate
open Gql Gql.Validate.Rules

/-- the environment of an observer call -/
abbrev envOf (s : Schema) (d : QueryDoc) (l : Links) : Env := overlapEnv s.view d l

def FlatBelow (a : FInfo) : Prop := Spec.spreadsOfSels a.node.sel = []

def shapeOK (s : Schema) (d : QueryDoc) (n : Nat) (x y : Spec.MField) : Bool :=
  x.key != y.key || Spec.sameResponseShape s d n x y

def mayOverlap (x y : Spec.MField) : Bool :=
  match x.parent, y.parent with
  | some pa, some pb => pa.name == pb.name || !Spec.isObject pa || !Spec.isObject pb
  | _, _ => true

def mergePart (s : Schema) (d : QueryDoc) (n : Nat) (x y : Spec.MField) : Bool :=
  if mayOverlap x y then
    x.name == y.name && Spec.sameArguments x.args y.args && Spec.fieldsInSetCanMerge s d n (Spec.mergedSet s d x y)
  else true

def pairOK (s : Schema) (d : QueryDoc) (n : Nat) (x y : Spec.MField) : Bool :=
  x.key != y.key || (Spec.sameResponseShape s d (n + 1) x y && mergePart s d n x y)

theorem fieldsInSetCanMerge_succ (s : Schema) (d : QueryDoc) (n : Nat) (L : List Spec.MField) :
    Spec.fieldsInSetCanMerge s d (n + 1) L = Spec.allPairs (pairOK s d n) L := rfl

theorem mergingJudged_iff {s : Schema} {d : QueryDoc} : Spec.mergingJudged s d = true ↔
    Spec.fragmentSpreadTargetDefined d = true ∧ Spec.noFragmentCycles d = true ∧
      Spec.fragmentSpreadTypeExistence s d = true ∧ Spec.fragmentsOnCompositeTypes s d = true ∧
      Spec.fieldSelections s d = true ∧ Spec.knownRootType s d = true := by
  simp only [Spec.mergingJudged, Spec.knownRootType, Bool.and_eq_true, and_assoc]

theorem fieldSelectionMerging_iff {s : Schema} {d : QueryDoc} (hj : Spec.mergingJudged s d = true) :
    Spec.fieldSelectionMerging s d = true ↔ ∀ t ∈ Spec.docSets s d,
      Spec.fieldsInSetCanMerge s d (Spec.mergeFuel d) (Spec.collectSet s d t.parent t.sels) = true := by
  unfold Spec.fieldSelectionMerging
  rw [hj]
  simp only [Bool.not_true, Bool.false_or, List.all_eq_true]

theorem shape_succ (s : Schema) (d : QueryDoc) (n : Nat) (x y : Spec.MField) {fa fb : FieldDef}
    (h1 : x.fdef = some fa) (h2 : y.fdef = some fb) :
    Spec.sameResponseShape s d (n + 1) x y =
      (Spec.sameWrappers (specNamed s) fa.type fb.type &&
        (match s.type? fa.type.name, s.type? fb.type.name with
         | some dx, some dy =>
           if Spec.isLeaf dx || Spec.isLeaf dy then true
           else Spec.allPairs (shapeOK s d n) (Spec.mergedSet s d x y)
         | _, _ => true)) := by
  simp only [Spec.sameResponseShape, h1, h2]
  rfl

section
variable {s : Schema} {d : QueryDoc} {l : Links} (H : OvHyps s d)
include H

/-- the merged set of two document fields: the second collection starts where the first ended -/
theorem mergedSet_eq {a b : FInfo} (ha : DocF s d l a) (hb : DocF s d l b) :
    Spec.mergedSet s d (toM a) (toM b) =
      (Spec.collectLevel s d (d.frags.length + 1) (a.next s.view) a.node.sel []).1 ++
        (Spec.collectLevel s d (d.frags.length + 1) (b.next s.view) b.node.sel
          (Spec.collectLevel s d (d.frags.length + 1) (a.next s.view) a.node.sel []).2).1 := by
  unfold Spec.mergedSet
  simp only
  rw [← ha.next_eq H, ← hb.next_eq H]
  rfl

theorem mergedSet_flat {a b : FInfo} (ha : DocF s d l a) (hb : DocF s d l b) (fa : FlatBelow a) (fb : FlatBelow b) :
    Spec.mergedSet s d (toM a) (toM b) = (subFields (envOf s d l) a ++ subFields (envOf s d l) b).map toM := by
  rw [mergedSet_eq H ha hb, collectLevel_flat s d l _ _ _ _ fa]
  simp only
  rw [collectLevel_flat s d l _ _ _ _ fb, List.map_append]
  rfl

theorem goExcl_mayOverlap {a b : FInfo} (ha : DocF s d l a) (hb : DocF s d l b) :
    goExcl a b = !mayOverlap (toM a) (toM b) := by
  obtain ⟨pa, hpa⟩ := ha.parent_some H
  obtain ⟨pb, hpb⟩ := hb.parent_some H
  obtain ⟨da, hda⟩ := ha.fdef_some H
  obtain ⟨db, hdb⟩ := hb.fdef_some H
  have h1 : a.dfn.isSome = true := by rw [ha.dfn_eq H, hda]; rfl
  have h2 : b.dfn.isSome = true := by rw [hb.dfn_eq H, hdb]; rfl
  simp only [goExcl, ha.obj_eq, hb.obj_eq, hpa, hpb, h1, h2, mayOverlap, toM, Bool.and_true, Spec.isObject]
  simp only [bne]
  generalize (pa.name == pb.name) = x
  generalize (pa.kind == DefKind.object) = y
  generalize (pb.kind == DefKind.object) = z
  cases x <;> cases y <;> cases z <;> rfl

end



/- A relation `Ok` on pairs of document fields that guarantees `findConflict`'s own three tests and
   is passed on to the equally named pairs of the merged set (in the context `findConflict` hands
   down) makes the specification's two recursive predicates true.  It is used twice: for documents
   without spreads (`FlatOk`, below) and in general (OverlapSpecTrue). -/
section
variable {s : Schema} {d : QueryDoc} {l : Links} (H : OvHyps s d)
  (Ok : Bool → FInfo → FInfo → Prop)
  (hdoc : ∀ {pe x y}, Ok pe x y → DocF s d l x ∧ DocF s d l y)
  (hloc : ∀ {pe x y}, Ok pe x y →
    (x = y ∧ sameArguments x.node.args x.node.args = true) ∨ ¬ Holds (envOf s d l) (.conf pe x y))
  (hmerged : ∀ {pe x y}, Ok pe x y → ∃ L : List FInfo, Spec.mergedSet s d (toM x) (toM y) = L.map toM ∧
    ∀ {u v}, [u, v].Sublist L → rnOf u = rnOf v → Ok (pe || goExcl x y) u v)
include H hdoc hloc hmerged

theorem shape_of_ok : ∀ (n : Nat) {pe : Bool} {x y : FInfo}, Ok pe x y →
    Spec.sameResponseShape s d n (toM x) (toM y) = true
  | 0, _, _, _, _ => rfl
  | n + 1, pe, x, y, h => by
    obtain ⟨hx, hy⟩ := hdoc h
    obtain ⟨dx, hdx⟩ := hx.fdef_some H
    obtain ⟨dy, hdy⟩ := hy.fdef_some H
    rw [shape_succ s d n _ _ hdx hdy, Bool.and_eq_true]
    constructor
    · rcases hloc h with ⟨rfl, _⟩ | hnc
      · rw [hdx] at hdy
        injection hdy with hdy
        subst hdy
        exact sameWrappers_self s _
      · cases hw : Spec.sameWrappers (specNamed s) dx.type dy.type with
        | true => rfl
        | false =>
          obtain ⟨px, hox⟩ := hx.obj_some H
          obtain ⟨py, hoy⟩ := hy.obj_some H
          refine absurd (.types hox hoy (by rw [hx.dfn_eq H, hdx]) (by rw [hy.dfn_eq H, hdy]) ?_) hnc
          show doTypesConflict s.view dx.type dy.type = true
          rw [doTypesConflict_eq s H.keys, hw]
          rfl
    · split
      · split
        · rfl
        · obtain ⟨L, hL, hp⟩ := hmerged h
          rw [hL]
          exact allPairs_keyed _ L fun hs hrn => shape_of_ok n (hp hs hrn)
      · rfl

theorem mergeOK_step (n : Nat) {x y : FInfo} (h : Ok false x y)
    (hrec : goExcl x y = false → Spec.fieldsInSetCanMerge s d n (Spec.mergedSet s d (toM x) (toM y)) = true) :
    (Spec.sameResponseShape s d (n + 1) (toM x) (toM y) && mergePart s d n (toM x) (toM y)) = true := by
  obtain ⟨hx, hy⟩ := hdoc h
  obtain ⟨px, hox⟩ := hx.obj_some H
  obtain ⟨py, hoy⟩ := hy.obj_some H
  rw [shape_of_ok H Ok hdoc hloc hmerged (n + 1) h, Bool.true_and]
  unfold mergePart
  split
  · rename_i hmo
    have hex : goExcl x y = false := by rw [goExcl_mayOverlap H hx hy, hmo]; rfl
    simp only [Bool.and_eq_true]
    refine ⟨⟨?_, ?_⟩, hrec hex⟩
    · rcases hloc h with ⟨rfl, _⟩ | hnc
      · exact beq_self_eq_true _
      · cases hn : (toM x).name == (toM y).name with
        | true => rfl
        | false => exact absurd (.names hox hoy (by simp [hex]) (by simpa [toM] using hn)) hnc
    · rw [← sameArguments_eq_spec]
      rcases hloc h with ⟨rfl, hr⟩ | hnc
      · exact hr
      · cases hn : sameArguments (toM x).args (toM y).args with
        | true => rfl
        | false => exact absurd (.args hox hoy (by simp [hex]) hn) hnc
  · rfl

theorem mergeOK_of_ok : ∀ (n : Nat) {x y : FInfo}, Ok false x y →
    (Spec.sameResponseShape s d (n + 1) (toM x) (toM y) && mergePart s d n (toM x) (toM y)) = true
  | 0, _, _, h => mergeOK_step H Ok hdoc hloc hmerged 0 h fun _ => rfl
  | m + 1, x, y, h => by
    refine mergeOK_step H Ok hdoc hloc hmerged (m + 1) h fun hex => ?_
    obtain ⟨L, hL, hp⟩ := hmerged h
    rw [fieldsInSetCanMerge_succ, hL]
    exact allPairs_keyed _ L fun hs hrn => mergeOK_of_ok m (hex ▸ hp hs hrn)

end

def CleanBelow (s : Schema) (d : QueryDoc) (l : Links) : Prop :=
  ∀ a, DocF s d l a → FlatBelow a →
    (subFields (envOf s d l) a).Pairwise fun x y => rnOf x = rnOf y → ¬ Holds (envOf s d l) (.conf false x y)

theorem flatBelow_sub {s : Schema} {d : QueryDoc} {l : Links} {a a' : FInfo} (fa : FlatBelow a)
    (h : a' ∈ subFields (envOf s d l) a) : FlatBelow a' := flat_sub h fa

def FlatOk (s : Schema) (d : QueryDoc) (l : Links) (pe : Bool) (a b : FInfo) : Prop :=
  (DocF s d l a ∧ FlatBelow a) ∧ (DocF s d l b ∧ FlatBelow b) ∧ ¬ Holds (envOf s d l) (.conf pe a b)

section
variable {s : Schema} {d : QueryDoc} {l : Links} (H : OvHyps s d) (hclean : CleanBelow s d l)
include H hclean

theorem flatOk_merged {pe : Bool} {a b : FInfo} (h : FlatOk s d l pe a b) {u v : FInfo}
    (hs : [u, v].Sublist (subFields (envOf s d l) a ++ subFields (envOf s d l) b)) (hrn : rnOf u = rnOf v) :
    FlatOk s d l (pe || goExcl a b) u v := by
  obtain ⟨⟨ha, fa⟩, ⟨hb, fb⟩, hnc⟩ := h
  have sub : ∀ {c w : FInfo}, DocF s d l c → FlatBelow c → w ∈ subFields (envOf s d l) c → DocF s d l w ∧ FlatBelow w :=
    fun hc fc hw => ⟨hc.sub H hw, flatBelow_sub fc hw⟩
  have within : ∀ {c : FInfo}, DocF s d l c → FlatBelow c → [u, v].Sublist (subFields (envOf s d l) c) →
      FlatOk s d l (pe || goExcl a b) u v := fun hc fc hs =>
    ⟨sub hc fc (hs.subset (by simp)), sub hc fc (hs.subset (by simp)),
      fun hh => List.pairwise_iff_forall_sublist.1 (hclean _ hc fc) hs hrn (holds_unflag hh)⟩
  rcases sublist_pair_append hs with h | ⟨hu, hv⟩ | h
  · exact within ha fa h
  · obtain ⟨pa, hoa⟩ := ha.obj_some H
    obtain ⟨pb, hob⟩ := hb.obj_some H
    exact ⟨sub ha fa hu, sub hb fb hv, fun hc => hnc (.sub hoa hob (.subFields hu hv hrn hc))⟩
  · exact within hb fb h

theorem mergeOK_of_clean (n : Nat) {a b : FInfo} (h : FlatOk s d l false a b) :
    (Spec.sameResponseShape s d (n + 1) (toM a) (toM b) && mergePart s d n (toM a) (toM b)) = true :=
  mergeOK_of_ok H (FlatOk s d l) (fun h => ⟨h.1.1, h.2.1.1⟩) (fun h => Or.inr h.2.2)
    (fun h => ⟨_, mergedSet_flat H h.1.1 h.2.1.1 h.1.2 h.2.1.2, flatOk_merged H hclean h⟩) n h

end



theorem typedSels_head (s : Schema) (p : Option Definition) : ∀ (sels : Selections), sels ≠ .nil →
    ∃ t ∈ Spec.typedSels s p sels, t.parent = p
  | .nil, h => absurd rfl h
  | .cons x rest, _ => ⟨⟨p, x⟩, by
      simp only [Spec.typedSels, List.mem_append]
      exact Or.inl (typedSel_head s p x), rfl⟩

theorem DocF.next_some {s : Schema} {d : QueryDoc} {l : Links} (H : OvHyps s d) {a : FInfo} (ha : DocF s d l a)
    (hne : a.node.sel ≠ .nil) : ∃ q, a.next s.view = some q := by
  obtain ⟨t, ht, hp⟩ := typedSels_head s (a.next s.view) a.node.sel hne
  have := H.parents t (ha.below_inDoc H ht)
  rw [hp] at this
  cases hq : a.next s.view with
  | none => rw [hq] at this; cases this
  | some q => exact ⟨q, rfl⟩

theorem subFields_ne_nil {env : Env} {a a' : FInfo} (h : a' ∈ subFields env a) : a.node.sel ≠ .nil := by
  intro e
  simp only [subFields, e, collectFields] at h
  cases h

/-- the pair fails §5.3.2 at depth `n`: in its response shape, or (parents not known to be exclusive)
    in the part of `pairOK` that `FieldsInSetCanMerge` adds -/
def ClaimPair (s : Schema) (d : QueryDoc) (n : Nat) (pe : Bool) (a b : FInfo) : Prop :=
  Spec.sameResponseShape s d (n + 1) (toM a) (toM b) = false ∨ (pe = false ∧ mergePart s d n (toM a) (toM b) = false)

theorem mergeOK_false_of_claim {s : Schema} {d : QueryDoc} {n : Nat} {pe : Bool} {a b : FInfo}
    (h : ClaimPair s d n pe a b) :
    (Spec.sameResponseShape s d (n + 1) (toM a) (toM b) && mergePart s d n (toM a) (toM b)) = false := by
  rcases h with h1 | ⟨_, h2⟩
  · rw [h1]; rfl
  · rw [h2]; simp

section
variable {s : Schema} {d : QueryDoc} {l : Links} (H : OvHyps s d) {pe : Bool} {a b : FInfo}
  (ha : DocF s d l a) (hb : DocF s d l b)
include H ha hb

theorem claim_merge (hex : (pe || goExcl a b) = false) {n : Nat}
    (h : ((toM a).name == (toM b).name && Spec.sameArguments (toM a).args (toM b).args &&
      Spec.fieldsInSetCanMerge s d n (Spec.mergedSet s d (toM a) (toM b))) = false) : ClaimPair s d n pe a b := by
  simp only [Bool.or_eq_false_iff] at hex
  have hmo : mayOverlap (toM a) (toM b) = true := by
    have := hex.2
    rw [goExcl_mayOverlap H ha hb] at this
    simpa using this
  refine Or.inr ⟨hex.1, ?_⟩
  unfold mergePart
  rw [if_pos hmo]
  exact h

theorem claim_names (hex : (pe || goExcl a b) = false) (hne : a.node.name ≠ b.node.name) (n : Nat) :
    ClaimPair s d n pe a b := by
  have : (a.node.name == b.node.name) = false := by simpa using hne
  exact claim_merge H ha hb hex (by simp [toM, this])

theorem claim_args (hex : (pe || goExcl a b) = false) (hargs : sameArguments a.node.args b.node.args = false) (n : Nat) :
    ClaimPair s d n pe a b := by
  rw [sameArguments_eq_spec] at hargs
  exact claim_merge H ha hb hex (by simp [toM, hargs])

theorem claim_types {da db : FieldDef} (hda : a.dfn = some da) (hdb : b.dfn = some db)
    (hconf : doTypesConflict s.view da.type db.type = true) (n : Nat) : ClaimPair s d n pe a b := by
  rw [ha.dfn_eq H] at hda
  rw [hb.dfn_eq H] at hdb
  rw [doTypesConflict_eq s H.keys] at hconf
  have hw : Spec.sameWrappers (specNamed s) da.type db.type = false := by simpa using hconf
  refine Or.inl ?_
  rw [shape_succ s d n _ _ hda hdb, hw]
  rfl

theorem claim_step (hnea : a.node.sel ≠ .nil) (hneb : b.node.sel ≠ .nil) {L : List FInfo}
    (hL : Spec.mergedSet s d (toM a) (toM b) = L.map toM) {u v : FInfo} (hs : [u, v].Sublist L) (hrn : rnOf u = rnOf v)
    {m : Nat} (hc : ClaimPair s d m (pe || goExcl a b) u v) : ClaimPair s d (m + 1) pe a b := by
  obtain ⟨da, hda⟩ := ha.fdef_some H
  obtain ⟨db, hdb⟩ := hb.fdef_some H
  obtain ⟨qa, hqa⟩ := ha.next_some H hnea
  obtain ⟨qb, hqb⟩ := hb.next_some H hneb
  rw [ha.next_eq H, hda] at hqa
  rw [hb.next_eq H, hdb] at hqb
  have hqa' : s.type? da.type.name = some qa := hqa
  have hqb' : s.type? db.type.name = some qb := hqb
  -- neither type is a leaf type: the fields have sub-selections
  have hnl : (Spec.isLeaf qa || Spec.isLeaf qb) = false := by
    cases h1 : Spec.isLeaf qa with
    | true => exact absurd (ha.leaf_nil H hda hqa' h1) hnea
    | false =>
      cases h2 : Spec.isLeaf qb with
      | true => exact absurd (hb.leaf_nil H hdb hqb' h2) hneb
      | false => rfl
  rcases hc with hsh | ⟨hex, hmp⟩
  · have e : Spec.allPairs (shapeOK s d (m + 1)) (L.map toM) = false := allPairs_keyed_false _ hs hrn hsh
    refine Or.inl ?_
    rw [shape_succ s d (m + 1) _ _ hda hdb, hqa', hqb']
    simp only [hnl, Bool.false_eq_true, if_false]
    rw [hL, e]
    simp
  · have e : Spec.allPairs (pairOK s d m) (L.map toM) = false :=
      allPairs_keyed_false _ hs hrn (by rw [hmp]; simp)
    exact claim_merge H ha hb hex (by rw [fieldsInSetCanMerge_succ, hL, e]; simp)

end

/-- what a derivable judgment means for the specification (spread-free selection sets) -/
def Bmot (s : Schema) (d : QueryDoc) (l : Links) : Jg → Prop
  | .conf pe a b => DocF s d l a → DocF s d l b → FlatBelow a → FlatBelow b → ∀ n, sdepth a.node.sel ≤ n →
      ClaimPair s d n pe a b
  | .sub ex a b => DocF s d l a → DocF s d l b → FlatBelow a → FlatBelow b →
      ∃ a' ∈ subFields (envOf s d l) a, ∃ b' ∈ subFields (envOf s d l) b, rnOf a' = rnOf b' ∧
        ∀ n, sdepth a'.node.sel ≤ n → ClaimPair s d n ex a' b'
  | .chain .. => True
  | .check .. => True

theorem holds_flat {s : Schema} {d : QueryDoc} {l : Links} (H : OvHyps s d) {j : Jg} (h : Holds (envOf s d l) j) :
    Bmot s d l j := by
  induction h with
  | names _ _ hex hne => exact fun ha hb _ _ n _ => claim_names H ha hb hex hne n
  | args _ _ hex hargs => exact fun ha hb _ _ n _ => claim_args H ha hb hex hargs n
  | types _ _ hda hdb hconf => exact fun ha hb _ _ n _ => claim_types H ha hb hda hdb hconf n
  | sub _ _ _ ih =>
    intro ha hb fa fb n hn
    obtain ⟨a', ha', b', hb', hrn, hcl⟩ := ih ha hb fa fb
    have hd := collectFields_sdepth _ _ _ _ a' ha'
    obtain ⟨m, rfl⟩ : ∃ m, n = m + 1 := ⟨n - 1, by omega⟩
    exact claim_step H ha hb (subFields_ne_nil ha') (subFields_ne_nil hb') (mergedSet_flat H ha hb fa fb)
      (List.Sublist.append (List.singleton_sublist.2 ha') (List.singleton_sublist.2 hb')) hrn (hcl m (by omega))
  | @subFields ex a b a' b' ha' hb' hrn hc ih =>
    intro ha hb fa fb
    exact ⟨a', ha', b', hb', hrn, fun n hn => ih (ha.sub H ha') (hb.sub H hb') (flatBelow_sub fa ha') (flatBelow_sub fb hb') n hn⟩
  | @subChainB ex a b sp hsp _ _ => exact fun _ _ _ fb => absurd hsp (not_mem_spreads_flat fb)
  | @subChainA ex a b sp hsp _ _ => exact fun _ _ fa _ => absurd hsp (not_mem_spreads_flat fa)
  | @subCheck ex a b sa sb hsa _ _ _ => exact fun _ _ fa _ => absurd hsa (not_mem_spreads_flat fa)
  | chainHere => trivial
  | chainNext => trivial
  | checkHere => trivial
  | checkRight => trivial
  | checkLeft => trivial

end Gql.Validate
