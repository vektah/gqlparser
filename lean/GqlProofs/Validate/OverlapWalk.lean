import GqlProofs.ValSpec.LeafFrag
import GqlProofs.ValSpec.ScopeComplete
import GqlProofs.ValSpec.Cycles
/-
  OverlappingFieldsCanBeMerged, the link table: in a document without fragment cycles, at the time
  of EVERY `field`, `inlineFragment`, `operation` and `fragment` event all selection nodes written
  in the selection set of the node, and in every fragment definition reachable from it, have been
  linked by the walker (`walkDoc_evLinked`).

  The walker fires the event of a node after it has walked the node's selection set, jumping into
  every fragment not yet visited in the current walk.  A fragment visited earlier is completely
  marked unless it is still "in progress" (grey: the walker is inside it); in a document without
  cycles nothing reachable from the current node is grey.
-/
namespace Gql.Validate
open Gql Gql.Validate.Rules

/-- every selection node written in `sels`, and in every fragment reachable from it, is linked -/
def LinkedAll (l : Links) (d : QueryDoc) (sels : Selections) : Prop :=
  (∀ y, InSels sels (.sel y) → l.linked (selPos y).start = true) ∧
  ∀ n g, Reach d (Spec.spreadsOfSels sels) n → fragForName d n = some g →
    ∀ y, InSels g.sel (.sel y) → l.linked (selPos y).start = true

/-- all nodes of the fragment are linked, its spread targets visited -/
def MarksAll (d : QueryDoc) (ws : WS) (f : FragmentDef) : Prop :=
  (∀ y, InSels f.sel (.sel y) → ws.links.linked (selPos y).start = true) ∧
  ∀ m ∈ Spec.spreadsOfSels f.sel, ∀ g, fragForName d m = some g → m ∈ ws.visited

/-- every visited fragment that is not grey is completely marked -/
def DoneExcept (d : QueryDoc) (G : List Name) (ws : WS) : Prop :=
  ∀ n ∈ ws.visited, n ∉ G → ∀ f, fragForName d n = some f → MarksAll d ws f

/-- nothing reachable from the names is grey -/
def NoGrey (d : QueryDoc) (G : List Name) (names : List Name) : Prop := ∀ n, Reach d names n → n ∉ G

theorem MarksAll.ext {d : QueryDoc} {ws ws' : WS} {f : FragmentDef} (h : MarksAll d ws f)
    (hm : ∀ k, ws.links.linked k = true → ws'.links.linked k = true) (hv : ws.visited ⊆ ws'.visited) :
    MarksAll d ws' f :=
  ⟨fun y hi => hm _ (h.1 y hi), fun m hmem g hg => hv (h.2 m hmem g hg)⟩

theorem FragDone.toMarksAll {s : SV} {d : QueryDoc} {cur : Option OperationDef} {r : WS × List Event} {f : FragmentDef}
    (h : FragDone s d cur r f) : MarksAll d r.1 f := by
  refine ⟨fun y hi => ?_, h.2.2⟩
  obtain ⟨p', hp'⟩ := inSels_lift s f.sel (s.type? f.typeCond) _ hi
  exact (h.1 p' _ hp').2.1

theorem DoneExcept.frame {d : QueryDoc} {G : List Name} {ws ws' : WS} (h : DoneExcept d G ws) (hv : ws'.visited = ws.visited)
    (hm : ∀ k, ws.links.linked k = true → ws'.links.linked k = true) : DoneExcept d G ws' := by
  intro n hn hg f hf
  rw [hv] at hn
  exact (h n hn hg f hf).ext hm (by rw [hv]; exact fun _ hx => hx)

theorem DoneExcept.after {s : SV} {d : QueryDoc} {cur : Option OperationDef} {names : List Name} {G : List Name}
    {nodes : Option Definition → Selection → Prop} {ws : WS} {r : WS × List Event}
    (h : DoneExcept d G ws) (hw : WalkC s d cur names nodes ws r) : DoneExcept d G r.1 := by
  intro n hn hg f hf
  by_cases hold : n ∈ ws.visited
  · exact (h n hold hg f hf).ext hw.marks hw.mono
  · obtain ⟨g, hg', hd⟩ := hw.new n hn hold
    rw [hf] at hg'
    injection hg' with hg'
    subst hg'
    exact hd.toMarksAll

theorem NoGrey.mono {d : QueryDoc} {G : List Name} {a b : List Name} (h : NoGrey d G b) (hab : ∀ x ∈ a, x ∈ b) :
    NoGrey d G a := fun n hr => h n (hr.mono hab)

section walk
variable (s : SV) (d : QueryDoc) (cur : Option OperationDef)

theorem linkedAll_after (J : Jump) (hJ : JumpC s d cur J) (sub : Selections) (parent : Option Definition) (ws : WS)
    (r : WS × List Event) (G : List Name) (hd : DoneExcept d G ws) (hg : NoGrey d G (Spec.spreadsOfSels sub))
    (h : walkSelections s d cur J parent sub ws = some r) : LinkedAll r.1.links d sub := by
  have hw := walkSelections_c s d cur J hJ sub parent ws r h
  have hd' := hd.after hw
  have key : ∀ n, Reach d (Spec.spreadsOfSels sub) n → ∀ g, fragForName d n = some g → n ∈ r.1.visited :=
    Reach.closed hw.src fun m f hm hv hf => (hd' m hv (hg m hm) f hf).2
  constructor
  · intro y hi
    obtain ⟨p', hp'⟩ := inSels_lift s sub parent _ hi
    exact (hw.nodes p' _ hp').2.1
  · intro n g hr hg' y hi
    exact (hd' n (key n hr g hg') (hg n hr) g hg').1 y hi

/-- what the rule needs at the time of an event -/
def EvLinked (e : Event) : Prop :=
  match e.p with
  | .field f _ _ => LinkedAll e.links d f.sel
  | .inlineFragment f _ => LinkedAll e.links d f.sel
  | .operation op _ => LinkedAll e.links d op.sel
  | .fragment f _ => LinkedAll e.links d f.sel
  | _ => True

def ValLike : Payload → Prop
  | .value .. => True
  | .directive .. => True
  | .directiveList .. => True
  | .variable .. => True
  | _ => False

theorem valLike_sites : ValSites s ValLike :=
  { value := fun _ _ _ => trivial, directive := fun _ _ _ => trivial, directiveList := fun _ => trivial }

theorem evLinked_of_valLike {evs : List Event} (h : AllP ValLike evs) : ∀ e ∈ evs, EvLinked d e := by
  intro e he
  have := h e he
  unfold EvLinked
  cases hp : e.p <;> simp only [hp, ValLike] at this ⊢

/-- what is shown of the walk of a selection set `xs` (of one selection: `names` are its spreads):
    whatever is grey (`G`: the fragments the walker is inside of), if nothing grey is reachable, the
    events see everything they can reach linked -/
def LkFrom (names : List Name) (ws : WS) (r : WS × List Event) : Prop :=
  ∀ G, DoneExcept d G ws → NoGrey d G names → ∀ e ∈ r.2, EvLinked d e

variable (hac : Acyclic d)
include hac

theorem walkSel_lk_cases (J : Jump) (hJ : JumpC s d cur J)
    (hJL : ∀ parent sels ws r, J parent sels ws = some r → LkFrom d (Spec.spreadsOfSels sels) ws r) :
    WalkCases s d cur J (fun _ x ws r => LkFrom d (Spec.spreadsOfSel x) ws r)
      (fun _ xs ws r => LkFrom d (Spec.spreadsOfSels xs) ws r) where
  field := fun parent al nm args dirs sub p ws r3 h3 ih G hd hg => by
    -- the walk of the sub-selection starts from a state that differs from `ws` by the mark of this node
    have key : DoneExcept d G _ → LinkedAll r3.1.links d sub ∧ ∀ e ∈ r3.2, EvLinked d e := fun hd3 =>
      ⟨linkedAll_after s d cur J hJ sub _ _ r3 G hd3 hg h3, ih G hd3 hg⟩
    obtain ⟨hlk, ih⟩ := key (hd.frame (by rw [walkDirectives_visited, walkArgs_visited, markSel_visited])
      (pre_linked ws p.start _ (by rw [walkDirectives_sels, walkArgs_sels])).2)
    simp only [List.forall_mem_append, List.forall_mem_singleton]
    exact ⟨⟨⟨evLinked_of_valLike d (walkArgs_all (valLike_sites s).value cur _ args _),
      evLinked_of_valLike d (walkDirectives_all (valLike_sites s) cur _ dirs _ _)⟩, ih⟩, hlk⟩
  inline := fun parent tc dirs sub p ws r3 h3 ih G hd hg => by
    have key : DoneExcept d G _ → LinkedAll r3.1.links d sub ∧ ∀ e ∈ r3.2, EvLinked d e := fun hd3 =>
      ⟨linkedAll_after s d cur J hJ sub _ _ r3 G hd3 hg h3, ih G hd3 hg⟩
    obtain ⟨hlk, ih⟩ := key (hd.frame (by rw [walkDirectives_visited, markSel_visited])
      (pre_linked ws p.start _ (by rw [walkDirectives_sels])).2)
    simp only [List.forall_mem_append, List.forall_mem_singleton]
    exact ⟨⟨evLinked_of_valLike d (walkDirectives_all (valLike_sites s) cur _ dirs _ _), ih⟩, hlk⟩
  spreadStop := fun parent nm dirs p ws _ G _ _ => by
    simp only [List.forall_mem_append, List.forall_mem_singleton]
    exact ⟨evLinked_of_valLike d (walkDirectives_all (valLike_sites s) cur _ dirs _ _), trivial⟩
  spreadJump := fun parent nm dirs p ws f r3 hf hv h3 G hd hg => by
    have hgj : NoGrey d (f.name :: G) (Spec.spreadsOfSels f.sel) := by
      intro n hr hmem
      have hr' : Reach d (Spec.fragSpreads d nm) n := by
        unfold Spec.fragSpreads
        rw [fragByName_eq, hf]
        exact hr
      rcases List.mem_cons.1 hmem with h | h
      · rw [h, fragForName_name hf] at hr'
        exact hac nm hr'
      · exact hg n (Reach.trans (Reach.base (by simp [Spec.spreadsOfSel])) hr') h
    -- the state in which the jump starts: `f` has become grey
    have ih : ∀ e ∈ r3.2, EvLinked d e := by
      refine hJL _ _ _ r3 h3 _ ?_ hgj
      intro n hn hng g hg'
      simp only [walkDirectives_visited, List.mem_cons] at hn
      have hn' : n ∈ ws.visited := hn.resolve_left fun e => hng (e ▸ List.mem_cons_self)
      refine (hd n hn' (fun hG => hng (List.mem_cons_of_mem _ hG)) g hg').ext (fun k hk => ?_) ?_
      · rw [linked_of_sels (walkDirectives_sels _ _ _ _ _ _)]
        exact (pre_linked ws p.start _ (walkDirectives_sels ..)).2 k hk
      · simp only [walkDirectives_visited]
        exact fun _ hx => List.mem_cons_of_mem _ hx
    simp only [List.forall_mem_append, List.forall_mem_singleton]
    exact ⟨⟨⟨evLinked_of_valLike d (walkDirectives_all (valLike_sites s) cur _ dirs _ _),
      evLinked_of_valLike d (walkDirectives_all (valLike_sites s) cur _ f.dirs _ _)⟩, ih⟩, trivial⟩
  nil := fun _ _ _ _ _ _ he => by cases he
  cons := fun parent x rest ws r1 r2 h1 h2 ih1 ih2 G hd hg =>
    List.forall_mem_append.2
      ⟨ih1 G hd (hg.mono fun _ hn => List.mem_append_left _ hn),
        ih2 G (hd.after (walkSelection_c s d cur J hJ x parent ws r1 h1)) (hg.mono fun _ hn => List.mem_append_right _ hn)⟩

theorem walkLevel_lk : ∀ n parent sels ws r, walkLevel s d cur n parent sels ws = some r →
    LkFrom d (Spec.spreadsOfSels sels) ws r
  | 0, _, _, _, _, h => by cases h
  | n + 1, parent, sels, ws, r, h =>
    walkSelections_induct (walkSel_lk_cases s d cur hac _ (walkLevel_c s d cur n) (walkLevel_lk n)) sels parent ws r h

theorem walkLevel_lk_top {k : Nat} {parent : Option Definition} {sels : Selections} {ws : WS} {r : WS × List Event}
    (hv : ws.visited = []) (h : walkLevel s d cur (k + 1) parent sels ws = some r) :
    LinkedAll r.1.links d sels ∧ ∀ e ∈ r.2, EvLinked d e :=
  have hd0 : DoneExcept d [] ws := fun n hn => by rw [hv] at hn; cases hn
  have hg0 : NoGrey d [] (Spec.spreadsOfSels sels) := fun _ _ h => by cases h
  ⟨linkedAll_after s d cur _ (walkLevel_c s d cur k) sels _ _ r [] hd0 hg0 h, walkLevel_lk s d cur hac _ _ _ _ _ h [] hd0 hg0⟩

end walk

theorem walkVarDefsA_valLike (s : SV) (cur : Option OperationDef) (ws : WS) :
    ∀ vs : List VarDef, AllP ValLike (walkVarDefsA s cur ws vs)
  | [] => AllP.nil
  | _ :: rest => AllP.cons trivial (walkVarDefsA_valLike s cur ws rest)

theorem walkDoc_evLinked (s : SV) (d : QueryDoc) (hac : Acyclic d) (evs : List Event) (h : walkDoc s d = some evs) :
    ∀ e ∈ evs, EvLinked d e := by
  refine walkDoc_forall (fun op _ l r hr => ?_) (fun f _ l r hr => ?_) h
  · obtain ⟨r4, h4, rfl⟩ := walkOperation_inv hr
    obtain ⟨h2, h1⟩ := walkLevel_lk_top s d (some op) hac (by rw [walkDirectives_visited, walkVarDefsB_visited]) h4
    simp only [List.forall_mem_append, List.forall_mem_singleton]
    exact ⟨⟨⟨⟨evLinked_of_valLike d (walkVarDefsA_valLike s (some op) _ op.vars),
      evLinked_of_valLike d (walkVarDefsB_all (valLike_sites s) (some op) op.vars _)⟩,
      evLinked_of_valLike d (walkDirectives_all (valLike_sites s) (some op) _ op.dirs _ _)⟩, h1⟩, h2⟩
  · obtain ⟨r2, h2, rfl⟩ := walkFragment_inv hr
    obtain ⟨h3, h1⟩ := walkLevel_lk_top s d none hac (by rw [walkDirectives_visited]) h2
    simp only [List.forall_mem_append, List.forall_mem_singleton]
    exact ⟨⟨evLinked_of_valLike d (walkDirectives_all (valLike_sites s) none _ f.dirs _ _), h1⟩, h3⟩

end Gql.Validate
