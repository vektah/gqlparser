import GqlProofs.Validate.OverlapHolds
/-
  OverlappingFieldsCanBeMerged: the COMPLETENESS half, generic part.  A run that reports nothing
  refutes the memo-free judgments — for the loops over `findConflict` whatever the memo discipline
  (`Frame`: an invariant of the manager state and a relation between states that silent steps
  preserve), for the memoised comparisons given as hypotheses.
-/
namespace Gql.Validate
open Gql Gql.Validate.Rules

/-- what is threaded through a silent run: an invariant of the manager state and a reflexive,
    transitive relation between the state before and after -/
structure Frame where
  I : OSt → Prop
  T : OSt → OSt → Prop
  refl : ∀ st, T st st
  trans : ∀ {a b c}, T a b → T b c → T a c

theorem stLoop_silent {α : Type} (F : Frame) (step : α → OSt → Option (OSt × List Conflict)) (Q : α → Prop) :
    ∀ (xs : List α), (∀ x ∈ xs, ∀ st r, F.I st → step x st = some r → r.2 = [] → F.I r.1 ∧ F.T st r.1 ∧ Q x) →
      ∀ st r, F.I st → stLoop step xs st = some r → r.2 = [] → F.I r.1 ∧ F.T st r.1 ∧ ∀ x ∈ xs, Q x
  | [], _, st, r, hI, h, _ => by
    injection h with h
    subst h
    exact ⟨hI, F.refl _, fun _ hx => by cases hx⟩
  | x :: rest, hs, st, r, hI, h, he => by
    obtain ⟨st1, c1, st2, c2, h1, h2, rfl⟩ := seqC_some.1 h
    simp only [List.append_eq_nil_iff] at he
    obtain ⟨a1, a2, a3⟩ := hs x (List.mem_cons_self ..) st _ hI h1 he.1
    obtain ⟨b1, b2, b3⟩ := stLoop_silent F step Q rest (fun y hy => hs y (List.mem_cons_of_mem _ hy)) st1 _ a1 h2 he.2
    refine ⟨b1, F.trans a2 b2, fun y hy => ?_⟩
    rcases List.mem_cons.1 hy with rfl | hy
    · exact a3
    · exact b3 y hy

/-- a frame that does not look at the step counter -/
structure TFrame extends Frame where
  tick : ∀ st, I st → I st.tick ∧ T st st.tick

def FCSilent (F : TFrame) (env : Env) (fc : FC) (P : FInfo → FInfo → Prop) : Prop :=
  ∀ excl a b st st', P a b → F.I st → fc excl a b st = some (st', none) →
    F.I st' ∧ F.T st st' ∧ ¬ Holds env (.conf excl a b)

def StepSilent (F : TFrame) (step : OSt → Option (OSt × List Conflict)) (Q : Prop) : Prop :=
  ∀ st r, F.I st → step st = some r → r.2 = [] → F.I r.1 ∧ F.T st r.1 ∧ Q

section
variable {F : TFrame} {f g h : OSt → Option (OSt × List Conflict)} {Q Q' Q'' : Prop}

theorem StepSilent.imp (hf : StepSilent F f Q) (hQ : Q → Q') : StepSilent F f Q' := fun st r hI hr he =>
  have ⟨a1, a2, a3⟩ := hf st r hI hr he
  ⟨a1, a2, hQ a3⟩

theorem StepSilent.ret (hQ : Q) : StepSilent F (fun st => some (st, [])) Q := by
  intro st r hI hr _
  injection hr with hr
  subst hr
  exact ⟨hI, F.refl _, hQ⟩

theorem StepSilent.seq (hf : StepSilent F f Q) (hg : StepSilent F g Q') : StepSilent F (seqC f g) (Q ∧ Q') := by
  intro st r hI hr he
  obtain ⟨st1, c1, st2, c2, h1, h2, rfl⟩ := seqC_some.1 hr
  obtain ⟨e1, e2⟩ := List.append_eq_nil_iff.1 he
  obtain ⟨a1, a2, a3⟩ := hf st _ hI h1 e1
  obtain ⟨b1, b2, b3⟩ := hg st1 _ a1 h2 e2
  exact ⟨b1, F.trans a2 b2, a3, b3⟩

theorem StepSilent.seq3 (hf : StepSilent F f Q) (hg : StepSilent F g Q') (hh : StepSilent F h Q'') :
    StepSilent F (seqC3 f g h) ((Q ∧ Q') ∧ Q'') :=
  seqC3_eq f g h ▸ (hf.seq hg).seq hh

theorem StepSilent.loop {α : Type} {step : α → OSt → Option (OSt × List Conflict)} {P : α → Prop} {xs : List α}
    (hs : ∀ x ∈ xs, StepSilent F (step x) (P x)) : StepSilent F (stLoop step xs) (∀ x ∈ xs, P x) :=
  stLoop_silent F.toFrame step P xs hs

end

section
variable {F : TFrame} {env : Env} {fc : FC} {P : FInfo → FInfo → Prop} (hfc : FCSilent F env fc P)
include hfc

theorem fcStep_silent {excl : Bool} {fa fb : FInfo} (hP : P fa fb) :
    StepSilent F (fcStep fc excl fa fb) (¬ Holds env (.conf excl fa fb)) := by
  intro st r hI h he
  unfold fcStep at h
  split at h
  · cases h
  · rename_i st1 c h1
    injection h with h
    subst h
    cases c with
    | none => exact hfc _ _ _ _ _ hP hI h1
    | some c => simp [optToList] at he

theorem between_silent (excl : Bool) (LA LB : List FInfo) (hP : ∀ a ∈ LA, ∀ b ∈ LB, P a b) :
    StepSilent F (collectConflictsBetween fc excl (fmOfList LB) (fmOfList LA))
      (∀ a ∈ LA, ∀ b ∈ LB, rnOf a = rnOf b → ¬ Holds env (.conf excl a b)) := by
  rw [between_eq]
  refine (StepSilent.loop (P := fun e => ∀ a ∈ e.2, ∀ b ∈ bucket LB e.1, ¬ Holds env (.conf excl a b))
    fun e hent => ?_).imp fun key a ha b hb hrn =>
      key _ (entry_of_mem ha) a (mem_bucket.2 ⟨ha, rfl⟩) b (mem_bucket.2 ⟨hb, hrn.symm⟩)
  unfold betweenStep
  cases hB : fmGet (fmOfList LB) e.1 with
  | none =>
    refine StepSilent.ret fun a _ b hb => ?_
    rw [bucket_nil_of_get_none hB] at hb
    cases hb
  | some fsB =>
    obtain rfl := fmGet_mem hB
    exact StepSilent.loop fun fa hfa => StepSilent.loop fun fb hfb =>
      fcStep_silent hfc (hP fa (entry_mem e hent fa hfa).1 fb (mem_bucket.1 hfb).1)

theorem pairTriangle_silent : ∀ (fs : List FInfo), (∀ a ∈ fs, ∀ b ∈ fs, P a b) →
      StepSilent F (pairTriangle fc fs) (fs.Pairwise fun a b => ¬ Holds env (.conf false a b))
  | [], _ => StepSilent.ret List.Pairwise.nil
  | fa :: rest, hP => by
    rw [pairTriangle_cons, pairRow_eq]
    exact ((StepSilent.loop fun fb hfb =>
        fcStep_silent hfc (hP fa (List.mem_cons_self ..) fb (List.mem_cons_of_mem _ hfb))).seq
      (pairTriangle_silent rest fun a ha b hb =>
        hP a (List.mem_cons_of_mem _ ha) b (List.mem_cons_of_mem _ hb))).imp fun h => List.Pairwise.cons h.1 h.2

theorem within_silent (L : List FInfo) (hP : ∀ a ∈ L, ∀ b ∈ L, P a b) :
    StepSilent F (collectConflictsWithin fc (fmOfList L))
      (L.Pairwise fun a b => rnOf a = rnOf b → ¬ Holds env (.conf false a b)) := by
  rw [within_eq]
  refine (StepSilent.loop (P := fun e => e.2.Pairwise fun a b => ¬ Holds env (.conf false a b)) fun e hent =>
    pairTriangle_silent hfc e.2 fun a ha b hb => hP a (entry_mem e hent a ha).1 b (entry_mem e hent b hb).1).imp
    fun a3 => pairwise_of_buckets L fun k => ?_
  cases hb : bucket L k with
  | nil => exact List.Pairwise.nil
  | cons x xs =>
    have hx : x ∈ L ∧ rnOf x = k := mem_bucket.1 (by rw [hb]; exact List.mem_cons_self ..)
    have := a3 _ (entry_of_mem hx.1)
    rw [hx.2, hb] at this
    exact this

theorem subSets_silent (excl : Bool) (a b : FInfo)
    (hPsub : ∀ a' ∈ subFields env a, ∀ b' ∈ subFields env b, P a' b')
    (hchainB : ∀ sp ∈ collectSpreads b.node.sel,
      StepSilent F (fieldsAndFragment env fc excl (getFieldsAndFragmentNames env.s env.l (a.next env.s) a.node.sel).1 sp)
        (¬ Holds env (.chain excl (a.next env.s) a.node.sel sp)))
    (hchainA : ∀ sp ∈ collectSpreads a.node.sel,
      StepSilent F (fieldsAndFragment env fc excl (getFieldsAndFragmentNames env.s env.l (b.next env.s) b.node.sel).1 sp)
        (¬ Holds env (.chain excl (b.next env.s) b.node.sel sp)))
    (hcheck : ∀ sa ∈ collectSpreads a.node.sel, ∀ sb ∈ collectSpreads b.node.sel,
      StepSilent F (collectConflictsBetweenFragments env fc excl sa sb) (¬ Holds env (.check excl sa sb))) :
    StepSilent F (findConflictsBetweenSubSelectionSets env fc excl a b) (¬ Holds env (.sub excl a b)) := by
  rw [subSets_eq]
  refine (((between_silent hfc excl (subFields env a) (subFields env b) hPsub).seq3
    (StepSilent.loop hchainB) (StepSilent.loop hchainA)).seq
    (StepSilent.loop fun sa hsa => StepSilent.loop (hcheck sa hsa))).imp ?_
  rintro ⟨⟨⟨a3, b3⟩, c3⟩, d3⟩ hh
  cases hh with
  | subFields ha' hb' hrn hc => exact a3 _ ha' _ hb' hrn hc
  | subChainB hsp hc => exact b3 _ hsp hc
  | subChainA hsp hc => exact c3 _ hsp hc
  | subCheck hsa hsb hc => exact d3 _ hsa _ hsb hc

end

theorem findConflictBody_silent {F : TFrame} (env : Env)
    (sub : Bool → FInfo → FInfo → OSt → Option (OSt × List Conflict))
    (excl0 : Bool) (a b : FInfo) (st st' : OSt)
    (hsub : ∀ excl, StepSilent F (sub excl a b) (¬ Holds env (.sub excl a b)))
    (hI : F.I st) (h : findConflictBody env.s sub excl0 a b st = some (st', none)) :
    F.I st' ∧ F.T st st' ∧ ¬ Holds env (.conf excl0 a b) := by
  obtain ⟨hIt, hTt⟩ := F.tick st hI
  rcases findConflictBody_some h with ⟨hno, e⟩ | ⟨oa, ob, hoa, hob, ⟨_, _, e⟩ | ⟨hnm, ⟨_, _, e⟩ | ⟨hargs, ⟨da, db, _, _, _, e⟩ |
    ⟨htc, st1, cs, hs, e⟩⟩⟩⟩
  · injection e with e1 _
    subst e1
    refine ⟨hIt, hTt, fun hh => ?_⟩
    cases hh with
    | names h1 h2 => exact hno _ _ h1 h2
    | args h1 h2 => exact hno _ _ h1 h2
    | types h1 h2 => exact hno _ _ h1 h2
    | sub h1 h2 => exact hno _ _ h1 h2
  · cases e
  · cases e
  · cases e
  · cases cs with
    | cons c cs => cases e
    | nil =>
      injection e with e1 _
      subst e1
      obtain ⟨s1, s2, s3⟩ := hsub _ _ _ hIt hs rfl
      refine ⟨s1, F.trans hTt s2, fun hh => ?_⟩
      cases hh with
      | names _ _ h3 h4 => exact h4 (hnm h3)
      | args _ _ h3 h4 => rw [hargs h3] at h4; cases h4
      | types _ _ hda hdb hconf => rw [htc _ _ hda hdb] at hconf; cases hconf
      | sub _ _ hc => exact s3 hc

theorem withinLoop_silent {F : TFrame} {env : Env} {fc : FC} (parent : Option Definition) (sels : Selections) :
    ∀ (sps : List SpreadNode),
      (∀ sp ∈ sps, StepSilent F (fieldsAndFragment env fc false (getFieldsAndFragmentNames env.s env.l parent sels).1 sp)
        (¬ Holds env (.chain false parent sels sp))) →
      (∀ sa ∈ sps, ∀ sb ∈ sps, StepSilent F (collectConflictsBetweenFragments env fc false sa sb)
        (¬ Holds env (.check false sa sb))) →
      StepSilent F (withinLoop env fc (getFieldsAndFragmentNames env.s env.l parent sels).1 sps)
        ((∀ sp ∈ sps, ¬ Holds env (.chain false parent sels sp)) ∧
          sps.Pairwise fun sa sb => ¬ Holds env (.check false sa sb))
  | [], _, _ => StepSilent.ret ⟨fun _ hx => (by cases hx), List.Pairwise.nil⟩
  | sa :: rest, hchain, hcheck => by
    rw [withinLoop_cons]
    refine ((hchain sa (List.mem_cons_self ..)).seq3
      (StepSilent.loop fun sb hsb => hcheck sa (List.mem_cons_self ..) sb (List.mem_cons_of_mem _ hsb))
      (withinLoop_silent parent sels rest (fun sp hsp => hchain sp (List.mem_cons_of_mem _ hsp))
        fun x hx y hy => hcheck x (List.mem_cons_of_mem _ hx) y (List.mem_cons_of_mem _ hy))).imp ?_
    rintro ⟨⟨a3, b3⟩, c3, c4⟩
    exact ⟨List.forall_mem_cons.2 ⟨a3, c3⟩, List.Pairwise.cons b3 c4⟩

theorem top_silent {F : TFrame} {env : Env} {fc : FC} {P : FInfo → FInfo → Prop} (hfc : FCSilent F env fc P)
    (parent : Option Definition) (sels : Selections)
    (hP : ∀ a ∈ collectFields env.s env.l parent sels, ∀ b ∈ collectFields env.s env.l parent sels, P a b)
    (hchain : ∀ sp ∈ collectSpreads sels,
      StepSilent F (fieldsAndFragment env fc false (getFieldsAndFragmentNames env.s env.l parent sels).1 sp)
        (¬ Holds env (.chain false parent sels sp)))
    (hcheck : ∀ sa ∈ collectSpreads sels, ∀ sb ∈ collectSpreads sels,
      StepSilent F (collectConflictsBetweenFragments env fc false sa sb) (¬ Holds env (.check false sa sb)))
    (st0 : OSt) (r : OSt × List Conflict) (hI : F.I { st0 with seen := [] })
    (h : findConflictsWithinSelectionSet env fc parent sels st0 = some r) (he : r.2 = []) :
    ¬ TopHolds env parent sels ∧ (selsEmpty sels = false → F.I r.1 ∧ F.T { st0 with seen := [] } r.1) := by
  rw [within_top_eq] at h
  split at h
  · rename_i hempty
    refine ⟨?_, fun hx => by rw [hempty] at hx; cases hx⟩
    cases sels with
    | cons _ _ => simp [selsEmpty] at hempty
    | nil =>
      rintro (⟨a, b, hs, _⟩ | ⟨sp, hsp, _⟩ | ⟨sa, sb, hs, _⟩)
      · simp [collectFields] at hs
      · simp [collectSpreads] at hsp
      · simp [collectSpreads] at hs
  · obtain ⟨a1, a2, a3, b3, b4⟩ :=
      ((within_silent hfc _ hP).seq (withinLoop_silent parent sels _ hchain hcheck)) _ _ hI h he
    refine ⟨?_, fun _ => ⟨a1, a2⟩⟩
    rintro (⟨a, b, hs, hrn, hh⟩ | ⟨sp, hsp, hh⟩ | ⟨sa, sb, hs, hh⟩)
    · exact List.pairwise_iff_forall_sublist.1 a3 hs hrn hh
    · exact b3 sp hsp hh
    · exact List.pairwise_iff_forall_sublist.1 b4 hs hh

end Gql.Validate
