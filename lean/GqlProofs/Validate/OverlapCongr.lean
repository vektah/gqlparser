import GqlProofs.Validate.OverlapLinks
import GqlProofs.Validate.OverlapFMap
import GqlProofs.Validate.OverlapLoops
/-
  OverlappingFieldsCanBeMerged: an observer call computes the same under two link tables in both
  of which everything reachable from its selection set is linked (`overlapRun_congr`).
-/
namespace Gql.Validate
open Gql Gql.Validate.Rules

section
variable (s : SV) (d : QueryDoc) (l l' : Links)

def BothSels (sels : Selections) : Prop := LinkedAll l d sels ∧ LinkedAll l' d sels

def BothSpread (sp : SpreadNode) : Prop := SpreadLinked l d sp ∧ SpreadLinked l' d sp

variable {s d l l'}

theorem BothSels.fields {sels : Selections} (h : BothSels d l l' sels) (p : Option Definition) :
    collectFields s l p sels = collectFields s l' p sels := collectFields_linked_congr s p h.1 h.2

theorem BothSels.get {sels : Selections} (h : BothSels d l l' sels) (p : Option Definition) :
    getFieldsAndFragmentNames s l p sels = getFieldsAndFragmentNames s l' p sels := by
  unfold getFieldsAndFragmentNames
  rw [h.fields p]

theorem BothSels.sub {sels : Selections} (h : BothSels d l l' sels) {p : Option Definition} {f : FInfo}
    (hf : f ∈ collectFields s l p sels) : BothSels d l l' f.node.sel := ⟨h.1.sub hf, h.2.sub hf⟩

theorem BothSels.spread {sels : Selections} (h : BothSels d l l' sels) {sp : SpreadNode} (hsp : sp ∈ collectSpreads sels) :
    BothSpread d l l' sp := ⟨h.1.spread hsp, h.2.spread hsp⟩

theorem BothSpread.def_eq {sp : SpreadNode} (h : BothSpread d l l' sp) :
    l.spreadDef d sp.name sp.pos = l'.spreadDef d sp.name sp.pos := by
  rw [spreadDef_linked h.1.1, spreadDef_linked h.2.1]

theorem BothSpread.frag {sp : SpreadNode} (h : BothSpread d l l' sp) {F : FragmentDef}
    (hF : l.spreadDef d sp.name sp.pos = some F) : BothSels d l l' F.sel := by
  rw [spreadDef_linked h.1.1] at hF
  exact ⟨h.1.2 F hF, h.2.2 F hF⟩

def FCEq (d : QueryDoc) (l l' : Links) (fc fc' : FC) : Prop :=
  ∀ excl a b st, BothSels d l l' a.node.sel → BothSels d l l' b.node.sel → fc excl a b st = fc' excl a b st

theorem between_congr {fc fc' : FC} (h : FCEq d l l' fc fc') (excl : Bool) (LA LB : List FInfo)
    (hA : ∀ a ∈ LA, BothSels d l l' a.node.sel) (hB : ∀ b ∈ LB, BothSels d l l' b.node.sel) (st : OSt) :
    collectConflictsBetween fc excl (fmOfList LB) (fmOfList LA) st =
      collectConflictsBetween fc' excl (fmOfList LB) (fmOfList LA) st := by
  rw [between_eq, between_eq]
  apply stLoop_congr
  intro e he st1
  unfold betweenStep
  cases hg : fmGet (fmOfList LB) e.1 with
  | none => rfl
  | some fsB =>
    simp only
    apply stLoop_congr
    intro fa hfa st2
    apply stLoop_congr
    intro fb hfb st3
    unfold fcStep
    have hb : fb ∈ bucket LB e.1 := by rw [← fmGet_mem hg]; exact hfb
    rw [h excl fa fb st3 (hA fa (entry_mem e he fa hfa).1) (hB fb (mem_bucket.1 hb).1)]

theorem pairTriangle_congr {fc fc' : FC} (h : FCEq d l l' fc fc') :
    ∀ (fs : List FInfo), (∀ a ∈ fs, BothSels d l l' a.node.sel) → ∀ st, pairTriangle fc fs st = pairTriangle fc' fs st
  | [], _, _ => rfl
  | fa :: rest, hA, st => by
    have e1 : ∀ st, stLoop (fcStep fc false fa) rest st = stLoop (fcStep fc' false fa) rest st :=
      stLoop_congr rest fun fb hfb st1 => by
        unfold fcStep
        rw [h false fa fb st1 (hA fa (List.mem_cons_self ..)) (hA fb (List.mem_cons_of_mem _ hfb))]
    simp only [pairTriangle_cons, pairRow_eq, seqC, e1,
      pairTriangle_congr h rest fun a ha => hA a (List.mem_cons_of_mem _ ha)]

theorem within_congr {fc fc' : FC} (h : FCEq d l l' fc fc') (A : FMap) (hA : ∀ e ∈ A, ∀ a ∈ e.2, BothSels d l l' a.node.sel)
    (st : OSt) : collectConflictsWithin fc A st = collectConflictsWithin fc' A st := by
  rw [within_eq, within_eq]
  exact stLoop_congr A (fun e he st1 => pairTriangle_congr h e.2 (hA e he) st1) st

theorem chain_congr {fc fc' : FC} (h : FCEq d l l' fc fc') (excl : Bool) {p : Option Definition} {sels : Selections}
    (hs : BothSels d l l' sels) :
    ∀ n sp st, BothSpread d l l' sp →
      chain (overlapEnv s d l) fc excl (getFieldsAndFragmentNames s l p sels).1 n sp st =
        chain (overlapEnv s d l') fc' excl (getFieldsAndFragmentNames s l p sels).1 n sp st
  | 0, _, _, _ => rfl
  | n + 1, sp, st, hsp => by
    unfold chain
    simp only
    split
    · rfl
    · have hd : (overlapEnv s d l).l.spreadDef (overlapEnv s d l).d sp.name sp.pos =
          (overlapEnv s d l').l.spreadDef (overlapEnv s d l').d sp.name sp.pos := hsp.def_eq
      rw [← hd]
      cases hF : (overlapEnv s d l).l.spreadDef (overlapEnv s d l).d sp.name sp.pos with
      | none => rfl
      | some F =>
        have hFs : BothSels d l l' F.sel := hsp.frag hF
        have hff : (overlapEnv s d l).fragFields F = (overlapEnv s d l').fragFields F := hFs.get _
        simp only
        rw [← hff]
        split
        · rfl
        · exact seq2_congr
            (between_congr h excl (collectFields s l p sels) (collectFields s l ((overlapEnv s d l).s.type? F.typeCond) F.sel)
              (fun a ha => hs.sub ha) (fun b hb => hFs.sub hb))
            (stLoop_congr _ fun sp' hsp' st' => chain_congr h excl hs n sp' st' (hFs.spread (List.mem_filter.1 hsp').1)) _

theorem check_congr {fc fc' : FC} (h : FCEq d l l' fc fc') (excl : Bool) :
    ∀ n a b st, BothSpread d l l' a → BothSpread d l l' b →
      check (overlapEnv s d l) fc excl n a b st = check (overlapEnv s d l') fc' excl n a b st
  | 0, _, _, _, _, _ => rfl
  | n + 1, a, b, st, ha, hb => by
    unfold check
    simp only
    split
    · rfl
    · split
      · rfl
      · have hda : (overlapEnv s d l).l.spreadDef (overlapEnv s d l).d a.name a.pos =
            (overlapEnv s d l').l.spreadDef (overlapEnv s d l').d a.name a.pos := ha.def_eq
        have hdb : (overlapEnv s d l).l.spreadDef (overlapEnv s d l).d b.name b.pos =
            (overlapEnv s d l').l.spreadDef (overlapEnv s d l').d b.name b.pos := hb.def_eq
        rw [← hda, ← hdb]
        cases hA : (overlapEnv s d l).l.spreadDef (overlapEnv s d l).d a.name a.pos with
        | none => rfl
        | some A =>
          cases hB : (overlapEnv s d l).l.spreadDef (overlapEnv s d l).d b.name b.pos with
          | none => rfl
          | some B =>
            have hAs : BothSels d l l' A.sel := ha.frag hA
            have hBs : BothSels d l l' B.sel := hb.frag hB
            have hfa : (overlapEnv s d l).fragFields A = (overlapEnv s d l').fragFields A := hAs.get _
            have hfb : (overlapEnv s d l).fragFields B = (overlapEnv s d l').fragFields B := hBs.get _
            simp only
            rw [← hfa, ← hfb]
            exact seq3_congr
              (between_congr h excl (collectFields s l ((overlapEnv s d l).s.type? A.typeCond) A.sel)
                (collectFields s l ((overlapEnv s d l).s.type? B.typeCond) B.sel) (fun x hx => hAs.sub hx) (fun x hx => hBs.sub hx))
              (stLoop_congr _ fun x hx st' => check_congr h excl n a x st' ha (hBs.spread hx))
              (stLoop_congr _ fun x hx st' => check_congr h excl n x b st' (hAs.spread hx) hb) _

theorem subSets_congr {fc fc' : FC} (h : FCEq d l l' fc fc') (excl : Bool) {a b : FInfo}
    (hA : BothSels d l l' a.node.sel) (hB : BothSels d l l' b.node.sel) (st : OSt) :
    findConflictsBetweenSubSelectionSets (overlapEnv s d l) fc excl a b st =
      findConflictsBetweenSubSelectionSets (overlapEnv s d l') fc' excl a b st := by
  have eA : (overlapEnv s d l).subOf a = (overlapEnv s d l').subOf a := hA.get _
  have eB : (overlapEnv s d l).subOf b = (overlapEnv s d l').subOf b := hB.get _
  rw [subSets_eq, subSets_eq, ← eA, ← eB]
  exact seq2_congr
    (seq3_congr
      (between_congr h excl (collectFields s l (a.next s) a.node.sel) (collectFields s l (b.next s) b.node.sel)
        (fun x hx => hA.sub hx) (fun x hx => hB.sub hx))
      (stLoop_congr _ fun sp hsp st' => chain_congr h excl hA _ sp st' (hB.spread hsp))
      (stLoop_congr _ fun sp hsp st' => chain_congr h excl hB _ sp st' (hA.spread hsp)))
    (stLoop_congr _ fun sa hsa => stLoop_congr _ fun sb hsb st' =>
      check_congr h excl _ sa sb st' (hA.spread hsa) (hB.spread hsb)) st

theorem findConflictBody_congr (sv : SV) {sub sub' : Bool → FInfo → FInfo → OSt → Option (OSt × List Conflict)}
    (pe : Bool) (a b : FInfo) (st : OSt) (h : ∀ excl st1, sub excl a b st1 = sub' excl a b st1) :
    findConflictBody sv sub pe a b st = findConflictBody sv sub' pe a b st := by
  unfold findConflictBody
  simp only [h]

theorem fcLevel_congr : ∀ k, FCEq d l l' (fcLevel (overlapEnv s d l) k) (fcLevel (overlapEnv s d l') k)
  | 0 => fun _ _ _ _ _ _ => rfl
  | k + 1 => by
    intro excl a b st ha hb
    simp only [fcLevel]
    exact findConflictBody_congr s excl a b st (fun excl' st1 => subSets_congr (fcLevel_congr k) excl' ha hb st1)

theorem withinLoop_congr {fc fc' : FC} (h : FCEq d l l' fc fc') {p : Option Definition} {sels : Selections}
    (hs : BothSels d l l' sels) :
    ∀ (sps : List SpreadNode), (∀ sp ∈ sps, BothSpread d l l' sp) → ∀ st,
      withinLoop (overlapEnv s d l) fc (getFieldsAndFragmentNames s l p sels).1 sps st =
        withinLoop (overlapEnv s d l') fc' (getFieldsAndFragmentNames s l p sels).1 sps st
  | [], _, _ => rfl
  | sa :: rest, hsp, st =>
    seq3_congr (fun st => chain_congr h false hs _ sa st (hsp sa (List.mem_cons_self ..)))
      (stLoop_congr _ fun sb hsb st' => check_congr h false _ sa sb st' (hsp sa (List.mem_cons_self ..))
        (hsp sb (List.mem_cons_of_mem _ hsb)))
      (withinLoop_congr h hs rest fun sp hsp' => hsp sp (List.mem_cons_of_mem _ hsp')) st

theorem overlapRun_congr (p : Option Definition) (sels : Selections) (st : OSt) (hs : BothSels d l l' sels) :
    overlapRun s d l p sels st = overlapRun s d l' p sels st := by
  unfold overlapRun findConflictsWithinSelectionSet
  simp only
  split
  · rfl
  · have eg : getFieldsAndFragmentNames (overlapEnv s d l).s (overlapEnv s d l).l p sels =
        getFieldsAndFragmentNames (overlapEnv s d l').s (overlapEnv s d l').l p sels := hs.get p
    rw [← eg]
    have hfc := fcLevel_congr (s := s) (d := d) (l := l) (l' := l') (overlapFuel d sels)
    exact seq2_congr
      (within_congr hfc _ fun e he a ha => hs.sub (entry_mem (L := collectFields s l p sels) e he a ha).1)
      (withinLoop_congr (s := s) (p := p) hfc hs _ fun sp hsp => hs.spread hsp) _

end

end Gql.Validate
