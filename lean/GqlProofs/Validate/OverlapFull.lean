import GqlProofs.Validate.OverlapRun
import GqlProofs.Validate.OverlapFlat
import GqlProofs.Validate.OverlapCongr
/-
  OverlappingFieldsCanBeMerged: the link table in which every selection node of the document is
  linked (`fullLinks`), the collected fields of the selection sets of `Spec.docSets` under it
  (`DocF.ofSet`), and the run under it: every observer call of the walk is the call under
  `fullLinks d` (`run_full`), so the snapshots of the events are not spoken of again; the rule
  reports nothing iff no selection set of the document has a derivable conflict, given that silent
  observer calls refute `TopHolds` while they keep an invariant of the manager state
  (`silent_iff_noTop`: the memoised rule and the rule on spread-free documents are its instances).
-/
namespace Gql.Validate
open Gql Gql.Validate.Rules

mutual
  def selPositions : Selections → List Nat
    | .nil => []
    | .cons x rest => selPositionsSel x ++ selPositions rest
  def selPositionsSel : Selection → List Nat
    | .field _ _ _ _ sub p => p.start :: selPositions sub
    | .inline _ _ sub p => p.start :: selPositions sub
    | .spread _ _ p => [p.start]
end

/-- every selection node of the document is linked -/
def fullLinks (d : QueryDoc) : Links :=
  { vlinks := [], sels := d.ops.flatMap (fun op => selPositions op.sel) ++ d.frags.flatMap (fun f => selPositions f.sel) }

mutual
  theorem inSels_positions : ∀ (sels : Selections) (y : Selection), InSels sels (.sel y) → (selPos y).start ∈ selPositions sels
    | .nil, _, h => by cases h
    | .cons x rest, y, h => by
      simp only [selPositions, List.mem_append]
      cases h with
      | head _ _ _ hx => exact Or.inl (inSel_positions x y hx)
      | tail _ _ _ hx => exact Or.inr (inSels_positions rest y hx)
  theorem inSel_positions : ∀ (x y : Selection), InSel x (.sel y) → (selPos y).start ∈ selPositionsSel x
    | .field al nm args dirs sub p, y, h => by
      simp only [selPositionsSel, List.mem_cons]
      cases h with
      | self => exact Or.inl rfl
      | fieldSub _ _ _ _ _ _ _ hs => exact Or.inr (inSels_positions sub y hs)
    | .inline tc dirs sub p, y, h => by
      simp only [selPositionsSel, List.mem_cons]
      cases h with
      | self => exact Or.inl rfl
      | inlineSub _ _ _ _ _ hs => exact Or.inr (inSels_positions sub y hs)
    | .spread nm dirs p, y, h => by
      cases h with
      | self => simp [selPositionsSel, selPos]
end

theorem fullLinks_linked {d : QueryDoc} {y : Selection} (h : InDocSel d (.sel y)) :
    (fullLinks d).linked (selPos y).start = true := by
  simp only [Links.linked, fullLinks, List.contains_iff_mem, List.mem_append, List.mem_flatMap]
  rcases h with ⟨op, hop, hi⟩ | ⟨f, hf, hi⟩
  · exact Or.inl ⟨op, hop, inSels_positions _ _ hi⟩
  · exact Or.inr ⟨f, hf, inSels_positions _ _ hi⟩

theorem fullLinks_linkedAll {d : QueryDoc} {sels : Selections} (h : ∀ y, InSels sels (.sel y) → InDocSel d (.sel y)) :
    LinkedAll (fullLinks d) d sels :=
  ⟨fun y hy => fullLinks_linked (h y hy),
   fun _ g _ hg _ hy => fullLinks_linked (Or.inr ⟨g, fragForName_mem hg, hy⟩)⟩

theorem inDocSel_below {s : Schema} {d : QueryDoc} {x : Spec.TSel} (hx : x ∈ Spec.docSels s d) {y : Selection}
    (hi : InSel x.sel (.sel y)) : InDocSel d (.sel y) := by
  rcases docSels_mem_inDocSel s d _ hx with ⟨op, hop, h⟩ | ⟨f, hf, h⟩
  · exact Or.inl ⟨op, hop, inSels_trans _ _ _ h hi⟩
  · exact Or.inr ⟨f, hf, inSels_trans _ _ _ h hi⟩

theorem docSets_inDoc {s : Schema} {d : QueryDoc} {t : Spec.TSet} (ht : t ∈ Spec.docSets s d) :
    ∀ y, InSels t.sels (.sel y) → InDocSel d (.sel y) := by
  intro y hy
  rcases docSets_cases ht with ⟨op, hop, rfl⟩ | ⟨f, hf, rfl⟩ | ⟨p, al, nm, args, dirs, sub, pos, hx, rfl⟩ |
    ⟨p, tc, dirs, sub, pos, hx, rfl⟩
  · exact Or.inl ⟨op, hop, hy⟩
  · exact Or.inr ⟨f, hf, hy⟩
  · exact inDocSel_below hx (InSel.fieldSub _ _ _ _ _ _ _ hy)
  · exact inDocSel_below hx (InSel.inlineSub _ _ _ _ _ hy)

theorem docSets_linkedAll {s : Schema} {d : QueryDoc} {t : Spec.TSet} (ht : t ∈ Spec.docSets s d) :
    LinkedAll (fullLinks d) d t.sels := fullLinks_linkedAll (docSets_inDoc ht)

theorem docSets_typed {s : Schema} {d : QueryDoc} {t : Spec.TSet} (ht : t ∈ Spec.docSets s d) :
    ∀ x ∈ Spec.typedSels s t.parent t.sels, x ∈ Spec.docSels s d := by
  intro x hx
  rcases docSets_cases ht with ⟨op, hop, rfl⟩ | ⟨f, hf, rfl⟩ | ⟨p, al, nm, args, dirs, sub, pos, hz, rfl⟩ |
    ⟨p, tc, dirs, sub, pos, hz, rfl⟩
  · simp only [Spec.docSels, List.mem_append, List.mem_flatMap]
    exact Or.inl ⟨op, hop, hx⟩
  · simp only [Spec.docSels, List.mem_append, List.mem_flatMap]
    exact Or.inr ⟨f, hf, hx⟩
  · exact docSels_trans s d _ x hz (List.mem_cons_of_mem _ hx)
  · exact docSels_trans s d _ x hz (List.mem_cons_of_mem _ hx)

mutual
  theorem allFields_inSels : ∀ (sels : Selections) (x : Nat × Selections), x ∈ allFields sels →
      ∃ y, InSels sels (.sel y) ∧ (selPos y).start = x.1
    | .nil, _, h => by simp [allFields] at h
    | .cons z rest, x, h => by
      simp only [allFields, List.mem_append] at h
      rcases h with h | h
      · obtain ⟨y, hy, e⟩ := allFieldsSel_inSel z x h
        exact ⟨y, InSels.head _ _ _ hy, e⟩
      · obtain ⟨y, hy, e⟩ := allFields_inSels rest x h
        exact ⟨y, InSels.tail _ _ _ hy, e⟩
  theorem allFieldsSel_inSel : ∀ (z : Selection) (x : Nat × Selections), x ∈ allFieldsSel z →
      ∃ y, InSel z (.sel y) ∧ (selPos y).start = x.1
    | .field al nm args dirs sub p, x, h => by
      simp only [allFieldsSel, List.mem_cons] at h
      rcases h with rfl | h
      · exact ⟨_, InSel.self _, rfl⟩
      · obtain ⟨y, hy, e⟩ := allFields_inSels sub x h
        exact ⟨y, InSel.fieldSub _ _ _ _ _ _ _ hy, e⟩
    | .inline tc dirs sub p, x, h => by
      simp only [allFieldsSel] at h
      obtain ⟨y, hy, e⟩ := allFields_inSels sub x h
      exact ⟨y, InSel.inlineSub _ _ _ _ _ hy, e⟩
    | .spread _ _ _, _, h => by simp [allFieldsSel] at h
end

theorem DocF.ofSet {s : Schema} {d : QueryDoc} {t : Spec.TSet} (ht : t ∈ Spec.docSets s d) {a : FInfo}
    (ha : a ∈ collectFields s.view (fullLinks d) t.parent t.sels) : DocF s d (fullLinks d) a := by
  have hs := collectFields_shape s.view (fullLinks d) _ _ a ha
  have hin := collectFields_inSels s.view (fullLinks d) _ _ a ha
  refine ⟨docSets_typed ht _ (collectFields_typed s (fullLinks d) _ _ a ha), hs.1, ?_, ?_⟩
  · rw [hs.2]
    exact fullLinks_linked (docSets_inDoc ht _ hin)
  · intro x hx
    obtain ⟨y, hy, e⟩ := allFields_inSels _ x hx
    rw [← e]
    exact fullLinks_linked (docSets_inDoc ht _ (inSels_trans _ _ _ hin (InSel.fieldSub _ _ _ _ _ _ _ hy)))

section
variable {s : Schema} {d : QueryDoc} {evs : List Event} (hw : walkDoc s.view d = some evs)
  (hwp : Spec.wellParented s d = true) (hlk : ∀ e ∈ evs, EvLinked d e)
include hw hwp hlk

/-- an observer call of the walk is the call under the full link table: everything it can reach is
    linked in the snapshot of its event and in `fullLinks d` -/
theorem run_full {e : Event} (he : e ∈ evs) {p : Option Definition} {sels : Selections}
    (hset : eventSet s.view e = some (p, sels)) (st : OSt) :
    overlapRun s.view d e.links p sels st = overlapRun s.view d (fullLinks d) p sels st :=
  overlapRun_congr p sels st
    ⟨eventSet_linked s.view d (hlk e he) hset, docSets_linkedAll (eventSet_sound s d evs hw hwp e he p sels hset)⟩

variable {Inv : OSt → Prop}
  (hcall : ∀ t ∈ Spec.docSets s d, ∀ st r, Inv st →
    overlapRun s.view d (fullLinks d) t.parent t.sels st = some r → r.2 = [] →
      ¬ TopHolds (envOf s d (fullLinks d)) t.parent t.sels ∧ Inv r.1)
include hcall

/-- a run over events of the walk reports nothing iff the judgment of every observer call is
    refuted: a call that reports makes it derivable (`overlapRun_holds`), a silent one refutes it
    and keeps the invariant (`hcall`) -/
theorem silentRun_iff : ∀ (es : List Event), (∀ e ∈ es, e ∈ evs) → ∀ (st : OSt), PSym st.pairs → Inv st →
    (SilentRun s.view d st es ↔
      ∀ e ∈ es, ∀ p sels, eventSet s.view e = some (p, sels) → ¬ TopHolds (envOf s d (fullLinks d)) p sels)
  | [], _, _, _, _ => ⟨fun _ _ he => (nomatch he), fun _ => rfl⟩
  | e :: es, hsub, st, hP, hI => by
    obtain ⟨st', errs, h1, hP', _⟩ := overlappingFieldsStep_ok s.view d st e hP
    have he := hsub e (List.mem_cons_self ..)
    have ih := silentRun_iff es (fun x hx => hsub x (List.mem_cons_of_mem _ hx)) st' hP'
    refine (runAll_single_nil_cons_iff (rule := overlappingFieldsCanBeMerged)).trans ?_
    rw [List.forall_mem_cons, show overlappingFieldsCanBeMerged.step s.view d st e = .ok st' errs from h1]
    rw [overlappingFieldsStep_eq] at h1
    cases hset : eventSet s.view e with
    | none =>
      rw [hset] at h1
      cases h1
      exact ⟨fun ⟨_, h, hr⟩ => ⟨nofun, (ih hI).1 (by cases h; exact hr)⟩, fun h => ⟨st, rfl, (ih hI).2 h.2⟩⟩
    | some ps =>
      obtain ⟨p, sels⟩ := ps
      rw [hset] at h1
      simp only [run_full hw hwp hlk he hset] at h1
      split at h1
      · cases h1
      · rename_i st2 cs hr
        cases h1
        cases cs with
        | nil =>
          obtain ⟨hn, hI'⟩ := hcall ⟨p, sels⟩ (eventSet_sound s d evs hw hwp e he p sels hset) st _ hI hr rfl
          exact ⟨fun ⟨_, h, hr'⟩ => ⟨fun _ _ h' => by cases h'; exact hn, (ih hI').1 (by cases h; exact hr')⟩,
            fun h => ⟨_, rfl, (ih hI').2 h.2⟩⟩
        | cons c cs =>
          have hth := overlapRun_holds _ _ _ _ _ _ _ hr (List.cons_ne_nil _ _)
          exact ⟨fun ⟨_, h, _⟩ => (by cases h), fun h => absurd hth (h.1 p sels rfl)⟩

end

/-- **the rule against its memo-free semantics**: it reports nothing iff no selection set of the
    document has a derivable conflict (unique fragment names, no cycles, every fragment used), given
    that silent observer calls refute `TopHolds` while they keep an invariant of the manager state -/
theorem silent_iff_noTop {s : Schema} {d : QueryDoc} {Inv : OSt → Prop} (h0 : Inv OSt.init)
    (hcall : ∀ t ∈ Spec.docSets s d, ∀ st r, Inv st →
      overlapRun s.view d (fullLinks d) t.parent t.sels st = some r → r.2 = [] →
        ¬ TopHolds (envOf s d (fullLinks d)) t.parent t.sels ∧ Inv r.1)
    (hwp : Spec.wellParented s d = true) (hac : Acyclic d) (hu : Spec.fragmentNameUniqueness d = true)
    (hused : Spec.fragmentsMustBeUsed d = true) :
    validate [overlappingFieldsCanBeMerged] s d = .ok [] ↔
      ∀ t ∈ Spec.docSets s d, ¬ TopHolds (envOf s d (fullLinks d)) t.parent t.sels := by
  obtain ⟨evs, hw⟩ := walkDoc_isSome s.view d
  rw [validate_overlap_nil s d evs hw,
    silentRun_iff hw hwp (walkDoc_evLinked s.view d hac evs hw) hcall evs (fun _ h => h) OSt.init PSym_nil h0]
  exact ⟨fun h t ht => by
      obtain ⟨e, he, hset⟩ := eventSet_complete s d evs hw hwp hu hac hused t ht
      exact h e he _ _ hset,
    fun h e he p sels hset => h _ (eventSet_sound s d evs hw hwp e he p sels hset)⟩

end Gql.Validate
