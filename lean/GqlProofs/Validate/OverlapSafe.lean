import GqlProofs.Validate.OverlapCost
import GqlProofs.Validate.OpEvents
/-
  OverlappingFieldsCanBeMerged: the rule never panics and never runs out of fuel inside
  `Validate`, and the number of comparison steps it takes over a whole validation.

  The rule's state (`comparedFragmentPairs`) has an invariant — symmetry, see OverlapPairs — on
  which the termination argument of `check` rests, so the statement is not `Rule.NeverPanics`
  (which quantifies over ALL states) but `Running.Safe`: an invariant holds for the current state,
  is preserved by every step, and excludes the panic outcome.  Such a rule goes through any event list
  alone (`Running.Safe.run`), hence so does a rule list made of such rules (`runAll_ok_iff`); rules that
  never panic in any state are the special case `Inv := True`.
-/
namespace Gql.Validate
open Gql Gql.Validate.Rules

/-- from its current state the rule never panics on events satisfying `Pe` -/
def Running.Safe (Pe : Event → Prop) (q : Running) : Prop :=
  ∃ Inv : q.rule.σ → Prop, Inv q.st ∧
    ∀ s d st e, Pe e → Inv st → ∃ st' errs, q.rule.step s d st e = .ok st' errs ∧ Inv st'

theorem Rule.NeverPanicsOn.safe {Pe : Event → Prop} {r : Rule} (h : r.NeverPanicsOn Pe) (st : r.σ) :
    Running.Safe Pe { rule := r, st := st } := by
  refine ⟨fun _ => True, trivial, ?_⟩
  intro s d st e he _
  cases hs : r.step s d st e with
  | ok st' errs => exact ⟨st', errs, rfl, trivial⟩
  | panic m => exact absurd hs (h s d st e m he)

theorem Running.Safe.run {Pe : Event → Prop} {s : SV} {d : QueryDoc} :
    ∀ {evs : List Event} {q : Running}, q.Safe Pe → (∀ e ∈ evs, Pe e) → ∃ errs, runAll s d [q] evs = .ok errs
  | [], _, _, _ => ⟨[], rfl⟩
  | e :: es, q, ⟨Inv, hinv, hstep⟩, hP => by
    obtain ⟨st', errs, hok, hinv'⟩ := hstep s d q.st e (hP e List.mem_cons_self) hinv
    obtain ⟨a, ha⟩ := Running.Safe.run (s := s) (d := d) (evs := es) (q := { rule := q.rule, st := st' })
      ⟨Inv, hinv', hstep⟩ fun x hx => hP x (List.mem_cons_of_mem _ hx)
    exact ⟨errs.map (RErr.toErr q.rule.name) ++ a, by rw [runAll_single_cons]; simp only [Running.step, hok, ha]⟩

/-- the selection set an observer of the rule works on (`none`: the rule ignores the event) -/
def eventSels (e : Event) : Option Selections :=
  match e.p with
  | .operation op _ => some op.sel
  | .field f _ _ => if e.cur.isNone then none else some f.sel
  | .inlineFragment f _ => some f.sel
  | .fragment f _ => some f.sel
  | _ => none

def eventBound (d : QueryDoc) (e : Event) : Nat :=
  match eventSels e with
  | some sels => overlapStepBound d sels
  | none => 0

/-- the selection set (with the type in scope) an observer of the rule is called for -/
def eventSet (s : SV) (e : Event) : Option (Option Definition × Selections) :=
  match e.p with
  | .operation op _ => some ((opRoot s op.op).1, op.sel)
  | .field f _ dfn => if e.cur.isNone then none else some (dfn.bind fun fd => s.type? fd.type.name, f.sel)
  | .inlineFragment f parent => some (inlineNext s parent f.typeCond, f.sel)
  | .fragment f dfn => some (dfn, f.sel)
  | _ => none

theorem overlappingFieldsStep_eq (s : SV) (d : QueryDoc) (st : OSt) (e : Event) :
    overlappingFieldsStep s d st e =
      match eventSet s e with
      | none => .ok st []
      | some (parent, sels) =>
        match overlapRun s d e.links parent sels st with
        | none => .panic overlapOutOfFuel
        | some (st', cs) => .ok st' (cs.map Conflict.toErr) := by
  unfold overlappingFieldsStep eventSet
  cases e.p with
  | field f par dfn =>
    simp only
    by_cases hc : e.cur.isNone = true
    · simp only [hc, if_true]
    · simp only [hc, Bool.false_eq_true, if_false]
      rfl
  | _ => rfl

theorem eventSels_eq (s : SV) (e : Event) : eventSels e = (eventSet s e).map (·.2) := by
  unfold eventSels eventSet
  cases e.p with
  | field f par dfn =>
    simp only
    cases e.cur.isNone <;> rfl
  | _ => rfl

theorem overlappingFieldsStep_ok (s : SV) (d : QueryDoc) (st : OSt) (e : Event) (hP : PSym st.pairs) :
    ∃ st' errs, overlappingFieldsStep s d st e = .ok st' errs ∧ PSym st'.pairs ∧
      st'.steps ≤ st.steps + eventBound d e := by
  rw [overlappingFieldsStep_eq, eventBound, eventSels_eq s]
  cases eventSet s e with
  | none => exact ⟨st, [], rfl, hP, Nat.le_add_right _ _⟩
  | some ps =>
    obtain ⟨⟨st', cs⟩, h, a, _, k⟩ := overlapRun_ok s d e.links ps.1 ps.2 st hP
    simp only [h]
    exact ⟨st', _, rfl, a, k⟩

/-- the only panic outcome the rule model has at all is the out-of-fuel marker (there is no Go
    panic site in the repaired rule: `Schema.Types[...]` is nil-guarded in `doTypesConflict`, every
    link is nil-checked before it is dereferenced, `Children[i]` is guarded by the length test) -/
theorem overlappingFieldsStep_panic_only_fuel (s : SV) (d : QueryDoc) (st : OSt) (e : Event) (m : Bytes)
    (h : overlappingFieldsStep s d st e = .panic m) : m = overlapOutOfFuel := by
  rw [overlappingFieldsStep_eq] at h
  split at h
  · cases h
  · split at h
    · injection h with h
      exact h.symm
    · cases h

theorem overlap_safe (Pe : Event → Prop) : Running.Safe Pe overlappingFieldsCanBeMerged.start := by
  refine ⟨fun st => PSym st.pairs, PSym_nil, ?_⟩
  intro s d st e _ hst
  obtain ⟨st', errs, h, hp, _⟩ := overlappingFieldsStep_ok s d st e hst
  exact ⟨st', errs, h, hp⟩

/-- the manager states the engine threads for this rule over an event list (the engine steps a
    rule on every event with the state its previous step returned: `Running.step`, `stepAll`) -/
def overlapFold (s : SV) (d : QueryDoc) : OSt → List Event → Option OSt
  | st, [] => some st
  | st, e :: es =>
    match overlappingFieldsStep s d st e with
    | .ok st' _ => overlapFold s d st' es
    | .panic _ => none

def sumBounds (d : QueryDoc) (evs : List Event) : Nat := sumNat (evs.map (eventBound d))

theorem overlapFold_steps (s : SV) (d : QueryDoc) : ∀ (evs : List Event) (st : OSt), PSym st.pairs →
    ∃ st', overlapFold s d st evs = some st' ∧ PSym st'.pairs ∧ st'.steps ≤ st.steps + sumBounds d evs
  | [], st, hP => ⟨st, rfl, hP, Nat.le_add_right _ _⟩
  | e :: es, st, hP => by
    obtain ⟨st1, errs, h1, p1, k1⟩ := overlappingFieldsStep_ok s d st e hP
    obtain ⟨st2, h2, p2, k2⟩ := overlapFold_steps s d es st1 p1
    refine ⟨st2, by simp only [overlapFold, h1, h2], p2, ?_⟩
    simp only [sumBounds, List.map_cons, sumNat_cons] at k2 ⊢
    omega

theorem overlap_running_step (s : SV) (d : QueryDoc) (st : OSt) (e : Event) :
    Running.step s d { rule := overlappingFieldsCanBeMerged, st := st } e =
      match overlappingFieldsStep s d st e with
      | .ok st' errs => .ok ({ rule := overlappingFieldsCanBeMerged, st := st' },
          errs.map (RErr.toErr overlappingFieldsCanBeMerged.name))
      | .panic m => .error m := by
  simp only [Running.step, overlappingFieldsCanBeMerged]
  cases overlappingFieldsStep s d st e <;> rfl

theorem validateV_of_safe {Pe : Event → Prop} (rs : List Rule) (s : SV) (d : QueryDoc)
    (hev : ∀ evs, walkDoc s d = some evs → ∀ e ∈ evs, Pe e) (hr : ∀ r ∈ rs, r.start.Safe Pe) :
    ∃ errs, validateV rs s d = .ok errs := by
  obtain ⟨evs, hw⟩ := walkDoc_isSome s d
  obtain ⟨errs, he⟩ := (runAll_ok_iff (s := s) (d := d) evs (rs.map Rule.start)).2 fun q hq => by
    obtain ⟨r, hr', rfl⟩ := List.mem_map.1 hq
    exact (hr r hr').run (hev evs hw)
  exact ⟨errs, by simp only [validateV, hw, he]⟩

theorem validateV_safe (rs : List Rule) (s : SV) (d : QueryDoc)
    (hd : ∀ op ∈ d.ops, op.op ∈ parserOpKinds)
    (h : ∀ r ∈ rs, r.NeverPanics ∨ r = knownRootType ∨ r = overlappingFieldsCanBeMerged) :
    ∃ errs, validateV rs s d = .ok errs := by
  refine validateV_of_safe (Pe := OpKindOK) rs s d
    (fun evs hw e he op u hp => hd op (walkDoc_opsIn s d evs hw e he op u hp)) fun r hr => ?_
  rcases h r hr with h1 | rfl | rfl
  · exact (h1.on OpKindOK).safe _
  · exact knownRootType_neverPanicsOn.safe _
  · exact overlap_safe _

theorem validateV_safe' (rs : List Rule) (s : SV) (d : QueryDoc)
    (h : ∀ r ∈ rs, r.NeverPanics ∨ r = overlappingFieldsCanBeMerged) :
    ∃ errs, validateV rs s d = .ok errs := by
  refine validateV_of_safe (Pe := fun _ => True) rs s d (fun _ _ _ _ => trivial) fun r hr => ?_
  rcases h r hr with h1 | rfl
  · exact (h1.on _).safe _
  · exact overlap_safe _

end Gql.Validate
