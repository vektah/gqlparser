import GqlModel.Effects
/- the commutation argument behind C11_interleaving_equiv -/
namespace Gql.Effects

variable {σ ρ : Type}

theorem applyWrites_other (h : Heap) (ws : List Write) (l : Loc) (hl : ∀ w ∈ ws, w.1 ≠ l) :
    applyWrites h ws l = h l := by
  induction ws generalizing h with
  | nil => rfl
  | cons w rest ih =>
    obtain ⟨l', v⟩ := w
    have h1 : l' ≠ l := hl (l', v) (List.mem_cons_self ..)
    have h2 : ∀ w ∈ rest, w.1 ≠ l := fun w hw => hl w (List.mem_cons_of_mem _ hw)
    simp only [applyWrites]
    rw [ih _ h2]
    simp [Ne.symm h1]

theorem applyWrites_congr (h h' : Heap) (ws : List Write) (l : Loc) (e : h l = h' l) :
    applyWrites h ws l = applyWrites h' ws l := by
  induction ws generalizing h h' with
  | nil => exact e
  | cons w rest ih =>
    obtain ⟨l', v⟩ := w
    simp only [applyWrites]
    apply ih
    by_cases hl : l = l' <;> simp [hl, e]

theorem owns_not_readable_other {i k : Nat} (hik : k ≠ i) {l : Loc} (h : owns k l) : ¬ readable i l := by
  intro hr
  rcases h with h | h | h <;> rcases hr with hr | hr | hr | hr <;> rw [h] at hr <;>
    first
      | exact Owner.noConfusion hr
      | (injection hr with e; exact hik e)

theorem owns_not_schema {k : Nat} {l : Loc} (h : owns k l) : l.owner ≠ .schema := by
  rcases h with h | h | h <;> rw [h] <;> intro e <;> exact Owner.noConfusion e

theorem stepCall_agree (calls : Nat → Call σ ρ) (i : Nat) (hd : Disciplined i (calls i))
    (c c' : Config σ) (ha : Agree i c c') : Agree i (stepCall calls i c) (stepCall calls i c') := by
  obtain ⟨hst, hheap⟩ := ha
  have hstep : (calls i).step (c.st i) c.heap = (calls i).step (c'.st i) c'.heap := by
    rw [hst]; exact hd.reads _ _ _ hheap
  unfold stepCall
  rw [← hstep]
  cases hs : (calls i).step (c.st i) c.heap with
  | none => exact ⟨hst, hheap⟩
  | some r =>
    obtain ⟨s', ws⟩ := r
    refine ⟨by simp [setSt], ?_⟩
    intro l hl
    exact applyWrites_congr _ _ ws l (hheap l hl)

theorem stepCall_other (calls : Nat → Call σ ρ) (i k : Nat) (hik : k ≠ i) (hd : Disciplined k (calls k))
    (c : Config σ) : Agree i (stepCall calls k c) c := by
  unfold stepCall
  cases hs : (calls k).step (c.st k) c.heap with
  | none => exact ⟨rfl, fun _ _ => rfl⟩
  | some r =>
    obtain ⟨s', ws⟩ := r
    refine ⟨by simp [setSt, Ne.symm hik], ?_⟩
    intro l hl
    apply applyWrites_other
    intro w hw e
    exact owns_not_readable_other hik (e ▸ hd.writes _ _ _ _ hs w hw) hl

theorem Agree.trans {i : Nat} {a b c : Config σ} (h1 : Agree i a b) (h2 : Agree i b c) : Agree i a c :=
  ⟨h1.1.trans h2.1, fun l hl => (h1.2 l hl).trans (h2.2 l hl)⟩

theorem Agree.refl (i : Nat) (a : Config σ) : Agree i a a := ⟨rfl, fun _ _ => rfl⟩

theorem run_agree_alone (calls : Nat → Call σ ρ) (hd : ∀ k, Disciplined k (calls k)) (i : Nat)
    (sched : List Nat) : ∀ c c' : Config σ, Agree i c c' →
      Agree i (run calls sched c) (runAlone calls i (sched.count i) c') := by
  induction sched with
  | nil => intro c c' h; simpa [run, runAlone] using h
  | cons k ks ih =>
    intro c c' h
    by_cases hk : k = i
    · subst hk
      have h' := stepCall_agree calls k (hd k) c c' h
      have := ih _ _ h'
      simpa [run, runAlone, List.count_cons_self, List.replicate_succ] using this
    · have h' : Agree i (stepCall calls k c) c' := (stepCall_other calls i k hk (hd k) c).trans h
      have := ih _ _ h'
      have hc : (k :: ks).count i = ks.count i := by
        simp [hk]
      simpa [run, hc] using this

theorem stepCall_schema (calls : Nat → Call σ ρ) (k : Nat) (hd : Disciplined k (calls k)) (c : Config σ)
    (l : Loc) (hl : l.owner = .schema) : (stepCall calls k c).heap l = c.heap l := by
  unfold stepCall
  cases hs : (calls k).step (c.st k) c.heap with
  | none => rfl
  | some r =>
    obtain ⟨s', ws⟩ := r
    apply applyWrites_other
    intro w hw e
    exact owns_not_schema (hd.writes _ _ _ _ hs w hw) (e ▸ hl)

theorem run_schema (calls : Nat → Call σ ρ) (hd : ∀ k, Disciplined k (calls k)) (sched : List Nat) :
    ∀ c : Config σ, ∀ l : Loc, l.owner = .schema → (run calls sched c).heap l = c.heap l := by
  induction sched with
  | nil => intro c l _; rfl
  | cons k ks ih =>
    intro c l hl
    simp only [run]
    rw [ih _ l hl, stepCall_schema calls k (hd k) c l hl]

theorem storesMatch_of_keys : ∀ (ss : List Gen.Store) (l : List (StoreKey × StoreClass)),
    ss.map keyOf = l.map (·.1) → l.all (fun kc => kc.2 != .schema) = true → storesMatch ss l = true
  | [], [], _, _ => rfl
  | s :: ss, (k, c) :: rest, hk, hc => by
    simp only [List.map_cons, List.cons.injEq] at hk
    simp only [List.all_cons, Bool.and_eq_true] at hc
    simp only [storesMatch, Bool.and_eq_true]
    exact ⟨⟨by rw [hk.1]; exact beq_self_eq_true k, hc.1⟩, storesMatch_of_keys ss rest hk.2 hc.2⟩
  | [], _ :: _, h, _ => by cases h
  | _ :: _, [], h, _ => by cases h

theorem accountedStores_not_schema : accountedStores.all (fun kc => kc.2 != .schema) = true := by decide +kernel

end Gql.Effects
