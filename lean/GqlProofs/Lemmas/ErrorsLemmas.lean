import GqlModel.Errors
/-
  For C20.  An error path survives its JSON encoding (`decElems_enc`, for elements within `ElemInDomain`; an
  index read through float64 is exact up to 2^53, `indexThroughFloat_small`, and every int64 is read back
  exactly, `indexOfNumber_int64`), and the encoded locations and path elements have the shape of the
  response format (`isLocationObj_enc`, `isPathElemJson_enc`).
-/
namespace Gql.Errors
open Gql Gql.Json

theorem two53 : (2 : Nat) ^ 53 = 9007199254740992 := by decide
theorem two63 : (2 : Int) ^ 63 = 9223372036854775808 := by decide

theorem roundNat53_le (n : Nat) (h : n ≤ 2 ^ 53) : roundNat53 n = n := by
  by_cases hlt : n < 2 ^ 53
  · simp [roundNat53, hlt]
  · have : n = 2 ^ 53 := by omega
    subst this
    decide

theorem indexThroughFloat_small (i : Int) (h : i.natAbs ≤ 2 ^ 53) : indexThroughFloat i = i := by
  have h53 := two53
  unfold indexThroughFloat float64OfInt goIntOfFloat
  rw [roundNat53_le i.natAbs h, two63]
  split <;> (rw [if_neg (by omega)]; omega)

theorem indexOfNumber_int64 (i : Int) (h : -(2 ^ 63 : Int) ≤ i ∧ i < (2 ^ 63 : Int)) : indexOfNumber i = i := by
  unfold indexOfNumber
  rw [if_pos h]

theorem toList_ofList (xs : List Json) : (JList.ofList xs).toList = xs := by
  induction xs with
  | nil => rfl
  | cons x rest ih => simp [JList.ofList, JList.toList, ih]

/-- an element that survives the trip: a UTF-8 clean name, or an index that is a Go `int` -/
def ElemInDomain : PathElem → Prop
  | .name n => sanitize n = n
  | .index i => -(2 ^ 63 : Int) ≤ i ∧ i < (2 ^ 63 : Int)

theorem decElem_encElem (e : PathElem) (h : ElemInDomain e) : decElem (encElem e) = .ok e := by
  cases e with
  | name n => simp [encElem, decElem, show sanitize n = n from h]
  | index i => simp [encElem, decElem, indexOfNumber_int64 i h]

theorem decElems_enc (p : Path) (h : ∀ e ∈ p, ElemInDomain e) : decElems (p.map encElem) = .ok p := by
  induction p with
  | nil => rfl
  | cons e rest ih =>
    have h1 := decElem_encElem e (h e (List.mem_cons_self ..))
    have h2 := ih (fun x hx => h x (List.mem_cons_of_mem _ hx))
    simp [decElems, h1, h2, bind, Except.bind, pure, Except.pure]


theorem isLocationObj_enc (l : Location) (h1 : 1 ≤ l.line) (h2 : 1 ≤ l.column) :
    isLocationObj (encLocation l) = true := by
  have a : l.line ≠ 0 := by omega
  have b : l.column ≠ 0 := by omega
  simp [encLocation, a, b, JFields.ofList, isLocationObj, h1, h2]

theorem isPathElemJson_enc (e : PathElem) : isPathElemJson (encElem e) = true := by
  cases e <;> rfl

theorem all_ofList_map {α} (f : α → Json) (p : Json → Bool) (xs : List α) (h : ∀ x ∈ xs, p (f x) = true) :
    (JList.ofList (xs.map f)).toList.all p = true := by
  rw [toList_ofList]
  simp only [List.all_eq_true, List.mem_map]
  rintro _ ⟨x, hx, rfl⟩
  exact h x hx

theorem extGet_extSet (k : Bytes) (v : Json) (l : List (Bytes × Json)) : extGet k (extSet k v l) = some v := by
  induction l with
  | nil => simp [extSet, extGet]
  | cons kv rest ih =>
    obtain ⟨k', v'⟩ := kv
    unfold extSet
    by_cases h1 : k' = k
    · simp [h1, extGet]
    · by_cases h2 : k < k'
      · simp [h1, h2, extGet]
      · simp [h1, h2, extGet, ih]

end Gql.Errors
