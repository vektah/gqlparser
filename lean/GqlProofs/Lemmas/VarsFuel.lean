import GqlProofs.Lemmas.ConformsLemmas
/- the fuel `coerce` supplies to `validateVarType` suffices: `outOfFuel` is never the outcome -/
namespace Gql
open Gql.Strconv


theorem GoFields.lookup_size : ∀ (kvs : GoFields) (k : Bytes) (x : GoVal), kvs.lookup k = some x → x.size < kvs.size
  | .nil, _, _, h => by simp [GoFields.lookup] at h
  | .cons a w r, k, x, h => by
    simp only [GoFields.lookup] at h
    simp only [GoFields.size]
    split at h
    · cases h; omega
    · have := GoFields.lookup_size r k x h; omega

theorem mul_step {a b K : Nat} (h : a < b) : a * K + K ≤ b * K :=
  Nat.succ_mul a K ▸ Nat.mul_le_mul_right K h

theorem listLoop_fuel (f : Path → GoVal → Res GoVal) (path : Path) (b1 b2 : Bool) (n : Nat)
    (hf : ∀ p x, x.size < n → NotFuel (f p x)) :
    ∀ (xs : GoVals) (i : Nat), xs.size ≤ n → NotFuel (listLoop f path b1 b2 i xs)
  | .nil, i, _ => trivial
  | .cons x rest, i, hs => by
    simp only [GoVals.size] at hs
    rw [listLoop_cons]
    split
    · trivial
    · exact (hf _ x (by omega)).bind fun _ _ =>
        (listLoop_fuel f path b1 b2 n hf rest (i + 1) (by omega)).bind fun _ _ => trivial

/-- the field loop looks every field up under ITS OWN name: with different field names the entries
    it meets are entries of the original map -/
theorem fieldLoop_fuel (f : Path → GType → GoVal → Res GoVal) (path : Path) (D n : Nat)
    (hf : ∀ p t x, t.depth ≤ D → x.size < n → NotFuel (f p t x)) :
    ∀ (fields : List FieldDef) (elem : GoType) (kvs : GoFields),
      (fields.map (·.name)).Nodup → (∀ fd ∈ fields, fd.type.depth ≤ D) →
      (∀ fd ∈ fields, ∀ x, kvs.lookup fd.name = some x → x.size < n) →
      NotFuel (fieldLoop f path fields elem kvs)
  | [], elem, kvs, _, _, _ => trivial
  | fd :: rest, elem, kvs, hnd, hD, hsz => by
    simp only [List.map_cons, List.nodup_cons, List.mem_map, not_exists, not_and] at hnd
    have ih := fun e2 k2 h2 => fieldLoop_fuel f path D n hf rest e2 k2 hnd.2 (fun fd' h => hD fd' (by simp [h])) h2
    have hsame : ∀ fd' ∈ rest, ∀ x, kvs.lookup fd'.name = some x → x.size < n := fun fd' h => hsz fd' (by simp [h])
    rw [fieldLoop_cons]
    cases hl : kvs.lookup fd.name with
    | none => simp only []; repeat' split
              all_goals first | trivial | exact ih elem kvs hsame
    | some x =>
      simp only []
      split
      · split
        · trivial
        · exact ih elem kvs hsame
      · refine (hf _ fd.type x (hD fd (by simp)) (hsz fd (by simp) x hl)).bind fun cval _ => ?_
        split
        · trivial
        · refine ih _ _ fun fd' hfd' x' hx' => hsame fd' hfd' x' ?_
          have hne : fd.name ≠ fd'.name := fun e => hnd.1 fd' hfd' e.symm
          simpa [GoFields.lookup_set, hne] using hx'

def FieldDepthsLe (s : Schema) (D : Nat) : Prop :=
  ∀ n d, s.type? n = some d → ∀ fd ∈ d.fields, fd.type.depth ≤ D

/-- each call strips a list layer off the type or moves to a strictly smaller value -/
theorem validateVarType_fuel (s : Schema) (D : Nat) (hD : FieldDepthsLe s D) (hfn : InputFieldsNodup s) :
    ∀ (fuel : Nat) (path : Path) (typ : GType) (val : GoVal),
      typ.depth ≤ D → val.size * (D + 2) + typ.depth < fuel → NotFuel (validateVarType s fuel path typ val)
  | 0, _, _, _, _, h => by omega
  | fuel + 1, path, typ, val, htd, hm => by
    have ih := validateVarType_fuel s D hD hfn fuel
    cases typ with
    | list e nn p =>
      simp only [GType.depth] at htd hm
      cases hty : val.type? with
      | none => cases (GoVal.type?_none_iff val).mp hty; trivial
      | some t =>
        by_cases hsl : ∃ t xs, val = GoVal.slice t xs
        · obtain ⟨t, xs, rfl⟩ := hsl
          rw [validateVarType_list_slice]
          refine (listLoop_fuel _ path _ _ xs.size (fun p x hx => ih p e x (by omega) ?_) xs 0 (Nat.le_refl _)).bind
            fun _ _ => trivial
          simp only [GoVal.size] at hm
          have := mul_step (K := D + 2) (show x.size < xs.size + 1 by omega)
          omega
        · rw [validateVarType_list_single s fuel path e nn p hty fun t xs h => hsl ⟨t, xs, h⟩]
          exact (ih _ e val (by omega) (by omega)).bind fun _ _ => trivial
    | named n nn p =>
      by_cases hmap : ∃ d elem kvs, s.type? n = some d ∧ d.kind = .inputObject ∧ val = .map elem kvs
      · obtain ⟨d, elem, kvs, hd, hk, rfl⟩ := hmap
        rw [validateVarType_inputObject s fuel path nn p hd hk]
        split
        · trivial
        · refine (fieldLoop_fuel _ path D kvs.size (fun p t x ht hx => ih p t x ht ?_) d.fields elem kvs (hfn n d hd hk)
            (hD n d hd) fun fd _ x hx => GoFields.lookup_size kvs fd.name x hx).bind fun _ _ => trivial
          simp only [GoVal.size, GType.depth] at hm
          have h1 := mul_step (K := D + 2) hx
          have h2 : kvs.size * (D + 2) ≤ (kvs.size + 1) * (D + 2) := Nat.mul_le_mul_right _ (by omega)
          omega
      · exact (validateVarType_leaf s fuel path n nn p val fun d hd hk e kvs h => hmap ⟨d, e, kvs, hd, hk, h⟩).imp
          fun _ _ => trivial


theorem foldl_max_ge_init : ∀ (l : List Nat) (a : Nat), a ≤ l.foldl max a
  | [], a => Nat.le_refl a
  | x :: r, a => Nat.le_trans (Nat.le_max_left a x) (foldl_max_ge_init r (max a x))

theorem foldl_max_ge : ∀ (l : List Nat) (a x : Nat), x ∈ l → x ≤ l.foldl max a
  | y :: r, a, x, h => by
    rcases List.mem_cons.mp h with e | h'
    · subst e; exact Nat.le_trans (Nat.le_max_right a x) (foldl_max_ge_init r _)
    · exact foldl_max_ge r _ x h'

theorem fieldDepths_maxTypeDepth (s : Schema) (op : OperationDef) : FieldDepthsLe s (maxTypeDepth s op) := by
  intro n d hd fd hfd
  have h1 : fd.type.depth ≤ (d.fields.map fun f => f.type.depth).foldl max 0 :=
    foldl_max_ge _ 0 _ (List.mem_map.mpr ⟨fd, hfd, rfl⟩)
  have h2 : (d.fields.map fun f => f.type.depth).foldl max 0 ≤
      (s.types.map fun (p : Name × Definition) => (p.2.fields.map fun f => f.type.depth).foldl max 0).foldl max 0 :=
    foldl_max_ge _ 0 _ (List.mem_map.mpr ⟨(n, d), lookup_mem hd, rfl⟩)
  exact Nat.le_trans h1 (Nat.le_trans h2 (Nat.le_max_left _ _))

theorem varDepth_maxTypeDepth (s : Schema) (op : OperationDef) (v : VarDef) (hv : v ∈ op.vars) :
    v.type.depth ≤ maxTypeDepth s op :=
  Nat.le_trans (foldl_max_ge _ 0 _ (List.mem_map.mpr ⟨v, hv, rfl⟩)) (Nat.le_max_right _ _)


theorem ConvRes.bind_ne_diverge {α β : Type} {r : ConvRes α} {k : α → ConvRes β}
    (hr : r ≠ .diverge) (hk : ∀ a, k a ≠ .diverge) : r.bind k ≠ .diverge := by
  cases r <;> first | exact hk _ | exact absurd rfl hr | (intro h; cases h)

mutual
  theorem vvw_noDiverge (dflt : Name → Option (ConvRes GoVal)) (vars : VarMap) (hd : ∀ n, dflt n ≠ some .diverge) :
      (v : Value) → valueValueWith dflt vars v ≠ .diverge
    | .mk kind raw ch p => by
      cases kind
      case «variable» =>
        simp only [valueValueWith]
        cases vars.lookup raw with
        | some x => exact nofun
        | none =>
          cases h2 : dflt raw with
          | none => exact nofun
          | some r => exact fun e => hd raw (by rw [h2, ← e])
      case list => exact valueValueWith_list .. ▸ ConvRes.bind_ne_diverge (lvw_noDiverge dflt vars hd ch) fun _ => nofun
      case object =>
        exact valueValueWith_object .. ▸ ConvRes.bind_ne_diverge (ovw_noDiverge dflt vars hd ch .nil) fun _ => nofun
      all_goals
        simp only [valueValueWith]
        intro h
        first | cases h | (split at h <;> cases h)
  theorem lvw_noDiverge (dflt : Name → Option (ConvRes GoVal)) (vars : VarMap) (hd : ∀ n, dflt n ≠ some .diverge) :
      (c : Children) → listValueWith dflt vars c ≠ .diverge
    | .nil => nofun
    | .cons _ v _ rest =>
      listValueWith_cons .. ▸ ConvRes.bind_ne_diverge (vvw_noDiverge dflt vars hd v) fun _ =>
        ConvRes.bind_ne_diverge (lvw_noDiverge dflt vars hd rest) fun _ => nofun
  theorem ovw_noDiverge (dflt : Name → Option (ConvRes GoVal)) (vars : VarMap) (hd : ∀ n, dflt n ≠ some .diverge) :
      (c : Children) → ∀ acc, objectValueWith dflt vars c acc ≠ .diverge
    | .nil, _ => nofun
    | .cons n v _ rest, acc =>
      objectValueWith_cons .. ▸ ConvRes.bind_ne_diverge (vvw_noDiverge dflt vars hd v) fun x =>
        ovw_noDiverge dflt vars hd rest (acc.set n x)
end

theorem valueValueConst_noDiverge (dv : Value) : valueValueConst dv ≠ .diverge :=
  vvw_noDiverge _ .nil (by intro n; simp [findVarDef]) dv


theorem jsonNumberPre_size {typ : GType} {val rv : GoVal} (h : jsonNumberPre typ val = .ok rv) : rv.size = val.size := by
  rcases jsonNumberPre_ok h with rfl | ⟨t, rfl, ⟨_, i, _, rfl⟩ | ⟨_, _, rfl⟩⟩ <;> rfl

theorem suppliedValue_fuel (vars : VarMap) (v : VarDef) : NotFuel (suppliedValue vars v) := by
  unfold suppliedValue
  cases vars.lookup v.var with
  | some x => trivial
  | none =>
    simp only []
    cases hd : v.default with
    | none => simp only []; split <;> trivial
    | some dv =>
      simp only []
      have := valueValueConst_noDiverge dv
      revert this
      cases valueValueConst dv <;> simp [NotFuel, Res.Sat]

theorem coerceVar_fuel (s : Schema) (hfn : InputFieldsNodup s) (op : OperationDef) (vars : VarMap) (v : VarDef) (hv : v ∈ op.vars)
    (coerced : GoFields) : NotFuel (coerceVar s op vars v coerced) := by
  rw [coerceVar_eq]
  split
  · trivial
  · split
    · trivial
    · refine (suppliedValue_fuel vars v).bind fun o _ => ?_
      cases o with
      | none => trivial
      | some val =>
        simp only []
        rw [coerceSupplied_eq]
        split
        · split <;> trivial
        · split
          · trivial
          · rename_i rv _
            have hdep := varDepth_maxTypeDepth s op v hv
            refine (validateVarType_fuel s (maxTypeDepth s op) (fieldDepths_maxTypeDepth s op) hfn (fuelFor s op rv)
              (varPath v) v.type rv hdep ?_).bind fun _ _ => by split <;> trivial
            have : rv.size * (maxTypeDepth s op + 2) + (maxTypeDepth s op + 2) ≤ (rv.size + 1) * (maxTypeDepth s op + 2) :=
              mul_step (Nat.lt_succ_self _)
            simp only [fuelFor]
            omega

end Gql
