/-
  Lists that model Go maps and slices, as every directory of the proofs reads them: association
  lists under `List.lookup`, lists searched by a key with `List.find?`, what distinct keys
  (`(l.map key).Nodup`) give, lists (and options) with the same image under two maps, a filter
  whose test implies another's, and what `filterMap` selects from a stable sort.  Core has
  `lookup_eq_some_iff`, `find?_eq_none`, `filter_filter`; the statements below are the forms the
  proofs use.  No model file is imported: the key type is any type with a lawful `==`.
-/
namespace Gql


theorem mem_of_lookup {α β} [BEq α] [LawfulBEq α] {l : List (α × β)} {k : α} {v : β} (h : l.lookup k = some v) : (k, v) ∈ l := by
  obtain ⟨l₁, l₂, rfl, _⟩ := List.lookup_eq_some_iff.1 h
  simp

variable {κ : Type _} [BEq κ] [LawfulBEq κ]

theorem lookup_cons_ite {α} [DecidableEq κ] (k k' : κ) (v : α) (l : List (κ × α)) :
    ((k', v) :: l).lookup k = if k = k' then some v else l.lookup k := by
  rw [List.lookup_cons]
  by_cases h : k = k'
  · rw [if_pos h, beq_iff_eq.mpr h]
  · rw [if_neg h, beq_eq_false_iff_ne.mpr h]

theorem lookup_isSome_iff_mem_keys {α} {k : κ} {l : List (κ × α)} :
    (l.lookup k).isSome ↔ k ∈ l.map Prod.fst := by
  simp only [List.lookup_isSome_iff, List.mem_map, beq_iff_eq]
  exact ⟨fun ⟨p, hp, e⟩ => ⟨p, hp, e.symm⟩, fun ⟨p, hp, e⟩ => ⟨p, hp, e.symm⟩⟩

theorem lookup_of_mem_nodup {α} {k : κ} {v : α} {l : List (κ × α)} (hn : (l.map Prod.fst).Nodup)
    (h : (k, v) ∈ l) : l.lookup k = some v := by
  induction l with
  | nil => simp at h
  | cons p rest ih =>
    obtain ⟨k', v'⟩ := p
    simp only [List.map_cons, List.nodup_cons, List.mem_map, not_exists, not_and] at hn
    rw [List.lookup_cons]
    rcases List.mem_cons.mp h with h | h
    · simp_all
    · rw [beq_eq_false_iff_ne.mpr (hn.1 _ h), ih hn.2 h]

theorem mem_iff_lookup {α} {l : List (κ × α)} (hn : (l.map Prod.fst).Nodup) (k : κ) (v : α) :
    (k, v) ∈ l ↔ l.lookup k = some v :=
  ⟨lookup_of_mem_nodup hn, mem_of_lookup⟩

theorem lookup_map_key {α} (key : α → κ) (l : List α) (n : κ) :
    (l.map fun d => (key d, d)).lookup n = l.find? (key · == n) := by
  induction l with
  | nil => rfl
  | cons d rest ih =>
    by_cases h : key d = n
    · simp [h]
    · have h' : (n == key d) = false := beq_eq_false_iff_ne.mpr (Ne.symm h)
      simp [List.lookup_cons, h, h', ih]

omit [LawfulBEq κ] in
theorem lookup_mapSnd {α β} (f : α → β) (l : List (κ × α)) (n : κ) :
    (l.map fun p => (p.1, f p.2)).lookup n = (l.lookup n).map f := by
  induction l with
  | nil => rfl
  | cons p rest ih =>
    obtain ⟨k, v⟩ := p
    simp only [List.map_cons, List.lookup]
    split <;> simp [ih]

theorem perm_lookup {α} {l l' : List (κ × α)} (hp : l'.Perm l) (hn : (l.map Prod.fst).Nodup) (n : κ) :
    l'.lookup n = l.lookup n := by
  cases h : l.lookup n with
  | some v => exact lookup_of_mem_nodup ((hp.map _).nodup_iff.mpr hn) (hp.mem_iff.mpr (mem_of_lookup h))
  | none =>
    cases h' : l'.lookup n with
    | none => rfl
    | some v => rw [lookup_of_mem_nodup hn (hp.mem_iff.mp (mem_of_lookup h'))] at h; cases h

omit [BEq κ] [LawfulBEq κ] in
theorem nodup_of_keys_nodup {α} {l : List (κ × α)} (hn : (l.map Prod.fst).Nodup) : l.Nodup := by
  induction l with
  | nil => exact List.nodup_nil
  | cons p rest ih =>
    simp only [List.map_cons, List.nodup_cons] at hn ⊢
    exact ⟨fun h => hn.1 (List.mem_map.mpr ⟨p, h, rfl⟩), ih hn.2⟩

theorem perm_of_lookup_eq {α} {l l' : List (κ × α)} (hn : (l.map Prod.fst).Nodup) (hn' : (l'.map Prod.fst).Nodup)
    (h : ∀ n, l'.lookup n = l.lookup n) : l'.Perm l := by
  rw [List.perm_ext_iff_of_nodup (nodup_of_keys_nodup hn') (nodup_of_keys_nodup hn)]
  intro p
  obtain ⟨k, v⟩ := p
  rw [mem_iff_lookup hn', mem_iff_lookup hn, h]


theorem find?_key_of_mem {α} (key : α → κ) {l : List α} (hn : (l.map key).Nodup) {x : α} (hx : x ∈ l) :
    l.find? (fun y => key y == key x) = some x := by
  rw [← lookup_map_key]
  exact lookup_of_mem_nodup (by simpa [List.map_map, Function.comp_def] using hn) (List.mem_map.mpr ⟨x, hx, rfl⟩)

theorem find?_key_none {α} (key : α → κ) {l : List α} {n : κ} (h : ∀ y ∈ l, key y ≠ n) :
    l.find? (fun y => key y == n) = none := by
  rw [List.find?_eq_none]
  intro y hy
  simpa using h y hy

theorem find?_key_some {α} (key : α → κ) {l : List α} {n : κ} {x : α} (h : l.find? (fun y => key y == n) = some x) :
    x ∈ l ∧ key x = n :=
  ⟨List.mem_of_find?_eq_some h, by simpa using List.find?_some h⟩

theorem find_key_perm {α} (key : α → κ) {l l' : List α} (hp : l'.Perm l) (hn : (l.map key).Nodup) (n : κ) :
    l'.find? (key · == n) = l.find? (key · == n) := by
  rw [← lookup_map_key, ← lookup_map_key]
  exact perm_lookup (hp.map _) (by simpa [List.map_map, Function.comp_def] using hn) n


theorem exists_of_map_eq_left {α β γ} {f : α → γ} {g : β → γ} {l₁ : List α} {l₂ : List β} (h : l₁.map f = l₂.map g)
    {a : α} (ha : a ∈ l₁) : ∃ b ∈ l₂, f a = g b := by
  have : f a ∈ l₂.map g := h ▸ List.mem_map.mpr ⟨a, ha, rfl⟩
  obtain ⟨b, hb, e⟩ := List.mem_map.mp this
  exact ⟨b, hb, e.symm⟩

theorem exists_of_map_eq_right {α β γ} {f : α → γ} {g : β → γ} {l₁ : List α} {l₂ : List β} (h : l₁.map f = l₂.map g)
    {b : β} (hb : b ∈ l₂) : ∃ a ∈ l₁, f a = g b := by
  have : g b ∈ l₁.map f := h ▸ List.mem_map.mpr ⟨b, hb, rfl⟩
  obtain ⟨a, ha, e⟩ := List.mem_map.mp this
  exact ⟨a, ha, e⟩

theorem exists_of_map_eq_some {α β} {f : α → β} {o o' : Option α} (h : o'.map f = o.map f) {x' : α} (hx : o' = some x') :
    ∃ x, o = some x ∧ f x' = f x := by
  subst hx
  cases o with
  | none => cases h
  | some x => exact ⟨x, rfl, Option.some.inj h⟩


theorem filter_filter_of_imp {α} (p q : α → Bool) (h : ∀ x, q x = true → p x = true) (l : List α) :
    (l.filter p).filter q = l.filter q := by
  rw [List.filter_filter]
  congr 1
  funext x
  cases hq : q x
  · rfl
  · simp [h x hq]

theorem filter_length_le_of_imp {α} (p q : α → Bool) (h : ∀ x, q x = true → p x = true) :
    ∀ l : List α, (l.filter q).length ≤ (l.filter p).length := by
  intro l
  rw [← filter_filter_of_imp p q h]
  exact List.filter_sublist.length_le

theorem filter_length_lt_of_imp {α} (p q : α → Bool) (h : ∀ x, q x = true → p x = true) (x0 : α)
    (hp0 : p x0 = true) (hq0 : q x0 = false) :
    ∀ l : List α, x0 ∈ l → (l.filter q).length + 1 ≤ (l.filter p).length := by
  intro l hm
  rw [← filter_filter_of_imp p q h]
  exact List.length_filter_lt_length_iff_exists.2 ⟨x0, List.mem_filter.2 ⟨hm, hp0⟩, by simp [hq0]⟩


/-- a loop that writes nothing for the elements it skips -/
theorem flatMap_ite_nil {α β} (k : α → Bool) (p : α → List β) (xs : List α) :
    xs.flatMap (fun x => if k x = true then p x else []) = ((xs.filter k).map p).flatten := by
  induction xs with
  | nil => rfl
  | cons x xs ih => cases h : k x <;> simp [h, ih]

theorem length_eq_zero_of_map {α β} {f : α → β} {ys xs : List α} (h : ys.map f = xs.map f) :
    ys.length = 0 ↔ xs = [] := by
  rw [← List.length_eq_zero_iff, ← List.length_map (as := ys) f, h, List.length_map]

theorem filterMap_none' {α β} (l : List α) : l.filterMap (fun _ => (none : Option β)) = [] := by
  induction l <;> simp_all

theorem flatMap_nil' {α β} (l : List α) : l.flatMap (fun _ => ([] : List β)) = [] := by simp

theorem filterMap_mergeSort {α β} (key : α → Nat) (l : List α) (get : α → Option β) (mk : β → α)
    (hget : ∀ y, get (mk y) = some y) (hmk : ∀ x y, get x = some y → mk y = x)
    (hsorted : (l.filterMap get).Pairwise fun a b => key (mk a) ≤ key (mk b)) :
    (l.mergeSort fun a b => decide (key a ≤ key b)).filterMap get = l.filterMap get := by
  have hsub : ((l.filterMap get).map mk).Sublist l := by
    induction l with
    | nil => exact .slnil
    | cons x l ih =>
      cases hx : get x with
      | none => rw [List.filterMap_cons_none hx]; exact .cons _ (ih (by rwa [List.filterMap_cons_none hx] at hsorted))
      | some y =>
        rw [List.filterMap_cons_some hx] at hsorted ⊢
        rw [List.map_cons, hmk x y hx]
        exact .cons_cons _ (ih hsorted.of_cons)
  have hs := (List.sublist_mergeSort (le := fun a b => decide (key a ≤ key b))
    (fun a b c => by simp only [decide_eq_true_eq]; omega) (fun a b => by simp only [Bool.or_eq_true, decide_eq_true_eq]; omega)
    (List.pairwise_map.2 (hsorted.imp fun h => decide_eq_true h)) hsub).filterMap get
  rw [List.filterMap_map, show get ∘ mk = some from funext hget, List.filterMap_some] at hs
  exact (hs.eq_of_length ((List.mergeSort_perm l _).filterMap get).length_eq.symm).symm

end Gql
