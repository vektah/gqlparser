import GqlModel.ArgMap
import GqlModel.Vars.Spec
import GqlProofs.Lemmas.FloatLexeme
/-
  For C15.  The literal conversion of `arg2map` (`valueValueWith`) succeeds on literals as the lexer writes
  them (`valueValue_ok`; an integer lexeme is never a syntax error for `strconv.ParseInt`, `parseInt_lexeme`)
  and agrees with the specification (`valueValue_agree`); `argValueRes` is the value one iteration of
  `arg2map` enters for an argument, and `arg2mapLoop_spec` says what the whole loop builds.
-/
namespace Gql
open Gql.Strconv


theorem GoFields.lookup_set (m : GoFields) (k k' : Bytes) (v : GoVal) :
    (m.set k v).lookup k' = if k = k' then some v else m.lookup k' := by
  fun_induction GoFields.set k v m with
  | case1 => simp [GoFields.lookup]
  | case2 w r => simp only [GoFields.lookup]; split <;> simp_all
  | case3 a w r h ih =>
    simp only [GoFields.lookup, ih]
    by_cases h2 : a = k'
    · subst h2; simp [Ne.symm h]
    · simp [h2]

theorem GoFields.contains_set (m : GoFields) (k k' : Bytes) (v : GoVal) :
    (m.set k v).contains k' = (decide (k = k') || m.contains k') := by
  simp only [GoFields.contains, GoFields.lookup_set]
  by_cases h : k = k' <;> simp [h]


namespace ConvRes
variable {α β : Type}

def bind (r : ConvRes α) (k : α → ConvRes β) : ConvRes β :=
  match r with
  | .ok a => k a
  | .err e => .err e
  | .diverge => .diverge

theorem bind_eq_ok {r : ConvRes α} {k : α → ConvRes β} {b : β} (h : r.bind k = .ok b) :
    ∃ a, r = .ok a ∧ k a = .ok b := by
  cases r <;> first | exact ⟨_, rfl, h⟩ | cases h

end ConvRes

theorem valueValueWith_list (dflt : Name → Option (ConvRes GoVal)) (vars : VarMap) (raw : Bytes) (ch : Children) (p : Pos) :
    valueValueWith dflt vars (.mk .list raw ch p) = (listValueWith dflt vars ch).bind fun xs => .ok (.slice .iface xs) := by
  rw [valueValueWith]; cases listValueWith dflt vars ch <;> rfl

theorem valueValueWith_object (dflt : Name → Option (ConvRes GoVal)) (vars : VarMap) (raw : Bytes) (ch : Children) (p : Pos) :
    valueValueWith dflt vars (.mk .object raw ch p) =
      (objectValueWith dflt vars ch .nil).bind fun kvs => .ok (.map .iface kvs) := by
  rw [valueValueWith]; cases objectValueWith dflt vars ch .nil <;> rfl

theorem listValueWith_cons (dflt : Name → Option (ConvRes GoVal)) (vars : VarMap) (n : Name) (v : Value) (p : Pos) (rest : Children) :
    listValueWith dflt vars (.cons n v p rest) =
      (valueValueWith dflt vars v).bind fun x => (listValueWith dflt vars rest).bind fun xs => .ok (.cons x xs) := by
  rw [listValueWith]
  cases valueValueWith dflt vars v <;> first | rfl | (cases listValueWith dflt vars rest <;> rfl)

theorem objectValueWith_cons (dflt : Name → Option (ConvRes GoVal)) (vars : VarMap) (n : Name) (v : Value) (p : Pos)
    (rest : Children) (acc : GoFields) :
    objectValueWith dflt vars (.cons n v p rest) acc =
      (valueValueWith dflt vars v).bind fun x => objectValueWith dflt vars rest (acc.set n x) := by
  rw [objectValueWith]; cases valueValueWith dflt vars v <;> rfl


def DfltOk (dflt : Name → Option (ConvRes GoVal)) : Prop := ∀ n r, dflt n = some r → ∃ x, r = .ok x

mutual
  theorem vvw_ok (dflt : Name → Option (ConvRes GoVal)) (vars : VarMap) :
      (v : Value) → syntaxOkB v = true → (constB v = true ∨ DfltOk dflt) → ∃ x, valueValueWith dflt vars v = .ok x
    | .mk kind raw ch p, hv, hd => by
      cases kind
      case «variable» =>
        simp only [valueValueWith]
        cases vars.lookup raw with
        | some x => exact ⟨x, rfl⟩
        | none =>
          cases h2 : dflt raw with
          | none => exact ⟨.nil, rfl⟩
          | some r => exact hd.elim (fun hc => by simp [constB] at hc) fun hd => hd raw r h2
      case int => cases h : parseInt raw <;> simp_all [syntaxOkB, valueValueWith]
      case float => cases h : parseFloat raw <;> simp_all [syntaxOkB, valueValueWith]
      case boolean => cases h : parseBool raw <;> simp_all [syntaxOkB, valueValueWith]
      case list =>
        obtain ⟨xs, hxs⟩ := lvw_ok dflt vars ch hv hd
        exact ⟨_, by rw [valueValueWith_list, hxs]; rfl⟩
      case object =>
        obtain ⟨kvs, hk⟩ := ovw_ok dflt vars ch hv hd .nil
        exact ⟨_, by rw [valueValueWith_object, hk]; rfl⟩
      all_goals exact ⟨_, rfl⟩
  theorem lvw_ok (dflt : Name → Option (ConvRes GoVal)) (vars : VarMap) :
      (c : Children) → childrenSyntaxOkB c = true → (childrenConstB c = true ∨ DfltOk dflt) →
        ∃ xs, listValueWith dflt vars c = .ok xs
    | .nil, _, _ => ⟨.nil, rfl⟩
    | .cons n v p rest, hv, hd => by
      simp only [childrenSyntaxOkB, childrenConstB, Bool.and_eq_true] at hv hd
      obtain ⟨x, hx⟩ := vvw_ok dflt vars v hv.1 (hd.imp_left (·.1))
      obtain ⟨xs, hxs⟩ := lvw_ok dflt vars rest hv.2 (hd.imp_left (·.2))
      exact ⟨.cons x xs, by rw [listValueWith_cons, hx, hxs]; rfl⟩
  theorem ovw_ok (dflt : Name → Option (ConvRes GoVal)) (vars : VarMap) :
      (c : Children) → childrenSyntaxOkB c = true → (childrenConstB c = true ∨ DfltOk dflt) →
        ∀ acc, ∃ kvs, objectValueWith dflt vars c acc = .ok kvs
    | .nil, _, _, acc => ⟨acc, rfl⟩
    | .cons n v p rest, hv, hd, acc => by
      simp only [childrenSyntaxOkB, childrenConstB, Bool.and_eq_true] at hv hd
      obtain ⟨x, hx⟩ := vvw_ok dflt vars v hv.1 (hd.imp_left (·.1))
      obtain ⟨kvs, hk⟩ := ovw_ok dflt vars rest hv.2 (hd.imp_left (·.2)) (acc.set n x)
      exact ⟨kvs, by rw [objectValueWith_cons, hx]; exact hk⟩
end

theorem valueValueLvl_const_ok (vdefs : List VarDef) (vars : VarMap) (k : Nat) (dv : Value)
    (hc : syntaxOkB dv = true) (hk : constB dv = true) : ∃ x, valueValueLvl vdefs vars k dv = .ok x := by
  cases k <;> exact vvw_ok _ vars dv hc (Or.inl hk)

theorem findVarDef_mem {vdefs : List VarDef} {n : Name} {d : VarDef} (h : findVarDef vdefs n = some d) : d ∈ vdefs :=
  List.mem_of_find?_eq_some h

theorem valueValue_ok (vdefs : List VarDef) (vars : VarMap) (v : Value)
    (hv : syntaxOkB v = true) (hd : DefaultsSyntaxOk vdefs) : ∃ x, valueValue vdefs vars v = .ok x := by
  refine vvw_ok _ vars v hv (Or.inr fun n r h => ?_)
  -- the default of a variable is a constant: its own conversion consults no further default
  cases hf : findVarDef vdefs n with
  | none => simp [hf] at h
  | some d =>
    cases hdv : d.default with
    | none => simp [hf, hdv] at h
    | some dv =>
      simp only [hf, hdv, Option.some.injEq] at h
      obtain ⟨hc, hk⟩ := hd d (findVarDef_mem hf) dv hdv
      exact h ▸ valueValueLvl_const_ok vdefs vars vdefs.length dv hc hk


theorem parseUintLoop_val : ∀ (ds : Bytes) (n v : Nat),
    parseUintLoop ds n = some (v, false) → v = ds.foldl (fun acc c => acc * 10 + (c - 48)) n
  | [], n, v, h => by cases h; rfl
  | c :: r, n, v, h => by
    simp only [parseUintLoop] at h
    repeat' split at h
    all_goals first | cases h | exact parseUintLoop_val r _ v h

theorem foldl_digits_ge : ∀ (ds : Bytes) (n : Nat), n ≤ ds.foldl (fun acc c => acc * 10 + (c - 48)) n
  | [], n => Nat.le_refl n
  | c :: r, n => Nat.le_trans (by omega) (foldl_digits_ge r (n * 10 + (c - 48)))

theorem parseUintLoop_digits : ∀ (ds : Bytes) (n : Nat), ds.all isDigit = true →
    ∃ v ovf, parseUintLoop ds n = some (v, ovf) ∧
      (ovf = false → v = ds.foldl (fun acc c => acc * 10 + (c - 48)) n) ∧
      (ovf = true → maxU64 < ds.foldl (fun acc c => acc * 10 + (c - 48)) n)
  | [], n, _ => ⟨n, false, by simp [parseUintLoop]⟩
  | c :: r, n, h => by
    simp only [List.all_cons, Bool.and_eq_true] at h
    simp only [parseUintLoop, h.1, if_true, List.foldl_cons]
    have hge := foldl_digits_ge r (n * 10 + (c - 48))
    by_cases h1 : n ≥ cutoffU64
    · exact ⟨maxU64, true, by simp [h1], by simp, fun _ => by simp only [cutoffU64, maxU64] at *; omega⟩
    · by_cases h2 : n * 10 + (c - 48) > maxU64
      · exact ⟨maxU64, true, by simp [h1, h2], by simp, fun _ => by omega⟩
      · simpa [h1, h2] using parseUintLoop_digits r (n * 10 + (c - 48)) h.2

/-- an integer lexeme is an optional `-` and a non-empty run of digits, which is what `ParseInt`
    hands to `ParseUint` -/
theorem intLexeme_body {raw : Bytes} (hl : intLexeme raw = true) :
    ∃ (neg : Bool) (c : Nat) (ds : Bytes), (c :: ds).all isDigit = true ∧ raw = (if neg then 45 :: c :: ds else c :: ds) := by
  cases raw with
  | nil => simp [intLexeme] at hl
  | cons c rest =>
    by_cases hc : c = 45
    · subst hc
      cases rest with
      | nil => simp [intLexeme] at hl
      | cons c2 r2 => exact ⟨true, c2, r2, by simpa [intLexeme] using hl, rfl⟩
    · refine ⟨false, c, rest, ?_, rfl⟩
      simp only [intLexeme] at hl
      split at hl
      · rename_i ds heq; cases heq; exact absurd rfl hc
      · simpa using hl

theorem parseInt_lexeme {raw : Bytes} (hl : intLexeme raw = true) :
    ∃ i, decimalLiteral raw = some i ∧
      ((parseInt raw = .ok i ∧ fitsInt64 i = true) ∨ (∃ c, parseInt raw = .range c) ∧ fitsInt64 i = false) := by
  obtain ⟨neg, c, ds, hds, rfl⟩ := intLexeme_body hl
  have hc : c ≠ 43 ∧ c ≠ 45 := by
    have : isDigit c = true := by simp only [List.all_cons, Bool.and_eq_true] at hds; exact hds.1
    simp only [isDigit, Bool.and_eq_true, decide_eq_true_eq] at this; omega
  obtain ⟨v, ovf, e, a, b⟩ := parseUintLoop_digits (c :: ds) 0 hds
  generalize hN : List.foldl (fun acc c => acc * 10 + (c - 48)) 0 (c :: ds) = N at a b
  have hb := fun h => (show _ < N from b h)
  simp only [maxU64] at hb
  cases neg
  · refine ⟨N, by simp [decimalLiteral, hc.2, hds, hN], ?_⟩
    cases ovf
    · cases a rfl
      by_cases hge : v ≥ 9223372036854775808
      · exact Or.inr ⟨⟨_, by simp [parseInt, hc, e, hge]; rfl⟩, by simp [fitsInt64]; omega⟩
      · exact Or.inl ⟨by simp [parseInt, hc, e, hge], by simp [fitsInt64]; omega⟩
    · exact Or.inr ⟨⟨_, by simp [parseInt, hc, e]; rfl⟩, by have := hb rfl; simp [fitsInt64]; omega⟩
  · refine ⟨-(N : Int), by simp [decimalLiteral, hds, hN], ?_⟩
    cases ovf
    · cases a rfl
      by_cases hgt : v > 9223372036854775808
      · exact Or.inr ⟨⟨_, by simp [parseInt, e, hgt]; rfl⟩, by simp [fitsInt64]; omega⟩
      · exact Or.inl ⟨by simp [parseInt, e, hgt], by simp [fitsInt64]; omega⟩
    · exact Or.inr ⟨⟨_, by simp [parseInt, e]; rfl⟩, by have := hb rfl; simp [fitsInt64]; omega⟩

theorem parseInt_decimalLiteral {raw : Bytes} {n : Int} (hl : intLexeme raw = true)
    (h : parseInt raw = .ok n) : decimalLiteral raw = some n ∧ fitsInt64 n = true := by
  obtain ⟨i, a, ⟨b, c⟩ | ⟨⟨_, b⟩, _⟩⟩ := parseInt_lexeme hl
  · cases h.symm.trans b; exact ⟨a, c⟩
  · cases h.symm.trans b

theorem parseInt_range_decimalLiteral {raw : Bytes} {c : Int} (hl : intLexeme raw = true)
    (h : parseInt raw = .range c) : ∃ i, decimalLiteral raw = some i ∧ fitsInt64 i = false := by
  obtain ⟨i, a, ⟨b, _⟩ | b⟩ := parseInt_lexeme hl
  · cases h.symm.trans b
  · exact ⟨i, a, b.2⟩

theorem parseInt_lexeme_not_syntax {raw : Bytes} (hl : intLexeme raw = true) : parseInt raw ≠ .syntax := by
  obtain ⟨i, _, ⟨b, _⟩ | ⟨⟨c, b⟩, _⟩⟩ := parseInt_lexeme hl <;> simp [b]


def DfltSilent (vars : VarMap) (d1 : Name → Option (ConvRes GoVal)) (d2 : Name → Option GoVal) : Prop :=
  ∀ n, vars.lookup n = none → d1 n = none ∧ d2 n = none

theorem parseBool_true : parseBool (str "true") = some true := by decide
theorem parseBool_false : parseBool (str "false") = some false := by decide

theorem parseBool_lexeme {raw : Bytes} {b : Bool} (hl : (raw = str "true" || raw = str "false") = true)
    (h : parseBool raw = some b) :
    (if raw = str "true" then some (GoVal.bool true) else if raw = str "false" then some (GoVal.bool false) else none)
      = some (GoVal.bool b) := by
  simp only [Bool.or_eq_true, decide_eq_true_eq] at hl
  rcases hl with hl | hl <;> subst hl
  · cases h.symm.trans parseBool_true; rfl
  · cases h.symm.trans parseBool_false
    rw [if_neg (by decide), if_pos rfl]

mutual
  theorem vvw_agree (d1 : Name → Option (ConvRes GoVal)) (d2 : Name → Option GoVal) (vars : VarMap)
      (hs : DfltSilent vars d1 d2) :
      (v : Value) → (x : GoVal) → wellLexedB v = true → valueValueWith d1 vars v = .ok x → literalSpec d2 vars v = some x
    | .mk kind raw ch p, x, hl, h => by
      cases kind
      case «variable» =>
        simp only [valueValueWith] at h
        simp only [literalSpec]
        cases h1 : vars.lookup raw with
        | some y => simp only [h1] at h; cases h; rfl
        | none =>
          obtain ⟨e1, e2⟩ := hs raw h1
          simp only [h1, e1] at h; cases h
          simp [e2]
      case int =>
        obtain ⟨i, a, ⟨b, c⟩ | ⟨⟨_, b⟩, c⟩⟩ := parseInt_lexeme (raw := raw) hl <;>
          simp only [valueValueWith, b] at h <;> cases h <;> simp [literalSpec, a, c]
      case float =>
        have hl : floatLexeme raw = true := hl
        simp only [valueValueWith] at h
        split at h <;> cases h <;> simp [literalSpec, hl]
      case boolean =>
        simp only [valueValueWith] at h
        cases hp : parseBool raw with
        | none => simp [hp] at h
        | some b => simp only [hp] at h; cases h; exact parseBool_lexeme hl hp
      case list =>
        obtain ⟨xs, hr, h⟩ := ConvRes.bind_eq_ok (valueValueWith_list .. ▸ h)
        cases h
        simp [literalSpec, lvw_agree d1 d2 vars hs ch xs hl hr]
      case object =>
        obtain ⟨kvs, hr, h⟩ := ConvRes.bind_eq_ok (valueValueWith_object .. ▸ h)
        cases h
        simp [literalSpec, ovw_agree d1 d2 vars hs ch .nil kvs hl hr]
      all_goals cases h; rfl
  theorem lvw_agree (d1 : Name → Option (ConvRes GoVal)) (d2 : Name → Option GoVal) (vars : VarMap)
      (hs : DfltSilent vars d1 d2) :
      (c : Children) → (xs : GoVals) → childrenWellLexedB c = true → listValueWith d1 vars c = .ok xs →
        literalListSpec d2 vars c = some xs
    | .nil, xs, _, h => by cases h; rfl
    | .cons n v p rest, xs, hl, h => by
      simp only [childrenWellLexedB, Bool.and_eq_true] at hl
      obtain ⟨x, hv, h⟩ := ConvRes.bind_eq_ok (listValueWith_cons .. ▸ h)
      obtain ⟨ys, hr, h⟩ := ConvRes.bind_eq_ok h
      cases h
      simp [literalListSpec, vvw_agree d1 d2 vars hs v x hl.1 hv, lvw_agree d1 d2 vars hs rest ys hl.2 hr]
  theorem ovw_agree (d1 : Name → Option (ConvRes GoVal)) (d2 : Name → Option GoVal) (vars : VarMap)
      (hs : DfltSilent vars d1 d2) :
      (c : Children) → (acc kvs : GoFields) → childrenWellLexedB c = true → objectValueWith d1 vars c acc = .ok kvs →
        literalObjectSpec d2 vars c acc = some kvs
    | .nil, acc, kvs, _, h => by cases h; rfl
    | .cons n v p rest, acc, kvs, hl, h => by
      simp only [childrenWellLexedB, Bool.and_eq_true] at hl
      obtain ⟨x, hv, h⟩ := ConvRes.bind_eq_ok (objectValueWith_cons .. ▸ h)
      simp [literalObjectSpec, vvw_agree d1 d2 vars hs v x hl.1 hv, ovw_agree d1 d2 vars hs rest (acc.set n x) kvs hl.2 h]
end


mutual
  theorem wellLexed_syntaxOk : (v : Value) → wellLexedB v = true → syntaxOkB v = true
    | .mk kind raw ch p, h => by
      cases kind
      case int =>
        have := parseInt_lexeme_not_syntax (raw := raw) h
        cases hp : parseInt raw <;> simp_all [syntaxOkB]
      case float =>
        have := parseFloat_lexeme_not_syntax (raw := raw) h
        cases hp : parseFloat raw <;> simp_all [syntaxOkB]
      case boolean =>
        simp only [wellLexedB, Bool.or_eq_true, decide_eq_true_eq] at h
        rcases h with rfl | rfl
        · rw [syntaxOkB, parseBool_true]; rfl
        · rw [syntaxOkB, parseBool_false]; rfl
      case list => exact childrenWellLexed_syntaxOk ch h
      case object => exact childrenWellLexed_syntaxOk ch h
      all_goals rfl
  theorem childrenWellLexed_syntaxOk : (c : Children) → childrenWellLexedB c = true → childrenSyntaxOkB c = true
    | .nil, _ => rfl
    | .cons n v p rest, h => by
      simp only [childrenWellLexedB, Bool.and_eq_true] at h
      simp only [childrenSyntaxOkB, Bool.and_eq_true]
      exact ⟨wellLexed_syntaxOk v h.1, childrenWellLexed_syntaxOk rest h.2⟩
end

theorem defaultsLexed_syntaxOk {vdefs : List VarDef} (h : DefaultsLexed vdefs) : DefaultsSyntaxOk vdefs :=
  fun d hd dv hdv => ⟨wellLexed_syntaxOk dv (h d hd dv hdv).1, (h d hd dv hdv).2⟩

theorem findArg_mem {args : List Argument} {n : Name} {a : Argument} (h : findArg args n = some a) : a ∈ args :=
  List.mem_of_find?_eq_some h

theorem dfltSilent_of_supplied (vdefs : List VarDef) (vars : VarMap) (k : Nat) (hs : DefaultsSupplied vdefs vars) :
    DfltSilent vars (fun n =>
      match findVarDef vdefs n with
      | some d => match d.default with
        | some dv => some (valueValueLvl vdefs vars k dv)
        | none => none
      | none => none) (varDefaultSpec vdefs) := by
  intro n hn
  unfold varDefaultSpec
  cases hf : findVarDef vdefs n with
  | none => simp [hf]
  | some d =>
    cases hd : d.default with
    | none => simp [hf, hd]
    | some dv => exact absurd (hs n d hf (by simp [hd])) (by simp [GoFields.contains, hn])

theorem valueValue_agree {vdefs : List VarDef} {vars : VarMap} {v : Value} {x : GoVal}
    (hs : DefaultsSupplied vdefs vars) (hl : wellLexedB v = true) (h : valueValue vdefs vars v = .ok x) :
    literalSpec (varDefaultSpec vdefs) vars v = some x :=
  vvw_agree _ _ vars (dfltSilent_of_supplied vdefs vars vdefs.length hs) v x hl h


section
variable {d : ArgDef}

/-- the `if !hasValue && argDef.DefaultValue != nil` block: the converted default, if there is one -/
def argDefaultVal (vdefs : List VarDef) (vars : VarMap) (d : ArgDef) : ConvRes (Option GoVal) :=
  match d.default with
  | some dv => (valueValue vdefs vars dv).bind fun x => .ok (some x)
  | none => .ok none

/-- `val, hasValue` of one iteration of `arg2map`; the map built so far plays no part in it -/
def argValueRes (vdefs : List VarDef) (args : List Argument) (vars : VarMap) (d : ArgDef) : ConvRes (Option GoVal) :=
  match findArg args d.name with
  | some a =>
    if a.value.kind = .variable then
      match vars.lookup a.value.raw with
      | some x => .ok (some x)
      | none => argDefaultVal vdefs vars d
    else (valueValue vdefs vars a.value).bind fun x => .ok (some x)
  | none => argDefaultVal vdefs vars d

theorem arg2mapStep_eq (result : GoFields) :
    arg2mapStep vdefs args vars d result =
      match argValueRes vdefs args vars d with
      | .ok (some x) => .ok (result.set d.name x)
      | .ok none => .ok result
      | .err e => .panic e.msg
      | .diverge => .diverge := by
  have dflt : argDefaultRes vdefs vars d result =
      match argDefaultVal vdefs vars d with
      | .ok (some x) => .ok (result.set d.name x)
      | .ok none => .ok result
      | .err e => .panic e.msg
      | .diverge => .diverge := by
    unfold argDefaultRes argDefaultVal
    cases d.default with
    | none => rfl
    | some dv => simp only []; cases valueValue vdefs vars dv <;> rfl
  unfold arg2mapStep argValueRes
  cases findArg args d.name with
  | none => exact dflt
  | some a =>
    by_cases hk : a.value.kind = .variable <;> simp only [hk, if_true, if_false]
    · cases vars.lookup a.value.raw with
      | none => exact dflt
      | some x => rfl
    · cases valueValue vdefs vars a.value <;> rfl

theorem argDefaultVal_ok (vars : VarMap)
    (hdef : ∀ dv, d.default = some dv → syntaxOkB dv = true) (hv : DefaultsSyntaxOk vdefs) :
    ∃ o, argDefaultVal vdefs vars d = .ok o := by
  unfold argDefaultVal
  cases hd : d.default with
  | none => exact ⟨none, rfl⟩
  | some dv =>
    obtain ⟨x, hx⟩ := valueValue_ok vdefs vars dv (hdef dv hd) hv
    exact ⟨some x, by simp only [hx]; rfl⟩

theorem argValueRes_ok (vars : VarMap)
    (hargs : ∀ a ∈ args, syntaxOkB a.value = true)
    (hdef : ∀ dv, d.default = some dv → syntaxOkB dv = true)
    (hv : DefaultsSyntaxOk vdefs) : ∃ o, argValueRes vdefs args vars d = .ok o := by
  unfold argValueRes
  cases hf : findArg args d.name with
  | none => exact argDefaultVal_ok vars hdef hv
  | some a =>
    simp only []
    split
    · cases vars.lookup a.value.raw with
      | none => exact argDefaultVal_ok vars hdef hv
      | some x => exact ⟨some x, rfl⟩
    · obtain ⟨x, hx⟩ := valueValue_ok vdefs vars a.value (hargs a (findArg_mem hf)) hv
      exact ⟨some x, by simp only [hx]; rfl⟩

theorem argDefaultVal_isSome {o : Option GoVal}
    (h : argDefaultVal vdefs vars d = .ok o) : o.isSome = d.default.isSome := by
  unfold argDefaultVal at h
  cases hd : d.default with
  | none => simp only [hd] at h; cases h; rfl
  | some dv => simp only [hd] at h; obtain ⟨x, _, h⟩ := ConvRes.bind_eq_ok h; cases h; rfl

theorem argValueRes_isSome {o : Option GoVal}
    (h : argValueRes vdefs args vars d = .ok o) : o.isSome = argHasValue args vars d := by
  unfold argValueRes at h
  unfold argHasValue
  cases hf : findArg args d.name with
  | none => simp only [hf] at h; simpa using argDefaultVal_isSome h
  | some a =>
    simp only [hf] at h ⊢
    by_cases hk : a.value.kind = .variable <;> simp only [hk, if_true, if_false] at h ⊢
    · simp only [GoFields.contains]
      cases hl : vars.lookup a.value.raw with
      | none => simp only [hl] at h; simpa using argDefaultVal_isSome h
      | some x => simp only [hl] at h; cases h; rfl
    · obtain ⟨x, _, h⟩ := ConvRes.bind_eq_ok h
      cases h; rfl

theorem argDefaultVal_spec {o : Option GoVal}
    (hs : DefaultsSupplied vdefs vars) (hdef : ∀ dv, d.default = some dv → wellLexedB dv = true)
    (h : argDefaultVal vdefs vars d = .ok o) :
    d.default.map (literalSpec (varDefaultSpec vdefs) vars) = o.map some := by
  unfold argDefaultVal at h
  cases hd : d.default with
  | none => simp only [hd] at h; cases h; rfl
  | some dv =>
    simp only [hd] at h
    obtain ⟨x, hx, h⟩ := ConvRes.bind_eq_ok h
    cases h
    simp [valueValue_agree hs (hdef dv hd) hx]

theorem argValueRes_spec {o : Option GoVal}
    (hs : DefaultsSupplied vdefs vars)
    (hargs : ∀ a ∈ args, wellLexedB a.value = true)
    (hdef : ∀ dv, d.default = some dv → wellLexedB dv = true)
    (h : argValueRes vdefs args vars d = .ok o) : argValueSpec vdefs args vars d = o.map some := by
  unfold argValueRes at h
  unfold argValueSpec
  cases hf : findArg args d.name with
  | none => simp only [hf] at h ⊢; exact argDefaultVal_spec hs hdef h
  | some a =>
    simp only [hf] at h ⊢
    by_cases hk : a.value.kind = .variable <;> simp only [hk, if_true, if_false] at h ⊢
    · cases hl : vars.lookup a.value.raw with
      | some x => simp only [hl] at h; cases h; rfl
      | none =>
        -- a variable with a default is in the map: this one has none
        simp only [hl, ((dfltSilent_of_supplied vdefs vars 0 hs) a.value.raw hl).2, firstSome] at h ⊢
        exact argDefaultVal_spec hs hdef h
    · obtain ⟨x, hx, h⟩ := ConvRes.bind_eq_ok h
      cases h
      simp [valueValue_agree hs (hargs a (findArg_mem hf)) hx]


theorem arg2mapLoop_cons_ok {rest : List ArgDef} {result m : GoFields}
    (h : arg2mapLoop vdefs args vars (d :: rest) result = .ok m) :
    ∃ o, argValueRes vdefs args vars d = .ok o ∧
      arg2mapLoop vdefs args vars rest (match o with | some x => result.set d.name x | none => result) = .ok m := by
  rw [arg2mapLoop, arg2mapStep_eq] at h
  cases hr : argValueRes vdefs args vars d with
  | ok o => cases o <;> exact ⟨_, rfl, by simpa [hr] using h⟩
  | err e => simp [hr] at h
  | diverge => simp [hr] at h

theorem arg2mapLoop_ok (vdefs : List VarDef) (args : List Argument) (vars : VarMap)
    (hargs : ∀ a ∈ args, syntaxOkB a.value = true) (hv : DefaultsSyntaxOk vdefs) :
    ∀ (defs : List ArgDef) (result : GoFields),
      (∀ d ∈ defs, ∀ dv, d.default = some dv → syntaxOkB dv = true) →
      ∃ m, arg2mapLoop vdefs args vars defs result = .ok m
  | [], result, _ => ⟨result, rfl⟩
  | d :: rest, result, hd => by
    obtain ⟨o, ho⟩ := argValueRes_ok vars hargs (hd d (by simp)) hv
    rw [arg2mapLoop, arg2mapStep_eq, ho]
    cases o <;> exact arg2mapLoop_ok vdefs args vars hargs hv rest _ (fun d' h' => hd d' (by simp [h']))

theorem arg2mapLoop_keys :
    ∀ (defs : List ArgDef) (result m : GoFields), arg2mapLoop vdefs args vars defs result = .ok m → ∀ k,
      m.contains k = (result.contains k || defs.any (fun d => decide (d.name = k) && argHasValue args vars d))
  | [], result, m, h, k => by cases h; simp
  | d :: rest, result, m, h, k => by
    obtain ⟨o, ho, h⟩ := arg2mapLoop_cons_ok h
    rw [arg2mapLoop_keys rest _ m h k, List.any_cons, ← argValueRes_isSome ho]
    cases o <;> simp [GoFields.contains_set, Bool.or_assoc, Bool.or_left_comm]

theorem arg2mapLoop_lookup_other :
    ∀ (defs : List ArgDef) (result m : GoFields), arg2mapLoop vdefs args vars defs result = .ok m →
      ∀ k, (∀ d ∈ defs, d.name ≠ k) → m.lookup k = result.lookup k
  | [], result, m, h, k, _ => by cases h; rfl
  | d :: rest, result, m, h, k, hk => by
    obtain ⟨o, _, h⟩ := arg2mapLoop_cons_ok h
    rw [arg2mapLoop_lookup_other rest _ m h k (fun d' h' => hk d' (by simp [h']))]
    cases o <;> simp [GoFields.lookup_set, hk d (by simp)]

theorem arg2mapLoop_spec (hs : DefaultsSupplied vdefs vars) (hargs : ∀ a ∈ args, wellLexedB a.value = true) :
    ∀ (defs : List ArgDef) (result m : GoFields),
      (defs.map (·.name)).Nodup →
      (∀ d ∈ defs, ∀ dv, d.default = some dv → wellLexedB dv = true) →
      (∀ d ∈ defs, result.lookup d.name = none) →
      arg2mapLoop vdefs args vars defs result = .ok m →
      ∀ d ∈ defs, argValueSpec vdefs args vars d = (m.lookup d.name).map some
  | [], _, _, _, _, _, _, d, hd => by simp at hd
  | d0 :: rest, result, m, hnd, hdef, hfresh, h, d, hd => by
    simp only [List.map_cons, List.nodup_cons, List.mem_map, not_exists, not_and] at hnd
    obtain ⟨o, ho, h⟩ := arg2mapLoop_cons_ok h
    rcases List.mem_cons.mp hd with e | hd'
    · -- the entry of the first argument is left alone by the rest of the loop
      subst e
      rw [arg2mapLoop_lookup_other rest _ m h d.name (fun d' hd' e => hnd.1 d' hd' e),
        argValueRes_spec hs hargs (hdef d (by simp)) ho]
      cases o <;> simp [GoFields.lookup_set, hfresh d (by simp)]
    · refine arg2mapLoop_spec hs hargs rest _ m hnd.2 (fun d' h' => hdef d' (by simp [h'])) (fun d' hd' => ?_) h d hd'
      have hne : d0.name ≠ d'.name := fun e => hnd.1 d' hd' e.symm
      cases o <;> simp [GoFields.lookup_set, hne, hfresh d' (by simp [hd'])]

end

/-- `varDefaultSpec` only looks at the default of the definition found -/
theorem varDefaultSpec_congr {linked opDefs : List VarDef} (h : LinksAgree linked opDefs) :
    varDefaultSpec linked = varDefaultSpec opDefs := by
  funext n
  have := h n
  simp only [varDefaultSpec]
  cases h1 : findVarDef linked n <;> cases h2 : findVarDef opDefs n <;> simp_all [Option.bind]
  rw [← this]

end Gql
