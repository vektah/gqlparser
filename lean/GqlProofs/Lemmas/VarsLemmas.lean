import GqlModel.Vars.Model
import GqlModel.Vars.Spec
import GqlProofs.Lemmas.ArgMapLemmas
/- helper lemmas for C14: outcomes of `Res`, the functions of vars.go written with `Res.bind`, the
   representation invariant `wfB`, what one pass of the loop of `VariableValues` stores -/
namespace Gql
open Gql.Strconv

theorem GoVal.type?_none_iff (v : GoVal) : v.type? = none ↔ v = .nil := by
  cases v <;> simp [GoVal.type?]

theorem GoVal.isNil_iff (v : GoVal) : v.isNil = true ↔ v = .nil := by
  cases v <;> simp [GoVal.isNil]

theorem GoVal.isNil_false_iff (v : GoVal) : v.isNil = false ↔ v ≠ .nil := by
  cases v <;> simp [GoVal.isNil]


namespace Res
variable {α β : Type} {panicOK fuelOK : Prop} {P : α → Prop} {r : Res α}

/-- sequencing, as the model spells it out in every `match` on an outcome: the first failure is the outcome -/
def bind (r : Res α) (k : α → Res β) : Res β :=
  match r with
  | .ok a => k a
  | .err m p a => .err m p a
  | .panic m => .panic m
  | .outOfFuel => .outOfFuel

def Sat (panicOK fuelOK : Prop) (P : α → Prop) : Res α → Prop
  | .ok a => P a
  | .err _ _ _ => True
  | .panic _ => panicOK
  | .outOfFuel => fuelOK

theorem Sat.bind {Q : β → Prop} {k : α → Res β} (hr : r.Sat panicOK fuelOK P)
    (hk : ∀ a, P a → (k a).Sat panicOK fuelOK Q) : (r.bind k).Sat panicOK fuelOK Q := by
  cases r <;> first | exact hk _ hr | exact hr

theorem Sat.imp {Q : α → Prop} (hr : r.Sat panicOK fuelOK P) (h : ∀ a, P a → Q a) : r.Sat panicOK fuelOK Q := by
  cases r <;> first | exact h _ hr | exact hr

theorem Sat.of_eq {a : α} (hr : r.Sat panicOK fuelOK P) (e : r = .ok a) : P a := by
  subst e; exact hr

theorem bind_eq_ok {k : α → Res β} {b : β} (h : r.bind k = .ok b) : ∃ a, r = .ok a ∧ k a = .ok b := by
  cases r <;> first | exact ⟨_, rfl, h⟩ | cases h

end Res

abbrev NoPanic {α : Type} (r : Res α) : Prop := r.Sat False True fun _ => True
abbrev NotFuel {α : Type} (r : Res α) : Prop := r.Sat True False fun _ => True


theorem listLoop_cons (f : Path → GoVal → Res GoVal) (path : Path) (b1 b2 : Bool) (i : Nat) (x : GoVal) (rest : GoVals) :
    listLoop f path b1 b2 i (.cons x rest) =
      if b1 && b2 && x.isNil then .err (str "cannot be null") (path ++ [.idx i]) []
      else (f (path ++ [.idx i]) x).bind fun ret =>
        (listLoop f path b1 b2 (i + 1) rest).bind fun rest' => .ok (.cons ret rest') := by
  rw [listLoop]; split
  · rfl
  · cases f (path ++ [.idx i]) x <;> first | rfl | (cases listLoop f path b1 b2 (i + 1) rest <;> rfl)

theorem fieldLoop_cons (f : Path → GType → GoVal → Res GoVal) (path : Path) (fd : FieldDef) (rest : List FieldDef)
    (elem : GoType) (kvs : GoFields) :
    fieldLoop f path (fd :: rest) elem kvs =
      match kvs.lookup fd.name with
      | none =>
        if fd.type.nonNull then
          if (match fd.default with
            | some d => (match valueValueConst d with | .ok _ => true | _ => false)
            | none => false) then fieldLoop f path rest elem kvs
          else .err (str "must be defined") (path ++ [.name fd.name]) []
        else fieldLoop f path rest elem kvs
      | some x =>
        if elem = .iface && x.isNil then
          if fd.type.nonNull then .err (str "cannot be null") (path ++ [.name fd.name]) []
          else fieldLoop f path rest elem kvs
        else (f (path ++ [.name fd.name]) fd.type x).bind fun cval =>
          match cval.type? with
          | none => .panic typeOnZeroMsg
          | some t => fieldLoop f path rest (if assignable (some t) elem then elem else .iface) (kvs.set fd.name cval) := by
  rw [fieldLoop]
  cases kvs.lookup fd.name with
  | none => rfl
  | some x =>
    simp only []
    split
    · rfl
    · cases f (path ++ [.name fd.name]) fd.type x <;> rfl

section
variable (s : Schema) (fuel : Nat) (path : Path)

theorem validateVarType_list_nil (e : GType) (nn : Bool) (p : Pos) :
    validateVarType s (fuel + 1) path (.list e nn p) .nil = .ok .nil := rfl

theorem validateVarType_list_slice (e : GType) (nn : Bool) (p : Pos)
    (t : GoType) (xs : GoVals) :
    validateVarType s (fuel + 1) path (.list e nn p) (.slice t xs) =
      (listLoop (fun p x => validateVarType s fuel p e x) path (t = .iface) e.nonNull 0 xs).bind
        fun xs' => .ok (.slice (storeElemType t xs xs') xs') := by
  rw [validateVarType]
  cases listLoop (fun p x => validateVarType s fuel p e x) path (t = .iface) e.nonNull 0 xs <;> rfl

/-- the list branch on a value that is neither null nor a slice: the single-value-to-list coercion -/
theorem validateVarType_list_single (e : GType) (nn : Bool) (p : Pos)
    {val : GoVal} {t : GoType} (ht : val.type? = some t) (h : ∀ t xs, val ≠ .slice t xs) :
    validateVarType s (fuel + 1) path (.list e nn p) val =
      (validateVarType s fuel (path ++ [.idx 0]) e val).bind
        fun ret => .ok (.slice (storeElemType t (.cons val .nil) (.cons ret .nil)) (.cons ret .nil)) := by
  cases val <;> first | exact absurd rfl (h _ _) | cases ht
  all_goals
    simp only [validateVarType, GoVal.isNil, GoVal.type?, Bool.false_eq_true, if_false]
    cases validateVarType s fuel (path ++ [.idx 0]) e _ <;> rfl

theorem validateVarType_inputObject {n : Name} (nn : Bool) (p : Pos)
    {d : Definition} (hd : s.type? n = some d) (hk : d.kind = .inputObject) (elem : GoType) (kvs : GoFields) :
    validateVarType s (fuel + 1) path (.named n nn p) (.map elem kvs) =
      match unknownKeys d.fields kvs with
      | k :: others => .err (str "unknown field") (path ++ [.name k]) others
      | [] => (fieldLoop (fun p t x => validateVarType s fuel p t x) path d.fields elem kvs).bind
          fun r => .ok (.map r.1 r.2) := by
  simp only [validateVarType, hd, hk, GoVal.isNil, Bool.and_false, Bool.false_eq_true, if_false]
  cases unknownKeys d.fields kvs with
  | cons k others => rfl
  | nil => cases fieldLoop (fun p t x => validateVarType s fuel p t x) path d.fields elem kvs <;> rfl

theorem validateVarType_leaf (n : Name) (nn : Bool) (p : Pos) (val : GoVal)
    (h : ∀ d, s.type? n = some d → d.kind = .inputObject → ∀ e kvs, val ≠ .map e kvs) :
    (validateVarType s (fuel + 1) path (.named n nn p) val).Sat True False (· = val) := by
  simp only [validateVarType]
  cases hd : s.type? n with
  | none => trivial
  | some d =>
    simp only []
    split
    · rfl
    · cases hk : d.kind <;> simp only []
      case inputObject => cases val <;> first | trivial | exact absurd rfl (h d hd hk _ _)
      case scalar => split <;> (try split) <;> first | rfl | trivial
      case enum => split <;> (try split) <;> (try split) <;> first | rfl | trivial
      all_goals trivial

end

theorem coerceSupplied_eq (s : Schema) (op : OperationDef) (v : VarDef) (coerced : GoFields) (val : GoVal) :
    coerceSupplied s op v coerced val =
      if val.isNil then
        if v.type.nonNull then .err (str "cannot be null") (varPath v) [] else .ok (coerced.set v.var .nil)
      else
        match jsonNumberPre v.type val with
        | .error m => .err m (varPath v) []
        | .ok rv => (validateVarType s (fuelFor s op rv) (varPath v) v.type rv).bind fun rval =>
            if rval.isNil then .panic ifaceOnZeroMsg else .ok (coerced.set v.var rval) := by
  rw [coerceSupplied]; split
  · rfl
  · cases jsonNumberPre v.type val with
    | error m => rfl
    | ok rv => simp only []; cases validateVarType s (fuelFor s op rv) (varPath v) v.type rv <;> rfl

theorem coerceVar_eq (s : Schema) (op : OperationDef) (vars : VarMap) (v : VarDef) (coerced : GoFields) :
    coerceVar s op vars v coerced =
      match s.type? v.type.name with
      | none => .panic nilDerefMsg
      | some d =>
        if !d.isInputType then .err (str "must an input type") (varPath v) []
        else (suppliedValue vars v).bind fun
          | none => .ok coerced
          | some val => coerceSupplied s op v coerced val := by
  rw [coerceVar]
  cases s.type? v.type.name with
  | none => rfl
  | some d =>
    simp only []; split
    · rfl
    · cases suppliedValue vars v with
      | ok o => cases o <;> rfl
      | _ => rfl

theorem coerceLoop_cons (s : Schema) (op : OperationDef) (vars : VarMap) (v : VarDef) (rest : List VarDef) (coerced : GoFields) :
    coerceLoop s op vars (v :: rest) coerced = (coerceVar s op vars v coerced).bind (coerceLoop s op vars rest) := by
  rw [coerceLoop]; cases coerceVar s op vars v coerced <;> rfl

theorem coerceLoop_sat {s : Schema} {op : OperationDef} {vars : VarMap} {panicOK fuelOK : Prop} :
    ∀ (vs : List VarDef) (coerced : GoFields),
      (∀ v ∈ vs, ∀ c, (coerceVar s op vars v c).Sat panicOK fuelOK fun _ => True) →
      (coerceLoop s op vars vs coerced).Sat panicOK fuelOK fun _ => True
  | [], _, _ => trivial
  | v :: rest, coerced, h => by
    rw [coerceLoop_cons]
    exact (h v (by simp) coerced).bind fun c _ => coerceLoop_sat rest c fun v' h' => h v' (by simp [h'])


theorem wfFields_lookup (b : Bool) : ∀ (kvs : GoFields) (k : Bytes) (x : GoVal),
    wfFieldsB b kvs = true → kvs.lookup k = some x → wfB x = true ∧ (b || !x.isNil) = true
  | .nil, _, _, _, h => by simp [GoFields.lookup] at h
  | .cons a w r, k, x, hs, h => by
    simp only [wfFieldsB, Bool.and_eq_true] at hs
    simp only [GoFields.lookup] at h
    split at h
    · cases h; exact ⟨hs.1.2, hs.1.1.2⟩
    · exact wfFields_lookup b r k x hs.2 h

theorem wfFields_set (b : Bool) : ∀ (kvs : GoFields) (k : Bytes) (x : GoVal),
    wfFieldsB b kvs = true → wfB x = true → (b || !x.isNil) = true → wfFieldsB b (kvs.set k x) = true
  | .nil, k, x, _, hx, hn => by simp [GoFields.set, wfFieldsB, GoFields.contains, GoFields.lookup, hx, hn]
  | .cons a w r, k, x, hs, hx, hn => by
    simp only [wfFieldsB, Bool.and_eq_true] at hs
    simp only [GoFields.set]
    split
    · simp only [wfFieldsB, Bool.and_eq_true]
      exact ⟨⟨⟨hs.1.1.1, hn⟩, hx⟩, hs.2⟩
    · rename_i hne
      simp only [wfFieldsB, Bool.and_eq_true]
      refine ⟨⟨⟨?_, hs.1.1.2⟩, hs.1.2⟩, wfFields_set b r k x hs.2 hx hn⟩
      simpa [GoFields.contains_set, Ne.symm hne] using hs.1.1.1

theorem wfItems_mono : ∀ (xs : GoVals) (b : Bool), wfItemsB b xs = true → wfItemsB true xs = true
  | .nil, _, _ => rfl
  | .cons x r, b, h => by
    simp only [wfItemsB, Bool.and_eq_true] at h
    simp [wfItemsB, h.1.2, wfItems_mono r b h.2]

theorem wfFields_mono : ∀ (kvs : GoFields) (b : Bool), wfFieldsB b kvs = true → wfFieldsB true kvs = true
  | .nil, _, _ => rfl
  | .cons k x r, b, h => by
    simp only [wfFieldsB, Bool.and_eq_true] at h
    simp [wfFieldsB, h.1.2, h.1.1.1, wfFields_mono r b h.2]

theorem storeElemType_cases (t : GoType) (a b : GoVals) : storeElemType t a b = t ∨ storeElemType t a b = .iface := by
  unfold storeElemType
  split
  · exact Or.inl rfl
  · exact Or.inr rfl

theorem wfItems_storeElemType {t : GoType} {a b xs : GoVals} (h : wfItemsB (decide (t = .iface)) xs = true) :
    wfItemsB (decide (storeElemType t a b = .iface)) xs = true := by
  rcases storeElemType_cases t a b with e | e <;> rw [e]
  · exact h
  · exact wfItems_mono xs _ h


mutual
  theorem vvw_wf (dflt : Name → Option (ConvRes GoVal)) (vars : VarMap)
      (hv : wfFieldsB true vars = true) (hd : ∀ n x, dflt n = some (.ok x) → wfB x = true) :
      (v : Value) → ∀ x, valueValueWith dflt vars v = .ok x → wfB x = true
    | .mk kind raw ch p, x, h => by
      cases kind
      case «variable» =>
        simp only [valueValueWith] at h
        cases h1 : vars.lookup raw with
        | some y => simp only [h1] at h; cases h; exact (wfFields_lookup true vars raw _ hv h1).1
        | none =>
          simp only [h1] at h
          cases h2 : dflt raw with
          | none => simp only [h2] at h; cases h; rfl
          | some r => simp only [h2] at h; subst h; exact hd raw x h2
      case list =>
        obtain ⟨xs, hl, h⟩ := ConvRes.bind_eq_ok (valueValueWith_list .. ▸ h)
        cases h
        exact lvw_wf dflt vars hv hd ch xs hl
      case object =>
        obtain ⟨kvs, hl, h⟩ := ConvRes.bind_eq_ok (valueValueWith_object .. ▸ h)
        cases h
        exact ovw_wf dflt vars hv hd ch .nil kvs rfl hl
      all_goals
        simp only [valueValueWith] at h
        first | (cases h; rfl) | (split at h <;> first | (cases h; rfl) | cases h)
  theorem lvw_wf (dflt : Name → Option (ConvRes GoVal)) (vars : VarMap)
      (hv : wfFieldsB true vars = true) (hd : ∀ n x, dflt n = some (.ok x) → wfB x = true) :
      (c : Children) → ∀ xs, listValueWith dflt vars c = .ok xs → wfItemsB true xs = true
    | .nil, xs, h => by cases h; rfl
    | .cons n v p rest, xs, h => by
      obtain ⟨x, h1, h⟩ := ConvRes.bind_eq_ok (listValueWith_cons .. ▸ h)
      obtain ⟨ys, h2, h⟩ := ConvRes.bind_eq_ok h
      cases h
      simp [wfItemsB, vvw_wf dflt vars hv hd v x h1, lvw_wf dflt vars hv hd rest ys h2]
  theorem ovw_wf (dflt : Name → Option (ConvRes GoVal)) (vars : VarMap)
      (hv : wfFieldsB true vars = true) (hd : ∀ n x, dflt n = some (.ok x) → wfB x = true) :
      (c : Children) → ∀ acc kvs, wfFieldsB true acc = true → objectValueWith dflt vars c acc = .ok kvs → wfFieldsB true kvs = true
    | .nil, acc, kvs, ha, h => by cases h; exact ha
    | .cons n v p rest, acc, kvs, ha, h => by
      obtain ⟨x, h1, h⟩ := ConvRes.bind_eq_ok (objectValueWith_cons .. ▸ h)
      exact ovw_wf dflt vars hv hd rest (acc.set n x) kvs
        (wfFields_set true acc n x ha (vvw_wf dflt vars hv hd v x h1) rfl) h
end

/-- every converted constant literal (a default value) is well-formed: literal conversion only builds
    `[]interface{}` / `map[string]interface{}` containers -/
theorem valueValueConst_wf (dv : Value) (x : GoVal) (h : valueValueConst dv = .ok x) : wfB x = true :=
  vvw_wf _ .nil rfl (by intro n x h; simp [findVarDef] at h) dv x h

theorem suppliedValue_wf {vars : VarMap} {v : VarDef} {x : GoVal}
    (hvars : wfFieldsB true vars = true)
    (h : suppliedValue vars v = .ok (some x)) : wfB x = true := by
  unfold suppliedValue at h
  cases hl : vars.lookup v.var with
  | some y => simp only [hl] at h; cases h; exact (wfFields_lookup true vars v.var _ hvars hl).1
  | none =>
    simp only [hl] at h
    cases hdv : v.default with
    | none => simp only [hdv] at h; split at h <;> simp at h
    | some dv =>
      simp only [hdv] at h
      cases hvv : valueValueConst dv with
      | ok y => simp only [hvv] at h; cases h; exact valueValueConst_wf dv _ hvv
      | err e => simp [hvv] at h
      | diverge => simp [hvv] at h


section
variable {s : Schema} {op : OperationDef} {vars : VarMap}

theorem isInputType_kind {d : Definition} (h : d.isInputType = true) :
    d.kind = .scalar ∨ d.kind = .enum ∨ d.kind = .inputObject := by
  simpa [Definition.isInputType, or_assoc] using h

theorem coerceSupplied_shape {v : VarDef} {coerced c : GoFields} {val : GoVal}
    (h : coerceSupplied s op v coerced val = .ok c) : ∃ y, c = coerced.set v.var y := by
  rw [coerceSupplied_eq] at h
  split at h
  · split at h <;> cases h; exact ⟨_, rfl⟩
  · split at h
    · cases h
    · obtain ⟨rval, _, h⟩ := Res.bind_eq_ok h
      split at h <;> cases h; exact ⟨_, rfl⟩

theorem coerceVar_shape {v : VarDef} {coerced c : GoFields}
    (h : coerceVar s op vars v coerced = .ok c) :
    InputTypeOK s v.type ∧
      ((suppliedValue vars v = .ok none ∧ c = coerced) ∨
        ∃ x y, suppliedValue vars v = .ok (some x) ∧ coerceSupplied s op v coerced x = .ok c ∧ c = coerced.set v.var y) := by
  rw [coerceVar_eq] at h
  cases hd : s.type? v.type.name with
  | none => simp [hd] at h
  | some d =>
    simp only [hd] at h
    split at h
    · cases h
    · rename_i hin
      refine ⟨⟨d, hd, isInputType_kind (by simpa using hin)⟩, ?_⟩
      obtain ⟨o, ho, h⟩ := Res.bind_eq_ok h
      cases o with
      | none => cases h; exact Or.inl ⟨ho, rfl⟩
      | some x => obtain ⟨y, hy⟩ := coerceSupplied_shape h; exact Or.inr ⟨x, y, ho, h, hy⟩

theorem coerceLoop_preserves (J : GoFields → Prop) :
    ∀ (vs : List VarDef) (coerced m : GoFields), (∀ v ∈ vs, ∀ c y, J c → J (c.set v.var y)) →
      coerceLoop s op vars vs coerced = .ok m → J coerced → J m
  | [], coerced, m, _, h, hj => by cases h; exact hj
  | v :: rest, coerced, m, hset, h, hj => by
    obtain ⟨c, hv, h⟩ := Res.bind_eq_ok (coerceLoop_cons .. ▸ h)
    refine coerceLoop_preserves J rest c m (fun v' h' => hset v' (by simp [h'])) h ?_
    rcases (coerceVar_shape hv).2 with ⟨_, e⟩ | ⟨_, y, _, _, e⟩ <;> rw [e]
    · exact hj
    · exact hset v (by simp) _ y hj

theorem suppliedValue_default {v : VarDef} (hd : v.default.isSome = true) :
    suppliedValue vars v ≠ .ok none := by
  unfold suppliedValue
  cases vars.lookup v.var with
  | some x => simp
  | none =>
    cases hdv : v.default with
    | none => simp [hdv] at hd
    | some dv => simp only []; split <;> simp

theorem coerceLoop_defaults :
    ∀ (vs : List VarDef) (coerced m : GoFields), coerceLoop s op vars vs coerced = .ok m →
      ∀ v ∈ vs, v.default.isSome = true → m.contains v.var = true
  | [], _, _, _, v, hv, _ => by simp at hv
  | v0 :: rest, coerced, m, h, v, hv, hd => by
    obtain ⟨c, hc, hr⟩ := Res.bind_eq_ok (coerceLoop_cons .. ▸ h)
    rcases List.mem_cons.mp hv with e | hv'
    · subst e
      refine coerceLoop_preserves (·.contains v.var = true) rest c m
        (fun _ _ c y hj => by simp [GoFields.contains_set, hj]) hr ?_
      rcases (coerceVar_shape hc).2 with ⟨e, _⟩ | ⟨_, y, _, _, e⟩
      · exact absurd e (suppliedValue_default hd)
      · simp [e, GoFields.contains_set]
    · exact coerceLoop_defaults rest c m hr v hv' hd

/-- what `VariableValues` returns holds every declared variable that has a default: the hypothesis
    `DefaultsSupplied` of the C15 precedence statements -/
theorem coerce_defaultsSupplied {m : VarMap} (h : coerce s op vars = .ok m) : DefaultsSupplied op.vars m := by
  intro n d hf hd
  have hn : d.var = n := by simpa using List.find?_some hf
  exact hn ▸ coerceLoop_defaults op.vars .nil m h d (findVarDef_mem hf) hd

theorem coerceLoop_entry :
    ∀ (vs : List VarDef) (coerced m : GoFields), (vs.map (·.var)).Nodup →
      coerceLoop s op vars vs coerced = .ok m →
      ∀ v ∈ vs, ∃ acc c, coerceVar s op vars v acc = .ok c ∧ m.lookup v.var = c.lookup v.var
        ∧ (acc.lookup v.var = coerced.lookup v.var)
  | [], _, _, _, _, v, hv => by simp at hv
  | v0 :: rest, coerced, m, hnd, h, v, hv => by
    simp only [List.map_cons, List.nodup_cons, List.mem_map, not_exists, not_and] at hnd
    obtain ⟨c, hc, hr⟩ := Res.bind_eq_ok (coerceLoop_cons .. ▸ h)
    rcases List.mem_cons.mp hv with e | hv'
    · subst e
      -- the later iterations assign to other variables
      exact ⟨coerced, c, hc, coerceLoop_preserves (·.lookup v.var = c.lookup v.var) rest c m
        (fun v' h' c' y hj => by simp [GoFields.lookup_set, hnd.1 v' h', hj]) hr rfl, rfl⟩
    · obtain ⟨acc, c', h1, h2, h3⟩ := coerceLoop_entry rest c m hnd.2 hr v hv'
      refine ⟨acc, c', h1, h2, ?_⟩
      have hne : v0.var ≠ v.var := fun e => hnd.1 v hv' e.symm
      rcases (coerceVar_shape hc).2 with ⟨_, e⟩ | ⟨_, y, _, _, e⟩ <;> simp [h3, e, GoFields.lookup_set, hne]

end

end Gql
