import GqlModel.Basic.Bytes
namespace Gql

theorem str_injective {a b : String} (h : str a = str b) : a = b :=
  String.toList_inj.1 ((List.map_inj_right fun _ _ => Char.toNat_inj.1).1 h)

/-- `str` of a string literal as the code points of its characters.  Left to itself the kernel evaluates
    `String.toList` on a literal by encoding it and decoding the bytes again, in time quadratic in the length
    (a minute for `SourceWitness.preludeText`); `h` it checks by expanding the literal into `String.ofList` of
    its characters.  `rw [str_lit rfl]` before an evaluation turns one `str "…"` of the goal into that list. -/
theorem str_lit {s : String} {L : List Char} (h : s = String.ofList L) : str s = L.map Char.toNat := by
  rw [h, str, String.toList_ofList]

end Gql
