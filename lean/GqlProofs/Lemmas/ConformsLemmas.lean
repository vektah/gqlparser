import GqlProofs.Lemmas.VarsLemmas
import GqlProofs.Lemmas.Lists
/- what a call of `validateVarType` guarantees: C14_total, C14_conforms, C14_rejects -/
namespace Gql
open Gql.Strconv

/-- what a SUPPLIED value satisfies when coercion accepts it: `CoercibleExceptTypename` -/
abbrev CL (s : Schema) (t : GType) (v : GoVal) : Prop := conformsWith .suppliedT s t v = true
/-- what a RESULT satisfies: `ConformsExceptTypename` -/
abbrev CR (s : Schema) (t : GType) (v : GoVal) : Prop := conformsWith .specT s t v = true

theorem leafName_suppliedT (t : GType) : leafName .suppliedT t = some t.name := by
  cases t <;> rfl

theorem conformsWith_flat (s : Schema) (t t' : GType) (v : GoVal) (hn : t.name = t'.name)
    (h1 : v ≠ .nil) (h2 : ∀ e xs, v ≠ .slice e xs) :
    conformsWith .suppliedT s t v = conformsWith .suppliedT s t' v := by
  cases v with
  | nil => exact absurd rfl h1
  | slice e xs => exact absurd rfl (h2 e xs)
  | _ => simp only [conformsWith, leafName_suppliedT, hn]

theorem conformsWith_nil (L : Reading) (s : Schema) (t : GType) : conformsWith L s t .nil = !t.nonNull := by
  cases t <;> simp [conformsWith]


/-- a reading that demands no more of the built-in scalars than C14 states -/
structure Reading.Lenient (L : Reading) : Prop where
  numStr : L.strictNumStr = false
  fracInt : L.strictFracInt = false
  jsonNumber : L.strictJsonNumber = false

theorem scalar_accept_leafOK {L : Reading} (hL : L.Lenient) {s : Schema} {n : Name} {d : Definition}
    (hd : s.type? n = some d) (hk : d.kind = .scalar) {val : GoVal} {t : GoType} (hty : val.type? = some t)
    (h : builtinScalarAccepts n val t.kind ≠ some false) : leafOK L s n val = true := by
  unfold builtinScalarAccepts at h
  simp only [leafOK, hd, hk]
  revert h
  cases builtinOf n with
  | none => exact fun _ => rfl
  | some b =>
    intro h
    cases val with
    | float is32 text =>
      cases is32 <;> cases hty <;> cases b <;> first | rfl | exact absurd rfl h | simp [intOK, hL.fracInt]
    | jsonNumber t | str t =>
      -- a string kind: accepted for `Int` / `Float` when the text parses
      cases hty <;> cases b <;> first | rfl | exact absurd rfl h |
        simp_all [intOK, floatOK, stringOK, idOK, hL.numStr, hL.jsonNumber, isIntLikeKind, isFloatKind, isValidIntString,
          isValidFloatString, GoType.kind, GoVal.stringContent]
    | _ => cases hty <;> cases b <;> first | rfl | exact absurd rfl h

theorem scalar_accept_conforms {L : Reading} (hL : L.Lenient) {s : Schema} {n : Name} (nn : Bool) (p : Pos) {d : Definition}
    (hd : s.type? n = some d) (hk : d.kind = .scalar) {val : GoVal} {t : GoType} (hty : val.type? = some t)
    (h : builtinScalarAccepts n val t.kind ≠ some false) : conformsWith L s (.named n nn p) val = true := by
  have hl := scalar_accept_leafOK hL hd hk hty h
  cases val with
  | nil => cases hty
  | slice e x | map e x =>
    -- a built-in scalar accepts no list and no map; a custom scalar holds anything
    revert hl
    cases hb : builtinOf n with
    | none => simp [conformsWith, leafName, isCustomScalar, isBuiltinScalarName, hd, hk, hb]
    | some b => simp only [leafOK, hd, hk, hb]; cases b <;> intro h <;> cases h
  | _ => simpa only [conformsWith, leafName] using hl

theorem enumNameOK_of_any {d : Definition} {x : Bytes}
    (h : d.enumValues.any (fun ev => decide (x = ev.name)) = true) : enumNameOK d x = true := by
  obtain ⟨ev, hev, e⟩ := List.any_eq_true.mp h
  exact List.any_eq_true.mpr ⟨ev, hev, by simp [of_decide_eq_true e]⟩

theorem enum_accept_conforms {L : Reading} (hL : L.Lenient) {s : Schema} (hplain : EnumNamesPlain s) {n : Name} (nn : Bool) (p : Pos)
    {d : Definition} (hd : s.type? n = some d) (hk : d.kind = .enum) {val : GoVal} {t : GoType} (hty : val.type? = some t)
    (hkind : (isIntLikeKind t.kind || decide (t.kind = .string)) = true)
    (hany : d.enumValues.any (fun ev => decide (val.reflectString = ev.name)) = true) :
    conformsWith L s (.named n nn p) val = true := by
  have hname := enumNameOK_of_any hany
  cases val with
  | str x => simpa [conformsWith, leafName, leafOK, hd, hk, enumOK, GoVal.reflectString] using hname
  | jsonNumber x => simpa [conformsWith, leafName, leafOK, hd, hk, enumOK, hL.jsonNumber, GoVal.reflectString] using hname
  | int k i =>
    -- `reflect.Value.String()` of an int is `<int Value>`, and no enum value has such a name
    obtain ⟨ev, hev, e⟩ := List.any_eq_true.mp hany
    exact absurd (by rw [← of_decide_eq_true e]; rfl) (hplain n d hd ev hev)
  | float is32 x => cases is32 <;> cases hty <;> cases hkind
  | _ => cases hty <;> cases hkind


/-- what a call of `validateVarType` on `val` at the type `t` that returns `ret` guarantees.  `F`
    stands for the two facts about the schema that `conforms` alone needs: distinct field names and
    plain enum names. -/
structure Coerced (s : Schema) (F : Prop) (t : GType) (val ret : GoVal) : Prop where
  wf : wfB ret = true
  nonNil : val ≠ .nil → ret ≠ .nil
  /-- the key `__typename` is handed on, never invented -/
  noTypename : noTypenameB val = true → noTypenameB ret = true
  /-- the RETURNED value conforms (list nesting exact), the ARGUMENT was coercible -/
  conforms : F → CR s t ret ∧ CL s t val

section
variable {s : Schema} {F : Prop}

/-- the list loop calls `f` on a null item only when the element type is nullable (the loop itself
    rejects a null item of an `interface{}` slice at a non-null element type, and a typed slice
    holds no null item) -/
theorem listLoop_nil_nullable {b1 b2 : Bool} {x : GoVal} (h1 : (b1 || !x.isNil) = true)
    (hcond : ¬ (b1 && b2 && x.isNil) = true) : x = .nil → b2 = false := by
  intro hx
  subst hx
  cases b1 <;> cases b2 <;> simp_all [GoVal.isNil]

theorem listLoop_spec {e : GType} {f : Path → GoVal → Res GoVal} (path : Path) {b1 b2 : Bool}
    (hf : ∀ p x, wfB x = true → (x = .nil → b2 = false) → (f p x).Sat False True (Coerced s F e x)) :
    ∀ (xs : GoVals) (i : Nat), wfItemsB b1 xs = true →
      (listLoop f path b1 b2 i xs).Sat False True fun xs' =>
        wfItemsB b1 xs' = true ∧ (noTypenameItemsB xs = true → noTypenameItemsB xs' = true) ∧
          (F → allConform .specT s e xs' = true ∧ allConform .suppliedT s e xs = true)
  | .nil, i, _ => ⟨rfl, id, fun _ => ⟨rfl, rfl⟩⟩
  | .cons x rest, i, hw => by
    simp only [wfItemsB, Bool.and_eq_true] at hw
    rw [listLoop_cons]
    split
    · trivial
    · rename_i hcond
      refine (hf _ x hw.1.2 (listLoop_nil_nullable hw.1.1 hcond)).bind fun ret hret => ?_
      refine (listLoop_spec path hf rest (i + 1) hw.2).bind fun rest' hrest => ⟨?_, fun hn => ?_, fun hF => ?_⟩
      · have hnil : (b1 || !ret.isNil) = true := by
          cases b1
          · exact congrArg not ((GoVal.isNil_false_iff ret).mpr
              (hret.nonNil ((GoVal.isNil_false_iff x).mp (by simpa using hw.1.1))))
          · rfl
        simp [wfItemsB, hnil, hret.wf, hrest.1]
      · simp only [noTypenameItemsB, Bool.and_eq_true] at hn ⊢
        exact ⟨hret.noTypename hn.1, hrest.2.1 hn.2⟩
      · simp [allConform, hret.conforms hF, hrest.2.2 hF]


theorem GoFields.contains_of_lookup {kvs : GoFields} {k : Bytes} {x : GoVal} (h : kvs.lookup k = some x) :
    kvs.contains k = true := by simp [GoFields.contains, h]

theorem GoFields.lookup_of_contains {kvs : GoFields} {k : Bytes} (h : kvs.contains k = true) :
    ∃ x, kvs.lookup k = some x := Option.isSome_iff_exists.mp h

/-- the first loop of the InputObject branch found no offending key -/
theorem unknownKeys_nil {fields : List FieldDef} : ∀ {kvs : GoFields}, unknownKeys fields kvs = [] →
    ∀ k x, kvs.lookup k = some x → k = str "__typename" ∨ ∃ fd, findField fields k = some fd
  | .nil, _, k, x, h => by simp [GoFields.lookup] at h
  | .cons a w r, hu, k, x, h => by
    simp only [unknownKeys] at hu
    simp only [GoFields.lookup] at h
    split at h
    · rename_i e
      subst e
      split at hu
      · exact Or.inl ‹_›
      · split at hu
        · exact Or.inr ⟨_, ‹_›⟩
        · cases hu
    · refine unknownKeys_nil ?_ k x h
      split at hu
      · exact hu
      · split at hu
        · exact hu
        · cases hu

/-- with unique keys, `fieldsDeclared` is a statement about `lookup` -/
theorem fieldsDeclared_of_lookup (L : Reading) (s : Schema) (fields : List FieldDef) (b : Bool) :
    ∀ (kvs : GoFields), wfFieldsB b kvs = true →
      (∀ k v, kvs.lookup k = some v →
        (match fields.find? (fun f => f.name = k) with
          | some fd => conformsWith L s fd.type v
          | none => L.typenameKey && decide (k = str "__typename")) = true) →
      fieldsDeclared L s fields kvs = true
  | .nil, _, _ => rfl
  | .cons a w r, hw, h => by
    simp only [wfFieldsB, Bool.and_eq_true] at hw
    simp only [fieldsDeclared, Bool.and_eq_true]
    refine ⟨h a w (by simp [GoFields.lookup]), fieldsDeclared_of_lookup L s fields b r hw.2 fun k v hk => h k v ?_⟩
    have hne : a ≠ k := by
      intro e; subst e
      simp [GoFields.contains_of_lookup hk] at hw
    simp [GoFields.lookup, hne, hk]

theorem requiredPresent_of (fields : List FieldDef) (kvs : GoFields)
    (h : ∀ fd ∈ fields, fd.required = true → kvs.contains fd.name = true) : requiredPresent fields kvs = true := by
  simp only [requiredPresent, List.all_eq_true, Bool.or_eq_true, Bool.not_eq_true']
  intro fd hfd
  cases hr : fd.required
  · exact Or.inl rfl
  · exact Or.inr (h fd hfd hr)

theorem noTypenameFields_lookup : ∀ (kvs : GoFields) (k : Bytes) (x : GoVal),
    noTypenameFieldsB kvs = true → kvs.lookup k = some x → noTypenameB x = true ∧ k ≠ str "__typename"
  | .nil, _, _, _, h => by simp [GoFields.lookup] at h
  | .cons a w r, k, x, hs, h => by
    simp only [noTypenameFieldsB, Bool.and_eq_true, decide_eq_true_eq] at hs
    simp only [GoFields.lookup] at h
    split at h
    · rename_i e; cases h; exact ⟨hs.1.2, e ▸ hs.1.1⟩
    · exact noTypenameFields_lookup r k x hs.2 h

theorem noTypenameFields_set : ∀ (kvs : GoFields) (k : Bytes) (x : GoVal),
    noTypenameFieldsB kvs = true → noTypenameB x = true → k ≠ str "__typename" → noTypenameFieldsB (kvs.set k x) = true
  | .nil, k, x, _, hx, hk => by simp [GoFields.set, noTypenameFieldsB, hx, hk]
  | .cons a w r, k, x, hs, hx, hk => by
    simp only [noTypenameFieldsB, Bool.and_eq_true, decide_eq_true_eq] at hs
    simp only [GoFields.set]
    split
    · simp [noTypenameFieldsB, hx, hs.2, hs.1.1]
    · simp [noTypenameFieldsB, hs.1.1, hs.1.2, noTypenameFields_set r k x hs.2 hx hk]

/-- under the key `k`, the entry `x` of the map handed to the field loop and the entry `y` of the map it
    returns: a coercible value and a conforming one when `k` names a field, the same value otherwise -/
def EntryCoerced (s : Schema) (fields : List FieldDef) (k : Bytes) (x y : GoVal) : Prop :=
  match fields.find? (fun f => f.name = k) with
  | some fd => CL s fd.type x ∧ CR s fd.type y
  | none => y = x

/-- the map `kvs` handed to the field loop and the map `kvs'` it returns: the same keys, every
    required field among them, the entries as `EntryCoerced` says -/
def FieldsCoerced (s : Schema) (fields : List FieldDef) (kvs kvs' : GoFields) : Prop :=
  (∀ k, kvs'.contains k = kvs.contains k) ∧
  (∀ fd ∈ fields, fd.required = true → kvs.contains fd.name = true) ∧
  (∀ k x y, kvs.lookup k = some x → kvs'.lookup k = some y → EntryCoerced s fields k x y)

theorem EntryCoerced.eq_of_notin {rest : List FieldDef} {k : Bytes} {x y : GoVal}
    (hnotin : ∀ fd' ∈ rest, fd'.name ≠ k) (h : EntryCoerced s rest k x y) : y = x := by
  rwa [EntryCoerced, List.find?_eq_none.mpr (by simpa using hnotin)] at h

theorem FieldsCoerced.skip {fd : FieldDef} {rest : List FieldDef} {kvs kvs' : GoFields}
    (hnotin : ∀ fd' ∈ rest, fd'.name ≠ fd.name) (h : FieldsCoerced s rest kvs kvs')
    (hreq : fd.required = true → kvs.contains fd.name = true)
    (hx : ∀ x, kvs.lookup fd.name = some x → CL s fd.type x ∧ CR s fd.type x) :
    FieldsCoerced s (fd :: rest) kvs kvs' := by
  obtain ⟨a, b, c⟩ := h
  refine ⟨a, fun fd' hfd' => ?_, fun k x y hkx hky => ?_⟩
  · rcases List.mem_cons.mp hfd' with rfl | hin
    · exact hreq
    · exact b fd' hin
  · have hc := c k x y hkx hky
    by_cases e : fd.name = k
    · subst e
      cases hc.eq_of_notin hnotin
      simpa [EntryCoerced, List.find?] using hx x hkx
    · simpa [EntryCoerced, List.find?, e] using hc

theorem FieldsCoerced.set {fd : FieldDef} {rest : List FieldDef} {kvs kvs' : GoFields} {x y : GoVal}
    (hnotin : ∀ fd' ∈ rest, fd'.name ≠ fd.name) (hl : kvs.lookup fd.name = some x)
    (h : FieldsCoerced s rest (kvs.set fd.name y) kvs') (hc : CR s fd.type y ∧ CL s fd.type x) :
    FieldsCoerced s (fd :: rest) kvs kvs' := by
  obtain ⟨a, b, c⟩ := h
  have hcont := GoFields.contains_of_lookup hl
  refine ⟨fun k => ?_, fun fd' hfd' => ?_, fun k x' y' hkx hky => ?_⟩
  · rw [a k, GoFields.contains_set]
    by_cases e : fd.name = k
    · subst e; simp [hcont]
    · simp [e]
  · rcases List.mem_cons.mp hfd' with rfl | hin
    · exact fun _ => hcont
    · exact fun hq => by simpa [GoFields.contains_set, (hnotin fd' hin).symm] using b fd' hin hq
  · by_cases e : fd.name = k
    · subst e
      cases hl.symm.trans hkx
      cases (c fd.name y y' (by simp [GoFields.lookup_set]) hky).eq_of_notin hnotin
      simpa [EntryCoerced, List.find?] using hc.symm
    · simpa [EntryCoerced, List.find?, e] using c k x' y' (by simp [GoFields.lookup_set, e, hkx]) hky

theorem fieldLoop_spec {f : Path → GType → GoVal → Res GoVal} (path : Path)
    (hf : ∀ p t x, InputTypeOK s t → wfB x = true → x ≠ .nil → (f p t x).Sat False True (Coerced s F t x)) :
    ∀ (fields : List FieldDef) (elem : GoType) (kvs : GoFields),
      (F → (fields.map (·.name)).Nodup) → (∀ fd ∈ fields, InputTypeOK s fd.type) →
      wfFieldsB (decide (elem = .iface)) kvs = true →
      (fieldLoop f path fields elem kvs).Sat False True fun r =>
        wfFieldsB (decide (r.1 = .iface)) r.2 = true ∧ (noTypenameFieldsB kvs = true → noTypenameFieldsB r.2 = true) ∧
          (F → FieldsCoerced s fields kvs r.2)
  | [], elem, kvs, _, _, hw => ⟨hw, id, fun _ => ⟨fun _ => rfl, fun fd hfd => by simp at hfd,
      fun k x y hx hy => Option.some.inj (hy.symm.trans hx)⟩⟩
  | fd :: rest, elem, kvs, hnd, ht, hw => by
    have hnotin : F → ∀ fd' ∈ rest, fd'.name ≠ fd.name := fun hF fd' h' e =>
      (List.nodup_cons.mp (hnd hF)).1 (List.mem_map.mpr ⟨fd', h', e⟩)
    have ih := fun e2 k2 => fieldLoop_spec path hf rest e2 k2 (fun hF => (List.nodup_cons.mp (hnd hF)).2)
      fun fd' h' => ht fd' (by simp [h'])
    have skip : (fd.required = true → kvs.contains fd.name = true) →
        (∀ x, kvs.lookup fd.name = some x → CL s fd.type x ∧ CR s fd.type x) →
        (fieldLoop f path rest elem kvs).Sat False True fun r =>
          wfFieldsB (decide (r.1 = .iface)) r.2 = true ∧ (noTypenameFieldsB kvs = true → noTypenameFieldsB r.2 = true) ∧
            (F → FieldsCoerced s (fd :: rest) kvs r.2) :=
      fun hreq hx => (ih elem kvs hw).imp fun r hr => ⟨hr.1, hr.2.1, fun hF => (hr.2.2 hF).skip (hnotin hF) hreq hx⟩
    rw [fieldLoop_cons]
    cases hl : kvs.lookup fd.name with
    | none =>
      have hx : ∀ x, kvs.lookup fd.name = some x → CL s fd.type x ∧ CR s fd.type x := fun x hxl => by
        rw [hl] at hxl; cases hxl
      simp only []
      split
      · cases hdf : fd.default with
        | none => trivial
        | some dv =>
          simp only []
          split
          · exact skip (fun hreq => by simp [FieldDef.required, hdf] at hreq) hx
          · trivial
      · rename_i hnn
        exact skip (fun hreq => by simp [FieldDef.required, hnn] at hreq) hx
    | some x =>
      obtain ⟨hxw, hxn⟩ := wfFields_lookup _ kvs fd.name x hw hl
      have hcont : kvs.contains fd.name = true := GoFields.contains_of_lookup hl
      simp only []
      split
      · rename_i hn
        split
        · trivial
        · rename_i hnn
          have hxnil : x = .nil := (GoVal.isNil_iff x).mp (Bool.and_eq_true_iff.mp hn).2
          refine skip (fun _ => hcont) fun x' hx' => ?_
          cases hl.symm.trans hx'
          subst hxnil
          simp [CL, CR, conformsWith_nil, hnn]
      · rename_i hn
        have hxne : x ≠ .nil := by
          intro e; subst e
          revert hn hxn
          cases decide (elem = .iface) <;> simp [GoVal.isNil]
        refine (hf _ fd.type x (ht fd (by simp)) hxw hxne).bind fun cval hc => ?_
        cases hty : cval.type? with
        | none => exact absurd ((GoVal.type?_none_iff cval).mp hty) (hc.nonNil hxne)
        | some t =>
          have hw2 : wfFieldsB (decide ((if assignable (some t) elem = true then elem else GoType.iface) = .iface))
              (kvs.set fd.name cval) = true := by
            refine wfFields_set _ kvs fd.name cval ?_ hc.wf (by simp [(GoVal.isNil_false_iff cval).mpr (hc.nonNil hxne)])
            split
            · exact hw
            · exact wfFields_mono kvs _ hw
          refine (ih _ _ hw2).imp fun r hr => ⟨hr.1, fun hn => hr.2.1 ?_, fun hF => (hr.2.2 hF).set (hnotin hF) hl (hc.conforms hF)⟩
          obtain ⟨hx, hk⟩ := noTypenameFields_lookup kvs fd.name x hn hl
          exact noTypenameFields_set kvs fd.name cval hn (hc.noTypename hx) hk

theorem Reading.lenient_specT : Reading.specT.Lenient := ⟨rfl, rfl, rfl⟩
theorem Reading.lenient_suppliedT : Reading.suppliedT.Lenient := ⟨rfl, rfl, rfl⟩

/-- `validateVarType` does not panic on a well-formed value (typed slices and typed maps included),
    PROVIDED a null value only meets a nullable type — which every caller (the loop of
    `VariableValues`, the list loop, the field loop) establishes before the call; and what it
    returns is `Coerced` -/
theorem validateVarType_spec (hc : InputsClosed s) (hfn : F → InputFieldsNodup s) (hplain : F → EnumNamesPlain s) :
    ∀ (fuel : Nat) (path : Path) (typ : GType) (val : GoVal),
      InputTypeOK s typ → wfB val = true → (val = .nil → typ.nonNull = false) →
      (validateVarType s fuel path typ val).Sat False True (Coerced s F typ val)
  | 0, _, _, _, _, _, _ => trivial
  | fuel + 1, path, typ, val, ht, hw, hnn => by
    have ih := validateVarType_spec hc hfn hplain fuel
    have hnil : ∀ t : GType, t.nonNull = false → Coerced s F t .nil .nil := fun t h =>
      ⟨rfl, id, id, fun _ => by simp [CR, CL, conformsWith_nil, h]⟩
    cases typ with
    | list e nn p =>
      have hte : InputTypeOK s e := ht
      cases hty : val.type? with
      | none =>
        cases (GoVal.type?_none_iff val).mp hty
        exact hnil _ (hnn rfl)
      | some t =>
        by_cases hsl : ∃ t xs, val = GoVal.slice t xs
        · obtain ⟨t, xs, rfl⟩ := hsl
          rw [validateVarType_list_slice]
          refine (listLoop_spec path (fun p x h1 h2 => ih p e x hte h1 h2) xs 0 hw).bind fun xs' h => ?_
          exact ⟨wfItems_storeElemType h.1, fun _ => nofun, h.2.1, fun hF => by simp [CR, CL, conformsWith, h.2.2 hF]⟩
        · have hns : ∀ t xs, val ≠ GoVal.slice t xs := fun t xs h => hsl ⟨t, xs, h⟩
          have hvn : val ≠ .nil := fun h => by simp [h, GoVal.type?] at hty
          rw [validateVarType_list_single s fuel path e nn p hty hns]
          refine (ih (path ++ [.idx 0]) e val hte hw fun h => absurd h hvn).bind fun ret h => ?_
          refine ⟨by simp [wfB, wfItemsB, h.wf, (GoVal.isNil_false_iff ret).mpr (h.nonNil hvn)], fun _ => nofun,
            fun hn => by simp [noTypenameB, noTypenameItemsB, h.noTypename hn], fun hF => ?_⟩
          -- the single value is judged like an item of the list
          rw [CL, conformsWith_flat s (.list e nn p) e val rfl hvn hns]
          simp [CR, conformsWith, allConform, h.conforms hF]
    | named n nn p =>
      obtain ⟨d, (hd : s.type? n = some d), hk⟩ := ht
      cases hty : val.type? with
      | none =>
        cases (GoVal.type?_none_iff val).mp hty
        cases (show nn = false from hnn rfl)
        simp only [validateVarType, hd]
        exact hnil (.named n false p) rfl
      | some t =>
        have hvn : val ≠ .nil := fun h => by simp [h, GoVal.type?] at hty
        have hself : (F → CR s (.named n nn p) val ∧ CL s (.named n nn p) val) →
            Coerced s F (.named n nn p) val val := fun h => ⟨hw, id, id, h⟩
        rcases hk with hk | hk | hk
        · -- scalar
          simp only [validateVarType, hd, hk, hty, (GoVal.isNil_false_iff val).mpr hvn, Bool.and_false, Bool.false_eq_true, if_false]
          have hok := fun h => hself fun _ => ⟨scalar_accept_conforms Reading.lenient_specT nn p hd hk hty h,
            scalar_accept_conforms Reading.lenient_suppliedT nn p hd hk hty h⟩
          cases hacc : builtinScalarAccepts n val t.kind with
          | none => exact hok (by simp [hacc])
          | some b => cases b <;> first | trivial | exact hok (by simp [hacc])
        · -- enum
          simp only [validateVarType, hd, hk, hty, (GoVal.isNil_false_iff val).mpr hvn, Bool.and_false, Bool.false_eq_true, if_false]
          split
          · trivial
          · rename_i hkind
            have hkind : (isIntLikeKind t.kind || decide (t.kind = .string)) = true := by
              revert hkind; cases (isIntLikeKind t.kind || decide (t.kind = .string)) <;> simp
            split
            · rename_i hany
              exact hself fun hF =>
                ⟨enum_accept_conforms Reading.lenient_specT (hplain hF) nn p hd hk hty hkind hany,
                  enum_accept_conforms Reading.lenient_suppliedT (hplain hF) nn p hd hk hty hkind hany⟩
            · trivial
        · -- input object
          cases val with
          | map elem kvs =>
            rw [validateVarType_inputObject s fuel path nn p hd hk]
            cases hu : unknownKeys d.fields kvs with
            | cons k others => trivial
            | nil =>
              refine (fieldLoop_spec path (fun p t x h0 h1 h2 => ih p t x h0 h1 fun h => absurd h h2) d.fields elem kvs
                (fun hF => hfn hF n d hd hk) (hc n d hd hk) hw).bind fun r hr => ⟨hr.1, fun _ => nofun, hr.2.1, fun hF => ?_⟩
              obtain ⟨a, b, c⟩ := hr.2.2 hF
              have hun : ∀ k x, kvs.lookup k = some x → d.fields.find? (fun f => f.name = k) = none →
                  k = str "__typename" := fun k x hx hnone =>
                (unknownKeys_nil hu k x hx).elim id fun ⟨fd, hfd⟩ => by rw [findField, hnone] at hfd; cases hfd
              simp only [CR, CL, conformsWith, leafName, hd, hk, if_true, Bool.and_eq_true]
              refine ⟨⟨fieldsDeclared_of_lookup _ s d.fields _ r.2 hr.1 fun k y hky => ?_,
                  requiredPresent_of _ _ fun fd hfd hq => (a fd.name).trans (b fd hfd hq)⟩,
                ⟨fieldsDeclared_of_lookup _ s d.fields _ kvs hw fun k x hkx => ?_, requiredPresent_of _ _ b⟩⟩
              · obtain ⟨x, hkx⟩ := GoFields.lookup_of_contains ((a k).symm.trans (GoFields.contains_of_lookup hky))
                have hc := c k x y hkx hky
                have hu := hun k x hkx
                revert hc hu
                unfold EntryCoerced
                cases d.fields.find? (fun f => f.name = k) <;> simp [Reading.specT] <;> exact fun _ h => h
              · obtain ⟨y, hky⟩ := GoFields.lookup_of_contains ((a k).trans (GoFields.contains_of_lookup hkx))
                have hc := c k x y hkx hky
                have hu := hun k x hkx
                revert hc hu
                unfold EntryCoerced
                cases d.fields.find? (fun f => f.name = k) <;> simp [Reading.suppliedT] <;> exact fun h _ => h
          | _ => simp only [validateVarType, hd, hk, GoVal.isNil, Bool.and_false, Bool.false_eq_true, if_false]; trivial


theorem jsonNumberPre_ok {typ : GType} {val rv : GoVal} (h : jsonNumberPre typ val = .ok rv) :
    rv = val ∨ ∃ t, val = .jsonNumber t ∧
      ((typ.namedType = str "Int" ∧ ∃ n, parseInt t = .ok n ∧ rv = .int .int64 n) ∨
        (typ.namedType = str "Float" ∧ parseFloat t = .ok ∧ rv = .float false t)) := by
  unfold jsonNumberPre at h
  cases val with
  | jsonNumber t =>
    simp only [] at h
    split at h
    · split at h <;> first | (cases h; exact Or.inr ⟨t, rfl, Or.inl ⟨‹_›, _, ‹_›, rfl⟩⟩) | cases h
    · split at h
      · split at h <;> first | (cases h; exact Or.inr ⟨t, rfl, Or.inr ⟨‹_›, ‹_›, rfl⟩⟩) | cases h
      · cases h; exact Or.inl rfl
  | _ => cases h; exact Or.inl rfl

theorem builtinOf_Int : builtinOf (str "Int") = some .int := by decide
theorem builtinOf_Float : builtinOf (str "Float") = some .float := by decide

theorem jsonNumberPre_conforms_back (s : Schema) {typ : GType} {x rv : GoVal}
    (h : jsonNumberPre typ x = .ok rv) (hc : CL s typ rv) : CL s typ x := by
  rcases jsonNumberPre_ok h with rfl | ⟨t, rfl, ⟨hn, i, hp, rfl⟩ | ⟨hn, hp, rfl⟩⟩
  · exact hc
  all_goals
    cases typ with
    | list e nn p => exact absurd hn (by simp [GType.namedType]; decide)
    | named n nn p =>
      cases (show n = _ from hn)
      simp only [CL, conformsWith, leafName, leafOK] at hc ⊢
      revert hc
      cases s.type? _ with
      | none => exact id
      | some d =>
        simp only []
        cases d.kind <;> simp [builtinOf_Int, builtinOf_Float, intOK, floatOK, enumOK, parseIntOk, parseFloatOk, hp]

theorem suppliedValue_noPanic (vars : VarMap) (v : VarDef) : NoPanic (suppliedValue vars v) := by
  unfold suppliedValue
  repeat' split
  all_goals trivial

/-- one iteration's `if hasValue { … }` block does not panic; what it stores conforms, what it was
    given having been coercible -/
theorem coerceSupplied_spec (hc : InputsClosed s) (hfn : F → InputFieldsNodup s) (hplain : F → EnumNamesPlain s)
    (op : OperationDef) (v : VarDef) (acc : GoFields) {x : GoVal} (ht : InputTypeOK s v.type) (hwf : wfB x = true) :
    (coerceSupplied s op v acc x).Sat False True fun c =>
      ∃ y, c = acc.set v.var y ∧ (noTypenameB x = true → noTypenameB y = true) ∧ (F → CR s v.type y ∧ CL s v.type x) := by
  rw [coerceSupplied_eq]
  split
  · rename_i hn
    cases (GoVal.isNil_iff x).mp hn
    split
    · trivial
    · rename_i hnn
      exact ⟨.nil, rfl, id, fun _ => by simp [CR, CL, conformsWith_nil, hnn]⟩
  · rename_i hn
    cases hj : jsonNumberPre v.type x with
    | error m => trivial
    | ok rv =>
      have hrv : wfB rv = true ∧ rv ≠ .nil ∧ (noTypenameB x = true → noTypenameB rv = true) := by
        rcases jsonNumberPre_ok hj with rfl | ⟨t, rfl, ⟨_, i, _, rfl⟩ | ⟨_, _, rfl⟩⟩
        · exact ⟨hwf, fun e => hn ((GoVal.isNil_iff rv).mpr e), id⟩
        all_goals exact ⟨rfl, nofun, fun _ => rfl⟩
      refine (validateVarType_spec hc hfn hplain (fuelFor s op rv) (varPath v) v.type rv ht hrv.1
        fun e => absurd e hrv.2.1).bind fun rval h => ?_
      simp only [(GoVal.isNil_false_iff rval).mpr (h.nonNil hrv.2.1), Bool.false_eq_true, if_false]
      exact ⟨rval, rfl, fun hx => h.noTypename (hrv.2.2 hx), fun hF =>
        ⟨(h.conforms hF).1, jsonNumberPre_conforms_back s hj (h.conforms hF).2⟩⟩

theorem coerceVar_noPanic (op : OperationDef) (vars : VarMap) (v : VarDef) (coerced : GoFields)
    (hc : InputsClosed s) (hop : ∃ d, s.type? v.type.name = some d)
    (hvars : wfFieldsB true vars = true) :
    NoPanic (coerceVar s op vars v coerced) := by
  obtain ⟨d, hd⟩ := hop
  rw [coerceVar_eq, hd]
  simp only []
  split
  · trivial
  · rename_i hin
    cases hs : suppliedValue vars v with
    | ok o =>
      cases o with
      | none => trivial
      | some x =>
        exact (coerceSupplied_spec (F := False) hc nofun nofun op v coerced
          ⟨d, hd, isInputType_kind (by simpa using hin)⟩ (suppliedValue_wf hvars hs)).imp fun _ _ => trivial
    | panic m => exact absurd (suppliedValue_noPanic vars v) (by rw [hs]; exact id)
    | _ => trivial

end

theorem lookup_mem {α β} [BEq α] [LawfulBEq α] {l : List (α × β)} {k : α} {v : β} (h : l.lookup k = some v) : (k, v) ∈ l :=
  mem_of_lookup h


/- on a scalar / enum NAMED type `single` is irrelevant -/

theorem leafOK_specT (s : Schema) (n : Name) (v : GoVal) : leafOK .specT s n v = leafOK .suppliedT s n v := by
  cases v <;> rfl

theorem conformsWith_named_leaf (s : Schema) (n : Name) (nn : Bool) (p : Pos) (d : Definition)
    (hd : s.type? n = some d) (hk : d.kind = .scalar ∨ d.kind = .enum) (v : GoVal) :
    conformsWith .specT s (.named n nn p) v = conformsWith .suppliedT s (.named n nn p) v := by
  have hno : ¬ d.kind = .inputObject := by rcases hk with h | h <;> simp [h]
  cases v <;> simp [conformsWith, leafName, leafOK_specT, hd, hno]

theorem leafOK_spec_specT (s : Schema) (n : Name) (v : GoVal) : leafOK .specT s n v = leafOK .spec s n v := by
  cases v <;> rfl
theorem leafOK_supplied_suppliedT (s : Schema) (n : Name) (v : GoVal) : leafOK .suppliedT s n v = leafOK .supplied s n v := by
  cases v <;> rfl

mutual
  theorem conforms_dropT (s : Schema) (b : Bool) : (t : GType) → (v : GoVal) → noTypenameB v = true →
      conformsWith { typenameKey := true, single := b } s t v = true → conformsWith { typenameKey := false, single := b } s t v = true
    | t, .slice e xs, hn, h => by
      cases t with
      | list el nn p => exact allConform_dropT s b el xs hn h
      | named n nn p => exact h
    | t, .map e kvs, hn, h => by
      simp only [conformsWith] at h ⊢
      rw [show leafName { typenameKey := false, single := b } t = leafName { typenameKey := true, single := b } t by cases t <;> rfl]
      revert h
      cases leafName { typenameKey := true, single := b } t with
      | none => exact id
      | some n =>
        simp only []
        cases s.type? n with
        | none => exact id
        | some d =>
          simp only []
          split
          · simp only [Bool.and_eq_true]
            exact fun h => ⟨fieldsDeclared_dropT s b d.fields kvs hn h.1, h.2⟩
          · exact id
    -- the judgement of a null and of a leaf does not look at `typenameKey`
    | t, .nil, _, h => h
    | t, .bool x, _, h => h
    | t, .int k x, _, h => h
    | t, .uint k x, _, h => h
    | t, .float k x, _, h => h
    | t, .jsonNumber x, _, h => h
    | t, .str x, _, h => h
  theorem allConform_dropT (s : Schema) (b : Bool) (el : GType) : (xs : GoVals) → noTypenameItemsB xs = true →
      allConform { typenameKey := true, single := b } s el xs = true → allConform { typenameKey := false, single := b } s el xs = true
    | .nil, _, _ => rfl
    | .cons v r, hn, h => by
      simp only [noTypenameItemsB, Bool.and_eq_true] at hn
      simp only [allConform, Bool.and_eq_true] at h ⊢
      exact ⟨conforms_dropT s b el v hn.1 h.1, allConform_dropT s b el r hn.2 h.2⟩
  theorem fieldsDeclared_dropT (s : Schema) (b : Bool) (fields : List FieldDef) : (kvs : GoFields) → noTypenameFieldsB kvs = true →
      fieldsDeclared { typenameKey := true, single := b } s fields kvs = true →
      fieldsDeclared { typenameKey := false, single := b } s fields kvs = true
    | .nil, _, _ => rfl
    | .cons k v r, hn, h => by
      simp only [noTypenameFieldsB, Bool.and_eq_true, decide_eq_true_eq] at hn
      simp only [fieldsDeclared, Bool.and_eq_true] at h ⊢
      refine ⟨?_, fieldsDeclared_dropT s b fields r hn.2 h.2⟩
      cases hf : fields.find? (fun f => f.name = k) with
      | some fd => simp only [hf] at h ⊢; exact conforms_dropT s b fd.type v hn.1.2 h.1
      | none => simp only [hf] at h; simp [hn.1.1] at h
end

end Gql
