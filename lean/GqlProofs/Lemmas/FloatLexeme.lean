import GqlModel.Vars.Spec
/-
  A FloatValue token of the grammar (`floatLexeme`) is never a SYNTAX error for the model of
  `strconv.ParseFloat` (it is `ok` or a range error): `parseFloat_lexeme_not_syntax`.
  First what the mantissa and exponent loops of `readFloat` do on runs of digits (`rfDigits_digits`,
  `rfDigits_stop`, `rfExp_run`); then the shape of a float lexeme (`floatLexeme_body`: sign, digits,
  optional fraction, a tail `TailOK`), on which `readFloat` reads to the end (`readFloat_of`) and
  `special` finds no `inf`/`nan` (`special_of_body`).
-/
namespace Gql
open Gql.Strconv

def ExpOrEnd (s : Bytes) : Prop := s = [] ∨ ∃ e r, s = e :: r ∧ (e = 101 ∨ e = 69)

theorem isDigit_bounds {c : Nat} (h : isDigit c = true) : 48 ≤ c ∧ c ≤ 57 := by
  simpa [isDigit] using h

theorem rfDigits_digits : ∀ (s : Bytes) (st : RF),
    ∃ st', rfDigits false s st = rfDigits false (dropDigits s) st' ∧ st'.underscores = st.underscores ∧
      st'.sawdot = st.sawdot ∧ (st.sawdigits = true ∨ (digits1 s).isSome = true → st'.sawdigits = true)
  | [], st => ⟨st, rfl, rfl, rfl, by simp [digits1]⟩
  | c :: r, st => by
    by_cases hd : isDigit c = true
    · have hb := isDigit_bounds hd
      simp only [dropDigits, hd, if_true]
      rw [rfDigits, if_neg (by omega), if_neg (by omega), if_pos hd]
      split <;> exact (rfDigits_digits r _).imp fun st' h => ⟨h.1, h.2.1, h.2.2.1, fun _ => h.2.2.2 (Or.inl rfl)⟩
    · exact ⟨st, by simp [dropDigits, hd], rfl, rfl, by simp [digits1, hd]⟩

theorem rfDigits_stop {t : Bytes} (h : ExpOrEnd t) (st : RF) : rfDigits false t st = (st, t) := by
  rcases h with rfl | ⟨e, r, rfl, rfl | rfl⟩ <;> rfl

theorem rfExp_run : ∀ (s : Bytes) (e : Nat) (us : Bool), dropDigits s = [] → ∃ e', rfExp s e us = (e', us, [])
  | [], e, us, _ => ⟨e, by simp [rfExp]⟩
  | c :: r, e, us, h => by
    by_cases hd : isDigit c = true
    · have hb := isDigit_bounds hd
      have h95 : c ≠ 95 := by omega
      simp only [dropDigits, hd, if_true] at h
      obtain ⟨e', he⟩ := rfExp_run r (if e < 10000 then e * 10 + (c - 48) else e) us h
      exact ⟨e', by simp only [rfExp, h95, hd, if_true, if_false]; exact he⟩
    · have hd' : isDigit c = false := by simpa using hd
      simp [dropDigits, hd'] at h

/-- what may follow the mantissa of a float lexeme: the end, or `[eE][+-]?[0-9]+` up to the end -/
def TailOK (t : Bytes) : Prop := t = [] ∨ ∃ e r3, t = e :: r3 ∧ (e = 101 ∨ e = 69) ∧ exponentTail r3 = true

theorem TailOK.expOrEnd {t : Bytes} (h : TailOK t) : ExpOrEnd t := by
  rcases h with h | ⟨e, r3, h, he, _⟩
  · exact Or.inl h
  · exact Or.inr ⟨e, r3, h, he⟩

theorem digits1_some {s x : Bytes} (h : digits1 s = some x) : dropDigits s = x ∧ ∃ c r, s = c :: r ∧ isDigit c = true := by
  cases s with
  | nil => simp [digits1] at h
  | cons c r =>
    by_cases hd : isDigit c = true
    · simp only [digits1, hd, if_true, Option.some.injEq] at h
      exact ⟨by simp [dropDigits, hd, h], c, r, rfl, hd⟩
    · simp [digits1, hd] at h

/-- the exponent part of `readFloat`, entered at the marker -/
theorem exponentTail_shape {r3 : Bytes} (h : exponentTail r3 = true) :
    ∃ sg r2, r3 = sg :: r2 ∧
      ∃ d r4, (if sg = 43 ∨ sg = 45 then r2 else r3) = d :: r4 ∧ isDigit d = true ∧ dropDigits (d :: r4) = [] := by
  cases r3 with
  | nil => simp [exponentTail, digits1] at h
  | cons sg r2 =>
    refine ⟨sg, r2, rfl, ?_⟩
    simp only [exponentTail] at h
    split at h
    · rename_i x hx
      obtain ⟨a, d, r4, e, hd⟩ := digits1_some hx
      exact ⟨d, r4, e, hd, by rw [← e]; exact a⟩
    · cases h

theorem readFloat_of (c : Nat) (r0 : Bytes) (st : RF) (rest : Bytes)
    (hnohex : ∀ a b c3 r, (if c = 43 ∨ c = 45 then r0 else c :: r0) = a :: b :: c3 :: r → ¬(a = 48 ∧ lower b = 120))
    (hrf : rfDigits false (if c = 43 ∨ c = 45 then r0 else c :: r0) {} = (st, rest))
    (hsd : st.sawdigits = true) (hus : st.underscores = false) (ht : TailOK rest) :
    ∃ neg ovf integral, readFloat (c :: r0) = some ([], neg, ovf, integral) := by
  have tail : ∀ (sg : Nat) (r2 : Bytes), exponentTail (sg :: r2) = true →
      ∃ d r4 ev, (if sg = 43 then ((1 : Int), r2) else if sg = 45 then (-1, r2) else (1, sg :: r2)).snd = d :: r4 ∧
        isDigit d = true ∧ rfExp (d :: r4) 0 false = (ev, false, []) := by
    intro sg r2 hx
    obtain ⟨sg', r2', e1, d, r4, e2, hd, hdd⟩ := exponentTail_shape hx
    cases e1
    obtain ⟨ev, hev⟩ := rfExp_run (d :: r4) 0 false hdd
    refine ⟨d, r4, ev, ?_, hd, hev⟩
    rw [← e2]
    by_cases h43 : sg = 43
    · simp [h43]
    · by_cases h45 : sg = 45
      · simp [h45]
      · simp [h43, h45]
  unfold readFloat
  simp only []
  -- the text does not start with `0x`: in both branches of the test the mantissa is read in decimal
  split
  all_goals
    try simp only [if_neg (hnohex _ _ _ _ ‹_›)]
    simp only [hrf, hsd, hus]
    rcases ht with rfl | ⟨e, r3, rfl, he, hx⟩
    · simp
    · have hl : lower e = 101 := by rcases he with rfl | rfl <;> decide
      cases r3 with
      | nil => simp [exponentTail, digits1] at hx
      | cons sg r2 =>
        obtain ⟨d, r4, ev, e1, hd, hev⟩ := tail sg r2 hx
        simp [hl, e1, hd, hev]

theorem lower_digit {b : Nat} (h : isDigit b = true) : lower b = b := by
  have := isDigit_bounds h
  simp only [lower]; split <;> omega

theorem floatLexeme_body {raw : Bytes} (h : floatLexeme raw = true) :
    ∃ c r0 d0 rb, raw = c :: r0 ∧ (if c = 43 ∨ c = 45 then r0 else c :: r0) = d0 :: rb ∧ isDigit d0 = true ∧
      ((∃ r2, dropDigits rb = 46 :: r2 ∧ (digits1 r2).isSome = true ∧ TailOK (dropDigits r2)) ∨
       (dropDigits rb ≠ [] ∧ TailOK (dropDigits rb))) := by
  cases raw with
  | nil => simp [floatLexeme, digits1] at h
  | cons c r0 =>
    simp only [floatLexeme] at h
    have hbody : (if c = 45 then r0 else c :: r0) = (if c = 43 ∨ c = 45 then r0 else c :: r0) := by
      by_cases h45 : c = 45
      · simp [h45]
      · simp only [h45, if_false, or_false] at h ⊢
        by_cases h43 : c = 43
        · subst h43; simp [digits1, isDigit] at h
        · simp [h43]
    rw [hbody] at h
    split at h
    · cases h
    · cases h
    · rename_i x c1 r2 hx
      obtain ⟨hdd, d0, rb, hb, hd0⟩ := digits1_some hx
      refine ⟨c, r0, d0, rb, rfl, hb, hd0, ?_⟩
      rw [hb] at hdd
      simp only [dropDigits, hd0, if_true] at hdd
      rw [hdd]
      by_cases h46 : c1 = 46
      · subst h46
        left
        simp only [if_true] at h
        refine ⟨r2, rfl, ?_⟩
        split at h
        · cases h
        · rename_i hy
          obtain ⟨e1, _⟩ := digits1_some hy
          exact ⟨by simp [hy], by rw [e1]; exact Or.inl rfl⟩
        · rename_i e r3 hy
          obtain ⟨e1, _⟩ := digits1_some hy
          simp only [Bool.and_eq_true, Bool.or_eq_true, decide_eq_true_eq] at h
          exact ⟨by simp [hy], by rw [e1]; exact Or.inr ⟨e, r3, rfl, h.1, h.2⟩⟩
      · right
        simp only [h46, if_false, Bool.and_eq_true, Bool.or_eq_true, decide_eq_true_eq] at h
        exact ⟨by simp, Or.inr ⟨c1, r2, rfl, h.1, h.2⟩⟩

theorem special_of_body (c d0 : Nat) (r0 rb : Bytes)
    (hb : (if c = 43 ∨ c = 45 then r0 else c :: r0) = d0 :: rb) (hd : isDigit d0 = true) : special (c :: r0) = none := by
  have hbd := isDigit_bounds hd
  by_cases hs : c = 43 ∨ c = 45
  · simp only [hs, if_true] at hb
    subst hb
    have : commonPrefixLen (d0 :: rb) (str "infinity") = 0 := by
      have hne : lower d0 ≠ 105 := by rw [lower_digit hd]; omega
      simp [commonPrefixLen, str, hne]
    simp [special, hs, this]
  · simp only [hs, if_false] at hb
    cases hb
    have h1 : ¬(c = 105 ∨ c = 73) := by omega
    have h2 : ¬(c = 110 ∨ c = 78) := by omega
    simp [special, hs, h1, h2]

theorem parseFloat_lexeme_not_syntax {raw : Bytes} (h : floatLexeme raw = true) : parseFloat raw ≠ .syntax := by
  obtain ⟨c, r0, d0, rb, hraw, hb, hd0, hshape⟩ := floatLexeme_body h
  subst hraw
  have hsp := special_of_body c d0 r0 rb hb hd0
  have hnohex : ∀ a b c3 r, (if c = 43 ∨ c = 45 then r0 else c :: r0) = a :: b :: c3 :: r → ¬(a = 48 ∧ lower b = 120) := by
    intro a b c3 r heq
    rw [hb] at heq
    cases heq
    intro ⟨_, hl⟩
    by_cases hbd : isDigit b = true
    · rw [lower_digit hbd] at hl
      have := isDigit_bounds hbd
      omega
    · have hbd' : isDigit b = false := by simpa using hbd
      simp only [dropDigits, hbd', Bool.false_eq_true, if_false] at hshape
      rcases hshape with ⟨r2, e, _⟩ | ⟨_, ht⟩
      · cases e; simp [lower] at hl
      · rcases ht with ht | ⟨e, r3, ht, he, _⟩
        · cases ht
        · cases ht
          rcases he with he | he <;> subst he <;> simp [lower] at hl
  have hrun : ∃ st rest, rfDigits false (d0 :: rb) {} = (st, rest) ∧ st.sawdigits = true ∧ st.underscores = false ∧ TailOK rest := by
    have hdrop : dropDigits (d0 :: rb) = dropDigits rb := by simp [dropDigits, hd0]
    obtain ⟨st1, e1, u1, dot1, sd1⟩ := rfDigits_digits (d0 :: rb) {}
    have sd1 := sd1 (Or.inr (by simp [digits1, hd0]))
    rw [hdrop] at e1
    rcases hshape with ⟨r2, e, _, ht⟩ | ⟨_, ht⟩
    · -- `[0-9]+ . [0-9]+`: the loop goes on behind the dot
      obtain ⟨st2, e2, u2, _, sd2⟩ := rfDigits_digits r2 { st1 with sawdot := true, dp := st1.nd }
      refine ⟨st2, _, ?_, sd2 (Or.inl sd1), u2.trans u1, ht⟩
      rw [e1, e, rfDigits, if_neg (by decide), if_pos rfl, if_neg (by simp [dot1]), e2, rfDigits_stop ht.expOrEnd]
    · exact ⟨st1, _, by rw [e1, rfDigits_stop ht.expOrEnd], sd1, u1, ht⟩
  obtain ⟨st, rest, hrf, hsd, hus, ht⟩ := hrun
  obtain ⟨neg, ovf, integral, hr⟩ := readFloat_of c r0 st rest hnohex (by rw [hb]; exact hrf) hsd hus ht
  simp only [parseFloat, hsp, hr]
  cases ovf <;> simp

end Gql
