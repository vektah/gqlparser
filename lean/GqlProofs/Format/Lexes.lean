import GqlModel.Syntax.Grammar
import GqlProofs.Lexer.Progress
/-
  Compositional lexing, independent of the cursor.

  * `Lexes inp ts`: from every cursor the lexer model reads exactly the significant tokens `ts`
    (kind + value) out of `inp` and then EOF.  `Lexes inp ts → tokensOf inp = some ts`.
  * `LexTo txt ts tight`: `txt` is a complete prefix of token texts — whatever follows it
    (restricted by `Follow tight`) is lexed on its own:
        Lexes post ts' → Lexes (txt ++ post) (ts ++ ts').
    `tight = true` means the text ends in a word-like token (Name, Int, Float, String) with no
    separator after it, so the next byte must be a separator or a punctuator (`sepByte`);
    `tight = false` means anything may follow.
-/
namespace Gql.Format
open Gql Gql.Lexer Gql.Grammar

inductive Lexes : Bytes → List Tok → Prop
  | eof {inp : Bytes} : (∀ c, (ws inp c).1 = []) → Lexes inp []
  | tok {inp rest : Bytes} {t : Tok} {ts : List Tok} :
      (∀ c, ∃ tk c', readToken inp c = .tok tk rest c' ∧ Tok.ofToken tk = t ∧ significant tk = true) →
      Lexes rest ts → Lexes inp (t :: ts)

theorem lexFuel_of_Lexes {inp : Bytes} {ts : List Tok} (h : Lexes inp ts) :
    ∀ (fuel : Nat) (c : Cur) (acc : List Token), inp.length < fuel →
      ∃ toks, lexFuel fuel inp c acc = .done (acc.reverse ++ toks) ∧
        (toks.filter significant).map Tok.ofToken = ts := by
  induction h with
  | @eof inp hws =>
    intro fuel c acc hf
    cases fuel with
    | zero => omega
    | succ f =>
      have h1 := hws c
      refine ⟨[{ kind := .eof, value := [], start := (ws inp c).2.endR, stop := (ws inp c).2.endR + 0,
                 line := (ws inp c).2.line, col := colOf (ws inp c).2.endR (ws inp c).2.ls }], ?_, by simp [significant]⟩
      simp [lexFuel, readToken, h1, readTokenBody, simpleTok]
  | @tok inp rest t ts hstep _ ih =>
    intro fuel c acc hf
    cases fuel with
    | zero => omega
    | succ f =>
      obtain ⟨tk, c', h1, h2, h3⟩ := hstep c
      have hp := readToken_progress inp c
      rw [h1] at hp
      have hne : tk.kind ≠ .eof := by
        intro e; simp [significant, e] at h3
      have hlt : rest.length < f := by
        have := hp.2 hne; omega
      obtain ⟨toks, e1, e2⟩ := ih f c' (tk :: acc) hlt
      refine ⟨tk :: toks, ?_, by simp [h3, h2, e2]⟩
      simp [lexFuel, h1, hne, e1]

theorem tokensOf_of_Lexes {inp : Bytes} {ts : List Tok} (h : Lexes inp ts) : tokensOf inp = some ts := by
  obtain ⟨toks, e1, e2⟩ := lexFuel_of_Lexes h (inp.length + 1) Cur.init [] (by omega)
  simp [tokensOf, lexAll, e1, e2]

/-- the single-byte ignored characters: TAB, LF, CR, space, comma -/
def blankByte (b : Nat) : Bool := b == 9 || b == 10 || b == 13 || b == 32 || b == 44

def AllIgnored (bs : Bytes) : Prop := ∀ b ∈ bs, blankByte b = true

theorem ws_plain (b : Nat) (r : Bytes) (c : Cur) (h : b = 9 ∨ b = 32 ∨ b = 44) :
    ws (b :: r) c = ws r (c.adv 1 1) := by
  rw [ws.eq_def]; simp [h]

theorem ws_lf (r : Bytes) (c : Cur) : ws (10 :: r) c = ws r (c.adv 1 1).newline := by
  rw [ws.eq_def]; simp

theorem ws_crlf (r : Bytes) (c : Cur) : ws (13 :: 10 :: r) c = ws r (c.adv 2 2).newline := by
  rw [ws.eq_def]; simp

theorem ws_cr (r : Bytes) (c : Cur) (h : ∀ r', r ≠ 10 :: r') : ws (13 :: r) c = ws r (c.adv 1 1).newline := by
  rw [ws.eq_def]; simp

theorem ws_stop (b : Nat) (r : Bytes) (c : Cur)
    (h : b ≠ 9 ∧ b ≠ 32 ∧ b ≠ 44 ∧ b ≠ 10 ∧ b ≠ 13 ∧ b ≠ 0xEF) : ws (b :: r) c = (b :: r, c) := by
  rw [ws.eq_def]; simp [h]

theorem ws_blank (b : Nat) (r : Bytes) (c : Cur) (h : blankByte b = true) :
    ∃ c', ws (b :: r) c = ws r c' := by
  simp [blankByte] at h
  rcases h with (((h | h) | h) | h) | h
  · exact ⟨_, ws_plain b r c (by simp [h])⟩
  · subst h; exact ⟨_, ws_lf r c⟩
  · subst h
    by_cases hr : ∃ r', r = 10 :: r'
    · obtain ⟨r', rfl⟩ := hr
      refine ⟨c.adv 1 1, ?_⟩
      rw [ws_crlf, ws_lf]; simp [Cur.adv, Cur.newline]
    · exact ⟨_, ws_cr r c (fun r' e => hr ⟨r', e⟩)⟩
  · exact ⟨_, ws_plain b r c (by simp [h])⟩
  · exact ⟨_, ws_plain b r c (by simp [h])⟩

theorem readToken_blank (b : Nat) (r : Bytes) (c : Cur) (h : blankByte b = true) :
    ∃ c', readToken (b :: r) c = readToken r c' := by
  obtain ⟨c', e⟩ := ws_blank b r c h
  exact ⟨c', by unfold readToken; rw [e]⟩

theorem Lexes_blank_cons {r : Bytes} {ts : List Tok} (b : Nat) (hb : blankByte b = true) (h : Lexes r ts) :
    Lexes (b :: r) ts := by
  cases h with
  | eof hws =>
    refine .eof fun c => ?_
    obtain ⟨c', e⟩ := ws_blank b r c hb
    rw [e]; exact hws c'
  | tok hstep hrest =>
    refine .tok (fun c => ?_) hrest
    obtain ⟨c', e⟩ := readToken_blank b r c hb
    rw [e]; exact hstep c'

theorem Lexes_blank {bl r : Bytes} {ts : List Tok} (hb : AllIgnored bl) (h : Lexes r ts) : Lexes (bl ++ r) ts := by
  induction bl with
  | nil => simpa using h
  | cons b bl ih =>
    exact Lexes_blank_cons b (hb b (by simp)) (ih fun x hx => hb x (by simp [hx]))

theorem Lexes_nil : Lexes [] [] := .eof fun c => by simp [ws]

/-- separators and single-byte punctuators: after any of these bytes a new token starts, and none
    of them continues a Name, a number or a String. -/
def sepByte (b : Nat) : Bool :=
  blankByte b || b == 33 || b == 36 || b == 38 || b == 40 || b == 41 || b == 58 || b == 61 || b == 64 ||
  b == 91 || b == 93 || b == 123 || b == 125 || b == 124

def Follow (tight : Bool) (post : Bytes) : Prop :=
  tight = true → ∀ b t, post = b :: t → sepByte b = true

theorem Follow_false (post : Bytes) : Follow false post := by intro h; cases h
theorem Follow_nil (tg : Bool) : Follow tg [] := by intro _ b t h; cases h
theorem Follow_cons (tg : Bool) (b : Nat) (t : Bytes) (h : sepByte b = true) : Follow tg (b :: t) := by
  intro _ b' t' e; simp at e; rw [← e.1]; exact h

theorem sepByte_of_blank {b : Nat} (h : blankByte b = true) : sepByte b = true := by simp [sepByte, h]

def LexTo (txt : Bytes) (ts : List Tok) (tight : Bool) : Prop :=
  ∀ post ts', Follow tight post → Lexes post ts' → Lexes (txt ++ post) (ts ++ ts')

theorem LexTo_nil : LexTo [] [] false := by intro post ts' _ h; simpa using h

theorem LexTo.weaken {txt : Bytes} {ts : List Tok} {tg : Bool} (h : LexTo txt ts false) : LexTo txt ts tg :=
  fun post ts' _ hl => h post ts' (Follow_false _) hl

theorem LexTo.toTight {txt : Bytes} {ts : List Tok} {tg : Bool} (h : LexTo txt ts tg) : LexTo txt ts true := by
  cases tg with
  | true => exact h
  | false => exact h.weaken

/-- the text `x` may be glued after a text that ends `tight` -/
def StartOK (tight : Bool) (x : Bytes) : Prop :=
  tight = true → ∃ b t, x = b :: t ∧ sepByte b = true

theorem StartOK_false (x : Bytes) : StartOK false x := by intro h; cases h

theorem StartOK_cons (tg : Bool) (b : Nat) (t : Bytes) (h : sepByte b = true) : StartOK tg (b :: t) :=
  fun _ => ⟨b, t, rfl, h⟩

theorem LexTo.append {a b : Bytes} {ts us : List Tok} {tga tgb : Bool}
    (ha : LexTo a ts tga) (hb : LexTo b us tgb) (hs : StartOK tga b) : LexTo (a ++ b) (ts ++ us) tgb := by
  intro post ts' hf hl
  have h1 := hb post ts' hf hl
  have hf' : Follow tga (b ++ post) := by
    intro ht x t e
    obtain ⟨b0, t0, e0, hsb⟩ := hs ht
    subst e0
    simp at e
    rw [← e.1]; exact hsb
  have h2 := ha (b ++ post) (us ++ ts') hf' h1
  simpa [List.append_assoc] using h2

theorem LexTo.blank {txt bl : Bytes} {ts : List Tok} {tg : Bool} (h : LexTo txt ts tg) (hb : AllIgnored bl)
    (hne : bl ≠ []) : LexTo (txt ++ bl) ts false := by
  intro post ts' _ hl
  have h1 : Lexes (bl ++ post) ts' := Lexes_blank hb hl
  have hf : Follow tg (bl ++ post) := by
    cases bl with
    | nil => exact absurd rfl hne
    | cons b t => exact Follow_cons tg b _ (sepByte_of_blank (hb b (by simp)))
  simpa [List.append_assoc] using h (bl ++ post) ts' hf h1

theorem LexTo.blank' {txt bl : Bytes} {ts : List Tok} {tg : Bool} (h : LexTo txt ts tg) (hb : AllIgnored bl) :
    LexTo (txt ++ bl) ts tg := by
  by_cases hne : bl = []
  · subst hne; simpa using h
  · exact (h.blank hb hne).weaken

/-- one token text: whatever cursor, the lexer reads token `t` off `x ++ post` and leaves `post` -/
def TokText (x : Bytes) (t : Tok) (tight : Bool) : Prop :=
  ∀ post, Follow tight post → ∀ c, ∃ tk c', readToken (x ++ post) c = .tok tk post c' ∧
    Tok.ofToken tk = t ∧ significant tk = true

theorem TokText.lexTo {x : Bytes} {t : Tok} {tg : Bool} (h : TokText x t tg) : LexTo x [t] tg :=
  fun post _ hf hl => .tok (h post hf) hl

end Gql.Format
