import GqlProofs.Format.ReloadLookup
import GqlProofs.Format.LoadTransfer
/-
  The loader state of `prelude ⊕ P` against the state the schema was made from.
  * `SameSk`: two type maps with the same skeletons under the same names.  `buildRelations` reads skeletons only, so
    the possible-types / implements relations hold the same entries up to order (`SameSk.possible_entries`,
    `SameSk.implements_entries`).
  * `Ctx.reload_state`: the state of `prelude ⊕ P` is built without error, its type map in closed form;
    `Ctx.sameSk`, `Ctx.skEq`: it is `SameSk` / `SkEq` to the original state — what the transfer of the validators
    (LoadTransfer.lean) asks for.
-/
namespace Gql.Format
open Gql Gql.Load Gql.Parser

theorem ptrOf_skTypes (T : List (Name × Definition)) (n : Name) : ptrOf (skTypes T) n = ptrOf T n := by
  unfold ptrOf
  rw [lookup_skTypes]
  cases T.lookup n <;> rfl

theorem possPushes_sk (T : List (Name × Definition)) (d : Definition) :
    possPushes (skTypes T) (skDef d) = possPushes T d := by
  unfold possPushes
  simp only [skDef_kind, skDef_types, skDef_name, skDef_interfaces, ptrOf_skTypes]

theorem implPushes_sk (T : List (Name × Definition)) (d : Definition) :
    implPushes (skTypes T) (skDef d) = implPushes T d := by
  unfold implPushes
  simp only [skDef_kind, skDef_types, skDef_name, skDef_interfaces, ptrOf_skTypes]

theorem skTypes_keys (T : List (Name × Definition)) : (skTypes T).map Prod.fst = T.map Prod.fst := by
  simp [skTypes, List.map_map, Function.comp_def]

theorem flatMap_sk (T : List (Name × Definition)) (G : List (Name × Definition) → Definition → List (Name × Option Name))
    (hG : ∀ d, G (skTypes T) (skDef d) = G T d) :
    ((skTypes T).map Prod.snd).flatMap (G (skTypes T)) = (T.map Prod.snd).flatMap (G T) := by
  simp only [skTypes, List.map_map, List.flatMap_map, Function.comp_def]
  congr 1
  funext p
  exact hG p.2

def SameSk (T T' : List (Name × Definition)) : Prop :=
  (T.map Prod.fst).Nodup ∧ (T'.map Prod.fst).Nodup ∧ ∀ n, (T'.lookup n).map skDef = (T.lookup n).map skDef

theorem SameSk.perm {T T' : List (Name × Definition)} (h : SameSk T T') : (skTypes T').Perm (skTypes T) := by
  apply perm_of_lookup_eq
  · rw [skTypes_keys]; exact h.1
  · rw [skTypes_keys]; exact h.2.1
  · intro n; rw [lookup_skTypes, lookup_skTypes]; exact h.2.2 n

theorem SameSk.keys_perm {T T' : List (Name × Definition)} (h : SameSk T T') : (T'.map Prod.fst).Perm (T.map Prod.fst) := by
  have := h.perm.map Prod.fst
  rwa [skTypes_keys, skTypes_keys] at this

theorem SameSk.lookup_sk {T T' : List (Name × Definition)} (h : SameSk T T') (n : Name) :
    (skTypes T').lookup n = (skTypes T).lookup n := by
  rw [lookup_skTypes, lookup_skTypes]; exact h.2.2 n

theorem SameSk.possible_entries {T T' : List (Name × Definition)} (h : SameSk T T') (k : Name) :
    (entriesOf (buildRelations T').1 k).Perm (entriesOf (buildRelations T).1 k) := by
  rw [Gql.Load.possible_entries, Gql.Load.possible_entries, ← flatMap_sk T' possPushes (possPushes_sk T'),
    ← flatMap_sk T possPushes (possPushes_sk T), possPushes_congr h.lookup_sk]
  exact (((h.perm.map Prod.snd).flatMap_right _).filter _).map _

theorem SameSk.implements_entries {T T' : List (Name × Definition)} (h : SameSk T T') (k : Name) :
    (entriesOf (buildRelations T').2 k).Perm (entriesOf (buildRelations T).2 k) := by
  rw [Gql.Load.implements_entries, Gql.Load.implements_entries, ← flatMap_sk T' implPushes (implPushes_sk T'),
    ← flatMap_sk T implPushes (implPushes_sk T), implPushes_congr h.lookup_sk]
  exact (((h.perm.map Prod.snd).flatMap_right _).filter _).map _

theorem relOut_entries_perm {rel rel' : Rel} {k : Name} (h : (entriesOf rel' k).Perm (entriesOf rel k)) :
    (((relOut rel').lookup k).getD []).Perm (((relOut rel).lookup k).getD []) := by
  rw [relOut_getD, relOut_getD]; exact h.map _

section
variable {cfg : Cfg} {pre u : SchemaDoc} {s : Schema} {st : LState} {r1 : Roots} {d1 : List Directive} {P : SchemaDoc}
variable (C : Ctx cfg pre u s st r1 d1 P)
include C

theorem Ctx.reload_state :
    ∃ st' acc0, buildState (pre.merge P) = .ok st' ∧ st'.types = reTypes pre P ∧
      declareDirectives u.directives acc0 = .ok st.directives ∧ declareDirectives P.directives acc0 = .ok st'.directives := by
  obtain ⟨acc0, h0, h1⟩ := directives_split C.built
  obtain ⟨D, hD⟩ := C.reload_directives_ok h0 h1
  have hd : declareDirectives (pre.merge P).directives [] = .ok D := declareDirectives_append_eq_ok.mpr ⟨_, h0, hD⟩
  have hext : (pre.merge P).extensions = [] := by simp [SchemaDoc.merge, C.hpre.noExt, C.hP.extensions]
  exact ⟨_, acc0, buildState_noExt hext C.reload_names_nodup hd, rfl, h1, hD⟩

theorem Ctx.sameSk {st' : LState} (hb' : buildState (pre.merge P) = .ok st') (ht : st'.types = reTypes pre P) :
    SameSk st.types st'.types :=
  ⟨C.F.typesInv.1, (buildState_inv hb').1.1, fun n => by rw [ht]; exact C.sk_types n⟩

theorem Ctx.skEq {st' : LState} {acc0 : List (Name × DirectiveDef)} (hb' : buildState (pre.merge P) = .ok st')
    (ht : st'.types = reTypes pre P) (h1 : declareDirectives u.directives acc0 = .ok st.directives)
    (hD : declareDirectives P.directives acc0 = .ok st'.directives) : SkEq st st' := by
  refine ⟨(C.sameSk hb' ht).2.2, C.sk_dirs h1 hD, ?_⟩
  apply isCovariant_congr (noNil_of_buildState C.built)
  intro k
  have e1 : st.possible = (buildRelations st.types).1 := congrArg Prod.fst C.F.rel
  have e2 : st'.possible = (buildRelations st'.types).1 := congrArg Prod.fst (buildState_inv hb').2.2
  rw [e1, e2]
  exact (C.sameSk hb' ht).possible_entries k

end

end Gql.Format
