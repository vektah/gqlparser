import GqlProofs.Format.ReloadFinish
/-
  Three things the reload theorem (`reload_main`, ReloadMain.lean) is stated and assembled with; beyond that they
  share no idea:
  * what it concludes and assumes: the equivalence `ReloadEquiv`, the hypothesis `RootsPrintable`;
  * the entry-point loop on the printed root operation types: positions do not matter (`setRoots_erasePos`,
    `setRoots_of_erasePos`), and the printed entries set the roots of the schema when these resolve
    (`RootsResolve`, `setRoots_rootOpTypes`);
  * `loaded_run`: a successful load in terms of the two validator walks of the model.
-/
namespace Gql.Format
open Gql Gql.Load Gql.Parser

/-- `s'` is `s` reloaded from its formatted text: the same root operation types; name by name the same
    types and directive definitions — a built-in type / a prelude directive definition is the identical
    definition, every other one is the original up to positions and up to what the formatter
    normalises (`normDef cfg`: a block-string VALUE comes back as a string value; `WithoutDescription`
    drops descriptions); the same schema directives up to positions; possible types and implementers
    of every name up to order.  The order of the maps is irrelevant (lookups, key lists up to
    permutation).  `Schema.Description` is NOT kept (`description`): `FormatSchema` never prints it. -/
structure ReloadEquiv (cfg : Cfg) (s s' : Schema) : Prop where
  query : s'.query = s.query
  mutation : s'.mutation = s.mutation
  subscription : s'.subscription = s.subscription
  schemaDirectives : s'.schemaDirectives.map Directive.erasePos = (s.schemaDirectives.map normDir).map Directive.erasePos
  description : s'.description = []
  typeNames : (s'.types.map Prod.fst).Perm (s.types.map Prod.fst)
  types : ∀ n d, s.types.lookup n = some d → ∃ d', s'.types.lookup n = some d' ∧
    (d.builtIn = true → d' = d) ∧ (d.builtIn = false → d'.erasePos = (normDef cfg d).erasePos)
  directiveNames : (s'.directives.map Prod.fst).Perm (s.directives.map Prod.fst)
  directives : ∀ n dd, s.directives.lookup n = some dd → ∃ dd', s'.directives.lookup n = some dd' ∧
    (dd.pos.src = 0 → dd' = dd) ∧ (dd.pos.src ≠ 0 → dd'.erasePos = (normDirectiveDef cfg dd).erasePos)
  possible : ∀ k, (s'.possible k).Perm (s.possible k)
  implementsOf : ∀ k, (s'.implementsOf k).Perm (s.implementsOf k)

/-- when no schema definition is printed, loading the text infers the same roots:
    every root is the default-named type, or absent with no type of the default name -/
def RootsPrintable (s : Schema) : Prop :=
  needSchema s = false →
    (isDefaultRoot s s.query (str "Query") && isDefaultRoot s s.mutation (str "Mutation") &&
      isDefaultRoot s s.subscription (str "Subscription")) = true

instance (s : Schema) : Decidable (RootsPrintable s) := by unfold RootsPrintable; infer_instance

/-- whether `setRoots` succeeds, and with which roots, does not depend on the recorded positions
    (they only go into the error messages) -/
theorem setRoots_erasePos (T : List (Name × Definition)) (l : List OpTypeDef) (r : Roots) :
    (setRoots T (l.map OpTypeDef.erasePos) r).toOption = (setRoots T l r).toOption := by
  induction l generalizing r with
  | nil => rfl
  | cons e rest ih =>
    simp only [List.map_cons, setRoots_cons, OpTypeDef.erasePos]
    cases T.lookup e.type with
    | none => rfl
    | some d =>
      simp only
      split
      · rfl
      · exact ih _

theorem setRoots_of_erasePos {T : List (Name × Definition)} {l l' : List OpTypeDef} {r r' : Roots}
    (hl : l'.map OpTypeDef.erasePos = l.map OpTypeDef.erasePos) (h : setRoots T l r = .ok r') : setRoots T l' r = .ok r' := by
  have := setRoots_erasePos T l' r
  rw [hl, setRoots_erasePos, h] at this
  cases hs : setRoots T l' r with
  | error e => rw [hs] at this; cases this
  | ok x => rw [hs] at this; exact congrArg Except.ok (Option.some.inj this).symm

/-- the roots that are set resolve, by their own names, in `T` -/
def RootsResolve (T : List (Name × Definition)) (s : Schema) : Prop :=
  (∀ n, s.query = some n → ∃ d, T.lookup n = some d ∧ d.name = n) ∧
  (∀ n, s.mutation = some n → ∃ d, T.lookup n = some d ∧ d.name = n) ∧
  (∀ n, s.subscription = some n → ∃ d, T.lookup n = some d ∧ d.name = n)

theorem setRoots_rootOpTypes {T : List (Name × Definition)} {s : Schema} (h : RootsResolve T s) :
    setRoots T (rootOpTypes s) noRoots = .ok { query := s.query, mutation := s.mutation, subscription := s.subscription } := by
  obtain ⟨hq, hm, hs⟩ := h
  have eq1 : (str "query" : Bytes) = opQuery := rfl
  have eq2 : (str "mutation" : Bytes) = opMutation := rfl
  have eq3 : (str "subscription" : Bytes) = opSubscription := rfl
  cases hqq : s.query with
  | none =>
    cases hmm : s.mutation with
    | none =>
      cases hss : s.subscription with
      | none => simp [rootOpTypes, rootOpType, hqq, hmm, hss, setRoots, noRoots]
      | some c =>
        obtain ⟨dc, hc1, hc2⟩ := hs c hss
        simp [rootOpTypes, rootOpType, hqq, hmm, hss, setRoots, noRoots, hc1, hc2, eq3, opSubscription_ne_opQuery,
          opSubscription_ne_opMutation]
    | some b =>
      obtain ⟨db, hb1, hb2⟩ := hm b hmm
      cases hss : s.subscription with
      | none => simp [rootOpTypes, rootOpType, hqq, hmm, hss, setRoots, noRoots, hb1, hb2, eq2, opMutation_ne_opQuery]
      | some c =>
        obtain ⟨dc, hc1, hc2⟩ := hs c hss
        simp [rootOpTypes, rootOpType, hqq, hmm, hss, setRoots, noRoots, hb1, hb2, hc1, hc2, eq2, eq3,
          opMutation_ne_opQuery, opSubscription_ne_opQuery, opSubscription_ne_opMutation]
  | some a =>
    obtain ⟨da, ha1, ha2⟩ := hq a hqq
    cases hmm : s.mutation with
    | none =>
      cases hss : s.subscription with
      | none => simp [rootOpTypes, rootOpType, hqq, hmm, hss, setRoots, noRoots, ha1, ha2, eq1]
      | some c =>
        obtain ⟨dc, hc1, hc2⟩ := hs c hss
        simp [rootOpTypes, rootOpType, hqq, hmm, hss, setRoots, noRoots, ha1, ha2, hc1, hc2, eq1, eq3,
          opSubscription_ne_opQuery, opSubscription_ne_opMutation]
    | some b =>
      obtain ⟨db, hb1, hb2⟩ := hm b hmm
      cases hss : s.subscription with
      | none =>
        simp [rootOpTypes, rootOpType, hqq, hmm, hss, setRoots, noRoots, ha1, ha2, hb1, hb2, eq1, eq2,
          opMutation_ne_opQuery]
      | some c =>
        obtain ⟨dc, hc1, hc2⟩ := hs c hss
        simp [rootOpTypes, rootOpType, hqq, hmm, hss, setRoots, noRoots, ha1, ha2, hb1, hb2, hc1, hc2, eq1, eq2, eq3,
          opMutation_ne_opQuery, opSubscription_ne_opQuery, opSubscription_ne_opMutation]

/-- a successful load in terms of the two validator walks of the model -/
theorem loaded_run {sd : SchemaDoc} {s : Schema} (h : load sd = .ok s) :
    ∃ st r1 d1, Facts sd s st r1 d1 ∧ validateTypeDefinitions st = .pass ∧ validateDirectiveDefinitions st = .pass ∧
      validateDirectives st d1 locSchema none = .pass ∧ d1 = (sd.schema ++ sd.schemaExt).flatMap (·.dirs) :=
  let ⟨st, r1, F, C⟩ := loaded_checked h
  ⟨st, r1, _, F, validateTypeDefinitions_pass_iff.mpr C.defs, validateDirectiveDefinitions_pass_iff.mpr C.dirDefs,
    C.schemaDirs_all, rfl⟩

end Gql.Format
