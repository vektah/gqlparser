import GqlProofs.Format.ReloadDoc
import GqlProofs.Format.NormPreserveSchema
/-
  `docOfSchema_printable`: the document `FormatSchema` prints for a schema loaded from a formattable,
  grammatical source document is again formattable and grammatical (`FormattableSchema`, `DocAll ItemOK`:
  the hypotheses of the formatter → parser bridge `C13_format_roundtrip`).
-/
namespace Gql.Format
open Gql Gql.Load Gql.Parser Gql.Grammar Gql.Print

/-- a definition the bridge can handle: formattable and satisfying the parser's side conditions -/
def DefGood (d : Definition) : Prop := defOk d = true ∧ Gql.Parser.DefOK d

theorem cdirs_append {a b : List Directive} (ha : CDirs a) (hb : CDirs b) : CDirs (a ++ b) :=
  ⟨fun x hx => (List.mem_append.mp hx).elim (ha.1 x) (hb.1 x), fun x hx => (List.mem_append.mp hx).elim (ha.2 x) (hb.2 x)⟩

theorem forall_mem_ite_singleton {α} {c : Prop} [Decidable c] {a : α} {Q : α → Prop} (h : c → Q a) :
    ∀ x ∈ (if c then [a] else []), Q x := by
  intro x hx
  split at hx
  · rename_i hc
    rw [List.mem_singleton.mp hx]
    exact h hc
  · cases hx

theorem cdirs_nil : CDirs [] := by
  constructor <;> intro x hx <;> cases hx

theorem shapeOk_applyExt {d e : Definition} (hd : shapeOk d = true) (he : shapeOk e = true) (hk : e.kind = d.kind) :
    shapeOk (applyExt e d) = true := by
  unfold shapeOk at hd he ⊢
  rw [hk] at he
  rw [show (applyExt e d).kind = d.kind from rfl]
  cases hkd : d.kind <;> simp only [hkd] at hd he ⊢ <;>
    simp only [Bool.and_eq_true, List.isEmpty_iff] at hd he ⊢ <;>
    simp_all [applyExt, List.all_append]

theorem defOk_applyExt {d e : Definition} (hd : defOk d = true) (he : defOk e = true) (hk : e.kind = d.kind) :
    defOk (applyExt e d) = true := by
  unfold defOk at hd he ⊢
  simp only [Bool.and_eq_true] at hd he ⊢
  obtain ⟨⟨⟨⟨⟨⟨⟨d1, d2⟩, d3⟩, d4⟩, d5⟩, d6⟩, d7⟩, d8⟩ := hd
  obtain ⟨⟨⟨⟨⟨⟨⟨_, _⟩, e3⟩, e4⟩, e5⟩, e6⟩, e7⟩, e8⟩ := he
  have app : ∀ {α} {p : α → Bool} {a b : List α}, a.all p = true → b.all p = true → (a ++ b).all p = true :=
    fun ha hb => by rw [List.all_append, ha, hb]; rfl
  exact ⟨⟨⟨⟨⟨⟨⟨d1, d2⟩, app d3 e3⟩, app d4 e4⟩, app d5 e5⟩, app d6 e6⟩, app d7 e7⟩, shapeOk_applyExt d8 e8 hk⟩

theorem parserDefOK_applyExt {d e : Definition} (hd : Gql.Parser.DefOK d) (he : Gql.Parser.DefOK e) (hk : e.kind = d.kind) :
    Gql.Parser.DefOK (applyExt e d) := by
  unfold Gql.Parser.DefOK at hd he ⊢
  obtain ⟨hd1, hd2⟩ := hd
  obtain ⟨he1, he2⟩ := he
  refine ⟨cdirs_append hd1 he1, ?_⟩
  rw [hk] at he2
  have hk' : (applyExt e d).kind = d.kind := rfl
  rw [hk']
  -- kind by kind: the parts that must be empty stay empty, a condition on all elements holds of an append
  cases hkd : d.kind <;> simp only [hkd] at hd2 he2 ⊢ <;> simp_all [applyExt, or_imp]

theorem defGood_applyExt {d e : Definition} (hd : DefGood d) (he : DefGood e) (hk : e.kind = d.kind) :
    DefGood (applyExt e d) :=
  ⟨defOk_applyExt hd.1 he.1 hk, parserDefOK_applyExt hd.2 he.2 hk⟩

theorem defOk_name {d : Definition} (h : defOk d = true) : isNameB d.name = true := by
  unfold defOk at h
  simp only [Bool.and_eq_true] at h
  exact h.1.1.1.1.1.1.2

theorem defGood_extStub {e : Definition} (he : DefGood e) : DefGood (extStub e) := by
  constructor
  · have hn := defOk_name he.1
    have hs : strRaw ([] : Bytes) = true := by decide
    unfold defOk shapeOk extStub
    cases e.kind <;> simp [hn, hs]
  · unfold Gql.Parser.DefOK extStub
    refine ⟨cdirs_nil, ?_⟩
    cases e.kind <;> simp

theorem state_types_good {sd : SchemaDoc} {st : LState} (hb : buildState sd = .ok st)
    (hdefs : ∀ d ∈ sd.definitions, DefGood d) (hexts : ∀ e ∈ sd.extensions, DefGood e) :
    ∀ p ∈ st.types, DefGood p.2 :=
  buildState_types_all (Q := fun p => DefGood p.2) hb hdefs (fun e he => defGood_extStub (hexts e he))
    fun e he _ hd hk => defGood_applyExt hd (hexts e he) hk.symm

theorem isNameB_rootOps : isNameB (str "query") = true ∧ isNameB (str "mutation") = true ∧
    isNameB (str "subscription") = true := by decide

theorem rootOpType_ok (kw : Bytes) (hk : isNameB kw = true) (hop : isOperationType kw) (r : Option Name)
    (hr : ∀ n, r = some n → isNameB n = true) :
    (rootOpType kw r).all opTypeOk = true ∧ ∀ o ∈ rootOpType kw r, isOperationType o.op := by
  cases r with
  | none => exact ⟨rfl, fun o ho => by cases ho⟩
  | some n =>
    refine ⟨by simp [rootOpType, opTypeOk, hk, hr n rfl], ?_⟩
    intro o ho
    simp only [rootOpType, List.mem_singleton] at ho
    subst ho
    exact hop

theorem rootOpTypes_ok {s : Schema} (hq : ∀ n, s.query = some n → isNameB n = true)
    (hm : ∀ n, s.mutation = some n → isNameB n = true) (hs : ∀ n, s.subscription = some n → isNameB n = true) :
    (rootOpTypes s).all opTypeOk = true ∧ ∀ o ∈ rootOpTypes s, isOperationType o.op := by
  obtain ⟨n1, n2, n3⟩ := isNameB_rootOps
  obtain ⟨a1, a2⟩ := rootOpType_ok (str "query") n1 (Or.inl rfl) s.query hq
  obtain ⟨b1, b2⟩ := rootOpType_ok (str "mutation") n2 (Or.inr (Or.inl rfl)) s.mutation hm
  obtain ⟨c1, c2⟩ := rootOpType_ok (str "subscription") n3 (Or.inr (Or.inr rfl)) s.subscription hs
  unfold rootOpTypes
  refine ⟨by simp only [List.all_append, a1, b1, c1, Bool.and_self], ?_⟩
  intro o ho
  simp only [List.mem_append] at ho
  rcases ho with (ho | ho) | ho
  · exact a2 o ho
  · exact b2 o ho
  · exact c2 o ho

theorem docOfSchema_printable {cfg : Cfg} (hb : cfg.emitBuiltin = false) {sd : SchemaDoc} {s : Schema}
    (hload : load sd = .ok s) (hF : FormattableSchema sd) (hI : DocAll ItemOK sd) :
    FormattableSchema (docOfSchema cfg s) ∧ DocAll ItemOK (docOfSchema cfg s) := by
  obtain ⟨st, r1, F, _⟩ := loaded_checked hload
  unfold FormattableSchema schemaDocOk at hF
  simp only [Bool.and_eq_true, List.all_eq_true] at hF
  obtain ⟨⟨⟨⟨f1, f2⟩, f3⟩, f4⟩, f5⟩ := hF
  obtain ⟨i1, i2, i3, i4, i5⟩ := hI
  have G : ∀ p ∈ st.types, DefGood p.2 := by
    apply state_types_good F.built
    · exact fun d hd => ⟨f4 d hd, i4 d hd⟩
    · intro e he
      have := f5 e he
      simp only [extOk, Bool.and_eq_true] at this
      exact ⟨this.1, (i5 e he).1⟩
  have hdefs : ∀ x ∈ (sortedByKey s.types).map (dropHidden cfg), ∃ p ∈ st.types, x = p.2 := by
    intro x hx
    obtain ⟨y, hy, rfl⟩ := List.mem_map.mp hx
    obtain ⟨p', hp', rfl⟩ := (mem_sortedByKey _ _).mp hy
    rw [F.types_eq] at hp'
    obtain ⟨p0, hp0, rfl⟩ := List.mem_map.mp hp'
    exact ⟨p0, hp0, dropHidden_finalDef hb _ (F.defOK p0 hp0).fieldNames⟩
  have hdirs : ∀ x ∈ sortedByKey s.directives, x ∈ sd.directives := by
    intro x hx
    obtain ⟨p, hp, rfl⟩ := (mem_sortedByKey _ _).mp hx
    rw [F.directives_eq] at hp
    exact state_directives_mem F.built p hp
  have hsd1 : s.schemaDirectives.all dirOk = true := by
    rw [F.schemaDirectives_eq, List.all_eq_true]
    intro x hx
    simp only [List.mem_flatMap, List.mem_append] at hx
    obtain ⟨sdef, hs | hs, hxd⟩ := hx
    · have := f1 sdef hs
      simp only [schemaDefOk, Bool.and_eq_true, List.all_eq_true] at this
      exact this.1.2 x hxd
    · have := f2 sdef hs
      simp only [schemaExtOk, Bool.and_eq_true, List.all_eq_true] at this
      exact this.1.2 x hxd
  have hsd2 : CDirs s.schemaDirectives := by
    rw [F.schemaDirectives_eq, List.flatMap_append]
    exact cdirs_append (CDirs_flatMap _ fun d hd => (i1 d hd).1) (CDirs_flatMap _ fun d hd => (i2 d hd).2.1)
  -- roots are names of stored definitions
  have hrootname : ∀ n, (st.types.lookup n).isSome → isNameB n = true := by
    intro n hn
    obtain ⟨d, hl⟩ := Option.isSome_iff_exists.mp hn
    have hm := mem_of_lookup hl
    rw [← show d.name = n from F.typesInv.2 _ hm]
    exact defOk_name (G _ hm).1
  have hroots := F.roots
  rw [F.roots_eq] at hroots
  obtain ⟨ro1, ro2⟩ := rootOpTypes_ok (s := s) (fun n hn => hrootname n (hroots.1 n hn))
    (fun n hn => hrootname n (hroots.2.1 n hn)) (fun n hn => hrootname n (hroots.2.2 n hn))
  have hs0 : strRaw ([] : Bytes) = true := by decide
  constructor
  · -- FormattableSchema
    unfold FormattableSchema schemaDocOk docOfSchema docOfSchemaRaw
    simp only [Bool.and_eq_true, List.all_eq_true]
    refine ⟨⟨⟨⟨?_, ?_⟩, ?_⟩, ?_⟩, ?_⟩
    · exact forall_mem_ite_singleton fun _ => by simp [schemaDefOk, hs0, hsd1, ro1]
    · exact forall_mem_ite_singleton fun _ => by simp [schemaExtOk, hsd1]
    · intro x hx
      exact f3 x (hdirs x hx)
    · intro x hx
      obtain ⟨p, hp, rfl⟩ := hdefs x hx
      exact (G p hp).1
    · intro x hx; cases hx
  · -- ItemOK
    unfold docOfSchema docOfSchemaRaw
    refine ⟨?_, ?_, ?_, ?_, ?_⟩
    · exact forall_mem_ite_singleton fun hn => ⟨hsd2, rootOpTypes_ne_nil hn, ro2⟩
    · refine forall_mem_ite_singleton fun hc => ⟨rfl, hsd2, Or.inl ?_, fun o ho => by cases ho⟩
      simp only [Bool.and_eq_true, Bool.not_eq_eq_eq_not, Bool.not_true, List.isEmpty_eq_false_iff] at hc
      simpa using hc.2
    · intro x hx
      exact i3 x (hdirs x hx)
    · intro x hx
      obtain ⟨p, hp, rfl⟩ := hdefs x hx
      exact (G p hp).2
    · intro x hx; cases hx

end Gql.Format
