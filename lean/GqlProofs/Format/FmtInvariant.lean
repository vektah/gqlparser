import GqlProofs.Format.Formattable
import GqlProofs.Parser.ErasePos
/-
  What the formatter of executable documents does not look at:
  * recorded positions (`fmtQuery_erasePos`),
  * the string / block-string distinction of VALUES (`fmtQuery_normFmt`).
  Together: two documents whose normal forms agree up to positions are formatted alike.
-/
namespace Gql.Format
open Gql Gql.Lexer Gql.Print

variable {cfg : Cfg}

mutual
  theorem renderValue_erasePos : ∀ v : Value, renderValue v.erasePos = renderValue v
    | .mk k raw ch p => by
      cases k <;> simp [Value.erasePos, renderValue, renderListItems_erasePos, renderObjFields_erasePos]
  theorem renderListItems_erasePos : ∀ (ch : Children) (first : Bool),
      renderListItems first ch.erasePos = renderListItems first ch
    | .nil, _ => rfl
    | .cons n v p rest, first => by
      simp [Children.erasePos, renderListItems, renderValue_erasePos v, renderListItems_erasePos rest]
  theorem renderObjFields_erasePos : ∀ (ch : Children) (first : Bool),
      renderObjFields first ch.erasePos = renderObjFields first ch
    | .nil, _ => rfl
    | .cons n v p rest, first => by
      simp [Children.erasePos, renderObjFields, renderValue_erasePos v, renderObjFields_erasePos rest]
end

theorem render_erasePos : ∀ t : GType, t.erasePos.render = t.render
  | .named n nn p => rfl
  | .list e nn p => by simp [GType.erasePos, GType.render, render_erasePos e]

theorem formatArgument_erasePos (a : Argument) (w : W) :
    formatArgument cfg a.erasePos w = formatArgument cfg a w := by
  simp [formatArgument, Argument.erasePos, renderValue_erasePos]

theorem formatArguments_erasePos : ∀ (as : List Argument) (w : W),
    formatArguments cfg (as.map Argument.erasePos) w = formatArguments cfg as w
  | [], w => rfl
  | [a], w => by simp [formatArguments, formatArgument_erasePos]
  | a :: b :: rest, w => by
    have ih := formatArguments_erasePos (b :: rest)
    simp only [List.map_cons] at ih
    simp [formatArguments, formatArgument_erasePos, ih]

theorem formatArgumentList_erasePos (as : List Argument) (w : W) :
    formatArgumentList cfg (as.map Argument.erasePos) w = formatArgumentList cfg as w := by
  simp [formatArgumentList, formatArguments_erasePos]

theorem formatDirective_erasePos (d : Directive) (w : W) :
    formatDirective cfg d.erasePos w = formatDirective cfg d w := by
  simp [formatDirective, Directive.erasePos, formatArgumentList_erasePos]

theorem formatDirectiveList_erasePos (ds : List Directive) (w : W) :
    formatDirectiveList cfg (ds.map Directive.erasePos) w = formatDirectiveList cfg ds w := by
  simp [formatDirectiveList, List.foldl_map, formatDirective_erasePos]

theorem formatVariableDefinition_erasePos (d : VarDef) (w : W) :
    formatVariableDefinition cfg d.erasePos w = formatVariableDefinition cfg d w := by
  obtain ⟨var, type, dflt, dirs, pos⟩ := d
  cases dflt <;>
    simp [formatVariableDefinition, VarDef.erasePos, formatType, formatValue, render_erasePos,
      renderValue_erasePos, formatDirectiveList_erasePos]

theorem formatVariableDefinitions_erasePos : ∀ (ds : List VarDef) (w : W),
    formatVariableDefinitions cfg (ds.map VarDef.erasePos) w = formatVariableDefinitions cfg ds w
  | [], w => rfl
  | [a], w => by simp [formatVariableDefinitions, formatVariableDefinition_erasePos]
  | a :: b :: rest, w => by
    have ih := formatVariableDefinitions_erasePos (b :: rest)
    simp only [List.map_cons] at ih
    simp [formatVariableDefinitions, formatVariableDefinition_erasePos, ih]

theorem formatVariableDefinitionList_erasePos (ds : List VarDef) (w : W) :
    formatVariableDefinitionList cfg (ds.map VarDef.erasePos) w = formatVariableDefinitionList cfg ds w := by
  simp [formatVariableDefinitionList, formatVariableDefinitions_erasePos]

mutual
  theorem formatSelection_erasePos : ∀ (s : Selection) (w : W),
      formatSelection cfg s.erasePos w = formatSelection cfg s w
    | .field al nm args ds sel p, w => by
      simp [Selection.erasePos, formatSelection, formatArgumentList_erasePos, formatDirectiveList_erasePos,
        formatSelectionSet_erasePos sel]
    | .spread nm ds p, w => by
      simp [Selection.erasePos, formatSelection, formatDirectiveList_erasePos]
    | .inline tc ds sel p, w => by
      simp [Selection.erasePos, formatSelection, formatDirectiveList_erasePos, formatSelectionSet_erasePos sel]
  theorem formatSelectionSet_erasePos : ∀ (sel : Selections) (w : W),
      formatSelectionSet cfg sel.erasePos w = formatSelectionSet cfg sel w
    | .nil, w => rfl
    | .cons s rest, w => by
      simp [Selections.erasePos, formatSelectionSet, formatSelection_erasePos s, formatSelections_erasePos rest]
  theorem formatSelections_erasePos : ∀ (sels : Selections) (w : W),
      formatSelections cfg sels.erasePos w = formatSelections cfg sels w
    | .nil, w => rfl
    | .cons s rest, w => by
      simp [Selections.erasePos, formatSelections, formatSelection_erasePos s, formatSelections_erasePos rest]
end

theorem formatOperationDefinition_erasePos (o : OperationDef) (w : W) :
    formatOperationDefinition cfg o.erasePos w = formatOperationDefinition cfg o w := by
  obtain ⟨op, name, vars, dirs, sel, pos⟩ := o
  cases sel with
  | nil =>
    simp [formatOperationDefinition, OperationDef.erasePos, Selections.erasePos,
      formatVariableDefinitionList_erasePos, formatDirectiveList_erasePos]
  | cons s rest =>
    have e := formatSelectionSet_erasePos (cfg := cfg) (.cons s rest)
    simp only [Selections.erasePos] at e
    simp [formatOperationDefinition, OperationDef.erasePos, Selections.erasePos,
      formatVariableDefinitionList_erasePos, formatDirectiveList_erasePos, e]

theorem formatFragmentDefinition_erasePos (f : FragmentDef) (w : W) :
    formatFragmentDefinition cfg f.erasePos w = formatFragmentDefinition cfg f w := by
  obtain ⟨name, vars, tc, dirs, sel, pos⟩ := f
  cases sel with
  | nil =>
    simp [formatFragmentDefinition, FragmentDef.erasePos, Selections.erasePos,
      formatVariableDefinitionList_erasePos, formatDirectiveList_erasePos]
  | cons s rest =>
    have e := formatSelectionSet_erasePos (cfg := cfg) (.cons s rest)
    simp only [Selections.erasePos] at e
    simp [formatFragmentDefinition, FragmentDef.erasePos, Selections.erasePos,
      formatVariableDefinitionList_erasePos, formatDirectiveList_erasePos, e]

theorem fmtQuery_erasePos (d : QueryDoc) : fmtQuery cfg d.erasePos = fmtQuery cfg d := by
  have e1 : ∀ o w, formatOperationDefinition cfg (OperationDef.erasePos o) w = formatOperationDefinition cfg o w :=
    formatOperationDefinition_erasePos
  have e2 : ∀ f w, formatFragmentDefinition cfg (FragmentDef.erasePos f) w = formatFragmentDefinition cfg f w :=
    formatFragmentDefinition_erasePos
  simp [fmtQuery, formatQueryDocument, QueryDoc.erasePos, List.foldl_map, e1, e2]

mutual
  theorem renderValue_norm : ∀ v : Value, renderValue (normValue v) = renderValue v
    | .mk k raw ch p => by
      cases k <;> simp [normValue, normKind, renderValue, renderListItems_norm, renderObjFields_norm]
  theorem renderListItems_norm : ∀ (ch : Children) (first : Bool),
      renderListItems first (normChildren ch) = renderListItems first ch
    | .nil, _ => rfl
    | .cons n v p rest, first => by
      simp [normChildren, renderListItems, renderValue_norm v, renderListItems_norm rest]
  theorem renderObjFields_norm : ∀ (ch : Children) (first : Bool),
      renderObjFields first (normChildren ch) = renderObjFields first ch
    | .nil, _ => rfl
    | .cons n v p rest, first => by
      simp [normChildren, renderObjFields, renderValue_norm v, renderObjFields_norm rest]
end

theorem formatArgument_norm (a : Argument) (w : W) :
    formatArgument cfg (normArg a) w = formatArgument cfg a w := by
  simp [formatArgument, normArg, renderValue_norm]

theorem formatArguments_norm : ∀ (as : List Argument) (w : W),
    formatArguments cfg (as.map normArg) w = formatArguments cfg as w
  | [], w => rfl
  | [a], w => by simp [formatArguments, formatArgument_norm]
  | a :: b :: rest, w => by
    have ih := formatArguments_norm (b :: rest)
    simp only [List.map_cons] at ih
    simp [formatArguments, formatArgument_norm, ih]

theorem formatArgumentList_norm (as : List Argument) (w : W) :
    formatArgumentList cfg (as.map normArg) w = formatArgumentList cfg as w := by
  simp [formatArgumentList, formatArguments_norm]

theorem formatDirective_norm (d : Directive) (w : W) :
    formatDirective cfg (normDir d) w = formatDirective cfg d w := by
  simp [formatDirective, normDir, formatArgumentList_norm]

theorem formatDirectiveList_norm (ds : List Directive) (w : W) :
    formatDirectiveList cfg (ds.map normDir) w = formatDirectiveList cfg ds w := by
  simp [formatDirectiveList, List.foldl_map, formatDirective_norm]

theorem formatVariableDefinition_norm (d : VarDef) (w : W) :
    formatVariableDefinition cfg (normVarDef d) w = formatVariableDefinition cfg d w := by
  obtain ⟨var, type, dflt, dirs, pos⟩ := d
  cases dflt <;>
    simp [formatVariableDefinition, normVarDef, formatType, formatValue, renderValue_norm, formatDirectiveList_norm]

theorem formatVariableDefinitions_norm : ∀ (ds : List VarDef) (w : W),
    formatVariableDefinitions cfg (ds.map normVarDef) w = formatVariableDefinitions cfg ds w
  | [], w => rfl
  | [a], w => by simp [formatVariableDefinitions, formatVariableDefinition_norm]
  | a :: b :: rest, w => by
    have ih := formatVariableDefinitions_norm (b :: rest)
    simp only [List.map_cons] at ih
    simp [formatVariableDefinitions, formatVariableDefinition_norm, ih]

theorem formatVariableDefinitionList_norm (ds : List VarDef) (w : W) :
    formatVariableDefinitionList cfg (ds.map normVarDef) w = formatVariableDefinitionList cfg ds w := by
  simp [formatVariableDefinitionList, formatVariableDefinitions_norm]

mutual
  theorem formatSelection_norm : ∀ (s : Selection) (w : W),
      formatSelection cfg (normSel s) w = formatSelection cfg s w
    | .field al nm args ds sel p, w => by
      simp [normSel, formatSelection, formatArgumentList_norm, formatDirectiveList_norm,
        formatSelectionSet_norm sel]
    | .spread nm ds p, w => by
      simp [normSel, formatSelection, formatDirectiveList_norm]
    | .inline tc ds sel p, w => by
      simp [normSel, formatSelection, formatDirectiveList_norm, formatSelectionSet_norm sel]
  theorem formatSelectionSet_norm : ∀ (sel : Selections) (w : W),
      formatSelectionSet cfg (normSels sel) w = formatSelectionSet cfg sel w
    | .nil, w => rfl
    | .cons s rest, w => by
      simp [normSels, formatSelectionSet, formatSelection_norm s, formatSelections_norm rest]
  theorem formatSelections_norm : ∀ (sels : Selections) (w : W),
      formatSelections cfg (normSels sels) w = formatSelections cfg sels w
    | .nil, w => rfl
    | .cons s rest, w => by
      simp [normSels, formatSelections, formatSelection_norm s, formatSelections_norm rest]
end

theorem formatOperationDefinition_norm (o : OperationDef) (w : W) :
    formatOperationDefinition cfg (normOp o) w = formatOperationDefinition cfg o w := by
  obtain ⟨op, name, vars, dirs, sel, pos⟩ := o
  cases sel with
  | nil =>
    simp [formatOperationDefinition, normOp, normSels, formatVariableDefinitionList_norm, formatDirectiveList_norm]
  | cons s rest =>
    have e := formatSelectionSet_norm (cfg := cfg) (.cons s rest)
    simp only [normSels] at e
    simp [formatOperationDefinition, normOp, normSels, formatVariableDefinitionList_norm,
      formatDirectiveList_norm, e]

theorem formatFragmentDefinition_norm (f : FragmentDef) (w : W) :
    formatFragmentDefinition cfg (normFrag f) w = formatFragmentDefinition cfg f w := by
  obtain ⟨name, vars, tc, dirs, sel, pos⟩ := f
  cases sel with
  | nil =>
    simp [formatFragmentDefinition, normFrag, normSels, formatVariableDefinitionList_norm, formatDirectiveList_norm]
  | cons s rest =>
    have e := formatSelectionSet_norm (cfg := cfg) (.cons s rest)
    simp only [normSels] at e
    simp [formatFragmentDefinition, normFrag, normSels, formatVariableDefinitionList_norm,
      formatDirectiveList_norm, e]

theorem fmtQuery_normFmt (d : QueryDoc) : fmtQuery cfg (normFmt d) = fmtQuery cfg d := by
  have e1 : ∀ o w, formatOperationDefinition cfg (normOp o) w = formatOperationDefinition cfg o w :=
    formatOperationDefinition_norm
  have e2 : ∀ f w, formatFragmentDefinition cfg (normFrag f) w = formatFragmentDefinition cfg f w :=
    formatFragmentDefinition_norm
  simp [fmtQuery, formatQueryDocument, normFmt, List.foldl_map, e1, e2]

theorem fmtQuery_congr (d d' : QueryDoc) (h : d'.erasePos = (normFmt d).erasePos) :
    fmtQuery cfg d' = fmtQuery cfg d := by
  rw [← fmtQuery_erasePos d', h, fmtQuery_erasePos, fmtQuery_normFmt]

end Gql.Format
