import GqlModel.Basic.Utf8
/-
  UTF-8 facts needed by the quoting theorems: `decodeRune` inverts `encodeRune` on Unicode
  scalar values, whatever follows; the bytes it spans after the lead byte are all ≥ 0x80
  (`decodeRune_width`).
-/
namespace Gql

/-- Unicode scalar value: a code point that is not a surrogate -/
def IsScalar (r : Nat) : Prop := r < 0xD800 ∨ (0xE000 ≤ r ∧ r < 0x110000)

instance (r : Nat) : Decidable (IsScalar r) := by unfold IsScalar; exact inferInstance

theorem encodeRune_ascii {r : Nat} (h : r < 0x80) : encodeRune r = [r] := by
  simp [encodeRune, h]

theorem decodeRune_two (b0 b1 : Nat) (rest : Bytes) (h0 : 0xC2 ≤ b0) (h0' : b0 < 0xE0)
    (h1 : 0x80 ≤ b1) (h1' : b1 ≤ 0xBF) :
    decodeRune (b0 :: b1 :: rest) = (b0 % 32 * 64 + b1 % 64, 2) := by
  have a1 : ¬ b0 < 0x80 := by omega
  have a2 : ¬ b0 < 0xC2 := by omega
  simp [decodeRune, isCont, a1, a2, h0', h1, h1']

theorem decodeRune_three (b0 b1 b2 : Nat) (rest : Bytes) (h0 : 0xE0 ≤ b0) (h0' : b0 < 0xF0)
    (h1 : (if b0 = 0xE0 then 0xA0 else 0x80) ≤ b1) (h1' : b1 ≤ (if b0 = 0xED then 0x9F else 0xBF))
    (h2 : 0x80 ≤ b2) (h2' : b2 ≤ 0xBF) :
    decodeRune (b0 :: b1 :: b2 :: rest) = (b0 % 16 * 4096 + b1 % 64 * 64 + b2 % 64, 3) := by
  have a1 : ¬ b0 < 0x80 := by omega
  have a2 : ¬ b0 < 0xC2 := by omega
  have a3 : ¬ b0 < 0xE0 := by omega
  simp [decodeRune, isCont, a1, a2, a3, h0', h1, h1', h2, h2']

theorem decodeRune_four (b0 b1 b2 b3 : Nat) (rest : Bytes) (h0 : 0xF0 ≤ b0) (h0' : b0 < 0xF5)
    (h1 : (if b0 = 0xF0 then 0x90 else 0x80) ≤ b1) (h1' : b1 ≤ (if b0 = 0xF4 then 0x8F else 0xBF))
    (h2 : 0x80 ≤ b2) (h2' : b2 ≤ 0xBF) (h3 : 0x80 ≤ b3) (h3' : b3 ≤ 0xBF) :
    decodeRune (b0 :: b1 :: b2 :: b3 :: rest)
      = (b0 % 8 * 262144 + b1 % 64 * 4096 + b2 % 64 * 64 + b3 % 64, 4) := by
  have a1 : ¬ b0 < 0x80 := by omega
  have a2 : ¬ b0 < 0xC2 := by omega
  have a3 : ¬ b0 < 0xE0 := by omega
  have a4 : ¬ b0 < 0xF0 := by omega
  simp [decodeRune, isCont, a1, a2, a3, a4, h0', h1, h1', h2, h2', h3, h3']

theorem encodeRune_two {r : Nat} (h1 : ¬ r < 0x80) (h2 : r < 0x800) :
    encodeRune r = [0xC0 + r / 64, 0x80 + r % 64] := by
  simp [encodeRune, h1, h2]

theorem encodeRune_three {r : Nat} (h : IsScalar r) (h2 : ¬ r < 0x800) (h3 : r < 0x10000) :
    encodeRune r = [0xE0 + r / 4096, 0x80 + r / 64 % 64, 0x80 + r % 64] := by
  unfold IsScalar at h
  have h1 : ¬ r < 0x80 := by omega
  have hs : ((decide (0xD800 ≤ r) && decide (r ≤ 0xDFFF)) || decide (0x10FFFF < r)) = false := by
    simp; omega
  simp [encodeRune, h1, h2, h3, hs]

theorem encodeRune_four {r : Nat} (h : IsScalar r) (h3 : ¬ r < 0x10000) :
    encodeRune r = [0xF0 + r / 262144, 0x80 + r / 4096 % 64, 0x80 + r / 64 % 64, 0x80 + r % 64] := by
  unfold IsScalar at h
  have h1 : ¬ r < 0x80 := by omega
  have h2 : ¬ r < 0x800 := by omega
  have hs : ((decide (0xD800 ≤ r) && decide (r ≤ 0xDFFF)) || decide (0x10FFFF < r)) = false := by
    simp; omega
  simp [encodeRune, h1, h2, h3, hs]

/-- a continuation byte carries its six bits (stated apart: `omega` is slow on the whole reconstruction) -/
theorem cont_mod (x : Nat) : (0x80 + x % 64) % 64 = x % 64 := by omega

theorem decodeRune_encodeRune {r : Nat} (h : IsScalar r) (rest : Bytes) :
    decodeRune (encodeRune r ++ rest) = (r, (encodeRune r).length) := by
  have h' := h
  unfold IsScalar at h'
  by_cases h1 : r < 0x80
  · simp [encodeRune, h1, decodeRune]
  · by_cases h2 : r < 0x800
    · rw [encodeRune_two h1 h2]
      simp only [List.cons_append, List.nil_append]
      rw [decodeRune_two (0xC0 + r / 64) (0x80 + r % 64) rest (by omega) (by omega) (by omega) (by omega)]
      simp only [List.length_cons, List.length_nil, Prod.mk.injEq, cont_mod]; exact ⟨by omega, by trivial⟩
    · by_cases h3 : r < 0x10000
      · rw [encodeRune_three h h2 h3]
        simp only [List.cons_append, List.nil_append]
        rw [decodeRune_three (0xE0 + r / 4096) (0x80 + r / 64 % 64) (0x80 + r % 64) rest (by omega) (by omega)
          (by split <;> omega) (by split <;> omega) (by omega) (by omega)]
        simp only [List.length_cons, List.length_nil, Prod.mk.injEq, cont_mod]; exact ⟨by omega, by trivial⟩
      · rw [encodeRune_four h h3]
        simp only [List.cons_append, List.nil_append]
        rw [decodeRune_four (0xF0 + r / 262144) (0x80 + r / 4096 % 64) (0x80 + r / 64 % 64) (0x80 + r % 64) rest
          (by omega) (by omega) (by split <;> omega) (by split <;> omega) (by omega) (by omega) (by omega) (by omega)]
        simp only [List.length_cons, List.length_nil, Prod.mk.injEq, cont_mod]; exact ⟨by omega, by trivial⟩

theorem encodeRune_high_shape {r : Nat} (h : IsScalar r) (h1 : 0x80 ≤ r) :
    ∃ b0 b1 bt, encodeRune r = b0 :: b1 :: bt ∧ 0x80 ≤ b0 ∧ ∀ b ∈ encodeRune r, 0x80 ≤ b ∧ b < 0x100 := by
  have h' := h
  unfold IsScalar at h'
  have n1 : ¬ r < 0x80 := by omega
  by_cases h2 : r < 0x800
  · rw [encodeRune_two n1 h2]; exact ⟨_, _, _, rfl, by omega, by intro b hb; simp at hb; omega⟩
  · by_cases h3 : r < 0x10000
    · rw [encodeRune_three h h2 h3]; exact ⟨_, _, _, rfl, by omega, by intro b hb; simp at hb; omega⟩
    · rw [encodeRune_four h h3]; exact ⟨_, _, _, rfl, by omega, by intro b hb; simp at hb; omega⟩

theorem encodeRune_high {r : Nat} (h : IsScalar r) (h1 : 0x80 ≤ r) :
    ∀ b ∈ encodeRune r, 0x80 ≤ b ∧ b < 0x100 :=
  let ⟨_, _, _, _, _, hb⟩ := encodeRune_high_shape h h1
  hb

theorem encodeRune_mem_ascii {r b : Nat} (h : IsScalar r) (hb : b ∈ encodeRune r) (hlt : b < 0x80) : b = r := by
  by_cases h1 : r < 0x80
  · rw [encodeRune_ascii h1] at hb; simpa using hb
  · have := (encodeRune_high h (by omega) b hb).1; omega

theorem encodeRune_length_pos (r : Nat) : 0 < (encodeRune r).length := by
  unfold encodeRune
  split
  · simp
  · split
    · simp
    · split
      · simp
      · split <;> simp

end Gql

namespace Gql.Format
open Gql

theorem isCont_ge {b : Nat} (h : isCont b = true) : 0x80 ≤ b := by
  simp [isCont] at h; omega

theorem decodeRune_width (b : Nat) (tl : Bytes) :
    ∃ p tl', tl = p ++ tl' ∧ (decodeRune (b :: tl)).2 = p.length + 1 ∧ ∀ x ∈ p, 0x80 ≤ x := by
  -- the lower end of the second byte's range is 0x80 or above
  have lo : ∀ (c : Prop) [Decidable c] (x : Nat), 0x80 ≤ x → 0x80 ≤ if c then x else 0x80 := by
    intro c _ x hx; split <;> omega
  generalize hbs : b :: tl = bs
  fun_cases decodeRune bs
  -- every branch but the three successful ones reports width 1
  all_goals try exact ⟨[], tl, rfl, rfl, by simp⟩
  · cases hbs
  all_goals
    rename_i h
    cases hbs
    simp +zetaDelta only [isCont, Bool.and_eq_true, decide_eq_true_eq] at h
  · exact ⟨[_], _, rfl, rfl, by simp; omega⟩
  · have := lo (b = 0xE0) 0xA0 (by decide)
    exact ⟨[_, _], _, rfl, rfl, by simp; omega⟩
  · have := lo (b = 0xF0) 0x90 (by decide)
    exact ⟨[_, _, _], _, rfl, rfl, by simp; omega⟩

end Gql.Format
