import GqlProofs.Format.ReloadDoc
/-
  Small loaded schemas for the kernel-checked witnesses of C13 (second half).  All of them are loaded
  on top of the EMPTY prelude (`SchemaDoc.empty` has the shape of a prelude; the loader model does not
  need the built-in types), so that the name-sorted lists have at most two entries.
-/
namespace Gql.Format.Examples
open Gql Gql.Load Gql.Format Gql.Parser

/-- the schema `load` returns (the empty schema when it fails) -/
def loadD (sd : SchemaDoc) : Schema :=
  match load sd with
  | .ok s => s
  | _ => Schema.empty

theorem loadD_ok {sd : SchemaDoc} (h : (load sd).isOk = true) : load sd = .ok (loadD sd) := by
  unfold loadD
  cases hl : load sd with
  | ok s => rfl
  | err e => rw [hl] at h; cases h
  | panic => rw [hl] at h; cases h

theorem sortedByKey_single {α} (k : Name) (v : α) : sortedByKey [(k, v)] = [v] := by simp [sortedByKey]

theorem sortedByKey_pair {α} (a b : Name) (x y : α) :
    sortedByKey [(a, x), (b, y)] = if bytesLe a b then [x, y] else [y, x] := by
  unfold sortedByKey
  rw [List.mergeSort]
  simp [List.MergeSort.Internal.splitInTwo, List.merge]
  split <;> simp_all

def p1 : Pos := { start := 0, stop := 0, line := 1, col := 1, src := 1 }

def named (n : String) : GType := .named (str n) false p1

def field (n : String) (ty : String) (desc : Bytes := []) : FieldDef :=
  { desc := desc, name := str n, args := [], default := none, type := named ty, dirs := [], pos := p1 }

def mkDef (k : DefKind) (n : String) (fs : List FieldDef) (bi : Bool := false) : Definition :=
  { kind := k, desc := [], name := str n, dirs := [], interfaces := [], fields := fs, types := [], enumValues := [],
    pos := p1, builtIn := bi }

def docOf (defs : List Definition) : SchemaDoc :=
  { schema := [], schemaExt := [], directives := [], definitions := defs, extensions := [] }

/-- `"d" schema { query: Q }  type Q { f: Q }` -/
def describedSchemaDoc : SchemaDoc :=
  { docOf [mkDef .object "Q" [field "f" "Q"]] with
    schema := [{ desc := str "d", dirs := [], opTypes := [{ op := str "query", type := str "Q", pos := p1 }], pos := p1 }] }

/-- `type Query { f: Query }` -/
def plainQueryDoc : SchemaDoc := docOf [mkDef .object "Query" [field "f" "Query"]]

/-- `scalar Query` -/
def scalarQueryDoc : SchemaDoc := docOf [mkDef .scalar "Query" []]

/-- prelude `type __T { a: __T }` (built in), user `extend type __T { b: __T }` -/
def tinyPrelude : SchemaDoc := docOf [mkDef .object "__T" [field "a" "__T"] true]
def extendBuiltinDoc : SchemaDoc :=
  { docOf [] with extensions := [mkDef .object "__T" [field "b" "__T"]] }

/-- `input In { x: In }  directive @d("x" a: In b: In) on FIELD` -/
def describedArgDoc : SchemaDoc :=
  { docOf [mkDef .inputObject "In" [field "x" "In"]] with
    directives := [{ desc := [], name := str "d",
                     args := [{ desc := str "x", name := str "a", default := none, type := named "In", dirs := [], pos := p1 },
                              { desc := [], name := str "b", default := none, type := named "In", dirs := [], pos := p1 }],
                     locations := [str "FIELD"], repeatable := false, pos := p1 }] }

/-- `type Query { """a⏎b""" f: Query }` -/
def describedFieldDoc : SchemaDoc := docOf [mkDef .object "Query" [field "f" "Query" [97, 10, 98]]]

/-- `describedArgDoc` as it is printed with `WithoutDescription` -/
def describedArgDocPrinted : SchemaDoc :=
  { docOf [mkDef .inputObject "In" [field "x" "In"]] with
    directives := [{ desc := [], name := str "d",
                     args := [{ desc := [], name := str "a", default := none, type := named "In", dirs := [], pos := p1 },
                              { desc := [], name := str "b", default := none, type := named "In", dirs := [], pos := p1 }],
                     locations := [str "FIELD"], repeatable := false, pos := p1 }] }

/-- what is loaded back: the printed document, read as a user source -/
def printed (cfg : Cfg) (s : Schema) : SchemaDoc := setBuiltIn false (normSchemaDoc cfg (docOfSchema cfg s))

theorem printed_reparsed (cfg : Cfg) (s : Schema) : Reparsed cfg s (printed cfg s) := rfl

end Gql.Format.Examples
