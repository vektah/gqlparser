import GqlModel.Lexer.Model
import GqlProofs.Lexer.Utf8Dec
/-
  The block-string loop of the lexer model reads a "block-safe" text unchanged: no `"""`, no
  `\"""`, no CR, no control characters other than TAB and LF, well-formed UTF-8.
-/
namespace Gql.Format
open Gql Gql.Lexer

/-- leading quotes of a code point list -/
def quoteRunC : List Nat → Nat
  | 34 :: t => quoteRunC t + 1
  | _ => 0

def tripleAhead : List Nat → Bool
  | 34 :: 34 :: 34 :: _ => true
  | _ => false

def isScalarB (r : Nat) : Bool := decide (r < 0xD800) || (decide (0xE000 ≤ r) && decide (r < 0x110000))

theorem isScalarB_iff (r : Nat) : isScalarB r = true ↔ IsScalar r := by
  simp [isScalarB, IsScalar]

/-- A code point sequence that `readBlockLoop` copies verbatim when it is followed by the closing
    `"""`: scalars only, no control character except TAB/LF (in particular no CR), every quote
    run (also the one that would merge with the closing quotes) shorter than three, no backslash
    directly in front of three quotes. -/
def blockSafe : List Nat → Bool
  | [] => true
  | r :: rest =>
    isScalarB r && (decide (32 ≤ r) || r == 9 || r == 10) &&
    (r != 34 || decide (quoteRunC (r :: rest ++ [34, 34, 34]) < 3)) &&
    (r != 92 || !tripleAhead (rest ++ [34, 34, 34])) && blockSafe rest

theorem encodeRune_quote : encodeRune 34 = [34] := by decide

theorem rbl_close (q : Cur) (R : Bytes) (hR : R.head? ≠ some 34) (c : Cur) (acc : Bytes) :
    readBlockLoop q (34 :: 34 :: 34 :: R) c acc =
      .tok { kind := .blockString, value := blockStringValue acc.reverse, start := q.endR,
             stop := c.endR + 3, line := q.line, col := colOf q.endR q.ls } R (c.adv 3 3) := by
  have hq : quoteRun R = 0 := by
    cases R with
    | nil => rfl
    | cons x xs =>
      unfold quoteRun
      split
      · rename_i heq; simp at heq; simp [heq.1] at hR
      · rfl
  have h3 : quoteRun (34 :: 34 :: 34 :: R) = 3 := by simp [quoteRun, hq]
  conv => lhs; rw [readBlockLoop.eq_def]
  simp [h3]

theorem rbl_quote (q : Cur) (tl : Bytes) (c : Cur) (acc : Bytes) (h : quoteRun (34 :: tl) < 3) :
    readBlockLoop q (34 :: tl) c acc = readBlockLoop q tl (c.adv 1 1) (34 :: acc) := by
  conv => lhs; rw [readBlockLoop.eq_def]
  have : ¬ (quoteRun (34 :: tl) ≥ 3) := by omega
  simp [this, encodeRune_quote]

theorem rbl_backslash (q : Cur) (tl : Bytes) (c : Cur) (acc : Bytes)
    (h : ∀ tl', tl ≠ 34 :: 34 :: 34 :: tl') :
    readBlockLoop q (92 :: tl) c acc = readBlockLoop q tl (c.adv 1 1) (92 :: acc) := by
  conv => lhs; rw [readBlockLoop.eq_def]
  simp

theorem rbl_plain (q : Cur) (r : Nat) (hr : IsScalar r) (h1 : 32 ≤ r ∨ r = 9 ∨ r = 10) (h2 : r ≠ 34)
    (h3 : r ≠ 92) (tl : Bytes) (c : Cur) (acc : Bytes) :
    ∃ c', readBlockLoop q (encodeRune r ++ tl) c acc = readBlockLoop q tl c' ((encodeRune r).reverse ++ acc) := by
  cases he : encodeRune r ++ tl with
  | nil => have := encodeRune_length_pos r; simp_all
  | cons b tl' =>
    obtain ⟨hbc, _, hd, hdrop, _⟩ := enc_step hr tl he.symm
    conv => enter [1, c', 1]; rw [readBlockLoop.eq_def]
    have e0 : ¬ (b = 34 ∧ quoteRun (b :: tl') ≥ 3) := by omega
    have e1 : ¬ (b < 32 ∧ b ≠ 9 ∧ b ≠ 10 ∧ b ≠ 13) := by omega
    have e2 : b ≠ 92 := by omega
    have e3 : b ≠ 13 := by omega
    simp only [e0, e1, e2, e3, if_false, hd, hdrop]
    exact ⟨_, rfl⟩

theorem blockSafe_scalars : ∀ (cps : List Nat), blockSafe cps = true → AllScalar cps
  | [], _ => AllScalar_nil
  | x :: xs, h => by
    simp only [blockSafe, Bool.and_eq_true] at h
    exact AllScalar_cons ((isScalarB_iff _).1 h.1.1.1.1) (blockSafe_scalars xs h.2)

theorem quoteRun_utf8Encode (S : List Nat) (hs : AllScalar S) (Y : Bytes)
    (h : quoteRunC (S ++ [34, 34, 34]) < 3) : quoteRun (utf8Encode S ++ Y) = quoteRunC (S ++ [34, 34, 34]) := by
  induction S with
  | nil => simp [quoteRunC] at h
  | cons x S ih =>
    rw [utf8Encode_cons, List.append_assoc]
    by_cases hx : x = 34
    · subst hx
      simp only [List.cons_append, quoteRunC] at h ⊢
      rw [encodeRune_quote, List.singleton_append, quoteRun, ih (AllScalar_tail hs) (by omega)]
    · rw [quoteRun_of_ne (AllScalar_head hs) hx]
      unfold quoteRunC
      split
      · rename_i heq; simp at heq; exact absurd heq.1 hx
      · rfl

theorem quoteRun_lt_three (rest : List Nat) (hs : AllScalar rest) (R : Bytes)
    (h : quoteRunC (34 :: rest ++ [34, 34, 34]) < 3) :
    quoteRun (34 :: (utf8Encode rest ++ 34 :: 34 :: 34 :: R)) < 3 := by
  have := quoteRun_utf8Encode (34 :: rest) (AllScalar_cons (by decide) hs) (34 :: 34 :: 34 :: R) h
  rw [utf8Encode_cons, encodeRune_quote] at this
  rw [show 34 :: (utf8Encode rest ++ 34 :: 34 :: 34 :: R) = [34] ++ utf8Encode rest ++ 34 :: 34 :: 34 :: R by simp, this]
  exact h

theorem no_triple_ahead (rest : List Nat) (hs : AllScalar rest) (R : Bytes)
    (h : tripleAhead (rest ++ [34, 34, 34]) = false) :
    ∀ tl', utf8Encode rest ++ 34 :: 34 :: 34 :: R ≠ 34 :: 34 :: 34 :: tl' := by
  intro tl' e
  -- three quote bytes at the head are three quote code points, or the text ends before and the closing quotes follow
  rcases enc_append_ascii_head hs e (by omega) with ⟨rfl, _⟩ | ⟨S1, rfl, e1, hs1⟩
  · simp [tripleAhead] at h
  rcases enc_append_ascii_head hs1 e1.symm (by omega) with ⟨rfl, _⟩ | ⟨S2, rfl, e2, hs2⟩
  · simp [tripleAhead] at h
  rcases enc_append_ascii_head hs2 e2.symm (by omega) with ⟨rfl, _⟩ | ⟨S3, rfl, _, _⟩
  · simp [tripleAhead] at h
  · simp [tripleAhead] at h

theorem rbl_blockSafe (q : Cur) (R : Bytes) (hR : R.head? ≠ some 34) (cps : List Nat)
    (hsafe : blockSafe cps = true) :
    ∀ (c : Cur) (acc : Bytes), ∃ t c',
      readBlockLoop q (utf8Encode cps ++ 34 :: 34 :: 34 :: R) c acc = .tok t R c' ∧
      t.kind = .blockString ∧ t.value = blockStringValue (acc.reverse ++ utf8Encode cps) := by
  induction cps with
  | nil =>
    intro c acc
    have : utf8Encode [] ++ 34 :: 34 :: 34 :: R = 34 :: 34 :: 34 :: R := by simp [utf8Encode]
    rw [this, rbl_close q R hR]
    exact ⟨_, _, rfl, rfl, by simp [utf8Encode]⟩
  | cons r rest ih =>
    intro c acc
    have hsc := blockSafe_scalars _ hsafe
    simp only [blockSafe, Bool.and_eq_true, Bool.or_eq_true, decide_eq_true_eq, beq_iff_eq, bne_iff_ne,
      Bool.not_eq_true'] at hsafe
    obtain ⟨⟨⟨⟨h1, h2⟩, h3⟩, h4⟩, h5⟩ := hsafe
    have ih := ih h5
    have hr := AllScalar_head hsc
    have hrs := AllScalar_tail hsc
    rw [utf8Encode_cons, List.append_assoc]
    by_cases hq : r = 34
    · subst hq
      have h3' : quoteRunC (34 :: rest ++ [34, 34, 34]) < 3 := h3.resolve_left fun h => h rfl
      rw [encodeRune_quote]
      simp only [List.cons_append, List.nil_append]
      rw [rbl_quote q _ c acc (quoteRun_lt_three rest hrs R h3')]
      obtain ⟨t, c', e1, e2, e3⟩ := ih (c.adv 1 1) (34 :: acc)
      exact ⟨t, c', e1, e2, by rw [e3]; simp⟩
    · by_cases hb : r = 92
      · subst hb
        have h4' : tripleAhead (rest ++ [34, 34, 34]) = false := h4.resolve_left fun h => h rfl
        have e92 : encodeRune 92 = [92] := by decide
        rw [e92]
        simp only [List.cons_append, List.nil_append]
        rw [rbl_backslash q _ c acc (no_triple_ahead rest hrs R h4')]
        obtain ⟨t, c', e1, e2, e3⟩ := ih (c.adv 1 1) (92 :: acc)
        exact ⟨t, c', e1, e2, by rw [e3]; simp⟩
      · have h2' : 32 ≤ r ∨ r = 9 ∨ r = 10 := or_assoc.1 h2
        obtain ⟨c1, e0⟩ := rbl_plain q r hr h2' hq hb (utf8Encode rest ++ 34 :: 34 :: 34 :: R) c acc
        rw [e0]
        obtain ⟨t, c', e1, e2, e3⟩ := ih c1 ((encodeRune r).reverse ++ acc)
        exact ⟨t, c', e1, e2, by rw [e3]; simp⟩

end Gql.Format
