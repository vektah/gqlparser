import GqlProofs.Format.NormPreserve
import GqlProofs.Format.FormattableSchema
import GqlProofs.Parser.FwdSchemaTop
/-
  `normSchemaDoc cfg` keeps the side conditions of the parse ∘ print theorem of C06 (`ItemOK` for
  every item of the document), and the formatter's printers are the `…K` printers of that theorem
  with the description-kind function `descKind`.
-/
namespace Gql.Format
open Gql Gql.Lexer Gql.Grammar Gql.Print Gql.Parser

/-- the token kind the formatter chooses for a description -/
def descKind (d : Bytes) : Kind := if blockStringRepresentable d then .blockString else .string

theorem descKind_ok (d : Bytes) : DescKind (descKind d) := by
  unfold descKind DescKind; split <;> simp

theorem descTok_eq : descTok = printDescK descKind := rfl

theorem printItemK_eq : ∀ it : SItem, printItemK descKind it = (match it with
    | .schema s => printSchemaDefD descTok s
    | .schemaExt s => printSchemaExt s
    | .directive d => printDirectiveDefD descTok d
    | .definition d => printDefinitionD descTok d
    | .extension d => printExtensionD descTok d)
  | .schema _ => rfl
  | .schemaExt _ => rfl
  | .directive _ => rfl
  | .definition _ => rfl
  | .extension _ => rfl

theorem printSchemaLongD_items (d : SchemaDoc) :
    printSchemaLongD descTok d = (itemsOf d).flatMap (printItemK descKind) := by
  simp [printSchemaLongD, itemsOf, List.flatMap_def, List.map_map, Function.comp_def, printItemK_eq]

theorem CDirs_norm (ds : List Directive) (h : CDirs ds) : CDirs (ds.map normDir) :=
  ⟨DirsOK_norm ds h.1, ConstDirectives_norm ds h.2⟩

theorem CDefault_norm (dv : Option Value) (h : CDefault dv) : CDefault (dv.map normValue) := by
  intro d hd
  cases dv with
  | none => simp at hd
  | some v =>
    simp at hd; subst hd
    exact ⟨ValueOK_norm v (h v rfl).1, ConstValue_norm v (h v rfl).2⟩

theorem ArgDefOK_norm (cfg : Cfg) (a : ArgDef) (h : ArgDefOK a) : ArgDefOK (normArgDef cfg a) :=
  ⟨CDefault_norm _ h.1, CDirs_norm _ h.2⟩

theorem ArgDefsOK_norm (cfg : Cfg) (as : List ArgDef) (h : ∀ a ∈ as, ArgDefOK a) :
    ∀ a ∈ as.map (normArgDef cfg), ArgDefOK a :=
  List.forall_mem_map.2 fun a ha => ArgDefOK_norm cfg a (h a ha)

theorem FieldDefOK_norm (cfg : Cfg) (f : FieldDef) (h : FieldDefOK f) : FieldDefOK (normFieldDef cfg f) :=
  ⟨ArgDefsOK_norm cfg _ h.1, by simp [normFieldDef, h.2.1], CDirs_norm _ h.2.2⟩

theorem InputFieldOK_norm (cfg : Cfg) (f : FieldDef) (h : InputFieldOK f) : InputFieldOK (normFieldDef cfg f) :=
  ⟨by simp [normFieldDef, h.1], CDefault_norm _ h.2.1, CDirs_norm _ h.2.2⟩

theorem EnumValOK_norm (cfg : Cfg) (e : EnumValDef) (h : EnumValOK e) : EnumValOK (normEnumVal cfg e) :=
  CDirs_norm _ h

theorem DefOK_norm (cfg : Cfg) (d : Definition) (h : DefOK d) : DefOK (normDef cfg d) := by
  obtain ⟨kind, desc, name, dirs, ifs, fields, types, evs, pos, bi⟩ := d
  obtain ⟨h1, h2⟩ := h
  refine ⟨CDirs_norm _ h1, ?_⟩
  cases kind <;> simp only [normDef] at h2 ⊢
  · obtain ⟨a, b, c, e⟩ := h2; subst a b c e; simp
  · obtain ⟨a, b, c⟩ := h2
    exact ⟨a, by simp [b], List.forall_mem_map.2 fun f hf => FieldDefOK_norm cfg f (c f hf)⟩
  · obtain ⟨a, b, c⟩ := h2
    exact ⟨a, by simp [b], List.forall_mem_map.2 fun f hf => FieldDefOK_norm cfg f (c f hf)⟩
  · obtain ⟨a, b, c⟩ := h2
    exact ⟨a, by simp [b], by simp [c]⟩
  · obtain ⟨a, b, c, e⟩ := h2
    exact ⟨a, by simp [b], c, List.forall_mem_map.2 fun x hx => EnumValOK_norm cfg x (e x hx)⟩
  · obtain ⟨a, b, c, e⟩ := h2
    exact ⟨a, b, by simp [c], List.forall_mem_map.2 fun f hf => InputFieldOK_norm cfg f (e f hf)⟩

theorem ExtendsSomething_norm (cfg : Cfg) (d : Definition) (h : ExtendsSomething d) :
    ExtendsSomething (normDef cfg d) := by
  obtain ⟨kind, desc, name, dirs, ifs, fields, types, evs, pos, bi⟩ := d
  cases kind <;> simp only [ExtendsSomething, normDef] at h ⊢ <;>
    simpa [List.map_eq_nil_iff] using h

theorem DirectiveDefOK_norm (cfg : Cfg) (d : DirectiveDef) (h : DirectiveDefOK d) :
    DirectiveDefOK (normDirectiveDef cfg d) :=
  ⟨ArgDefsOK_norm cfg _ h.1, h.2.1, h.2.2⟩

theorem CDirs_flatMap (ds : List SchemaDef) (h : ∀ d ∈ ds, CDirs d.dirs) : CDirs (ds.flatMap (·.dirs)) := by
  constructor
  · intro x hx
    simp only [List.mem_flatMap] at hx
    obtain ⟨d, hd, hxd⟩ := hx
    exact (h d hd).1 x hxd
  · intro x hx
    simp only [List.mem_flatMap] at hx
    obtain ⟨d, hd, hxd⟩ := hx
    exact (h d hd).2 x hxd

theorem SchemaDefOK_merge (cfg : Cfg) (ds : List SchemaDef) (h : ∀ d ∈ ds, SchemaDefOK d) :
    ∀ s ∈ mergeSchemaDefs cfg ds, SchemaDefOK s := by
  cases ds with
  | nil => intro s hs; simp [mergeSchemaDefs] at hs
  | cons d0 rest =>
    intro s hs
    simp only [mergeSchemaDefs, List.mem_singleton] at hs
    subst hs
    refine ⟨CDirs_norm _ (CDirs_flatMap _ fun d hd => (h d hd).1), ?_, ?_⟩
    · have := (h d0 (by simp)).2.1
      simp only [List.flatMap_cons]
      intro e
      exact this (List.append_eq_nil_iff.1 e).1
    · intro o ho
      simp only [List.mem_flatMap] at ho
      obtain ⟨d, hd, hod⟩ := ho
      exact (h d hd).2.2 o hod

theorem SchemaExtOK_merge (cfg : Cfg) (ds : List SchemaDef) (h : ∀ d ∈ ds, SchemaExtOK d) :
    ∀ s ∈ mergeSchemaDefs cfg ds, SchemaExtOK s := by
  cases ds with
  | nil => intro s hs; simp [mergeSchemaDefs] at hs
  | cons d0 rest =>
    intro s hs
    simp only [mergeSchemaDefs, List.mem_singleton] at hs
    subst hs
    have hdesc : (d0 :: rest).flatMap (·.desc) = [] := by
      rw [List.flatMap_eq_nil_iff]; intro d hd; exact (h d hd).1
    refine ⟨by simp [hdesc, normDesc], CDirs_norm _ (CDirs_flatMap _ fun d hd => (h d hd).2.1), ?_, ?_⟩
    · rcases (h d0 (by simp)).2.2.1 with h1 | h1
      · left
        simp only [List.flatMap_cons, List.map_append]
        intro e
        exact h1 (List.map_eq_nil_iff.1 (List.append_eq_nil_iff.1 e).1)
      · right
        simp only [List.flatMap_cons]
        intro e
        exact h1 (List.append_eq_nil_iff.1 e).1
    · intro o ho
      simp only [List.mem_flatMap] at ho
      obtain ⟨d, hd, hod⟩ := ho
      exact (h d hd).2.2.2 o hod

theorem itemOK_norm (cfg : Cfg) (d : SchemaDoc) (h : DocAll ItemOK d) :
    ∀ it ∈ itemsOf (normSchemaDoc cfg d), ItemOK it := by
  obtain ⟨h1, h2, h3, h4, h5⟩ := h
  intro it hit
  simp only [itemsOf, normSchemaDoc, List.mem_append, List.mem_map, List.mem_filter] at hit
  rcases hit with (((⟨s, hs, rfl⟩ | ⟨s, hs, rfl⟩) | ⟨x, ⟨x0, ⟨hx0, _⟩, rfl⟩, rfl⟩) | ⟨x, ⟨x0, ⟨hx0, _⟩, rfl⟩, rfl⟩) |
    ⟨x, ⟨x0, ⟨hx0, _⟩, rfl⟩, rfl⟩
  · exact SchemaDefOK_merge cfg d.schema h1 s hs
  · exact SchemaExtOK_merge cfg d.schemaExt h2 s hs
  · exact DirectiveDefOK_norm cfg x0 (h3 x0 hx0)
  · exact DefOK_norm cfg x0 (h4 x0 hx0)
  · have := h5 x0 hx0
    exact ⟨DefOK_norm cfg x0 this.1, by simp [normDef, normDesc, this.2.1], ExtendsSomething_norm cfg x0 this.2.2⟩

end Gql.Format
