import GqlProofs.Format.BlockLex
import GqlProofs.Format.Description
import GqlProofs.Lexer.BlockSpec
import GqlProofs.Format.TokText
import GqlProofs.Lexer.UniBlockValue
/-
  The lexer model reads a block-string description as written by `WriteDescription` — every `"""`
  escaped as `\"""`, every line indented, the closing quotes on a line of their own — back as
  one BlockString token whose value is the description.
-/
namespace Gql.Format
open Gql Gql.Lexer

theorem escapeTriple_triple (r : Bytes) :
    escapeTriple (34 :: 34 :: 34 :: r) = 92 :: 34 :: 34 :: 34 :: escapeTriple r := by
  simp [escapeTriple]

theorem escapeTriple_cons_ne (b : Nat) (r : Bytes) (hb : b ≠ 34) : escapeTriple (b :: r) = b :: escapeTriple r := by
  rw [escapeTriple.eq_def]
  split
  · rename_i h; simp at h; exact absurd h.1 hb
  · rename_i h; simp at h; rw [h.1, h.2]
  · rename_i h; simp at h

theorem escapeTriple_quote (r : Bytes) (h : ∀ r', r ≠ 34 :: 34 :: r') :
    escapeTriple (34 :: r) = 34 :: escapeTriple r := by
  rw [escapeTriple.eq_def]
  split
  · rename_i rest h'; simp at h'; exact absurd h' (h rest)
  · rename_i h'; simp at h'; rw [h'.1, h'.2]
  · rename_i h'; simp at h'

theorem escapeTriple_append_ne (bs r : Bytes) (h : ∀ b ∈ bs, b ≠ 34) : escapeTriple (bs ++ r) = bs ++ escapeTriple r := by
  induction bs with
  | nil => rfl
  | cons b bs ih =>
    rw [List.cons_append, escapeTriple_cons_ne _ _ (h b (by simp)), ih (fun x hx => h x (by simp [hx]))]
    rfl

theorem quoteRun_lt_two {r : Bytes} (h : ∀ r', r ≠ 34 :: 34 :: r') : quoteRun r < 2 := by
  cases r with
  | nil => simp [quoteRun_nil]
  | cons a t =>
    by_cases ha : a = 34
    · subst ha
      cases t with
      | nil => simp [quoteRun_q, quoteRun_nil]
      | cons b t' =>
        have hb : b ≠ 34 := fun e => h t' (by rw [e])
        simp [quoteRun_q, quoteRun_ne b t' hb]
    · simp [quoteRun_ne a t ha]

theorem quoteRun_escapeTriple (r Y : Bytes) (hY : Y.head? ≠ some 34) :
    quoteRun (escapeTriple r ++ Y) ≤ min (quoteRun r) 2 := by
  fun_induction escapeTriple r with
  | case1 rest ih => simp [quoteRun_ne 92 _ (by decide)]
  | case2 b rest hnot ih =>
    by_cases hb : b = 34
    · subst hb
      have := quoteRun_lt_two (r := rest) fun r' e => hnot r' rfl e
      rw [List.cons_append, quoteRun_q, quoteRun_q]
      omega
    · simp [quoteRun_ne b _ hb]
  | case3 =>
    cases Y with
    | nil => simp [quoteRun_nil]
    | cons y t => simp [quoteRun_ne y t (by intro e; simp [e] at hY)]

/-- an admissible character of a description line: a scalar, no control character except TAB
    (in particular neither LF nor CR) -/
def okChar (r : Nat) : Prop := IsScalar r ∧ (32 ≤ r ∨ r = 9)

theorem rbl_escape (q : Cur) (tl : Bytes) (c : Cur) (acc : Bytes) :
    readBlockLoop q (92 :: 34 :: 34 :: 34 :: tl) c acc = readBlockLoop q tl (c.adv 4 4) (34 :: 34 :: 34 :: acc) := by
  conv => lhs; rw [readBlockLoop.eq_def]
  simp

theorem encodeRune_no_quote {r : Nat} (hr : IsScalar r) (h : r ≠ 34) : ∀ b ∈ encodeRune r, b ≠ 34 :=
  fun _ hb e => h (encodeRune_mem_ascii hr (e ▸ hb) (by omega)).symm

theorem rbl_line (q : Cur) (n : Nat) : ∀ (S : List Nat), S.length ≤ n → (∀ r ∈ S, okChar r) →
    ∀ (Y : Bytes) (c : Cur) (acc : Bytes), Y.head? ≠ some 34 →
      ∃ c', readBlockLoop q (escapeTriple (utf8Encode S) ++ Y) c acc
        = readBlockLoop q Y c' ((utf8Encode S).reverse ++ acc) := by
  induction n with
  | zero =>
    intro S hl _ Y c acc _
    have : S = [] := by cases S <;> simp_all
    subst this
    exact ⟨c, by simp [utf8Encode, escapeTriple]⟩
  | succ n ih =>
    intro S hl hok Y c acc hY
    cases S with
    | nil => exact ⟨c, by simp [utf8Encode, escapeTriple]⟩
    | cons r S1 =>
      have hr := hok r (by simp)
      have hok1 : ∀ x ∈ S1, okChar x := fun x hx => hok x (by simp [hx])
      have hs1 : ∀ x ∈ S1, IsScalar x := fun x hx => (hok1 x hx).1
      have hl1 : S1.length ≤ n := by simp at hl; omega
      rw [utf8Encode_cons]
      by_cases h34 : r = 34
      · subst h34
        rw [encodeRune_quote]
        simp only [List.cons_append, List.nil_append]
        by_cases htr : ∃ t, utf8Encode S1 = 34 :: 34 :: t
        · obtain ⟨t, ht⟩ := htr
          obtain ⟨S2, e2, ht2, hs2⟩ := enc_ascii_head hs1 ht (by omega)
          subst e2
          obtain ⟨S3, e3, ht3, _⟩ := enc_ascii_head hs2 ht2.symm (by omega)
          subst e3
          rw [ht, ht3, escapeTriple_triple]
          simp only [List.cons_append]
          rw [rbl_escape]
          obtain ⟨c', e⟩ := ih S3 (by simp at hl1; omega) (fun x hx => hok1 x (by simp [hx])) Y (c.adv 4 4)
            (34 :: 34 :: 34 :: acc) hY
          exact ⟨c', by rw [e]; simp⟩
        · have hnt : ∀ r', utf8Encode S1 ≠ 34 :: 34 :: r' := fun r' e => htr ⟨r', e⟩
          rw [escapeTriple_quote _ hnt]
          simp only [List.cons_append]
          have hq := quoteRun_escapeTriple (utf8Encode S1) Y hY
          have hq2 := quoteRun_lt_two hnt
          rw [rbl_quote q _ c acc (by rw [quoteRun_q]; omega)]
          obtain ⟨c', e⟩ := ih S1 hl1 hok1 Y (c.adv 1 1) (34 :: acc) hY
          exact ⟨c', by rw [e]; simp⟩
      · by_cases h92 : r = 92
        · subst h92
          have e92 : encodeRune 92 = [92] := by decide
          rw [e92]
          simp only [List.cons_append, List.nil_append]
          rw [escapeTriple_cons_ne 92 _ (by decide)]
          simp only [List.cons_append]
          have hq := quoteRun_escapeTriple (utf8Encode S1) Y hY
          rw [rbl_backslash q _ c acc (by
            intro tl' e
            rw [e] at hq
            simp only [quoteRun_q] at hq
            omega)]
          obtain ⟨c', e⟩ := ih S1 hl1 hok1 Y (c.adv 1 1) (92 :: acc) hY
          exact ⟨c', by rw [e]; simp⟩
        · rw [escapeTriple_append_ne _ _ (encodeRune_no_quote hr.1 h34), List.append_assoc]
          obtain ⟨c1, e1⟩ := rbl_plain q r hr.1 (by rcases hr.2 with h | h; exact Or.inl h; exact Or.inr (Or.inl h))
            h34 h92 (escapeTriple (utf8Encode S1) ++ Y) c acc
          rw [e1]
          obtain ⟨c', e⟩ := ih S1 hl1 hok1 Y c1 ((encodeRune r).reverse ++ acc) hY
          exact ⟨c', by rw [e]; simp⟩

theorem rbl_lf (q : Cur) (Z : Bytes) (c : Cur) (acc : Bytes) :
    ∃ c', readBlockLoop q (10 :: Z) c acc = readBlockLoop q Z c' (10 :: acc) := by
  have e10 : encodeRune 10 = [10] := by decide
  obtain ⟨c', e⟩ := rbl_plain q 10 (by unfold IsScalar; omega) (Or.inr (Or.inr rfl)) (by decide) (by decide) Z c acc
  rw [e10] at e
  exact ⟨c', by simpa using e⟩

theorem rbl_blanks (q : Cur) (ind : Bytes) (hi : AllBlank ind) : ∀ (Z : Bytes) (c : Cur) (acc : Bytes),
    ∃ c', readBlockLoop q (ind ++ Z) c acc = readBlockLoop q Z c' (ind.reverse ++ acc) := by
  induction ind with
  | nil => intro Z c acc; exact ⟨c, by simp⟩
  | cons b ind ih =>
    intro Z c acc
    have hb : b = 32 ∨ b = 9 := by
      have := hi b (by simp); simpa [isBlank] using this
    have eb : encodeRune b = [b] := encodeRune_ascii (by omega)
    obtain ⟨c1, e1⟩ := rbl_plain q b (by unfold IsScalar; omega) (by omega) (by omega) (by omega) (ind ++ Z) c acc
    rw [eb] at e1
    obtain ⟨c', e⟩ := ih (fun x hx => hi x (by simp [hx])) Z c1 (b :: acc)
    have e1' : readBlockLoop q (b :: (ind ++ Z)) c acc = readBlockLoop q (ind ++ Z) c1 (b :: acc) := by
      simpa using e1
    exact ⟨c', by rw [List.cons_append, e1', e]; simp⟩

def OkLine (l : Bytes) : Prop := ∃ S : List Nat, (∀ r ∈ S, okChar r) ∧ l = utf8Encode S

theorem okLine_blank {ind : Bytes} (hi : AllBlank ind) : ∃ S : List Nat, (∀ r ∈ S, okChar r) ∧ ind = utf8Encode S ∧
    ∀ b ∈ ind, b ≠ 34 := by
  have hb : ∀ b ∈ ind, b = 32 ∨ b = 9 := by
    intro b h; have := hi b h; simpa [isBlank] using this
  refine ⟨ind, ?_, ?_, ?_⟩
  · intro r h; have := hb r h; unfold okChar IsScalar; omega
  · exact (utf8Encode_ascii ind (by intro b h; have := hb b h; omega)).symm
  · intro b h; have := hb b h; omega

theorem rbl_lines (q : Cur) (ind : Bytes) (hi : AllBlank ind) : ∀ (ls : List Bytes), (∀ l ∈ ls, OkLine l) →
    ∀ (Z : Bytes) (c : Cur) (acc : Bytes),
      ∃ c', readBlockLoop q ((ls.map escapeTriple).flatMap (fun l => ind ++ l ++ [10]) ++ Z) c acc
        = readBlockLoop q Z c' ((ls.flatMap (fun l => ind ++ l ++ [10])).reverse ++ acc) := by
  intro ls
  induction ls with
  | nil => intro _ Z c acc; exact ⟨c, by simp⟩
  | cons l ls ih =>
    intro hok Z c acc
    obtain ⟨S, hS, rfl⟩ := hok l (by simp)
    obtain ⟨Si, hSi, ei, hq⟩ := okLine_blank hi
    -- the indented line is itself a line
    have e1 : ind ++ escapeTriple (utf8Encode S) = escapeTriple (utf8Encode (Si ++ S)) := by
      rw [utf8Encode_append, ← ei, escapeTriple_append_ne _ _ hq]
    have e2 : ind ++ utf8Encode S = utf8Encode (Si ++ S) := by rw [utf8Encode_append, ← ei]
    obtain ⟨c1, h1⟩ := rbl_line q (Si ++ S).length (Si ++ S) (Nat.le_refl _)
      (by intro r hr; simp at hr; rcases hr with hr | hr; exact hSi r hr; exact hS r hr)
      (10 :: ((ls.map escapeTriple).flatMap (fun l => ind ++ l ++ [10]) ++ Z)) c acc (by simp)
    obtain ⟨c2, h2⟩ := rbl_lf q ((ls.map escapeTriple).flatMap (fun l => ind ++ l ++ [10]) ++ Z) c1
      ((utf8Encode (Si ++ S)).reverse ++ acc)
    obtain ⟨c', h3⟩ := ih (fun x hx => hok x (by simp [hx])) Z c2 (10 :: ((utf8Encode (Si ++ S)).reverse ++ acc))
    refine ⟨c', ?_⟩
    have ht : ((utf8Encode S :: ls).map escapeTriple).flatMap (fun l => ind ++ l ++ [10]) ++ Z
        = escapeTriple (utf8Encode (Si ++ S)) ++
          10 :: ((ls.map escapeTriple).flatMap (fun l => ind ++ l ++ [10]) ++ Z) := by
      rw [← e1]; simp
    rw [ht, h1, h2, h3, ← e2]
    simp

theorem splitLines_prefix (r : Bytes) : ∀ l ls, splitLines r = l :: ls → ∃ t, r = l ++ t := by
  induction r with
  | nil => intro l ls h; simp [splitLines] at h; exact ⟨[], by simp [h.1]⟩
  | cons b r ih =>
    intro l ls h
    by_cases hb : b = 10
    · subst hb
      rw [splitLines_cons_nl] at h; simp at h
      exact ⟨10 :: r, by simp [← h.1]⟩
    · obtain ⟨l0, ls0, hs⟩ := splitLines_eq_cons r
      rw [splitLines_cons_ne hb hs] at h
      simp at h
      obtain ⟨t, ht⟩ := ih l0 ls0 hs
      exact ⟨t, by rw [← h.1, ht]; simp⟩

theorem splitLines_escapeTriple (s : Bytes) : splitLines (escapeTriple s) = (splitLines s).map escapeTriple := by
  fun_induction escapeTriple s with
  | case1 rest ih =>
    obtain ⟨l0, ls0, hs⟩ := splitLines_eq_cons rest
    rw [hs, List.map_cons] at ih
    have e1 := splitLines_append_prefix [92, 34, 34, 34] (by decide) ih
    have e2 := splitLines_append_prefix [34, 34, 34] (by decide) hs
    simp only [List.cons_append, List.nil_append] at e1 e2
    rw [e1, e2, List.map_cons, escapeTriple_triple]
  | case2 b rest hnot ih =>
    by_cases hb10 : b = 10
    · subst hb10
      rw [splitLines_cons_nl, splitLines_cons_nl, ih]; simp [escapeTriple]
    · obtain ⟨l0, ls0, hs⟩ := splitLines_eq_cons rest
      rw [hs, List.map_cons] at ih
      rw [splitLines_cons_ne hb10 ih, splitLines_cons_ne hb10 hs, List.map_cons]
      congr 1
      -- the first line is a prefix of the text, so it does not start with three quotes either
      by_cases hb : b = 34
      · subst hb
        refine (escapeTriple_quote l0 fun r' e => ?_).symm
        obtain ⟨t, ht⟩ := splitLines_prefix rest l0 ls0 hs
        exact hnot (r' ++ t) rfl (by rw [ht, e]; simp)
      · exact (escapeTriple_cons_ne b l0 hb).symm
  | case3 => simp [splitLines, escapeTriple]

theorem okLines_utf8 (S0 : List Nat) (hok : ∀ r ∈ S0, IsScalar r ∧ (32 ≤ r ∨ r = 9 ∨ r = 10)) :
    ∀ l ∈ splitLines (utf8Encode S0), OkLine l := by
  intro l hl
  rw [splitLines_enc S0 fun r hr => (hok r hr).1, List.mem_map] at hl
  obtain ⟨L, hL, rfl⟩ := hl
  refine ⟨L, fun r hr => ?_, rfl⟩
  have h := hok r (splitLines_mem S0 L hL r hr)
  have h10 : r ≠ 10 := fun e => splitLines_no_nl S0 L hL (e ▸ hr)
  exact ⟨h.1, by omega⟩

theorem okLines_of_valid (s : Bytes) (hv : strRaw s = true)
    (hc : s.all (fun c => !(decide (c < 32) && c != 9 && c != 10)) = true) : ∀ l ∈ splitLines s, OkLine l := by
  obtain ⟨S0, hS0, e⟩ := (Utf8.valid_iff s).1 hv
  subst e
  refine okLines_utf8 S0 ?_
  intro r hr
  refine ⟨hS0 r hr, ?_⟩
  by_cases h32 : 32 ≤ r
  · exact Or.inl h32
  · right
    have hm : r ∈ utf8Encode S0 := by
      simp only [utf8Encode, List.mem_flatMap]
      exact ⟨r, hr, by rw [encodeRune_ascii (by omega)]; simp⟩
    have := List.all_eq_true.1 hc r hm
    simp at this
    omega

theorem isBlankLine_iff (l : Bytes) : isBlankLine l = true ↔ leadingWs l = none := by
  have e : isBlankLine l = Spec.isBlankLine l := congrArg l.all (funext isBlank_eq)
  rcases leadingWs_spec l with ⟨h1, _, h3⟩ | ⟨h1, _, h3⟩ <;> simp [e, h1, h3]

theorem commonIndent_zero (ls : List Bytes) (l : Bytes) (hl : l ∈ ls) (h0 : leadingWs l = some 0) :
    commonIndent ls = some 0 := by
  obtain ⟨n, hn, h⟩ := commonIndent_le ls l hl 0 h0
  rw [hn, Nat.le_zero.1 h]

theorem blockRepresentable_of_model (s : Bytes) (h : blockStringRepresentable s = true) : BlockRepresentable s := by
  unfold blockStringRepresentable at h
  simp only [Bool.and_eq_true, Bool.not_eq_true'] at h
  obtain ⟨⟨⟨_, h1⟩, h2⟩, h3⟩ := h
  have hne := splitLines_ne_nil s
  refine ⟨?_, ?_, ?_⟩
  · cases hs : splitLines s with
    | nil => exact absurd hs hne
    | cons l ls =>
      refine ⟨l, ls, rfl, ?_⟩
      rw [hs] at h1
      intro e
      rw [← isBlankLine_iff] at e
      simp [e] at h1
  · cases hs : (splitLines s).reverse with
    | nil => simp at hs; exact absurd hs hne
    | cons l ls =>
      refine ⟨l, ls, rfl, ?_⟩
      have e : splitLines s = ls.reverse ++ [l] := by
        have := congrArg List.reverse hs; simpa using this
      rw [e] at h2
      intro e'
      rw [← isBlankLine_iff] at e'
      simp [e'] at h2
  · obtain ⟨l, hl, hp⟩ := List.any_eq_true.1 h3
    refine commonIndent_zero _ l hl ?_
    cases l with
    | nil => simp at hp
    | cons b r =>
      simp at hp
      have : isBlank b = false := by simp [isBlank]; exact ⟨hp.2.1, hp.2.2⟩
      simp [leadingWs, this]

theorem tokText_blockDescription (ind s : Bytes) (hi : AllBlank ind) (hv : strRaw s = true)
    (hrep : blockStringRepresentable s = true) :
    TokText (tripleQuote ++ descBody ind (escapeTriple s) ++ tripleQuote)
      { kind := .blockString, value := s } true := by
  intro post hf c
  have hpost : post.head? ≠ some 34 := by
    cases post with
    | nil => simp
    | cons x t => have := sepByte_cases (hf rfl x t rfl); simp; omega
  have hc : s.all (fun c => !(decide (c < 32) && c != 9 && c != 10)) = true := by
    unfold blockStringRepresentable at hrep
    simp only [Bool.and_eq_true] at hrep
    exact hrep.1.1.1
  have hlines := okLines_of_valid s hv hc
  have hsl := splitLines_escapeTriple s
  have htext : tripleQuote ++ descBody ind (escapeTriple s) ++ tripleQuote ++ post
      = 34 :: 34 :: 34 :: 10 :: (((splitLines s).map escapeTriple).flatMap (fun l => ind ++ l ++ [10])
          ++ (ind ++ 34 :: 34 :: 34 :: post)) := by
    simp [tripleQuote, descBody, hsl, List.append_assoc]
  rw [htext, readToken_stop 34 _ c (by decide), readTokenBody_block]
  obtain ⟨c1, h1⟩ := rbl_lf c (((splitLines s).map escapeTriple).flatMap (fun l => ind ++ l ++ [10])
    ++ (ind ++ 34 :: 34 :: 34 :: post)) (c.adv 3 3) []
  obtain ⟨c2, h2⟩ := rbl_lines c ind hi (splitLines s) hlines (ind ++ 34 :: 34 :: 34 :: post) c1 [10]
  obtain ⟨c3, h3⟩ := rbl_blanks c ind hi (34 :: 34 :: 34 :: post) c2
    (((splitLines s).flatMap (fun l => ind ++ l ++ [10])).reverse ++ [10])
  rw [h1, h2, h3, rbl_close c post hpost]
  refine ⟨_, _, rfl, ?_, by simp [Grammar.significant]⟩
  have hval : (ind.reverse ++ (((splitLines s).flatMap (fun l => ind ++ l ++ [10])).reverse ++ [10])).reverse
      = descBody ind s := by
    simp [descBody]
  simp only [Grammar.Tok.ofToken, hval]
  rw [blockStringValue_descBody ind s hi (blockRepresentable_of_model s hrep)]

end Gql.Format
