import GqlProofs.Format.ReloadSchema
/-
  Assembly of the reload theorem for the models (`reload_main`).
-/
namespace Gql.Format
open Gql Gql.Load Gql.Parser

theorem keys_mkSchema (sd : SchemaDoc) (st : LState) (r1 : Roots) (d1 : List Directive) :
    (mkSchema sd st r1 d1).types.map Prod.fst = st.types.map Prod.fst := by
  rw [mkSchema_types]
  split
  · exact keys_modifyKV _ _ _
  · rfl

theorem introspection_norm (cfg : Cfg) :
    (introspectionFields.map (normFieldDef cfg)).map FieldDef.erasePos = introspectionFields.map FieldDef.erasePos := by
  cases h : cfg.omitDescription <;>
    simp [introspectionFields, normFieldDef, normArgDef, normDesc, h, FieldDef.erasePos, ArgDef.erasePos]

/-- the introspection fields the loader appends are the same on both sides -/
theorem finalDef_reparsed {cfg : Cfg} (q : Option Name) (n : Name) {x x' : Definition}
    (h : x'.erasePos = (normDef cfg x).erasePos) :
    (finalDef q (n, x')).2.erasePos = (normDef cfg (finalDef q (n, x)).2).erasePos := by
  unfold finalDef
  split
  · split
    · cases x
      cases x'
      simp only [Definition.erasePos, normDef, Definition.mk.injEq] at h
      simp only [Definition.erasePos, normDef, addIntrospection, List.map_append, h, introspection_norm]
    · exact h
  · exact h

section
variable {cfg : Cfg} {pre u : SchemaDoc} {s : Schema} {st : LState} {r1 : Roots} {d1 : List Directive} {P : SchemaDoc}
variable (C : Ctx cfg pre u s st r1 d1 P)
include C

theorem Ctx.rootsResolve {st' : LState} (hb' : buildState (pre.merge P) = .ok st') (ht : st'.types = reTypes pre P) :
    RootsResolve st'.types s := by
  have hinv := (buildState_inv hb').1
  have key : ∀ n, (st.types.lookup n).isSome → ∃ d, st'.types.lookup n = some d ∧ d.name = n := by
    intro n hn
    obtain ⟨x, hx⟩ := Option.isSome_iff_exists.mp hn
    obtain ⟨d, hd, _⟩ := exists_of_map_eq_some ((C.sameSk hb' ht).2.2 n).symm hx
    exact ⟨d, hd, hinv.2 (n, d) (mem_of_lookup hd)⟩
  have hr := C.F.roots
  rw [C.F.roots_eq] at hr
  exact ⟨fun n hn => key n (hr.1 n hn), fun n hn => key n (hr.2.1 n hn), fun n hn => key n (hr.2.2 n hn)⟩

theorem Ctx.equiv {st' : LState} {acc0 : List (Name × DirectiveDef)} (hb' : buildState (pre.merge P) = .ok st')
    (ht : st'.types = reTypes pre P) (h1 : declareDirectives u.directives acc0 = .ok st.directives)
    (hD : declareDirectives P.directives acc0 = .ok st'.directives) {r1' : Roots} {d1' : List Directive}
    (hroots : finalRoots (pre.merge P) st' r1' = ⟨s.query, s.mutation, s.subscription⟩)
    (hdirs : d1'.map Directive.erasePos = (s.schemaDirectives.map normDir).map Directive.erasePos)
    (hdesc : (match (pre.merge P).schema with | [d] => d.desc | _ => []) = []) :
    ReloadEquiv cfg s (mkSchema (pre.merge P) st' r1' d1') := by
  have hS := C.sameSk hb' ht
  have hq' : (finalRoots (pre.merge P) st' r1').query = s.query := by rw [hroots]
  have hq : (finalRoots (pre.merge u) st r1).query = s.query := by rw [C.F.roots_eq]
  refine ⟨?_, ?_, ?_, hdirs, hdesc, ?_, ?_, ?_, ?_, ?_, ?_⟩
  · rw [mkSchema_query, hq']
  · show (finalRoots (pre.merge P) st' r1').mutation = s.mutation
    rw [hroots]
  · show (finalRoots (pre.merge P) st' r1').subscription = s.subscription
    rw [hroots]
  · rw [keys_mkSchema]
    have : s.types.map Prod.fst = st.types.map Prod.fst := by rw [C.F.eq]; exact keys_mkSchema _ _ _ _
    rw [this]
    exact hS.keys_perm
  · intro n d hl
    have hl0 : (mkSchema (pre.merge u) st r1 d1).types.lookup n = some d := by rw [← C.F.eq]; exact hl
    rw [lookup_mkSchema_eq, hq] at hl0
    cases hx : st.types.lookup n with
    | none => rw [hx] at hl0; cases hl0
    | some x =>
      rw [hx] at hl0
      simp only [Option.map, Option.some.injEq] at hl0
      have hbd : d.builtIn = x.builtIn := by rw [← hl0]; exact finalDef_builtIn _ _
      rw [lookup_mkSchema_eq, hq']
      cases hbx : x.builtIn with
      | true =>
        have := C.lookup_builtin hx hbx
        rw [← ht] at this
        refine ⟨d, by rw [this]; simp [hl0], fun _ => rfl, fun h => ?_⟩
        rw [hbd, hbx] at h; cases h
      | false =>
        obtain ⟨x', h2, h3⟩ := C.lookup_user hx hbx
        rw [← ht] at h2
        refine ⟨(finalDef s.query (n, x')).2, by rw [h2]; rfl, fun h => ?_, fun _ => ?_⟩
        · rw [hbd, hbx] at h; cases h
        · rw [← hl0]; exact finalDef_reparsed s.query n h3
  · show (st'.directives.map Prod.fst).Perm (s.directives.map Prod.fst)
    rw [C.F.directives_eq]
    have hp : (skDirs st'.directives).Perm (skDirs st.directives) := by
      apply perm_of_lookup_eq
      · simpa [skDirs, List.map_map, Function.comp_def] using C.F.dirsInv.1
      · simpa [skDirs, List.map_map, Function.comp_def] using (buildState_inv hb').2.1.1
      · intro n; rw [lookup_skDirs, lookup_skDirs]; exact C.sk_dirs h1 hD n
    have := hp.map Prod.fst
    simpa [skDirs, List.map_map, Function.comp_def] using this
  · intro n dd hl
    rw [C.F.directives_eq] at hl
    show ∃ dd', st'.directives.lookup n = some dd' ∧ _
    by_cases hs : dd.pos.src = 0
    · exact ⟨dd, C.dlookup_prelude h1 hD hl hs, fun _ => rfl, fun h => absurd hs h⟩
    · obtain ⟨d', h2, h3⟩ := C.dlookup_user hD hl hs
      exact ⟨d', h2, fun h => absurd h hs, fun _ => h3⟩
  · intro k
    rw [C.F.eq, possible_mkSchema, possible_mkSchema]
    have e2 : st'.possible = (buildRelations st'.types).1 := congrArg Prod.fst (buildState_inv hb').2.2
    rw [C.F.possible_eq, e2]
    exact (hS.possible_entries k).map _
  · intro k
    rw [C.F.eq, implementsOf_mkSchema, implementsOf_mkSchema]
    have e2 : st'.implements = (buildRelations st'.types).2 := congrArg Prod.snd (buildState_inv hb').2.2
    rw [C.F.implements_eq, e2]
    exact (hS.implements_entries k).map _

end

theorem schemaDef_components {X M : SchemaDef} (h : X.erasePos = M.erasePos) :
    X.desc = M.desc ∧ X.dirs.map Directive.erasePos = M.dirs.map Directive.erasePos ∧
      X.opTypes.map OpTypeDef.erasePos = M.opTypes.map OpTypeDef.erasePos := by
  cases X
  cases M
  simpa only [SchemaDef.erasePos, SchemaDef.mk.injEq, and_true] using h

theorem normDesc_nil (cfg : Cfg) : normDesc cfg [] = [] := by unfold normDesc; split <;> rfl

/-- the roots `inferRoots` finds when no schema definition was printed -/
theorem inferRoots_printable {T : List (Name × Definition)} {s : Schema}
    (hl : ∀ n, (T.lookup n).isSome = (s.types.lookup n).isSome) (hres : RootsResolve T s)
    (hd : (isDefaultRoot s s.query (str "Query") && isDefaultRoot s s.mutation (str "Mutation") &&
      isDefaultRoot s s.subscription (str "Subscription")) = true) :
    inferRoots T noRoots = ⟨s.query, s.mutation, s.subscription⟩ := by
  simp only [Bool.and_eq_true] at hd
  obtain ⟨⟨hq, hm⟩, hs⟩ := hd
  have key : ∀ (root : Option Name) (dflt : Name), isDefaultRoot s root dflt = true →
      (∀ n, root = some n → ∃ d, T.lookup n = some d ∧ d.name = n) → ptrOf T dflt = root := by
    intro root dflt hdr hres
    unfold ptrOf
    cases root with
    | some n =>
      have hn : n = dflt := by simpa [isDefaultRoot] using hdr
      obtain ⟨d, h1, h2⟩ := hres n rfl
      rw [← hn, h1]; simp [h2]
    | none =>
      have hnone : (s.types.lookup dflt).isSome = false := by
        simpa [isDefaultRoot, Schema.type?] using hdr
      have := hl dflt
      rw [hnone] at this
      cases h : T.lookup dflt with
      | none => rfl
      | some x => rw [h] at this; cases this
  simp only [inferRoots, inferRoot, noRoots]
  rw [show nameQuery = str "Query" from rfl, show nameMutation = str "Mutation" from rfl,
    show nameSubscription = str "Subscription" from rfl, key _ _ hq hres.1, key _ _ hm hres.2.1, key _ _ hs hres.2.2]

/-- the last check of the loader (root operation types are object types) transfers along a
    skeleton-equivalence of states: it reads only the kind of the root definitions -/
theorem checkRootKinds_transfer {st st' : LState} (E : SkEq st st') {r : Roots}
    (h : checkRootKinds st r = .pass) : checkRootKinds st' r = .pass := by
  rw [checkRootKinds_pass_iff] at h ⊢
  intro o ho n d' hr hl'
  obtain ⟨d, hl, hsk⟩ := exists_of_map_eq_some (E.types n) hl'
  have hk : (skDef d').kind = (skDef d).kind := congrArg Definition.kind hsk
  rw [show d'.kind = d.kind from hk]
  exact h o ho n d hr hl

theorem reload_main {cfg : Cfg} {pre u : SchemaDoc} {s : Schema} {P : SchemaDoc} (hb : cfg.emitBuiltin = false)
    (hpre : PreludeShape pre) (hu : UserShape pre u) (hload : load (pre.merge u) = .ok s) (hP : Reparsed cfg s P)
    (hrp : RootsPrintable s) : ∃ s', load (pre.merge P) = .ok s' ∧ ReloadEquiv cfg s s' := by
  obtain ⟨st, r1, F, K⟩ := loaded_checked hload
  have C : Ctx cfg pre u s st r1 _ P := ⟨hb, hpre, hu, F, hP⟩
  obtain ⟨st', acc0, hb', ht, h1, hD⟩ := C.reload_state
  have E := C.skEq hb' ht h1 hD
  have hschema : (pre.merge P).schema = P.schema := by simp [SchemaDoc.merge, hpre.noSchema]
  have hschemaExt : (pre.merge P).schemaExt = P.schemaExt := by simp [SchemaDoc.merge, hpre.noSchemaExt]
  have hRR := C.rootsResolve hb' ht
  have hdirsOK : ∀ ds : List Directive, ds.map Directive.erasePos = (s.schemaDirectives.map normDir).map Directive.erasePos →
      validateDirectives st' ds locSchema none = .pass := by
    intro ds hds
    apply validateDirectives_transfer E (skDirs_of_reparsed hds)
    rw [F.schemaDirectives_eq]; exact K.schemaDirs_all
  -- the roots of the reloaded schema are those of `s`, whose definitions have the same kinds in both states
  have hkinds : checkRootKinds st' ⟨s.query, s.mutation, s.subscription⟩ = .pass := by
    apply checkRootKinds_transfer E
    rw [← F.roots_eq]; exact F.rootKinds
  -- what remains once the schema blocks of `P` are known
  have finishWith : ∀ r1', P.schema.length ≤ 1 →
      setRoots st'.types ((P.schema ++ P.schemaExt).flatMap (·.opTypes)) noRoots = .ok r1' →
      (∀ b ∈ P.schema ++ P.schemaExt, validateDirectives st' b.dirs locSchema none = .pass) →
      ((P.schema ++ P.schemaExt).flatMap (·.dirs)).map Directive.erasePos =
        (s.schemaDirectives.map normDir).map Directive.erasePos →
      finalRoots (pre.merge P) st' r1' = ⟨s.query, s.mutation, s.subscription⟩ →
      (match P.schema with | [d] => d.desc | _ => []) = [] →
      ∃ s', load (pre.merge P) = .ok s' ∧ ReloadEquiv cfg s s' := by
    intro r1' hlen hroots hbdirs hdirs hfr hdesc
    refine ⟨_, load_eq_ok_iff.mpr ⟨st', r1', hb', ⟨?_, ?_, ?_, typeDefs_transfer E K.defs,
      directiveDefs_transfer E K.dirDefs, ?_⟩, rfl⟩, ?_⟩
    · rw [hschema]; exact hlen
    · rw [hschema, hschemaExt]; exact hroots
    · rw [hschema, hschemaExt]; exact hbdirs
    · rw [hfr]; exact hkinds
    · apply C.equiv hb' ht h1 hD hfr
      · rw [hschema, hschemaExt]; exact hdirs
      · rw [hschema]; exact hdesc
  cases hn : needSchema s with
  | true =>
    have e1 := hP.schema
    have e2 := hP.schemaExt
    simp only [docOfSchemaRaw, hn, ↓reduceIte, mergeSchemaDefs, List.flatMap_cons, List.flatMap_nil, List.append_nil,
      List.map_cons, List.map_nil, Bool.not_true, Bool.false_and, Bool.false_eq_true, List.map_eq_nil_iff] at e1 e2
    obtain ⟨X, hX, hXe⟩ := List.map_eq_singleton_iff.mp e1
    obtain ⟨hXd, hXdirs, hXops⟩ := schemaDef_components hXe
    simp only at hXd hXdirs hXops
    have hops : setRoots st'.types X.opTypes noRoots = .ok ⟨s.query, s.mutation, s.subscription⟩ :=
      setRoots_of_erasePos hXops (setRoots_rootOpTypes hRR)
    refine finishWith _ (by rw [hX]; simp) (by rw [hX, e2]; simpa using hops)
      (by rw [hX, e2]; simpa using hdirsOK X.dirs hXdirs) (by rw [hX, e2]; simpa using hXdirs)
      (by unfold finalRoots; rw [hschema, hX]; rfl) ?_
    rw [hX]; simp only; rw [hXd, normDesc_nil]
  | false =>
    have hdef := hrp hn
    have e1 := hP.schema
    simp only [docOfSchemaRaw, hn, Bool.false_eq_true, ↓reduceIte, mergeSchemaDefs, List.map_nil, List.map_eq_nil_iff] at e1
    have hinf : finalRoots (pre.merge P) st' noRoots = ⟨s.query, s.mutation, s.subscription⟩ := by
      unfold finalRoots
      rw [hschema, e1]
      apply inferRoots_printable _ hRR hdef
      intro n
      rw [F.eq, lookup_isSome_mkSchema]
      simpa only [Option.isSome_map] using congrArg Option.isSome ((C.sameSk hb' ht).2.2 n)
    by_cases hde : s.schemaDirectives.isEmpty = true
    · have e2 := hP.schemaExt
      simp only [docOfSchemaRaw, hn, hde, Bool.not_false, Bool.not_true, Bool.and_false, Bool.false_eq_true, ↓reduceIte,
        mergeSchemaDefs, List.map_nil, List.map_eq_nil_iff] at e2
      refine finishWith noRoots (by rw [e1]; simp) (by rw [e1, e2]; rfl) (by rw [e1, e2]; simp) ?_ hinf (by rw [e1])
      rw [e1, e2, List.isEmpty_iff.mp hde]; rfl
    · have e2 := hP.schemaExt
      simp only [docOfSchemaRaw, hn, hde, Bool.not_false, Bool.and_self, ↓reduceIte, mergeSchemaDefs, List.flatMap_cons,
        List.flatMap_nil, List.append_nil, List.map_cons, List.map_nil] at e2
      obtain ⟨X, hX, hXe⟩ := List.map_eq_singleton_iff.mp e2
      obtain ⟨_, hXdirs, hXops⟩ := schemaDef_components hXe
      simp only [List.map_nil, List.map_eq_nil_iff] at hXdirs hXops
      refine finishWith noRoots (by rw [e1]; simp) (by rw [e1, hX]; simp [hXops, setRoots])
        (by rw [e1, hX]; simpa using hdirsOK X.dirs hXdirs) (by rw [e1, hX]; simpa using hXdirs) hinf (by rw [e1])

end Gql.Format
