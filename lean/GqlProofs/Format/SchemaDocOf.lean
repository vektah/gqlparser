import GqlModel.Format.Model
import GqlModel.Schema.Model
/-
  `FormatSchema` (loaded schemas) prints a DOCUMENT: `docOfSchema cfg s`, whose `FormatSchemaDocument` text is the
  `FormatSchema` text of `s`.  `docOfSchemaRaw s`: the schema definition exactly when the model decides to write one
  (`needSchema`), with the roots that are set in the order query, mutation, subscription and the schema directives;
  otherwise, when there are schema directives, ONE `extend schema @…`; the directive and type definitions sorted by name
  (the values of the Go maps in the order of `sort.Strings(keys)`); no extensions.  `formatSchema_eq_raw`: the two entry
  points produce the same writer state, without hypothesis.  `docOfSchema cfg s`: the same without the fields the
  formatter hides (`__schema`, `__type`: `__`-name and no position, unless `WithBuiltin`); the text is the same PROVIDED
  no printed definition loses ALL its fields (`NoAllHidden`: it would be printed with an empty block `{` `}`), which holds
  of every loaded schema (`noAllHidden_of_loaded`; of other `Schema` values not: `C13_schema_hidden_fields_rejected`).
-/
namespace Gql.Format
open Gql

/-- the root operation types that are set, in the formatter's order -/
def rootOpType (kw : Bytes) : Option Name → List OpTypeDef
  | some n => [{ op := kw, type := n, pos := Pos.zero }]
  | none => []

def rootOpTypes (s : Schema) : List OpTypeDef :=
  rootOpType (str "query") s.query ++ rootOpType (str "mutation") s.mutation ++
    rootOpType (str "subscription") s.subscription

def docOfSchemaRaw (s : Schema) : SchemaDoc :=
  { schema := if needSchema s then [{ desc := [], dirs := s.schemaDirectives, opTypes := rootOpTypes s, pos := Pos.zero }] else [],
    schemaExt := if !needSchema s && !s.schemaDirectives.isEmpty then
        [{ desc := [], dirs := s.schemaDirectives, opTypes := [], pos := Pos.zero }] else [],
    directives := sortedByKey s.directives,
    definitions := sortedByKey s.types,
    extensions := [] }

/-- a definition without the fields `FormatFieldDefinition` hides -/
def dropHidden (cfg : Cfg) (d : Definition) : Definition :=
  { d with fields := d.fields.filter fun f => !fieldSuppressed cfg.emitBuiltin f.name f.pos }

def docOfSchema (cfg : Cfg) (s : Schema) : SchemaDoc :=
  { docOfSchemaRaw s with definitions := (sortedByKey s.types).map (dropHidden cfg) }

def NoAllHidden (cfg : Cfg) (s : Schema) : Prop :=
  ∀ p ∈ s.types, (cfg.emitBuiltin = true ∨ p.2.builtIn = false) →
    (dropHidden cfg p.2).fields.isEmpty = p.2.fields.isEmpty

instance (cfg : Cfg) (s : Schema) : Decidable (NoAllHidden cfg s) := by unfold NoAllHidden; infer_instance

section Indent
variable (cfg : Cfg)

/-- `f` neither reads the indentation nor leaves the line: it commutes with `incIndent` -/
def IndentFree (f : W → W) : Prop :=
  ∀ w : W, w.lineHead = false → (f w).lineHead = false ∧ f (incIndent w) = incIndent (f w)

theorem IndentFree.comp {f g : W → W} (hf : IndentFree f) (hg : IndentFree g) : IndentFree (fun w => g (f w)) := by
  intro w hw
  obtain ⟨h1, h2⟩ := hf w hw
  obtain ⟨h3, h4⟩ := hg (f w) h1
  exact ⟨h3, by simp only [h2, h4]⟩

theorem IndentFree.id : IndentFree (fun w => w) := fun _ hw => ⟨hw, rfl⟩

theorem indentFree_writeWord (x : Bytes) : IndentFree (writeWord cfg x) := by
  intro w hw
  obtain ⟨ch, n, p, lh⟩ := w
  simp only at hw; subst hw
  cases p <;> simp [writeWord, incIndent, W.raw]

theorem indentFree_writeStr (x : Bytes) : IndentFree (writeStr cfg x) := by
  intro w hw
  obtain ⟨ch, n, p, lh⟩ := w
  simp only at hw; subst hw
  cases p <;> simp [writeStr, incIndent, W.raw]

theorem indentFree_noPadding : IndentFree noPadding := by
  intro w hw; exact ⟨hw, rfl⟩

theorem indentFree_needPadding : IndentFree needPadding := by
  intro w hw; exact ⟨hw, rfl⟩

theorem indentFree_formatArgument (a : Argument) : IndentFree (formatArgument cfg a) := by
  unfold formatArgument
  exact ((((((indentFree_writeWord cfg a.name).comp indentFree_noPadding).comp (indentFree_writeStr cfg [58])).comp
    indentFree_needPadding).comp (indentFree_writeStr cfg _)))

theorem indentFree_formatArguments : ∀ as : List Argument, IndentFree (formatArguments cfg as)
  | [] => IndentFree.id
  | [a] => indentFree_formatArgument cfg a
  | a :: b :: rest =>
    (((indentFree_formatArgument cfg a).comp indentFree_noPadding).comp (indentFree_writeWord cfg [44])).comp
      (indentFree_formatArguments (b :: rest))

theorem indentFree_formatArgumentList (as : List Argument) : IndentFree (formatArgumentList cfg as) := by
  unfold formatArgumentList
  split
  · exact IndentFree.id
  · exact (((indentFree_noPadding.comp (indentFree_writeStr cfg [40])).comp (indentFree_formatArguments cfg as)).comp
      (indentFree_writeStr cfg [41])).comp indentFree_needPadding

theorem indentFree_formatDirective (d : Directive) : IndentFree (formatDirective cfg d) := by
  unfold formatDirective
  exact ((indentFree_writeStr cfg [64]).comp (indentFree_writeWord cfg d.name)).comp
    (indentFree_formatArgumentList cfg d.args)

theorem indentFree_formatDirectiveList (ds : List Directive) : IndentFree (formatDirectiveList cfg ds) := by
  induction ds with
  | nil => exact IndentFree.id
  | cons d rest ih => exact (indentFree_formatDirective cfg d).comp ih

theorem decIndent_incIndent (w : W) : decIndent (incIndent w) = w := by
  obtain ⟨ch, n, p, lh⟩ := w
  simp [decIndent, incIndent]

/-- the directives of the `schema` line: written inside `incIndent … decIndent` by
    `FormatSchemaDefinitionList`, plainly by `FormatSchema` -/
theorem directives_indented (ds : List Directive) (w : W) (hw : w.lineHead = false) :
    decIndent (formatDirectiveList cfg ds (incIndent w)) = formatDirectiveList cfg ds w := by
  rw [(indentFree_formatDirectiveList cfg ds w hw).2, decIndent_incIndent]

end Indent

theorem writeWord_lineHead (cfg : Cfg) (x : Bytes) (w : W) : (writeWord cfg x w).lineHead = false := by
  obtain ⟨ch, n, p, lh⟩ := w
  cases p <;> cases lh <;> simp [writeWord, writeIndent, W.raw]

theorem rootLine (cfg : Cfg) (kw n : Bytes) (w : W) :
    formatOperationTypeDefinition cfg { op := kw, type := n, pos := Pos.zero } w =
      (w |> writeWord cfg kw |> noPadding |> writeStr cfg [58] |> needPadding |> writeWord cfg n |> writeNewline) := rfl

theorem schemaDefinitionList_one (cfg : Cfg) (dirs : List Directive) (ops : List OpTypeDef) (w : W) :
    formatSchemaDefinitionList cfg false [{ desc := [], dirs := dirs, opTypes := ops, pos := Pos.zero }] w =
      writeNewline (writeStr cfg [125] (decIndent (ops.foldl (fun w o => formatOperationTypeDefinition cfg o w)
        (incIndent (writeNewline (writeStr cfg [123]
          (formatDirectiveList cfg dirs (writeWord cfg (str "schema") w)))))))) := by
  have hd := directives_indented cfg dirs (writeWord cfg (str "schema") w) (writeWord_lineHead _ _ _)
  simp [formatSchemaDefinitionList, writeDescription, hd]

theorem schemaExtensionList_one (cfg : Cfg) (dirs : List Directive) (w : W) :
    formatSchemaDefinitionList cfg true [{ desc := [], dirs := dirs, opTypes := [], pos := Pos.zero }] w =
      writeNewline (formatDirectiveList cfg dirs (writeWord cfg (str "schema") (writeWord cfg (str "extend") w))) := by
  have hd := directives_indented cfg dirs (writeWord cfg (str "schema") (writeWord cfg (str "extend") w))
    (writeWord_lineHead _ _ _)
  simp [formatSchemaDefinitionList, writeDescription, hd, isSchemaDefinitionsEmpty]

/-- the head of `FormatSchema`: the schema definition, or the schema extension, or nothing -/
def schemaHead (cfg : Cfg) (s : Schema) (w : W) : W :=
  let st := (w, false)
    |> formatRoot cfg s (str "query") s.query
    |> formatRoot cfg s (str "mutation") s.mutation
    |> formatRoot cfg s (str "subscription") s.subscription
  if st.2 then st.1 |> decIndent |> writeStr cfg [125] |> writeNewline
  else if !s.schemaDirectives.isEmpty then
    st.1 |> writeWord cfg (str "extend") |> writeWord cfg (str "schema")
      |> formatDirectiveList cfg s.schemaDirectives |> writeNewline
  else st.1

theorem formatSchema_eq_head (cfg : Cfg) (s : Schema) (w : W) (b : Nat → Bool) :
    formatSchema cfg s w b =
      (sortedByKey s.types).foldl (fun w d => formatDefinition cfg false d w)
        ((sortedByKey s.directives).foldl (fun w d => formatDirectiveDefinition cfg b d w) (schemaHead cfg s w)) := by
  simp [formatSchema, schemaHead, schemaDescriptionPrinted]

theorem needSchema_some_root {s : Schema} (h : needSchema s = true) :
    s.query.isSome = true ∨ s.mutation.isSome = true ∨ s.subscription.isSome = true := by
  simp only [needSchema, Bool.and_eq_true, Bool.not_eq_true', Bool.and_eq_false_imp] at h
  cases hq : s.query <;> cases hm : s.mutation <;> cases hs : s.subscription <;> simp_all

theorem rootOpTypes_ne_nil {s : Schema} (h : needSchema s = true) : rootOpTypes s ≠ [] := by
  have := needSchema_some_root h
  unfold rootOpTypes rootOpType
  cases hq : s.query <;> cases hm : s.mutation <;> cases hs : s.subscription <;> simp_all

theorem schemaHead_eq (cfg : Cfg) (s : Schema) (w : W) :
    schemaHead cfg s w =
      formatSchemaDefinitionList cfg true (docOfSchemaRaw s).schemaExt
        (formatSchemaDefinitionList cfg false (docOfSchemaRaw s).schema w) := by
  cases hn : needSchema s with
  | false =>
    have h1 : (docOfSchemaRaw s).schema = [] := by simp [docOfSchemaRaw, hn]
    rw [h1]
    by_cases hd : s.schemaDirectives.isEmpty = true
    · have h2 : (docOfSchemaRaw s).schemaExt = [] := by simp [docOfSchemaRaw, hn, hd]
      rw [h2]
      simp [schemaHead, formatRoot, hn, hd, formatSchemaDefinitionList]
    · have h2 : (docOfSchemaRaw s).schemaExt = [{ desc := [], dirs := s.schemaDirectives, opTypes := [], pos := Pos.zero }] := by
        simp [docOfSchemaRaw, hn, hd]
      rw [h2, schemaExtensionList_one]
      simp [schemaHead, formatRoot, hn, hd, formatSchemaDefinitionList]
  | true =>
    have h1 : (docOfSchemaRaw s).schema =
        [{ desc := [], dirs := s.schemaDirectives, opTypes := rootOpTypes s, pos := Pos.zero }] := by
      simp [docOfSchemaRaw, hn]
    have h2 : (docOfSchemaRaw s).schemaExt = [] := by simp [docOfSchemaRaw, hn]
    rw [h1, h2, schemaDefinitionList_one]
    have hr := needSchema_some_root hn
    cases hq : s.query <;> cases hm : s.mutation <;> cases hs : s.subscription <;>
      simp [hq, hm, hs] at hr <;>
      simp [schemaHead, formatRoot, hn, hq, hm, hs, rootOpTypes, rootOpType, formatSchemaDefinitionList,
        formatOperationTypeDefinition]

theorem formatSchema_eq_raw (cfg : Cfg) (s : Schema) (w : W) (b : Nat → Bool) :
    formatSchema cfg s w b = formatSchemaDocument cfg (docOfSchemaRaw s) w b := by
  rw [formatSchema_eq_head, schemaHead_eq]
  simp [formatSchemaDocument, formatDefinitionList, docOfSchemaRaw]

theorem foldl_fields_hidden (cfg : Cfg) (fs : List FieldDef) (w : W) :
    (fs.filter fun f => !fieldSuppressed cfg.emitBuiltin f.name f.pos).foldl (fun w f => formatFieldDefinition cfg f w) w
      = fs.foldl (fun w f => formatFieldDefinition cfg f w) w := by
  induction fs generalizing w with
  | nil => rfl
  | cons f rest ih =>
    cases hf : fieldSuppressed cfg.emitBuiltin f.name f.pos with
    | true =>
      have : formatFieldDefinition cfg f w = w := by simp [formatFieldDefinition, hf]
      simp [hf, this, ih]
    | false => simp [hf, ih]

theorem formatFieldList_hidden (cfg : Cfg) (d : Definition)
    (h : (dropHidden cfg d).fields.isEmpty = d.fields.isEmpty) (w : W) :
    formatFieldList cfg (dropHidden cfg d).fields w = formatFieldList cfg d.fields w := by
  unfold formatFieldList
  rw [h]
  split
  · rfl
  · simp only [dropHidden, foldl_fields_hidden]

theorem formatDefinition_hidden (cfg : Cfg) (ext : Bool) (d : Definition)
    (h : (cfg.emitBuiltin = true ∨ d.builtIn = false) → (dropHidden cfg d).fields.isEmpty = d.fields.isEmpty) (w : W) :
    formatDefinition cfg ext (dropHidden cfg d) w = formatDefinition cfg ext d w := by
  unfold formatDefinition
  have hb : (dropHidden cfg d).builtIn = d.builtIn := rfl
  rw [hb]
  split
  · rfl
  · rename_i hc
    have hc' : cfg.emitBuiltin = true ∨ d.builtIn = false := by
      cases he : cfg.emitBuiltin <;> cases hbi : d.builtIn <;> simp_all
    simp only [formatFieldList_hidden cfg d (h hc')]
    rfl

theorem foldl_definitions_hidden (cfg : Cfg) (ds : List Definition)
    (h : ∀ d ∈ ds, (cfg.emitBuiltin = true ∨ d.builtIn = false) → (dropHidden cfg d).fields.isEmpty = d.fields.isEmpty)
    (w : W) :
    (ds.map (dropHidden cfg)).foldl (fun w d => formatDefinition cfg false d w) w
      = ds.foldl (fun w d => formatDefinition cfg false d w) w := by
  induction ds generalizing w with
  | nil => rfl
  | cons d rest ih =>
    simp only [List.map_cons, List.foldl_cons]
    rw [formatDefinition_hidden cfg false d (h d (by simp)), ih (fun d' hd' => h d' (by simp [hd']))]

theorem sortedByKey_perm {α} (m : List (Name × α)) : (sortedByKey m).Perm (m.map Prod.snd) :=
  (List.mergeSort_perm _ _).map _

theorem mem_sortedByKey {α} (m : List (Name × α)) (x : α) : x ∈ sortedByKey m ↔ ∃ p ∈ m, p.2 = x := by
  rw [(sortedByKey_perm m).mem_iff, List.mem_map]

theorem formatSchema_eq_doc (cfg : Cfg) (s : Schema) (h : NoAllHidden cfg s) (w : W) (b : Nat → Bool) :
    formatSchema cfg s w b = formatSchemaDocument cfg (docOfSchema cfg s) w b := by
  rw [formatSchema_eq_raw]
  have hdefs : ∀ d ∈ sortedByKey s.types, (cfg.emitBuiltin = true ∨ d.builtIn = false) →
      (dropHidden cfg d).fields.isEmpty = d.fields.isEmpty := by
    intro d hd
    obtain ⟨p, hp, rfl⟩ := (mem_sortedByKey _ _).mp hd
    exact h p hp
  simp only [formatSchemaDocument, formatDefinitionList, docOfSchema, docOfSchemaRaw]
  rw [foldl_definitions_hidden cfg _ hdefs]

end Gql.Format
