import GqlProofs.Lexer.UniNumber
import GqlProofs.Format.Lexes
/-
  A number lexeme followed by a separator or punctuator.

  A rest that is empty or starts with a `sepByte` (`Inert X`) is one the number scanners of the
  specification (`Spec.numberToken`, proved equal to the model's `readNumber` in `readNumber_spec`)
  take for the end of the text (`Lexer.NumEnd`).
-/
namespace Gql.Format
open Gql Gql.Lexer Gql.Lexer.Spec

theorem sepByte_cases {c : Nat} (h : sepByte c = true) :
    c = 9 ∨ c = 10 ∨ c = 13 ∨ c = 32 ∨ c = 44 ∨ c = 33 ∨ c = 36 ∨ c = 38 ∨ c = 40 ∨ c = 41 ∨ c = 58 ∨
    c = 61 ∨ c = 64 ∨ c = 91 ∨ c = 93 ∨ c = 123 ∨ c = 125 ∨ c = 124 := by
  simpa [sepByte, blankByte, or_assoc] using h

def Inert (X : List Nat) : Prop := ∀ c t, X = c :: t → sepByte c = true

theorem Inert_nil : Inert [] := fun _ _ h => by simp at h

theorem Inert_of_Follow {post : Bytes} (h : Follow true post) : Inert post := fun c t e => h rfl c t e

theorem Inert.numEnd {X : List Nat} (h : Inert X) : NumEnd X := fun c t e => by
  have := sepByte_cases (h c t e); omega

theorem numberToken_inert (pre X : List Cp) (hX : Inert X) :
    numberToken (pre ++ X) = (numberToken pre).map (fun p => (p.1, p.2.1, p.2.2 ++ X)) :=
  numberToken_numEnd pre X hX.numEnd

/-- `raw` is, on its own, exactly one Int / Float lexeme of kind `k` (decidable) -/
def numRaw (k : Kind) (raw : Bytes) : Bool := decide (numberToken raw = some (k, raw, []))

theorem readNumber_numRaw (k : Kind) (raw X : Bytes) (h : numRaw k raw = true) (hX : Inert X) (c : Cur) :
    readNumber c (raw ++ X) = numTok c k raw X := by
  have h0 : numberToken raw = some (k, raw, []) := by simpa [numRaw] using h
  have h1 := numberToken_inert raw X hX
  rw [h0] at h1
  have h2 := readNumber_spec c (raw ++ X)
  rw [h1] at h2
  simpa [Matches] using h2.1

end Gql.Format
