import GqlProofs.Format.ReloadDoc
import GqlProofs.Format.SkeletonInv
/-
  Name by name: what the loader stores for `prelude ⊕ P` (the reparsed text) against what it stored for
  `prelude ⊕ u` (the original sources).
  * a type that is not built in comes back as its reparsed definition (`lookup_user`),
  * a built-in type is the prelude's definition, unchanged (`lookup_builtin`), nothing else appears;
  * the same for directive definitions (`dlookup_user`, `dlookup_prelude`, `dlookup_absent`), and the
    directive map of the reparsed text is built without error (`reload_directives_ok`).
-/
namespace Gql.Format
open Gql Gql.Load Gql.Parser

theorem normDef_builtIn_false (cfg : Cfg) {x : Definition} (h : x.builtIn = false) :
    ({ normDef cfg x with builtIn := false } : Definition) = normDef cfg x := by
  cases x
  simp only [normDef] at h ⊢
  subst h
  rfl

/-- the type map the loader builds for `prelude ⊕ P` -/
def reTypes (pre P : SchemaDoc) : List (Name × Definition) := (pre.merge P).definitions.map fun d => (d.name, d)

theorem lookup_reTypes (pre P : SchemaDoc) (n : Name) :
    (reTypes pre P).lookup n = (pre.definitions.find? (·.name == n)).or (P.definitions.find? (·.name == n)) := by
  unfold reTypes
  rw [lookup_map_key Definition.name]
  simp only [SchemaDoc.merge, List.find?_append]

section
variable {cfg : Cfg} {pre u : SchemaDoc} {s : Schema} {st : LState} {r1 : Roots} {d1 : List Directive} {P : SchemaDoc}
variable (C : Ctx cfg pre u s st r1 d1 P)
include C

theorem Ctx.lookup_user {n : Name} {x : Definition} (hl : st.types.lookup n = some x) (hbi : x.builtIn = false) :
    ∃ d', (reTypes pre P).lookup n = some d' ∧ d'.erasePos = (normDef cfg x).erasePos := by
  obtain ⟨d', h2, e⟩ := C.typesR.find hl (by simp [hbi])
  rw [normDef_builtIn_false cfg hbi] at e
  refine ⟨d', ?_, e⟩
  rw [lookup_reTypes, h2, find?_key_none Definition.name fun d hd e' => ?_]; rfl
  have hmem := mem_of_lookup hl
  exact C.user_name_not_prelude (C.typesR.mem_iff.mpr ⟨_, hmem, by simp [hbi], rfl⟩) hd ((C.F.typesInv.2 _ hmem).trans e'.symm)

theorem Ctx.lookup_builtin {n : Name} {x : Definition} (hl : st.types.lookup n = some x) (hbi : x.builtIn = true) :
    (reTypes pre P).lookup n = some x := by
  have hmem := mem_of_lookup hl
  have hname : x.name = n := C.F.typesInv.2 _ hmem
  have hx : x ∈ pre.definitions := builtin_types_from_prelude C.hpre C.hu C.built hmem hbi
  rw [lookup_reTypes]
  have h1 : pre.definitions.find? (·.name == n) = some x := by
    have := find?_key_of_mem Definition.name C.pre_names_nodup hx
    rw [hname] at this
    exact this
  rw [h1]; rfl

theorem Ctx.lookup_absent {n : Name} (hl : st.types.lookup n = none) : (reTypes pre P).lookup n = none := by
  rw [lookup_reTypes]
  have h1 : pre.definitions.find? (·.name == n) = none := by
    apply find?_key_none Definition.name
    intro d hd e
    have := prelude_types_stored C.hpre C.hu C.built hd
    rw [e, hl] at this; cases this
  have h2 : P.definitions.find? (·.name == n) = none := by
    apply find?_key_none Definition.name
    intro d' hd' e
    obtain ⟨x, hx, _⟩ := C.typesR.of_mem hd'
    rw [e, hl] at hx; cases hx
  rw [h1, h2]; rfl

theorem Ctx.sk_types (n : Name) : ((reTypes pre P).lookup n).map skDef = (st.types.lookup n).map skDef := by
  cases hl : st.types.lookup n with
  | none => rw [C.lookup_absent hl]
  | some x =>
    cases hbi : x.builtIn with
    | true => rw [C.lookup_builtin hl hbi]
    | false =>
      obtain ⟨d', h1, h2⟩ := C.lookup_user hl hbi
      rw [h1]
      simp only [Option.map, skDef_of_reparsed h2]

theorem Ctx.keepDirectiveDef_eq (dd : DirectiveDef) : keepDirectiveDef cfg dd = !(dd.pos.src == 0) := by
  simp [keepDirectiveDef, C.hb, srcZeroBuiltIn]

theorem Ctx.userDirs_perm : (userDirs cfg s).Perm ((st.directives.map Prod.snd).filter fun dd => !(dd.pos.src == 0)) := by
  unfold userDirs
  rw [C.F.directives_eq, List.filter_congr fun d _ => C.keepDirectiveDef_eq d]
  exact (sortedByKey_perm _).filter _

theorem Ctx.dirsR : Reprint DirectiveDef.name st.directives (fun dd => !(dd.pos.src == 0)) (userDirs cfg s) P.directives
    DirectiveDef.erasePos fun x => (normDirectiveDef cfg x).erasePos :=
  ⟨C.F.dirsInv, C.userDirs_perm, C.hP.directives,
   fun h => by simpa [DirectiveDef.erasePos, normDirectiveDef] using congrArg DirectiveDef.name h⟩

theorem Ctx.userDir_of_reparsed {d' : DirectiveDef} (hd' : d' ∈ P.directives) :
    ∃ dd, st.directives.lookup d'.name = some dd ∧ dd.pos.src ≠ 0 ∧ d'.erasePos = (normDirectiveDef cfg dd).erasePos := by
  obtain ⟨dd, hl, hk, e⟩ := C.dirsR.of_mem hd'
  exact ⟨dd, hl, by simpa using hk, e⟩

theorem Ctx.reload_directives_ok {acc0 : List (Name × DirectiveDef)} (h0 : declareDirectives pre.directives [] = .ok acc0)
    (h1 : declareDirectives u.directives acc0 = .ok st.directives) :
    ∃ D, declareDirectives P.directives acc0 = .ok D := by
  refine declareDirectives_ok_of fun d' hd' => ?_
  obtain ⟨dd, hl, hs, _⟩ := C.userDir_of_reparsed hd'
  exact (user_directive_facts C.hpre h0 h1 hl hs).2.2.imp_right fun hnew =>
    ⟨hnew, length_filter_name_le_one C.dirsR.nodup d'.name⟩

theorem Ctx.dlookup_user {acc0 D : List (Name × DirectiveDef)} (hD : declareDirectives P.directives acc0 = .ok D)
    {n : Name} {dd : DirectiveDef} (hl : st.directives.lookup n = some dd) (hs : dd.pos.src ≠ 0) :
    ∃ d', D.lookup n = some d' ∧ d'.erasePos = (normDirectiveDef cfg dd).erasePos := by
  obtain ⟨d', h2, e⟩ := C.dirsR.find hl (by simpa using hs)
  exact ⟨d', by rw [declareDirectives_lookup hD, lastD_nodup C.dirsR.nodup, h2]; rfl, e⟩

theorem Ctx.no_reparsed_named {n : Name} (h : ∀ dd, st.directives.lookup n = some dd → dd.pos.src = 0) :
    ∀ d' ∈ P.directives, d'.name ≠ n := by
  intro d' hd' e
  obtain ⟨dd, hl, hs, _⟩ := C.userDir_of_reparsed hd'
  rw [e] at hl
  exact hs (h dd hl)

theorem Ctx.dlookup_prelude {acc0 D : List (Name × DirectiveDef)}
    (h1 : declareDirectives u.directives acc0 = .ok st.directives) (hD : declareDirectives P.directives acc0 = .ok D)
    {n : Name} {dd : DirectiveDef} (hl : st.directives.lookup n = some dd) (hs : dd.pos.src = 0) :
    D.lookup n = some dd := by
  rw [declareDirectives_lookup hD, lastD_none, prelude_directive_facts C.hu h1 hl hs]
  apply C.no_reparsed_named
  intro dd' hl'
  rw [hl] at hl'
  simp only [Option.some.injEq] at hl'
  rw [← hl']; exact hs

theorem Ctx.dlookup_absent {acc0 D : List (Name × DirectiveDef)}
    (h1 : declareDirectives u.directives acc0 = .ok st.directives) (hD : declareDirectives P.directives acc0 = .ok D)
    {n : Name} (hl : st.directives.lookup n = none) : D.lookup n = none := by
  rw [declareDirectives_lookup hD, lastD_none, absent_directive_facts h1 hl]
  apply C.no_reparsed_named
  intro dd' hl'
  rw [hl] at hl'; cases hl'

theorem Ctx.sk_dirs {acc0 D : List (Name × DirectiveDef)} (h1 : declareDirectives u.directives acc0 = .ok st.directives)
    (hD : declareDirectives P.directives acc0 = .ok D) (n : Name) :
    (D.lookup n).map skDirDef = (st.directives.lookup n).map skDirDef := by
  cases hl : st.directives.lookup n with
  | none => rw [C.dlookup_absent h1 hD hl]
  | some dd =>
    by_cases hs : dd.pos.src = 0
    · rw [C.dlookup_prelude h1 hD hl hs]
    · obtain ⟨d', h2, h3⟩ := C.dlookup_user hD hl hs
      rw [h2]
      simp only [Option.map, skDirDef_of_reparsed h3]

end

end Gql.Format
