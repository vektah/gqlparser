import GqlProofs.Format.TokText
/-
  `Formattable`: the decidable well-formedness of a syntax tree under which the text the formatter writes
  lexes back to the tokens of the tree; every condition holds of a parsed document.  Names are lexer Names
  (`isNameB`), Int / Float raw texts one number lexeme of that kind (`numRaw`), a selection set the grammar
  requires is not empty (the formatter writes nothing for an empty one, not `{}`).  String VALUES, quoted or
  block, are arbitrary byte strings: `Value.String()` writes both as a quoted string, every byte ≥ 0x80
  verbatim, and the lexer keeps the source bytes of a string literal (`C12_quote_roundtrip_bytes`).
  `normFmt`: what the formatter does not keep — the kind of a block-string VALUE comes back as `.string`;
  nothing else changes (`emitComments` is not modelled, the tree carries no comments).
-/
namespace Gql.Format
open Gql Gql.Lexer Gql.Grammar Gql.Print

def normKind : ValueKind → ValueKind
  | .block => .string
  | k => k

mutual
  def normValue : Value → Value
    | .mk k raw ch p => .mk (normKind k) raw (normChildren ch) p
  def normChildren : Children → Children
    | .nil => .nil
    | .cons n v p rest => .cons n (normValue v) p (normChildren rest)
end

def normArg (a : Argument) : Argument := { a with value := normValue a.value }
def normDir (d : Directive) : Directive := { d with args := d.args.map normArg }

mutual
  def normSel : Selection → Selection
    | .field al nm args ds sel p => .field al nm (args.map normArg) (ds.map normDir) (normSels sel) p
    | .spread nm ds p => .spread nm (ds.map normDir) p
    | .inline tc ds sel p => .inline tc (ds.map normDir) (normSels sel) p
  def normSels : Selections → Selections
    | .nil => .nil
    | .cons s rest => .cons (normSel s) (normSels rest)
end

def normVarDef (v : VarDef) : VarDef :=
  { v with default := v.default.map normValue, dirs := v.dirs.map normDir }

def normOp (o : OperationDef) : OperationDef :=
  { o with vars := o.vars.map normVarDef, dirs := o.dirs.map normDir, sel := normSels o.sel }

def normFrag (f : FragmentDef) : FragmentDef :=
  { f with vars := f.vars.map normVarDef, dirs := f.dirs.map normDir, sel := normSels f.sel }

/-- the document the formatter's text stands for -/
def normFmt (d : QueryDoc) : QueryDoc := { ops := d.ops.map normOp, frags := d.frags.map normFrag }

mutual
  def valueOk : Value → Bool
    | .mk k raw ch _ =>
      match k with
      | .variable => isNameB raw
      | .boolean => isNameB raw
      | .null => isNameB raw
      | .enum => isNameB raw
      | .int => numRaw .int raw
      | .float => numRaw .float raw
      | .string => true
      | .block => true
      | .list => itemsOk ch
      | .object => fieldsOk ch
  def itemsOk : Children → Bool
    | .nil => true
    | .cons _ v _ rest => valueOk v && itemsOk rest
  def fieldsOk : Children → Bool
    | .nil => true
    | .cons n v _ rest => isNameB n && valueOk v && fieldsOk rest
end

def typeOk : GType → Bool
  | .named n _ _ => isNameB n
  | .list e _ _ => typeOk e

def argOk (a : Argument) : Bool := isNameB a.name && valueOk a.value
def dirOk (d : Directive) : Bool := isNameB d.name && d.args.all argOk

mutual
  def selOk : Selection → Bool
    | .field al nm args ds sel _ => isNameB al && isNameB nm && args.all argOk && ds.all dirOk && selsOk sel
    | .spread nm ds _ => isNameB nm && ds.all dirOk
    | .inline tc ds sel _ =>
      (tc.isEmpty || isNameB tc) && ds.all dirOk && (match sel with | .nil => false | _ => true) && selsOk sel
  def selsOk : Selections → Bool
    | .nil => true
    | .cons s rest => selOk s && selsOk rest
end

def varDefOk (v : VarDef) : Bool :=
  isNameB v.var && typeOk v.type && (match v.default with | some d => valueOk d | none => true) && v.dirs.all dirOk

def opOk (o : OperationDef) : Bool :=
  isNameB o.op && (o.name.isEmpty || isNameB o.name) && o.vars.all varDefOk && o.dirs.all dirOk &&
  (match o.sel with | .nil => false | _ => true) && selsOk o.sel

def fragOk (f : FragmentDef) : Bool :=
  isNameB f.name && f.vars.all varDefOk && isNameB f.typeCond && f.dirs.all dirOk &&
  (match f.sel with | .nil => false | _ => true) && selsOk f.sel

def docOk (d : QueryDoc) : Bool := d.ops.all opOk && d.frags.all fragOk

def Formattable (d : QueryDoc) : Prop := docOk d = true

instance (d : QueryDoc) : Decidable (Formattable d) := by unfold Formattable; infer_instance

/-- the indentation strings covered: any sequence of ignored single bytes (TAB, LF, CR, space,
    comma), the empty string included -/
def BlankIndent (cfg : Cfg) : Prop := AllIgnored cfg.indent

end Gql.Format
