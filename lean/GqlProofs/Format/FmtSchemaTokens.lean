import GqlProofs.Format.FmtTokens
import GqlProofs.Format.FormattableSchema
import GqlProofs.Format.DescLex
/-
  The formatter of type-system documents (`FormatSchemaDocument`), function by function: the text
  written is a complete sequence of token texts for the tokens of the normalised subtree.
  Hypothesis on the configuration: the indentation string consists of spaces and tabs (inside a
  block-string description any other byte would become part of the description).
-/
namespace Gql.Format
open Gql Gql.Lexer Gql.Grammar Gql.Print

variable {cfg : Cfg}

theorem blankIndent_of_allBlank (h : AllBlank cfg.indent) : BlankIndent cfg := by
  intro b hb
  have := h b hb
  simp [isBlank] at this
  rcases this with rfl | rfl <;> rfl

theorem allIgnored_lf : AllIgnored [10] := by intro b hb; simp at hb; subst hb; rfl

def NoEdgeSpace (s : Bytes) : Prop :=
  (∀ b, s.head? = some b → isAsciiSpace b = false) ∧ (∀ b, s.getLast? = some b → isAsciiSpace b = false)

theorem trimSpace_edges (s : Bytes) (h : NoEdgeSpace s) : trimSpace s = s := by
  have t1 : ∀ x : Bytes, (∀ b, x.head? = some b → isAsciiSpace b = false) → trimLeft x = x := by
    intro x hx
    cases x with
    | nil => rfl
    | cons b t => simp [trimLeft, hx b rfl]
  unfold trimSpace
  rw [t1 s h.1, t1 s.reverse (by intro b hb; rw [List.head?_reverse] at hb; exact h.2 b hb)]
  simp

theorem noEdgeSpace_name {n : Bytes} (h : isNameB n = true) : n ≠ [] ∧ NoEdgeSpace n :=
  ⟨by intro e; subst e; simp [isNameB] at h,
   fun b hb => name_noSpace n h b (List.mem_of_mem_head? hb), fun b hb => name_noSpace n h b (List.mem_of_mem_getLast? hb)⟩

theorem noEdgeSpace_joinNames (sep : Bytes) : ∀ ns : List Name, ns ≠ [] → ns.all isNameB = true →
    joinNames sep ns ≠ [] ∧ NoEdgeSpace (joinNames sep ns)
  | [], h, _ => absurd rfl h
  | [n], _, hn => by simpa [joinNames] using noEdgeSpace_name (by simpa using hn)
  | n :: m :: rest, _, hn => by
    simp only [List.all_cons, Bool.and_eq_true] at hn
    obtain ⟨hne, h1, _⟩ := noEdgeSpace_name hn.1
    obtain ⟨hJ, _, h2⟩ := noEdgeSpace_joinNames sep (m :: rest) (by simp) (by simp [hn.2])
    have e : joinNames sep (n :: m :: rest) = n ++ (sep ++ joinNames sep (m :: rest)) := by simp [joinNames]
    rw [e]
    refine ⟨by simp [hne], ?_, ?_⟩
    · intro b hb
      cases n with
      | nil => exact absurd rfl hne
      | cons x t => exact h1 b (by simpa using hb)
    · intro b hb
      rw [List.getLast?_append, List.getLast?_append] at hb
      cases hl : (joinNames sep (m :: rest)).getLast? with
      | none => exact absurd (List.getLast?_eq_none_iff.1 hl) hJ
      | some y => exact h2 b (by simpa [hl] using hb)

theorem trimSpace_joinNames (sep : Bytes) (ns : List Name) (hn : ns.all isNameB = true) :
    trimSpace (joinNames sep ns) = joinNames sep ns := by
  cases ns with
  | nil => rfl
  | cons n ns => exact trimSpace_edges _ (noEdgeSpace_joinNames sep (n :: ns) (by simp) hn).2

theorem lexTo_joinNames (p : Nat) (k : Kind) (hp : punct p = some k) : ∀ ns : List Name, ns ≠ [] →
    ns.all isNameB = true → LexTo (joinNames [32, p, 32] ns) (printSep k ns) true
  | [], h, _ => absurd rfl h
  | [n], _, hn => by
    simp at hn
    simpa [joinNames, printSep] using (tokText_name n hn).lexTo
  | n :: m :: rest, _, hn => by
    simp only [List.all_cons, Bool.and_eq_true] at hn
    have ih := lexTo_joinNames p k hp (m :: rest) (by simp) (by simp [hn.2])
    have hsep : LexTo [32, p, 32] [tP k] false := by
      have h0 : LexTo [32] [] false := by
        simpa using (LexTo_nil).blank (bl := [32]) (by intro b hb; simp at hb; subst hb; rfl) (by simp)
      have h1 := (h0.append (tokText_punct p k hp).lexTo (StartOK_false _)).blank (bl := [32])
        (by intro b hb; simp at hb; subst hb; rfl) (by simp)
      simpa using h1
    have := ((tokText_name n hn.1).lexTo.append hsep (StartOK_cons _ 32 _ (by decide))).append ih (StartOK_false _)
    simpa [joinNames, printSep, List.append_assoc] using this

theorem descTok_skip {s : Bytes} (h : s = [] ∨ cfg.omitDescription = true) : descTok (normDesc cfg s) = [] := by
  rcases h with h | h <;> simp [descTok, normDesc, h]

theorem defaultOk_mem {dflt : Option Value} (h : defaultOk dflt = true) : ∀ v ∈ dflt, valueOk v = true := by
  intro v hv; rw [Option.mem_def] at hv; subst hv; exact h

/-- what `FormatFieldDefinition` writes for any field: description, name, arguments, type,
    default value, directives (`printFieldDefD` when there is no default value, `printInputFieldD`
    when there are no arguments) -/
def genFieldD (pd : Bytes → List Tok) (f : FieldDef) : List Tok :=
  pd f.desc ++ tName f.name :: printArgDefsD pd f.args ++ tP .colon :: printType f.type ++ printDefault f.default
    ++ printDirectives f.dirs

theorem tokText_kindKeyword (k : DefKind) :
    TokText (kindKeyword k) (DefKind.keyword k) true ∧ trimSpace (kindKeyword k) = kindKeyword k := by
  cases k
  · exact ⟨tokText_kw "scalar" (by decide), by decide⟩
  · exact ⟨tokText_kw "type" (by decide), by decide⟩
  · exact ⟨tokText_kw "interface" (by decide), by decide⟩
  · exact ⟨tokText_kw "union" (by decide), by decide⟩
  · exact ⟨tokText_kw "enum" (by decide), by decide⟩
  · exact ⟨tokText_kw "input" (by decide), by decide⟩

/-- what `FormatDefinition` writes after the keyword, whatever the kind -/
def genDefBody (d : Definition) : List Tok :=
  tName d.name :: printImplements d.interfaces ++ printDirectives d.dirs ++ printMembers d.types
    ++ printBlock (genFieldD descTok) d.fields ++ printBlock (printEnumValD descTok) d.enumValues

theorem printBlock_nil {α : Type} (f : α → List Tok) : printBlock f [] = [] := rfl

theorem normDef_desc (cfg : Cfg) (d : Definition) : (normDef cfg d).desc = normDesc cfg d.desc := rfl

theorem normDef_kind (cfg : Cfg) (d : Definition) : (normDef cfg d).kind = d.kind := rfl

theorem printBlock_fields (cfg : Cfg) (f g : FieldDef → List Tok) (fs : List FieldDef)
    (h : ∀ x ∈ fs, f (normFieldDef cfg x) = g (normFieldDef cfg x)) :
    printBlock f (fs.map (normFieldDef cfg)) = printBlock g (fs.map (normFieldDef cfg)) := by
  unfold printBlock
  split
  · rfl
  · congr 2
    rw [List.flatMap_def, List.flatMap_def, List.map_congr_left (List.forall_mem_map.2 h)]

theorem genDefBody_eq (cfg : Cfg) (d : Definition) (hs : shapeOk d = true) :
    genDefBody (normDef cfg d) = printDefBodyD descTok (normDef cfg d) := by
  obtain ⟨kind, desc, name, dirs, ifs, fields, types, evs, pos, bi⟩ := d
  cases kind <;>
    simp only [shapeOk, Bool.and_eq_true, List.isEmpty_iff, List.all_eq_true, Option.isNone_iff_eq_none] at hs
  · obtain ⟨⟨⟨rfl, rfl⟩, rfl⟩, rfl⟩ := hs
    simp [genDefBody, printDefBodyD, normDef, printImplements, printMembers, printBlock]
  · obtain ⟨⟨rfl, rfl⟩, hf⟩ := hs
    have e := printBlock_fields cfg (genFieldD descTok) (printFieldDefD descTok) fields fun f0 hf0 => by
      simp [genFieldD, printFieldDefD, normFieldDef, hf f0 hf0, printDefault]
    simp [genDefBody, printDefBodyD, normDef, printMembers, printBlock_nil, e]
  · obtain ⟨⟨rfl, rfl⟩, hf⟩ := hs
    have e := printBlock_fields cfg (genFieldD descTok) (printFieldDefD descTok) fields fun f0 hf0 => by
      simp [genFieldD, printFieldDefD, normFieldDef, hf f0 hf0, printDefault]
    simp [genDefBody, printDefBodyD, normDef, printMembers, printBlock_nil, e]
  · obtain ⟨⟨rfl, rfl⟩, rfl⟩ := hs
    simp [genDefBody, printDefBodyD, normDef, printImplements, printBlock]
  · obtain ⟨⟨rfl, rfl⟩, rfl⟩ := hs
    simp [genDefBody, printDefBodyD, normDef, printImplements, printMembers, printBlock]
  · obtain ⟨⟨⟨rfl, rfl⟩, rfl⟩, hf⟩ := hs
    have e := printBlock_fields cfg (genFieldD descTok) (printInputFieldD descTok) fields fun f0 hf0 => by
      simp [genFieldD, printInputFieldD, normFieldDef, hf f0 hf0, printArgDefsD]
    simp [genDefBody, printDefBodyD, normDef, printImplements, printMembers, printBlock_nil, e]

theorem isSchemaDefinitionsEmpty_iff (ds : List SchemaDef) :
    isSchemaDefinitionsEmpty ds = (ds.flatMap (·.opTypes)).isEmpty := by
  induction ds with
  | nil => rfl
  | cons d ds ih =>
    simp only [isSchemaDefinitionsEmpty, List.all_cons, List.flatMap_cons] at ih ⊢
    rw [ih]
    cases d.opTypes <;> simp

theorem strRaw_append {a b : Bytes} (ha : strRaw a = true) (hb : strRaw b = true) : strRaw (a ++ b) = true := by
  obtain ⟨A, hA, rfl⟩ := (Utf8.valid_iff a).1 ha
  obtain ⟨B, hB, rfl⟩ := (Utf8.valid_iff b).1 hb
  refine (Utf8.valid_iff _).2 ⟨A ++ B, ?_, utf8Encode_append A B⟩
  intro c hc
  simp at hc
  rcases hc with hc | hc
  · exact hA c hc
  · exact hB c hc

theorem strRaw_flatMap_desc (ds : List SchemaDef) (h : ∀ d ∈ ds, strRaw d.desc = true) :
    strRaw (ds.flatMap (·.desc)) = true := by
  induction ds with
  | nil => decide
  | cons d ds ih =>
    simp only [List.flatMap_cons]
    exact strRaw_append (h d (by simp)) (ih fun x hx => h x (by simp [hx]))

theorem E_description (hind : AllBlank cfg.indent) (s : Bytes) (hs : strRaw s = true) :
    Emits cfg (writeDescription cfg s) (descTok (normDesc cfg s)) .pad .pad := fun hb w ts h => by
  by_cases hskip : s = [] ∨ cfg.omitDescription = true
  · have e1 : writeDescription cfg s w = w := by
      unfold writeDescription
      rcases hskip with h | h <;> simp [h]
    rw [e1, descTok_skip hskip]; simpa using h
  · simp only [not_or, Bool.not_eq_true] at hskip
    obtain ⟨hne, ho⟩ := hskip
    have hn : normDesc cfg s = s := by simp [normDesc, ho]
    cases hrep : blockStringRepresentable s with
    | true =>
      have h2 := ((I.lead hb h).append (tokText_blockDescription _ s (fun b hmem =>
        hind b (mem_repeatBytes (n := w.indentSize) hmem)) hs hrep).lexTo (StartOK_false _)).blank allIgnored_lf (by simp)
      refine LexTo.weaken ?_
      rw [writeDescription_text cfg s w hne ho hrep, hn]
      simpa [descTok, hne, hrep, List.append_assoc] using h2
    | false =>
      have h2 := ((I.lead hb h).append (tokText_string s hs).lexTo (StartOK_false _)).blank allIgnored_lf (by simp)
      refine LexTo.weaken ?_
      rw [writeDescription_text_quoted cfg s w hne ho hrep, hn]
      simpa [descTok, hne, hrep, quoteString, List.append_assoc] using h2

variable (hind : AllBlank cfg.indent)
include hind

theorem E_argDef (a : ArgDef) (ha : argDefOk a = true) :
    Emits cfg (formatArgumentDefinition cfg a) (printArgDefD descTok (normArgDef cfg a)) .pad .pad := by
  obtain ⟨desc, name, dflt, type, dirs, pos⟩ := a
  simp only [argDefOk, Bool.and_eq_true] at ha
  obtain ⟨⟨⟨⟨hdesc, hname⟩, htype⟩, hdef⟩, hdirs⟩ := ha
  refine ((Emits.ite (!desc.isEmpty && !cfg.omitDescription)
      (fun _ => Emits.newline.seq <| (Emits.incIndent (g := false)).seq (E_description hind desc hdesc)) fun _ => .skip).seq <|
    (E_inputValueCore name type dflt dirs hname htype (defaultOk_mem hdef) hdirs).seq <|
    Emits.ite (!desc.isEmpty && !cfg.omitDescription) (fun _ => Emits.decIndent.seq .newline) fun _ => .skip).cast rfl ?_
  cases hdes : (!desc.isEmpty && !cfg.omitDescription)
  · simp [printArgDefD, normArgDef, descTok_skip (cfg := cfg) (s := desc) (by cases desc <;> simp_all)]
  · simp [printArgDefD, normArgDef]

/-- the loop of `FormatArgumentDefinitionList`: a comma only after an argument without description -/
theorem E_argDefs : ∀ (ds : List ArgDef), ds.all argDefOk = true →
    Emits cfg (formatArgumentDefinitions cfg ds) ((ds.map (normArgDef cfg)).flatMap (printArgDefD descTok)) .pad .pad
  | [], _ => Emits.skip
  | [d], hd => (E_argDef hind d (by simpa using hd)).cast rfl (by simp)
  | d :: e :: rest, hd => by
    simp only [List.all_cons, Bool.and_eq_true] at hd
    exact ((E_argDef hind d hd.1).seq <| (Emits.ite d.desc.isEmpty (fun _ => Emits.noPadding.seq .comma) fun _ => .skip).seq <|
      E_argDefs (e :: rest) (by simp [hd.2])).cast rfl (by simp)

theorem E_argDefList_cons {a c : Mode} (ds : List ArgDef) (hne : ds ≠ []) (hd : ds.all argDefOk = true) :
    Emits cfg (formatArgumentDefinitionList cfg ds) (printArgDefsD descTok (ds.map (normArgDef cfg))) a c := by
  have e : ds.isEmpty = false := by cases ds <;> simp_all
  exact ((Emits.punct 40).seq <| (E_argDefs hind ds hd).seq <| .seq .noPadding <| .seq (.punct 41)
    (.free needPadding)).cast (by funext w; simp [formatArgumentDefinitionList, e]) (by simp [printArgDefsD, e])

theorem E_argDefList (ds : List ArgDef) (hd : ds.all argDefOk = true) (g : Bool) :
    Emits cfg (formatArgumentDefinitionList cfg ds) (printArgDefsD descTok (ds.map (normArgDef cfg)))
      (tightOf g) (tightOf g) := by
  cases ds with
  | nil => exact Emits.skip
  | cons d ds => exact E_argDefList_cons hind (d :: ds) (by simp) hd

theorem E_fieldDef {c : Mode} (f : FieldDef) (hf : fieldDefOk f = true) :
    Emits cfg (formatFieldDefinition cfg f) (genFieldD descTok (normFieldDef cfg f)) .pad c := by
  obtain ⟨desc, name, args, dflt, type, dirs, pos⟩ := f
  simp only [fieldDefOk, Bool.and_eq_true, Bool.not_eq_true'] at hf
  obtain ⟨⟨⟨⟨⟨⟨hdesc, hname⟩, hargs⟩, htype⟩, hdef⟩, hdirs⟩, hsup⟩ := hf
  have hsup' : fieldSuppressed cfg.emitBuiltin name pos = false := by
    simp only [fieldSuppressed, Bool.not_false, Bool.true_and] at hsup
    unfold fieldSuppressed
    rw [Bool.and_assoc, hsup, Bool.and_false]
  exact ((E_description hind desc hdesc).seq <| (Emits.name hname).seq <| .seq .noPadding <|
    (E_argDefList hind args hargs true).seq <| .seq .noPadding <| .seq (.punct 58) <| .seq .needPadding <|
    (E_type type htype).seq <| (E_default dflt (defaultOk_mem hdef)).toGlue.seq <| (E_directiveList dirs hdirs true).seq
    .newline).cast (by funext w; simp only [formatFieldDefinition, hsup', Bool.false_eq_true, if_false]; rfl)
    (by simp [genFieldD, normFieldDef])

theorem E_fieldList (fs : List FieldDef) (hf : fs.all fieldDefOk = true) (g : Bool) :
    Emits cfg (formatFieldList cfg fs) (printBlock (genFieldD descTok) (fs.map (normFieldDef cfg)))
      (tightOf g) (tightOf g) := by
  cases fs with
  | nil => exact Emits.skip
  | cons f fs =>
    exact (Emits.block (Emits.foldl _ (fun f => genFieldD descTok (normFieldDef cfg f)) (f :: fs)
      fun x hx => (E_fieldDef hind x (List.all_eq_true.1 hf x hx)).ofFree)).cast rfl
      (by simp [printBlock, List.flatMap_map])

theorem E_enumVal {c : Mode} (e : EnumValDef) (he : enumValOk e = true) :
    Emits cfg (formatEnumValueDefinition cfg e) (printEnumValD descTok (normEnumVal cfg e)) .pad c := by
  simp only [enumValOk, Bool.and_eq_true] at he
  exact ((E_description hind e.desc he.1.1).seq <| (Emits.name he.1.2).seq <| (E_directiveList e.dirs he.2 false).seq
    .newline).cast rfl (by simp [printEnumValD, normEnumVal])

theorem E_enumValueList (es : List EnumValDef) (he : es.all enumValOk = true) (g : Bool) :
    Emits cfg (formatEnumValueList cfg es) (printBlock (printEnumValD descTok) (es.map (normEnumVal cfg)))
      (tightOf g) (tightOf g) := by
  cases es with
  | nil => exact Emits.skip
  | cons e es =>
    exact (Emits.block (Emits.foldl _ (fun e => printEnumValD descTok (normEnumVal cfg e)) (e :: es)
      fun x hx => (E_enumVal hind x (List.all_eq_true.1 he x hx)).ofFree)).cast rfl
      (by simp [printBlock, List.flatMap_map])

omit hind in
/-- a word and, after it, names joined by a punctuator — written only if there are names:
    `implements A & B`, `= A | B` -/
theorem E_joined (word : Bytes) (wt : Tok) {tg : Bool} (hw : LexTo word [wt] tg) (hwt : trimSpace word = word) (p : Nat)
    (k : Kind) (hp : punct p = some k) (ns : List Name) (hn : ns.all isNameB = true) :
    Emits cfg (fun w => if (!ns.isEmpty) = true then w |> writeWord cfg word |> writeWord cfg (joinNames [32, p, 32] ns) else w)
      (if ns.isEmpty = true then [] else wt :: printSep k ns) .pad .pad :=
  (Emits.ite (!ns.isEmpty) (fun h => (Emits.word hw hwt).seq
      (.word (lexTo_joinNames p k hp ns (by cases ns <;> simp_all) hn) (trimSpace_joinNames _ _ hn)))
    fun _ => .skip).cast rfl (by cases ns <;> simp)

theorem E_definition {c : Mode} (extend : Bool) (d : Definition) (hd : defOk d = true) (hext : extend = true → d.desc = []) :
    Emits cfg (formatDefinition cfg extend d)
      (if keepDef cfg d = true then
          (if extend = true then printExtensionD descTok (normDef cfg d) else printDefinitionD descTok (normDef cfg d))
        else []) .free c := by
  have hd' := hd
  simp only [defOk, Bool.and_eq_true] at hd'
  obtain ⟨⟨⟨⟨⟨⟨⟨hdesc, hname⟩, hdirs⟩, hifs⟩, htys⟩, hfields⟩, henum⟩, hshape⟩ := hd'
  obtain ⟨kw1, kw2⟩ := tokText_kindKeyword d.kind
  have e1 : str " & " = [32, 38, 32] := by decide
  have e2 : str " | " = [32, 124, 32] := by decide
  refine (Emits.ite (!cfg.emitBuiltin && d.builtIn) (fun _ => .free fun w => w) fun _ =>
    ((E_description hind d.desc hdesc).seq <| (Emits.ite extend (fun _ => Emits.kw "extend") fun _ => .skip).seq <|
    (Emits.word kw1.lexTo kw2).seq <| (Emits.name hname).seq <|
    (E_joined (str "implements") (tKw "implements") (tokText_kw "implements" (by decide)).lexTo (by decide) 38 .amp
      (by decide) d.interfaces hifs).seq <| (E_directiveList d.dirs hdirs false).seq <|
    (E_joined [61] (tP .equals) tokText_equals.lexTo (by decide) 124 .pipe (by decide) d.types htys).seq <|
    (E_fieldList hind d.fields hfields false).seq <| (E_enumValueList hind d.enumValues henum false).seq .newline).ofFree).cast
    (by funext w; simp only [formatDefinition, e1, e2]) ?_
  have hbody := genDefBody_eq cfg d hshape
  have hk : (!cfg.emitBuiltin && d.builtIn) = !keepDef cfg d := by simp [keepDef]
  cases hk0 : keepDef cfg d
  · simp [hk, hk0]
  · cases extend
    · simp only [printDefinitionD, ← hbody]
      simp [hk, hk0, genDefBody, normDef, printImplements, printMembers]
    · simp only [printExtensionD, ← hbody]
      simp [hk, hk0, descTok_skip (cfg := cfg) (Or.inl (hext rfl)), genDefBody, normDef, printImplements, printMembers]

omit hind in
/-- the loop of the locations: `A | B | C` -/
theorem E_locations : ∀ (ls : List Bytes), ls ≠ [] → ls.all isNameB = true →
    Emits cfg (formatLocations cfg ls) (printSep .pipe ls) .pad .pad
  | [], h, _ => absurd rfl h
  | [l], _, hl => Emits.name (by simpa using hl)
  | l :: m :: rest, _, hl => by
    simp only [List.all_cons, Bool.and_eq_true] at hl
    exact (Emits.name hl.1).seq <| (Emits.punctW 124).seq (E_locations (m :: rest) (by simp) (by simp [hl.2]))

theorem E_directiveDef {c : Mode} (d : DirectiveDef) (hd : dirDefOk d = true) :
    Emits cfg (formatDirectiveDefinition cfg srcZeroBuiltIn d)
      (if keepDirectiveDef cfg d = true then printDirectiveDefD descTok (normDirectiveDef cfg d) else []) .free c := by
  obtain ⟨desc, name, args, locs, rep, pos⟩ := d
  simp only [dirDefOk, Bool.and_eq_true, Bool.not_eq_true', List.isEmpty_eq_false_iff] at hd
  obtain ⟨⟨⟨⟨hdesc, hname⟩, hargs⟩, hlne⟩, hlocs⟩ := hd
  have hle : locs.isEmpty = false := List.isEmpty_eq_false_iff.2 hlne
  refine (Emits.ite (!cfg.emitBuiltin && srcZeroBuiltIn pos.src) (fun _ => .free fun w => w)
    fun _ => ((E_description hind desc hdesc).seq <| (Emits.kw "directive").seq <| (Emits.punct 64).seq <|
    (Emits.name hname).seq <|
    (Emits.ite (!args.isEmpty) (fun h => Emits.noPadding.seq (E_argDefList_cons hind args (by simpa using h) hargs))
      fun _ => .skip).seq <|
    (Emits.ite rep (fun _ => Emits.kw "repeatable") fun _ => .skip).seq <|
    (Emits.ite (!locs.isEmpty) (fun _ => (Emits.kw "on").seq (E_locations locs hlne hlocs)) fun _ => .skip).seq
    .newline).ofFree).cast rfl ?_
  cases hk : keepDirectiveDef cfg ⟨desc, name, args, locs, rep, pos⟩ <;> simp only [keepDirectiveDef, Bool.or_eq_true,
    Bool.or_eq_false_iff, Bool.not_eq_true', Bool.not_eq_false'] at hk
  · simp [hk.1, hk.2]
  · have hk' : (!cfg.emitBuiltin && srcZeroBuiltIn pos.src) = false := by rcases hk with hk | hk <;> simp [hk]
    cases rep <;> cases hae : args.isEmpty <;> simp [hk', hle, hae, printDirectiveDefD, normDirectiveDef, printArgDefsD]

omit hind in
theorem E_opType {c : Mode} (o : OpTypeDef) (ho : opTypeOk o = true) :
    Emits cfg (formatOperationTypeDefinition cfg o) (printOpType o) .pad c := by
  simp only [opTypeOk, Bool.and_eq_true] at ho
  exact (E_nameColon o.op ho.1).seq <| (Emits.name ho.2).seq .newline

theorem E_schemaDefList {c : Mode} (ext : Bool) (ds : List SchemaDef) (hdesc : strRaw (ds.flatMap (·.desc)) = true)
    (hdirs : ∀ d ∈ ds, d.dirs.all dirOk = true) (hops : ∀ d ∈ ds, d.opTypes.all opTypeOk = true) :
    Emits cfg (formatSchemaDefinitionList cfg ext ds)
      (if ds.isEmpty = true then [] else
        descTok (normDesc cfg (ds.flatMap (·.desc))) ++ (if ext = true then [tKw "extend"] else []) ++ tKw "schema" ::
        ds.flatMap (fun d => printDirectives (d.dirs.map normDir)) ++
        if (!ext || !isSchemaDefinitionsEmpty ds) = true then
          tP .braceL :: ds.flatMap (fun d => d.opTypes.flatMap printOpType) ++ [tP .braceR] else []) .free c :=
  (Emits.ite ds.isEmpty (fun _ => .free fun w => w) fun _ =>
    ((E_description hind _ hdesc).seq <| (Emits.ite ext (fun _ => Emits.kw "extend") fun _ => .skip).seq <|
    (Emits.kw "schema").seq <| (Emits.incIndent (g := false)).seq <|
    (Emits.foldl _ _ ds fun d hd => E_directiveList d.dirs (hdirs d hd) false).seq <| Emits.decIndent.seq <|
    (Emits.ite (!ext || !isSchemaDefinitionsEmpty ds)
      (fun _ => Emits.block (Emits.foldl _ _ ds fun d hd => Emits.foldl _ _ d.opTypes fun o ho =>
        (E_opType o (List.all_eq_true.1 (hops d hd) o ho)).ofFree)) fun _ => Emits.skip.toGlue).seq .newline).ofFree).cast
    rfl (by split <;> simp)

theorem E_schemaDefs {c : Mode} (ds : List SchemaDef) (hd : ds.all schemaDefOk = true) :
    Emits cfg (formatSchemaDefinitionList cfg false ds) ((mergeSchemaDefs cfg ds).map (printSchemaDefD descTok)).flatten
      .free c := by
  have hall : ∀ d ∈ ds, (strRaw d.desc = true ∧ d.dirs.all dirOk = true) ∧ d.opTypes.all opTypeOk = true := by
    simpa only [schemaDefOk, Bool.and_eq_true, List.all_eq_true (l := ds)] using hd
  exact (E_schemaDefList hind false ds (strRaw_flatMap_desc ds fun d h => (hall d h).1.1) (fun d h => (hall d h).1.2)
    fun d h => (hall d h).2).cast rfl
    (by cases ds <;> simp [mergeSchemaDefs, printSchemaDefD, printDirectives, List.flatMap_map, List.flatMap_assoc])

theorem E_schemaExts {c : Mode} (ds : List SchemaDef) (hd : ds.all schemaExtOk = true) :
    Emits cfg (formatSchemaDefinitionList cfg true ds) ((mergeSchemaDefs cfg ds).map printSchemaExt).flatten .free c := by
  have hall : ∀ d ∈ ds, (d.desc = [] ∧ d.dirs.all dirOk = true) ∧ d.opTypes.all opTypeOk = true := by
    simpa only [schemaExtOk, Bool.and_eq_true, List.isEmpty_iff, List.all_eq_true (l := ds)] using hd
  have hdesc0 : ds.flatMap (·.desc) = [] := List.flatMap_eq_nil_iff.2 fun d h => (hall d h).1.1
  exact (E_schemaDefList hind true ds (by rw [hdesc0]; decide) (fun d h => (hall d h).1.2) fun d h => (hall d h).2).cast rfl
    (by cases he : (ds.flatMap (·.opTypes)).isEmpty <;> cases ds <;>
      simp_all [mergeSchemaDefs, printSchemaExt, printDirectives, printBlock, List.flatMap_map, List.flatMap_assoc,
        isSchemaDefinitionsEmpty_iff, descTok_skip])

theorem E_schemaDocument (d : SchemaDoc) (hd : FormattableSchema d) :
    Emits cfg (fun w => formatSchemaDocument cfg d w) (printSchemaLongD descTok (normSchemaDoc cfg d)) .free .free := by
  unfold FormattableSchema schemaDocOk at hd
  simp only [Bool.and_eq_true, List.all_eq_true] at hd
  obtain ⟨⟨⟨⟨h1, h2⟩, h3⟩, h4⟩, h5⟩ := hd
  exact ((E_schemaDefs hind d.schema (List.all_eq_true.2 h1)).seq <| (E_schemaExts hind d.schemaExt (List.all_eq_true.2 h2)).seq <|
    (Emits.foldl _ _ d.directives fun x hx => E_directiveDef hind x (h3 x hx)).seq <|
    (Emits.foldl _ _ d.definitions fun x hx => E_definition hind false x (h4 x hx) (by simp)).seq <|
    Emits.foldl _ _ d.extensions fun x hx => by
      have := h5 x hx
      simp only [extOk, Bool.and_eq_true, List.isEmpty_iff] at this
      exact E_definition hind true x this.1 fun _ => this.2).cast rfl
    (by simp [printSchemaLongD, normSchemaDoc, flatMap_ite_nil, List.map_map, Function.comp_def])

end Gql.Format
