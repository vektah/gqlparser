import GqlProofs.Format.Formattable
import GqlProofs.Parser.FwdQuery
import GqlProofs.Format.PrintLong
/-
  `normFmt` (block-string values become string values) keeps the side conditions of the
  parse ∘ print theorem of C05: grammar well-formedness (`WFOperation`, `WFFragment`) and the
  canonical unprinted parts (`OpOK`, `FragOK`).
-/
namespace Gql.Format
open Gql Gql.Lexer Gql.Print Gql.Parser

theorem normKind_ne_variable {k : ValueKind} (h : k ≠ .variable) : normKind k ≠ .variable := by
  cases k <;> simp_all [normKind]

mutual
  theorem ConstValue_norm : ∀ v : Value, ConstValue v → ConstValue (normValue v)
    | .mk k raw ch p, h => by
      simp only [ConstValue, normValue] at h ⊢
      exact ⟨normKind_ne_variable h.1, ConstChildren_norm ch h.2⟩
  theorem ConstChildren_norm : ∀ ch : Children, ConstChildren ch → ConstChildren (normChildren ch)
    | .nil, _ => by simp [normChildren, ConstChildren]
    | .cons n v p rest, h => by
      simp only [ConstChildren, normChildren] at h ⊢
      exact ⟨ConstValue_norm v h.1, ConstChildren_norm rest h.2⟩
end

theorem ConstDirectives_norm (ds : List Directive) (h : ConstDirectives ds) : ConstDirectives (ds.map normDir) :=
  List.forall_mem_map.2 fun d hd => List.forall_mem_map.2 fun a ha => ConstValue_norm _ (h d hd a ha)

mutual
  theorem WFSelection_norm : ∀ s : Selection, WFSelection s → WFSelection (normSel s)
    | .field al nm args ds sel p, h => by
      simp only [WFSelection, normSel] at h ⊢
      exact WFSelections_norm sel h
    | .spread nm ds p, h => by simpa [WFSelection, normSel] using h
    | .inline tc ds sel p, h => by
      simp only [WFSelection, normSel] at h ⊢
      refine ⟨?_, WFSelections_norm sel h.2⟩
      cases sel with
      | nil => exact absurd rfl h.1
      | cons s rest => simp [normSels]
  theorem WFSelections_norm : ∀ sels : Selections, WFSelections sels → WFSelections (normSels sels)
    | .nil, _ => by simp [normSels, WFSelections]
    | .cons s rest, h => by
      simp only [WFSelections, normSels] at h ⊢
      exact ⟨WFSelection_norm s h.1, WFSelections_norm rest h.2⟩
end

theorem normSels_ne_nil {sel : Selections} (h : sel ≠ .nil) : normSels sel ≠ .nil := by
  cases sel with
  | nil => exact absurd rfl h
  | cons s rest => simp [normSels]

theorem WFVarDef_norm (v : VarDef) (h : WFVarDef v) : WFVarDef (normVarDef v) := by
  obtain ⟨var, type, dflt, dirs, pos⟩ := v
  refine ⟨?_, ConstDirectives_norm _ h.2⟩
  intro d hd
  cases dflt with
  | none => simp [normVarDef] at hd
  | some v0 =>
    simp [normVarDef] at hd
    subst hd
    exact ConstValue_norm v0 (h.1 v0 rfl)

theorem WFOperation_norm (o : OperationDef) (h : WFOperation o) : WFOperation (normOp o) := by
  obtain ⟨h1, h2, h3, h4⟩ := h
  exact ⟨h1, List.forall_mem_map.2 fun v hv => WFVarDef_norm v (h2 v hv), normSels_ne_nil h3, WFSelections_norm _ h4⟩

theorem WFFragment_norm (f : FragmentDef) (h : WFFragment f) : WFFragment (normFrag f) := by
  obtain ⟨h1, h2, h3, h4⟩ := h
  exact ⟨h1, List.forall_mem_map.2 fun v hv => WFVarDef_norm v (h2 v hv), normSels_ne_nil h3, WFSelections_norm _ h4⟩

mutual
  theorem ValueOK_norm : ∀ v : Value, ValueOK v → ValueOK (normValue v)
    | .mk k raw ch p, h => by
      cases k <;> simp only [ValueOK, normValue, normKind] at h ⊢
      all_goals first
        | (subst h; rfl)
        | (obtain ⟨h1, h2⟩ := h; subst h1; exact ⟨rfl, h2⟩)
        | exact ⟨h.1, ItemsOK_norm ch h.2⟩
        | exact ⟨h.1, FieldsOK_norm ch h.2⟩
  theorem ItemsOK_norm : ∀ ch : Children, ItemsOK ch → ItemsOK (normChildren ch)
    | .nil, _ => by simp [normChildren, ItemsOK]
    | .cons n v p rest, h => by
      simp only [ItemsOK, normChildren] at h ⊢
      exact ⟨h.1, ValueOK_norm v h.2.1, ItemsOK_norm rest h.2.2⟩
  theorem FieldsOK_norm : ∀ ch : Children, FieldsOK ch → FieldsOK (normChildren ch)
    | .nil, _ => by simp [normChildren, FieldsOK]
    | .cons n v p rest, h => by
      simp only [FieldsOK, normChildren] at h ⊢
      exact ⟨ValueOK_norm v h.1, FieldsOK_norm rest h.2⟩
end

theorem ArgsOK_norm (as : List Argument) (h : ArgsOK as) : ArgsOK (as.map normArg) :=
  List.forall_mem_map.2 fun a ha => ValueOK_norm _ (h a ha)

theorem DirsOK_norm (ds : List Directive) (h : DirsOK ds) : DirsOK (ds.map normDir) :=
  List.forall_mem_map.2 fun d hd => ArgsOK_norm _ (h d hd)

mutual
  theorem SelOK_norm : ∀ s : Selection, SelOK s → SelOK (normSel s)
    | .field al nm args ds sel p, h => by
      simp only [SelOK, normSel] at h ⊢
      exact ⟨ArgsOK_norm _ h.1, DirsOK_norm _ h.2.1, SelsOK_norm sel h.2.2⟩
    | .spread nm ds p, h => by
      simp only [SelOK, normSel] at h ⊢
      exact DirsOK_norm _ h
    | .inline tc ds sel p, h => by
      simp only [SelOK, normSel] at h ⊢
      exact ⟨DirsOK_norm _ h.1, SelsOK_norm sel h.2⟩
  theorem SelsOK_norm : ∀ sels : Selections, SelsOK sels → SelsOK (normSels sels)
    | .nil, _ => by simp [normSels, SelsOK]
    | .cons s rest, h => by
      simp only [SelsOK, normSels] at h ⊢
      exact ⟨SelOK_norm s h.1, SelsOK_norm rest h.2⟩
end

theorem VarDefOK_norm (v : VarDef) (h : VarDefOK v) : VarDefOK (normVarDef v) := by
  obtain ⟨var, type, dflt, dirs, pos⟩ := v
  refine ⟨?_, DirsOK_norm _ h.2⟩
  intro d hd
  cases dflt with
  | none => simp [normVarDef] at hd
  | some v0 =>
    simp [normVarDef] at hd
    subst hd
    exact ValueOK_norm v0 (h.1 v0 rfl)

theorem OpOK_norm (o : OperationDef) (h : OpOK o) : OpOK (normOp o) := by
  obtain ⟨h1, h2, h3⟩ := h
  exact ⟨List.forall_mem_map.2 fun v hv => VarDefOK_norm v (h1 v hv), DirsOK_norm _ h2, SelsOK_norm _ h3⟩

theorem FragOK_norm (f : FragmentDef) (h : FragOK f) : FragOK (normFrag f) := by
  obtain ⟨h1, h2, h3⟩ := h
  exact ⟨List.forall_mem_map.2 fun v hv => VarDefOK_norm v (h1 v hv), DirsOK_norm _ h2, SelsOK_norm _ h3⟩

/-- the long form of the formatter and the long form of the parse ∘ print theorem are the same list -/
theorem printOperationLong_eq_opLong (o : OperationDef) : printOperationLong o = opLong o := by
  simp [printOperationLong, opLong, List.append_assoc]

end Gql.Format
