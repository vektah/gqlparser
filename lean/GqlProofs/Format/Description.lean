import GqlModel.Format.Model
import GqlProofs.Lexer.Lines
/-
  `WriteDescription` renders a description as a block string.  This file proves what text is
  written (`writeDescription_text`) and for which descriptions `blockStringValue` of that text
  is the description again (`blockStringValue_descBody`).
-/
namespace Gql.Format
open Gql Gql.Lexer

/-- the text between the opening and the closing `"""` written by `writeDescription` when the
    current indentation string is `ind` -/
def descBody (ind d : Bytes) : Bytes :=
  10 :: (splitLines d).flatMap (fun l => ind ++ l ++ [10]) ++ ind

/-- the class of descriptions the block-string rendering can represent -/
def BlockRepresentable (d : Bytes) : Prop :=
  (∃ l ls, splitLines d = l :: ls ∧ leadingWs l ≠ none) ∧          -- first line not blank
  (∃ l ls, (splitLines d).reverse = l :: ls ∧ leadingWs l ≠ none) ∧ -- last line not blank
  commonIndent (splitLines d) = some 0                              -- some non-blank line is not indented

instance (d : Bytes) : Decidable (BlockRepresentable d) := by
  unfold BlockRepresentable
  have : ∀ xs : List Bytes, Decidable (∃ l ls, xs = l :: ls ∧ leadingWs l ≠ none) := by
    intro xs
    cases xs with
    | nil => exact isFalse (by simp)
    | cons l ls =>
      by_cases h : leadingWs l = none
      · exact isFalse (by simp [h])
      · exact isTrue ⟨l, ls, rfl, h⟩
  exact inferInstance

@[simp] theorem W.text_raw (w : W) (s : Bytes) : (w.raw s).text = w.text ++ s := by
  simp [W.raw, W.text]

/-- what `writeStr` / `writeWord` put in front of their argument -/
def lead (cfg : Cfg) (w : W) : Bytes :=
  if w.lineHead then repeatBytes cfg.indent w.indentSize else if w.padNext then [32] else []

theorem writeStr_text (cfg : Cfg) (s : Bytes) (w : W) :
    (writeStr cfg s w).text = w.text ++ lead cfg w ++ s := by
  obtain ⟨ch, n, p, lh⟩ := w
  cases p <;> cases lh <;> simp [writeStr, lead, writeIndent, W.raw, W.text]

theorem writeStr_state (cfg : Cfg) (s : Bytes) (w : W) :
    (writeStr cfg s w).lineHead = false ∧ (writeStr cfg s w).padNext = false ∧
    (writeStr cfg s w).indentSize = w.indentSize := by
  obtain ⟨ch, n, p, lh⟩ := w
  cases p <;> cases lh <;> simp [writeStr, writeIndent, W.raw]

theorem writeNewline_text (w : W) : (writeNewline w).text = w.text ++ [10] := by
  simp [writeNewline, W.text, W.raw]

theorem writeNewline_state (w : W) :
    (writeNewline w).lineHead = true ∧ (writeNewline w).padNext = false ∧
    (writeNewline w).indentSize = w.indentSize := by
  simp [writeNewline, W.raw]

theorem descLine (cfg : Cfg) (l : Bytes) (w : W) :
    (writeNewline (writeStr cfg l w)).text = w.text ++ lead cfg w ++ l ++ [10] ∧
    (writeNewline (writeStr cfg l w)).lineHead = true ∧
    (writeNewline (writeStr cfg l w)).indentSize = w.indentSize :=
  ⟨by rw [writeNewline_text, writeStr_text], (writeNewline_state _).1,
    by rw [(writeNewline_state _).2.2, (writeStr_state cfg l w).2.2]⟩

theorem descLines (cfg : Cfg) (ls : List Bytes) (w : W) (h : w.lineHead = true) :
    let w' := ls.foldl (fun w l => writeNewline (writeStr cfg l w)) w
    w'.text = w.text ++ ls.flatMap (fun l => repeatBytes cfg.indent w.indentSize ++ l ++ [10]) ∧
    w'.lineHead = true ∧ w'.indentSize = w.indentSize := by
  induction ls generalizing w with
  | nil => simp [h]
  | cons l ls ih =>
    obtain ⟨a, b, c⟩ := descLine cfg l w
    have := ih (writeNewline (writeStr cfg l w)) b
    simp only [List.foldl_cons, List.flatMap_cons]
    refine ⟨?_, this.2.1, by rw [this.2.2, c]⟩
    rw [this.1, a, c]; simp [lead, h]

theorem writeDescription_text (cfg : Cfg) (d : Bytes) (w : W) (hd : d ≠ []) (ho : cfg.omitDescription = false)
    (hrep : blockStringRepresentable d = true) :
    (writeDescription cfg d w).text =
      w.text ++ lead cfg w ++ tripleQuote ++ descBody (repeatBytes cfg.indent w.indentSize) (escapeTriple d)
        ++ tripleQuote ++ [10] := by
  have hd' : d.isEmpty = false := by cases d <;> simp at hd ⊢
  unfold writeDescription
  simp only [hd', ho, hrep, Bool.or_false, Bool.false_eq_true, if_false, Bool.not_true]
  obtain ⟨s, t, i⟩ := descLine cfg tripleQuote w
  obtain ⟨L1, L2, L3⟩ := descLines cfg (splitLines (escapeTriple d)) _ t
  rw [(descLine cfg tripleQuote _).1, L1, s]
  simp [lead, L2, L3, i, descBody]

theorem writeDescription_text_quoted (cfg : Cfg) (d : Bytes) (w : W) (hd : d ≠ []) (ho : cfg.omitDescription = false)
    (hrep : blockStringRepresentable d = false) :
    (writeDescription cfg d w).text = w.text ++ lead cfg w ++ gqlQuote d ++ [10] := by
  have hd' : d.isEmpty = false := by cases d <;> simp at hd ⊢
  unfold writeDescription
  simp only [hd', ho, hrep, Bool.or_false, Bool.false_eq_true, if_false, Bool.not_false, if_true]
  rw [writeNewline_text, writeStr_text]
  rfl

theorem splitLines_no_nl (d : Bytes) : ∀ l ∈ splitLines d, 10 ∉ l := by
  induction d with
  | nil => simp [splitLines]
  | cons b tl ih =>
    by_cases hb : b = 10
    · subst hb
      simpa [splitLines_cons_nl] using ih
    · obtain ⟨l0, ls, hs⟩ := splitLines_eq_cons tl
      rw [hs, List.forall_mem_cons] at ih
      rw [splitLines_cons_ne hb hs, List.forall_mem_cons]
      exact ⟨by simpa [Ne.symm hb] using ih.1, ih.2⟩

theorem joinLines_splitLines (d : Bytes) : joinLines (splitLines d) = d := by
  induction d with
  | nil => simp [splitLines, joinLines]
  | cons b tl ih =>
    obtain ⟨l, ls, hs⟩ := splitLines_eq_cons tl
    rw [hs] at ih
    by_cases hb : b = 10
    · subst hb
      rw [splitLines_cons_nl, hs]; simp [joinLines, ih]
    · rw [splitLines_cons_ne hb hs]
      cases ls with
      | nil => simp [joinLines] at ih ⊢; exact ih
      | cons l2 ls2 => simp [joinLines] at ih ⊢; exact ih

def AllBlank (ind : Bytes) : Prop := ∀ b ∈ ind, isBlank b = true

theorem allBlank_no_nl {ind : Bytes} (h : AllBlank ind) : 10 ∉ ind := by
  intro e; have := h 10 e; simp [isBlank] at this

theorem leadingWs_blank_append {ind : Bytes} (h : AllBlank ind) (l : Bytes) :
    leadingWs (ind ++ l) = (leadingWs l).map (· + ind.length) := by
  induction ind with
  | nil => simp
  | cons b tl ih =>
    have hb := h b (by simp)
    have ht : AllBlank tl := fun x hx => h x (by simp [hx])
    simp only [List.cons_append, leadingWs, hb, if_true, ih ht, List.length_cons, Option.map_map]
    congr 1

theorem leadingWs_blank {ind : Bytes} (h : AllBlank ind) : leadingWs ind = none := by
  have := leadingWs_blank_append h []
  simpa [leadingWs] using this

theorem splitLines_body (ind : Bytes) (hi : AllBlank ind) (ls : List Bytes) (hl : ∀ l ∈ ls, 10 ∉ l) :
    splitLines (ls.flatMap (fun l => ind ++ l ++ [10]) ++ ind) = ls.map (ind ++ ·) ++ [ind] := by
  induction ls with
  | nil => simpa using splitLines_append_prefix ind (allBlank_no_nl hi) (X := []) rfl
  | cons l ls ih =>
    have h1 : 10 ∉ ind ++ l := by
      intro e; simp at e; rcases e with e | e
      · exact allBlank_no_nl hi e
      · exact hl l (by simp) e
    have := splitLines_append_prefix (ind ++ l) h1
      (splitLines_cons_nl (ls.flatMap (fun l => ind ++ l ++ [10]) ++ ind))
    simp only [List.flatMap_cons, List.map_cons, List.cons_append, List.append_assoc, List.nil_append,
      List.append_nil] at this ⊢
    have ih' := ih (fun x hx => hl x (by simp [hx]))
    simp only [List.append_assoc] at ih'
    rw [this, ih']

theorem commonIndent_map {ind : Bytes} (hi : AllBlank ind) (ls : List Bytes) :
    commonIndent (ls.map (ind ++ ·)) = (commonIndent ls).map (· + ind.length) := by
  induction ls with
  | nil => simp [commonIndent]
  | cons l ls ih =>
    simp only [List.map_cons, commonIndent, leadingWs_blank_append hi, ih]
    cases leadingWs l <;> cases commonIndent ls <;> simp

theorem commonIndent_append_blank (ls : List Bytes) (x : Bytes) (hx : leadingWs x = none) :
    commonIndent (ls ++ [x]) = commonIndent ls := by
  induction ls with
  | nil => simp [commonIndent, hx]
  | cons l ls ih => simp only [List.cons_append, commonIndent, ih]

theorem dropBlankFront_of_head (l : Bytes) (ls : List Bytes) (h : leadingWs l ≠ none) :
    dropBlankFront (l :: ls) = l :: ls := by
  simp [dropBlankFront, h]

theorem blockStringValue_descBody (ind d : Bytes) (hi : AllBlank ind) (hd : BlockRepresentable d) :
    blockStringValue (descBody ind d) = d := by
  obtain ⟨⟨l0, ls0, hfirst, hl0⟩, ⟨ll, lls, hlast, hll⟩, hci⟩ := hd
  have hlines : splitLines (descBody ind d) = [] :: ((splitLines d).map (ind ++ ·) ++ [ind]) := by
    unfold descBody
    rw [List.cons_append, splitLines_cons_nl, splitLines_body ind hi _ (splitLines_no_nl d)]
  have hci' : commonIndent ((splitLines d).map (ind ++ ·) ++ [ind]) = some ind.length := by
    rw [commonIndent_append_blank _ _ (leadingWs_blank hi), commonIndent_map hi, hci]
    simp
  have hstrip : ((splitLines d).map (ind ++ ·) ++ [ind]).map (stripIndent ind.length) = splitLines d ++ [[]] := by
    simp [stripIndent, List.map_map, Function.comp_def]
  unfold blockStringValue
  simp only [hlines, hci', hstrip]
  -- drop the blank first line and the blank last line
  have hf : dropBlankFront ([] :: (splitLines d ++ [[]])) = splitLines d ++ [[]] := by
    rw [hfirst]
    simp only [dropBlankFront, leadingWs, if_true, List.cons_append]
    exact dropBlankFront_of_head _ _ hl0
  rw [hf]
  have hb : dropBlankBack (splitLines d ++ [[]]) = splitLines d := by
    unfold dropBlankBack
    rw [List.reverse_append, hlast]
    simp only [List.reverse_cons, List.reverse_nil, List.nil_append, List.cons_append, dropBlankFront,
      leadingWs, if_true]
    simp only [hll, if_false]
    rw [← hlast, List.reverse_reverse]
  rw [hb, joinLines_splitLines]

end Gql.Format
