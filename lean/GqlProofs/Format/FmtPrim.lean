import GqlProofs.Format.Formattable
import GqlProofs.Format.Writer
/-
  Values, types and the writer primitives, token by token.

  `I g w ts`: the text written so far (`w.text`) is a complete sequence of token texts for `ts`,
  and it is safe to continue in writer state `w`: if the text ends `tight` (in a Name, number or
  String with nothing after it) then either the pad flag guarantees a space before the next write
  (`padNext ∧ ¬lineHead`) or — `g = true`, "glue mode" — the caller promises that the next write
  starts with a separator / punctuator.
-/
namespace Gql.Format
open Gql Gql.Lexer Gql.Grammar Gql.Print

theorem allIgnored_comma : AllIgnored [44] := by intro b hb; simp at hb; subst hb; rfl

theorem lexTo_comma : LexTo [44] [] false := by
  simpa using (LexTo_nil).blank allIgnored_comma (by simp)

theorem lexTo_sep (first : Bool) : LexTo (if first then [] else [44]) [] false := by
  cases first
  · exact lexTo_comma
  · exact LexTo_nil

theorem startOK_items (rest : Children) (g : Bool) : StartOK g (renderListItems false rest ++ [93]) := by
  cases rest with
  | nil => exact StartOK_cons _ _ _ (by decide)
  | cons n v p r => simp only [renderListItems]; exact StartOK_cons _ 44 _ (by decide)

theorem startOK_fields (rest : Children) (g : Bool) : StartOK g (renderObjFields false rest ++ [125]) := by
  cases rest with
  | nil => exact StartOK_cons _ _ _ (by decide)
  | cons n v p r => simp only [renderObjFields]; exact StartOK_cons _ 44 _ (by decide)

mutual
  /-- `Value.String()` lexes to the tokens of the value (block strings come back as strings) -/
  theorem lexTo_value : ∀ v : Value, valueOk v = true → LexTo (renderValue v) (printValue (normValue v)) true
    | .mk k raw ch p, h => by
      cases k with
      | «variable» =>
        simp only [valueOk] at h
        exact tokText_dollar.lexTo.append (tokText_name raw h).lexTo (StartOK_false _)
      | int =>
        simp only [valueOk] at h
        exact (tokText_number .int raw (Or.inl rfl) h).lexTo
      | float =>
        simp only [valueOk] at h
        exact (tokText_number .float raw (Or.inr rfl) h).lexTo
      | string => exact (tokText_string_bytes raw).lexTo
      | block => exact (tokText_string_bytes raw).lexTo
      | boolean =>
        simp only [valueOk] at h
        exact (tokText_name raw h).lexTo
      | null =>
        simp only [valueOk] at h
        exact (tokText_name raw h).lexTo
      | «enum» =>
        simp only [valueOk] at h
        exact (tokText_name raw h).lexTo
      | list =>
        simp only [valueOk] at h
        have := tokText_bracketL.lexTo.append (lexTo_items ch h true) (StartOK_false _)
        simpa [renderValue, normValue, normKind, printValue] using this.toTight
      | object =>
        simp only [valueOk] at h
        have := tokText_braceL.lexTo.append (lexTo_fields ch h true) (StartOK_false _)
        simpa [renderValue, normValue, normKind, printValue] using this.toTight
  theorem lexTo_items : ∀ ch : Children, itemsOk ch = true → ∀ first : Bool,
      LexTo (renderListItems first ch ++ [93]) (printItems (normChildren ch) ++ [tP .bracketR]) false
    | .nil, _, first => by
      simpa [renderListItems, normChildren, printItems] using tokText_bracketR.lexTo
    | .cons n v p rest, h, first => by
      simp only [itemsOk, Bool.and_eq_true] at h
      have hv := lexTo_value v h.1
      have hr := lexTo_items rest h.2 false
      have := ((lexTo_sep first).append hv (StartOK_false _)).append hr (startOK_items rest true)
      simpa [renderListItems, normChildren, printItems, List.append_assoc] using this
  theorem lexTo_fields : ∀ ch : Children, fieldsOk ch = true → ∀ first : Bool,
      LexTo (renderObjFields first ch ++ [125]) (printObjFields (normChildren ch) ++ [tP .braceR]) false
    | .nil, _, first => by
      simpa [renderObjFields, normChildren, printObjFields] using tokText_braceR.lexTo
    | .cons n v p rest, h, first => by
      simp only [fieldsOk, Bool.and_eq_true] at h
      have hn := (tokText_name n h.1.1).lexTo
      have hv := lexTo_value v h.1.2
      have hr := lexTo_fields rest h.2 false
      have := ((((lexTo_sep first).append hn (StartOK_false _)).append tokText_colon.lexTo
        (StartOK_cons _ _ _ (by decide))).append hv (StartOK_false _)).append hr (startOK_fields rest true)
      simpa [renderObjFields, normChildren, printObjFields, List.append_assoc] using this
end

theorem lexTo_bangIf (nn : Bool) : LexTo (if nn then [33] else []) (bangIf nn) false := by
  cases nn
  · exact LexTo_nil
  · exact tokText_bang.lexTo

theorem startOK_bangIf (nn g : Bool) (post : Bytes) (b : Nat) (h : sepByte b = true) :
    StartOK g ((if nn then [33] else []) ++ b :: post) := by
  cases nn
  · exact StartOK_cons _ _ _ h
  · exact StartOK_cons _ 33 _ (by decide)

/-- `Type.String()` lexes to the tokens of the type; it ends in `!`, `]` or a Name -/
theorem lexTo_type : ∀ t : GType, typeOk t = true → LexTo t.render (printType t) true
  | .named n nn p, h => by
    simp only [typeOk] at h
    cases nn with
    | false => simpa [GType.render, printType, bangIf] using (tokText_name n h).lexTo
    | true =>
      have := (tokText_name n h).lexTo.append tokText_bang.lexTo (StartOK_cons _ _ _ (by decide))
      simpa [GType.render, printType, bangIf] using this.toTight
  | .list e nn p, h => by
    simp only [typeOk] at h
    have he := lexTo_type e h
    have h1 := (tokText_bracketL.lexTo.append he (StartOK_false _)).append tokText_bracketR.lexTo
      (StartOK_cons _ _ _ (by decide))
    have := h1.append (lexTo_bangIf nn) (StartOK_false _)
    simpa [GType.render, printType, List.append_assoc] using this.toTight

theorem trimLeft_id (s : Bytes) (h : ∀ b ∈ s, isAsciiSpace b = false) : trimLeft s = s := by
  cases s with
  | nil => rfl
  | cons b t => simp [trimLeft, h b (by simp)]

theorem trimSpace_id (s : Bytes) (h : ∀ b ∈ s, isAsciiSpace b = false) : trimSpace s = s := by
  unfold trimSpace
  rw [trimLeft_id s h, trimLeft_id s.reverse (by intro b hb; exact h b (by simpa using hb))]
  simp

theorem isNameCont_noSpace {b : Nat} (h : isNameCont b = true) : isAsciiSpace b = false := by
  have hb : (65 ≤ b ∧ b ≤ 90) ∨ (97 ≤ b ∧ b ≤ 122) ∨ b = 95 ∨ (48 ≤ b ∧ b ≤ 57) := by
    simp [isNameCont, isNameStart, isDigit] at h; omega
  simp [isAsciiSpace]; omega

theorem name_noSpace (n : Bytes) (h : isNameB n = true) : ∀ b ∈ n, isAsciiSpace b = false := by
  cases n with
  | nil => simp [isNameB] at h
  | cons x tl =>
    simp only [isNameB, Bool.and_eq_true, List.all_eq_true] at h
    intro b hb
    simp at hb
    rcases hb with rfl | hb
    · exact isNameCont_noSpace (by simp [isNameCont, h.1])
    · exact isNameCont_noSpace (h.2 b hb)

theorem trimSpace_name (n : Bytes) (h : isNameB n = true) : trimSpace n = n :=
  trimSpace_id n (name_noSpace n h)

theorem type_noSpace : ∀ t : GType, typeOk t = true → ∀ b ∈ t.render, isAsciiSpace b = false
  | .named n nn p, h => by
    simp only [typeOk] at h
    intro b hb
    cases nn <;> simp [GType.render] at hb
    · exact name_noSpace n h b hb
    · rcases hb with hb | rfl
      · exact name_noSpace n h b hb
      · decide
  | .list e nn p, h => by
    simp only [typeOk] at h
    have ih := type_noSpace e h
    intro b hb
    cases nn <;> simp [GType.render] at hb
    · rcases hb with rfl | hb | rfl
      · decide
      · exact ih b hb
      · decide
    · rcases hb with rfl | hb | rfl | rfl
      · decide
      · exact ih b hb
      · decide
      · decide

@[simp] theorem noPadding_text (w : W) : (noPadding w).text = w.text := rfl
@[simp] theorem needPadding_text (w : W) : (needPadding w).text = w.text := rfl
@[simp] theorem incIndent_text (w : W) : (incIndent w).text = w.text := rfl
@[simp] theorem decIndent_text (w : W) : (decIndent w).text = w.text := rfl
@[simp] theorem noPadding_pad (w : W) : (noPadding w).padNext = false := rfl
@[simp] theorem needPadding_pad (w : W) : (needPadding w).padNext = true := rfl
@[simp] theorem incIndent_pad (w : W) : (incIndent w).padNext = w.padNext := rfl
@[simp] theorem decIndent_pad (w : W) : (decIndent w).padNext = w.padNext := rfl
@[simp] theorem noPadding_lh (w : W) : (noPadding w).lineHead = w.lineHead := rfl
@[simp] theorem needPadding_lh (w : W) : (needPadding w).lineHead = w.lineHead := rfl
@[simp] theorem incIndent_lh (w : W) : (incIndent w).lineHead = w.lineHead := rfl
@[simp] theorem decIndent_lh (w : W) : (decIndent w).lineHead = w.lineHead := rfl
@[simp] theorem writeWord_pad (cfg : Cfg) (x : Bytes) (w : W) : (writeWord cfg x w).padNext = true :=
  (writeWord_state cfg x w).2.1
@[simp] theorem writeWord_lh (cfg : Cfg) (x : Bytes) (w : W) : (writeWord cfg x w).lineHead = false :=
  (writeWord_state cfg x w).1
@[simp] theorem writeStr_pad (cfg : Cfg) (x : Bytes) (w : W) : (writeStr cfg x w).padNext = false :=
  (writeStr_state cfg x w).2.1
@[simp] theorem writeStr_lh (cfg : Cfg) (x : Bytes) (w : W) : (writeStr cfg x w).lineHead = false :=
  (writeStr_state cfg x w).1
@[simp] theorem writeNewline_pad (w : W) : (writeNewline w).padNext = false := (writeNewline_state w).2.1
@[simp] theorem writeNewline_lh (w : W) : (writeNewline w).lineHead = true := (writeNewline_state w).1

/-- may the text end tight in state `w`: the next write then starts with a pad space, or (`g`) with a
    separator the caller promises -/
def tightOf (g : Bool) (w : W) : Bool := g || (w.padNext && !w.lineHead)

def I (g : Bool) (w : W) (ts : List Tok) : Prop := LexTo w.text ts (tightOf g w)

theorem I.mk {g : Bool} {w : W} {ts : List Tok} {tg : Bool} (h : LexTo w.text ts tg)
    (ht : tg = true → tightOf g w = true) : I g w ts := by
  unfold I
  cases tg with
  | false => exact h.weaken
  | true => rw [ht rfl]; exact h

theorem I.free {g : Bool} {w : W} {ts : List Tok} (h : LexTo w.text ts false) : I g w ts := h.weaken

theorem mem_repeatBytes {ind : Bytes} {n b : Nat} (h : b ∈ repeatBytes ind n) : b ∈ ind := by
  simp [repeatBytes] at h
  obtain ⟨l, ⟨_, rfl⟩, hb⟩ := h
  exact hb

theorem I.lead {cfg : Cfg} (hind : BlankIndent cfg) {g : Bool} {w : W} {ts : List Tok} (h : I g w ts) :
    LexTo (w.text ++ lead cfg w) ts g := by
  unfold I tightOf at h
  unfold Format.lead
  cases hl : w.lineHead with
  | true =>
    simp [hl] at h ⊢
    exact h.blank' fun b hb => hind b (mem_repeatBytes hb)
  | false =>
    cases hp : w.padNext with
    | true =>
      simp [hl, hp] at h ⊢
      exact (h.blank (bl := [32]) (by intro b hb; simp at hb; subst hb; rfl) (by simp)).weaken
    | false =>
      simp [hl, hp] at h ⊢
      exact h

theorem P_word {cfg : Cfg} (hind : BlankIndent cfg) {g : Bool} {w : W} {ts us : List Tok} {x : Bytes} {tg : Bool}
    (h : I g w ts) (hx : LexTo x us tg) (hs : StartOK g x) (ht : trimSpace x = x) :
    LexTo (writeWord cfg x w).text (ts ++ us) tg := by
  rw [writeWord_text, ht]
  exact (h.lead hind).append hx hs

theorem P_str {cfg : Cfg} (hind : BlankIndent cfg) {g : Bool} {w : W} {ts us : List Tok} {x : Bytes} {tg : Bool}
    (h : I g w ts) (hx : LexTo x us tg) (hs : StartOK g x) :
    LexTo (writeStr cfg x w).text (ts ++ us) tg := by
  rw [writeStr_text]
  exact (h.lead hind).append hx hs

end Gql.Format
