import GqlProofs.Format.ReloadSchema
/-
  The hypotheses of the reload theorem about the LOADED schema follow from hypotheses about the SOURCES it was loaded
  from.  `noAllHidden_of_loaded`: the loader adds hidden fields to the query root only, which is an object type
  (`checkRootKinds`) and so has a field of its own (`validateKindSpecific`).  `rootsPrintable_of_loaded`:
  when a schema definition of the sources lists an operation type (the parser requires one), some root is set, so "no
  schema definition printed" means "all roots default".  `docOfSchema_printable` (LoadedPrintableDoc.lean): if the merged
  source document is `FormattableSchema` and satisfies the parser's side conditions `ItemOK` (both hold for parser
  output), then so does the document `FormatSchema` prints.
-/
namespace Gql.Format
open Gql Gql.Load Gql.Parser Gql.Grammar Gql.Print

/-- the query root is of a kind that has fields of its own -/
def QueryRootHasFields (s : Schema) : Prop :=
  ∀ q d, s.query = some q → s.types.lookup q = some d →
    d.kind = .object ∨ d.kind = .interface ∨ d.kind = .inputObject

instance (s : Schema) : Decidable (QueryRootHasFields s) := by
  unfold QueryRootHasFields
  cases s.query with
  | none => exact isTrue (fun q d h => by cases h)
  | some q =>
    cases hl : s.types.lookup q with
    | none => exact isTrue (fun q' d h1 h2 => by cases h1; rw [hl] at h2; cases h2)
    | some d =>
      exact decidable_of_iff (d.kind = .object ∨ d.kind = .interface ∨ d.kind = .inputObject)
        ⟨fun h q' d' h1 h2 => by cases h1; rw [hl] at h2; cases h2; exact h,
         fun h => h q d rfl hl⟩

theorem noAllHidden_of_loaded (cfg : Cfg) {sd : SchemaDoc} {s : Schema} (hload : load sd = .ok s) :
    NoAllHidden cfg s := by
  obtain ⟨st, r1, d1, F⟩ := loaded_facts hload
  intro p hp _
  cases hb : cfg.emitBuiltin with
  | true =>
    have : (dropHidden cfg p.2).fields = p.2.fields := by
      unfold dropHidden
      simp only
      rw [List.filter_eq_self]
      intro f _
      simp [fieldSuppressed_eq, hb]
    rw [this]
  | false =>
    rw [F.types_eq] at hp
    obtain ⟨p0, hp0, rfl⟩ := List.mem_map.mp hp
    have hf := (F.defOK p0 hp0).fieldNames
    unfold finalDef
    split
    · rename_i q hqq
      split
      · rename_i hk
        simp only
        rw [dropHidden_addIntrospection hb hf]
        -- the query root passed `checkRootKinds`: an object type, so it has a field of its own
        have hkind := checkRootKinds_pass_iff.mp F.rootKinds opQuery rfl p0.1 p0.2
          (by rw [rootOf_query, hqq, eq_of_beq hk]) (lookup_of_mem_nodup F.typesInv.1 hp0)
        have hne := kindSpecific_nonEmpty (F.defOK p0 hp0).kindSpecific
        rw [hkind] at hne
        simp [addIntrospection, introspectionFields, show p0.2.fields.isEmpty = false by simpa using hne]
      · rw [dropHidden_id hf]
    · rw [dropHidden_id hf]

theorem load_rejects_user_dunder {sd : SchemaDoc} {d : Definition} (hd : d ∈ sd.definitions)
    (hbi : d.builtIn = false) (hname : hasDunder d.name = true) : ∀ s, load sd ≠ .ok s := by
  intro s h
  obtain ⟨st, r1, d1, F⟩ := loaded_facts h
  have hn := buildState_defs_nodup F.built
  have hfind := find?_key_of_mem Definition.name hn hd
  have hl := state_lookup F.built d.name
  rw [hfind] at hl
  simp only [mergedFrom] at hl
  have hD := F.defOK _ (mem_of_lookup hl)
  have hb2 : (List.foldl (fun d e => applyExt e d) d
      (List.filter (fun x => x.name == d.name) sd.extensions)).builtIn = false :=
    (foldl_applyExt _ d).2.2.1.trans hbi
  have hk := F.typesInv.2 _ (mem_of_lookup hl)
  simp only at hk
  have := hD.defName hb2
  rw [hk, hname] at this
  cases this

def anyRoot (r : Roots) : Bool := r.query.isSome || r.mutation.isSome || r.subscription.isSome

/-- an entry point for a root operation leaves a root set: the operation had one, or gets the type of
    its first entry point -/
theorem setRoots_anyRoot {T : List (Name × Definition)} {l : List OpTypeDef} {r r' : Roots}
    (h : setRoots T l r = .ok r') {e : OpTypeDef} (he : e ∈ l) (hop : isRootOp e.op = true) : anyRoot r' = true := by
  have hset : (rootOf r' e.op).isSome = true := by
    rw [setRoots_rootOf h]
    cases rootOf r e.op with
    | some n => rfl
    | none =>
      obtain ⟨e', hfind⟩ := Option.isSome_iff_exists.mp
        (List.find?_isSome (p := fun x => isRootOp x.op && x.op == e.op).mpr ⟨e, he, by simp [hop]⟩)
      obtain ⟨d, hd⟩ := Option.isSome_iff_exists.mp
        ((setRoots_isOk_iff.mp ⟨r', h⟩).1 e' (List.mem_of_find?_eq_some hfind))
      simp [hfind, ptrOf, hd]
  revert hset
  refine (forall_rootOp (P := fun o => (rootOf r' o).isSome = true → anyRoot r' = true)).mpr ⟨?_, ?_, ?_⟩ e.op hop
  · rw [rootOf_query]; intro h; simp [anyRoot, h]
  · rw [rootOf_mutation]; intro h; simp [anyRoot, h]
  · rw [rootOf_subscription]; intro h; simp [anyRoot, h]

/-- every schema definition of the sources lists a root operation type (the parser requires one) -/
def SchemaDefsHaveRoots (sd : SchemaDoc) : Prop := ∀ x ∈ sd.schema, ∃ o ∈ x.opTypes, isRootOp o.op = true

theorem rootsPrintable_of_loaded {sd : SchemaDoc} {s : Schema} (hload : load sd = .ok s) (hs : SchemaDefsHaveRoots sd) :
    RootsPrintable s := by
  obtain ⟨st, r1, hb, C, heq⟩ := load_eq_ok_iff.mp hload
  intro hn
  by_cases hany : anyRoot ⟨s.query, s.mutation, s.subscription⟩ = true
  · -- some root is set: `needSchema = false` says every root is the default one
    have : (s.query.isNone && s.mutation.isNone && s.subscription.isNone) = false := by
      simp only [anyRoot, Bool.or_eq_true] at hany
      cases hq : s.query <;> cases hm : s.mutation <;> cases hsb : s.subscription <;> simp_all
    simp only [needSchema, this, Bool.not_false, Bool.and_true, Bool.or_eq_false_iff, Bool.not_eq_false'] at hn
    simp [hn.1.1, hn.1.2, hn.2]
  · -- no root at all: then no schema definition, and the inference found no default-named type
    have hnone : s.query = none ∧ s.mutation = none ∧ s.subscription = none := by
      simp only [anyRoot, Bool.or_eq_true, not_or, Bool.not_eq_true, Option.isSome_eq_false_iff, Option.isNone_iff_eq_none] at hany
      exact ⟨hany.1.1, hany.1.2, hany.2⟩
    have hempty : sd.schema = [] := by
      cases hsch : sd.schema with
      | nil => rfl
      | cons x rest =>
        exfalso
        obtain ⟨o, ho, hop⟩ := hs x (by rw [hsch]; simp)
        have a1 := setRoots_anyRoot C.roots (List.mem_flatMap.mpr ⟨x, by rw [hsch]; simp, ho⟩) hop
        have hr : (⟨s.query, s.mutation, s.subscription⟩ : Roots) = r1 := by
          rw [heq]; simp [mkSchema, hsch]
        rw [hr] at hany
        exact hany a1
    have hroots : (⟨s.query, s.mutation, s.subscription⟩ : Roots) = inferRoots st.types r1 := by
      rw [heq]; simp [mkSchema, hempty]
    obtain ⟨hq, hm, hsb⟩ := hnone
    have key : ∀ (cur : Option Name) (dflt : Name), inferRoot st.types cur dflt = none → (s.types.lookup dflt).isNone = true := by
      intro cur dflt hi
      unfold inferRoot at hi
      split at hi
      · cases hi
      · rw [heq, Option.isNone_iff_eq_none, ← Option.not_isSome_iff_eq_none, lookup_isSome_mkSchema]
        unfold ptrOf at hi
        cases hl : st.types.lookup dflt with
        | none => simp
        | some x => rw [hl] at hi; cases hi
    have e1 := congrArg Roots.query hroots
    have e2 := congrArg Roots.mutation hroots
    have e3 := congrArg Roots.subscription hroots
    simp only [inferRoots] at e1 e2 e3
    rw [hq] at e1; rw [hm] at e2; rw [hsb] at e3
    simp only [isDefaultRoot, hq, hm, hsb, Schema.type?, Bool.and_eq_true]
    exact ⟨⟨key _ _ e1.symm, key _ _ e2.symm⟩, key _ _ e3.symm⟩

end Gql.Format
