import GqlProofs.Format.FmtPrim
/-
  A program logic for writer actions.

  `Emits cfg f us a b`: when the indentation string is blank, the action `f : W → W`, run in a
  state of mode `a` whose text lexes to some tokens `ts`, leaves a state of mode `b` whose text
  lexes to `ts ++ us`.  A mode says in which states the text may end tight (in a Name, a number or
  a String with nothing after it):
    `free` never · `pad` only if the pad flag promises a space (`I false`) · `mid` only in the
    middle of a line · `glue` always: the next write has to start with a separator (`I true`).
  The rules follow the formatter's text: one per primitive, `seq` for `|>`, `ite`, `foldl`.  An action
  whose text ends free is stated for every mode after it (`c`), so chains need no order on modes.
-/
namespace Gql.Format
open Gql Gql.Lexer Gql.Grammar Gql.Print

theorem LexTo.mono {txt : Bytes} {ts : List Tok} {t t' : Bool} (h : LexTo txt ts t) (ht : t = true → t' = true) :
    LexTo txt ts t' := by
  cases t with
  | false => exact h.weaken
  | true => rw [ht rfl]; exact h

abbrev Mode := W → Bool

namespace Mode
abbrev free : Mode := fun _ => false
abbrev pad : Mode := tightOf false
abbrev mid : Mode := fun w => !w.lineHead
abbrev glue : Mode := tightOf true
end Mode

theorem Mode.pad_mid (w : W) (h : Mode.pad w = true) : Mode.mid w = true := by simp_all [tightOf, Mode.mid]
theorem Mode.pad_tightOf (g : Bool) (w : W) (h : Mode.pad w = true) : tightOf g w = true := by simp_all [tightOf]

def Emits (cfg : Cfg) (f : W → W) (us : List Tok) (a b : Mode) : Prop :=
  BlankIndent cfg → ∀ w ts, LexTo w.text ts (a w) → LexTo (f w).text (ts ++ us) (b (f w))

namespace Emits
variable {cfg : Cfg} {f g : W → W} {us vs : List Tok} {a b c a' b' : Mode}

theorem seq (hf : Emits cfg f us a b) (hg : Emits cfg g vs b c) : Emits cfg (fun w => g (f w)) (us ++ vs) a c :=
  fun hind w ts h => List.append_assoc ts us vs ▸ hg hind _ _ (hf hind w ts h)

theorem mono (h : Emits cfg f us a b) (ha : ∀ w, a' w = true → a w = true) (hb : ∀ w, b w = true → b' w = true) :
    Emits cfg f us a' b' :=
  fun hind w ts h0 => (h hind w ts (h0.mono (ha w))).mono (hb _)

theorem toGlue (h : Emits cfg f us a b) : Emits cfg f us a Mode.glue := h.mono (fun _ => id) fun _ _ => rfl

theorem ofFree (h : Emits cfg f us a b) : Emits cfg f us Mode.free b := h.mono (fun _ => nofun) fun _ => id

/-- the action and the tokens as the formatter and the unparser spell them -/
theorem cast {f' : W → W} {us' : List Tok} (h : Emits cfg f us a b) (hf : f' = f) (hu : us' = us) :
    Emits cfg f' us' a b := hf ▸ hu ▸ h

theorem skip : Emits cfg (fun w => w) [] a a := fun _ w ts h => by simpa using h

theorem flag (ht : ∀ w, (f w).text = w.text) (hm : ∀ w, a w = true → b (f w) = true) : Emits cfg f [] a b :=
  fun _ w ts h => by simpa [ht] using h.mono (hm w)

/-- without the pad flag only `glue` is left … -/
theorem noPadding : Emits cfg Format.noPadding [] a Mode.glue := flag (fun _ => rfl) fun _ _ => rfl
/-- … but after a text that ends free the flags do not matter, -/
theorem free (f : W → W) (ht : ∀ w, (f w).text = w.text := by exact fun _ => rfl) : Emits cfg f [] Mode.free c :=
  flag ht fun _ => nofun
/-- … and `NeedPadding` in the middle of a line restores `pad` -/
theorem needPadding : Emits cfg Format.needPadding [] Mode.mid Mode.pad :=
  flag (fun _ => rfl) fun w h => by simpa [Mode.mid, tightOf] using h
/-- the indentation depth is no part of a mode -/
theorem incIndent {g : Bool} : Emits cfg Format.incIndent [] (tightOf g) (tightOf g) := flag (fun _ => rfl) fun _ => id
theorem decIndent {g : Bool} : Emits cfg Format.decIndent [] (tightOf g) (tightOf g) := flag (fun _ => rfl) fun _ => id

theorem newline : Emits cfg writeNewline [] a c := fun _ w ts h => by
  rw [writeNewline_text]
  simpa using ((h.toTight.blank (bl := [10]) (by intro b hb; simp at hb; subst hb; rfl) (by simp))).weaken

theorem punct_sep {b : Nat} {k : Kind} (hp : punct b = some k) : sepByte b = true ∧ trimSpace [b] = [b] :=
  (by decide : ∀ p ∈ punctTable, sepByte p.1 = true ∧ trimSpace [p.1] = [p.1]) (b, k) (mem_of_lookup hp)

theorem punct (b : Nat) {k : Kind} (hp : punct b = some k := by rfl) : Emits cfg (writeStr cfg [b]) [tP k] a c :=
  fun hind _ _ h => (P_str hind (g := true) (h.mono fun _ => rfl) (tokText_punct b k hp).lexTo
    (StartOK_cons _ _ _ (punct_sep hp).1)).weaken

theorem punctW (b : Nat) {k : Kind} (hp : Lexer.punct b = some k := by rfl) :
    Emits cfg (writeWord cfg [b]) [tP k] a c :=
  fun hind _ _ h => (P_word hind (g := true) (h.mono fun _ => rfl) (tokText_punct b k hp).lexTo
    (StartOK_cons _ _ _ (punct_sep hp).1) (punct_sep hp).2).weaken

/-- the comma between list elements is no token -/
theorem comma : Emits cfg (writeWord cfg [44]) [] a c := fun hind w ts h => by
  simpa using (P_word hind (g := true) (h.mono fun _ => rfl) lexTo_comma (StartOK_cons _ _ _ (by decide)) (by decide)).weaken

/-- `WriteWord` sets the pad flag, which protects the end of the word -/
theorem word {x : Bytes} {tg : Bool} (hx : LexTo x us tg) (ht : trimSpace x = x) :
    Emits cfg (writeWord cfg x) us Mode.pad Mode.pad :=
  fun hind w ts h => I.mk (P_word hind h hx (StartOK_false _) ht) (by simp [tightOf])

/-- … unless the word is free at its end (`...`, `=`, `|`) -/
theorem wordFree {x : Bytes} (hx : LexTo x us false) (ht : trimSpace x = x) : Emits cfg (writeWord cfg x) us Mode.pad c :=
  fun hind _ _ h => (P_word hind h hx (StartOK_false _) ht).weaken

theorem name {n : Bytes} (hn : isNameB n = true) : Emits cfg (writeWord cfg n) [tName n] Mode.pad Mode.pad :=
  word (tokText_name n hn).lexTo (trimSpace_name n hn)

theorem kw (s : String) (hs : isNameB (str s) = true := by decide) :
    Emits cfg (writeWord cfg (str s)) [tKw s] Mode.pad Mode.pad := name hs

/-- `WriteString` clears the pad flag: the text ends as `x` does -/
theorem str {x : Bytes} (hx : LexTo x us true) : Emits cfg (writeStr cfg x) us Mode.pad Mode.mid :=
  fun hind w ts h => by simpa [Mode.mid] using P_str hind h hx (StartOK_false _)

theorem ite (p : Bool) {f' : W → W} {us' : List Tok} (ht : p = true → Emits cfg f us a b)
    (hf : p = false → Emits cfg f' us' a b) :
    Emits cfg (fun w => if p = true then f w else f' w) (if p = true then us else us') a b := by
  cases p
  · exact hf rfl
  · exact ht rfl

theorem foldl {α} (f : α → W → W) (p : α → List Tok) (xs : List α) (step : ∀ x ∈ xs, Emits cfg (f x) (p x) a a) :
    Emits cfg (fun w => xs.foldl (fun w x => f x w) w) (xs.flatMap p) a a := by
  induction xs with
  | nil => exact skip
  | cons x xs ih =>
    exact ((step x (by simp)).seq (ih fun y hy => step y (by simp [hy]))).cast rfl (by simp)

theorem block {body : W → W} (h : Emits cfg body us Mode.free Mode.free) :
    Emits cfg (fun w => w |> writeStr cfg [123] |> writeNewline |> Format.incIndent |> body |> Format.decIndent
      |> writeStr cfg [125]) (tP .braceL :: us ++ [tP .braceR]) a c :=
  ((punct 123 (c := Mode.free)).seq <| newline.seq <| (free Format.incIndent).seq <| h.seq <|
    (free Format.decIndent (c := Mode.free)).seq (punct 125)).cast rfl (by simp)

end Emits
end Gql.Format
