import GqlProofs.Schema.Directives
/-
  The directive map `declareDirectives` builds: what it leaves under a name, when it succeeds.
-/
namespace Gql.Load
open Gql

theorem declareDirectives_append_eq_ok {a b : List DirectiveDef} {acc r : List (Name × DirectiveDef)} :
    declareDirectives (a ++ b) acc = .ok r ↔ ∃ m, declareDirectives a acc = .ok m ∧ declareDirectives b m = .ok r := by
  induction a generalizing acc with
  | nil => simp [declareDirectives]
  | cons dd rest ih =>
    simp only [List.cons_append, declareDirectives]
    split
    · simp
    · exact ih

/-- a successful run redeclares only the six names the loader lets a user redeclare -/
theorem declareDirectives_ok_cond {l : List DirectiveDef} {acc r : List (Name × DirectiveDef)}
    (h : declareDirectives l acc = .ok r) :
    ∀ dd ∈ l, builtinDirectiveNames.contains dd.name = true ∨ acc.lookup dd.name = none := by
  induction l generalizing acc with
  | nil => intro dd hdd; cases hdd
  | cons d rest ih =>
    simp only [declareDirectives] at h
    split at h
    · simp at h
    · rename_i hc
      intro dd hdd
      rcases List.mem_cons.mp hdd with e | hmem
      · subst e
        cases hb : builtinDirectiveNames.contains dd.name with
        | true => exact Or.inl rfl
        | false =>
          right
          cases hl : acc.lookup dd.name with
          | none => rfl
          | some x => exact absurd (by rw [hl, hb]; rfl) hc
      · rcases ih h dd hmem with h1 | h1
        · exact Or.inl h1
        · right
          rw [lookup_insertKV] at h1
          split at h1
          · cases h1
          · exact h1

/-- the entry a run of `declareDirectives` leaves under `n` (`declareDirectives_lookup`): the old entry
    when nothing named `n` is declared, else one of the declarations named `n` -/
theorem lastD_cases (init : Option DirectiveDef) (l : List DirectiveDef) (n : Name) :
    (lastD init l n = init ∧ ∀ dd ∈ l, dd.name ≠ n) ∨ ∃ dd ∈ l, dd.name = n ∧ lastD init l n = some dd := by
  induction l generalizing init with
  | nil => exact .inl ⟨rfl, fun _ h => nomatch h⟩
  | cons d rest ih =>
    simp only [lastD, List.foldl_cons, List.mem_cons, forall_eq_or_imp, exists_eq_or_imp]
    by_cases hd : d.name = n
    · simp only [hd, BEq.rfl, ↓reduceIte]
      rcases ih (some d) with ⟨h1, _⟩ | h
      · exact .inr (.inl ⟨trivial, h1⟩)
      · exact .inr (.inr h)
    · simp only [beq_false_of_ne hd, Bool.false_eq_true, ↓reduceIte, hd, ne_eq, not_false_eq_true, true_and, false_and,
        false_or]
      exact ih init

theorem lastD_none {n : Name} {l : List DirectiveDef} (h : ∀ dd ∈ l, dd.name ≠ n) (init : Option DirectiveDef) :
    lastD init l n = init := by
  rcases lastD_cases init l n with ⟨h1, _⟩ | ⟨dd, hdd, h1, _⟩
  · exact h1
  · exact absurd h1 (h dd hdd)

end Gql.Load
