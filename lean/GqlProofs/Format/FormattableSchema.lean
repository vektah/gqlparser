import GqlProofs.Format.Formattable
/-
  Type-system documents: the Description token the formatter writes (`descTok`), what it does not keep
  (`normSchemaDoc cfg`), and the decidable well-formedness `FormattableSchema` (it holds of parser output).
  `normSchemaDoc cfg d`: block-string VALUES become string values, as in C12; `WithoutDescription` drops every
  description; without `WithBuiltin`, definitions flagged built-in and directive definitions of source 0 (the
  prelude) are not written; all schema definitions are MERGED into one block, likewise all schema extensions.
  `FormattableSchema d`: as `Formattable`, and descriptions are well-formed UTF-8; the parts a definition's kind
  does not have are empty (`shapeOk`); extensions carry no description; a directive definition has a location;
  no field is one the formatter hides (`__`-name without position: only the loader adds those).
-/
namespace Gql.Format
open Gql Gql.Lexer Gql.Grammar Gql.Print

/-- the Description token the formatter writes: a block string when it can, else a quoted string -/
def descTok (d : Bytes) : List Tok :=
  if d = [] then [] else [{ kind := if blockStringRepresentable d then .blockString else .string, value := d }]

def normDesc (cfg : Cfg) (d : Bytes) : Bytes := if cfg.omitDescription then [] else d

def normArgDef (cfg : Cfg) (a : ArgDef) : ArgDef :=
  { a with desc := normDesc cfg a.desc, default := a.default.map normValue, dirs := a.dirs.map normDir }

def normFieldDef (cfg : Cfg) (f : FieldDef) : FieldDef :=
  { f with desc := normDesc cfg f.desc, args := f.args.map (normArgDef cfg), default := f.default.map normValue,
           dirs := f.dirs.map normDir }

def normEnumVal (cfg : Cfg) (e : EnumValDef) : EnumValDef :=
  { e with desc := normDesc cfg e.desc, dirs := e.dirs.map normDir }

def normDef (cfg : Cfg) (d : Definition) : Definition :=
  { d with desc := normDesc cfg d.desc, dirs := d.dirs.map normDir, fields := d.fields.map (normFieldDef cfg),
           enumValues := d.enumValues.map (normEnumVal cfg) }

def normDirectiveDef (cfg : Cfg) (d : DirectiveDef) : DirectiveDef :=
  { d with desc := normDesc cfg d.desc, args := d.args.map (normArgDef cfg) }

/-- `FormatSchemaDefinitionList` writes ONE block for all the definitions of the list -/
def mergeSchemaDefs (cfg : Cfg) : List SchemaDef → List SchemaDef
  | [] => []
  | d0 :: rest =>
    [{ desc := normDesc cfg ((d0 :: rest).flatMap (·.desc)), dirs := ((d0 :: rest).flatMap (·.dirs)).map normDir,
       opTypes := (d0 :: rest).flatMap (·.opTypes), pos := d0.pos }]

def keepDirectiveDef (cfg : Cfg) (d : DirectiveDef) : Bool := cfg.emitBuiltin || !srcZeroBuiltIn d.pos.src
def keepDef (cfg : Cfg) (d : Definition) : Bool := cfg.emitBuiltin || !d.builtIn

/-- the document the formatter's text stands for -/
def normSchemaDoc (cfg : Cfg) (d : SchemaDoc) : SchemaDoc :=
  { schema := mergeSchemaDefs cfg d.schema, schemaExt := mergeSchemaDefs cfg d.schemaExt,
    directives := (d.directives.filter (keepDirectiveDef cfg)).map (normDirectiveDef cfg),
    definitions := (d.definitions.filter (keepDef cfg)).map (normDef cfg),
    extensions := (d.extensions.filter (keepDef cfg)).map (normDef cfg) }

def defaultOk : Option Value → Bool
  | some v => valueOk v
  | none => true

def argDefOk (a : ArgDef) : Bool :=
  strRaw a.desc && isNameB a.name && typeOk a.type && defaultOk a.default && a.dirs.all dirOk

def fieldDefOk (f : FieldDef) : Bool :=
  strRaw f.desc && isNameB f.name && f.args.all argDefOk && typeOk f.type && defaultOk f.default &&
  f.dirs.all dirOk && !fieldSuppressed false f.name f.pos

def enumValOk (e : EnumValDef) : Bool := strRaw e.desc && isNameB e.name && e.dirs.all dirOk

/-- the parts a definition of this kind does not have are empty -/
def shapeOk (d : Definition) : Bool :=
  match d.kind with
  | .scalar => d.interfaces.isEmpty && d.types.isEmpty && d.fields.isEmpty && d.enumValues.isEmpty
  | .object => d.types.isEmpty && d.enumValues.isEmpty && d.fields.all (fun f => f.default.isNone)
  | .interface => d.types.isEmpty && d.enumValues.isEmpty && d.fields.all (fun f => f.default.isNone)
  | .union => d.interfaces.isEmpty && d.fields.isEmpty && d.enumValues.isEmpty
  | .enum => d.interfaces.isEmpty && d.types.isEmpty && d.fields.isEmpty
  | .inputObject => d.interfaces.isEmpty && d.types.isEmpty && d.enumValues.isEmpty &&
      d.fields.all (fun f => f.args.isEmpty)

def defOk (d : Definition) : Bool :=
  strRaw d.desc && isNameB d.name && d.dirs.all dirOk && d.interfaces.all isNameB && d.types.all isNameB &&
  d.fields.all fieldDefOk && d.enumValues.all enumValOk && shapeOk d

def extOk (d : Definition) : Bool := defOk d && d.desc.isEmpty

def dirDefOk (d : DirectiveDef) : Bool :=
  strRaw d.desc && isNameB d.name && d.args.all argDefOk && !d.locations.isEmpty && d.locations.all isNameB

def opTypeOk (o : OpTypeDef) : Bool := isNameB o.op && isNameB o.type

def schemaDefOk (s : SchemaDef) : Bool := strRaw s.desc && s.dirs.all dirOk && s.opTypes.all opTypeOk

def schemaExtOk (s : SchemaDef) : Bool := s.desc.isEmpty && s.dirs.all dirOk && s.opTypes.all opTypeOk

def schemaDocOk (d : SchemaDoc) : Bool :=
  d.schema.all schemaDefOk && d.schemaExt.all schemaExtOk && d.directives.all dirDefOk &&
  d.definitions.all defOk && d.extensions.all extOk

def FormattableSchema (d : SchemaDoc) : Prop := schemaDocOk d = true

instance (d : SchemaDoc) : Decidable (FormattableSchema d) := by unfold FormattableSchema; infer_instance

end Gql.Format
