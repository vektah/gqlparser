import GqlProofs.Format.LoadSkeleton
import GqlProofs.Format.FormattableSchema
/-
  The skeleton of a definition (`Gql.Load.skDef`, what the loader reads) does not change under
  position erasure nor under the formatter's normalisation (`normDef cfg`: block-string values become
  string values, descriptions are dropped with `WithoutDescription`).  Hence a definition `d'` with
  `d'.erasePos = (normDef cfg d).erasePos` — what the parser returns for the formatted text of `d` —
  has the skeleton of `d`.
-/
namespace Gql.Format
open Gql Gql.Load

theorem skValue_erasePos (v : Value) : skValue v.erasePos = skValue v := by
  cases v with
  | mk k raw ch p => cases k <;> rfl

theorem normKind_null (k : ValueKind) : (normKind k = ValueKind.null) ↔ (k = ValueKind.null) := by
  cases k <;> simp [normKind]

theorem skValue_normValue (v : Value) : skValue (normValue v) = skValue v := by
  cases v with
  | mk k raw ch p =>
    simp only [skValue, normValue, Value.kind]
    by_cases h : k = .null
    · subst h; rfl
    · have : ¬ normKind k = .null := fun e => h ((normKind_null k).mp e)
      simp [h, this]

theorem erasePos_erasePos_type (t : GType) : t.erasePos.erasePos = t.erasePos := by
  induction t with
  | named n nn p => rfl
  | list e nn p ih => simp [GType.erasePos, ih]

-- each lemma below joins this simp set; it rewrites the skeleton of a mapped part to the skeleton of the part
attribute [local simp] List.map_map Option.map_map Function.comp_def skValue_erasePos skValue_normValue
  erasePos_erasePos_type

@[local simp] theorem skArg_erasePos (a : Argument) : skArg a.erasePos = skArg a := by
  simp [skArg, Argument.erasePos]

@[local simp] theorem skArg_normArg (a : Argument) : skArg (normArg a) = skArg a := by
  simp [skArg, normArg]

@[local simp] theorem skDir_erasePos (d : Directive) : skDir d.erasePos = skDir d := by
  simp [skDir, Directive.erasePos]

@[local simp] theorem skDir_normDir (d : Directive) : skDir (normDir d) = skDir d := by
  simp [skDir, normDir]

theorem skDirs_erasePos (ds : List Directive) : (ds.map Directive.erasePos).map skDir = ds.map skDir := by
  simp

theorem skDirs_normDir (ds : List Directive) : (ds.map normDir).map skDir = ds.map skDir := by
  simp

theorem optMap_skValue_erasePos (o : Option Value) : (o.map Value.erasePos).map skValue = o.map skValue := by
  simp

theorem optMap_skValue_norm (o : Option Value) : (o.map normValue).map skValue = o.map skValue := by
  simp

@[local simp] theorem skArgDef_erasePos (a : ArgDef) : skArgDef a.erasePos = skArgDef a := by
  simp [skArgDef, ArgDef.erasePos]

@[local simp] theorem skArgDef_norm (cfg : Cfg) (a : ArgDef) : skArgDef (normArgDef cfg a) = skArgDef a := by
  simp [skArgDef, normArgDef]

theorem skArgDefs_erasePos (as : List ArgDef) : (as.map ArgDef.erasePos).map skArgDef = as.map skArgDef := by
  simp

theorem skArgDefs_norm (cfg : Cfg) (as : List ArgDef) : (as.map (normArgDef cfg)).map skArgDef = as.map skArgDef := by
  simp

@[local simp] theorem skField_erasePos (f : FieldDef) : skField f.erasePos = skField f := by
  simp [skField, FieldDef.erasePos]

@[local simp] theorem skField_norm (cfg : Cfg) (f : FieldDef) : skField (normFieldDef cfg f) = skField f := by
  simp [skField, normFieldDef]

@[local simp] theorem skEnumVal_erasePos (e : EnumValDef) : skEnumVal e.erasePos = skEnumVal e := by
  simp [skEnumVal, EnumValDef.erasePos]

@[local simp] theorem skEnumVal_norm (cfg : Cfg) (e : EnumValDef) : skEnumVal (normEnumVal cfg e) = skEnumVal e := by
  simp [skEnumVal, normEnumVal]

theorem skDef_erasePos (d : Definition) : skDef d.erasePos = skDef d := by
  simp [skDef, Definition.erasePos]

theorem skDef_norm (cfg : Cfg) (d : Definition) : skDef (normDef cfg d) = skDef d := by
  simp [skDef, normDef]

theorem skDirDef_erasePos (d : DirectiveDef) : skDirDef d.erasePos = skDirDef d := by
  simp [skDirDef, DirectiveDef.erasePos]

theorem skDirDef_norm (cfg : Cfg) (d : DirectiveDef) : skDirDef (normDirectiveDef cfg d) = skDirDef d := by
  simp [skDirDef, normDirectiveDef]

theorem skDef_of_reparsed {cfg : Cfg} {d d' : Definition} (h : d'.erasePos = (normDef cfg d).erasePos) :
    skDef d' = skDef d := by
  rw [← skDef_erasePos d', h, skDef_erasePos, skDef_norm]

theorem skDirDef_of_reparsed {cfg : Cfg} {d d' : DirectiveDef} (h : d'.erasePos = (normDirectiveDef cfg d).erasePos) :
    skDirDef d' = skDirDef d := by
  rw [← skDirDef_erasePos d', h, skDirDef_erasePos, skDirDef_norm]

theorem skDirs_of_reparsed {ds ds' : List Directive}
    (h : ds'.map Directive.erasePos = (ds.map normDir).map Directive.erasePos) : ds'.map skDir = ds.map skDir := by
  rw [← skDirs_erasePos ds', h, skDirs_erasePos, skDirs_normDir]

end Gql.Format
