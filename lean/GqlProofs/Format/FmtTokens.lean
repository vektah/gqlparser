import GqlProofs.Format.Emits
import GqlProofs.Format.PrintLong
/-
  The formatter of executable documents, function by function, in the logic of `Emits.lean`: what a
  function writes is a complete sequence of token texts for the tokens of the (normalised) subtree,
  for every configuration whose indentation string consists of ignored bytes.  Each proof is the
  chain of rules that follows the text of the formatter function.
-/
namespace Gql.Format
open Gql Gql.Lexer Gql.Grammar Gql.Print

variable {cfg : Cfg}

theorem E_value (v : Value) (hv : valueOk v = true) :
    Emits cfg (formatValue cfg v) (printValue (normValue v)) .pad .mid := .str (lexTo_value v hv)

theorem E_type (t : GType) (ht : typeOk t = true) : Emits cfg (formatType cfg t) (printType t) .pad .pad :=
  .word (lexTo_type t ht) (trimSpace_id _ (type_noSpace t ht))

theorem E_nameColon (nm : Bytes) (hn : isNameB nm = true) :
    Emits cfg (fun w => needPadding (writeStr cfg [58] (noPadding (writeWord cfg nm w)))) [tName nm, tP .colon]
      .pad .pad :=
  (Emits.name hn).seq <| .seq .noPadding <| .seq (.punct 58) .needPadding

theorem E_argument (a : Argument) (ha : argOk a = true) :
    Emits cfg (formatArgument cfg a) (printArgument (normArg a)) .pad .mid := by
  simp only [argOk, Bool.and_eq_true] at ha
  exact (E_nameColon a.name ha.1).seq (E_value a.value ha.2)

/-- the loop of `FormatArgumentList` -/
theorem E_arguments : ∀ as : List Argument, as.all argOk = true →
    Emits cfg (formatArguments cfg as) ((as.map normArg).flatMap printArgument) .pad .glue
  | [], _ => Emits.skip.toGlue
  | [a], ha => (E_argument a (by simpa using ha)).toGlue.cast rfl (by simp)
  | a :: b :: rest, ha => by
    simp only [List.all_cons, Bool.and_eq_true] at ha
    exact ((E_argument a ha.1).seq <| .seq .noPadding <| .seq .comma <| E_arguments (b :: rest) (by simp [ha.2])).cast
      rfl (by simp)

theorem E_argumentList_cons {a c : Mode} (as : List Argument) (hne : as ≠ []) (ha : as.all argOk = true) :
    Emits cfg (formatArgumentList cfg as) (printArguments (as.map normArg)) a c := by
  have e : as.isEmpty = false := by cases as <;> simp_all
  exact (Emits.noPadding.seq <| .seq (.punct 40) <| (E_arguments as ha).seq <| .seq (.punct 41) (.free needPadding)).cast
    (by funext w; simp [formatArgumentList, e]) (by simp [printArguments, e])

theorem E_argumentList (as : List Argument) (ha : as.all argOk = true) (g : Bool) :
    Emits cfg (formatArgumentList cfg as) (printArguments (as.map normArg)) (tightOf g) (tightOf g) := by
  cases as with
  | nil => exact Emits.skip
  | cons a as => exact E_argumentList_cons (a :: as) (by simp) ha

theorem E_directive {a : Mode} (d : Directive) (hd : dirOk d = true) :
    Emits cfg (formatDirective cfg d) (printDirective (normDir d)) a .pad := by
  simp only [dirOk, Bool.and_eq_true] at hd
  exact (Emits.punct 64).seq <| (Emits.name hd.1).seq (E_argumentList d.args hd.2 false)

theorem E_directiveList : ∀ (ds : List Directive), ds.all dirOk = true → ∀ g : Bool,
    Emits cfg (formatDirectiveList cfg ds) (printDirectives (ds.map normDir)) (tightOf g) (tightOf g)
  | [], _, _ => Emits.skip
  | d :: ds, hd, g => by
    simp only [List.all_cons, Bool.and_eq_true] at hd
    exact (((E_directive d hd.1).seq (E_directiveList ds hd.2 false)).mono (fun _ => id) (Mode.pad_tightOf g)).cast
      rfl (by simp [printDirectives])

theorem E_default (dflt : Option Value) (hd : ∀ v ∈ dflt, valueOk v = true) :
    Emits cfg (fun w => match (generalizing := false) dflt with
        | some v => w |> writeWord cfg [61] |> formatValue cfg v | none => w)
      (printDefault (dflt.map normValue)) .pad .mid := by
  cases dflt with
  | none => exact Emits.skip.mono (fun _ => id) Mode.pad_mid
  | some v => exact (Emits.punctW 61).seq (E_value v (hd v rfl))

/-- `name: Type = default @dirs`: the part shared by variable definitions, argument definitions and input fields -/
theorem E_inputValueCore (name : Name) (type : GType) (dflt : Option Value) (dirs : List Directive)
    (hn : isNameB name = true) (ht : typeOk type = true) (hd : ∀ v ∈ dflt, valueOk v = true)
    (hds : dirs.all dirOk = true) :
    Emits cfg (fun w => w |> writeWord cfg name |> noPadding |> writeStr cfg [58] |> needPadding |> formatType cfg type
        |> (fun w => match (generalizing := false) dflt with
          | some v => w |> writeWord cfg [61] |> formatValue cfg v | none => w)
        |> needPadding |> formatDirectiveList cfg dirs)
      (tName name :: tP .colon :: printType type ++ printDefault (dflt.map normValue)
        ++ printDirectives (dirs.map normDir)) .pad .pad :=
  ((E_nameColon name hn).seq <| (E_type type ht).seq <| (E_default dflt hd).seq <| .seq .needPadding <|
    E_directiveList dirs hds false).cast rfl (by simp)

theorem E_varDef {a : Mode} (d : VarDef) (hd : varDefOk d = true) :
    Emits cfg (formatVariableDefinition cfg d) (printVarDef (normVarDef d)) a .pad := by
  obtain ⟨var, type, dflt, dirs, pos⟩ := d
  simp only [varDefOk, Bool.and_eq_true] at hd
  obtain ⟨⟨⟨hvar, htype⟩, hdef⟩, hdirs⟩ := hd
  exact ((Emits.punct 36).seq (E_inputValueCore var type dflt dirs hvar htype
    (fun v hv => by rw [Option.mem_def] at hv; subst hv; exact hdef) hdirs)).cast rfl
    (by simp [printVarDef, normVarDef])

/-- the loop of `FormatVariableDefinitionList` -/
theorem E_varDefs : ∀ (ds : List VarDef), ds.all varDefOk = true →
    Emits cfg (formatVariableDefinitions cfg ds) ((ds.map normVarDef).flatMap printVarDef) .pad .pad
  | [], _ => Emits.skip
  | [d], hd => (E_varDef d (by simpa using hd)).cast rfl (by simp)
  | d :: e :: rest, hd => by
    simp only [List.all_cons, Bool.and_eq_true] at hd
    exact ((E_varDef d hd.1).seq <| .seq .noPadding <| .seq .comma <| E_varDefs (e :: rest) (by simp [hd.2])).cast
      rfl (by simp)

theorem E_varDefList (ds : List VarDef) (hd : ds.all varDefOk = true) (g : Bool) :
    Emits cfg (formatVariableDefinitionList cfg ds) (printVarDefs (ds.map normVarDef)) (tightOf g) (tightOf g) := by
  cases ds with
  | nil => exact Emits.skip
  | cons d ds =>
    exact ((Emits.punct 40).seq <| (E_varDefs (d :: ds) hd).seq <| .seq .noPadding <| .seq (.punct 41)
      (.free needPadding)).cast rfl (by simp [printVarDefs])

theorem E_alias (al nm : Name) (hal : isNameB al = true) :
    Emits cfg (fun w => if (!al.isEmpty && al != nm) = true then
        w |> writeWord cfg al |> noPadding |> writeStr cfg [58] |> needPadding else w)
      (if al = nm then [] else [tName al, tP .colon]) .pad .pad := by
  have hne : al.isEmpty = false := by cases al <;> simp_all [isNameB]
  exact (Emits.ite _ (fun _ => E_nameColon al hal) fun _ => .skip).cast rfl (by by_cases e : al = nm <;> simp [e, hne])

theorem E_fieldArgs (args : List Argument) (ha : args.all argOk = true) :
    Emits cfg (fun w => if (!args.isEmpty) = true then w |> noPadding |> formatArgumentList cfg args |> needPadding else w)
      (printArguments (args.map normArg)) .pad .pad :=
  (Emits.ite _ (fun h => Emits.noPadding.seq <| (E_argumentList_cons args (by simpa using h) ha).seq (.free needPadding))
    fun _ => .skip).cast rfl (by cases args <;> simp [printArguments])

def optSelSet : Selections → List Tok
  | .nil => []
  | .cons s rest => printSelectionSet (.cons s rest)

mutual
  theorem E_selection : ∀ (s : Selection), selOk s = true → ∀ {c : Mode},
      Emits cfg (formatSelection cfg s) (printSelection (normSel s)) .pad c
    | .field al nm args ds sel p, hs, _ => by
      simp only [selOk, Bool.and_eq_true] at hs
      obtain ⟨⟨⟨⟨hal, hnm⟩, hargs⟩, hds⟩, hsel⟩ := hs
      exact ((E_alias al nm hal).seq <| (Emits.name hnm).seq <| (E_fieldArgs args hargs).seq <|
        (E_directiveList ds hds false).seq <| (E_selectionSet sel hsel false).seq .newline).cast rfl
        (by cases sel <;> simp [printSelection, normSel, normSels, optSelSet, printSelectionSet])
    | .spread nm ds p, hs, _ => by
      simp only [selOk, Bool.and_eq_true] at hs
      exact ((Emits.wordFree tokText_spread.lexTo (by decide)).seq <|
        (Emits.ite cfg.compacted (fun _ => .free noPadding) fun _ => .skip).seq <| (Emits.name hs.1).ofFree.seq <|
        (E_directiveList ds hs.2 false).seq .newline).cast rfl (by simp [printSelection, normSel])
    | .inline tc ds sel p, hs, _ => by
      simp only [selOk, Bool.and_eq_true] at hs
      obtain ⟨⟨⟨htc, hds⟩, hne⟩, hsel⟩ := hs
      have h2 : Emits cfg (fun w => if (!tc.isEmpty) = true then w |> writeWord cfg (str "on") |> writeWord cfg tc else w)
          (if tc = [] then [] else [tKw "on", tName tc]) .pad .pad :=
        (Emits.ite _ (fun h => (Emits.kw "on").seq (.name (by cases tc <;> simp_all))) fun _ => .skip).cast rfl
          (by cases tc <;> simp)
      cases sel with
      | nil => simp at hne
      | cons s rest =>
        exact ((Emits.wordFree tokText_spread.lexTo (by decide)).seq <| h2.seq <| (E_directiveList ds hds false).seq <|
          (E_selectionSet _ hsel false).seq .newline).cast rfl
          (by simp [printSelection, normSel, normSels, optSelSet, printSelectionSet])
  theorem E_selectionSet : ∀ (sel : Selections), selsOk sel = true → ∀ g : Bool,
      Emits cfg (formatSelectionSet cfg sel) (optSelSet (normSels sel)) (tightOf g) (tightOf g)
    | .nil, _, _ => Emits.skip
    | .cons s rest, hs, _ => by
      simp only [selsOk, Bool.and_eq_true] at hs
      exact (Emits.block ((E_selection s hs.1).ofFree.seq (E_selections rest hs.2))).cast rfl
        (by simp [normSels, optSelSet, printSelectionSet, printSelections])
  /-- the loop of `FormatSelectionSet` -/
  theorem E_selections : ∀ (sels : Selections), selsOk sels = true →
      Emits cfg (formatSelections cfg sels) (printSelections (normSels sels)) .free .free
    | .nil, _ => Emits.skip
    | .cons s rest, hs => by
      simp only [selsOk, Bool.and_eq_true] at hs
      exact ((E_selection s hs.1).ofFree.seq (E_selections rest hs.2)).cast rfl (by simp [normSels, printSelections])
end

/-- the optional name of an operation; in compacted mode what follows is glued to it -/
theorem E_opName (name : Name) (hn : (name.isEmpty || isNameB name) = true) :
    Emits cfg (fun w => if (!name.isEmpty) = true then
        (if cfg.compacted = true then noPadding (writeWord cfg name w) else writeWord cfg name w) else w)
      (if name = [] then [] else [tName name]) .pad .glue :=
  (Emits.ite (!name.isEmpty) (fun h => (Emits.name (by cases name <;> simp_all)).seq
      (Emits.ite cfg.compacted (fun _ => .noPadding) fun _ => Emits.skip.toGlue))
    fun _ => Emits.skip.toGlue).cast rfl (by cases name <;> simp)

theorem E_operation {c : Mode} (o : OperationDef) (ho : opOk o = true) :
    Emits cfg (formatOperationDefinition cfg o) (printOperationLong (normOp o)) .pad c := by
  obtain ⟨op, name, vars, dirs, sel, pos⟩ := o
  simp only [opOk, Bool.and_eq_true] at ho
  obtain ⟨⟨⟨⟨⟨hop, hname⟩, hvars⟩, hdirs⟩, hne⟩, hsel⟩ := ho
  cases sel with
  | nil => simp at hne
  | cons s rest =>
    exact ((Emits.name hop).seq <| (E_opName name hname).seq <| (E_varDefList vars hvars true).seq <|
      (E_directiveList dirs hdirs true).seq <| (E_selectionSet _ hsel true).seq .newline).cast rfl
      (by cases name <;> simp [printOperationLong, normOp, optSelSet, normSels])

theorem E_fragment {c : Mode} (f : FragmentDef) (hf : fragOk f = true) :
    Emits cfg (formatFragmentDefinition cfg f) (printFragment (normFrag f)) .pad c := by
  obtain ⟨name, vars, tc, dirs, sel, pos⟩ := f
  simp only [fragOk, Bool.and_eq_true] at hf
  obtain ⟨⟨⟨⟨⟨hname, hvars⟩, htc⟩, hdirs⟩, hne⟩, hsel⟩ := hf
  cases sel with
  | nil => simp at hne
  | cons s rest =>
    exact ((Emits.kw "fragment").seq <| (Emits.name hname).seq <| (E_varDefList vars hvars false).seq <|
      (Emits.kw "on").seq <| (Emits.name htc).seq <| (E_directiveList dirs hdirs false).seq <|
      (E_selectionSet _ hsel false).seq .newline).cast rfl (by simp [printFragment, normFrag, optSelSet, normSels])

theorem E_document (d : QueryDoc) (hd : Formattable d) :
    Emits cfg (formatQueryDocument cfg d) (printQueryLong (normFmt d)) .free .free := by
  unfold Formattable docOk at hd
  simp only [Bool.and_eq_true, List.all_eq_true] at hd
  exact ((Emits.foldl _ _ d.ops fun o ho => (E_operation o (hd.1 o ho)).ofFree).seq
    (Emits.foldl _ _ d.frags fun f hf => (E_fragment f (hd.2 f hf)).ofFree)).cast rfl
    (by simp [printQueryLong, normFmt, List.flatMap_def, List.map_map, Function.comp_def])

variable (hind : BlankIndent cfg)
include hind

theorem T_selections : ∀ (sels : Selections) (w : W) (ts : List Tok), LexTo w.text ts false →
    selsOk sels = true →
    LexTo (formatSelections cfg sels w).text (ts ++ printSelections (normSels sels)) false :=
  fun sels w ts h hs => E_selections sels hs hind w ts h

end Gql.Format
