import GqlModel.Syntax.Print
/-
  The token sequence the FORMATTER writes for an executable document, as a variant of the unparser
  `Print.printQuery`.  Two deliberate differences, both spellings the tree cannot tell apart:
  `FormatOperationDefinition` always writes the operation keyword, also for an operation that could be
  written in the shorthand form (`{ a }` comes out as `query { a }`): `printOperationLong`;
  `FormatQueryDocument` writes all operations first and then all fragments, whatever the source order
  was: `printQueryLong` does not interleave by position.
-/
namespace Gql.Print
open Gql Gql.Lexer Gql.Grammar

def printOperationLong (o : OperationDef) : List Tok :=
  tName o.op :: (if o.name = [] then [] else [tName o.name]) ++ printVarDefs o.vars ++ printDirectives o.dirs
    ++ printSelectionSet o.sel

def printQueryLong (d : QueryDoc) : List Tok :=
  (d.ops.map printOperationLong ++ d.frags.map printFragment).flatten

theorem printOperationLong_of_not_bare (o : OperationDef) (h : OperationDef.isBare o = false) :
    printOperationLong o = printOperation o := by
  simp [printOperationLong, printOperation, h]

theorem printOperationLong_of_bare (o : OperationDef) (h : OperationDef.isBare o = true) :
    printOperationLong o = tKw "query" :: printOperation o := by
  simp only [OperationDef.isBare, Bool.and_eq_true, beq_iff_eq, List.isEmpty_iff] at h
  obtain ⟨⟨⟨h1, h2⟩, h3⟩, h4⟩ := h
  have hb : OperationDef.isBare o = true := by
    simp [OperationDef.isBare, h1, h2, h3, h4]
  simp [printOperationLong, printOperation, hb, h1, h2, h3, h4, tKw, tName, printVarDefs, printDirectives]

/-
  Type-system documents: the unparser of C06 with the Description printer as a parameter `pd` (the formatter writes a
  description as a block string when it can and as a quoted string otherwise, so the token KIND
  differs from `printDesc`, which always gives a String token; the parser reads both alike), and
  with the five definition lists one after the other instead of interleaved by position
  (`FormatSchemaDocument` writes schema definitions, schema extensions, directive definitions,
  type definitions, type extensions, in this order).  With `pd := printDesc` these are the
  functions of `Print` (`printDefinitionD_printDesc` …). -/

def printArgDefD (pd : Bytes → List Tok) (a : ArgDef) : List Tok :=
  pd a.desc ++ tName a.name :: tP .colon :: printType a.type ++ printDefault a.default ++ printDirectives a.dirs

def printArgDefsD (pd : Bytes → List Tok) (as : List ArgDef) : List Tok :=
  if as.isEmpty then [] else tP .parenL :: as.flatMap (printArgDefD pd) ++ [tP .parenR]

def printFieldDefD (pd : Bytes → List Tok) (f : FieldDef) : List Tok :=
  pd f.desc ++ tName f.name :: printArgDefsD pd f.args ++ tP .colon :: printType f.type ++ printDirectives f.dirs

def printInputFieldD (pd : Bytes → List Tok) (f : FieldDef) : List Tok :=
  pd f.desc ++ tName f.name :: tP .colon :: printType f.type ++ printDefault f.default ++ printDirectives f.dirs

def printEnumValD (pd : Bytes → List Tok) (e : EnumValDef) : List Tok :=
  pd e.desc ++ tName e.name :: printDirectives e.dirs

def printDefBodyD (pd : Bytes → List Tok) (d : Definition) : List Tok :=
  match d.kind with
  | .scalar => tName d.name :: printDirectives d.dirs
  | .object => tName d.name :: printImplements d.interfaces ++ printDirectives d.dirs ++ printBlock (printFieldDefD pd) d.fields
  | .interface => tName d.name :: printImplements d.interfaces ++ printDirectives d.dirs ++ printBlock (printFieldDefD pd) d.fields
  | .union => tName d.name :: printDirectives d.dirs ++ printMembers d.types
  | .enum => tName d.name :: printDirectives d.dirs ++ printBlock (printEnumValD pd) d.enumValues
  | .inputObject => tName d.name :: printDirectives d.dirs ++ printBlock (printInputFieldD pd) d.fields

def printDefinitionD (pd : Bytes → List Tok) (d : Definition) : List Tok :=
  pd d.desc ++ DefKind.keyword d.kind :: printDefBodyD pd d

def printExtensionD (pd : Bytes → List Tok) (d : Definition) : List Tok :=
  tKw "extend" :: DefKind.keyword d.kind :: printDefBodyD pd d

def printSchemaDefD (pd : Bytes → List Tok) (s : SchemaDef) : List Tok :=
  pd s.desc ++ tKw "schema" :: printDirectives s.dirs ++ tP .braceL :: s.opTypes.flatMap printOpType ++ [tP .braceR]

def printDirectiveDefD (pd : Bytes → List Tok) (d : DirectiveDef) : List Tok :=
  pd d.desc ++ tKw "directive" :: tP .at :: tName d.name :: printArgDefsD pd d.args
    ++ (if d.repeatable then [tKw "repeatable"] else []) ++ tKw "on" :: printSep .pipe d.locations

def printSchemaLongD (pd : Bytes → List Tok) (d : SchemaDoc) : List Tok :=
  (d.schema.map (printSchemaDefD pd) ++ d.schemaExt.map printSchemaExt ++ d.directives.map (printDirectiveDefD pd)
    ++ d.definitions.map (printDefinitionD pd) ++ d.extensions.map (printExtensionD pd)).flatten

theorem printArgDefD_printDesc : printArgDefD printDesc = printArgDef := rfl
theorem printArgDefsD_printDesc : printArgDefsD printDesc = printArgDefs := rfl
theorem printFieldDefD_printDesc : printFieldDefD printDesc = printFieldDef := rfl
theorem printInputFieldD_printDesc : printInputFieldD printDesc = printInputField := rfl
theorem printEnumValD_printDesc : printEnumValD printDesc = printEnumVal := rfl
theorem printDefBodyD_printDesc : printDefBodyD printDesc = printDefBody := rfl
theorem printDefinitionD_printDesc : printDefinitionD printDesc = printDefinition := rfl
theorem printExtensionD_printDesc : printExtensionD printDesc = printExtension := rfl
theorem printSchemaDefD_printDesc : printSchemaDefD printDesc = printSchemaDef := rfl
theorem printDirectiveDefD_printDesc : printDirectiveDefD printDesc = printDirectiveDef := rfl

end Gql.Print
