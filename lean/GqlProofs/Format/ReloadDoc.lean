import GqlProofs.Format.ReloadState
import GqlProofs.Format.FormattableSchema
import GqlProofs.Parser.ErasePos
import GqlModel.Parser.Schema
import GqlProofs.Format.SchemaDocOf
/-
  The document that is loaded back: `prelude ⊕ P`, where `P` is — up to positions — the normalised
  document `FormatSchema` prints for the loaded schema `s` (`Reparsed cfg s P`; the parser returns such
  a `P` by `C13_schema_format_parses`).  This file computes the loader state of `prelude ⊕ P`
  (`buildState_noExt`); ReloadLookup.lean relates it, name by name, to the state `s` was made from.
  What the type map and the directive map have in common is said once: `Reprint`, a keyed map whose kept
  values are printed and read back entry by entry (`Ctx.typesR`; `Ctx.dirsR` in ReloadLookup.lean).
-/
namespace Gql.Format
open Gql Gql.Load Gql.Parser

theorem fieldSuppressed_eq (e : Bool) (n : Name) (p : Pos) :
    fieldSuppressed e n p = (!e && p.line == 0 && hasDunder n) := by
  unfold fieldSuppressed hasDunder
  split <;> simp_all

theorem filter_hidden_id {cfg : Cfg} {fs : List FieldDef} (h : ∀ f ∈ fs, hasDunder f.name = false) :
    fs.filter (fun f => !fieldSuppressed cfg.emitBuiltin f.name f.pos) = fs := by
  rw [List.filter_eq_self]
  intro f hf
  simp [fieldSuppressed_eq, h f hf]

theorem dropHidden_id {cfg : Cfg} {d : Definition} (h : ∀ f ∈ d.fields, hasDunder f.name = false) :
    dropHidden cfg d = d := by
  unfold dropHidden
  rw [filter_hidden_id h]

theorem dropHidden_addIntrospection {cfg : Cfg} (hb : cfg.emitBuiltin = false) {d : Definition}
    (h : ∀ f ∈ d.fields, hasDunder f.name = false) : dropHidden cfg (addIntrospection d) = d := by
  unfold dropHidden addIntrospection
  simp only [List.filter_append, filter_hidden_id h]
  have : introspectionFields.filter (fun f => !fieldSuppressed cfg.emitBuiltin f.name f.pos) = [] := by
    rw [hb]; decide
  rw [this, List.append_nil]

theorem dropHidden_finalDef {cfg : Cfg} (hb : cfg.emitBuiltin = false) (q : Option Name) {p : Name × Definition}
    (hf : ∀ f ∈ p.2.fields, hasDunder f.name = false) : dropHidden cfg (finalDef q p).2 = p.2 := by
  unfold finalDef
  split
  · split
    · exact dropHidden_addIntrospection hb hf
    · exact dropHidden_id hf
  · exact dropHidden_id hf

/-- the type definitions `FormatSchema` prints (hidden fields dropped, built-in types skipped) -/
def userDefs (cfg : Cfg) (s : Schema) : List Definition :=
  ((sortedByKey s.types).map (dropHidden cfg)).filter (keepDef cfg)

/-- the directive definitions `FormatSchema` prints -/
def userDirs (cfg : Cfg) (s : Schema) : List DirectiveDef := (sortedByKey s.directives).filter (keepDirectiveDef cfg)

/-- `P` is, up to positions, the normalised document `FormatSchema` prints for `s`, read as a user source -/
def Reparsed (cfg : Cfg) (s : Schema) (P : SchemaDoc) : Prop :=
  P.erasePos = (setBuiltIn false (normSchemaDoc cfg (docOfSchema cfg s))).erasePos

section Components
variable {cfg : Cfg} {s : Schema} {P : SchemaDoc} (h : Reparsed cfg s P)
include h

theorem Reparsed.definitions :
    P.definitions.map Definition.erasePos =
      (userDefs cfg s).map fun x => ({ normDef cfg x with builtIn := false } : Definition).erasePos := by
  have := congrArg SchemaDoc.definitions h
  simpa [SchemaDoc.erasePos, setBuiltIn, normSchemaDoc, docOfSchema, userDefs, List.map_map, Function.comp_def] using this

theorem Reparsed.extensions : P.extensions = [] := by
  have := congrArg SchemaDoc.extensions h
  simpa [SchemaDoc.erasePos, setBuiltIn, normSchemaDoc, docOfSchema, docOfSchemaRaw] using this

theorem Reparsed.directives :
    P.directives.map DirectiveDef.erasePos = (userDirs cfg s).map fun x => (normDirectiveDef cfg x).erasePos := by
  have := congrArg SchemaDoc.directives h
  simpa [SchemaDoc.erasePos, setBuiltIn, normSchemaDoc, docOfSchema, docOfSchemaRaw, userDirs, List.map_map,
    Function.comp_def] using this

theorem Reparsed.schema :
    P.schema.map SchemaDef.erasePos = (mergeSchemaDefs cfg (docOfSchemaRaw s).schema).map SchemaDef.erasePos := by
  have := congrArg SchemaDoc.schema h
  simpa [SchemaDoc.erasePos, setBuiltIn, normSchemaDoc, docOfSchema] using this

theorem Reparsed.schemaExt :
    P.schemaExt.map SchemaDef.erasePos = (mergeSchemaDefs cfg (docOfSchemaRaw s).schemaExt).map SchemaDef.erasePos := by
  have := congrArg SchemaDoc.schemaExt h
  simpa [SchemaDoc.erasePos, setBuiltIn, normSchemaDoc, docOfSchema] using this

end Components

theorem buildState_noExt {sd : SchemaDoc} (hext : sd.extensions = []) (hn : (sd.definitions.map (·.name)).Nodup)
    {dirs : List (Name × DirectiveDef)} (hd : declareDirectives sd.directives [] = .ok dirs) :
    buildState sd = .ok
      { types := sd.definitions.map fun d => (d.name, d), directives := dirs,
        possible := (buildRelations (sd.definitions.map fun d => (d.name, d))).1,
        implements := (buildRelations (sd.definitions.map fun d => (d.name, d))).2 } := by
  have h0 : declareTypes sd.definitions [] = .ok (sd.definitions.map fun d => (d.name, d)) := by
    have := declareTypes_ok (l := sd.definitions) (acc := []) (by simp) hn
    simpa using this
  unfold buildState
  simp only [h0, hext, foldExtensions, hd]

theorem names_nodup_of_perm_filter {α} {nameOf : α → Name} {m : List (Name × α)} (hm : KeysInv nameOf m) {keep : α → Bool}
    {l : List α} (hp : l.Perm ((m.map Prod.snd).filter keep)) : (l.map nameOf).Nodup := by
  rw [(hp.map _).nodup_iff]
  refine (List.filter_sublist.map nameOf).nodup ?_
  rw [List.map_map, List.map_congr_left (g := Prod.fst) fun p hp => show (nameOf ∘ Prod.snd) p = p.1 from hm.2 p hp]
  exact hm.1

theorem map_eq_of_read {α β} {nameOf : α → Name} {e g : α → β} (hn : ∀ {x' x}, e x' = g x → nameOf x' = nameOf x) :
    ∀ {L' L : List α}, L'.map e = L.map g → L'.map nameOf = L.map nameOf
  | [], [], _ => rfl
  | x' :: L', x :: L, h => by
    simp only [List.map_cons, List.cons.injEq] at h ⊢
    exact ⟨hn h.1, map_eq_of_read hn h.2⟩
  | [], _ :: _, h | _ :: _, [], h => by simp at h

/-- `L'` reads back (`e x' = g x`, entry by entry) the kept values `L` of the map `m` -/
structure Reprint {α β} (nameOf : α → Name) (m : List (Name × α)) (keep : α → Bool) (L L' : List α) (e g : α → β) : Prop where
  inv : KeysInv nameOf m
  perm : L.Perm ((m.map Prod.snd).filter keep)
  read : L'.map e = L.map g
  name : ∀ {x' x}, e x' = g x → nameOf x' = nameOf x

namespace Reprint
variable {α β : Type} {nameOf : α → Name} {m : List (Name × α)} {keep : α → Bool} {L L' : List α} {e g : α → β}
  (R : Reprint nameOf m keep L L' e g)
include R

theorem mem_iff {x : α} : x ∈ L ↔ ∃ p ∈ m, keep p.2 = true ∧ p.2 = x := by
  rw [R.perm.mem_iff]
  simp only [List.mem_filter, List.mem_map]
  exact ⟨fun ⟨⟨p, hp, e⟩, hk⟩ => ⟨p, hp, e ▸ hk, e⟩, fun ⟨p, hp, hk, e⟩ => ⟨⟨p, hp, e⟩, e ▸ hk⟩⟩

theorem names : L'.map nameOf = L.map nameOf := map_eq_of_read R.name R.read

theorem nodup : (L'.map nameOf).Nodup := R.names ▸ names_nodup_of_perm_filter R.inv R.perm

theorem find {n : Name} {x : α} (hl : m.lookup n = some x) (hk : keep x = true) :
    ∃ x', L'.find? (nameOf · == n) = some x' ∧ e x' = g x := by
  have hm := mem_of_lookup hl
  obtain ⟨x', hx', ex⟩ := exists_of_map_eq_right R.read (R.mem_iff.mpr ⟨_, hm, hk, rfl⟩)
  have := find?_key_of_mem nameOf R.nodup hx'
  rw [R.name ex, R.inv.2 _ hm] at this
  exact ⟨x', this, ex⟩

theorem of_mem {x' : α} (hx' : x' ∈ L') : ∃ x, m.lookup (nameOf x') = some x ∧ keep x = true ∧ e x' = g x := by
  obtain ⟨x, hx, ex⟩ := exists_of_map_eq_left R.read hx'
  obtain ⟨p, hp, hk, rfl⟩ := R.mem_iff.mp hx
  refine ⟨p.2, ?_, hk, ex⟩
  rw [R.name ex, R.inv.2 p hp]
  exact lookup_of_mem_nodup R.inv.1 hp

end Reprint

/-- everything that is known: `s` was loaded from `prelude ⊕ u` through the state `st`; `P` is the reparsed text -/
structure Ctx (cfg : Cfg) (pre u : SchemaDoc) (s : Schema) (st : LState) (r1 : Roots) (d1 : List Directive)
    (P : SchemaDoc) : Prop where
  hb : cfg.emitBuiltin = false
  hpre : PreludeShape pre
  hu : UserShape pre u
  F : Facts (pre.merge u) s st r1 d1
  hP : Reparsed cfg s P

section
variable {cfg : Cfg} {pre u : SchemaDoc} {s : Schema} {st : LState} {r1 : Roots} {d1 : List Directive} {P : SchemaDoc}
variable (C : Ctx cfg pre u s st r1 d1 P)
include C

theorem Ctx.dropHidden_final {p : Name × Definition} (hp : p ∈ st.types) :
    dropHidden cfg (finalDef (finalRoots (pre.merge u) st r1).query p).2 = p.2 :=
  dropHidden_finalDef C.hb _ (C.F.defOK p hp).fieldNames

theorem Ctx.keepDef_eq (d : Definition) : keepDef cfg d = !d.builtIn := by simp [keepDef, C.hb]

theorem Ctx.userDefs_perm : (userDefs cfg s).Perm ((st.types.map Prod.snd).filter fun d => !d.builtIn) := by
  unfold userDefs
  rw [List.filter_congr fun d _ => C.keepDef_eq d]
  refine (((sortedByKey_perm _).map _).filter _).trans (List.Perm.of_eq ?_)
  rw [C.F.types_eq, List.map_map, List.map_map]
  congr 1
  exact List.map_congr_left fun p hp => C.dropHidden_final hp

theorem Ctx.typesR : Reprint Definition.name st.types (fun d => !d.builtIn) (userDefs cfg s) P.definitions
    Definition.erasePos fun x => ({ normDef cfg x with builtIn := false } : Definition).erasePos :=
  ⟨C.F.typesInv, C.userDefs_perm, C.hP.definitions,
   fun h => by simpa [Definition.erasePos, normDef] using congrArg Definition.name h⟩

theorem Ctx.built : buildState (pre.merge u) = .ok st := C.F.built

theorem Ctx.pre_names_nodup : (pre.definitions.map (·.name)).Nodup := by
  have := buildState_defs_nodup C.built
  simp only [SchemaDoc.merge, List.map_append] at this
  exact (List.nodup_append.mp this).1

theorem Ctx.user_name_not_prelude {x : Definition} (hx : x ∈ userDefs cfg s) {d : Definition} (hd : d ∈ pre.definitions) :
    x.name ≠ d.name := by
  intro e
  obtain ⟨p, hp, hbi, rfl⟩ := C.typesR.mem_iff.mp hx
  have h1 := prelude_types_stored C.hpre C.hu C.built hd
  have h2 := lookup_of_mem_nodup C.F.typesInv.1 hp
  have hk : p.1 = d.name := by rw [← C.F.typesInv.2 p hp]; exact e
  rw [hk, h1] at h2
  simp only [Option.some.injEq] at h2
  rw [← h2, C.hpre.defsBuiltIn d hd] at hbi
  cases hbi

theorem Ctx.reload_names_nodup : ((pre.merge P).definitions.map (·.name)).Nodup := by
  simp only [SchemaDoc.merge, List.map_append]
  rw [List.nodup_append]
  refine ⟨C.pre_names_nodup, C.typesR.nodup, ?_⟩
  intro a ha b hb
  rw [C.typesR.names] at hb
  obtain ⟨d, hd, rfl⟩ := List.mem_map.mp ha
  obtain ⟨x, hx, rfl⟩ := List.mem_map.mp hb
  exact fun e => C.user_name_not_prelude hx hd e.symm

end

end Gql.Format
