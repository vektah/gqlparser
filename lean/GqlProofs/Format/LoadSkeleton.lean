import GqlModel.Schema.Model
import GqlProofs.Format.FmtInvariant
/-
  The loader (`Gql.Load`) decides acceptance from the SKELETON of the definitions only: names, kinds, type expressions,
  whether a default value is present, which arguments a directive application supplies and whether a supplied value is
  `null`.  It never looks at positions (they only go into error messages), descriptions, or the contents of values.
  `skDef d` is a definition with everything else replaced by a constant; `skState st` the loader state with every stored
  definition replaced by its skeleton.  For every validator `v`, `(v (skState st) (sk x)).ok = (v st x).ok` (`…_sk`),
  where `Chk.ok` is "the check passed": two definitions with the same skeleton (in particular a definition and what the
  parser returns for its formatted text) are accepted alike.
-/
namespace Gql.Load
open Gql

def Chk.ok : Chk → Bool
  | .pass => true
  | _ => false

theorem ok_iff {c : Chk} : c.ok = true ↔ c = .pass := by cases c <;> simp [Chk.ok]

@[simp] theorem ok_pass : Chk.pass.ok = true := rfl
@[simp] theorem ok_fail (e : LoadError) : (Chk.fail e).ok = false := rfl
@[simp] theorem ok_panic : Chk.panic.ok = false := rfl
@[simp] theorem ok_failAt (p : Pos) (m : Bytes) : (failAt p m).ok = false := rfl

@[simp] theorem ok_andThen (a : Chk) (b : Unit → Chk) : (a.andThen b).ok = (a.ok && (b ()).ok) := by
  cases a <;> simp [Chk.andThen, Chk.ok]

theorem ok_each {α} (xs : List α) (f : α → Chk) : (each xs f).ok = xs.all (fun x => (f x).ok) := by
  induction xs with
  | nil => rfl
  | cons x rest ih => simp [each, ih]

theorem ok_ite (c : Prop) [Decidable c] (a b : Chk) : (if c then a else b).ok = if c then a.ok else b.ok := by
  split <;> rfl

theorem band_congr {a a' b b' : Bool} (h1 : a = a') (h2 : b = b') : (a && b) = (a' && b') := by rw [h1, h2]

theorem each_map {α β} (g : α → β) (xs : List α) (f : β → Chk) : each (xs.map g) f = each xs (fun x => f (g x)) := by
  induction xs with
  | nil => rfl
  | cons x rest ih => simp [each, ih]

def skValue (v : Value) : Value := .mk (if v.kind = .null then .null else .int) [] .nil Pos.zero

def skArg (a : Argument) : Argument := { name := a.name, value := skValue a.value, pos := Pos.zero }

def skDir (d : Directive) : Directive := { name := d.name, args := d.args.map skArg, pos := Pos.zero }

def skArgDef (a : ArgDef) : ArgDef :=
  { desc := [], name := a.name, default := a.default.map skValue, type := a.type.erasePos, dirs := a.dirs.map skDir,
    pos := Pos.zero }

def skField (f : FieldDef) : FieldDef :=
  { desc := [], name := f.name, args := f.args.map skArgDef, default := f.default.map skValue, type := f.type.erasePos,
    dirs := f.dirs.map skDir, pos := Pos.zero }

def skEnumVal (e : EnumValDef) : EnumValDef := { desc := [], name := e.name, dirs := e.dirs.map skDir, pos := Pos.zero }

def skDef (d : Definition) : Definition :=
  { kind := d.kind, desc := [], name := d.name, dirs := d.dirs.map skDir, interfaces := d.interfaces,
    fields := d.fields.map skField, types := d.types, enumValues := d.enumValues.map skEnumVal, pos := Pos.zero,
    builtIn := d.builtIn }

def skDirDef (d : DirectiveDef) : DirectiveDef :=
  { desc := [], name := d.name, args := d.args.map skArgDef, locations := d.locations, repeatable := d.repeatable,
    pos := Pos.zero }

def skOpType (o : OpTypeDef) : OpTypeDef := { op := o.op, type := o.type, pos := Pos.zero }

def skTypes (l : List (Name × Definition)) : List (Name × Definition) := l.map fun p => (p.1, skDef p.2)
def skDirs (l : List (Name × DirectiveDef)) : List (Name × DirectiveDef) := l.map fun p => (p.1, skDirDef p.2)

def skState (st : LState) : LState :=
  { types := skTypes st.types, directives := skDirs st.directives, possible := st.possible, implements := st.implements }

@[simp] theorem skArg_name (a : Argument) : (skArg a).name = a.name := rfl
@[simp] theorem skArg_value (a : Argument) : (skArg a).value = skValue a.value := rfl
@[simp] theorem skDir_name (d : Directive) : (skDir d).name = d.name := rfl
@[simp] theorem skDir_args (d : Directive) : (skDir d).args = d.args.map skArg := rfl
@[simp] theorem skArgDef_name (a : ArgDef) : (skArgDef a).name = a.name := rfl
@[simp] theorem skArgDef_default (a : ArgDef) : (skArgDef a).default = a.default.map skValue := rfl
@[simp] theorem skArgDef_type (a : ArgDef) : (skArgDef a).type = a.type.erasePos := rfl
@[simp] theorem skArgDef_dirs (a : ArgDef) : (skArgDef a).dirs = a.dirs.map skDir := rfl
@[simp] theorem skField_name (f : FieldDef) : (skField f).name = f.name := rfl
@[simp] theorem skField_args (f : FieldDef) : (skField f).args = f.args.map skArgDef := rfl
@[simp] theorem skField_type (f : FieldDef) : (skField f).type = f.type.erasePos := rfl
@[simp] theorem skField_dirs (f : FieldDef) : (skField f).dirs = f.dirs.map skDir := rfl
@[simp] theorem skEnumVal_name (e : EnumValDef) : (skEnumVal e).name = e.name := rfl
@[simp] theorem skEnumVal_dirs (e : EnumValDef) : (skEnumVal e).dirs = e.dirs.map skDir := rfl
@[simp] theorem skDef_kind (d : Definition) : (skDef d).kind = d.kind := rfl
@[simp] theorem skDef_name (d : Definition) : (skDef d).name = d.name := rfl
@[simp] theorem skDef_dirs (d : Definition) : (skDef d).dirs = d.dirs.map skDir := rfl
@[simp] theorem skDef_interfaces (d : Definition) : (skDef d).interfaces = d.interfaces := rfl
@[simp] theorem skDef_fields (d : Definition) : (skDef d).fields = d.fields.map skField := rfl
@[simp] theorem skDef_types (d : Definition) : (skDef d).types = d.types := rfl
@[simp] theorem skDef_enumValues (d : Definition) : (skDef d).enumValues = d.enumValues.map skEnumVal := rfl
@[simp] theorem skDef_builtIn (d : Definition) : (skDef d).builtIn = d.builtIn := rfl
@[simp] theorem skDirDef_name (d : DirectiveDef) : (skDirDef d).name = d.name := rfl
@[simp] theorem skDirDef_args (d : DirectiveDef) : (skDirDef d).args = d.args.map skArgDef := rfl
@[simp] theorem skDirDef_locations (d : DirectiveDef) : (skDirDef d).locations = d.locations := rfl

theorem lookup_skTypes (l : List (Name × Definition)) (n : Name) : (skTypes l).lookup n = (l.lookup n).map skDef :=
  lookup_mapSnd skDef l n

theorem lookup_skDirs (l : List (Name × DirectiveDef)) (n : Name) : (skDirs l).lookup n = (l.lookup n).map skDirDef :=
  lookup_mapSnd skDirDef l n

theorem type?_skState (st : LState) (n : Name) : (skState st).type? n = (st.type? n).map skDef := lookup_skTypes _ _

theorem namedOf_erasePos (t : GType) : namedOf t.erasePos = namedOf t := by cases t <;> rfl
theorem nonNull_erasePos (t : GType) : t.erasePos.nonNull = t.nonNull := by cases t <;> rfl

theorem name_erasePos (t : GType) : t.erasePos.name = t.name := by
  induction t with
  | named n nn p => rfl
  | list e nn p ih => simpa [GType.erasePos, GType.name] using ih

theorem isCovariant_sk (st : LState) : ∀ r a : GType, isCovariant (skState st) r.erasePos a.erasePos = isCovariant st r a := by
  intro r
  induction r with
  | named rn rnn rp =>
    intro a
    simp [isCovariant, GType.erasePos, nonNull_erasePos, namedOf_erasePos, skState]
  | list re rnn rp ih =>
    intro a
    cases a with
    | named an ann ap => simp [isCovariant, GType.erasePos]
    | list ae ann ap => simp [isCovariant, GType.erasePos, ih]

theorem ok_validateName (p : Pos) (n : Name) : (validateName p n).ok = !hasDunder n := by
  unfold validateName
  split <;> simp_all

theorem ok_validateTypeRef (st : LState) (t : GType) : (validateTypeRef st t).ok = (st.type? t.name).isSome := by
  unfold validateTypeRef
  split <;> simp_all

theorem validateTypeRef_sk (st : LState) (t : GType) :
    (validateTypeRef (skState st) t.erasePos).ok = (validateTypeRef st t).ok := by
  simp [ok_validateTypeRef, type?_skState, name_erasePos]

theorem argDefForName_sk (as : List ArgDef) (n : Name) :
    argDefForName (as.map skArgDef) n = (argDefForName as n).map skArgDef := by
  unfold argDefForName
  rw [List.find?_map]
  rfl

theorem argForName_sk (as : List Argument) (n : Name) : argForName (as.map skArg) n = (argForName as n).map skArg := by
  unfold argForName
  rw [List.find?_map]
  rfl

theorem fieldForName_sk (fs : List FieldDef) (n : Name) : fieldForName (fs.map skField) n = (fieldForName fs n).map skField := by
  unfold fieldForName
  rw [List.find?_map]
  rfl

theorem skValue_null (v : Value) : ((skValue v).kind = ValueKind.null) ↔ (v.kind = ValueKind.null) := by
  cases v with
  | mk k raw ch p =>
    simp only [skValue, Value.kind]
    by_cases h : k = .null <;> simp [h]

theorem validateDirectiveUse_sk (st : LState) (loc : Bytes) (cur : Option Name) (dir : Directive) :
    (validateDirectiveUse (skState st) loc cur (skDir dir)).ok = (validateDirectiveUse st loc cur dir).ok := by
  unfold validateDirectiveUse
  simp only [ok_andThen, ok_validateName]
  rw [skDir_name, show (skState st).directives.lookup dir.name = _ from lookup_skDirs _ _]
  refine band_congr rfl (band_congr ?_ ?_)
  · cases cur with
    | none => rfl
    | some c => simp only [ok_ite, ok_failAt, ok_pass]
  cases st.directives.lookup dir.name with
  | none => rfl
  | some dd =>
    simp only [Option.map, ok_andThen, ok_each, ok_ite, ok_failAt, ok_pass]
    rw [skDir_args, skDirDef_args, skDirDef_locations, List.all_map, List.all_map]
    refine band_congr rfl (band_congr ?_ ?_)
    · apply List.all_congr rfl
      intro arg
      simp only [Function.comp]
      rw [skArg_name, argDefForName_sk]
      cases argDefForName dd.args arg.name <;> rfl
    · apply List.all_congr rfl
      intro sa
      simp only [Function.comp]
      rw [skArgDef_type, skArgDef_default, skArgDef_name, nonNull_erasePos, Option.isNone_map, argForName_sk]
      split
      · cases argForName dir.args sa.name with
        | none => rfl
        | some a =>
          simp only [Option.map]
          rw [skArg_value]
          by_cases hk : a.value.kind = ValueKind.null
          · simp [hk, (skValue_null a.value).mpr hk]
          · simp [hk, mt (skValue_null a.value).mp hk]
      · rfl

theorem validateDirectives_sk (st : LState) (ds : List Directive) (loc : Bytes) (cur : Option Name) :
    (validateDirectives (skState st) (ds.map skDir) loc cur).ok = (validateDirectives st ds loc cur).ok := by
  unfold validateDirectives
  rw [each_map, ok_each, ok_each]
  exact List.all_congr rfl fun d => validateDirectiveUse_sk st loc cur d

theorem validateArgs_sk (st : LState) (args : List ArgDef) (cur : Option Name) :
    (validateArgs (skState st) (args.map skArgDef) cur).ok = (validateArgs st args cur).ok := by
  unfold validateArgs
  rw [each_map, ok_each, ok_each]
  apply List.all_congr rfl
  intro a
  simp only [ok_andThen, ok_validateName]
  rw [skArgDef_name, skArgDef_type, skArgDef_dirs, validateTypeRef_sk, validateDirectives_sk, name_erasePos, type?_skState]
  congr 2
  cases st.type? a.type.name with
  | none => rfl
  | some d =>
    simp only [Option.map]
    rw [skDef_kind]
    split <;> rfl

theorem validateTypeImplementsAncestors_sk (st : LState) (d : Definition) (i : Name) :
    (validateTypeImplementsAncestors (skState st) (skDef d) i).ok = (validateTypeImplementsAncestors st d i).ok := by
  unfold validateTypeImplementsAncestors
  rw [type?_skState]
  cases st.type? i with
  | none => rfl
  | some intf =>
    simp only [Option.map, ok_each]
    rw [skDef_interfaces, skDef_interfaces, skDef_name]
    apply List.all_congr rfl
    intro t
    simp only [ok_ite, ok_failAt, ok_pass]

theorem validateImplementsField_sk (st : LState) (d intf : Definition) (rf : FieldDef) :
    (validateImplementsField (skState st) (skDef d) (skDef intf) (skField rf)).ok =
      (validateImplementsField st d intf rf).ok := by
  unfold validateImplementsField
  rw [skDef_fields, skField_name, fieldForName_sk]
  cases fieldForName d.fields rf.name with
  | none => rfl
  | some found =>
    simp only [Option.map, ok_andThen, ok_each]
    rw [skField_type, skField_type, skField_args, skField_args, isCovariant_sk, List.all_map, List.all_map]
    refine band_congr ?_ (band_congr ?_ ?_)
    · cases isCovariant st rf.type found.type with
      | none => rfl
      | some b => cases b <;> rfl
    · apply List.all_congr rfl
      intro ra
      simp only [Function.comp]
      rw [skArgDef_name, argDefForName_sk]
      cases argDefForName found.args ra.name with
      | none => rfl
      | some fa =>
        simp only [Option.map]
        rw [skArgDef_type, skArgDef_type, Format.render_erasePos, Format.render_erasePos]
        simp only [ok_ite, ok_failAt, ok_pass]
    · apply List.all_congr rfl
      intro fa
      simp only [Function.comp]
      rw [skArgDef_name, skArgDef_type, skArgDef_default, nonNull_erasePos, Option.isNone_map, argDefForName_sk,
        Option.isNone_map]
      simp only [ok_ite, ok_failAt, ok_pass]

theorem validateImplements_sk (st : LState) (d : Definition) (i : Name) :
    (validateImplements (skState st) (skDef d) i).ok = (validateImplements st d i).ok := by
  unfold validateImplements
  rw [type?_skState]
  cases st.type? i with
  | none => rfl
  | some intf =>
    simp only [Option.map]
    rw [skDef_kind, skDef_fields]
    split
    · rfl
    · simp only [ok_andThen, each_map, ok_each, validateTypeImplementsAncestors_sk, validateImplementsField_sk]

theorem checkUniqueFields_sk (dn : Name) (fs : List FieldDef) :
    (checkUniqueFields dn (fs.map skField)).ok = (checkUniqueFields dn fs).ok := by
  induction fs with
  | nil => rfl
  | cons f rest ih =>
    simp only [List.map_cons, checkUniqueFields, ok_andThen, ih, each_map, ok_each]
    refine band_congr ?_ rfl
    apply List.all_congr rfl
    intro f2
    rw [skField_name, skField_name]
    simp only [ok_ite, ok_failAt, ok_pass]

theorem validateKindSpecific_sk (st : LState) (d : Definition) :
    (validateKindSpecific (skState st) (skDef d)).ok = (validateKindSpecific st d).ok := by
  unfold validateKindSpecific
  -- the kind test on the type of every field: a test of the stored definition's kind in both states
  have hfields : ∀ (g g' : FieldDef → Definition → Chk), (∀ f t, (g' (skField f) (skDef t)).ok = (g f t).ok) →
      (each (d.fields.map skField) fun f =>
        match (skState st).type? f.type.name with | some t => g' f t | none => Chk.pass).ok =
      (each d.fields fun f => match st.type? f.type.name with | some t => g f t | none => Chk.pass).ok := by
    intro g g' hg
    rw [each_map, ok_each, ok_each]
    apply List.all_congr rfl
    intro f
    rw [skField_type, name_erasePos, type?_skState]
    cases st.type? f.type.name with
    | none => rfl
    | some t => exact hg f t
  rw [skDef_kind, skDef_fields, skDef_enumValues]
  cases d.kind with
  | scalar => rfl
  | union => rfl
  | object | interface | inputObject =>
    simp only [List.isEmpty_map]
    split
    · rfl
    · refine hfields _ _ fun f t => ?_
      rw [skDef_kind]
      simp only [ok_ite, ok_failAt, ok_pass]
  | enum =>
    simp only [List.isEmpty_map]
    split
    · rfl
    · rw [each_map, ok_each, ok_each]
      apply List.all_congr rfl
      intro v
      rw [skEnumVal_name, skEnumVal_dirs]
      simp only [ok_andThen, ok_validateName, validateDirectives_sk, ok_ite, ok_failAt, ok_pass]

theorem validateDefinition_sk (st : LState) (d : Definition) :
    (validateDefinition (skState st) (skDef d)).ok = (validateDefinition st d).ok := by
  unfold validateDefinition
  rw [skDef_fields, skDef_name, skDef_builtIn, skDef_dirs, skDef_kind, skDef_types, skDef_interfaces]
  simp only [ok_andThen, validateKindSpecific_sk, checkUniqueFields_sk, validateDirectives_sk]
  refine band_congr ?_ (band_congr ?_ (band_congr ?_ (band_congr rfl (band_congr rfl (band_congr ?_ rfl)))))
  · rw [each_map, ok_each, ok_each]
    apply List.all_congr rfl
    intro f
    rw [skField_name, skField_type, skField_args, skField_dirs]
    simp only [ok_andThen, ok_validateName, validateTypeRef_sk, validateArgs_sk, validateDirectives_sk]
  · rw [ok_each, ok_each]
    apply List.all_congr rfl
    intro m
    rw [type?_skState]
    cases st.type? m with
    | none => rfl
    | some t =>
      simp only [Option.map]
      rw [skDef_kind]
      simp only [ok_ite, ok_failAt, ok_pass]
  · rw [ok_each, ok_each]
    exact List.all_congr rfl fun i => validateImplements_sk st d i
  · simp only [ok_ite, ok_validateName, ok_pass]

theorem validateDirectiveDef_sk (st : LState) (dd : DirectiveDef) :
    (validateDirectiveDef (skState st) (skDirDef dd)).ok = (validateDirectiveDef st dd).ok := by
  unfold validateDirectiveDef
  simp only [ok_andThen, ok_validateName, skDirDef_name, skDirDef_args, validateArgs_sk]

end Gql.Load
