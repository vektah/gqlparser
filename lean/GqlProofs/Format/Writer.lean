import GqlProofs.Format.Description
/-
  Writer-state lemmas (the pad / line-head state machine of the formatter).

  `lead cfg w` is what `WriteWord` / `WriteString` put in front of their argument in state `w`.
  A token is glued to the previous output exactly when `lead cfg w = []`.  The lemmas below say
  when that can happen: never after `WriteWord` (it sets `padNext`), unless `NoPadding` is called
  explicitly; and at a line head only a newline precedes.
-/
namespace Gql.Format
open Gql Gql.Lexer

/-- reachable-state invariant: at a line head the text written so far ends with a newline -/
def W.Inv (w : W) : Prop := w.lineHead = true → ∃ pre, w.text = pre ++ [10]

theorem inv_init : W.Inv {} := by intro h; simp at h

theorem writeWord_text (cfg : Cfg) (x : Bytes) (w : W) :
    (writeWord cfg x w).text = w.text ++ lead cfg w ++ trimSpace x := by
  obtain ⟨ch, n, p, lh⟩ := w
  cases p <;> cases lh <;> simp [writeWord, lead, writeIndent, W.raw, W.text]

theorem writeWord_state (cfg : Cfg) (x : Bytes) (w : W) :
    (writeWord cfg x w).lineHead = false ∧ (writeWord cfg x w).padNext = true ∧
    (writeWord cfg x w).indentSize = w.indentSize := by
  obtain ⟨ch, n, p, lh⟩ := w
  cases p <;> cases lh <;> simp [writeWord, writeIndent, W.raw]

theorem lead_eq_nil_iff (cfg : Cfg) (w : W) :
    lead cfg w = [] ↔ (w.lineHead = false ∧ w.padNext = false) ∨
      (w.lineHead = true ∧ repeatBytes cfg.indent w.indentSize = []) := by
  obtain ⟨ch, n, p, lh⟩ := w
  cases p <;> cases lh <;> simp [lead]

theorem writeWord_writeStr (cfg : Cfg) (a s : Bytes) (w : W) :
    (writeStr cfg s (writeWord cfg a w)).text = w.text ++ lead cfg w ++ trimSpace a ++ [32] ++ s := by
  have st := writeWord_state cfg a w
  rw [writeStr_text, writeWord_text]
  simp [lead, st.1, st.2.1]

/-- after `WriteString` the next token is glued (that is how `@name`, `$var`, `name:` arise);
    `NeedPadding` in between restores the space -/
theorem writeStr_writeWord (cfg : Cfg) (s b : Bytes) (w : W) :
    (writeWord cfg b (writeStr cfg s w)).text = w.text ++ lead cfg w ++ s ++ trimSpace b := by
  have st := writeStr_state cfg s w
  rw [writeWord_text, writeStr_text]
  simp [lead, st.1, st.2.1]

theorem writeStr_needPadding_writeWord (cfg : Cfg) (s b : Bytes) (w : W) :
    (writeWord cfg b (needPadding (writeStr cfg s w))).text = w.text ++ lead cfg w ++ s ++ [32] ++ trimSpace b := by
  have st := writeStr_state cfg s w
  rw [writeWord_text]
  have : (needPadding (writeStr cfg s w)).text = (writeStr cfg s w).text := rfl
  rw [this, writeStr_text]
  simp [lead, needPadding, st.1]

theorem writeNewline_writeWord (cfg : Cfg) (b : Bytes) (w : W) :
    (writeWord cfg b (writeNewline w)).text
      = w.text ++ [10] ++ repeatBytes cfg.indent w.indentSize ++ trimSpace b := by
  have st := writeNewline_state w
  rw [writeWord_text, writeNewline_text]
  simp [lead, st.1, st.2.2]

theorem inv_writeNewline (w : W) : (writeNewline w).Inv := by
  intro _; exact ⟨w.text, writeNewline_text w⟩

theorem inv_writeWord (cfg : Cfg) (x : Bytes) (w : W) : (writeWord cfg x w).Inv := by
  intro h; rw [(writeWord_state cfg x w).1] at h; simp at h

theorem inv_writeStr (cfg : Cfg) (x : Bytes) (w : W) : (writeStr cfg x w).Inv := by
  intro h; rw [(writeStr_state cfg x w).1] at h; simp at h

theorem inv_flags (w : W) (h : w.Inv) : (noPadding w).Inv ∧ (needPadding w).Inv ∧ (incIndent w).Inv ∧ (decIndent w).Inv :=
  ⟨h, h, h, h⟩

end Gql.Format
