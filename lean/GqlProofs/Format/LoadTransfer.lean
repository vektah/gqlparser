import GqlProofs.Format.LoadSkeleton
import GqlProofs.Schema.Perm
/-
  Transfer of acceptance between two loader states whose stored definitions have the same
  skeletons under the same names (`SkEq`): whatever passes its validator in the one passes in the
  other.  The order of the maps does not matter (everything is stated through lookups).
-/
namespace Gql.Load
open Gql

theorem isCovariant_skState (st : LState) : ∀ r a : GType, isCovariant (skState st) r a = isCovariant st r a := by
  intro r
  induction r with
  | named rn rnn rp => intro a; simp [isCovariant, skState]
  | list re rnn rp ih =>
    intro a
    cases a with
    | named an ann ap => simp [isCovariant]
    | list ae ann ap => simp [isCovariant, ih]

structure SkEq (st st' : LState) : Prop where
  types : ∀ n, (st'.types.lookup n).map skDef = (st.types.lookup n).map skDef
  dirs : ∀ n, (st'.directives.lookup n).map skDirDef = (st.directives.lookup n).map skDirDef
  cov : ∀ r a, isCovariant st' r a = isCovariant st r a

theorem SkEq.stateEq {st st' : LState} (E : SkEq st st') : StateEq (skState st) (skState st') :=
  ⟨fun n => by rw [type?_skState, type?_skState]; exact E.types n,
   fun n => by
     show (skDirs st'.directives).lookup n = (skDirs st.directives).lookup n
     rw [lookup_skDirs, lookup_skDirs]; exact E.dirs n,
   fun r a => by rw [isCovariant_skState, isCovariant_skState]; exact E.cov r a⟩

section
variable {st st' : LState} (E : SkEq st st')
include E

theorem validateDefinition_transfer {d d' : Definition} (h : skDef d' = skDef d)
    (hp : validateDefinition st d = .pass) : validateDefinition st' d' = .pass := by
  rw [← ok_iff] at hp ⊢
  rw [← validateDefinition_sk, h, validateDefinition_congr E.stateEq, validateDefinition_sk]
  exact hp

theorem validateDirectiveDef_transfer {d d' : DirectiveDef} (h : skDirDef d' = skDirDef d)
    (hp : validateDirectiveDef st d = .pass) : validateDirectiveDef st' d' = .pass := by
  rw [← ok_iff] at hp ⊢
  rw [← validateDirectiveDef_sk, h, validateDirectiveDef_congr E.stateEq, validateDirectiveDef_sk]
  exact hp

theorem validateDirectives_transfer {ds ds' : List Directive} (h : ds'.map skDir = ds.map skDir) (loc : Bytes)
    (cur : Option Name) (hp : validateDirectives st ds loc cur = .pass) : validateDirectives st' ds' loc cur = .pass := by
  rw [← ok_iff] at hp ⊢
  rw [← validateDirectives_sk, h, validateDirectives_congr E.stateEq, validateDirectives_sk]
  exact hp

/-- the two passes over the maps, as `Checked` records them -/
theorem typeDefs_transfer (h : ∀ k d, st.types.lookup k = some d → DefOK st d) :
    ∀ k d, st'.types.lookup k = some d → DefOK st' d := fun k _ hd' =>
  let ⟨d, hd, hsk⟩ := exists_of_map_eq_some (E.types k) hd'
  validateDefinition_pass_iff.mp (validateDefinition_transfer E hsk (validateDefinition_pass_iff.mpr (h k d hd)))

theorem directiveDefs_transfer
    (h : ∀ k dd, st.directives.lookup k = some dd → hasDunder dd.name = false ∧ validateArgs st dd.args (some dd.name) = .pass) :
    ∀ k dd, st'.directives.lookup k = some dd →
      hasDunder dd.name = false ∧ validateArgs st' dd.args (some dd.name) = .pass := fun k _ hd' =>
  let ⟨d, hd, hsk⟩ := exists_of_map_eq_some (E.dirs k) hd'
  validateDirectiveDef_pass_iff.mp (validateDirectiveDef_transfer E hsk (validateDirectiveDef_pass_iff.mpr (h k d hd)))

end

end Gql.Load
