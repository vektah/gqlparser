import GqlProofs.Lexer.SpecStep
import GqlProofs.Lexer.Utf8Valid
import GqlProofs.Format.NumExt
import GqlProofs.Format.QuoteLex
import GqlModel.Syntax.Print
import GqlModel.Format.Model
/-
  One lemma per kind of token text the formatter emits: the text, followed by anything `Follow`
  allows, is read by `readToken` (from every cursor) as exactly one token of the expected kind and
  value, and the rest is left untouched (`TokText`).
-/
namespace Gql.Format
open Gql Gql.Lexer Gql.Grammar Gql.Print

theorem readToken_stop (b : Nat) (r : Bytes) (c : Cur)
    (h : b ≠ 9 ∧ b ≠ 32 ∧ b ≠ 44 ∧ b ≠ 10 ∧ b ≠ 13 ∧ b ≠ 0xEF) :
    readToken (b :: r) c = readTokenBody (b :: r) c := by
  unfold readToken; rw [ws_stop b r c h]

theorem simpleTok_facts (k : Kind) (v : Bytes) (c : Cur) (nb nr : Nat) (rest : Bytes)
    (hk : k ≠ .comment ∧ k ≠ .eof) :
    ∃ tk c', simpleTok k v c nb nr rest = .tok tk rest c' ∧ Tok.ofToken tk = { kind := k, value := v } ∧
      significant tk = true := by
  refine ⟨_, _, rfl, rfl, ?_⟩
  simp [significant, hk.1, hk.2]

theorem tokText_punct (b : Nat) (k : Kind) (hp : punct b = some k) : TokText [b] (tP k) false := by
  intro post _ c
  have hm := mem_of_lookup hp
  have hall : ∀ p ∈ punctTable, (p.1 ≠ 9 ∧ p.1 ≠ 32 ∧ p.1 ≠ 44 ∧ p.1 ≠ 10 ∧ p.1 ≠ 13 ∧ p.1 ≠ 0xEF) ∧
      (p.2 ≠ Kind.comment ∧ p.2 ≠ Kind.eof) := by decide
  obtain ⟨h1, h2⟩ := hall (b, k) hm
  show ∃ tk c', readToken (b :: post) c = _ ∧ _
  rw [readToken_stop b post c h1, readTokenBody_punct b post c k hp]
  exact simpleTok_facts k [] c 1 1 post h2

theorem tokText_bang : TokText [33] (tP .bang) false := tokText_punct 33 .bang (by decide)
theorem tokText_dollar : TokText [36] (tP .dollar) false := tokText_punct 36 .dollar (by decide)
theorem tokText_amp : TokText [38] (tP .amp) false := tokText_punct 38 .amp (by decide)
theorem tokText_colon : TokText [58] (tP .colon) false := tokText_punct 58 .colon (by decide)
theorem tokText_equals : TokText [61] (tP .equals) false := tokText_punct 61 .equals (by decide)
theorem tokText_bracketL : TokText [91] (tP .bracketL) false := tokText_punct 91 .bracketL (by decide)
theorem tokText_bracketR : TokText [93] (tP .bracketR) false := tokText_punct 93 .bracketR (by decide)
theorem tokText_braceL : TokText [123] (tP .braceL) false := tokText_punct 123 .braceL (by decide)
theorem tokText_braceR : TokText [125] (tP .braceR) false := tokText_punct 125 .braceR (by decide)

theorem tokText_spread : TokText [46, 46, 46] (tP .spread) false := by
  intro post _ c
  show ∃ tk c', readToken (46 :: 46 :: 46 :: post) c = _ ∧ _
  rw [readToken_stop 46 _ c (by decide), readTokenBody_other 46 _ c (by decide)]
  simp only [if_true]
  exact simpleTok_facts .spread [] c 3 3 post (by decide)

/-- a lexer Name: NameStart NameContinue* -/
def isNameB : Bytes → Bool
  | [] => false
  | b :: tl => isNameStart b && tl.all isNameCont

theorem nameSpan_all (tl X : Bytes) (h : tl.all isNameCont = true) (hX : Inert X) :
    nameSpan (tl ++ X) = (tl, X) := by
  induction tl with
  | nil =>
    cases X with
    | nil => simp [nameSpan]
    | cons c t => simp [nameSpan, hX.numEnd.isNameCont]
  | cons a tl ih =>
    simp only [List.all_cons, Bool.and_eq_true] at h
    simp [nameSpan, h.1, ih h.2]

theorem isNameStart_facts {b : Nat} (h : isNameStart b = true) :
    (b ≠ 9 ∧ b ≠ 32 ∧ b ≠ 44 ∧ b ≠ 10 ∧ b ≠ 13 ∧ b ≠ 0xEF) ∧ punct b = none ∧ b ≠ 46 ∧ b ≠ 35 := by
  have hb : (65 ≤ b ∧ b ≤ 90) ∨ (97 ≤ b ∧ b ≤ 122) ∨ b = 95 := by
    simp [isNameStart] at h; omega
  refine ⟨by omega, ?_, by omega, by omega⟩
  cases hp : punct b with
  | none => rfl
  | some k =>
    have hm := mem_of_lookup hp
    have hall : ∀ p ∈ punctTable, isNameStart p.1 = false := by decide
    have := hall (b, k) hm
    simp [h] at this

theorem tokText_name (n : Name) (h : isNameB n = true) : TokText n (tName n) true := by
  intro post hf c
  cases n with
  | nil => simp [isNameB] at h
  | cons b tl =>
    simp only [isNameB, Bool.and_eq_true] at h
    obtain ⟨hws, hp, h46, h35⟩ := isNameStart_facts h.1
    show ∃ tk c', readToken (b :: (tl ++ post)) c = _ ∧ _
    rw [readToken_stop b _ c hws, readTokenBody_name b _ c hp h46 h35 h.1,
      nameSpan_all tl post h.2 (Inert_of_Follow hf)]
    exact simpleTok_facts .name (b :: tl) c _ _ post (by decide)

theorem tokText_kw (s : String) (h : isNameB (str s) = true) : TokText (str s) (tKw s) true :=
  tokText_name (str s) h

theorem numberToken_head {b : Nat} {tl : Bytes} {p : Kind × List Nat × List Nat}
    (h : Spec.numberToken (b :: tl) = some p) : b = 45 ∨ isDigit b = true := by
  obtain ⟨k, lex, r⟩ := p
  obtain ⟨e, ⟨_, y, rfl, ⟨sg, ds, rfl, hsg, hd, -⟩, -⟩, -⟩ := numberToken_iff.1 h
  obtain ⟨d, t, rfl, hd48⟩ := hd.head
  rcases hsg with rfl | rfl <;> injection e with e _ <;> subst e
  · exact .inr (isDigitC_iff.2 hd48)
  · exact .inl rfl

theorem tokText_number (k : Kind) (raw : Bytes) (hk : k = .int ∨ k = .float) (h : numRaw k raw = true) :
    TokText raw { kind := k, value := raw } true := by
  intro post hf c
  have h0 : Spec.numberToken raw = some (k, raw, []) := by simpa [numRaw] using h
  cases raw with
  | nil => simp [Spec.numberToken, Spec.integerPart] at h0
  | cons b tl =>
    have hhd := numberToken_head h0
    have hb : (b = 45 ∨ (48 ≤ b ∧ b ≤ 57)) := by
      rcases hhd with h | h
      · exact Or.inl h
      · right; simpa [isDigit] using h
    have hns : ¬ isNameStart b = true := by simp [isNameStart]; omega
    have hp : punct b = none := by
      cases hp : punct b with
      | none => rfl
      | some k' =>
        have hm := mem_of_lookup hp
        have hall : ∀ p ∈ punctTable, ¬ (p.1 = 45 ∨ (48 ≤ p.1 ∧ p.1 ≤ 57)) := by decide
        exact absurd hb (hall (b, k') hm)
    show ∃ tk c', readToken (b :: (tl ++ post)) c = _ ∧ _
    rw [readToken_stop b _ c (by omega), readTokenBody_number b _ c hp (by omega) (by omega) hns hhd]
    have := readNumber_numRaw k (b :: tl) post h (Inert_of_Follow hf) c
    simp only [List.cons_append] at this
    rw [this]
    refine ⟨_, _, rfl, rfl, ?_⟩
    rcases hk with rfl | rfl <;> simp [significant]

/-- `hblk`: the empty value followed by a quote is the start of a block string -/
theorem readToken_gqlQuote_bytes (bs : Bytes) (rest : Bytes) (c : Cur)
    (hblk : bs ≠ [] ∨ rest.head? ≠ some 34) :
    ∃ t c', readToken (gqlQuote bs ++ rest) c = .tok t rest c' ∧
      t.kind = .string ∧ t.value = bs := by
  have hws : ws (34 :: (gqlQuoteBody bs ++ 34 :: rest)) c
      = (34 :: (gqlQuoteBody bs ++ 34 :: rest), c) := by
    rw [ws.eq_def]; simp
  have hnb : ∀ tl', gqlQuoteBody bs ++ 34 :: rest ≠ 34 :: 34 :: tl' := by
    intro tl' h
    cases bs with
    | nil =>
      simp [gqlQuoteBody] at h
      rcases hblk with h' | h'
      · exact h' rfl
      · cases rest with
        | nil => simp at h
        | cons x xs => simp at h h'; exact h' h.1
    | cons b xs =>
      simp only [gqlQuoteBody] at h
      obtain ⟨x, xs', hg, hx⟩ := gqlEscapeByte_head b
      rw [hg] at h
      simp at h
      omega
  obtain ⟨t, c', h1, h2, h3⟩ := rsl_gqlQuoteBody_bytes c rest _ bs (Nat.le_refl _) (c.adv 1 1) [] false
  refine ⟨t, c', ?_, h2, by simpa using h3⟩
  have hq : gqlQuote bs ++ rest = 34 :: (gqlQuoteBody bs ++ 34 :: rest) := by
    simp [gqlQuote]
  rw [hq]
  unfold readToken
  rw [hws]
  rw [readTokenBody_string _ c (fun body e => hnb body e)]
  exact h1

/-- a string value: well-formed UTF-8 (decidable) -/
def strRaw (raw : Bytes) : Bool := (Utf8.decode raw).isSome

theorem tokText_string_bytes (raw : Bytes) :
    TokText (quoteString raw) { kind := .string, value := raw } true := by
  intro post hf c
  have hblk : raw ≠ [] ∨ post.head? ≠ some 34 := by
    right
    cases post with
    | nil => simp
    | cons x t =>
      have := sepByte_cases (hf rfl x t rfl)
      simp; omega
  obtain ⟨t, c', h1, h2, h3⟩ := readToken_gqlQuote_bytes raw post c hblk
  refine ⟨t, c', h1, ?_, ?_⟩
  · cases t; simp_all [Tok.ofToken]
  · simp [significant, h2]

theorem tokText_string (raw : Bytes) (_h : strRaw raw = true) :
    TokText (quoteString raw) { kind := .string, value := raw } true :=
  tokText_string_bytes raw

end Gql.Format
