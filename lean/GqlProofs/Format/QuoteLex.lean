import GqlModel.Lexer.Model
import GqlModel.Format.Quote
import GqlProofs.Format.Utf8
/-
  The lexer model reads `gqlQuote bs` back as `bs`, for EVERY byte string `bs`: step lemmas for
  `readStringLoop`, then the induction over the bytes of `bs` (`rsl_gqlQuoteBody_bytes`; a byte ≥ 0x80 is
  written verbatim and read as the source bytes `decodeRune` spans, well-formed UTF-8 or not).  On plain
  ASCII text `strconv.Quote` writes the same (`goQuote_plain`).
-/
namespace Gql.Format
open Gql Gql.Lexer

theorem rsl_close (q : Cur) (tl : Bytes) (c : Cur) (acc : Bytes) (buf : Bool) :
    readStringLoop q (34 :: tl) c acc buf =
      .tok { kind := .string, value := acc.reverse, start := q.endR, stop := c.endR + 1,
             line := c.line, col := colOf (q.endR + 1) c.ls } tl (c.adv 1 1) := by
  conv => lhs; rw [readStringLoop.eq_def]; simp

theorem rsl_plain (q : Cur) (b : Nat) (tl : Bytes) (c : Cur) (acc : Bytes) (buf : Bool)
    (h1 : 32 ≤ b) (h2 : b ≠ 34) (h3 : b ≠ 92) (h4 : b < 127) :
    readStringLoop q (b :: tl) c acc buf = readStringLoop q tl (c.adv 1 1) (b :: acc) buf := by
  conv => lhs; rw [readStringLoop.eq_def]
  have e1 : ¬ (b = 10 ∨ b = 13) := by omega
  have e2 : ¬ (b < 32 ∧ b ≠ 9) := by omega
  have e3 : ¬ b ≥ 127 := by omega
  simp only [e1, e2, h2, h3, e3, if_false]
  simp

theorem rsl_esc (q : Cur) (e o : Nat) (tl : Bytes) (c : Cur) (acc : Bytes) (buf : Bool)
    (hu : e ≠ 117) (h : escapeOut e = some o) :
    readStringLoop q (92 :: e :: tl) c acc buf = readStringLoop q tl (c.adv 2 2) (o :: acc) true := by
  conv => lhs; rw [readStringLoop.eq_def]; simp [hu, h]

theorem rsl_u (q : Cur) (h1 h2 h3 h4 x r : Nat) (tl : Bytes) (c : Cur) (acc : Bytes) (buf : Bool)
    (h : unhex4 h1 h2 h3 h4 = some r) :
    readStringLoop q (92 :: 117 :: h1 :: h2 :: h3 :: h4 :: x :: tl) c acc buf =
      readStringLoop q (x :: tl) (c.adv 6 6) ((encodeRune r).reverse ++ acc) true := by
  conv => lhs; rw [readStringLoop.eq_def]; simp [h]

/-- a byte ≥ 127 that is not special: the loop takes the SOURCE bytes that `decodeRune` spans (the
    lead byte and `p`), whatever they are and whether or not an escape has been seen -/
theorem rsl_raw (q : Cur) (b : Nat) (p tl : Bytes) (c : Cur) (acc : Bytes) (buf : Bool) (hb : 127 ≤ b)
    (hw : (decodeRune (b :: (p ++ tl))).2 = p.length + 1) :
    readStringLoop q (b :: (p ++ tl)) c acc buf =
      readStringLoop q tl (c.adv (p.length + 1) 1) ((b :: p).reverse ++ acc) buf := by
  conv => lhs; rw [readStringLoop.eq_def]
  have e1 : ¬ (b = 10 ∨ b = 13) := by omega
  have e2 : ¬ (b < 32 ∧ b ≠ 9) := by omega
  have e3 : b ≠ 34 := by omega
  have e4 : b ≠ 92 := by omega
  have e5 : b ≥ 127 := hb
  simp only [e1, e2, e3, e4, e5, if_false, if_true, hw]
  simp

theorem rsl_multi (q : Cur) (r : Nat) (hr : IsScalar r) (h80 : 0x80 ≤ r) (tl : Bytes) (c : Cur)
    (acc : Bytes) (buf : Bool) :
    readStringLoop q (encodeRune r ++ tl) c acc buf =
      readStringLoop q tl (c.adv (encodeRune r).length 1) ((encodeRune r).reverse ++ acc) buf := by
  have hd := decodeRune_encodeRune hr tl
  have hh := encodeRune_high hr h80
  cases he : encodeRune r with
  | nil => exact absurd (encodeRune_length_pos r) (by simp [he])
  | cons b bs =>
    rw [he] at hd hh
    exact rsl_raw q b bs tl c acc buf (by have := hh b (by simp); omega) (by rw [List.cons_append] at hd; rw [hd]; rfl)

theorem hexValue_lowerHex (x : Nat) (h : x < 16) : hexValue (lowerHex x) = some x := by
  unfold hexValue lowerHex
  by_cases h1 : x < 10
  · have a : 48 ≤ 48 + x ∧ 48 + x ≤ 57 := by omega
    simp [h1, a]
  · have a : ¬ (48 ≤ 87 + x ∧ 87 + x ≤ 57) := by omega
    have b : 97 ≤ 87 + x ∧ 87 + x ≤ 102 := by omega
    simp only [h1, if_false, a, b]
    simp

theorem unhex4_hex2 (b : Nat) (h : b < 256) :
    unhex4 48 48 (lowerHex (b / 16 % 16)) (lowerHex (b % 16)) = some b := by
  have h0 : hexValue 48 = some 0 := by decide
  unfold unhex4
  rw [h0, hexValue_lowerHex _ (by omega), hexValue_lowerHex _ (by omega)]
  simp only [Option.pure_def, Option.bind_eq_bind, Option.bind_some]
  congr 1; omega

theorem gqlQuoteBody_append (a b : Bytes) : gqlQuoteBody (a ++ b) = gqlQuoteBody a ++ gqlQuoteBody b := by
  induction a with
  | nil => rfl
  | cons x xs ih => simp [gqlQuoteBody, ih]

theorem gqlEscapeByte_cases (b : Nat) :
    (∃ e, b < 0x80 ∧ gqlEscapeByte b = [92, e] ∧ e ≠ 117 ∧ escapeOut e = some b) ∨
    (b < 0x80 ∧ gqlEscapeByte b = [92, 117, 48, 48, lowerHex (b / 16 % 16), lowerHex (b % 16)]) ∨
    (gqlEscapeByte b = [b] ∧ 32 ≤ b ∧ b ≠ 34 ∧ b ≠ 92 ∧ b ≠ 127) := by
  by_cases h1 : b = 34; · subst h1; exact .inl ⟨34, by decide, rfl, by decide, rfl⟩
  by_cases h2 : b = 92; · subst h2; exact .inl ⟨92, by decide, rfl, by decide, rfl⟩
  by_cases h3 : b = 8; · subst h3; exact .inl ⟨98, by decide, rfl, by decide, rfl⟩
  by_cases h4 : b = 12; · subst h4; exact .inl ⟨102, by decide, rfl, by decide, rfl⟩
  by_cases h5 : b = 10; · subst h5; exact .inl ⟨110, by decide, rfl, by decide, rfl⟩
  by_cases h6 : b = 13; · subst h6; exact .inl ⟨114, by decide, rfl, by decide, rfl⟩
  by_cases h7 : b = 9; · subst h7; exact .inl ⟨116, by decide, rfl, by decide, rfl⟩
  by_cases h8 : b < 32 ∨ b = 127
  · exact .inr (.inl ⟨by omega, by simp only [gqlEscapeByte, h1, h2, h3, h4, h5, h6, h7, h8, if_false, if_true, lowerHex]⟩)
  · exact .inr (.inr ⟨by simp only [gqlEscapeByte, h1, h2, h3, h4, h5, h6, h7, h8, if_false], by omega, h1, h2, by omega⟩)

theorem gqlEscapeByte_head (b : Nat) :
    ∃ x xs, gqlEscapeByte b = x :: xs ∧ (x = 92 ∨ x = b ∧ b ≠ 34) := by
  rcases gqlEscapeByte_cases b with ⟨e, _, h, _⟩ | ⟨_, h⟩ | ⟨h, _, h34, _⟩
  · exact ⟨92, _, h, .inl rfl⟩
  · exact ⟨92, _, h, .inl rfl⟩
  · exact ⟨b, [], h, .inr ⟨rfl, h34⟩⟩

theorem gqlEscapeByte_high {x : Nat} (hx : 0x80 ≤ x) : gqlEscapeByte x = [x] := by
  rcases gqlEscapeByte_cases x with ⟨_, h, _⟩ | ⟨h, _⟩ | ⟨h, _⟩
  · omega
  · omega
  · exact h

theorem gqlQuoteBody_high (bs : Bytes) (h : ∀ b ∈ bs, 0x80 ≤ b) : gqlQuoteBody bs = bs := by
  induction bs with
  | nil => rfl
  | cons x xs ih =>
    rw [gqlQuoteBody, gqlEscapeByte_high (h x (by simp)), ih (fun b hb => h b (by simp [hb]))]; rfl

theorem gqlQuoteBody_high_prefix (p : Bytes) (hp : ∀ x ∈ p, 0x80 ≤ x) :
    ∀ (tl rest R : Bytes), gqlQuoteBody tl ++ 34 :: rest = p ++ R →
      ∃ tl', tl = p ++ tl' ∧ R = gqlQuoteBody tl' ++ 34 :: rest := by
  induction p with
  | nil => intro tl rest R h; exact ⟨tl, rfl, by simpa using h.symm⟩
  | cons a p ih =>
    intro tl rest R h
    have ha := hp a (by simp)
    cases tl with
    | nil => simp [gqlQuoteBody] at h; omega
    | cons x xs =>
      -- the first byte written for `x` is `a`: not a backslash, so it is `x` itself
      obtain ⟨y, ys, e, hy⟩ := gqlEscapeByte_head x
      have hya : y = a := by simpa [gqlQuoteBody, e] using congrArg List.head? h
      have hx : 0x80 ≤ x := by omega
      rw [gqlQuoteBody, gqlEscapeByte_high hx] at h
      simp only [List.cons_append, List.nil_append, List.cons.injEq] at h
      obtain ⟨rfl, h'⟩ := h
      obtain ⟨tl', e1, e2⟩ := ih (fun y hy => hp y (by simp [hy])) xs rest R h'
      exact ⟨tl', by rw [e1]; rfl, e2⟩

theorem rsl_gqlQuoteBody_bytes (q : Cur) (rest : Bytes) (n : Nat) :
    ∀ (bs : Bytes), bs.length ≤ n → ∀ (c : Cur) (acc : Bytes) (buf : Bool), ∃ t c',
      readStringLoop q (gqlQuoteBody bs ++ 34 :: rest) c acc buf = .tok t rest c' ∧
      t.kind = .string ∧ t.value = acc.reverse ++ bs := by
  induction n with
  | zero =>
    intro bs hl c acc buf
    obtain rfl : bs = [] := List.eq_nil_of_length_eq_zero (by omega)
    exact ⟨_, _, rsl_close q rest c acc buf, rfl, by simp⟩
  | succ n ihn =>
    intro bs hl c acc buf
    cases bs with
    | nil => exact ⟨_, _, rsl_close q rest c acc buf, rfl, by simp⟩
    | cons r xs =>
    have hlx : xs.length ≤ n := by simp at hl; omega
    have ih := ihn xs hlx
    rw [gqlQuoteBody, List.append_assoc]
    rcases gqlEscapeByte_cases r with ⟨e, _, he, hu, ho⟩ | ⟨h80, he⟩ | ⟨he, h32, h34, h92, h127⟩
    · rw [he, List.cons_append, List.cons_append, List.nil_append, rsl_esc q e r _ c acc buf hu ho]
      obtain ⟨t, c', h1, h2, h3⟩ := ih (c.adv 2 2) (r :: acc) true
      exact ⟨t, c', h1, h2, by simp [h3]⟩
    · -- \u00XY; the lexer wants to see one more byte after the escape: there is the closing quote
      rw [he]
      simp only [List.cons_append, List.nil_append]
      cases hX : gqlQuoteBody xs ++ 34 :: rest with
      | nil => simp at hX
      | cons x tl =>
        rw [rsl_u q _ _ _ _ x r tl c acc buf (unhex4_hex2 r (by omega)), ← hX, encodeRune_ascii h80]
        obtain ⟨t, c', h1, h2, h3⟩ := ih (c.adv 6 6) ([r].reverse ++ acc) true
        exact ⟨t, c', h1, h2, by simp [h3]⟩
    · by_cases h80 : r < 0x80
      · rw [he, List.cons_append, List.nil_append, rsl_plain q r _ c acc buf h32 h34 h92 (by omega)]
        obtain ⟨t, c', h1, h2, h3⟩ := ih (c.adv 1 1) (r :: acc) buf
        exact ⟨t, c', h1, h2, by simp [h3]⟩
      · -- a byte ≥ 0x80 (lead byte, continuation byte, or no UTF-8 at all): the lexer takes the bytes
        -- `decodeRune` spans, all of them ≥ 0x80 and hence verbatim source bytes
        obtain ⟨p, R, e1, hw, hp⟩ := decodeRune_width r (gqlQuoteBody xs ++ 34 :: rest)
        obtain ⟨xs', rfl, rfl⟩ := gqlQuoteBody_high_prefix p hp xs rest R e1
        rw [e1] at hw
        rw [he, List.cons_append, List.nil_append, e1, rsl_raw q r p _ c acc buf (by omega) hw]
        have hl' : xs'.length ≤ n := by simp at hlx; omega
        obtain ⟨t, c', h1, h2, h3⟩ := ihn xs' hl' (c.adv (p.length + 1) 1) ((r :: p).reverse ++ acc) buf
        exact ⟨t, c', h1, h2, by simp [h3]⟩

/-- bytes on which `strconv.Quote` and the GraphQL quoting agree: printable ASCII and the five
    control characters that have the same escape in Go and GraphQL -/
def PlainByte (b : Nat) : Prop := (32 ≤ b ∧ b < 127) ∨ b = 8 ∨ b = 9 ∨ b = 10 ∨ b = 12 ∨ b = 13

instance (b : Nat) : Decidable (PlainByte b) := by unfold PlainByte; exact inferInstance

theorem escapedRune_plain (b : Nat) (h : PlainByte b) : escapedRune isPrintDefault b = gqlEscapeByte b := by
  unfold PlainByte at h
  unfold escapedRune gqlEscapeByte
  by_cases c1 : b = 34
  · simp [c1]
  by_cases c2 : b = 92
  · simp [c2]
  rcases h with h | h | h | h | h | h
  · have p : isPrintDefault b = true := by
      have : b ≤ 0xFF := by omega
      simp [isPrintDefault, this, inRange]; omega
    have e : encodeRune b = [b] := encodeRune_ascii (by omega)
    have n1 : b ≠ 8 := by omega
    have n2 : b ≠ 12 := by omega
    have n3 : b ≠ 10 := by omega
    have n4 : b ≠ 13 := by omega
    have n5 : b ≠ 9 := by omega
    have n6 : ¬ (b < 32 ∨ b = 127) := by omega
    simp [c1, c2, p, e, n1, n2, n3, n4, n5, n6]
  all_goals (subst h; simp [isPrintDefault, inRange])

theorem goQuoteBody_plain (bs : Bytes) (h : ∀ b ∈ bs, PlainByte b) :
    goQuoteBody isPrintDefault bs = gqlQuoteBody bs := by
  induction bs with
  | nil => rw [goQuoteBody.eq_def]; rfl
  | cons b tl ih =>
    have hb := h b (by simp)
    have hlt : ¬ b ≥ 0x80 := by unfold PlainByte at hb; omega
    have hne : b ≠ runeError := by unfold PlainByte at hb; simp [runeError]; omega
    have ih' := ih (fun x hx => h x (by simp [hx]))
    rw [goQuoteBody.eq_def]
    simp [hlt, hne, escapedRune_plain b hb, ih', gqlQuoteBody]

theorem goQuote_plain (bs : Bytes) (h : ∀ b ∈ bs, PlainByte b) : goQuote bs = gqlQuote bs := by
  simp [goQuote, gqlQuote, goQuoteBody_plain bs h]

end Gql.Format
