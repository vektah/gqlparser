import GqlProofs.Schema.ErrLoc
import GqlProofs.Schema.ExampleLoads
import GqlProofs.Schema.WfPerm
/-
  C17 — schema loading is order- and split-independent.
-/
open Gql Gql.Load

/-- merging parsed sources is list concatenation, component by component … -/
theorem C17_merge_is_concat (a b : SchemaDoc) :
    (a.merge b).schema = a.schema ++ b.schema ∧ (a.merge b).schemaExt = a.schemaExt ++ b.schemaExt ∧
    (a.merge b).directives = a.directives ++ b.directives ∧ (a.merge b).definitions = a.definitions ++ b.definitions ∧
    (a.merge b).extensions = a.extensions ++ b.extensions := ⟨rfl, rfl, rfl, rfl, rfl⟩

/-- … so loading the sources in another order loads a document whose five lists are permutations
    of the original ones (every re-partition of the definitions over sources reduces to a permutation) -/
theorem C17_merge_comm_perm (a b : SchemaDoc) :
    (a.merge b).schema.Perm (b.merge a).schema ∧ (a.merge b).schemaExt.Perm (b.merge a).schemaExt ∧
    (a.merge b).directives.Perm (b.merge a).directives ∧ (a.merge b).definitions.Perm (b.merge a).definitions ∧
    (a.merge b).extensions.Perm (b.merge a).extensions :=
  ⟨List.perm_append_comm, List.perm_append_comm, List.perm_append_comm, List.perm_append_comm, List.perm_append_comm⟩

theorem C17_merge_assoc (a b c : SchemaDoc) : (a.merge b).merge c = a.merge (b.merge c) := by
  simp [SchemaDoc.merge, List.append_assoc]

/-- **R17a repaired**: a document that gives some operation a root type more than once — in the
    schema definition, in its extensions, or across them — is rejected.  The hypothesis counts entry
    points, so it does not depend on the order of the blocks (`C17_rootsOnce_perm`): the repeated-root
    document is rejected in EVERY order.  (Before the repair both orders loaded, with different roots.) -/
theorem C17_repeated_root_rejected {sd : SchemaDoc} (h : Spec.rootOperationTypesOnce sd = false) :
    (load sd).isOk = false := by
  cases hl : load sd with
  | ok s => rw [load_rootsOnce hl] at h; cases h
  | err e => rfl
  | panic => rfl

/-- the hypothesis of `C17_repeated_root_rejected` is invariant under reordering the `extend schema` blocks -/
theorem C17_rootsOnce_perm {sd sd' : SchemaDoc} (h1 : sd'.schema = sd.schema) (h2 : sd'.schemaExt.Perm sd.schemaExt) :
    Spec.rootOperationTypesOnce sd' = Spec.rootOperationTypesOnce sd := by
  have hp : (((sd'.schema ++ sd'.schemaExt).flatMap (·.opTypes)).map (·.op)).Perm
      (((sd.schema ++ sd.schemaExt).flatMap (·.opTypes)).map (·.op)) := by
    rw [h1]
    exact ((h2.append_left sd.schema).flatMap_right _).map _
  simp only [Spec.rootOperationTypesOnce, (hp.filter _).length_eq]

/-- kernel-checked: `extend schema { query: A }` and `extend schema { query: B }`, which before the repair
    loaded with different roots in the two orders, are rejected in both orders -/
theorem C17_repeated_root_witness :
    Examples.rootsBA.schemaExt.Perm Examples.rootsAB.schemaExt ∧ Examples.rootsBA.definitions = Examples.rootsAB.definitions ∧
    (load Examples.rootsAB).isOk = false ∧ (load Examples.rootsBA).isOk = false :=
  -- the definitions are compared through their common value: asked whether the two projections agree,
  -- the kernel first compares the two documents, which differ
  ⟨List.Perm.swap _ _ _, (rfl : Examples.miniPrelude ++ [Examples.typeA, Examples.typeB] = _),
    C17_repeated_root_rejected (by decide +kernel), C17_repeated_root_rejected (by decide +kernel)⟩

/-- R7b (kernel-checked): a redeclared builtin directive — the LAST declaration wins, so the order of
    the sources decides which definition of `@skip` the schema contains -/
theorem C17_directive_perm_counterexample :
    ∃ sd sd' s s', sd'.directives.Perm sd.directives ∧ load sd = .ok s ∧ load sd' = .ok s' ∧
      (s.directives.lookup (str "skip")).map (·.locations) ≠ (s'.directives.lookup (str "skip")).map (·.locations) := by
  -- each document is loaded once; what is kept of the two schemas is the locations of their `@skip`
  obtain ⟨s, hs, h⟩ := exists_ok_of (r := load Examples.skipFO)
    (p := fun s => (s.directives.lookup (str "skip")).map (·.locations) == some [str "OBJECT"]) (by decide +kernel)
  obtain ⟨s', hs', h'⟩ := exists_ok_of (r := load Examples.skipOF)
    (p := fun s => (s.directives.lookup (str "skip")).map (·.locations) == some [str "FIELD"]) (by decide +kernel)
  refine ⟨Examples.skipFO, Examples.skipOF, s, s', List.Perm.swap _ _ _, hs, hs', ?_⟩
  rw [eq_of_beq h, eq_of_beq h']
  decide +kernel

/-- the KIND of outcome does not depend on the order of the definitions: the loader never panics
    (`load_ne_panic`), and a document loads iff its permutation does (`load_defsPerm_equiv`, both ways).
    (Before the repair `union U = X` written before `type T implements U` made the loader panic, written
    after it the loader returned an error.) -/
theorem C17_verdict_perm_definitions {sd sd' : SchemaDoc} (hp : DefsPerm sd sd') :
    (load sd').isPanic = false ∧ (load sd).isPanic = false ∧ (load sd').isOk = (load sd).isOk := by
  refine ⟨load_ne_panic sd', load_ne_panic sd, ?_⟩
  rw [Bool.eq_iff_iff, isOk_iff, isOk_iff]
  constructor
  · intro ⟨s, h⟩; exact load_ok_of_defsPerm hp.symm h
  · intro ⟨s, h⟩; exact load_ok_of_defsPerm hp h

/-- kernel-checked: both orders of `union U = X` / `type T implements U` are rejected with an error -/
theorem C17_verdict_perm_witness :
    Examples.orderTU.definitions.Perm Examples.orderUT.definitions ∧
    (load Examples.orderUT).isPanic = false ∧ (load Examples.orderUT).isOk = false ∧
    (load Examples.orderTU).isPanic = false ∧ (load Examples.orderTU).isOk = false := by
  refine ⟨?_, by decide +kernel⟩
  simp only [Examples.orderUT, Examples.orderTU, Examples.doc]
  exact ((List.Perm.swap _ _ _).cons _).cons _ |>.append_left _

/-- **order independence of the verdict**: if `sd'` is `sd` with its type definitions permuted
    (`DefsPerm`: `definitions` permuted arbitrarily; `extensions`, `directives`, `schema`, `schemaExt`
    unchanged), then `sd'` loads iff `sd` loads.  (Neither panics: `C17_verdict_perm_definitions`; the
    reported error may differ — e.g. which of two equal type names is blamed.) -/
theorem C17_ok_perm_definitions {sd sd' : SchemaDoc} (hp : DefsPerm sd sd') : (load sd').isOk = (load sd).isOk :=
  (C17_verdict_perm_definitions hp).2.2

/-- **order independence of the result**: the two loaded schemas have the same roots, schema
    directives, description and directive definitions, the same types up to the order of the map
    entries, and the same `PossibleTypes` / `Implements` lists up to order -/
theorem C17_schema_perm_definitions {sd sd' : SchemaDoc} (hp : DefsPerm sd sd') {s s' : Schema}
    (h : load sd = .ok s) (h' : load sd' = .ok s') : SchemaEquiv s s' := by
  obtain ⟨s'', h'', E⟩ := load_defsPerm_equiv hp h
  rw [h'] at h''
  simp only [LoadResult.ok.injEq] at h''
  subst h''
  exact E

/-- non-vacuity: a loading document and a proper permutation of it -/
example : DefsPerm Examples.okDoc { Examples.okDoc with definitions := Examples.okDoc.definitions.reverse } ∧
    (load Examples.okDoc).isOk = true :=
  ⟨⟨List.reverse_perm _, rfl, rfl, rfl, rfl⟩, Examples.okDoc_loads⟩

/-- **a load error names a file in which one of the nodes involved was written**: the error's
    (line, column, source index) are those of a node of the merged document (`docPositions`: the
    positions of definitions, extensions, fields, field types, arguments, argument types, applied
    directives and their arguments, directive definitions, schema blocks and operation types), so the
    reported file is the source that node was parsed from.
    (The loader half of C04, `load_error_loc`, says the same of any predicate that the document's positions
    satisfy.) -/
theorem C17_error_file {sd : SchemaDoc} {e : LoadError} (he : load sd = .err e) :
    ∃ p ∈ docPositions sd, e.line = p.line ∧ e.col = p.col ∧ e.src = p.src :=
  load_error_loc (docIn_positions sd) he

/-- non-vacuity: a rejected document -/
example : ∃ e, load Examples.noPanicDoc = .err e := exists_err_of Examples.noPanicDoc_rejected

/-- **the specification is order independent**: `Spec.WellFormed` has the same verdict on two merged
    documents whose five lists (definitions, EXTENSIONS, directive definitions, schema definitions, schema
    extensions) are permutations of each other — that is, whatever the order in which the sources are
    merged and however the definitions are split over the sources.  (`hext`: no extension is marked built
    in.)  Permuting extensions reorders the fields / interfaces / members / values of the merged types;
    the clauses are compared up to that (`DefEquiv`). -/
theorem C17_wellFormed_perm {sd sd' : SchemaDoc} (hp : SourcesPerm sd sd')
    (hext : ∀ e ∈ sd.extensions, e.builtIn = false) : Spec.WellFormed sd' ↔ Spec.WellFormed sd :=
  WellFormed_perm_iff hp hext

/-- **C17_verdict_perm_sources — loading succeeds for one order of the sources iff it succeeds for every
    order.**  `SourcesPerm` permutes all five lists of the merged document (not only `definitions`, as
    `C17_verdict_perm_definitions` does): by soundness (`C07_load_sound`) and completeness
    (`C07_load_complete`) the loader accepts exactly the well-formed type systems, and well-formedness
    is order independent (`C17_wellFormed_perm`).  Hypotheses, on ONE of the two documents (they are
    order independent themselves): the two guarantees of the prelude and the lexer, and that no directive
    name is declared twice — which cannot be dropped, `C17_directive_perm_counterexample`. -/
theorem C17_verdict_perm_sources {sd sd' : SchemaDoc} (hp : SourcesPerm sd sd')
    (hext : ∀ e ∈ sd.extensions, e.builtIn = false) (hlex : NamesLexical sd) (hd : DirectiveNamesDistinct sd) :
    (load sd').isPanic = false ∧ (load sd).isPanic = false ∧ (load sd').isOk = (load sd).isOk :=
  ⟨load_ne_panic sd', load_ne_panic sd, load_isOk_sourcesPerm hp hext hlex hd⟩

/-- the same about the list of parsed sources: merging them in any other order gives a document with the
    same verdict -/
theorem C17_verdict_perm_source_list {l l' : List SchemaDoc} (hp : l'.Perm l)
    (hext : ∀ e ∈ (mergeAll l).extensions, e.builtIn = false) (hlex : NamesLexical (mergeAll l))
    (hd : DirectiveNamesDistinct (mergeAll l)) : (load (mergeAll l')).isOk = (load (mergeAll l)).isOk :=
  load_isOk_sourcesPerm (mergeAll_perm hp) hext hlex hd

/-- permuting only the definitions is the special case without hypotheses -/
theorem C17_defsPerm_is_sourcesPerm {sd sd' : SchemaDoc} (hp : DefsPerm sd sd') : SourcesPerm sd sd' := hp.sources

/-- non-vacuity: a well-formed document with an extension, and the same with definitions and extensions
    reversed; both load -/
example :
    let sd := Examples.doc (Examples.miniPrelude ++ [Examples.typeA, Examples.typeB])
      (exts := [Examples.defn .object "A" 3 [Examples.fld "x" (Examples.ty "Int")],
                Examples.defn .object "A" 4 [Examples.fld "y" (Examples.ty "Int")]])
    let sd' := { sd with definitions := sd.definitions.reverse, extensions := sd.extensions.reverse }
    SourcesPerm sd sd' ∧ NamesLexical sd ∧ DirectiveNamesDistinct sd ∧ Spec.WellFormed sd ∧
    (load sd).isOk = true ∧ (load sd').isOk = true := by
  exact ⟨⟨List.reverse_perm _, List.reverse_perm _, .refl _, .refl _, .refl _⟩, by decide +kernel⟩
