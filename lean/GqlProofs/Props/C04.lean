import GqlProofs.Lexer.UniLex
import GqlProofs.Lexer.Utf8Valid
/-
  C04 — every reported position is truthful (lexer part).

  `Spec.posAt / lineOf / colOfOffset` (GqlModel/Lexer/Spec.lean) define line and column of an offset
  by counting line terminators (LF, CR, CRLF once) over the prefix of the source.  The theorem says
  that every token the model's `lexAll` returns carries exactly that line and column for its start
  offset, and an extent inside the source.

  `C04_token_pos_ascii_partial` is the ASCII case, where byte offsets, rune offsets and code-point
  offsets coincide.  `C04_token_pos_utf8` is the full statement: for EVERY well-formed UTF-8 source
  (`Utf8.decode inp = some cps`) start / stop are offsets in CODE POINTS inside the decoded text, line
  and column are `Spec.posAt` on the decoded text (column counts code points, CRLF counts once, the
  BOM is one character).  `C04_tokens_are_spec_tokens_utf8`: the model's token list IS the list of
  the specification's tokens with the specification's positions.
  The `+ 1` for `String` tokens is the recorded known finding `string-column-off-by-one` (pinned by
  the repository's own parser tests): the theorems state the model's — and the code's — actual
  behaviour exactly, they do not hide it.
-/
open Gql Gql.Lexer Gql.Lexer.Spec

/-- what C04 requires of a token of source `inp` — except that the column of a String token is the
    specified one `+ 1` (the recorded known finding, see the header) -/
def TokenTruthful (inp : Bytes) (t : Token) : Prop :=
  t.start ≤ t.stop ∧ t.stop ≤ inp.length ∧ t.line = lineOf inp t.start ∧
    t.col = colOfOffset inp t.start + (if t.kind = .string then 1 else 0)

/-- the model token the specification prescribes for its token `s` of source `inp`: kind, value,
    extent from the lexical grammar, line and column from the position specification
    (`Spec.toToken`), with the recorded `+ 1` on the column of String tokens -/
def specTokenView (inp : Bytes) (s : STok) : Token :=
  { Spec.toToken inp s with col := colOfOffset inp s.start + (if s.kind = .string then 1 else 0) }

/-- a truthful token with the observations of `s` is the token prescribed for `s` -/
theorem token_eq_of_obs {inp : Bytes} {t : Token} {s : STok} (h : obsT t = obsS s)
    (ht : TokenTruthful inp t) : t = specTokenView inp s := by
  obtain ⟨_, _, hl, hcol⟩ := ht
  cases t
  simp only [obsT, obsS, Prod.mk.injEq] at h
  obtain ⟨rfl, rfl, rfl, rfl⟩ := h
  simp_all [specTokenView, Spec.toToken]

theorem tokens_eq_of_obs (inp : Bytes) : ∀ (ts : List Token) (toks : List STok),
    ts.map obsT = toks.map obsS → (∀ t ∈ ts, TokenTruthful inp t) → ts = toks.map (specTokenView inp)
  | [], [], _, _ => rfl
  | t :: r, s :: r', h, htr => by
    simp only [List.map_cons, List.cons.injEq] at h ⊢
    exact ⟨token_eq_of_obs h.1 (htr t (by simp)),
      tokens_eq_of_obs inp r r' h.2 fun u hu => htr u (List.mem_cons_of_mem _ hu)⟩
  | [], _ :: _, h, _ | _ :: _, [], h, _ => by simp at h

/-! ### every well-formed UTF-8 source -/

/-- Every token of the encoding of a list of Unicode scalar values `cps` carries the line and column
    of the position specification on `cps` (`C04_token_pos_utf8` stated on the code points). -/
theorem C04_token_pos_scalars (cps : List Nat) (hs : AllScalar cps) :
    ∀ t ∈ (lexAll (utf8Encode cps)).tokens, TokenTruthful cps t :=
  lexAll_truthful_u cps hs

/-- Every token of a well-formed UTF-8 source `inp` with code points `cps` carries the line and
    column that the position specification computes on the DECODED text for the token's start offset
    (offsets count code points: a multi-byte character is one column, CRLF is one line terminator,
    the BOM is one character), and its extent lies inside the decoded text (String tokens: column
    + 1, the recorded known finding).  No hypothesis on block strings. -/
theorem C04_token_pos_utf8 (inp : Bytes) (cps : List Nat) (h : Utf8.decode inp = some cps) :
    ∀ t ∈ (lexAll inp).tokens, TokenTruthful cps t := by
  obtain ⟨rfl, h2⟩ := Utf8.decode_sound inp cps h
  exact lexAll_truthful_u cps h2

/-- Corollary for everything except quoted strings: line and column are exactly the specified ones. -/
theorem C04_token_pos_utf8_nonstring (inp : Bytes) (cps : List Nat) (h : Utf8.decode inp = some cps)
    (t : Token) (ht : t ∈ (lexAll inp).tokens) (hk : t.kind ≠ .string) :
    t.line = lineOf cps t.start ∧ t.col = colOfOffset cps t.start := by
  have := C04_token_pos_utf8 inp cps h t ht
  exact ⟨this.2.2.1, by simpa [hk] using this.2.2.2⟩

/-- Every token of the lexical grammar is reported by the model with exactly the line and column
    of the position specification: for every well-formed UTF-8 source (block strings as in
    `C03_lex_utf8`) the model's token list IS the list of the specification's tokens of the decoded
    text, each with kind / value / extent from `Spec.lex` and line / column from `Spec.lineOf` /
    `Spec.colOfOffset` (String tokens: column + 1), followed by the EOF token or the error. -/
theorem C04_tokens_are_spec_tokens_utf8 (inp : Bytes) (cps : List Nat) (h : Utf8.decode inp = some cps)
    (hb : BlocksOK (cps.length + 1) cps = true) :
    match Spec.lex cps with
    | .ok toks => ∃ eof, lexAll inp = .done (toks.map (specTokenView cps) ++ [eof]) ∧ eof.kind = .eof
    | .error toks => ∃ e, lexAll inp = .fail (toks.map (specTokenView cps)) e := by
  have htr := C04_token_pos_utf8 inp cps h
  obtain ⟨rfl, h2⟩ := Utf8.decode_sound inp cps h
  have hl := lexAll_lex_u cps h2 hb
  cases hs : Spec.lex cps with
  | ok toks =>
    rw [hs] at hl
    obtain ⟨ts, eof, e1, e2, _, e4⟩ := hl
    rw [e1] at htr
    have := tokens_eq_of_obs cps ts toks e4 (fun t ht => htr t (by simp [LexOut.tokens, ht]))
    exact ⟨eof, by rw [e1, this], e2⟩
  | error toks =>
    rw [hs] at hl
    obtain ⟨ts, e, e1, e4⟩ := hl
    rw [e1] at htr
    have := tokens_eq_of_obs cps ts toks e4 (fun t ht => htr t (by simp [LexOut.tokens, ht]))
    exact ⟨e, by rw [e1, this]⟩

-- non-vacuity: `é` (two bytes) then a name on the next line after CRLF; the name is at line 2 column 1
example : Utf8.decode [35, 0xC3, 0xA9, 13, 10, 97] = some [35, 0xE9, 13, 10, 97] := by decide
example : lineOf [35, 0xE9, 13, 10, 97] 4 = 2 ∧ colOfOffset [35, 0xE9, 13, 10, 97] 4 = 1 := by decide

/-! ### ASCII sources: an ASCII text is its own list of code points (`Utf8.decode_ascii`) -/

/-- Every token of an ASCII source carries the line and column that the position specification
    computes from the source text for the token's start offset, and its extent lies inside the
    source (String tokens: column + 1, the recorded known finding). -/
theorem C04_token_pos_ascii_partial (inp : Bytes) (hA : Ascii inp) :
    ∀ t ∈ (lexAll inp).tokens, TokenTruthful inp t :=
  C04_token_pos_utf8 inp inp (Utf8.decode_ascii inp hA)

/-- Corollary for everything except quoted strings: line and column are exactly the specified ones. -/
theorem C04_token_pos_ascii_nonstring (inp : Bytes) (hA : Ascii inp) (t : Token)
    (ht : t ∈ (lexAll inp).tokens) (hk : t.kind ≠ .string) :
    t.line = lineOf inp t.start ∧ t.col = colOfOffset inp t.start :=
  C04_token_pos_utf8_nonstring inp inp (Utf8.decode_ascii inp hA) t ht hk

-- the hypothesis is satisfiable and the statement is not vacuous
example : Ascii (str "{ a }") := by
  intro b hb
  simp [str] at hb
  omega

/-- Every token of the lexical grammar is reported by the model with exactly the line and column
    of the position specification: for ASCII sources (block strings as in `C03_lex_ascii`) the
    model's token list IS the list of the specification's tokens, each with kind / value / extent
    from `Spec.lex` and line / column from `Spec.lineOf` / `Spec.colOfOffset` (String tokens:
    column + 1, the recorded known finding), followed by the EOF token or the error. -/
theorem C04_tokens_are_spec_tokens_ascii (inp : Bytes) (hA : Ascii inp)
    (hb : BlocksOK (inp.length + 1) inp = true) :
    match Spec.lex inp with
    | .ok toks => ∃ eof, lexAll inp = .done (toks.map (specTokenView inp) ++ [eof]) ∧ eof.kind = .eof
    | .error toks => ∃ e, lexAll inp = .fail (toks.map (specTokenView inp)) e :=
  C04_tokens_are_spec_tokens_utf8 inp inp (Utf8.decode_ascii inp hA) hb

#print axioms C04_tokens_are_spec_tokens_ascii
#print axioms C04_token_pos_ascii_partial
#print axioms C04_token_pos_utf8
#print axioms C04_token_pos_scalars
#print axioms C04_token_pos_utf8_nonstring
#print axioms C04_tokens_are_spec_tokens_utf8
