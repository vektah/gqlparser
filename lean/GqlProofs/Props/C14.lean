import GqlProofs.Lemmas.VarsFixtures
import GqlProofs.Lemmas.VarsFuel
/-
  C14 — variable coercion is total and type-conforming.

  Model: `coerce s op vars` = `validator.VariableValues(schema, op, variables)` (validator/vars.go),
  outcomes `ok m | err msg path | panic msg | outOfFuel`.  Specification: `Conforms`, `Coercible`
  (GqlModel/Vars/Spec.lean; built-in scalars are judged by the COMPATIBLE KIND TABLE (C14) written
  there), and `ConformsExceptTypename` / `CoercibleExceptTypename`, which grant the one exception
  the implementation still needs (known finding R14c: the undeclared key `__typename` is tolerated
  in input objects and handed on).

  Hypotheses used below, all of them facts about loaded schemas / Go values, none about the
  variables supplied:
    InputsClosed s       every input-object field has an input type that exists (C07)
    InputFieldsNodup s   the fields of an input object have different names (C07)
    EnumNamesPlain s     enum value names are Names (they do not start with `<`)
    wfFieldsB true vars  the REPRESENTATION INVARIANT of `GoVal`: the nil interface occurs only in
                         `interface{}`-typed containers, map keys are pairwise different.  Typed
                         slices and typed maps of every element type are inside it.

  Defects of the library that are repaired in /repo (the model follows the repaired code), with their witnesses:
    R14a  a null list item meeting a list type panicked         → `C14_total_R14a_*`
    R14d  a coerced list item was discarded                      → `C14_conforms_R14d_*`
    typed maps: `SetMapIndex` panicked when a coerced field was not assignable to the element type
          of a typed map; now the map is copied                  → `C14_total_typedMap_returns`
    R14b  enum values were matched with `strings.EqualFold`      → `C14_rejects_enum_other_case`
  Still open (known finding): R14c                               → `C14_conforms_counterexample_typename`
-/
open Gql Gql.Fixtures

/-- Coercion returns normally — values or an error, never a panic — for every operation over a
    schema whose input types are closed and EVERY variables map of the domain (nil, bool, ints,
    floats, json.Number, strings, slices and maps of any element type, arbitrarily nested).
    `hwf` is the representation invariant of `GoVal`, not a restriction on the Go values. -/
theorem C14_total (s : Schema) (op : OperationDef) (vars : VarMap)
    (hclosed : InputsClosed s)
    (hop : ∀ v ∈ op.vars, ∃ d, s.type? v.type.name = some d)
    (hwf : wfFieldsB true vars = true) :
    ∀ msg, coerce s op vars ≠ .panic msg := by
  intro msg h
  have : NoPanic (coerce s op vars) :=
    coerceLoop_sat op.vars .nil fun v hv c => coerceVar_noPanic op vars v c hclosed (hop v hv) hwf
  rw [h] at this
  exact this

/-- … and the fuel of the model is an artefact without consequence: coercion RETURNS — values or
    an error (`outOfFuel` is never the outcome: `fuelFor` suffices). -/
theorem C14_total_returns (s : Schema) (op : OperationDef) (vars : VarMap)
    (hclosed : InputsClosed s) (hfn : InputFieldsNodup s)
    (hop : ∀ v ∈ op.vars, ∃ d, s.type? v.type.name = some d)
    (hwf : wfFieldsB true vars = true) :
    (∃ m, coerce s op vars = .ok m) ∨ (∃ msg path alts, coerce s op vars = .err msg path alts) := by
  have h1 := C14_total s op vars hclosed hop hwf
  have h2 : NotFuel (coerce s op vars) :=
    coerceLoop_sat op.vars .nil fun v hv c => coerceVar_fuel s hfn op vars v hv c
  cases h : coerce s op vars with
  | ok m => exact Or.inl ⟨m, rfl⟩
  | err msg path alts => exact Or.inr ⟨msg, path, alts, rfl⟩
  | panic msg => exact absurd h (h1 msg)
  | outOfFuel => rw [h] at h2; exact h2.elim

/-- former witness of the typed-map panic: `$v: In` with `map[string]int{"l": 1}` (the coerced list
    `[[1]]` is not assignable to `int`) now returns a copy of the object as
    `map[string]interface{}{"l": []interface{}{[]int{1}}}`, which conforms. -/
theorem C14_total_typedMap_returns :
    coerce schema (opWith (named "In")) (varsV (.map (.int .int) (.cons (str "l") (int 1) .nil)))
        = .ok (varsV (imap [(str "l", islice [.slice (.int .int) (.cons (int 1) .nil)])]))
    ∧ Conforms schema (named "In") (imap [(str "l", islice [.slice (.int .int) (.cons (int 1) .nil)])]) := by
  refine ⟨by rfl, by decide +kernel⟩

/-- a typed map whose entries all fit is returned as it is (no copy): `map[string]int{"a": 1}`. -/
theorem C14_total_typedMap_kept :
    coerce schema (opWith (named "In")) (varsV (.map (.int .int) (.cons (str "a") (int 1) .nil)))
        = .ok (varsV (.map (.int .int) (.cons (str "a") (int 1) .nil))) := by
  rfl

/-- former R14a witness: `query($v: [[Int]])` with `{"v": [null]}` returns `{"v": [null]}`. -/
theorem C14_total_R14a_returns :
    coerce schema (opWith (listOf (listOf (named "Int")))) (varsV (islice [.nil])) = .ok (varsV (islice [.nil])) := by
  rfl

/-- former R14a witness without any variable supplied: `query($v: [[Int]] = [null])` and the empty
    map returns the default `{"v": [null]}`. -/
theorem C14_total_R14a_default_returns :
    coerce schema
      (opWith (listOf (listOf (named "Int"))) (some (.mk .list [] (.cons [] (lit .null "null") Pos.zero .nil) Pos.zero))) .nil
      = .ok (varsV (islice [.nil])) := by
  rfl

/-- former R14a witness inside an input object: `query($v: In)` with `{"v": {"l": [[1, null], null]}}`
    returns the map unchanged. -/
theorem C14_total_R14a_field_returns :
    coerce schema (opWith (named "In"))
      (varsV (imap [(str "l", islice [islice [int 1, .nil], .nil])]))
      = .ok (varsV (imap [(str "l", islice [islice [int 1, .nil], .nil])])) := by
  rfl

/-- a null list item at a NON-NULL list element type is an error, not a panic -/
theorem C14_total_R14a_nonnull_errors :
    coerce schema (opWith (listOf (listOf (named "Int") true))) (varsV (islice [.nil]))
      = .err (str "cannot be null") [.name (str "variable"), .name (str "v"), .idx 0] [] := by
  rfl

/-- Absent variables take their defaults (1): every declared variable that has a default has an
    entry in the result — the hypothesis `DefaultsSupplied` of C15_precedence. -/
theorem C14_defaults_supplied (s : Schema) (op : OperationDef) (vars m : VarMap)
    (h : coerce s op vars = .ok m) : DefaultsSupplied op.vars m :=
  coerce_defaultsSupplied h

/-- Absent variables take their defaults (2): with unique variable names, the entry of an absent
    variable is exactly what coercing its converted default value `x` stores. -/
theorem C14_defaults (s : Schema) (op : OperationDef) (vars m : VarMap)
    (hnodup : (op.vars.map (·.var)).Nodup)
    (h : coerce s op vars = .ok m)
    (v : VarDef) (hv : v ∈ op.vars) (habsent : vars.lookup v.var = none)
    (dv : Value) (x : GoVal) (hdv : v.default = some dv) (hx : valueValueConst dv = .ok x) :
    ∃ acc c, coerceSupplied s op v acc x = .ok c ∧ m.lookup v.var = c.lookup v.var := by
  obtain ⟨acc, c, h1, h2, _⟩ := coerceLoop_entry op.vars .nil m hnodup h v hv
  have hs : suppliedValue vars v = .ok (some x) := by simp [suppliedValue, habsent, hdv, hx]
  rcases (coerceVar_shape h1).2 with ⟨e, _⟩ | ⟨x', y, e1, e2, _⟩
  · rw [hs] at e; cases e
  · cases hs.symm.trans e1
    exact ⟨acc, c, e2, h2⟩

/-- When coercion returns values, the value of EVERY declared variable — scalar, enum, input
    object (recursive ones included), under any list nesting — conforms to its declared type:
    non-null positions never hold null, lists hold conforming items (nesting exact), input objects
    contain only declared fields (EXCEPT the key `__typename`, R14c) with every required field
    present, enums hold declared values, built-in scalars hold a value of a compatible kind. -/
theorem C14_conforms (s : Schema) (op : OperationDef) (vars m : VarMap)
    (hclosed : InputsClosed s) (hfn : InputFieldsNodup s) (hplain : EnumNamesPlain s)
    (hnodup : (op.vars.map (·.var)).Nodup)
    (hwf : wfFieldsB true vars = true)
    (h : coerce s op vars = .ok m) :
    ∀ v ∈ op.vars, ∀ y, m.lookup v.var = some y → ConformsExceptTypename s v.type y := by
  intro v hv y hy
  obtain ⟨acc, c, h1, h2, h3⟩ := coerceLoop_entry op.vars .nil m hnodup h v hv
  obtain ⟨hty, ⟨_, e⟩ | ⟨x, _, e1, e2, _⟩⟩ := coerceVar_shape h1
  · rw [h2, e, h3] at hy; cases hy
  · obtain ⟨y', e3, _, hc⟩ := (coerceSupplied_spec (F := True) hclosed (fun _ => hfn) (fun _ => hplain) op v acc hty
      (suppliedValue_wf hwf e1)).of_eq e2
    rw [h2, e3, GoFields.lookup_set, if_pos rfl] at hy
    cases hy; exact (hc trivial).1

/-- "Only declared fields", with the hypothesis made explicit: a returned value in which no object
    has the key `__typename` conforms WITHOUT any exception. -/
theorem C14_conforms_declared_only (s : Schema) (op : OperationDef) (vars m : VarMap)
    (hclosed : InputsClosed s) (hfn : InputFieldsNodup s) (hplain : EnumNamesPlain s)
    (hnodup : (op.vars.map (·.var)).Nodup)
    (hwf : wfFieldsB true vars = true)
    (h : coerce s op vars = .ok m) :
    ∀ v ∈ op.vars, ∀ y, m.lookup v.var = some y → noTypenameB y = true → Conforms s v.type y := by
  intro v hv y hy hno
  exact conforms_dropT s false v.type y hno (C14_conforms s op vars m hclosed hfn hplain hnodup hwf h v hv y hy)

/-- The key `__typename` is only handed on, never invented: when no object inside what is supplied
    for a variable (its entry in the variables map, else its converted default value) has that
    key, the value returned for the variable conforms WITHOUT any exception. -/
theorem C14_conforms_no_typename_supplied (s : Schema) (op : OperationDef) (vars m : VarMap)
    (hclosed : InputsClosed s) (hfn : InputFieldsNodup s) (hplain : EnumNamesPlain s)
    (hnodup : (op.vars.map (·.var)).Nodup)
    (hwf : wfFieldsB true vars = true)
    (h : coerce s op vars = .ok m)
    (v : VarDef) (hv : v ∈ op.vars)
    (hsup : ∀ x, suppliedValue vars v = .ok (some x) → noTypenameB x = true) :
    ∀ y, m.lookup v.var = some y → Conforms s v.type y := by
  intro y hy
  apply C14_conforms_declared_only s op vars m hclosed hfn hplain hnodup hwf h v hv y hy
  obtain ⟨acc, c, h1, h2, h3⟩ := coerceLoop_entry op.vars .nil m hnodup h v hv
  obtain ⟨hty, ⟨_, e⟩ | ⟨x, _, e1, e2, _⟩⟩ := coerceVar_shape h1
  · rw [h2, e, h3] at hy; cases hy
  · obtain ⟨y', e3, hn, _⟩ := (coerceSupplied_spec (F := False) hclosed nofun nofun op v acc hty
      (suppliedValue_wf hwf e1)).of_eq e2
    rw [h2, e3, GoFields.lookup_set, if_pos rfl] at hy
    cases hy; exact hn (hsup x e1)

/-- R14c (known finding, not repaired): the undeclared key `__typename` is accepted and handed on;
    the returned value is not `Conforms`, only `ConformsExceptTypename`. -/
theorem C14_conforms_counterexample_typename :
    coerce schema (opWith (named "In")) (varsV (imap [(str "a", int 1), (str "__typename", .str (str "In"))]))
        = .ok (varsV (imap [(str "a", int 1), (str "__typename", .str (str "In"))]))
    ∧ ¬ Conforms schema (named "In") (imap [(str "a", int 1), (str "__typename", .str (str "In"))])
    ∧ ¬ Coercible schema (named "In") (imap [(str "a", int 1), (str "__typename", .str (str "In"))])
    ∧ ConformsExceptTypename schema (named "In") (imap [(str "a", int 1), (str "__typename", .str (str "In"))]) := by
  refine ⟨by rfl, by decide, by decide, by decide⟩

/-- any OTHER undeclared key is an error -/
theorem C14_rejects_undeclared_key :
    coerce schema (opWith (named "In")) (varsV (imap [(str "a", int 1), (str "zzz", int 2)]))
        = .err (str "unknown field") [.name (str "variable"), .name (str "v"), .name (str "zzz")] [] := by
  rfl

/-- Coercion returns an error rather than values whenever a supplied value cannot conform (up to
    the `__typename` exception): every variable type, every nesting. -/
theorem C14_rejects (s : Schema) (op : OperationDef) (vars : VarMap)
    (hclosed : InputsClosed s) (hfn : InputFieldsNodup s) (hplain : EnumNamesPlain s)
    (hnodup : (op.vars.map (·.var)).Nodup)
    (hwf : wfFieldsB true vars = true)
    (v : VarDef) (hv : v ∈ op.vars)
    (x : GoVal) (hx : vars.lookup v.var = some x) (hbad : ¬ CoercibleExceptTypename s v.type x) :
    ∀ m, coerce s op vars ≠ .ok m := by
  intro m h
  obtain ⟨acc, c, h1, _, _⟩ := coerceLoop_entry op.vars .nil m hnodup h v hv
  have hs : suppliedValue vars v = .ok (some x) := by simp [suppliedValue, hx]
  obtain ⟨hty, ⟨e, _⟩ | ⟨x', _, e1, e2, _⟩⟩ := coerceVar_shape h1
  · rw [hs] at e; cases e
  · cases hs.symm.trans e1
    obtain ⟨_, _, _, hc⟩ := (coerceSupplied_spec (F := True) hclosed (fun _ => hfn) (fun _ => hplain) op v acc hty
      (suppliedValue_wf hwf hs)).of_eq e2
    exact hbad (hc trivial).2

/-- … and without the exception when no object of the supplied value has the key `__typename`. -/
theorem C14_rejects_declared_only (s : Schema) (op : OperationDef) (vars : VarMap)
    (hclosed : InputsClosed s) (hfn : InputFieldsNodup s) (hplain : EnumNamesPlain s)
    (hnodup : (op.vars.map (·.var)).Nodup)
    (hwf : wfFieldsB true vars = true)
    (v : VarDef) (hv : v ∈ op.vars)
    (x : GoVal) (hx : vars.lookup v.var = some x) (hno : noTypenameB x = true) (hbad : ¬ Coercible s v.type x) :
    ∀ m, coerce s op vars ≠ .ok m :=
  C14_rejects s op vars hclosed hfn hplain hnodup hwf v hv x hx
    (fun hc => hbad (conforms_dropT s true v.type x hno hc))

/-- R14b repaired (former witness): `$v: Color` with "red" for `enum Color { RED }` is an error now;
    the value is not coercible. -/
theorem C14_rejects_enum_other_case :
    coerce schema (opWith (named "Color")) (varsV (.str (str "red")))
        = .err (str "red is not a valid Color") [.name (str "variable"), .name (str "v")] []
    ∧ ¬ CoercibleExceptTypename schema (named "Color") (.str (str "red"))
    ∧ coerce schema (opWith (named "Color")) (varsV (.str (str "RED"))) = .ok (varsV (.str (str "RED"))) := by
  -- the bytes of the message are left to the evaluator, the rest to unification
  have hmsg : str "red" ++ str " is not a valid " ++ str "Color" = str "red is not a valid Color" := by decide +kernel
  refine ⟨by rw [← hmsg]; rfl, by decide +kernel, by rfl⟩

/-- former R14d witness: `$v: [[Int]]` = `[1,2]` yields `[[1],[2]]`, which conforms. -/
theorem C14_conforms_R14d_returns :
    coerce schema (opWith (listOf (listOf (named "Int")))) (varsV (islice [int 1, int 2]))
        = .ok (varsV (islice [.slice (.int .int) (.cons (int 1) .nil), .slice (.int .int) (.cons (int 2) .nil)]))
    ∧ Conforms schema (listOf (listOf (named "Int")))
        (islice [.slice (.int .int) (.cons (int 1) .nil), .slice (.int .int) (.cons (int 2) .nil)])
    ∧ Coercible schema (listOf (listOf (named "Int"))) (islice [int 1, int 2])
    ∧ ¬ Conforms schema (listOf (listOf (named "Int"))) (islice [int 1, int 2]) := by
  refine ⟨by rfl, by decide +kernel, by decide +kernel, by decide +kernel⟩

/-- `$v: [[Int]]` = `1` yields `[[1]]` (as `[]interface{}{[]int{1}}`). -/
theorem C14_conforms_R14d_single_returns :
    coerce schema (opWith (listOf (listOf (named "Int")))) (varsV (int 1))
        = .ok (varsV (islice [.slice (.int .int) (.cons (int 1) .nil)]))
    ∧ Conforms schema (listOf (listOf (named "Int"))) (islice [.slice (.int .int) (.cons (int 1) .nil)]) := by
  refine ⟨by rfl, by decide +kernel⟩

/-- a typed list `[]int{1,2}` for `[[Int]]` cannot hold the coerced items: the result is rebuilt as
    `[]interface{}{[]int{1}, []int{2}}`. -/
theorem C14_conforms_R14d_typed_returns :
    coerce schema (opWith (listOf (listOf (named "Int")))) (varsV (.slice (.int .int) (.cons (int 1) (.cons (int 2) .nil))))
        = .ok (varsV (islice [.slice (.int .int) (.cons (int 1) .nil), .slice (.int .int) (.cons (int 2) .nil)])) := by
  rfl

/-- the same inside an input object: `$v: In` = `{"l": [1, [2]]}` yields `{"l": [[1], [2]]}`. -/
theorem C14_conforms_R14d_field_returns :
    coerce schema (opWith (named "In")) (varsV (imap [(str "l", islice [int 1, islice [int 2]])]))
        = .ok (varsV (imap [(str "l", islice [.slice (.int .int) (.cons (int 1) .nil), islice [int 2]])]))
    ∧ Conforms schema (named "In") (imap [(str "l", islice [.slice (.int .int) (.cons (int 1) .nil), islice [int 2]])]) := by
  refine ⟨by rfl, by decide +kernel⟩

/-- The compatible kind table at work (C14 asks for "a value of a compatible kind", not for strict
    GraphQL input coercion): `Int` holds a fractional float64, `Int` holds the string "12", `String`
    holds a json.Number — each returned unchanged and `Conforms`; a string that does not spell an
    integer is rejected for `Int`. -/
theorem C14_conforms_compatible_kinds :
    (coerce schema (opWith (named "Int")) (varsV (.float false (str "1.5"))) = .ok (varsV (.float false (str "1.5")))
      ∧ Conforms schema (named "Int") (.float false (str "1.5")))
    ∧ (coerce schema (opWith (named "Int")) (varsV (.str (str "12"))) = .ok (varsV (.str (str "12")))
      ∧ Conforms schema (named "Int") (.str (str "12")))
    ∧ (coerce schema (opWith (named "String")) (varsV (.jsonNumber (str "12"))) = .ok (varsV (.jsonNumber (str "12")))
      ∧ Conforms schema (named "String") (.jsonNumber (str "12")))
    ∧ (coerce schema (opWith (named "Int")) (varsV (.str (str "1.5")))
        = .err (str "cannot use string as Int") [.name (str "variable"), .name (str "v")] []
      ∧ ¬ Coercible schema (named "Int") (.str (str "1.5"))) := by
  have hmsg : str "cannot use " ++ str "string" ++ str " as " ++ str "Int" = str "cannot use string as Int" := by
    decide +kernel
  refine ⟨⟨by rfl, by decide⟩, ⟨by rfl, by decide⟩, ⟨by rfl, by decide⟩, ⟨by rw [← hmsg]; rfl, by decide⟩⟩

/- non-vacuity of the hypotheses of C14_total / C14_conforms / C14_rejects on the fixture schema -/
example : EnumNamesPlain schema := by
  intro n d h ev hev
  have hm := lookup_mem (show schema.types.lookup n = some d from h)
  simp only [schema, List.mem_cons, Prod.mk.injEq, List.not_mem_nil, or_false] at hm
  rcases hm with ⟨_, rfl⟩ | ⟨_, rfl⟩ | ⟨_, rfl⟩ | ⟨_, rfl⟩ | ⟨_, rfl⟩ | ⟨_, rfl⟩ <;>
    simp [mkDef, colorDef, inDef] at hev
  subst hev; decide +kernel
example : InputFieldsNodup schema := by
  intro n d h hk
  have hm := lookup_mem (show schema.types.lookup n = some d from h)
  simp only [schema, List.mem_cons, Prod.mk.injEq, List.not_mem_nil, or_false] at hm
  rcases hm with ⟨_, rfl⟩ | ⟨_, rfl⟩ | ⟨_, rfl⟩ | ⟨_, rfl⟩ | ⟨_, rfl⟩ | ⟨_, rfl⟩ <;> decide +kernel
example : InputsClosed schema := by
  intro n d h hk f hf
  have hm := lookup_mem (show schema.types.lookup n = some d from h)
  simp only [schema, List.mem_cons, Prod.mk.injEq, List.not_mem_nil, or_false] at hm
  rcases hm with ⟨_, rfl⟩ | ⟨_, rfl⟩ | ⟨_, rfl⟩ | ⟨_, rfl⟩ | ⟨_, rfl⟩ | ⟨_, rfl⟩ <;>
    simp [mkDef, colorDef, inDef, mkField] at hk hf
  rcases hf with rfl | rfl
  · exact ⟨mkDef .scalar "Int", by rfl, Or.inl rfl⟩
  · exact ⟨mkDef .scalar "Int", by rfl, Or.inl rfl⟩
example : coerce schema (opWith (listOf (named "Color"))) (varsV (.str (str "RED")))
    = .ok (varsV (.slice .string (.cons (.str (str "RED")) .nil))) := by rfl
example : ¬ CoercibleExceptTypename schema (named "Color") (.str (str "GREEN")) := by decide +kernel
/- an operation with a default, coerced with the empty map, returns the default -/
example : coerce schema (opWith (named "Int") (some (lit .int "5"))) .nil
    = .ok (.cons (str "v") (.int .int64 5) .nil) := by rfl
/- null list items, typed slices, typed maps of any element type are inside `wfB` -/
example : wfFieldsB true (varsV (islice [.nil, islice [int 2, .nil], .slice (.int .int) (.cons (int 3) .nil),
    imap [(str "l", islice [.nil])], .map (.int .int) (.cons (str "l") (int 1) .nil),
    .map (.slice .float32) (.cons (str "l") (.slice .float32 (.cons (.float true (str "1.5")) .nil)) .nil)])) = true := by decide +kernel
