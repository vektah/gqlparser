import GqlModel.Gen.Facts
import GqlProofs.Lexer.UniLex
import GqlProofs.Lexer.Utf8Valid
/-
  C03 — tokenisation conforms to the lexical grammar (theorem-backed parts).

  The specification is `GqlModel/Lexer/Spec.lean` (written from the October 2021 grammar over code
  points, independent of the model).  What is PROVED here about the model that the driver runs and
  that ./check C03 ties to lexer.ReadToken:

   * `C03_blockstring_eq_spec`  — the block string value algorithm is BlockStringValue() of the spec;
   * `C03_punctuators_eq_spec`  — the punctuator table is the spec's Punctuator production;
   * `C03_number_lookahead`     — an Int/Float token is never directly followed by a digit, `.` or a
                                   NameStart (the look-ahead restriction; repaired finding R3a);
   * `C03_name_maximal`         — a Name token is a maximal run of name characters (maximal munch);
   * `C03_ignored_only_ws`      — what `ws` skips between tokens is made of Ignored characters only
                                   (blank, comma, line terminators; on ASCII sources) and it stops
                                   exactly in front of a non-ignored character.

   * `C03_step_ascii`           — one `ReadToken` step equals one lexical item of the specification on
                                   ASCII text (kinds, values, extents; fails exactly where the grammar
                                   admits no token), `C03_block_ascii` for block strings;
   * `C03_lex_ascii`            — whole ASCII sources: `lexAll inp` and `Spec.lex inp` produce the same
                                   tokens up to the end or the first error (hypothesis `BlocksOK`: no
                                   block string is closed by a run of more than three quotes).

   * `C03_lex_utf8`             — EVERY well-formed UTF-8 source (`Utf8.decode inp = some cps`, a strict
                                   decoder characterised by `C03_utf8_decode_iff`): `lexAll inp` and `Spec.lex cps` produce the
                                   same tokens (kinds, values through UTF-8, extents in code points) up to
                                   the end or the first error, under `BlocksOK` on the decoded text;
                                   `C03_lex_scalars` is the same for `utf8Encode cps`, `C03_step_utf8` /
                                   `C03_block_utf8` the per-step forms, `C03_ws_utf8` the Ignored run (BOM
                                   included), `C03_lex_utf8_no_block`, `C03_lex_utf8_outcome` corollaries.
                                   The ASCII theorems above are special cases (`Utf8.decode_ascii`).
   * `C03_lex_invalid_utf8_partial` — outside the property (invalid UTF-8): a byte ≥ 128 where a token
                                   must start always fails with `Cannot parse the unexpected character`.

  Model and specification differ on no well-formed UTF-8 input except for the
  known finding (`C03_block_long_run_counterexample`, characterised exactly by `C03_block_ascii` /
  `C03_block_utf8`): a block string is closed by the LAST three quotes of a longer run.
-/
open Gql Gql.Lexer

/-- The model's `blockStringValue` (lexer/blockstring.go) is the specification's BlockStringValue()
    on every raw value without CR (the lexer turns CR and CRLF into LF before calling it). -/
theorem C03_blockstring_eq_spec (raw : Bytes) (h : 13 ∉ raw) :
    blockStringValue raw = Spec.blockStringValue raw :=
  blockStringValue_eq_spec raw h

/-- The single-byte punctuators of `ReadToken` are exactly the spec's Punctuator production
    (`...` is handled separately on both sides). -/
theorem C03_punctuators_eq_spec (b : Nat) : punct b = Spec.punctOf b :=
  punct_eq_punctOf b

/-- An Int or Float token is never directly followed by a digit, a dot or a name start:
    `readNumber` either fails or leaves a rest that satisfies the look-ahead restriction. -/
theorem C03_number_lookahead (start : Cur) (rest0 : Bytes) (t : Token) (r : Bytes) (c' : Cur)
    (h : readNumber start rest0 = .tok t r c') : numFollowBad r = false := by
  obtain ⟨_, _, _, _, _, hf, _⟩ := readNumber_tok h
  rw [numFollowBad_eq, hf]; rfl

/-- `numFollowBad` is the negation of the spec's `numberFollowOk` on ASCII (bytes < 128 are the
    code points; a byte ≥ 128 starts a multi-byte character, which is no Digit, `.` or NameStart). -/
theorem C03_lookahead_is_spec (b : Nat) (t : Bytes) (hb : b < 128) :
    numFollowBad (b :: t) = !Spec.numberFollowOk (b :: t) :=
  numFollowBad_eq (b :: t)

/-- Maximal munch for names: the bytes `nameSpan` takes are all name characters and what it leaves
    does not start with one. -/
theorem C03_name_maximal (l : Bytes) :
    (∀ b ∈ (nameSpan l).1, isNameCont b = true) ∧
    (match (nameSpan l).2 with | [] => True | b :: _ => isNameCont b = false) ∧
    l = (nameSpan l).1 ++ (nameSpan l).2 := by
  fun_induction nameSpan l with
  | case1 => simp
  | case2 b tl hb n r heq ih =>
    simp only [heq] at ih
    refine ⟨?_, ih.2.1, by simp [← ih.2.2]⟩
    intro x hx
    simp at hx
    rcases hx with rfl | hx
    · exact hb
    · exact ih.1 x hx
  | case3 b tl hb => simp; simpa using hb

/-- `isNameCont` is the spec's NameContinue on ASCII code points. -/
theorem C03_name_class_is_spec (b : Nat) (hb : b < 128) : isNameCont b = Spec.isNameContinueC b :=
  isNameCont_eq b

-- non-vacuity
example : blockStringValue (str "  a\n    b") = str "  a\nb" := by decide +kernel

/-! ### facts regenerated from /repo's sources on every run (GqlModel/Gen/Facts.lean) -/

/-- lexer/token.go's kind constants are, in order, the kinds of the model (`Kind.toNat` is the Go iota). -/
theorem C03_gen_token_kinds_agree :
    Gql.Gen.tokenKinds = ["Invalid", "EOF", "Bang", "Dollar", "Amp", "ParenL", "ParenR", "Spread", "Colon",
      "Equals", "At", "BracketL", "BracketR", "BraceL", "BraceR", "Pipe", "Name", "Int", "Float", "String",
      "BlockString", "Comment"] := by decide +kernel

/-- The `case c: return s.makeValueToken(K, "")` clauses of ReadToken are exactly the model's
    punctuator table (byte, kind number). -/
theorem C03_gen_punctuators_agree :
    Gql.Gen.punctCases.map (fun p => (p.1, Gql.Gen.tokenKinds.idxOf p.2)) =
      punctTable.map (fun p => (p.1, p.2.toNat)) := by decide +kernel

/-- The single-character escapes of readString are exactly the model's `escapeOut`. -/
theorem C03_gen_escapes_agree :
    (∀ p ∈ Gql.Gen.stringEscapes, escapeOut p.1 = some p.2) ∧
    (∀ e, e < 128 → (escapeOut e).isSome → (Gql.Gen.stringEscapes.lookup e).isSome) := by decide +kernel

/-! ### every well-formed UTF-8 source

  The model works on BYTES (`utf8Encode cps`), the specification on the CODE POINTS `cps`; a
  well-formed UTF-8 source is the encoding of exactly one list of Unicode scalar values
  (`Utf8.decode`, a strict decoder: `Utf8.decode_sound`, `Utf8.decode_encode`, `C03_utf8_decode_iff`). -/

/-- the strict decoder and `utf8Encode` are inverse: `Utf8.decode inp = some cps` iff `cps` is a list
    of Unicode scalar values whose UTF-8 encoding is `inp` -/
theorem C03_utf8_decode_iff (inp : Bytes) (cps : List Nat) :
    Utf8.decode inp = some cps ↔ (AllScalar cps ∧ utf8Encode cps = inp) := by
  constructor
  · intro h; have := Utf8.decode_sound inp cps h; exact ⟨this.2, this.1⟩
  · intro ⟨h1, h2⟩; rw [← h2]; exact Utf8.decode_encode cps h1

/-- What `ws` skips on a well-formed UTF-8 text is a run `ign` of code points each of which is an
    Ignored character of the grammar (TAB, space, comma, LF, CR, U+FEFF — the BOM bytes `EF BB BF`
    count as ONE character), and it stops exactly in front of a character that is none of them
    (or at the end); the rune counter advances by the number of code points skipped. -/
theorem C03_ws_utf8 (cps : List Nat) (c : Cur) (hs : AllScalar cps) :
    ∃ ign cps1, cps = ign ++ cps1 ∧ (ws (utf8Encode cps) c).1 = utf8Encode cps1 ∧
      (∀ x ∈ ign, x = 9 ∨ x = 32 ∨ x = 44 ∨ x = 10 ∨ x = 13 ∨ x = 0xFEFF) ∧ NotIgnoredHeadU cps1 ∧
      (ws (utf8Encode cps) c).2.endR = c.endR + ign.length := by
  obtain ⟨ign, cps1, e0, h1, _, hH, h4, hi, _⟩ := ws_u (utf8Encode cps) c cps hs rfl
  exact ⟨ign, cps1, e0, h1, hi, hH, h4⟩

/-- One `ReadToken` step after `ws` (`readTokenBody`, run on the BYTES `utf8Encode cps1`) against one
    lexical item of the specification (`Spec.item`, on the CODE POINTS `cps1`), for every text of
    Unicode scalar values whose head is not an Ignored character (what `ws` leaves, `C03_ws_utf8`).
    Same seven clauses as `C03_step_ascii`; extents `n` are counted in code points, the rest of the
    model is the encoding of the rest of the specification.  In particular a non-ASCII character
    where a token must start is an error on both sides (clauses 5 and 7). -/
theorem C03_step_utf8 (cps1 : List Nat) (c1 : Cur) (hs : AllScalar cps1) (hH : NotIgnoredHeadU cps1) :
    (Spec.item cps1 = .eof ↔ cps1 = []) ∧
    (cps1 = [] → readTokenBody (utf8Encode cps1) c1 =
        .tok (Token.mk .eof [] c1.endR c1.endR c1.line (colOf c1.endR c1.ls)) [] c1) ∧
    (∀ n, Spec.item cps1 ≠ .ignored n) ∧
    (∀ k v n, Spec.item cps1 = .token k v n → k ≠ .blockString →
      ∃ t c', readTokenBody (utf8Encode cps1) c1 = .tok t (utf8Encode (cps1.drop n)) c' ∧ t.kind = k ∧
        t.value = utf8Encode v ∧ t.start = c1.endR ∧ t.stop = c1.endR + n ∧ c'.endR = c1.endR + n) ∧
    (Spec.item cps1 = .error → ∃ e, readTokenBody (utf8Encode cps1) c1 = .err e) ∧
    (∀ t rest' c', readTokenBody (utf8Encode cps1) c1 = .tok t rest' c' → t.kind ≠ .eof →
      t.kind ≠ .blockString →
      ∃ v n, Spec.item cps1 = .token t.kind v n ∧ t.value = utf8Encode v ∧
        rest' = utf8Encode (cps1.drop n) ∧ t.start = c1.endR ∧ t.stop = c1.endR + n) ∧
    (∀ e, readTokenBody (utf8Encode cps1) c1 = .err e → Spec.item cps1 = .error) := by
  have core := step_u _ c1 cps1 hs hH (InvU_self c1 cps1)
  have heof : cps1 = [] → readTokenBody (utf8Encode cps1) c1 =
        .tok (Token.mk .eof [] c1.endR c1.endR c1.line (colOf c1.endR c1.ls)) [] c1 := by
    intro h; subst h; simp [utf8Encode_nil, readTokenBody, simpleTok, Cur.adv]
  -- a token item makes the model return a token of that kind; unless a block string, that very token
  have out : ∀ k v n, Spec.item cps1 = .token k v n →
      ∃ t r c', readTokenBody (utf8Encode cps1) c1 = .tok t r c' ∧ t.kind = k ∧
        (k ≠ .blockString → r = utf8Encode (cps1.drop n) ∧ t.value = utf8Encode v ∧ t.start = c1.endR ∧
          t.stop = c1.endR + n ∧ c'.endR = c1.endR + n) := by
    intro k v n hit
    rw [hit] at core
    obtain ⟨t, x, r, c', e1, T⟩ := core
    refine ⟨t, _, c', e1, T.kind, fun hk => ?_⟩
    have hx := T.exact (.inl hk)
    exact ⟨by rw [T.split, ← hx, List.drop_left], T.value hx, T.start, T.stop, hx ▸ T.endR⟩
  refine ⟨?_, heof, ?_, ?_, ?_, ?_, ?_⟩
  · constructor
    · intro h; rw [h] at core; exact core
    · intro h; subst h; rfl
  · intro n h; rw [h] at core; exact core
  · intro k v n h hk
    obtain ⟨t, r, c', e1, e2, e3⟩ := out k v n h
    obtain ⟨rfl, f⟩ := e3 hk
    exact ⟨t, c', e1, e2, f⟩
  · intro h; rw [h] at core; exact core
  · intro t rest' c' hm hk1 hk2
    cases hit : Spec.item cps1 with
    | eof =>
      rw [hit] at core
      rw [heof core] at hm
      injection hm with h1 _ _
      subst h1
      exact absurd rfl hk1
    | ignored n => rw [hit] at core; exact core.elim
    | error =>
      rw [hit] at core
      obtain ⟨e, he⟩ := core
      rw [he] at hm; cases hm
    | token k v n =>
      obtain ⟨t', r, c'', e1, e2, e3⟩ := out k v n hit
      rw [e1] at hm
      injection hm with h1 h2 _
      subst h1 h2 e2
      obtain ⟨f0, f1, f2, f3, _⟩ := e3 hk2
      exact ⟨v, n, rfl, f1, f0, f2, f3⟩
  · intro e hm
    cases hit : Spec.item cps1 with
    | eof =>
      rw [hit] at core
      rw [heof core] at hm; cases hm
    | ignored n => rw [hit] at core; exact core.elim
    | error => rfl
    | token k v n =>
      obtain ⟨t', r, c'', e1, _⟩ := out k v n hit
      rw [e1] at hm; cases hm

/-- Block strings over arbitrary scalars (same statement as `C03_block_ascii`): the grammar admits
    no block string iff the model fails; otherwise the model's token has the specification's start
    and stop, and its value and consumed extent additionally include the `quoteRun r` quotes that
    directly follow the specification's closing quotes (recorded known finding); under
    `NoLongQuoteRun body` value (UTF-8 of BlockStringValue(raw)), rest and cursor coincide. -/
theorem C03_block_utf8 (body : List Nat) (c1 : Cur) (hs : AllScalar body) :
    match Spec.blockBody body with
    | none => Spec.item (34 :: 34 :: 34 :: body) = .error ∧
        ∃ e, readTokenBody (utf8Encode (34 :: 34 :: 34 :: body)) c1 = .err e
    | some (raw, nb, r) =>
      Spec.item (34 :: 34 :: 34 :: body) = .token .blockString (Spec.blockStringValue raw) (nb + 3) ∧
      r = (34 :: 34 :: 34 :: body).drop (nb + 3) ∧
      ∃ t c', readTokenBody (utf8Encode (34 :: 34 :: 34 :: body)) c1 =
          .tok t (utf8Encode (r.drop (quoteRun r))) c' ∧
        t.kind = .blockString ∧ t.start = c1.endR ∧ t.stop = c1.endR + (nb + 3) ∧
        c'.endR = c1.endR + (nb + 3) + quoteRun r ∧
        t.value = blockStringValue (utf8Encode (normCR raw) ++ List.replicate (quoteRun r) 34) ∧
        (NoLongQuoteRun body = true →
          t.value = utf8Encode (Spec.blockStringValue raw) ∧
          r.drop (quoteRun r) = (34 :: 34 :: 34 :: body).drop (nb + 3) ∧ c'.endR = c1.endR + (nb + 3)) := by
  have hm := step_block_u body c1 _ hs (InvU_self (c1.adv 3 3) body)
  cases hbb : Spec.blockBody body with
  | none =>
    rw [hbb] at hm
    exact ⟨by rw [item_block, hbb], hm⟩
  | some p =>
    obtain ⟨raw, nb, r⟩ := p
    rw [hbb] at hm
    obtain ⟨c', x, e1, e2, e3, e4, e5⟩ := hm
    have hd : r = (34 :: 34 :: 34 :: body).drop (nb + 3) := by
      have := blockBody_drop hbb
      simpa using this.symm
    refine ⟨by rw [item_block, hbb], hd, _, c', e5, rfl, rfl, by simp [Cur.adv]; omega,
      by rw [e4]; simp [Cur.adv]; omega, by simp, ?_⟩
    intro hq
    have hq0 : quoteRun r = 0 := by
      unfold NoLongQuoteRun at hq
      rw [hbb] at hq
      simpa using hq
    refine ⟨?_, by rw [hq0, ← hd]; simp, by rw [e4, hq0]; simp [Cur.adv]; omega⟩
    simp only [hq0, List.replicate_zero, List.append_nil, List.reverse_nil, List.nil_append]
    rw [blockStringValue_enc _ (blockBody_scalar hbb hs), model_value_eq_spec]

/-- `C03_lex_utf8` stated on the code points: the model run on `utf8Encode cps` against the
    specification run on `cps`, for every list of Unicode scalar values. -/
theorem C03_lex_scalars (cps : List Nat) (hs : AllScalar cps) (hb : BlocksOK (cps.length + 1) cps = true) :
    match Spec.lex cps with
    | .ok toks => ∃ ts eof, lexAll (utf8Encode cps) = .done (ts ++ [eof]) ∧ eof.kind = .eof ∧
        eof.value = [] ∧ ts.map obsT = toks.map obsS
    | .error toks => ∃ ts e, lexAll (utf8Encode cps) = .fail ts e ∧ ts.map obsT = toks.map obsS :=
  lexAll_lex_u cps hs hb

/-- The token sequence of the model equals the token sequence of the lexical grammar, and the model
    fails exactly where the grammar admits no token — for EVERY well-formed UTF-8 source `inp`
    (`Utf8.decode inp = some cps`: `cps` are its code points) in which every block string met at an
    item boundary satisfies `NoLongQuoteRun` (`BlocksOK` on the decoded text):
     * `Spec.lex cps = .ok toks`    ⇒ `lexAll inp = .done (ts ++ [eof])`, `eof` the EOF token, and `ts`
       agrees with `toks` token by token in kind, value (UTF-8 of the specification's code points),
       start and stop (offsets in CODE POINTS: `obsT t = (t.kind, t.value, t.start, t.stop)`,
       `obsS s = (s.kind, utf8Encode s.value, s.start, s.stop)`);
     * `Spec.lex cps = .error toks` ⇒ `lexAll inp = .fail ts e` with the same agreement of the tokens
       lexed before the error.
    Line and column: `C04_tokens_are_spec_tokens_utf8`. -/
theorem C03_lex_utf8 (inp : Bytes) (cps : List Nat) (h : Utf8.decode inp = some cps)
    (hb : BlocksOK (cps.length + 1) cps = true) :
    match Spec.lex cps with
    | .ok toks => ∃ ts eof, lexAll inp = .done (ts ++ [eof]) ∧ eof.kind = .eof ∧ eof.value = [] ∧
        ts.map obsT = toks.map obsS
    | .error toks => ∃ ts e, lexAll inp = .fail ts e ∧ ts.map obsT = toks.map obsS := by
  obtain ⟨h1, h2⟩ := Utf8.decode_sound inp cps h
  rw [← h1]
  exact lexAll_lex_u cps h2 hb

/-- the same with the hypothesis in the form `Utf8.valid inp` (the decoder succeeds) -/
theorem C03_lex_utf8_valid (inp : Bytes) (h : Utf8.valid inp) :
    ∃ cps, Utf8.decode inp = some cps ∧ (BlocksOK (cps.length + 1) cps = true →
      match Spec.lex cps with
      | .ok toks => ∃ ts eof, lexAll inp = .done (ts ++ [eof]) ∧ eof.kind = .eof ∧ eof.value = [] ∧
          ts.map obsT = toks.map obsS
      | .error toks => ∃ ts e, lexAll inp = .fail ts e ∧ ts.map obsT = toks.map obsS) := by
  unfold Utf8.valid at h
  cases hd : Utf8.decode inp with
  | none => rw [hd] at h; cases h
  | some cps => exact ⟨cps, rfl, fun hb => C03_lex_utf8 inp cps hd hb⟩

/-- Unconditional form for well-formed UTF-8 sources without three consecutive quotes. -/
theorem C03_lex_utf8_no_block (inp : Bytes) (cps : List Nat) (h : Utf8.decode inp = some cps)
    (hq : NoTripleQuote cps = true) :
    match Spec.lex cps with
    | .ok toks => ∃ ts eof, lexAll inp = .done (ts ++ [eof]) ∧ eof.kind = .eof ∧ eof.value = [] ∧
        ts.map obsT = toks.map obsS
    | .error toks => ∃ ts e, lexAll inp = .fail ts e ∧ ts.map obsT = toks.map obsS :=
  C03_lex_utf8 inp cps h (BlocksOK_of_noTriple _ cps hq)

/-- The model never runs out of fuel and succeeds iff the grammar tokenises the whole source. -/
theorem C03_lex_utf8_outcome (inp : Bytes) (cps : List Nat) (h : Utf8.decode inp = some cps)
    (hb : BlocksOK (cps.length + 1) cps = true) :
    ((∃ toks, Spec.lex cps = .ok toks) ↔ ∃ ts, lexAll inp = .done ts) ∧
    ((∃ toks, Spec.lex cps = .error toks) ↔ ∃ ts e, lexAll inp = .fail ts e) := by
  have h := C03_lex_utf8 inp cps h hb
  cases hs : Spec.lex cps with
  | ok toks =>
    rw [hs] at h
    obtain ⟨ts, eof, e1, _⟩ := h
    simp [e1]
  | error toks =>
    rw [hs] at h
    obtain ⟨ts, e, e1, _⟩ := h
    simp [e1]

/-- Outside the property (the specification is about well-formed sources), but cheap and exact: a
    byte ≥ 128 where a token must start — the lead byte of a valid multi-byte character, a stray
    continuation byte or any other invalid byte alike — always fails, at the cursor, with the
    message built from that single BYTE read as a code point (Go: `string(rune(byte))`). -/
theorem C03_lex_invalid_utf8_partial (b : Nat) (tl : Bytes) (c : Cur) (hb : 128 ≤ b) :
    readTokenBody (b :: tl) c =
      .err { msg := str "Cannot parse the unexpected character \"" ++ encodeRune b ++ str "\".",
             line := c.line, col := colOf c.endR c.ls } := by
  rw [readTokenBody_high b tl c hb]
  have h1 : ¬ (b < 32 ∧ b ≠ 9 ∧ b ≠ 10 ∧ b ≠ 13) := by omega
  have h2 : ¬ b = 39 := by omega
  simp only [unexpectedChar, h1, h2, if_false, mkErr]

/-- Outside the property as well, and exact: since the repair of `readString` (the default branch
    appends the SOURCE bytes to the buffer) the string loop does not depend on whether an escape
    sequence has been seen (`buf`): with or without escapes the value of a String token keeps the raw
    bytes of every unescaped character, ill-formed UTF-8 included (`"\t\xFF"` has the value 09 FF;
    before the repair 09 EF BF BD).  Block strings still re-encode what they decode. -/
theorem C03_string_loop_buf_irrelevant (q : Cur) (l : Bytes) (c : Cur) (acc : Bytes) (b1 b2 : Bool) :
    readStringLoop q l c acc b1 = readStringLoop q l c acc b2 := by
  rw [readStringLoop_buf_false q l c acc b1, readStringLoop_buf_false q l c acc b2]

example : ∃ c', readToken [34, 92, 116, 255, 34] Cur.init =
    .tok { kind := .string, value := [9, 255], start := 0, stop := 5, line := 1, col := 2 } [] c' := by
  simp [readToken, ws, readTokenBody, isNameStart, isDigit, readStringLoop.eq_def, decodeRune, runeError,
    escapeOut, Cur.init, Cur.adv, colOf]

-- non-ASCII sources: two-byte character in a string, a comment with a three-byte character, BOM
example : Utf8.decode [0xEF, 0xBB, 0xBF, 34, 0xC3, 0xA9, 34] = some [0xFEFF, 34, 0xE9, 34] := by decide +kernel
example : (match Spec.lex [0xFEFF, 34, 0xE9, 34] with | .ok ts => ts.map obsS | _ => []) =
    [(Kind.string, [0xC3, 0xA9], 1, 4)] := by decide +kernel
example : BlocksOK 5 [0xFEFF, 34, 0xE9, 34] = true := by decide +kernel

/-! ### ASCII sources

  An ASCII text is its own list of code points and its own encoding (`Utf8.decode_ascii`,
  `utf8Encode_ascii`), so the theorems of this section are the ones above read on such a text. -/

/-- What `ws` skips consists of Ignored characters of the grammar only (ASCII sources: TAB, space,
    comma, LF, CR), and it stops exactly in front of a character that is not one of them. -/
theorem C03_ignored_only_ws (rest : Bytes) (c : Cur) (hA : Ascii rest) :
    ∃ ign, rest = ign ++ (ws rest c).1 ∧ (∀ b ∈ ign, b = 9 ∨ b = 32 ∨ b = 44 ∨ b = 10 ∨ b = 13) ∧
      (match (ws rest c).1 with
       | [] => True
       | b :: _ => ¬ (b = 9 ∨ b = 32 ∨ b = 44 ∨ b = 10 ∨ b = 13)) := by
  obtain ⟨ign, cps1, e, h1, h2, h3, _⟩ := C03_ws_utf8 rest c (AllScalar_of_ascii hA)
  have hA1 : Ascii cps1 := by rw [e] at hA; exact Ascii_append_right hA
  rw [utf8Encode_ascii rest hA, utf8Encode_ascii cps1 hA1] at h1
  rw [h1]
  refine ⟨ign, e, fun b hb => ?_, ?_⟩
  · have hb' : ¬ b = 0xFEFF := by have := hA b (by rw [e]; simp [hb]); omega
    exact (h2 b hb).imp_right (·.imp_right (·.imp_right (·.imp_right (·.resolve_right hb'))))
  · cases cps1 with
    | nil => trivial
    | cons b t =>
      have h3' : ¬ (b = 9 ∨ b = 32 ∨ b = 44 ∨ b = 10 ∨ b = 13 ∨ b = 0xFEFF) := h3
      show ¬ (b = 9 ∨ b = 32 ∨ b = 44 ∨ b = 10 ∨ b = 13)
      omega

/-- what `ws` leaves starts a token or is the end of the text -/
theorem C03_ws_leaves_token_start (rest : Bytes) (c : Cur) (hA : Ascii rest) :
    NotIgnoredHead (ws rest c).1 := by
  obtain ⟨_, _, _, h⟩ := C03_ignored_only_ws rest c hA
  exact h

/-- One `ReadToken` step after `ws` (`readTokenBody`) against one lexical item of the specification
    (`Spec.item`), for an ASCII text whose head is not an Ignored character (what `ws` leaves, see
    `C03_ignored_only_ws`):
     1. the item is EOF exactly at the end of the text;
     2. the model then returns the EOF token;
     3. the item is never `Ignored`;
     4. a token item other than a block string is exactly what the model returns: kind, semantic value
        (UTF-8 of the specification's code points), extent `n`, start and stop offsets, cursor;
     5. where the grammar admits no token the model fails (block strings included);
     6. conversely a model token other than EOF / BlockString is the specification's token;
     7. conversely a model failure is a place where the grammar admits no token.
    Block strings: `C03_block_ascii`. -/
theorem C03_step_ascii (rest1 : Bytes) (c1 : Cur) (hA : Ascii rest1) (hH : NotIgnoredHead rest1) :
    (Spec.item rest1 = .eof ↔ rest1 = []) ∧
    (rest1 = [] → readTokenBody rest1 c1 =
        .tok (Token.mk .eof [] c1.endR c1.endR c1.line (colOf c1.endR c1.ls)) [] c1) ∧
    (∀ n, Spec.item rest1 ≠ .ignored n) ∧
    (∀ k v n, Spec.item rest1 = .token k v n → k ≠ .blockString →
      ∃ t c', readTokenBody rest1 c1 = .tok t (rest1.drop n) c' ∧ t.kind = k ∧ t.value = utf8Encode v ∧
        t.start = c1.endR ∧ t.stop = c1.endR + n ∧ c'.endR = c1.endR + n) ∧
    (Spec.item rest1 = .error → ∃ e, readTokenBody rest1 c1 = .err e) ∧
    (∀ t rest' c', readTokenBody rest1 c1 = .tok t rest' c' → t.kind ≠ .eof → t.kind ≠ .blockString →
      ∃ v n, Spec.item rest1 = .token t.kind v n ∧ t.value = utf8Encode v ∧ rest' = rest1.drop n ∧
        t.start = c1.endR ∧ t.stop = c1.endR + n) ∧
    (∀ e, readTokenBody rest1 c1 = .err e → Spec.item rest1 = .error) := by
  have hH' : NotIgnoredHeadU rest1 := by
    cases rest1 with
    | nil => trivial
    | cons b t =>
      have hb := Ascii_head hA
      have hH1 : ¬ (b = 9 ∨ b = 32 ∨ b = 44 ∨ b = 10 ∨ b = 13) := hH
      show ¬ (b = 9 ∨ b = 32 ∨ b = 44 ∨ b = 10 ∨ b = 13 ∨ b = 0xFEFF)
      omega
  have hd : ∀ n, utf8Encode (rest1.drop n) = rest1.drop n :=
    fun n => utf8Encode_ascii _ (Ascii_drop n hA)
  have h := C03_step_utf8 rest1 c1 (AllScalar_of_ascii hA) hH'
  simp only [utf8Encode_ascii rest1 hA, hd] at h
  exact h

/-- Block strings.  For an ASCII body after the opening `"""`:
     * the grammar admits no block string here (`blockBody = none`: unterminated, or a control
       character) iff the model fails;
     * otherwise the item of the specification is the BlockString token with BlockStringValue(raw)
       and extent `nb + 3`, and the model returns a BlockString token with the same start and stop
       whose value and consumed extent additionally include the `quoteRun r` quotes that directly
       follow the specification's closing `"""` (the model closes with the LAST three quotes of a
       longer run: recorded known finding);
     * under `NoLongQuoteRun body` (no quote follows the first unescaped `"""`) the two coincide:
       value (UTF-8 of the specification's value), rest and cursor. -/
theorem C03_block_ascii (body : Bytes) (c1 : Cur) (hA : Ascii body) :
    match Spec.blockBody body with
    | none => Spec.item (34 :: 34 :: 34 :: body) = .error ∧
        ∃ e, readTokenBody (34 :: 34 :: 34 :: body) c1 = .err e
    | some (raw, nb, r) =>
      Spec.item (34 :: 34 :: 34 :: body) = .token .blockString (Spec.blockStringValue raw) (nb + 3) ∧
      r = (34 :: 34 :: 34 :: body).drop (nb + 3) ∧
      ∃ t c', readTokenBody (34 :: 34 :: 34 :: body) c1 = .tok t (r.drop (quoteRun r)) c' ∧
        t.kind = .blockString ∧ t.start = c1.endR ∧ t.stop = c1.endR + (nb + 3) ∧
        c'.endR = c1.endR + (nb + 3) + quoteRun r ∧
        t.value = blockStringValue (normCR raw ++ List.replicate (quoteRun r) 34) ∧
        (NoLongQuoteRun body = true →
          t.value = utf8Encode (Spec.blockStringValue raw) ∧
          r.drop (quoteRun r) = (34 :: 34 :: 34 :: body).drop (nb + 3) ∧ c'.endR = c1.endR + (nb + 3)) := by
  have hA3 : Ascii (34 :: 34 :: 34 :: body) :=
    Ascii_cons (by omega) (Ascii_cons (by omega) (Ascii_cons (by omega) hA))
  have h := C03_block_utf8 body c1 (AllScalar_of_ascii hA)
  rw [utf8Encode_ascii _ hA3] at h
  cases hbb : Spec.blockBody body with
  | none => rw [hbb] at h; exact h
  | some p =>
    obtain ⟨raw, nb, r⟩ := p
    rw [hbb] at h
    obtain ⟨h1, h2, t, c', e1, e2, e3, e4, e5, e6, e7⟩ := h
    have hr : Ascii (r.drop (quoteRun r)) := by rw [h2]; exact Ascii_drop _ (Ascii_drop _ hA3)
    have hraw : Ascii (normCR raw) := fun x hx =>
      (normCR_mem raw x hx).elim (blockBody_ascii hbb hA x) (fun e => by omega)
    rw [utf8Encode_ascii _ hr] at e1
    rw [utf8Encode_ascii _ hraw] at e6
    exact ⟨h1, h2, t, c', e1, e2, e3, e4, e5, e6, e7⟩

/-- Without the hypothesis the two disagree: on `"""a""""` the specification's token is the block
    string `a` of 7 characters (leaving one `"`), the model's token has the value `a"` and consumes
    all 8 characters. -/
theorem C03_block_long_run_counterexample :
    let src : Bytes := [34, 34, 34, 97, 34, 34, 34, 34]
    Ascii src ∧ NoLongQuoteRun (src.drop 3) = false ∧
    Spec.item src = .token .blockString [97] 7 ∧
    ∃ t c', readTokenBody src Cur.init = .tok t [] c' ∧ t.kind = .blockString ∧ t.value = [97, 34] ∧
      t.stop = 7 ∧ c'.endR = 8 := by
  intro src
  have hA : Ascii src := by intro b hb; simp [src] at hb; omega
  have hbb : Spec.blockBody [97, 34, 34, 34, 34] = some ([97], 4, [34]) := by
    rw [blockBody_plain 97 _ (by intro r e; simp at e) (by intro r e; simp at e), blockBody_close]
    rfl
  have hq : quoteRun [34] = 1 := by simp [quoteRun]
  have hb := C03_block_ascii [97, 34, 34, 34, 34] Cur.init (Ascii_tail (Ascii_tail (Ascii_tail hA)))
  rw [hbb] at hb
  obtain ⟨h1, _, t, c', e1, e2, e3, e4, e5, e6, _⟩ := hb
  refine ⟨hA, ?_, ?_, t, c', ?_, e2, ?_, ?_, ?_⟩
  · simp [src, NoLongQuoteRun, hbb, hq]
  · rw [h1]; rfl
  · rw [e1, hq]; rfl
  · rw [e6, hq]; decide
  · rw [e4]; rfl
  · rw [e5, hq]; rfl

-- non-vacuity of the step theorem's token clause
example : Spec.item [123, 32] = .token .braceL [] 1 := by rfl

/-- The token sequence of the model equals the token sequence of the lexical grammar, and the model
    fails exactly where the grammar admits no token — for ASCII sources in which every block string
    met at an item boundary satisfies `NoLongQuoteRun` (`BlocksOK`, a decidable walk over the items
    of the specification):
     * `Spec.lex inp = .ok toks`    ⇒ `lexAll inp = .done (ts ++ [eof])`, `eof` the EOF token, and `ts`
       agrees with `toks` token by token in kind, value (UTF-8 of the specification's code points),
       start and stop (`obsT t = (t.kind, t.value, t.start, t.stop)`, `obsS s = (s.kind, utf8Encode
       s.value, s.start, s.stop)`);
     * `Spec.lex inp = .error toks` ⇒ `lexAll inp = .fail ts e` with the same agreement of the tokens
       lexed before the error.
    Since `Spec.lex` is total and the two outcomes are disjoint on both sides this is an equivalence.
    Line and column: `C04_tokens_are_spec_tokens_ascii`. -/
theorem C03_lex_ascii (inp : Bytes) (hA : Ascii inp) (hb : BlocksOK (inp.length + 1) inp = true) :
    match Spec.lex inp with
    | .ok toks => ∃ ts eof, lexAll inp = .done (ts ++ [eof]) ∧ eof.kind = .eof ∧ eof.value = [] ∧
        ts.map obsT = toks.map obsS
    | .error toks => ∃ ts e, lexAll inp = .fail ts e ∧ ts.map obsT = toks.map obsS :=
  C03_lex_utf8 inp inp (Utf8.decode_ascii inp hA) hb

/-- Unconditional form for ASCII sources without three consecutive quotes (no block strings). -/
theorem C03_lex_ascii_no_block (inp : Bytes) (hA : Ascii inp) (hq : NoTripleQuote inp = true) :
    match Spec.lex inp with
    | .ok toks => ∃ ts eof, lexAll inp = .done (ts ++ [eof]) ∧ eof.kind = .eof ∧ eof.value = [] ∧
        ts.map obsT = toks.map obsS
    | .error toks => ∃ ts e, lexAll inp = .fail ts e ∧ ts.map obsT = toks.map obsS :=
  C03_lex_utf8_no_block inp inp (Utf8.decode_ascii inp hA) hq

/-- The model never runs out of fuel and succeeds iff the grammar tokenises the whole source
    (same hypotheses). -/
theorem C03_lex_ascii_outcome (inp : Bytes) (hA : Ascii inp) (hb : BlocksOK (inp.length + 1) inp = true) :
    ((∃ toks, Spec.lex inp = .ok toks) ↔ ∃ ts, lexAll inp = .done ts) ∧
    ((∃ toks, Spec.lex inp = .error toks) ↔ ∃ ts e, lexAll inp = .fail ts e) :=
  C03_lex_utf8_outcome inp inp (Utf8.decode_ascii inp hA) hb

-- the hypotheses are satisfiable and the conclusion is not vacuous
example : BlocksOK 40 (str "{ a(x: \"s\\n\", y: 1.5e3) \"\"\"b\"\"\" }") = true := by decide +kernel
example : (match Spec.lex (str "{ a }") with | .ok ts => ts.length | _ => 0) = 3 := by decide +kernel


#print axioms C03_step_ascii
#print axioms C03_block_ascii
#print axioms C03_block_long_run_counterexample
#print axioms C03_lex_ascii
#print axioms C03_lex_ascii_no_block
#print axioms C03_lex_ascii_outcome
#print axioms C03_utf8_decode_iff
#print axioms C03_ws_utf8
#print axioms C03_step_utf8
#print axioms C03_block_utf8
#print axioms C03_lex_scalars
#print axioms C03_lex_utf8
#print axioms C03_lex_utf8_valid
#print axioms C03_lex_utf8_no_block
#print axioms C03_lex_utf8_outcome
#print axioms C03_lex_invalid_utf8_partial
#print axioms C03_string_loop_buf_irrelevant
