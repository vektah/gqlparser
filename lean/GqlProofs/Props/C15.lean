import GqlProofs.Lemmas.VarsFixtures
import GqlProofs.Lemmas.VarsLemmas
/-
  C15 — argument resolution is total and ordered literal > variable > default.

  Model: `argumentMap vdefs (some defs) args vars` = `Field.ArgumentMap` / `Directive.ArgumentMap`
  (ast/argmap.go `arg2map`, ast/value.go `Value.Value`), with `vdefs` the variable definitions the
  value nodes are linked to and `defs` the argument definitions of the field / directive.
  Specification: `argValueSpec` / `argSpec` / `argHasValue` (GqlModel/Vars/Spec.lean).

  FULL STATEMENT of C15_total:
      ∀ vdefs defs args vars, ∃ m, argumentMap vdefs (some defs) args vars = .ok m
  for every field / directive of a document that passed validation.  It was false of the pinned
  tree (R15: a custom-scalar argument may carry ANY literal, `Value.Value` failed on an Int literal
  beyond int64 / a Float literal beyond float64, and `arg2map` turns the error into a panic).
  REPAIRED: `Value.Value` converts every number literal (integer beyond int64 → the float64 of its
  text, float beyond float64 → ±Inf), so the only hypothesis left is that the leaves are written as
  the lexer writes them (`wellLexedB`: Int `-?[0-9]+`, Float `-?[0-9]+(\.[0-9]+)?([eE][+-]?[0-9]+)?`,
  Boolean `true`/`false`) and that variable defaults are constants — both hold of every parsed
  document.  `C15_total_syntaxOk` is the same statement under the weaker, model-level hypothesis
  that `strconv` finds no SYNTAX error in a leaf; `C15_total_needs_wellLexed` shows that a
  hand-built AST with a malformed leaf (which no parser produces) still panics.
-/
open Gql Gql.Fixtures

/-- Computing the argument map returns normally whenever no Int / Float / Boolean leaf is a syntax
    error for `strconv` (ranges no longer matter). -/
theorem C15_total_syntaxOk (vdefs : List VarDef) (defs : List ArgDef) (args : List Argument) (vars : VarMap)
    (hargs : ∀ a ∈ args, syntaxOkB a.value = true)
    (hdefs : ∀ d ∈ defs, ∀ dv, d.default = some dv → syntaxOkB dv = true)
    (hvd : DefaultsSyntaxOk vdefs) :
    ∃ m, argumentMap vdefs (some defs) args vars = .ok m := by
  simp only [argumentMap, arg2map]
  exact arg2mapLoop_ok vdefs args vars hargs hvd defs .nil hdefs

/-- Computing the argument map returns normally for literals as the lexer writes them — whatever
    their magnitude (no hypothesis on ranges: R15 is repaired). -/
theorem C15_total (vdefs : List VarDef) (defs : List ArgDef) (args : List Argument) (vars : VarMap)
    (hargs : ∀ a ∈ args, wellLexedB a.value = true)
    (hdefs : ∀ d ∈ defs, ∀ dv, d.default = some dv → wellLexedB dv = true)
    (hvd : DefaultsLexed vdefs) :
    ∃ m, argumentMap vdefs (some defs) args vars = .ok m :=
  C15_total_syntaxOk vdefs defs args vars
    (fun a ha => wellLexed_syntaxOk _ (hargs a ha))
    (fun d hd dv hdv => wellLexed_syntaxOk _ (hdefs d hd dv hdv))
    (defaultsLexed_syntaxOk hvd)

/-- R15 repaired (former witness): `f(c: 99999999999999999999)` with `c: Custom` yields the map
    `{c: float64("99999999999999999999")}` = `{c: 1e20}`. -/
theorem C15_total_R15_int_returns :
    argumentMap [] (some [argDef "c" (named "Custom")]) [arg "c" (lit .int "99999999999999999999")] .nil
        = .ok (.cons (str "c") (.float false (str "99999999999999999999")) .nil)
    ∧ argSpec [] [argDef "c" (named "Custom")] [arg "c" (lit .int "99999999999999999999")] .nil
        = some (.cons (str "c") (.float false (str "99999999999999999999")) .nil) := by
  constructor <;> rfl

/-- R15 repaired (former witness): `f(c: 1e999)` yields `{c: float64("1e999")}` = `{c: +Inf}`. -/
theorem C15_total_R15_float_returns :
    argumentMap [] (some [argDef "c" (named "Custom")]) [arg "c" (lit .float "1e999")] .nil
        = .ok (.cons (str "c") (.float false (str "1e999")) .nil)
    ∧ argSpec [] [argDef "c" (named "Custom")] [arg "c" (lit .float "1e999")] .nil
        = some (.cons (str "c") (.float false (str "1e999")) .nil) := by
  constructor <;> rfl

/-- The remaining hypothesis is needed: a hand-built `IntValue` node with the text `1x` (no lexer
    produces it) still makes `arg2map` panic. -/
theorem C15_total_needs_wellLexed :
    argumentMap [] (some [argDef "c" (named "Custom")]) [arg "c" (lit .int "1x")] .nil
        = .panic (str "strconv.ParseInt: parsing \"1x\": invalid syntax") := by
  -- the bytes of the message are left to the evaluator, the rest to unification
  have hmsg : Strconv.numErrorMsg "ParseInt" (str "1x") .syntax = str "strconv.ParseInt: parsing \"1x\": invalid syntax" := by
    decide +kernel
  rw [← hmsg]; rfl

/-- The argument map contains exactly the arguments that have a value. -/
theorem C15_exact_keys (vdefs : List VarDef) (defs : List ArgDef) (args : List Argument) (vars m : VarMap)
    (h : argumentMap vdefs (some defs) args vars = .ok m) (k : Bytes) :
    m.contains k = defs.any (fun d => decide (d.name = k) && argHasValue args vars d) := by
  simp only [argumentMap, arg2map] at h
  simpa [GoFields.contains, GoFields.lookup] using arg2mapLoop_keys defs .nil m h k

/-- Every declared argument gets the value the specification prescribes (literal written, else the
    supplied variable's value, else the variable's default, else the argument's default; absent
    when it has none of these).  Hypotheses: argument names are unique; leaves are written as the
    lexer produces them; the variables map passed coercion, i.e. holds every variable that has a
    default (C14_defaults). -/
theorem C15_precedence (vdefs : List VarDef) (defs : List ArgDef) (args : List Argument) (vars m : VarMap)
    (hnodup : (defs.map (·.name)).Nodup)
    (hargs : ∀ a ∈ args, wellLexedB a.value = true)
    (hdefs : ∀ d ∈ defs, ∀ dv, d.default = some dv → wellLexedB dv = true)
    (hsup : DefaultsSupplied vdefs vars)
    (h : argumentMap vdefs (some defs) args vars = .ok m) :
    ∀ d ∈ defs, argValueSpec vdefs args vars d = (m.lookup d.name).map some := by
  simp only [argumentMap, arg2map] at h
  exact arg2mapLoop_spec hsup hargs defs .nil m hnodup hdefs (fun _ _ => rfl) h

/-- C15 for the operation being EXECUTED: `linked` are the variable definitions the value nodes
    are linked to, `opDefs` the variable definitions of the operation whose coerced variables are
    passed.  With the EXPLICIT hypothesis `LinksAgree linked opDefs` (true in every single-operation
    document, and whenever no other operation spreading the same fragment declares a variable of
    the same name with a different default) every declared argument gets the value the
    specification prescribes for the executed operation. -/
theorem C15_precedence_linked (linked opDefs : List VarDef) (defs : List ArgDef) (args : List Argument) (vars m : VarMap)
    (hlinks : LinksAgree linked opDefs)
    (hnodup : (defs.map (·.name)).Nodup)
    (hargs : ∀ a ∈ args, wellLexedB a.value = true)
    (hdefs : ∀ d ∈ defs, ∀ dv, d.default = some dv → wellLexedB dv = true)
    (hsup : DefaultsSupplied opDefs vars)
    (h : argumentMap linked (some defs) args vars = .ok m) :
    ∀ d ∈ defs, argValueSpec opDefs args vars d = (m.lookup d.name).map some := by
  have hsup' : DefaultsSupplied linked vars := by
    intro n d hf hd
    have hl := hlinks n
    rw [hf] at hl
    cases hd' : d.default with
    | none => simp [hd'] at hd
    | some dv =>
      simp only [Option.bind, hd'] at hl
      cases ho : findVarDef opDefs n with
      | none => simp [ho] at hl
      | some d2 =>
        simp only [ho] at hl
        exact hsup n d2 ho (by rw [← hl]; rfl)
  intro d hd
  have := C15_precedence linked defs args vars m hnodup hargs hdefs hsup' h d hd
  rw [← this]
  simp only [argValueSpec, varDefaultSpec_congr hlinks]


/-- C15 for exactly the maps the property speaks of — "every variables map that passed coercion":
    `vars` IS what `VariableValues` returned for the executed operation (`coerce s op supplied = ok vars`).
    The hypothesis `DefaultsSupplied` of `C15_precedence` is then a consequence (every declared variable
    with a default has an entry, holding its COERCED default when the variable was omitted:
    `C14_defaults`), so nothing is assumed about the map beyond its origin. -/
theorem C15_precedence_coerced (s : Schema) (op : OperationDef) (supplied vars : VarMap)
    (defs : List ArgDef) (args : List Argument) (m : VarMap)
    (hco : coerce s op supplied = .ok vars)
    (hnodup : (defs.map (·.name)).Nodup)
    (hargs : ∀ a ∈ args, wellLexedB a.value = true)
    (hdefs : ∀ d ∈ defs, ∀ dv, d.default = some dv → wellLexedB dv = true)
    (h : argumentMap op.vars (some defs) args vars = .ok m) :
    ∀ d ∈ defs, argValueSpec op.vars args vars d = (m.lookup d.name).map some :=
  C15_precedence op.vars defs args vars m hnodup hargs hdefs (coerce_defaultsSupplied hco) h

/-- … and for a fragment whose variable nodes are linked to another operation's definitions -/
theorem C15_precedence_linked_coerced (s : Schema) (op : OperationDef) (linked : List VarDef) (supplied vars : VarMap)
    (defs : List ArgDef) (args : List Argument) (m : VarMap)
    (hco : coerce s op supplied = .ok vars)
    (hlinks : LinksAgree linked op.vars)
    (hnodup : (defs.map (·.name)).Nodup)
    (hargs : ∀ a ∈ args, wellLexedB a.value = true)
    (hdefs : ∀ d ∈ defs, ∀ dv, d.default = some dv → wellLexedB dv = true)
    (h : argumentMap linked (some defs) args vars = .ok m) :
    ∀ d ∈ defs, argValueSpec op.vars args vars d = (m.lookup d.name).map some :=
  C15_precedence_linked linked op.vars defs args vars m hlinks hnodup hargs hdefs (coerce_defaultsSupplied hco) h

/- non-vacuity of `C15_precedence_coerced`, on the case of seeded change C15-d1: the omitted
   variable `$v: [Int] = 5` arrives in the coerced map as a LIST, and that list is what the argument gets -/
example : ∃ m am t xs, coerce schema (opWith (listOf (named "Int")) (some (lit .int "5"))) .nil = .ok m ∧
    argumentMap (opWith (listOf (named "Int")) (some (lit .int "5"))).vars (some [argDef "l" (listOf (named "Int"))])
      [arg "l" (lit .variable "v")] m = .ok am ∧ am.lookup (str "l") = m.lookup (str "v")
      ∧ m.lookup (str "v") = some (.slice t xs) :=
  ⟨_, _, _, _, by rfl, by rfl, by rfl, by rfl⟩

/-- Without `DefaultsSupplied` the statement fails: a variable written as the whole argument and
    missing from the map falls through to the ARGUMENT's default, skipping the variable's default
    (harmless after coercion, which enters the variable's default into the map). -/
theorem C15_precedence_counterexample_unsupplied_default :
    let vdefs : List VarDef := [{ var := str "v", type := named "Int", default := some (lit .int "1"), dirs := [], pos := Pos.zero }]
    let defs := [argDef "x" (named "Int") (some (lit .int "2"))]
    let args := [arg "x" (lit .variable "v")]
    argumentMap vdefs (some defs) args .nil = .ok (.cons (str "x") (.int .int64 2) .nil)
    ∧ argValueSpec vdefs args .nil (argDef "x" (named "Int") (some (lit .int "2"))) = some (some (.int .int64 1)) := by
  constructor <;> rfl

/-- KNOWN FINDING, not repaired (cross-operation default leak; a repair needs an operation
    parameter on `ArgumentMap`).  The hypothesis `LinksAgree` of `C15_precedence_linked` is needed.  `Value.VariableDefinition` of a variable inside a
    fragment is the definition of the LAST operation that spreads the fragment.  Executing
    `query A($v: Int) { ...F }` with no variables while `query B($v: Int = 2) { ...F }` exists,
    `fragment F on Query { f(l: [$v]) }`: the link is B's definition, so the code yields `[2]`, whereas
    the specification with A's definitions (no default) yields `[null]`. -/
theorem C15_precedence_counterexample_linked_default :
    let defB : List VarDef := [{ var := str "v", type := named "Int", default := some (lit .int "2"), dirs := [], pos := Pos.zero }]
    let defA : List VarDef := [{ var := str "v", type := named "Int", default := none, dirs := [], pos := Pos.zero }]
    let defs := [argDef "l" (listOf (named "Int"))]
    let args := [arg "l" (.mk .list [] (.cons [] (lit .variable "v") Pos.zero .nil) Pos.zero)]
    argumentMap defB (some defs) args .nil = .ok (.cons (str "l") (.slice .iface (.cons (.int .int64 2) .nil)) .nil)
    ∧ argSpec defA defs args .nil = some (.cons (str "l") (.slice .iface (.cons .nil .nil)) .nil)
    ∧ ¬ LinksAgree defB defA := by
  refine ⟨by rfl, by rfl, ?_⟩
  intro h
  have := h (str "v")
  simp [findVarDef, Option.bind] at this

/- non-vacuity: the hypotheses of C15_total / C15_precedence are satisfiable and the conclusion is
   not the empty map -/
example :
    argumentMap [] (some [argDef "x" (named "Int") (some (lit .int "2")), argDef "y" (named "Int")])
      [arg "y" (lit .variable "v")] (varsV (int 7))
      = .ok (.cons (str "x") (.int .int64 2) (.cons (str "y") (.int .int 7) .nil)) := by rfl
