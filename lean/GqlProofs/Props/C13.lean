import GqlModel.Format.Model
import GqlModel.Parser.Schema
import GqlProofs.Format.FmtSchemaTokens
import GqlProofs.Format.ReloadExamples
import GqlProofs.Format.LoadedPrintableDoc
import GqlProofs.Props.C06
import GqlProofs.EndToEnd.ParsedSchemaShape
import GqlProofs.Format.LoadedPrintable
import GqlProofs.Format.ReloadMain
/-
  Property C13 — format ∘ load round trip for schemas.

  DESCRIPTIONS.  `WriteDescription` writes a description `d` as a block string whose raw text is
  `descBody ind (escapeTriple d)` (`C13_description_text`; `ind` = the current indentation) when
  `blockStringRepresentable d`, and as a quoted string otherwise (`C13_description_text_quoted`).
  * `C13_description_roundtrip`: for `BlockRepresentable d` and an indentation of spaces and tabs,
    `blockStringValue (descBody ind d) = d`; outside the class the value differs
    (`C13_description_leading_blank_counterexample`, `…_trailing_newline_…`, `…_indented_…`: R13b,
    the reason for the quoted fallback).
  * `C13_description_token`: the lexer model reads the block form — every `"""` escaped — back as
    ONE BlockString token with value `d` (well-formed UTF-8, indentation of spaces and tabs).
    `C13_description_lexes` is the statement for bodies that are block-safe as they stand (`blockSafe`:
    no `"""` to escape);
    `C13_description_triple_quote_counterexample` shows what happened without the escape (R13a).

  THE BRIDGE formatter text → tokens for type-system documents (`FormatSchemaDocument`), for every
  configuration whose indentation consists of spaces and tabs:
    `C13_format_tokens_description … _argument_definition_list … _field_definition … _field_list …
     _enum_value_list … _definition … _directive_definition … _schema_definitions … _schema_extensions`
  and the document theorem
    `C13_format_tokens : tokensOf (fmtSchemaDoc cfg d) = some (printSchemaLongD descTok (normSchemaDoc cfg d))`.
  `printSchemaLongD descTok` is the unparser of C06 with the five definition lists one after the
  other (the formatter's order) and each description as the token the formatter writes (BlockString
  when representable, else String).  `normSchemaDoc cfg` is what the formatter deliberately does
  not keep: block-string VALUES become string values; `WithoutDescription` drops descriptions;
  without `WithBuiltin` built-in definitions and directive definitions of source 0 are skipped;
  all `schema { … }` definitions are MERGED into one, likewise all `extend schema`.

  THE ROUND TRIP with C06's parse ∘ print theorem (`C06_parse_print_items`):
    `C13_format_roundtrip : parseSchemaSrc 0 src b (fmtSchemaDoc cfg d) = .ok d' ∧
        d'.erasePos = (setBuiltIn b (normSchemaDoc cfg d)).erasePos`
    `C13_format_roundtrip_parsed`: the same for every document the parser returned.

  LOADED SCHEMAS (`FormatSchema`, second half of the property):
    `C13_schema_text_is_raw_document_text : fmtSchema cfg s = fmtSchemaDoc cfg (docOfSchemaRaw s)` — `FormatSchema`
      prints a DOCUMENT (schema definition / `extend schema` as the formatter decides, directive and type
      definitions sorted by name), byte for byte, every configuration, every schema;
    `C13_schema_text_is_document_text` — the same for `docOfSchema cfg s` (hidden `__schema`/`__type` fields
      dropped), when no printed definition has ONLY hidden fields (`NoAllHidden`);
    `C13_schema_format_tokens`, `C13_schema_format_parses` — the text lexes to the unparser's tokens and parses back
      to `docOfSchema cfg s` (normalised) up to positions;
    `C13_schema_reload` / `C13_schema_reload_of_sources` / `C13_schema_reload_document` — loading `prelude ⊕` the
      parsed text succeeds and gives a schema `ReloadEquiv` to `s` (same roots; name by name the same types, fields,
      arguments, defaults, directives, descriptions up to positions and string-kind normalisation; same directive
      definitions, schema directives, possible types and implementers up to order), for every configuration
      without `WithBuiltin` (also `WithoutDescription`: then `normDef cfg` drops the descriptions);
    the loader reads SKELETONS only (GqlProofs/Format/LoadSkeleton.lean): `validate…_sk`.
    Exceptions, each a kernel-checked theorem: `C13_schema_description_not_printed` / `…_counterexample` (R13e),
      `C13_builtin_output_not_reloadable`, `C13_schema_not_a_fixpoint_counterexample`,
      `C13_schema_linebreak_indent_counterexample`; `C13_schema_hidden_fields_rejected` (`scalar Query` used to
      load and print `scalar Query {⏎}`; it is rejected since the repair of the root kinds, and `NoAllHidden`
      holds of every loaded schema); FINDING `C13_schema_reload_needs_no_builtin_extension`
      (`extend type __Type { … }` is lost).
  END TO END, over source texts (`EndToEnd/ParsedSchemaShape.lean`: one traversal of the schema parser
  model over the tokens of the lexer model):
    `C13_parsed_formattable`: every document the schema parser returns (any limit, source index,
        `BuiltIn` flag) from a well-formed UTF-8 source is `FormattableSchema`;
    `C13_format_roundtrip_source`: so for every well-formed UTF-8 source text the parser accepts, the
        formatted text of the parsed document parses again to the normalised document up to
        positions — no hypothesis on the document is left.
    The hypothesis "well-formed UTF-8" is needed: the parser accepts the description `"\xFF"` (Lean
    driver: `ps -1 22ff22207363616c61722053` answers a scalar `S` with description `xff`), and
    `FormattableSchema` asks descriptions to be well-formed UTF-8 (`strRaw`).

  NOT proved:
    theorem C13_doc_fixpoint … : fmtSchemaDoc cfg d' = fmtSchemaDoc cfg d
      — false as stated: with `WithoutDescription` the comma after an argument that has a description
        is skipped (KNOWN FINDING sd:not-a-fixpoint, `C13_schema_not_a_fixpoint_counterexample`); moreover the
        formatter looks at positions (`fieldSuppressed`: line 0; built-in source 0), so it is not invariant
        under `erasePos`.  The fixpoint for loaded schemas WITHOUT `WithoutDescription`
          theorem C13_schema_fixpoint … : fmtSchema cfg s' = fmtSchema cfg s   (s' the reloaded schema)
        is not proved either: it needs `fmtSchemaDoc` invariant under `erasePos`/`normDef` for documents whose
        fields all have positions, and `sortedByKey` of the reloaded maps (same keys) — lemmas
        `fmtSchemaDoc_erasePos`, `fmtSchemaDoc_norm`, `sortedByKey_congr_keys` are missing.
-/
open Gql Gql.Lexer Gql.Format Gql.Grammar Gql.Print Gql.Parser

/-- What `writeDescription` writes for a non-empty description that a block string can represent
    (`blockStringRepresentable`, the test the repaired formatter makes): the separator that any
    `WriteString` would put first, `"""`, the body with every `"""` escaped, `"""`, a newline. -/
theorem C13_description_text (cfg : Cfg) (d : Bytes) (w : W) (hd : d ≠ []) (ho : cfg.omitDescription = false)
    (hrep : blockStringRepresentable d = true) :
    (writeDescription cfg d w).text =
      w.text ++ lead cfg w ++ tripleQuote ++ descBody (repeatBytes cfg.indent w.indentSize) (escapeTriple d)
        ++ tripleQuote ++ [10] :=
  writeDescription_text cfg d w hd ho hrep

/-- Every other description is written as a quoted string with the GraphQL escapes
    (read back byte for byte by `C12_quote_is_string_token`). -/
theorem C13_description_text_quoted (cfg : Cfg) (d : Bytes) (w : W) (hd : d ≠ []) (ho : cfg.omitDescription = false)
    (hrep : blockStringRepresentable d = false) :
    (writeDescription cfg d w).text = w.text ++ lead cfg w ++ gqlQuote d ++ [10] :=
  writeDescription_text_quoted cfg d w hd ho hrep

/-- The block-string value of the rendered description is the description, for every description
    of the representable class and every indentation made of blanks. -/
theorem C13_description_roundtrip (ind d : Bytes) (hi : AllBlank ind) (hd : BlockRepresentable d) :
    blockStringValue (descBody ind d) = d :=
  blockStringValue_descBody ind d hi hd

/-- Lexing the rendered description with the lexer model yields one BlockString token whose value
    is the description: the raw body must be block-safe text (`blockSafe`, see the file header)
    and the description representable.  `R` is whatever follows the closing quotes (the formatter
    writes a newline there). -/
theorem C13_description_lexes (ind d : Bytes) (hi : AllBlank ind) (hd : BlockRepresentable d)
    (cps : List Nat) (hcps : descBody ind d = utf8Encode cps) (hsafe : blockSafe cps = true)
    (R : Bytes) (hR : R.head? ≠ some 34) (c : Cur) :
    ∃ t c', readToken (tripleQuote ++ descBody ind d ++ tripleQuote ++ R) c = .tok t R c' ∧
      t.kind = .blockString ∧ t.value = d := by
  obtain ⟨t, c', h1, h2, h3⟩ := rbl_blockSafe c R hR cps hsafe (c.adv 3 3) []
  refine ⟨t, c', ?_, h2, ?_⟩
  · have e : tripleQuote ++ descBody ind d ++ tripleQuote ++ R
        = 34 :: 34 :: 34 :: (utf8Encode cps ++ 34 :: 34 :: 34 :: R) := by
      simp [tripleQuote, hcps]
    rw [e, readToken_stop 34 _ c (by decide), readTokenBody_block]
    exact h1
  · rw [h3, List.reverse_nil, List.nil_append, ← hcps]
    exact blockStringValue_descBody ind d hi hd

/-- R13b: a description with a leading blank (`"  lead"`) comes back without it. -/
theorem C13_description_leading_blank_counterexample :
    ¬ (∀ ind d : Bytes, AllBlank ind → d ≠ [] → blockStringValue (descBody ind d) = d) := by
  intro h
  have := h [] [32, 32, 108] (by intro b hb; simp at hb) (by simp)
  revert this; decide

/-- R13b: a trailing newline is lost. -/
theorem C13_description_trailing_newline_counterexample :
    ¬ (∀ ind d : Bytes, AllBlank ind → d ≠ [] → blockStringValue (descBody ind d) = d) := by
  intro h
  have := h [9] [120, 10] (by intro b hb; simp at hb; subst hb; decide) (by simp)
  revert this; decide

/-- R13b: common indentation of the lines is removed (`" a\n b"` comes back as `"a\nb"`). -/
theorem C13_description_indented_counterexample :
    ¬ (∀ ind d : Bytes, AllBlank ind → d ≠ [] → blockStringValue (descBody ind d) = d) := by
  intro h
  have := h [] [32, 97, 10, 32, 98] (by intro b hb; simp at hb) (by simp)
  revert this; decide

/-- R13a: a description containing `"""` is not read back as one token followed by the rest:
    for `d = """` the first token ends at the quotes of the description. -/
theorem C13_description_triple_quote_counterexample :
    ¬ (∀ (d : Bytes), d ≠ [] → ∃ t c',
        readToken (tripleQuote ++ descBody [] d ++ tripleQuote ++ [10]) Cur.init = .tok t [10] c' ∧
        t.value = d) := by
  intro h
  obtain ⟨t, c', h1, _⟩ := h [34, 34, 34] (by simp)
  have e : tripleQuote ++ descBody [] [34, 34, 34] ++ tripleQuote ++ [10]
      = [34, 34, 34, 10, 34, 34, 34, 10, 34, 34, 34, 10] := by decide
  rw [e] at h1
  simp [readToken, readTokenBody, Gql.Lexer.punct_quote, ws, isNameStart, isDigit, readBlockLoop.eq_def, quoteRun, encodeRune] at h1

/-- non-vacuity: an indented, multi-line description with quotes and a backslash is in both
    classes (for a two-space indentation). -/
example : BlockRepresentable [97, 34, 10, 32, 32, 98, 92, 10, 10, 99] := by decide
example : blockSafe ([10, 32, 32] ++ [97, 34, 10, 32, 32] ++ [32, 32, 98, 92, 10, 32, 32, 10, 32, 32, 99, 10, 32, 32]) = true := by decide
example : descBody [32, 32] [97, 34, 10, 32, 32, 98, 92, 10, 10, 99]
    = utf8Encode ([10, 32, 32] ++ [97, 34, 10, 32, 32] ++ [32, 32, 98, 92, 10, 32, 32, 10, 32, 32, 99, 10, 32, 32]) := by decide

/-! ### the description token, with `"""` inside -/

/-- The lexer model reads what `WriteDescription` writes in block form — `"""`, the indented lines
    with every `"""` escaped, `"""` — as ONE BlockString token whose value is the description,
    whatever separator or punctuator follows (the formatter writes a newline). -/
theorem C13_description_token (ind s : Bytes) (hi : AllBlank ind) (hv : strRaw s = true)
    (hrep : blockStringRepresentable s = true) (post : Bytes) (hpost : Follow true post) (c : Cur) :
    ∃ t c', readToken (tripleQuote ++ descBody ind (escapeTriple s) ++ tripleQuote ++ post) c = .tok t post c' ∧
      Tok.ofToken t = { kind := .blockString, value := s } := by
  obtain ⟨t, c', h1, h2, _⟩ := tokText_blockDescription ind s hi hv hrep post hpost c
  exact ⟨t, c', h1, h2⟩

/-- non-vacuity: a description with `"""` and a backslash in front of quotes -/
example : blockStringRepresentable [97, 34, 34, 34, 34, 10, 92, 34, 34, 34, 98] = true := by decide
example : strRaw [97, 34, 34, 34, 34, 10, 92, 34, 34, 34, 98] = true := by decide

/-! ### the bridge: formatter text → tokens -/

section Bridge
variable {cfg : Cfg} (hind : AllBlank cfg.indent)
include hind

theorem C13_format_tokens_description {w : W} {ts : List Tok} (s : Bytes) (h : I false w ts) (hs : strRaw s = true) :
    I false (writeDescription cfg s w) (ts ++ descTok (normDesc cfg s)) :=
  E_description hind s hs (blankIndent_of_allBlank hind) w ts h

theorem C13_format_tokens_argument_definition_list {g : Bool} {w : W} {ts : List Tok} (ds : List ArgDef)
    (h : I g w ts) (hd : ds.all argDefOk = true) :
    I g (formatArgumentDefinitionList cfg ds w) (ts ++ printArgDefsD descTok (ds.map (normArgDef cfg))) :=
  E_argDefList hind ds hd g (blankIndent_of_allBlank hind) w ts h

theorem C13_format_tokens_field_definition {w : W} {ts : List Tok} (f : FieldDef) (h : LexTo w.text ts false)
    (hf : fieldDefOk f = true) :
    LexTo (formatFieldDefinition cfg f w).text (ts ++ genFieldD descTok (normFieldDef cfg f)) false :=
  E_fieldDef hind f hf (c := .free) (blankIndent_of_allBlank hind) w ts (I.free h)

theorem C13_format_tokens_field_list {g : Bool} {w : W} {ts : List Tok} (fs : List FieldDef) (h : I g w ts)
    (hf : fs.all fieldDefOk = true) :
    I g (formatFieldList cfg fs w) (ts ++ printBlock (genFieldD descTok) (fs.map (normFieldDef cfg))) :=
  E_fieldList hind fs hf g (blankIndent_of_allBlank hind) w ts h

theorem C13_format_tokens_enum_value_list {g : Bool} {w : W} {ts : List Tok} (es : List EnumValDef) (h : I g w ts)
    (he : es.all enumValOk = true) :
    I g (formatEnumValueList cfg es w) (ts ++ printBlock (printEnumValD descTok) (es.map (normEnumVal cfg))) :=
  E_enumValueList hind es he g (blankIndent_of_allBlank hind) w ts h

/-- `FormatDefinition` (type definition): nothing for a skipped built-in, else the unparse -/
theorem C13_format_tokens_definition {w : W} {ts : List Tok} (d : Definition) (h : LexTo w.text ts false)
    (hd : defOk d = true) :
    LexTo (formatDefinition cfg false d w).text
      (ts ++ (if keepDef cfg d = true then printDefinitionD descTok (normDef cfg d) else [])) false := by
  simpa using E_definition hind false d hd (by simp) (c := .free) (blankIndent_of_allBlank hind) w ts h

/-- `FormatDefinition` (type extension) -/
theorem C13_format_tokens_extension {w : W} {ts : List Tok} (d : Definition) (h : LexTo w.text ts false)
    (hd : extOk d = true) :
    LexTo (formatDefinition cfg true d w).text
      (ts ++ (if keepDef cfg d = true then printExtensionD descTok (normDef cfg d) else [])) false := by
  simp only [extOk, Bool.and_eq_true, List.isEmpty_iff] at hd
  simpa using E_definition hind true d hd.1 (fun _ => hd.2) (c := .free) (blankIndent_of_allBlank hind) w ts h

theorem C13_format_tokens_directive_definition {w : W} {ts : List Tok} (d : DirectiveDef) (h : LexTo w.text ts false)
    (hd : dirDefOk d = true) :
    LexTo (formatDirectiveDefinition cfg srcZeroBuiltIn d w).text
      (ts ++ (if keepDirectiveDef cfg d = true then printDirectiveDefD descTok (normDirectiveDef cfg d) else []))
      false := E_directiveDef hind d hd (c := .free) (blankIndent_of_allBlank hind) w ts h

theorem C13_format_tokens_schema_definitions {w : W} {ts : List Tok} (ds : List SchemaDef) (h : LexTo w.text ts false)
    (hd : ds.all schemaDefOk = true) :
    LexTo (formatSchemaDefinitionList cfg false ds w).text
      (ts ++ ((mergeSchemaDefs cfg ds).map (printSchemaDefD descTok)).flatten) false :=
  E_schemaDefs hind ds hd (c := .free) (blankIndent_of_allBlank hind) w ts h

theorem C13_format_tokens_schema_extensions {w : W} {ts : List Tok} (ds : List SchemaDef) (h : LexTo w.text ts false)
    (hd : ds.all schemaExtOk = true) :
    LexTo (formatSchemaDefinitionList cfg true ds w).text
      (ts ++ ((mergeSchemaDefs cfg ds).map printSchemaExt).flatten) false :=
  E_schemaExts hind ds hd (c := .free) (blankIndent_of_allBlank hind) w ts h

/-- THE BRIDGE for type-system documents: the text `FormatSchemaDocument` writes lexes (comments and
    EOF aside) to exactly the tokens of the normalised document, the five lists one after the
    other, each description as the token the formatter chose. -/
theorem C13_format_tokens (d : SchemaDoc) (hd : FormattableSchema d) :
    tokensOf (fmtSchemaDoc cfg d) = some (printSchemaLongD descTok (normSchemaDoc cfg d)) := by
  have h := E_schemaDocument hind d hd (blankIndent_of_allBlank hind) {} [] LexTo_nil [] [] (Follow_nil _) Lexes_nil
  simpa [fmtSchemaDoc] using tokensOf_of_Lexes h

/-- THE ROUND TRIP: the formatted text of a formattable, printable type-system document parses (as
    any source `src` with any `BuiltIn` flag `b`), and the result is the normalised document up to
    positions. -/
theorem C13_format_roundtrip (d : SchemaDoc) (hd : FormattableSchema d) (hok : DocAll ItemOK d)
    (src : Nat) (b : Bool) :
    ∃ d', parseSchemaSrc 0 src b (fmtSchemaDoc cfg d) = .ok d' ∧
      d'.erasePos = (setBuiltIn b (normSchemaDoc cfg d)).erasePos := by
  have htok := C13_format_tokens hind d hd
  rw [printSchemaLongD_items] at htok
  obtain ⟨d', h1, h2⟩ := C06_parse_print_items descKind_ok (itemsOf (normSchemaDoc cfg d))
    (itemOK_norm cfg d hok) src b (fmtSchemaDoc cfg d) htok
  refine ⟨d', h1, ?_⟩
  rw [h2]
  have : (itemsOf (normSchemaDoc cfg d)).foldl SchemaDoc.add SchemaDoc.empty = normSchemaDoc cfg d := by
    rw [foldl_add_lists]
    simp [itemsOf, SchemaDoc.empty, List.filterMap_append, List.filterMap_map, Function.comp_def, getSchema,
      getSchemaExt, getDirective, getDefinition, getExtension, filterMap_none']
  rw [this]

/-- the round trip for every document the parser returned -/
theorem C13_format_roundtrip_parsed (src0 : Nat) (b0 : Bool) (inp : Bytes) (d : SchemaDoc)
    (hp : parseSchemaSrc 0 src0 b0 inp = .ok d) (hd : FormattableSchema d) (src : Nat) (b : Bool) :
    ∃ d', parseSchemaSrc 0 src b (fmtSchemaDoc cfg d) = .ok d' ∧
      d'.erasePos = (setBuiltIn b (normSchemaDoc cfg d)).erasePos :=
  C13_format_roundtrip hind d hd (C06_parse_printable src0 b0 inp d hp).1 src b

end Bridge

/-- non-vacuity of `FormattableSchema`: a schema definition, a directive definition with a described
    argument, an object type with a field with arguments, an enum with a described value, a union,
    an input object with a default value, an extension -/
def C13_sampleDoc : SchemaDoc :=
  { schema := [{ desc := [], dirs := [], opTypes := [{ op := str "query", type := str "Q", pos := Pos.zero }], pos := Pos.zero }],
    schemaExt := [],
    directives := [{ desc := str "a \"\"\" b", name := str "d",
                     args := [{ desc := str "x", name := str "a", default := none, type := .named (str "Int") false Pos.zero,
                                dirs := [], pos := Pos.zero }],
                     locations := [str "FIELD", str "QUERY"], repeatable := true, pos := { Pos.zero with src := 1 } }],
    definitions :=
      [{ kind := .object, desc := str "  indented", name := str "Q", dirs := [], interfaces := [str "I", str "J"],
         fields := [{ desc := [], name := str "f",
                      args := [{ desc := [], name := str "a", default := some (.mk .int (str "1") .nil Pos.zero),
                                 type := .named (str "Int") true Pos.zero, dirs := [], pos := Pos.zero }],
                      default := none, type := .list (.named (str "E") false Pos.zero) true Pos.zero, dirs := [],
                      pos := { Pos.zero with line := 3 } }],
         types := [], enumValues := [], pos := Pos.zero, builtIn := false },
       { kind := .enum, desc := [], name := str "E", dirs := [], interfaces := [], fields := [], types := [],
         enumValues := [{ desc := str "v", name := str "A", dirs := [], pos := Pos.zero }], pos := Pos.zero, builtIn := false },
       { kind := .union, desc := [], name := str "U", dirs := [], interfaces := [], fields := [], types := [str "Q", str "R"],
         enumValues := [], pos := Pos.zero, builtIn := false },
       { kind := .inputObject, desc := [], name := str "In", dirs := [], interfaces := [],
         fields := [{ desc := [], name := str "x", args := [], default := some (.mk .block (str "b") .nil Pos.zero),
                      type := .named (str "String") false Pos.zero, dirs := [], pos := { Pos.zero with line := 9 } }],
         types := [], enumValues := [], pos := Pos.zero, builtIn := false }],
    extensions :=
      [{ kind := .scalar, desc := [], name := str "S", dirs := [{ name := str "d", args := [], pos := Pos.zero }],
         interfaces := [], fields := [], types := [], enumValues := [], pos := Pos.zero, builtIn := false }] }

example : FormattableSchema C13_sampleDoc := by decide

/-- FINDING (pathological configuration): the hypothesis "indentation of spaces and tabs" cannot be
    widened to all white space.  With `WithIndent("\n")` (or `"\r"`) an indented two-line description
    `a⏎b` is written with an empty line between its lines and comes back as `a⏎⏎b`; with
    `WithIndent(",")` the comma becomes part of the description.  (Go: `rtsd 0a,0,0,0` on
    `type T { """⏎a⏎b⏎""" f: Int }` answers `tree-differs:DF-FL`; `09` and `2020` answer `ok`.) -/
theorem C13_description_newline_indent_counterexample :
    blockStringValue (descBody [10] [97, 10, 98]) = [97, 10, 10, 98] ∧
    blockStringValue (descBody [44] [101]) = [44, 101, 10, 44] := by decide

/-! ### loaded schemas: `FormatSchema` prints a document -/

/-- (1, raw) The text `FormatSchema` writes for a schema is, byte for byte, the text
    `FormatSchemaDocument` writes for the document `docOfSchemaRaw s`: the schema definition when the
    formatter decides to write one (the roots that are set, the schema directives), else one
    `extend schema @…` when there are schema directives, the directive definitions and the type
    definitions sorted by name.  Every configuration, every schema, no hypothesis. -/
theorem C13_schema_text_is_raw_document_text (cfg : Cfg) (s : Schema) :
    fmtSchema cfg s = fmtSchemaDoc cfg (docOfSchemaRaw s) := by
  unfold fmtSchema fmtSchemaDoc
  rw [formatSchema_eq_raw]

/-- (1) … and the text of `docOfSchema cfg s`, the same document without the fields the formatter
    hides (`__schema`, `__type`), provided no printed definition has ONLY hidden fields. -/
theorem C13_schema_text_is_document_text (cfg : Cfg) (s : Schema) (h : NoAllHidden cfg s) :
    fmtSchema cfg s = fmtSchemaDoc cfg (docOfSchema cfg s) := by
  unfold fmtSchema fmtSchemaDoc
  rw [formatSchema_eq_doc cfg s h]

/-- the text of a loaded schema lexes to the unparser's tokens of the (normalised) document -/
theorem C13_schema_format_tokens {cfg : Cfg} (hind : AllBlank cfg.indent) (s : Schema) (h : NoAllHidden cfg s)
    (hd : FormattableSchema (docOfSchema cfg s)) :
    tokensOf (fmtSchema cfg s) = some (printSchemaLongD descTok (normSchemaDoc cfg (docOfSchema cfg s))) := by
  rw [C13_schema_text_is_document_text cfg s h]
  exact C13_format_tokens hind _ hd

/-- (2) The text `FormatSchema` writes parses (as any source `src` with any `BuiltIn` flag `b`), and the
    parsed document is `docOfSchema cfg s`, normalised, up to positions. -/
theorem C13_schema_format_parses {cfg : Cfg} (hind : AllBlank cfg.indent) (s : Schema) (h : NoAllHidden cfg s)
    (hd : FormattableSchema (docOfSchema cfg s)) (hok : DocAll ItemOK (docOfSchema cfg s)) (src : Nat) (b : Bool) :
    ∃ d', parseSchemaSrc 0 src b (fmtSchema cfg s) = .ok d' ∧
      d'.erasePos = (setBuiltIn b (normSchemaDoc cfg (docOfSchema cfg s))).erasePos := by
  rw [C13_schema_text_is_document_text cfg s h]
  exact C13_format_roundtrip hind _ hd hok src b

/-! ### loaded schemas: format, load again -/

open Gql.Load in
/-- (3) **FORMAT ∘ LOAD ROUND TRIP FOR LOADED SCHEMAS.**  Let `s` be the schema the loader returns for
    `prelude ⊕ u` (`PreludeShape`, `UserShape`: what `ParseSchemas` gives for the built-in source and for
    user sources that do not extend a prelude type).  For every configuration without `WithBuiltin` whose
    indentation consists of spaces and tabs: the text `FormatSchema` writes parses (as a user source `src`),
    the loader accepts `prelude ⊕` the parsed document, and the schema it returns is `ReloadEquiv` to `s`:
    the same root operation types, name by name the same types, fields, arguments, default values,
    directives and descriptions (up to positions; a block-string VALUE comes back as a string value; with
    `WithoutDescription` the descriptions are dropped — `normDef cfg`), the same directive definitions, the
    same schema directives, the same possible types and implementers up to order.
    `Schema.Description` is not kept (`ReloadEquiv.description`, recorded finding).
    Hypotheses on `s` (each decidable, each shown necessary below or guaranteed for parsed sources):
    (`NoAllHidden` — no printed definition has only hidden fields — is not among them: it holds of every
    loaded schema, `noAllHidden_of_loaded`, since the query root is an object type;
    `C13_schema_hidden_fields_rejected`); `FormattableSchema`, `ItemOK` of the
    printed document — names are names, … (what the lexer and parser guarantee); `RootsPrintable` — when no
    schema definition is printed the roots are the default-named types (always true when the schema
    definitions of the sources list an operation type, as the parser requires). -/
theorem C13_schema_reload {cfg : Cfg} (hind : AllBlank cfg.indent) (hb : cfg.emitBuiltin = false)
    (pre u : SchemaDoc) (s : Schema) (hpre : PreludeShape pre) (hu : UserShape pre u)
    (hload : load (pre.merge u) = .ok s) (hd : FormattableSchema (docOfSchema cfg s))
    (hok : DocAll ItemOK (docOfSchema cfg s)) (hrp : RootsPrintable s) (src : Nat) :
    ∃ P s', parseSchemaSrc 0 src false (fmtSchema cfg s) = .ok P ∧ load (pre.merge P) = .ok s' ∧ ReloadEquiv cfg s s' := by
  obtain ⟨P, hP1, hP2⟩ := C13_schema_format_parses hind s (noAllHidden_of_loaded cfg hload) hd hok src false
  obtain ⟨s', h1, h2⟩ := reload_main hb hpre hu hload (P := P) hP2 hrp
  exact ⟨P, s', hP1, h1, h2⟩

open Gql.Load in
/-- the model-level core of (3), without the parser: any document that is, up to positions, the printed
    one is accepted on top of the prelude and gives an equivalent schema -/
theorem C13_schema_reload_document {cfg : Cfg} (hb : cfg.emitBuiltin = false) (pre u P : SchemaDoc) (s : Schema)
    (hpre : PreludeShape pre) (hu : UserShape pre u) (hload : load (pre.merge u) = .ok s)
    (hP : P.erasePos = (setBuiltIn false (normSchemaDoc cfg (docOfSchema cfg s))).erasePos) (hrp : RootsPrintable s) :
    ∃ s', load (pre.merge P) = .ok s' ∧ ReloadEquiv cfg s s' :=
  reload_main hb hpre hu hload hP hrp

open Gql.Load in
/-- (3′) **the same with hypotheses about the SOURCES only.**  `s` is loaded from `prelude ⊕ u`; the merged
    source document is formattable and satisfies the side conditions of the grammar (`FormattableSchema`,
    `DocAll ItemOK`: both are what the lexer and the parser guarantee, cf. `C06_parse_printable`).
    (Nothing is asked of the query root: in every loaded schema it is an object type,
    `loaded_rootTypesAreObjects`, and so has a field of its own.)
    Then the formatted text of `s` parses, loads on top of the prelude, and the result is `ReloadEquiv` to
    `s`.  The hypotheses about `s` of `C13_schema_reload` are derived: `docOfSchema_printable`,
    `rootsPrintable_of_loaded`. -/
theorem C13_schema_reload_of_sources {cfg : Cfg} (hind : AllBlank cfg.indent) (hb : cfg.emitBuiltin = false)
    (pre u : SchemaDoc) (s : Schema) (hpre : PreludeShape pre) (hu : UserShape pre u)
    (hload : load (pre.merge u) = .ok s) (hF : FormattableSchema (pre.merge u)) (hI : DocAll ItemOK (pre.merge u))
    (src : Nat) :
    ∃ P s', parseSchemaSrc 0 src false (fmtSchema cfg s) = .ok P ∧ load (pre.merge P) = .ok s' ∧ ReloadEquiv cfg s s' := by
  obtain ⟨hd, hok⟩ := docOfSchema_printable (cfg := cfg) hb hload hF hI
  have hs : SchemaDefsHaveRoots (pre.merge u) := by
    intro x hx
    obtain ⟨_, hne, hops⟩ := hI.1 x hx
    cases hl : x.opTypes with
    | nil => exact absurd hl hne
    | cons o rest =>
      refine ⟨o, by simp, ?_⟩
      have := hops o (by rw [hl]; simp)
      rcases this with h | h | h <;> rw [h] <;> decide
  exact C13_schema_reload hind hb pre u s hpre hu hload hd hok
    (rootsPrintable_of_loaded hload hs) src

open Gql.Load Gql.Format.Examples in
/-- non-vacuity of the reload theorem: `"d" schema { query: Q } type Q { f: Q }` (custom root name) satisfies the
    hypotheses of `C13_schema_reload_document` for the printed document itself -/
example : ∃ s', load (SchemaDoc.empty.merge (printed {} (loadD (SchemaDoc.empty.merge describedSchemaDoc)))) = .ok s' ∧
    ReloadEquiv {} (loadD (SchemaDoc.empty.merge describedSchemaDoc)) s' :=
  C13_schema_reload_document rfl SchemaDoc.empty describedSchemaDoc _ _ (by decide) (by decide)
    (loadD_ok (by decide)) rfl (by decide)

open Gql.Load Gql.Format.Examples in
/-- non-vacuity of (3′): `type Query { f: Query }` on the empty prelude satisfies every hypothesis -/
example : ∃ P s', parseSchemaSrc 0 1 false (fmtSchema {} (loadD (SchemaDoc.empty.merge plainQueryDoc))) = .ok P ∧
    load (SchemaDoc.empty.merge P) = .ok s' ∧ ReloadEquiv {} (loadD (SchemaDoc.empty.merge plainQueryDoc)) s' := by
  have hI : DocAll ItemOK (SchemaDoc.empty.merge plainQueryDoc) := by
    unfold DocAll
    refine ⟨?_, ?_, ?_, ?_, ?_⟩
    · intro x hx; cases hx
    · intro x hx; cases hx
    · intro x hx; cases hx
    · intro x hx
      simp only [SchemaDoc.merge, SchemaDoc.empty, plainQueryDoc, docOf, List.nil_append, List.mem_singleton] at hx
      subst hx
      refine ⟨cdirs_nil, rfl, rfl, ?_⟩
      intro f hf
      simp only [mkDef, List.mem_singleton] at hf
      subst hf
      refine ⟨?_, rfl, cdirs_nil⟩
      intro a ha
      simp [field] at ha
    · intro x hx; cases hx
  exact C13_schema_reload_of_sources (by intro b hb; simp at hb; subst hb; decide) rfl SchemaDoc.empty plainQueryDoc _
    (by decide) (by decide) (loadD_ok (by decide)) (by decide) hI 1

/-! ### the recorded exceptions, kernel-checked -/

/-- R13e (KNOWN FINDING `s:roundtrip-tree-differs/SCHEMA.description`): `FormatSchema` does not look at
    `Schema.Description` at all … -/
theorem C13_schema_description_not_printed (cfg : Cfg) (s : Schema) (d : Bytes) :
    fmtSchema cfg { s with description := d } = fmtSchema cfg s := rfl

open Gql.Load Gql.Format.Examples in
/-- … so `"d" schema { query: Q } type Q { f: Q }` loads with the description `d` and no schema loaded
    from its formatted text has it: `ReloadEquiv.description` cannot be `s'.description = s.description` -/
theorem C13_schema_description_counterexample :
    ∃ s, load (SchemaDoc.empty.merge describedSchemaDoc) = .ok s ∧ s.description = str "d" ∧
      ∀ cfg s', ReloadEquiv cfg s s' → s'.description ≠ s.description := by
  refine ⟨_, loadD_ok (by decide), by decide, ?_⟩
  intro cfg s' h
  rw [h.description]
  decide

open Gql.Load in
/-- KNOWN FINDING `s:builtin-output-not-reloadable/Name`: with `WithBuiltin` the printed document contains
    the types whose names start with `__` (every schema loaded with the real prelude has `__Schema`, …);
    read as a user source — alone or merged after any other document — it is rejected.  So the
    hypothesis `cfg.emitBuiltin = false` of `C13_schema_reload` cannot be dropped. -/
theorem C13_builtin_output_not_reloadable {cfg : Cfg} (hb : cfg.emitBuiltin = true) (s : Schema)
    (hs : ∃ p ∈ s.types, hasDunder p.2.name = true) (P : SchemaDoc)
    (hP : P.erasePos = (setBuiltIn false (normSchemaDoc cfg (docOfSchema cfg s))).erasePos) (other : SchemaDoc) :
    ∀ s', load (other.merge P) ≠ .ok s' := by
  obtain ⟨p, hp, hdun⟩ := hs
  have hmem : dropHidden cfg p.2 ∈ (sortedByKey s.types).map (dropHidden cfg) :=
    List.mem_map.mpr ⟨p.2, (mem_sortedByKey _ _).mpr ⟨p, hp, rfl⟩, rfl⟩
  have hdefs := congrArg SchemaDoc.definitions hP
  simp only [SchemaDoc.erasePos, setBuiltIn, normSchemaDoc, docOfSchema, List.map_map] at hdefs
  have hkeep : ((sortedByKey s.types).map (dropHidden cfg)).filter (keepDef cfg) = (sortedByKey s.types).map (dropHidden cfg) := by
    rw [List.filter_eq_self]; intro d _; simp [keepDef, hb]
  rw [hkeep] at hdefs
  obtain ⟨d', hd', e⟩ := exists_of_map_eq_right hdefs hmem
  have hn : d'.name = p.2.name := by
    have := congrArg Definition.name e
    simpa [Definition.erasePos, normDef, dropHidden] using this
  have hbi : d'.builtIn = false := by
    have := congrArg Definition.builtIn e
    simpa [Definition.erasePos, normDef, dropHidden] using this
  exact load_rejects_user_dunder (d := d') (by simp [SchemaDoc.merge, hd']) hbi (by rw [hn]; exact hdun)

/-! ### hypotheses of `C13_schema_reload` that cannot be dropped: kernel-checked witnesses -/

section Witnesses
open Gql.Load Gql.Format.Examples

/-- the schema `scalar Query` loaded to BEFORE the repair of the root kinds: the scalar is the query root
    and carries `__schema`, `__type` (a hand-built `Schema` value: the loader rejects the source) -/
def C13_scalarQuerySchema : Schema :=
  { Schema.empty with query := some (str "Query"),
                      types := [(str "Query", addIntrospection (mkDef .scalar "Query" []))] }

theorem C13_scalarQuerySchema_raw :
    docOfSchemaRaw C13_scalarQuerySchema = docOf [addIntrospection (mkDef .scalar "Query" [])] := by
  have ht : C13_scalarQuerySchema.types = [(str "Query", addIntrospection (mkDef .scalar "Query" []))] := rfl
  have hd : C13_scalarQuerySchema.directives = [] := rfl
  have h1 : needSchema C13_scalarQuerySchema = false := by decide
  have h2 : C13_scalarQuerySchema.schemaDirectives = [] := rfl
  unfold docOfSchemaRaw
  rw [ht, hd, sortedByKey_single, h1, h2]
  simp [sortedByKey, docOf]

/-- `scalar Query` is REJECTED by the loader ("Schema root query must be an object type, Query is a
    SCALAR.": the repair of the root kinds, `C07_root_types_are_objects`), and no loaded schema has a
    definition whose fields are all hidden (`noAllHidden_of_loaded`).  For an arbitrary `Schema` VALUE the
    hypothesis `NoAllHidden` of `C13_schema_text_is_document_text` is needed: on `C13_scalarQuerySchema`,
    the schema the loader returned before that repair, `FormatSchema` hides the introspection fields but
    writes the braces — `scalar Query {⏎}⏎`, not a type-system document — while the text of `docOfSchema`
    is `scalar Query⏎`. -/
theorem C13_schema_hidden_fields_rejected :
    (∃ e, load (SchemaDoc.empty.merge scalarQueryDoc) = .err e ∧
      e.msg = Msg.rootNotObject opQuery (str "Query") .scalar) ∧
    ¬ NoAllHidden {} C13_scalarQuerySchema ∧
    fmtSchema {} C13_scalarQuerySchema = str "scalar Query {\n}\n" ∧
    fmtSchemaDoc {} (docOfSchema {} C13_scalarQuerySchema) = str "scalar Query\n" := by
  refine ⟨?_, by decide, ?_, ?_⟩
  · have key : (match load (SchemaDoc.empty.merge scalarQueryDoc) with
        | .err e => decide (e.msg = Msg.rootNotObject opQuery (str "Query") .scalar)
        | _ => false) = true := by decide
    cases h : load (SchemaDoc.empty.merge scalarQueryDoc) with
    | err e => rw [h] at key; exact ⟨e, rfl, of_decide_eq_true key⟩
    | ok s => rw [h] at key; cases key
    | panic => rw [h] at key; cases key
  · rw [C13_schema_text_is_raw_document_text, C13_scalarQuerySchema_raw]
    decide
  · have ht : C13_scalarQuerySchema.types = [(str "Query", addIntrospection (mkDef .scalar "Query" []))] := rfl
    have : docOfSchema {} C13_scalarQuerySchema = docOf [mkDef .scalar "Query" []] := by
      unfold docOfSchema
      rw [C13_scalarQuerySchema_raw, ht, sortedByKey_single]
      rfl
    rw [this]
    decide

/-- prelude `type __T { a: __T }`, user source `extend type __T { b: __T }`, loaded -/
def C13_extendedBuiltinSchema : Schema := loadD (tinyPrelude.merge extendBuiltinDoc)

/-- FINDING: an extension of a BUILT-IN type is lost.  `FormatSchema` skips built-in types, so the
    fields (or directives) a user source adds to one are not printed, and the reloaded schema has the
    prelude's definition (Go: `type Query { a: Int } extend type __Type { extra: Int }` — `rts` answers
    `tree-differs:SCHEMA-DF`; likewise `extend scalar String @x`).  `UserShape.extNotBuiltin` excludes it. -/
theorem C13_schema_reload_needs_no_builtin_extension :
    PreludeShape tinyPrelude ∧ ¬ UserShape tinyPrelude extendBuiltinDoc ∧
    load (tinyPrelude.merge extendBuiltinDoc) = .ok C13_extendedBuiltinSchema ∧
    (C13_extendedBuiltinSchema.types.lookup (str "__T")).map (fun d => d.fields.map (·.name)) = some [str "a", str "b"] ∧
    ∃ s', load (tinyPrelude.merge (printed {} C13_extendedBuiltinSchema)) = .ok s' ∧
      (s'.types.lookup (str "__T")).map (fun d => d.fields.map (·.name)) = some [str "a"] := by
  have hp : printed {} C13_extendedBuiltinSchema = docOf [] := by
    have ht : C13_extendedBuiltinSchema.types =
        [(str "__T", mkDef .object "__T" [field "a" "__T", field "b" "__T"] true)] := rfl
    have hd : C13_extendedBuiltinSchema.directives = [] := rfl
    have h1 : needSchema C13_extendedBuiltinSchema = false := by decide
    have h2 : C13_extendedBuiltinSchema.schemaDirectives = [] := rfl
    unfold printed docOfSchema docOfSchemaRaw
    rw [ht, hd, sortedByKey_single, h1, h2]
    simp [sortedByKey, docOf, normSchemaDoc, setBuiltIn, mergeSchemaDefs, keepDef, dropHidden, mkDef]
  refine ⟨by decide, by decide, loadD_ok (by decide), by decide, ?_⟩
  rw [hp]
  exact ⟨_, loadD_ok (by decide), by decide⟩

/-- the configuration of the next witness: `WithoutDescription` -/
def C13_noDescCfg : Cfg := { omitDescription := true }

def C13_describedArgSchema : Schema := loadD (SchemaDoc.empty.merge describedArgDoc)
def C13_describedArgReloaded : Schema := loadD (SchemaDoc.empty.merge describedArgDocPrinted)

/-- KNOWN FINDING `s:not-a-fixpoint`: with `WithoutDescription` the comma after an argument that HAS a
    description is skipped although the description is not written.  `input In { x: In }
    directive @d("x" a: In  b: In) on FIELD` loads; its text is `directive @d(a: In b: In) on FIELD …`; the
    printed document loads (in accordance with `C13_schema_reload_document`) and the text of THAT schema is
    `directive @d(a: In, b: In) on FIELD …`: formatting the result again does not reproduce the text. -/
theorem C13_schema_not_a_fixpoint_counterexample :
    load (SchemaDoc.empty.merge describedArgDoc) = .ok C13_describedArgSchema ∧
    printed C13_noDescCfg C13_describedArgSchema = describedArgDocPrinted ∧
    load (SchemaDoc.empty.merge (printed C13_noDescCfg C13_describedArgSchema)) = .ok C13_describedArgReloaded ∧
    fmtSchema C13_noDescCfg C13_describedArgSchema = str "directive @d(a: In b: In) on FIELD\ninput In {\n\tx: In\n}\n" ∧
    fmtSchema C13_noDescCfg C13_describedArgReloaded = str "directive @d(a: In, b: In) on FIELD\ninput In {\n\tx: In\n}\n" := by
  have raw : ∀ (s : Schema) (dIn : Definition) (dd : DirectiveDef), s.types = [(str "In", dIn)] →
      s.directives = [(str "d", dd)] → needSchema s = false → s.schemaDirectives = [] →
      docOfSchemaRaw s = { docOf [dIn] with directives := [dd] } := by
    intro s dIn dd ht hd h1 h2
    unfold docOfSchemaRaw
    rw [ht, hd, sortedByKey_single, sortedByKey_single, h1, h2]
    simp [docOf]
  have r1 := raw C13_describedArgSchema _ _ rfl rfl (by decide) rfl
  have r2 := raw C13_describedArgReloaded _ _ rfl rfl (by decide) rfl
  have hp : printed C13_noDescCfg C13_describedArgSchema = describedArgDocPrinted := by
    have ht : C13_describedArgSchema.types = [(str "In", mkDef .inputObject "In" [field "x" "In"])] := rfl
    unfold printed docOfSchema
    rw [r1, ht, sortedByKey_single]
    rfl
  refine ⟨loadD_ok (by decide), hp, ?_, ?_, ?_⟩
  · rw [hp]; exact loadD_ok (by decide)
  · rw [C13_schema_text_is_raw_document_text, r1]; decide
  · rw [C13_schema_text_is_raw_document_text, r2]; decide

/-- `type Query { """a⏎b""" f: Query }`, loaded -/
def C13_describedFieldSchema : Schema := loadD (SchemaDoc.empty.merge describedFieldDoc)

/-- KNOWN FINDING (line-break indents): the hypothesis `AllBlank cfg.indent` cannot be widened to all white
    space.  With `WithIndent("\n")` the description `a⏎b` of a field is written with an empty line between
    its lines; the block string read back has the value `a⏎⏎b`. -/
theorem C13_schema_linebreak_indent_counterexample :
    load (SchemaDoc.empty.merge describedFieldDoc) = .ok C13_describedFieldSchema ∧
    fmtSchema { indent := [10] } C13_describedFieldSchema
      = str "type Query {\n\n\"\"\"\n\na\n\nb\n\n\"\"\"\n\nf: Query\n}\n" ∧
    blockStringValue (str "\n\na\n\nb\n\n") = [97, 10, 10, 98] := by
  refine ⟨loadD_ok (by decide), ?_, by decide⟩
  have ht : C13_describedFieldSchema.types =
      [(str "Query", addIntrospection (mkDef .object "Query" [field "f" "Query" [97, 10, 98]]))] := rfl
  have hd : C13_describedFieldSchema.directives = [] := rfl
  have h1 : needSchema C13_describedFieldSchema = false := by decide
  have h2 : C13_describedFieldSchema.schemaDirectives = [] := rfl
  have raw : docOfSchemaRaw C13_describedFieldSchema =
      docOf [addIntrospection (mkDef .object "Query" [field "f" "Query" [97, 10, 98]])] := by
    unfold docOfSchemaRaw
    rw [ht, hd, sortedByKey_single, h1, h2]
    simp [sortedByKey, docOf]
  rw [C13_schema_text_is_raw_document_text, raw]
  decide

end Witnesses

#print axioms C13_schema_text_is_raw_document_text
#print axioms C13_schema_text_is_document_text
#print axioms C13_schema_format_tokens
#print axioms C13_schema_format_parses
#print axioms C13_schema_reload
#print axioms C13_schema_reload_document
#print axioms C13_schema_reload_of_sources
#print axioms C13_schema_description_not_printed
#print axioms C13_schema_description_counterexample
#print axioms C13_builtin_output_not_reloadable
#print axioms C13_schema_hidden_fields_rejected
#print axioms C13_schema_reload_needs_no_builtin_extension
#print axioms C13_schema_not_a_fixpoint_counterexample
#print axioms C13_schema_linebreak_indent_counterexample

/-- `FormattableSchema` is an invariant of parser output: in every document the schema parser model
    returns (with or without token limit, any source index and `BuiltIn` flag) from a well-formed
    UTF-8 source, names are lexer Names, Int / Float raw texts are number lexemes of their kind,
    descriptions are well-formed UTF-8, every definition has only the parts of its kind, extensions
    carry no description, directive definitions have a location, and no field is hidden (every
    recorded position is on a line ≥ 1). -/
theorem C13_parsed_formattable (L src : Nat) (b : Bool) (inp : Bytes) (d : SchemaDoc) (hv : Utf8.valid inp)
    (hp : parseSchemaSrc L src b inp = .ok d) : FormattableSchema d :=
  Gql.EndToEnd.parsedSchema_formattable L src b inp d hv hp

/-- **C13 END TO END**: for every well-formed UTF-8 source text that the schema parser accepts (any
    limit `L`, as source `src0` with `BuiltIn` flag `b0`), the formatted text of the parsed document
    parses again (as any source `src` with any flag `b`), to the normalised document up to positions —
    for every configuration whose indentation consists of spaces and tabs.  No hypothesis on the
    document is left. -/
theorem C13_format_roundtrip_source {cfg : Cfg} (hind : AllBlank cfg.indent) (L src0 : Nat) (b0 : Bool) (inp : Bytes)
    (d : SchemaDoc) (hv : Utf8.valid inp) (hp : parseSchemaSrc L src0 b0 inp = .ok d) (src : Nat) (b : Bool) :
    ∃ d', parseSchemaSrc 0 src b (fmtSchemaDoc cfg d) = .ok d' ∧
      d'.erasePos = (setBuiltIn b (normSchemaDoc cfg d)).erasePos :=
  C13_format_roundtrip_parsed hind src0 b0 inp d (parseSchemaSrc_zero hp)
    (C13_parsed_formattable L src0 b0 inp d hv hp) src b

#print axioms C13_parsed_formattable
#print axioms C13_format_roundtrip_source
