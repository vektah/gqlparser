import GqlProofs.Effects.Interleave
/-
  C11 — "Validating documents, coercing variables, resolving arguments and formatting never
  modify a loaded schema, and any number of goroutines may do these things concurrently on one
  shared schema (each with its own document) without data races; every concurrent call returns
  exactly what the same call returns when run alone."                                   (PARTIAL)

  What is proved (logic part): in the generic model of `GqlModel/Effects.lean` — calls as step
  machines over a heap whose locations are tagged `schema | doc i | vars i | fresh i` — the
  ownership discipline (every call reads only the schema and what it owns, writes only what it
  owns) implies that EVERY interleaving of the calls' steps gives each call exactly the control
  state, the termination behaviour and the result of running it alone, and leaves every schema
  location as it was.
  What ties the discipline to the code (static part): `gen_stores_accounted` — every store site
  the extractor finds in validator/, validator/rules/, ast/argmap.go, ast/value.go, formatter/ is
  classified by hand, none as `schema`; `registry` (the global rule set) and `construction`
  (schema loading) sites are confined to functions no operation of the property executes.
  What is measured, not proved (runtime part, check C11): data-race freedom under the Go memory
  model (race detector over random histories on the real code), a deep snapshot of the shared
  schema before/after, and every concurrent result against its sequential twin.
-/
open Gql.Effects

variable {σ ρ : Type}

/-- Every interleaving is, for each call, indistinguishable from running that call alone for the
    same number of its own steps: same control state, same view of the heap it may read, same
    "finished or not", same result. -/
theorem C11_interleaving_equiv (calls : Nat → Call σ ρ) (hd : ∀ k, Disciplined k (calls k))
    (h0 : Heap) (sched : List Nat) (i : Nat) :
    let inter := run calls sched (start calls h0)
    let alone := runAlone calls i (sched.count i) (start calls h0)
    inter.st i = alone.st i ∧
    (∀ l, readable i l → inter.heap l = alone.heap l) ∧
    (finished calls i inter ↔ finished calls i alone) ∧
    (calls i).result (inter.st i) = (calls i).result (alone.st i) := by
  intro inter alone
  have h : Agree i inter alone := run_agree_alone calls hd i sched _ _ (Agree.refl i _)
  refine ⟨h.1, h.2, ?_, by rw [h.1]⟩
  unfold finished
  rw [h.1, (hd i).reads _ _ _ h.2]

/-- No interleaving changes a schema location. -/
theorem C11_schema_unchanged (calls : Nat → Call σ ρ) (hd : ∀ k, Disciplined k (calls k))
    (h0 : Heap) (sched : List Nat) (l : Loc) (hl : l.owner = .schema) :
    (run calls sched (start calls h0)).heap l = h0 l :=
  run_schema calls hd sched _ l hl

/-- A call that has finished in the interleaving has finished alone as well, after the same
    number of steps, with the same result: "returns exactly what the same call returns when run
    alone". -/
theorem C11_result_alone (calls : Nat → Call σ ρ) (hd : ∀ k, Disciplined k (calls k))
    (h0 : Heap) (sched : List Nat) (i : Nat)
    (hfin : finished calls i (run calls sched (start calls h0))) :
    finished calls i (runAlone calls i (sched.count i) (start calls h0)) ∧
    (calls i).result ((run calls sched (start calls h0)).st i)
      = (calls i).result ((runAlone calls i (sched.count i) (start calls h0)).st i) := by
  have h := C11_interleaving_equiv calls hd h0 sched i
  exact ⟨h.2.2.1.mp hfin, h.2.2.2⟩

/-- F6 (DESIGN.md §3.4): every store site extracted from the sources is classified, in order, under exactly its
    key, and none is classified `schema`.  A new, vanished or reshaped store breaks this. -/
theorem gen_stores_accounted : storesMatch Gql.Gen.stores accountedStores = true :=
  -- the keys are the same string literals on both sides: comparing the two lists needs no string comparison
  storesMatch_of_keys _ _ (by rfl) accountedStores_not_schema

theorem gen_stores_placement : accountedStores.all classPlacementOK = true := by decide +kernel


/-- The static tie: every store site of the anchored files is classified and none writes a loaded
    schema; mapped into the model, a site run by call `i` writes a location call `i` owns (or is a
    `registry` site, which no operation of the property executes). -/
theorem C11_stores_accounted :
    storesMatch Gql.Gen.stores accountedStores = true ∧
    accountedStores.all classPlacementOK = true ∧
    ∀ kc ∈ accountedStores, ∀ i : Nat, ∀ o, kc.2.owner i = some o → o ≠ .schema := by
  refine ⟨gen_stores_accounted, gen_stores_placement, ?_⟩
  rintro ⟨k, c⟩ hkc i o ho
  have hne : c ≠ .schema := by simpa using List.all_eq_true.mp accountedStores_not_schema _ hkc
  -- every class but `schema` has an owner that is not the schema, or none
  cases c <;> first | exact absurd rfl hne | (cases ho <;> (intro h; cases h))

/- a concrete instance (non-vacuity) -/

/-- Call `k` ("validate document k"): reads schema cell 0, then writes it, plus one, into cell 0
    of its own document (an annotation), then finishes and returns what it wrote. -/
def demoCall (k : Nat) : Call (Option Nat) (Option Nat) where
  init := none
  step := fun s h =>
    match s with
    | none => let v := h ⟨.schema, 0⟩ + 1; some (some v, [(⟨.doc k, 0⟩, v)])
    | some _ => none
  result := id

theorem demoCall_disciplined (k : Nat) : Disciplined k (demoCall k) where
  reads := by
    intro s h h' hag
    cases s with
    | none =>
      have : h ⟨.schema, 0⟩ = h' ⟨.schema, 0⟩ := hag _ (Or.inl rfl)
      simp [demoCall, this]
    | some _ => rfl
  writes := by
    intro s h s' ws hs w hw
    cases s with
    | none =>
      simp only [demoCall, Option.some.injEq, Prod.mk.injEq] at hs
      obtain ⟨_, rfl⟩ := hs
      simp only [List.mem_singleton] at hw
      subst hw
      exact Or.inl rfl
    | some _ => simp [demoCall] at hs

/-- two goroutines, steps interleaved 1,0,0,1: each ends with the result it has alone (schema cell
    0 holds 41, so both return 42), and the schema cell still holds 41 -/
example :
    let h0 : Heap := fun l => if l = ⟨.schema, 0⟩ then 41 else 0
    let c := run demoCall [1, 0, 0, 1] (start demoCall h0)
    (demoCall 0).result (c.st 0) = some 42 ∧ (demoCall 1).result (c.st 1) = some 42 ∧
      c.heap ⟨.schema, 0⟩ = 41 ∧ c.heap ⟨.doc 0, 0⟩ = 42 ∧ c.heap ⟨.doc 1, 0⟩ = 42 := by
  decide +kernel

example (h0 : Heap) (sched : List Nat) (l : Loc) (hl : l.owner = .schema) :
    (run demoCall sched (start demoCall h0)).heap l = h0 l :=
  C11_schema_unchanged demoCall demoCall_disciplined h0 sched l hl

/-- the discipline is needed: a call that writes the schema is seen by the others -/
def rogueCall (k : Nat) : Call (Option Nat) (Option Nat) where
  init := none
  step := fun s h =>
    match s with
    | none =>
      if k = 0 then some (some 0, [(⟨.schema, 0⟩, 7)])            -- call 0 "memoises" into the schema
      else some (some (h ⟨.schema, 0⟩), [])                        -- the others read that cell
    | some _ => none
  result := id

theorem C11_interleaving_counterexample_without_discipline :
    let h0 : Heap := fun _ => 0
    (rogueCall 1).result ((run rogueCall [0, 1] (start rogueCall h0)).st 1) = some 7 ∧
    (rogueCall 1).result ((runAlone rogueCall 1 1 (start rogueCall h0)).st 1) = some 0 := by
  decide +kernel
