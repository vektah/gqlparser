import GqlProofs.Grammar.Reject
import GqlProofs.Grammar.ParserFacts
import GqlProofs.Parser.RetSchema
import GqlProofs.Grammar.Accepts
import GqlProofs.Parser.CompleteSchemaTop
/-
  C06 — the schema parser accepts exactly the type-system grammar, faithfully.

  Specification-side theorems about the grammar tables `gql` (start symbol
  `NT.typeSystemDocument`), the generic recogniser (driver ops `gs` / `gsc`) and the unparser
  `Print.printSchema` (op `unparses`); plus theorems about the PARSER MODEL
  (`parseSchemaSrc`, `parseSchemas`: ops `ps` / `pss`): the built-in flag, the merge, and
  soundness — every accepted non-empty document without literal-named enum values is derivable
  and its tree unparses to a canonical form of the input (`C06_parse_sound`, `C06_parse_sound_<nt>`),
  completeness — every lexable input whose token sequence is derivable is accepted, and the unparse
  of the tree is the canonical output of EVERY derivation (`C06_parse_complete_canonical`,
  `C06_parse_complete_<nt>`) — and their consequences `C06_accepts_exactly`, `C06_canonical_unique`,
  `C06_parse_sound_canonical` (with the recogniser's `canonical`), `C06_accepts_iff_recognises`.
  The tie to the real parser is the check `C06` (harness/internal/props/grammarcheck.go).
-/
open Gql Gql.Lexer Gql.Grammar Gql.Parser Gql.Print

/-! ### the recogniser is sound -/

theorem C06_recognise_sound (ts : List Tok) (h : isTypeSystem ts = true) :
    Derivable gql .typeSystemDocument ts :=
  recognises_sound gql _ ts h

theorem C06_canonical_sound (ts out : List Tok) (h : canonical gql .typeSystemDocument ts = some out) :
    Derives gql (.nt .typeSystemDocument) ts out :=
  canonical_sound gql _ ts out h

/-! ### rejection classes, on the grammar tables -/

/-- the empty token sequence is not a type-system document (`minLen`: the shortest has two tokens,
    `scalar S`) -/
theorem C06_reject_classes_empty_document : ¬ Derivable gql .typeSystemDocument [] :=
  fun ⟨_, h⟩ => absurd (minLen_nt 24 h) (by decide)

/-- no `$` anywhere: every directive and default value of a type-system document is constant
    (in particular the directives of an input-object extension) -/
theorem C06_reject_classes_variable (ts : List Tok) (h : Derivable gql .typeSystemDocument ts) :
    ∀ t ∈ ts, t.kind ≠ .dollar := by
  obtain ⟨out, h⟩ := h
  exact varFree_no_dollar h trivial

/-- the bracketed lists are never empty: `{ }` / `( )` are derivable from none of FieldsDefinition,
    ArgumentsDefinition, InputFieldsDefinition, EnumValuesDefinition; a schema definition needs
    its `{ operation : Type }` (6 tokens with the keyword), every extension extends something
    (≥ 4 tokens for a schema extension, ≥ 5 for a type extension such as `extend scalar S @d`) -/
theorem C06_reject_classes_empty_lists (ts out : List Tok) :
    (Derives gql (.nt .fieldsDefinition) ts out → 5 ≤ ts.length)
    ∧ (Derives gql (.nt .argumentsDefinition) ts out → 5 ≤ ts.length)
    ∧ (Derives gql (.nt .inputFieldsDefinition) ts out → 5 ≤ ts.length)
    ∧ (Derives gql (.nt .enumValuesDefinition) ts out → 3 ≤ ts.length)
    ∧ (Derives gql (.nt .unionMemberTypes) ts out → 2 ≤ ts.length)
    ∧ (Derives gql (.nt .implementsInterfaces) ts out → 2 ≤ ts.length)
    ∧ (Derives gql (.nt .schemaDefinition) ts out → 6 ≤ ts.length)
    ∧ (Derives gql (.nt .schemaExtension) ts out → 4 ≤ ts.length)
    ∧ (Derives gql (.nt .typeExtension) ts out → 5 ≤ ts.length) :=
  ⟨minLen_nt 24, minLen_nt 24, minLen_nt 24, minLen_nt 24, minLen_nt 24, minLen_nt 24, minLen_nt 24, minLen_nt 24,
    minLen_nt 24⟩

/-- `extend <kind> Name` alone (three tokens) extends nothing and is not derivable -/
theorem C06_reject_classes_extension_of_nothing (a b c : Tok) (out : List Tok) :
    ¬ Derives gql (.nt .typeSystemExtension) [a, b, c] out :=
  fun h => absurd (minLen_nt 24 h) (by decide : ¬ minLen gql 24 (.nt .typeSystemExtension) ≤ 3)

/-- an enum value is a Name token other than `true`, `false`, `null` -/
theorem C06_reject_classes_enum_value (ts out : List Tok) (h : Derives gql (.nt .enumValue) ts out) :
    ∃ v, ts = [{ kind := .name, value := v }] ∧ v ≠ str "true" ∧ v ≠ str "false" ∧ v ≠ str "null" :=
  let ⟨v, e, hv⟩ := nameBut_inv h.nt_inv
  ⟨v, e, by simpa using hv⟩

/-- an operation type is one of the three keywords as a NAME token (a String token whose content
    is `query` is not one) -/
theorem C06_reject_classes_operation_type (ts out : List Tok) (h : Derives gql (.nt .operationType) ts out) :
    ts = [{ kind := .name, value := str "query" }] ∨ ts = [{ kind := .name, value := str "mutation" }]
      ∨ ts = [{ kind := .name, value := str "subscription" }] :=
  h.nt_inv.alt_inv.imp (fun h => (kw_inv h).1) fun h => h.alt_inv.imp (fun h => (kw_inv h).1) fun h => (kw_inv h).1

/-! ### the unparser stays inside the grammar -/

/-- The print of every well-formed type-system tree (`Print.WFSchema`: at least one definition;
    schema definitions list at least one operation type and only `query`/`mutation`/`subscription`;
    every extension extends something (`Print.ExtendsSomething`); directive definitions have at
    least one location, all among the 19 names; enum values are not `true`/`false`/`null`; all
    directives and default values are constant) is a sentence of the type-system grammar. -/
theorem C06_print_in_grammar (d : SchemaDoc) (h : WFSchema d) :
    Derivable gql .typeSystemDocument (printSchema d) :=
  (printSchema_in_grammar d h).derivable

/-- … and the print is its own canonical form (no leading `&` / `|`, no empty description, every
    description a String token) -/
theorem C06_print_canonical (d : SchemaDoc) (h : WFSchema d) :
    Derives gql (.nt .typeSystemDocument) (printSchema d) (printSchema d) :=
  printSchema_in_grammar d h

/-- non-vacuity: `scalar S  extend scalar S @d` is well-formed -/
example : WFSchema
    { schema := [], schemaExt := [], directives := [],
      definitions := [{ kind := .scalar, desc := [], name := str "S", dirs := [], interfaces := [], fields := [],
                        types := [], enumValues := [], pos := Pos.zero, builtIn := false }],
      extensions := [{ kind := .scalar, desc := [], name := str "S",
                       dirs := [{ name := str "d", args := [], pos := Pos.zero }], interfaces := [], fields := [],
                       types := [], enumValues := [], pos := Pos.zero, builtIn := false }] } := by
  refine ⟨by simp, by simp, by simp, by simp, ?_, ?_⟩
  · intro x hx; simp only [List.mem_singleton] at hx; subst hx
    exact ⟨by intro d hd; simp at hd, trivial⟩
  · intro x hx; simp only [List.mem_singleton] at hx; subst hx
    refine ⟨⟨?_, trivial⟩, by simp [ExtendsSomething]⟩
    intro d hd; simp only [List.mem_singleton] at hd; subst hd; intro a ha; simp at ha

/-! ### the parser model: built-in flag and merge -/

/-- `ParseSchema(src)` marks every definition and extension with the source's `BuiltIn` flag -/
theorem C06_builtin_flag (limit src : Nat) (builtIn : Bool) (inp : Bytes) (d : SchemaDoc)
    (h : parseSchemaSrc limit src builtIn inp = .ok d) :
    (∀ x ∈ d.definitions, x.builtIn = builtIn) ∧ (∀ x ∈ d.extensions, x.builtIn = builtIn) := by
  obtain ⟨d0, _, rfl⟩ := parseSchemaSrc_ok.1 h
  simp [setBuiltIn]

/-- `ParseSchemas(src₁ … srcₖ)` succeeds only if every source parses, and then each of the five
    lists of the result is the concatenation, in source order, of the corresponding lists of the
    individual documents -/
theorem C06_merge_is_concat (limit : Nat) (srcs : List (Bool × Bytes)) (d : SchemaDoc)
    (h : parseSchemas limit srcs = .ok d) :
    ∃ ds : List SchemaDoc, ParsedFrom limit 0 srcs ds
      ∧ d.schema = ds.flatMap (·.schema) ∧ d.schemaExt = ds.flatMap (·.schemaExt)
      ∧ d.directives = ds.flatMap (·.directives) ∧ d.definitions = ds.flatMap (·.definitions)
      ∧ d.extensions = ds.flatMap (·.extensions) := by
  obtain ⟨ds, hp, rfl⟩ := parseSchemasFrom_ok limit srcs 0 SchemaDoc.empty d h
  obtain ⟨h1, h2, h3, h4, h5⟩ := foldl_merge_fields ds SchemaDoc.empty
  exact ⟨ds, hp, by simpa [SchemaDoc.empty] using h1, by simpa [SchemaDoc.empty] using h2,
    by simpa [SchemaDoc.empty] using h3, by simpa [SchemaDoc.empty] using h4, by simpa [SchemaDoc.empty] using h5⟩

/-! ### the parser is sound: accepted ⇒ derivable, and the tree is faithful

  Theorems about the schema parser model itself (`GqlModel/Parser/Schema.lean`, driver op `ps`).
  For the vocabulary (`Spec`, `Eats`, `tk`, `abs`) see the corresponding section of `Props/C05.lean`.
  Two spellings are not recorded in the tree, so here "faithful" is: the unparse of the tree is
  the canonical output of a derivation of the consumed tokens (descriptions become String tokens,
  empty descriptions and the optional leading `&` / `|` disappear). -/

/-- `Description?`: absent, or a String / BlockString token whose value is the description -/
theorem C06_parse_sound_description :
    Spec parseDescription (fun d a a' => ∃ u, Ate a a' u ∧
      Derives gql (.opt (.nt .description)) (tk u) (printDesc d) ∧
      (a.σ.head.kind ≠ .string → a.σ.head.kind ≠ .blockString → u = [] ∧ d = [])) := spec_parseDescription

/-- `ImplementsInterfaces?` (`OptD n ts out e`: absent exactly when `e`, else a derivation of `n`) -/
theorem C06_parse_sound_implements_interfaces (n : Nat) :
    Spec (parseImplementsInterfaces n) (fun ifs a a' => ∃ u, Ate a a' u ∧
      OptD .implementsInterfaces (tk u) (printImplements ifs) (ifs = [])) := spec_parseImplementsInterfaces n

theorem C06_parse_sound_union_member_types (n : Nat) :
    Spec (parseUnionMemberTypes n) (fun ts a a' => ∃ u, Ate a a' u ∧
      OptD .unionMemberTypes (tk u) (printMembers ts) (ts = [])) := spec_parseUnionMemberTypes n

theorem C06_parse_sound_directive_locations (n : Nat) :
    Spec (parseDirectiveLocations n) (Eats fun ls u =>
      ls ≠ [] ∧ (∀ l ∈ ls, l ∈ Gql.Grammar.directiveLocationNames) ∧
      Derives gql (.nt .directiveLocations) (tk u) (printSep .pipe ls)) := spec_parseDirectiveLocations n

theorem C06_parse_sound_arguments_definition (n : Nat) :
    Spec (parseArgumentDefs n) (Eats fun as u =>
      OptD .argumentsDefinition (tk u) (printArgDefs as) (as = []) ∧ ∀ a ∈ as, WFArgDef a) :=
  (spec_parseArgumentDefs n).last fun _ _ h => ⟨h.1, h.2.1⟩

theorem C06_parse_sound_fields_definition (n : Nat) :
    Spec (parseFieldsDefinition n) (Eats fun fs u =>
      OptD .fieldsDefinition (tk u) (printBlock printFieldDef fs) (fs = []) ∧ ∀ f ∈ fs, WFFieldDef f) :=
  (spec_parseFieldsDefinition n).last fun _ _ h => ⟨h.1, h.2.1⟩

theorem C06_parse_sound_input_fields_definition (n : Nat) :
    Spec (parseInputFieldsDefinition n) (Eats fun fs u =>
      OptD .inputFieldsDefinition (tk u) (printBlock printInputField fs) (fs = []) ∧ ∀ f ∈ fs, WFInputField f) :=
  (spec_parseInputFieldsDefinition n).last fun _ _ h => ⟨h.1, h.2.1⟩

/-- `EnumValuesDefinition?`: derivable provided no value is named `true` / `false` / `null` (the
    parser does not check this, see `C06_parse_enum_literal_counterexample`) -/
theorem C06_parse_sound_enum_values_definition (n : Nat) :
    Spec (parseEnumValuesDefinition n) (Eats fun es u =>
      ((∀ e ∈ es, notLiteralName e.name) → OptD .enumValuesDefinition (tk u) (printBlock printEnumVal es) (es = [])) ∧
      (es = [] → u = []) ∧ ∀ e ∈ es, ConstDirectives e.dirs) :=
  (spec_parseEnumValuesDefinition n).last fun _ _ h => ⟨h.1, h.2.1, fun e he => (h.2.2 e he).1⟩

/-- `TypeDefinition` after its description: from the tokens `tsD` of the description and the
    tokens consumed by `parseTypeSystemDefinition` one gets a derivation of `TypeDefinition` -/
theorem C06_parse_sound_type_definition (n : Nat) (desc : Bytes) :
    Spec (parseTypeSystemDefinition n desc) (Eats fun d u => d.desc = desc ∧ (EnumOK d → WFDefBody d ∧
      ∀ tsD, Derives gql (.opt (.nt .description)) tsD (printDesc desc) →
        Derives gql (.nt .typeDefinition) (tsD ++ tk u) (printDefinition d))) :=
  (spec_parseTypeSystemDefinition n desc).mono fun _ _ _ _ e => e.mono fun _ _ ⟨hb, hd, _⟩ =>
    ⟨hd, fun hen => ⟨wf_of_body hb hen, fun _ hD => hb.definition (hd ▸ hD) hen⟩⟩

/-- a schema or type extension, the keyword `extend` included: the item parsed from the consumed tokens is added to `doc` -/
theorem C06_parse_sound_extension (n : Nat) (doc : SchemaDoc) :
    Spec (parseTypeSystemExtension n doc) (Eats fun doc' u => ∃ it, PSItem it u ∧ doc' = doc.add it) :=
  (spec_parseTypeSystemExtension n doc).last fun _ _ ⟨it, h, e⟩ => ⟨it, h.1, e⟩

theorem C06_parse_sound_schema_definition (n : Nat) (desc : Bytes) :
    Spec (parseSchemaDefinition n desc) (Eats fun sd u => sd.desc = desc ∧ WFSchemaDef sd ∧
      ∀ tsD, Derives gql (.opt (.nt .description)) tsD (printDesc desc) →
        Derives gql (.nt .schemaDefinition) (tsD ++ tk u) (printSchemaDef sd)) :=
  (spec_parseSchemaDefinition n desc).mono fun _ _ _ _ e => e.mono fun sd u ⟨hd, htk, hwf, _⟩ =>
    ⟨hd, hwf, fun tsD hD => by rw [htk]; exact derives_schemaDef sd hwf (hd ▸ hD)⟩

theorem C06_parse_sound_directive_definition (n : Nat) (desc : Bytes) :
    Spec (parseDirectiveDefinition n desc) (Eats fun dd u => dd.desc = desc ∧ WFDirectiveDef dd ∧
      ∀ tsD, Derives gql (.opt (.nt .description)) tsD (printDesc desc) →
        Derives gql (.nt .directiveDefinition) (tsD ++ tk u) (printDirectiveDef dd)) :=
  (spec_parseDirectiveDefinition n desc).mono fun _ _ _ _ e => e.mono fun _ _ ⟨hd, hwf, _, hder, _⟩ =>
    ⟨hd, hwf, fun _ hD => hder hD⟩

/-- **Soundness of `ParseSchema`.**  If the parser accepts `inp` with a non-empty document `doc`
    none of whose enums has a value named `true`, `false` or `null` (`EnumOK`), then the lexer
    model succeeds on `inp`, the comment-free token sequence `ts` of `inp` is derivable from the
    type-system document grammar, the unparse of `doc` is a canonical form of `ts` (the output of
    a derivation of `ts`, definitions in source order), and `doc` is well-formed. -/
theorem C06_parse_sound (inp : Bytes) (doc : SchemaDoc) (h : parseSchema 0 inp = .ok doc)
    (hne : doc.schema ≠ [] ∨ doc.schemaExt ≠ [] ∨ doc.directives ≠ [] ∨ doc.definitions ≠ [] ∨ doc.extensions ≠ [])
    (henum : (∀ d ∈ doc.definitions, EnumOK d) ∧ (∀ d ∈ doc.extensions, EnumOK d)) :
    ∃ ts, tokensOf inp = some ts ∧ Derivable gql .typeSystemDocument ts ∧
      Derives gql (.nt .typeSystemDocument) ts (printSchema doc) ∧ WFSchema doc := by
  obtain ⟨ts, h1, h2, _⟩ := parseSchemaSrc_sound 0 false inp doc h
  have h2 := h2 hne ⟨fun _ _ => trivial, fun _ _ => trivial, fun _ _ => trivial, henum.1, henum.2⟩
  exact ⟨ts, h1, ⟨_, h2.1⟩, h2⟩

/-- … under any token limit -/
theorem C06_parse_sound_limit (L : Nat) (inp : Bytes) (doc : SchemaDoc) (h : parseSchema L inp = .ok doc)
    (hne : doc.schema ≠ [] ∨ doc.schemaExt ≠ [] ∨ doc.directives ≠ [] ∨ doc.definitions ≠ [] ∨ doc.extensions ≠ [])
    (henum : (∀ d ∈ doc.definitions, EnumOK d) ∧ (∀ d ∈ doc.extensions, EnumOK d)) :
    ∃ ts, tokensOf inp = some ts ∧ Derivable gql .typeSystemDocument ts ∧
      Derives gql (.nt .typeSystemDocument) ts (printSchema doc) ∧ WFSchema doc :=
  C06_parse_sound inp doc (parseSchemaSrc_zero h) hne henum

/-- an accepted document with an empty tree has no significant token -/
theorem C06_parse_empty_tree (inp : Bytes) (doc : SchemaDoc) (h : parseSchema 0 inp = .ok doc)
    (he : doc.schema = [] ∧ doc.schemaExt = [] ∧ doc.directives = [] ∧ doc.definitions = [] ∧ doc.extensions = []) :
    tokensOf inp = some [] := by
  obtain ⟨_, h1, _, h3⟩ := parseSchemaSrc_sound 0 false inp doc h
  exact h3 (by simp [SchemaDoc.nonEmpty, he]) ▸ h1

/-- FINDING: the schema parser accepts the empty document, which the grammar does not derive -/
theorem C06_parse_empty_counterexample :
    parseSchema 0 [] = .ok SchemaDoc.empty ∧ tokensOf [] = some [] ∧ ¬ Derivable gql .typeSystemDocument [] :=
  ⟨rfl, by decide +kernel, C06_reject_classes_empty_document⟩

/-- FINDING: the schema parser accepts `enum E{true}` (`parseEnumValueDefinition` takes any Name),
    but `EnumValue : Name but not true, false, null`: no derivation of `EnumValue` has the token
    `true`, and the recogniser rejects the whole token sequence.  (Same for `false` and `null`,
    in definitions and in `extend enum`.) -/
theorem C06_parse_enum_literal_counterexample :
    (parseSchema 0 [101,110,117,109,32,69,123,116,114,117,101,125]).isOk = true ∧
    tokensOf [101,110,117,109,32,69,123,116,114,117,101,125] =
      some [tName (str "enum"), tName (str "E"), tP .braceL, tName (str "true"), tP .braceR] ∧
    isTypeSystem [tName (str "enum"), tName (str "E"), tP .braceL, tName (str "true"), tP .braceR] = false ∧
    ∀ out, ¬ Derives gql (.nt .enumValue) [tName (str "true")] out := by
  refine ⟨by decide +kernel, by decide +kernel, by decide +kernel, fun out h => ?_⟩
  obtain ⟨v, hv, h1, _⟩ := C06_reject_classes_enum_value _ _ h
  simp only [tName, List.cons.injEq, Tok.mk.injEq, true_and, and_true] at hv
  exact h1 hv.symm

/-- non-vacuity of `C06_parse_sound`: `type A implements&B{a:C}` is accepted; the unparse drops the
    leading `&` -/
example : (parseSchema 0 [116,121,112,101,32,65,32,105,109,112,108,101,109,101,110,116,115,38,66,123,97,58,67,125]).isOk = true ∧
    (runSchema 0 0 [116,121,112,101,32,65,32,105,109,112,108,101,109,101,110,116,115,38,66,123,97,58,67,125]).1.definitions.map printDefinition
      = [[tKw "type", tName [65], tKw "implements", tName [66], tP .braceL, tName [97], tP .colon, tName [67], tP .braceR]] :=
  ⟨by decide +kernel, by decide +kernel⟩

/-! ### the converse on printed trees: parse ∘ print = id (up to positions and the `BuiltIn` flag)

  See the corresponding section of `Props/C05.lean` for `Fwd`, `Starts`, `erasePos`.

  What the tokens carry.  `printSchema` writes a description as ONE token of kind String whose value
  is the description text (nothing for the empty description); the parser reads the value of a
  String or BlockString token as the description.  The forward lemmas are proved for both spellings:
  `printItemK dk` is the unparse with descriptions as tokens of kind `dk`, `DescKind dk` says
  `dk = .string ∨ dk = .blockString`, and `printItemK (fun _ => .string) it = (sItem it).2` is what
  `printSchema` concatenates.

  Side conditions (`ItemOK`, `PrintableSchema`): what the grammar requires (root operation types
  present and named `query`/`mutation`/`subscription`, extensions extend something, directive
  locations valid and present, constants where the grammar says `[Const]`), the unprinted parts are
  what the parser builds (`DefOK`: the lists a kind does not use are empty, object fields have no
  default value, input fields no arguments; `ValueOK` for values; extensions have no description),
  and each of the five lists is in the order of its recorded positions.  Enum values named `true`,
  `false`, `null` are NOT excluded: the parser reads them back. -/

/-- **parse ∘ print** for type-system documents (any source index, any `BuiltIn` flag `b`) -/
theorem C06_parse_print (d : SchemaDoc) (hp : PrintableSchema d) (src : Nat) (b : Bool) (inp : Bytes)
    (htok : tokensOf inp = some (printSchema d)) :
    ∃ d', parseSchemaSrc 0 src b inp = .ok d' ∧ d'.erasePos = (setBuiltIn b d).erasePos :=
  parseSchemaSrc_print d hp src b inp htok

theorem C06_parse_print_schema (d : SchemaDoc) (hp : PrintableSchema d) (inp : Bytes)
    (htok : tokensOf inp = some (printSchema d)) :
    ∃ d', parseSchema 0 inp = .ok d' ∧ d'.erasePos = (setBuiltIn false d).erasePos :=
  parseSchemaSrc_print d hp 0 false inp htok

/-- the same for any sequence of items in any order, each description `d` written as a String or
    BlockString token (`dk d`): every item comes back in its list, in item order -/
theorem C06_parse_print_items {dk : Bytes → Kind} (hdk : ∀ d, DescKind (dk d)) (items : List SItem) (hok : ∀ it ∈ items, ItemOK it)
    (src : Nat) (b : Bool) (inp : Bytes) (htok : tokensOf inp = some (items.flatMap (printItemK dk))) :
    ∃ d', parseSchemaSrc 0 src b inp = .ok d' ∧
      d'.erasePos = (setBuiltIn b (items.foldl SchemaDoc.add SchemaDoc.empty)).erasePos :=
  parseSchemaSrc_items hdk items hok src b inp htok

/-- every tree the schema parser returns is printable (its `BuiltIn` flags are those of the source) … -/
theorem C06_parse_printable (src : Nat) (b : Bool) (inp : Bytes) (d : SchemaDoc) (h : parseSchemaSrc 0 src b inp = .ok d) :
    PrintableSchema d :=
  parseSchemaSrc_printable src b inp d h

/-- … so **parse ∘ print ∘ parse = parse** (up to positions): unparse an accepted schema document,
    write the tokens in any way the lexer reads back, parse again with the same `BuiltIn` flag -/
theorem C06_parse_print_parse (src src' : Nat) (b : Bool) (inp inp' : Bytes) (d : SchemaDoc)
    (h : parseSchemaSrc 0 src b inp = .ok d) (htok : tokensOf inp' = some (printSchema d)) :
    ∃ d', parseSchemaSrc 0 src' b inp' = .ok d' ∧ d'.erasePos = d.erasePos := by
  obtain ⟨d', h1, h2⟩ := parseSchemaSrc_print d (parseSchemaSrc_printable src b inp d h) src' b inp' htok
  obtain ⟨d0, _, rfl⟩ := parseSchemaSrc_ok.1 h
  rw [setBuiltIn_idem] at h2
  exact ⟨d', h1, h2⟩

theorem C06_parse_print_description {dk : Bytes → Kind} (hdk : ∀ d, DescKind (dk d)) (d : Bytes) (a : AS) (σ' : Stream)
    (hs : Starts a.σ (printDescK dk d) σ') (hfol : d = [] → NoDesc σ') :
    Fwd parseDescription a (fun x a' => x = d ∧ a'.σ = σ') :=
  reads_description (b := false) hdk d a σ' nofun hs hfol

theorem C06_parse_print_implements_interfaces (ifs : List Name) (n : Nat) (a : AS) (σ' : Stream)
    (hs : Starts a.σ (printImplements ifs) σ') (hfol : σ'.head.kind ≠ .amp) (hfol0 : ifs = [] → NoImplements σ') :
    Fwd (parseImplementsInterfaces n) a (fun xs a' => xs = ifs ∧ a'.σ = σ') :=
  reads_implements (b := false) ifs n a σ' nofun hs ⟨hfol, hfol0⟩

theorem C06_parse_print_union_member_types (ts : List Name) (n : Nat) (a : AS) (σ' : Stream)
    (hs : Starts a.σ (printMembers ts) σ') (hfol : σ'.head.kind ≠ .pipe) (hfol0 : ts = [] → σ'.head.kind ≠ .equals) :
    Fwd (parseUnionMemberTypes n) a (fun xs a' => xs = ts ∧ a'.σ = σ') :=
  reads_unionMembers (b := false) ts n a σ' nofun hs ⟨hfol, hfol0⟩

theorem C06_parse_print_directive_locations (ls : List Name) (hne : ls ≠ [])
    (hl : ∀ l ∈ ls, l ∈ Gql.Grammar.directiveLocationNames) (n : Nat) (a : AS) (σ' : Stream)
    (hs : Starts a.σ (printSep .pipe ls) σ') (hfol : σ'.head.kind ≠ .pipe) :
    Fwd (parseDirectiveLocations n) a (fun xs a' => xs = ls ∧ a'.σ = σ') :=
  reads_directiveLocations (b := false) ls hne hl n a σ' nofun hs hfol

theorem C06_parse_print_arguments_definition {dk : Bytes → Kind} (hdk : ∀ d, DescKind (dk d)) (xs : List ArgDef) (hok : ∀ x ∈ xs, ArgDefOK x)
    (n : Nat) (a : AS) (σ' : Stream) (hs : Starts a.σ (printArgDefsK dk xs) σ') (habs : xs = [] → σ'.head.kind ≠ .parenL) :
    Fwd (parseArgumentDefs n) a (fun ys a' => ys.map ArgDef.erasePos = xs.map ArgDef.erasePos ∧ a'.σ = σ') :=
  reads_argDefs (b := false) hdk n xs hok a σ' nofun hs habs

theorem C06_parse_print_fields_definition {dk : Bytes → Kind} (hdk : ∀ d, DescKind (dk d)) (xs : List FieldDef) (hok : ∀ x ∈ xs, FieldDefOK x)
    (n : Nat) (a : AS) (σ' : Stream) (hs : Starts a.σ (printBlock (printFieldDefK dk) xs) σ')
    (habs : xs = [] → σ'.head.kind ≠ .braceL) :
    Fwd (parseFieldsDefinition n) a (fun ys a' => ys.map FieldDef.erasePos = xs.map FieldDef.erasePos ∧ a'.σ = σ') :=
  reads_fieldDefs (b := false) hdk n xs hok a σ' nofun hs habs

theorem C06_parse_print_input_fields_definition {dk : Bytes → Kind} (hdk : ∀ d, DescKind (dk d)) (xs : List FieldDef)
    (hok : ∀ x ∈ xs, InputFieldOK x) (n : Nat) (a : AS) (σ' : Stream)
    (hs : Starts a.σ (printBlock (printInputFieldK dk) xs) σ') (habs : xs = [] → σ'.head.kind ≠ .braceL) :
    Fwd (parseInputFieldsDefinition n) a (fun ys a' => ys.map FieldDef.erasePos = xs.map FieldDef.erasePos ∧ a'.σ = σ') :=
  reads_inputFields (b := false) hdk n xs hok a σ' nofun hs habs

theorem C06_parse_print_enum_values_definition {dk : Bytes → Kind} (hdk : ∀ d, DescKind (dk d)) (xs : List EnumValDef)
    (hok : ∀ x ∈ xs, EnumValOK x) (n : Nat) (a : AS) (σ' : Stream)
    (hs : Starts a.σ (printBlock (printEnumValK dk) xs) σ') (habs : xs = [] → σ'.head.kind ≠ .braceL) :
    Fwd (parseEnumValuesDefinition n) a (fun ys a' => ys.map EnumValDef.erasePos = xs.map EnumValDef.erasePos ∧ a'.σ = σ') :=
  reads_enumVals (b := false) hdk n xs hok a σ' nofun hs habs

/-- a type definition after its description (`FolItem`: what follows is a description, a keyword
    other than `implements`, or EOF) -/
theorem C06_parse_print_type_definition {dk : Bytes → Kind} (hdk : ∀ d, DescKind (dk d)) (d : Definition) (hok : DefOK d) (n : Nat) (a : AS)
    (σ' : Stream) (hs : Starts a.σ (DefKind.keyword d.kind :: printDefBodyK dk d) σ') (hfol : FolItem σ') :
    Fwd (parseTypeSystemDefinition n d.desc) a
      (fun y a' => y.erasePos = ({ d with builtIn := false } : Definition).erasePos ∧ a'.σ = σ') :=
  reads_typeSystemDefinition (b := false) hdk d hok n a σ' nofun hs (folItem_iff.1 hfol)

/-- `extend …` (schema and type extensions) -/
theorem C06_parse_print_extension {dk : Bytes → Kind} (hdk : ∀ d, DescKind (dk d)) (it : SItem) (hok : ItemOK it)
    (hext : (∃ s, it = .schemaExt s) ∨ (∃ d, it = .extension d)) (n : Nat) (doc : SchemaDoc) (a : AS) (σ' : Stream)
    (hs : Starts a.σ (printItemK dk it) σ') (hfol : FolItem σ') :
    Fwd (parseTypeSystemExtension n doc) a (fun y a' => y.erasePos = doc.erasePos.add it.norm ∧ a'.σ = σ') :=
  reads_typeSystemExtension (b := false) hdk it hok hext n doc a σ' nofun hs (folItem_iff.1 hfol)

theorem C06_parse_print_schema_definition (s : SchemaDef) (hok : SchemaDefOK s) (n : Nat) (a : AS) (σ' : Stream)
    (hs : Starts a.σ (tKw "schema" :: printDirectives s.dirs ++ tP .braceL :: s.opTypes.flatMap printOpType ++ [tP .braceR]) σ') :
    Fwd (parseSchemaDefinition n s.desc) a (fun y a' => y.erasePos = s.erasePos ∧ a'.σ = σ') :=
  reads_schemaDefinition (b := false) (F := fun _ => True) s hok n a σ' nofun hs trivial

theorem C06_parse_print_directive_definition {dk : Bytes → Kind} (hdk : ∀ d, DescKind (dk d)) (d : DirectiveDef) (hok : DirectiveDefOK d)
    (n : Nat) (a : AS) (σ' : Stream)
    (hs : Starts a.σ (tKw "directive" :: tP .at :: tName d.name :: printArgDefsK dk d.args
      ++ (if d.repeatable then [tKw "repeatable"] else []) ++ tKw "on" :: printSep .pipe d.locations) σ')
    (hfol : σ'.head.kind ≠ .pipe) :
    Fwd (parseDirectiveDefinition n d.desc) a (fun y a' => y.erasePos = d.erasePos ∧ a'.σ = σ') :=
  reads_directiveDefinition (b := false) hdk d hok n a σ' nofun hs hfol

/-! ### completeness: the schema parser accepts EXACTLY the type-system grammar

  Derivation-driven counterpart of the soundness section (`GqlProofs/Parser/CompleteSchema.lean`,
  `CompleteSchemaTop.lean`): for every nonterminal of the type-system grammar, a run of its parser
  program on a stream that starts with a token list the grammar derives (with canonical output
  `o`) ends live, consumes exactly those tokens, and the unparse of its result is `o`.  What the
  tokens carry of a description: its value; the kind of the token (String / BlockString) and an
  empty description are not in the tree, and the canonical form (`canonDescription`) drops them
  too.  The theorems are about lexable inputs (`tokensOf inp = some ts`). -/

/-- **Completeness.**  If the comment-free token sequence of `inp` is derivable from the
    type-system document grammar with canonical output `o`, then `ParseSchema` accepts `inp`,
    with a non-empty document whose unparse is `o` and whose enum values have grammar names. -/
theorem C06_parse_complete_canonical (src : Nat) (b : Bool) (inp : Bytes) (ts o : List Tok) (htok : tokensOf inp = some ts)
    (hd : Derives gql (.nt .typeSystemDocument) ts o) :
    ∃ d, parseSchemaSrc 0 src b inp = .ok d ∧ printSchema d = o ∧
      (d.schema ≠ [] ∨ d.schemaExt ≠ [] ∨ d.directives ≠ [] ∨ d.definitions ≠ [] ∨ d.extensions ≠ []) ∧ ((∀ x ∈ d.definitions, EnumOK x) ∧ (∀ x ∈ d.extensions, EnumOK x)) := by
  obtain ⟨d, h1, h2, h3, h4⟩ := parseSchema_complete src b inp ts o htok hd
  exact ⟨d, h1, h2, h3, h4.2.2.2.1, h4.2.2.2.2⟩

theorem C06_parse_complete (inp : Bytes) (ts : List Tok) (htok : tokensOf inp = some ts)
    (hd : Derivable gql .typeSystemDocument ts) :
    ∃ d, parseSchema 0 inp = .ok d ∧
      (d.schema ≠ [] ∨ d.schemaExt ≠ [] ∨ d.directives ≠ [] ∨ d.definitions ≠ [] ∨ d.extensions ≠ []) ∧ ((∀ x ∈ d.definitions, EnumOK x) ∧ (∀ x ∈ d.extensions, EnumOK x)) := by
  obtain ⟨o, hd⟩ := hd
  obtain ⟨d, h1, _, h3, h4⟩ := C06_parse_complete_canonical 0 false inp ts o htok hd
  exact ⟨d, h1, h3, h4⟩

/-- **The schema parser accepts exactly the type-system grammar**, up to its two recorded
    leniencies (the empty document, `C06_parse_empty_counterexample`; enum values named `true`,
    `false`, `null`, `C06_parse_enum_literal_counterexample`): `ParseSchema` returns a non-empty
    document without such enum values iff the lexer succeeds and the comment-free token sequence
    is derivable from the type-system document grammar. -/
theorem C06_accepts_exactly (inp : Bytes) :
    (∃ d, parseSchema 0 inp = .ok d ∧
      (d.schema ≠ [] ∨ d.schemaExt ≠ [] ∨ d.directives ≠ [] ∨ d.definitions ≠ [] ∨ d.extensions ≠ []) ∧ ((∀ x ∈ d.definitions, EnumOK x) ∧ (∀ x ∈ d.extensions, EnumOK x))) ↔
      ∃ ts, tokensOf inp = some ts ∧ Derivable gql .typeSystemDocument ts :=
  accepts_exactly (C06_parse_complete_canonical 0 false)
    (fun inp d h hne => let ⟨ts, h1, h2, _⟩ := C06_parse_sound inp d h hne.1 hne.2; ⟨ts, h1, h2⟩) inp

/-- canonical outputs are unique on lexable token sequences -/
theorem C06_canonical_unique (inp : Bytes) (ts o₁ o₂ : List Tok) (htok : tokensOf inp = some ts)
    (h1 : Derives gql (.nt .typeSystemDocument) ts o₁) (h2 : Derives gql (.nt .typeSystemDocument) ts o₂) : o₁ = o₂ :=
  canonical_unique_of_complete (C06_parse_complete_canonical 0 false) htok h1 h2

/-- every derivation of the token sequence of an accepted input has the unparse as its output -/
theorem C06_parse_faithful (inp : Bytes) (doc : SchemaDoc) (h : parseSchema 0 inp = .ok doc) (ts o : List Tok)
    (htok : tokensOf inp = some ts) (hd : Derives gql (.nt .typeSystemDocument) ts o) : o = printSchema doc :=
  faithful_of_complete (C06_parse_complete_canonical 0 false) h htok hd

/-! ### the recogniser decides the type-system grammar -/

theorem C06_recognises_complete (ts : List Tok) (h : Derivable gql .typeSystemDocument ts) : isTypeSystem ts = true :=
  recognises_complete _ ts h

theorem C06_recognises_iff (ts : List Tok) : isTypeSystem ts = true ↔ Derivable gql .typeSystemDocument ts :=
  recognises_iff _ ts

/-- **`C06_parse_sound` with the recogniser's `canonical`**: for an accepted non-empty document
    (with no enum value `true`/`false`/`null`) the recogniser returns a canonical form of the
    token sequence, and it IS the unparse of the tree. -/
theorem C06_parse_sound_canonical (inp : Bytes) (doc : SchemaDoc) (h : parseSchema 0 inp = .ok doc)
    (hne : doc.schema ≠ [] ∨ doc.schemaExt ≠ [] ∨ doc.directives ≠ [] ∨ doc.definitions ≠ [] ∨ doc.extensions ≠ [])
    (henum : ((∀ x ∈ doc.definitions, EnumOK x) ∧ (∀ x ∈ doc.extensions, EnumOK x))) :
    ∃ ts, tokensOf inp = some ts ∧ canonical gql .typeSystemDocument ts = some (printSchema doc) ∧ WFSchema doc := by
  obtain ⟨ts, h1, h2, _, h4⟩ := C06_parse_sound inp doc h hne henum
  obtain ⟨out, ho⟩ := canonical_complete _ ts h2
  exact ⟨ts, h1, by rw [ho, C06_parse_faithful inp doc h ts out h1 (C06_canonical_sound ts out ho)], h4⟩

/-- **the runtime comparison of the check C06, proved**: `ParseSchema` returns a non-empty document
    with grammar-named enum values iff the input lexes and the recogniser accepts its tokens -/
theorem C06_accepts_iff_recognises (inp : Bytes) :
    (∃ d, parseSchema 0 inp = .ok d ∧
      (d.schema ≠ [] ∨ d.schemaExt ≠ [] ∨ d.directives ≠ [] ∨ d.definitions ≠ [] ∨ d.extensions ≠ []) ∧ ((∀ x ∈ d.definitions, EnumOK x) ∧ (∀ x ∈ d.extensions, EnumOK x))) ↔
      ∃ ts, tokensOf inp = some ts ∧ isTypeSystem ts = true :=
  accepts_iff_recognises (C06_parse_complete_canonical 0 false)
    (fun inp d h hne => let ⟨ts, h1, h2, _⟩ := C06_parse_sound inp d h hne.1 hne.2; ⟨ts, h1, h2⟩) inp

/-- the pieces (each: derivable token list at the head of the stream ⇒ the program ends live,
    consumes it, and the unparse of the result is the canonical output of the derivation) -/
theorem C06_parse_complete_description (ts o : List Tok) (hd : Derives gql (.opt (.nt .description)) ts o) (a : AS) (σ' : Stream)
    (hs : Starts a.σ ts σ') (hfol : ts = [] → NoDesc σ') :
    Fwd parseDescription a (fun d a' => printDesc d = o ∧ a'.σ = σ') :=
  parses_description (b := false) hd a σ' nofun hs hfol

theorem C06_parse_complete_implements_interfaces (n : Nat) (ts o : List Tok) (hok : TsOK ts)
    (hd : Derives gql (.opt (.nt .implementsInterfaces)) ts o) (a : AS) (σ' : Stream) (hs : Starts a.σ ts σ')
    (hfol : σ'.head.kind ≠ .amp) (hfol0 : ts = [] → NoImplements σ') :
    Fwd (parseImplementsInterfaces n) a (fun xs a' => printImplements xs = o ∧ a'.σ = σ') :=
  parses_implements (b := false) n hok hd a σ' nofun hs ⟨hfol, hfol0⟩

theorem C06_parse_complete_union_member_types (n : Nat) (ts o : List Tok) (hok : TsOK ts)
    (hd : Derives gql (.opt (.nt .unionMemberTypes)) ts o) (a : AS) (σ' : Stream) (hs : Starts a.σ ts σ')
    (hfol : σ'.head.kind ≠ .pipe) (hfol0 : ts = [] → σ'.head.kind ≠ .equals) :
    Fwd (parseUnionMemberTypes n) a (fun xs a' => printMembers xs = o ∧ a'.σ = σ') :=
  parses_unionMembers (b := false) n hok hd a σ' nofun hs ⟨hfol, hfol0⟩

theorem C06_parse_complete_directive_locations (n : Nat) (ts o : List Tok) (hok : TsOK ts)
    (hd : Derives gql (.nt .directiveLocations) ts o) (a : AS) (σ' : Stream) (hs : Starts a.σ ts σ')
    (hfol : σ'.head.kind ≠ .pipe) :
    Fwd (parseDirectiveLocations n) a (fun xs a' => printSep .pipe xs = o ∧ a'.σ = σ') :=
  parses_directiveLocations (b := false) n hok hd a σ' nofun hs hfol

theorem C06_parse_complete_arguments_definition (n : Nat) (ts o : List Tok) (hok : TsOK ts)
    (hd : Derives gql (.opt (.nt .argumentsDefinition)) ts o) (a : AS) (σ' : Stream) (hs : Starts a.σ ts σ')
    (habs : ts = [] → σ'.head.kind ≠ .parenL) :
    Fwd (parseArgumentDefs n) a (fun ys a' => printArgDefs ys = o ∧ a'.σ = σ') :=
  parses_argDefs (b := false) n hok hd a σ' nofun hs habs

theorem C06_parse_complete_fields_definition (n : Nat) (ts o : List Tok) (hok : TsOK ts)
    (hd : Derives gql (.opt (.nt .fieldsDefinition)) ts o) (a : AS) (σ' : Stream) (hs : Starts a.σ ts σ')
    (habs : ts = [] → σ'.head.kind ≠ .braceL) :
    Fwd (parseFieldsDefinition n) a (fun ys a' => printBlock printFieldDef ys = o ∧ a'.σ = σ') :=
  parses_fieldDefs (b := false) n hok hd a σ' nofun hs habs

theorem C06_parse_complete_input_fields_definition (n : Nat) (ts o : List Tok) (hok : TsOK ts)
    (hd : Derives gql (.opt (.nt .inputFieldsDefinition)) ts o) (a : AS) (σ' : Stream) (hs : Starts a.σ ts σ')
    (habs : ts = [] → σ'.head.kind ≠ .braceL) :
    Fwd (parseInputFieldsDefinition n) a (fun ys a' => printBlock printInputField ys = o ∧ a'.σ = σ') :=
  parses_inputFields (b := false) n hok hd a σ' nofun hs habs

theorem C06_parse_complete_enum_values_definition (n : Nat) (ts o : List Tok) (hok : TsOK ts)
    (hd : Derives gql (.opt (.nt .enumValuesDefinition)) ts o) (a : AS) (σ' : Stream) (hs : Starts a.σ ts σ')
    (habs : ts = [] → σ'.head.kind ≠ .braceL) :
    Fwd (parseEnumValuesDefinition n) a (fun ys a' => printBlock printEnumVal ys = o ∧
      (∀ e ∈ ys, notLiteralName e.name) ∧ a'.σ = σ') :=
  (parses_enumVals (b := false) n hok hd a σ' nofun hs habs).mono fun _ _ h => ⟨h.1.1, h.1.2, h.2⟩

/-- a type definition after its description: `keyword body` -/
theorem C06_parse_complete_type_definition (n : Nat) (desc : Bytes) (k : DefKind) (tb ob : List Tok) (hok : TsOK tb)
    (hb : BodyD k tb ob) (a : AS) (σ' : Stream) (hs : Starts a.σ (DefKind.keyword k :: tb) σ') (hfol : FolItem σ') :
    Fwd (parseTypeSystemDefinition n desc) a (fun y a' => y.desc = desc ∧ y.kind = k ∧ printDefBody y = ob ∧ EnumOK y ∧
      KeyIn a.σ σ' y.pos.start ∧ a'.σ = σ') := cpl_typeSystemDefinition n desc k tb ob hok hb a σ' hs hfol

/-- the shapes behind `BodyD`: every TypeDefinition / TypeExtension sentence is `Description? keyword body` /
    `extend keyword body` (with a body that extends something) -/
theorem C06_type_definition_shape (ts o : List Tok) (h : Derives gql (.nt .typeDefinition) ts o) : ∃ k, DefShape k ts o :=
  inv_typeDefinition h

theorem C06_type_extension_shape (ts o : List Tok) (h : Derives gql (.nt .typeExtension) ts o) (hok : TsOK ts) :
    ∃ k, ExtShape k ts o := inv_typeExtension h hok

theorem C06_parse_complete_extension (n : Nat) (doc : SchemaDoc) (ts o : List Tok) (hok : TsOK ts)
    (hd : Derives gql (.nt .typeSystemExtension) ts o) (a : AS) (σ' : Stream) (hs : Starts a.σ ts σ') (hfol : FolItem σ') :
    Fwd (parseTypeSystemExtension n doc) a (fun y a' => ∃ it, y = doc.add it ∧ (sItem it).2 = o ∧ it.enumOK ∧
      KeyIn a.σ σ' (sItem it).1 ∧ a'.σ = σ') := cpl_typeSystemExtension n doc ts o hok hd a σ' hs hfol

#print axioms C06_print_in_grammar
#print axioms C06_print_canonical
#print axioms C06_recognise_sound
#print axioms C06_canonical_sound
#print axioms C06_reject_classes_empty_document
#print axioms C06_reject_classes_variable
#print axioms C06_reject_classes_empty_lists
#print axioms C06_reject_classes_extension_of_nothing
#print axioms C06_reject_classes_enum_value
#print axioms C06_reject_classes_operation_type
#print axioms C06_builtin_flag
#print axioms C06_merge_is_concat
#print axioms C06_parse_sound
#print axioms C06_parse_sound_limit
#print axioms C06_parse_sound_description
#print axioms C06_parse_sound_implements_interfaces
#print axioms C06_parse_sound_union_member_types
#print axioms C06_parse_sound_directive_locations
#print axioms C06_parse_sound_arguments_definition
#print axioms C06_parse_sound_fields_definition
#print axioms C06_parse_sound_input_fields_definition
#print axioms C06_parse_sound_enum_values_definition
#print axioms C06_parse_sound_type_definition
#print axioms C06_parse_sound_extension
#print axioms C06_parse_sound_schema_definition
#print axioms C06_parse_sound_directive_definition
#print axioms C06_parse_empty_tree
#print axioms C06_parse_empty_counterexample
#print axioms C06_parse_enum_literal_counterexample
#print axioms C06_parse_print
#print axioms C06_parse_print_schema
#print axioms C06_parse_print_items
#print axioms C06_parse_print_type_definition
#print axioms C06_parse_print_extension
#print axioms C06_parse_print_directive_definition
#print axioms C06_parse_printable
#print axioms C06_parse_print_parse
#print axioms C06_parse_complete_canonical
#print axioms C06_parse_complete
#print axioms C06_accepts_exactly
#print axioms C06_canonical_unique
#print axioms C06_parse_faithful
#print axioms C06_recognises_iff
#print axioms C06_parse_sound_canonical
#print axioms C06_accepts_iff_recognises
#print axioms C06_parse_complete_extension
