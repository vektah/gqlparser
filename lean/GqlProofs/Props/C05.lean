import GqlProofs.Grammar.Reject
import GqlProofs.Parser.RetQuery
import GqlProofs.Parser.CompleteTop
import GqlProofs.Grammar.Accepts
/-
  C05 — the query parser accepts exactly the executable grammar, faithfully.

  First the SPECIFICATION-side theorems: they are about the grammar tables `gql`, the
  derivation relation `Derives`, the generic recogniser (`recognises`, `canonical`: what the
  driver ops `gq` / `gqc` run) and the unparser `Print.printQuery` (op `unparseq`).
  Then (section "the parser is sound") the theorems about the PARSER MODEL
  (`GqlModel/Parser/Query.lean`, op `pq`): every accepted non-empty document is derivable and its
  tree unparses to a canonical form of the input (`C05_parse_sound`, `C05_parse_sound_<nt>`);
  section "completeness": every lexable input whose token sequence is derivable is accepted, and
  the unparse of the tree is the canonical output of EVERY derivation
  (`C05_parse_complete_canonical`, `C05_parse_complete_<nt>`), hence `C05_accepts_exactly`,
  `C05_canonical_unique`, `C05_parse_sound_canonical` (with the recogniser's `canonical`, which
  is complete at its standard fuel: `C05_recognises_iff`) and `C05_accepts_iff_recognises`.
  The tie to the real parser is the check `C05` (harness/internal/props/grammarcheck.go): verdict and
  unparse equation against these definitions, input by input.
-/
open Gql Gql.Lexer Gql.Grammar Gql.Print Gql.Parser

/-! ### the recogniser is sound: a `1` from `gq` is a derivation -/

theorem C05_recognise_sound (ts : List Tok) (h : isExecutable ts = true) :
    Derivable gql .executableDocument ts :=
  recognises_sound gql _ ts h

/-- the token list printed by `gqc` is the canonical form of a derivation of the input -/
theorem C05_canonical_sound (ts out : List Tok) (h : canonical gql .executableDocument ts = some out) :
    Derives gql (.nt .executableDocument) ts out :=
  canonical_sound gql _ ts out h

/-! ### rejection classes, on the grammar tables -/

/-- every executable document has at least three tokens (`{ a }`) -/
theorem C05_document_min_length (ts : List Tok) (h : Derivable gql .executableDocument ts) : 3 ≤ ts.length :=
  let ⟨_, h⟩ := h; minLen_nt 24 h

/-- the empty token sequence (an input of ignored tokens and comments only) is not a document -/
theorem C05_reject_classes_empty_document : ¬ Derivable gql .executableDocument [] :=
  fun h => absurd (C05_document_min_length [] h) (by decide)

/-- `( )`: an argument list has at least five tokens `( name : value )` -/
theorem C05_reject_classes_empty_arguments (c : Bool) (ts out : List Tok)
    (h : Derives gql (.nt (.arguments c)) ts out) : 5 ≤ ts.length := by
  have := minLen_nt 24 h
  cases c <;> exact this

/-- `{ }`: a selection set has at least three tokens -/
theorem C05_reject_classes_empty_selection_set (ts out : List Tok)
    (h : Derives gql (.nt .selectionSet) ts out) : 3 ≤ ts.length :=
  minLen_nt 24 h

/-- `( )`: variable definitions have at least six tokens `( $ name : Type )` -/
theorem C05_reject_classes_empty_variable_definitions (ts out : List Tok)
    (h : Derives gql (.nt .variableDefinitions) ts out) : 6 ≤ ts.length :=
  minLen_nt 24 h

/-- in particular the two-token sequences `( )` and `{ }` are derivable from none of them -/
theorem C05_reject_classes_empty_lists (a b : Tok) (out : List Tok) :
    (∀ c, ¬ Derives gql (.nt (.arguments c)) [a, b] out)
    ∧ ¬ Derives gql (.nt .selectionSet) [a, b] out
    ∧ ¬ Derives gql (.nt .variableDefinitions) [a, b] out := by
  refine ⟨fun c h => ?_, fun h => ?_, fun h => ?_⟩
  · have := C05_reject_classes_empty_arguments c _ _ h; simp at this
  · have := C05_reject_classes_empty_selection_set _ _ h; simp at this
  · have := C05_reject_classes_empty_variable_definitions _ _ h; simp at this

/-- a variable never occurs in a const context: `Value[Const]` (default values),
    `Directives[Const]` (directives of variable definitions), `Arguments[Const]` -/
theorem C05_reject_classes_variable_in_const (ts out : List Tok) :
    (Derives gql (.nt (.value true)) ts out → ∀ t ∈ ts, t.kind ≠ .dollar)
    ∧ (Derives gql (.nt .defaultValue) ts out → ∀ t ∈ ts, t.kind ≠ .dollar)
    ∧ (Derives gql (.nt (.directives true)) ts out → ∀ t ∈ ts, t.kind ≠ .dollar)
    ∧ (Derives gql (.nt (.arguments true)) ts out → ∀ t ∈ ts, t.kind ≠ .dollar) :=
  ⟨(varFree_no_dollar · rfl), (varFree_no_dollar · trivial), (varFree_no_dollar · rfl), (varFree_no_dollar · rfl)⟩

/-- `on` is not a fragment name: the only sentences of FragmentName are single Name tokens
    other than `on` (a String token never is one) -/
theorem C05_reject_classes_fragment_name_on (ts out : List Tok) (h : Derives gql (.nt .fragmentName) ts out) :
    ∃ v, ts = [{ kind := .name, value := v }] ∧ v ≠ str "on" :=
  let ⟨v, e, hv⟩ := nameBut_inv h.nt_inv
  ⟨v, e, by simpa using hv⟩

/-- keywords are Name tokens: a String (or any non-Name) token is never the keyword `on` of a
    type condition -/
theorem C05_reject_classes_string_token_as_keyword (t : Tok) (rest out : List Tok)
    (h : Derives gql (.nt .typeCondition) (t :: rest) out) : t = { kind := .name, value := str "on" } := by
  obtain ⟨t1, t2, o1, o2, e, _, d1, _⟩ := h.nt_inv.seq_inv'
  rw [(kw_inv d1).1] at e
  exact (List.cons.inj e).1

/-! ### the unparser stays inside the grammar -/

/-- The print of every well-formed tree (`Print.WFQuery`: at least one definition, operation
    types `query`/`mutation`/`subscription`, non-empty required selection sets, no fragment
    named `on`, no variable in default values and in directives of variable definitions) is a
    sentence of `ExecutableDocument`.  So the unparse equation of the check compares the input
    with a sentence of the grammar, never with something the grammar does not know. -/
theorem C05_print_in_grammar (d : QueryDoc) (h : WFQuery d) :
    Derivable gql .executableDocument (printQuery d) :=
  (printQuery_in_grammar d h).derivable

/-- … and the print is its own canonical form: the unparser never emits one of the spellings the
    canonical form removes (`query {`, `a: a`), so both sides of the unparse equation
    `printQuery tree = canonical (tokens input)` are canonical token sequences. -/
theorem C05_print_canonical (d : QueryDoc) (h : WFQuery d) :
    Derives gql (.nt .executableDocument) (printQuery d) (printQuery d) :=
  printQuery_in_grammar d h

/-- non-vacuity: `query Q($v: Int = 1 @c) @d { a: b(x: $v) { ...F ... on T { c } } } fragment F on T { c }` is well-formed -/
example : WFQuery
    { ops := [{ op := str "query", name := str "Q",
                vars := [{ var := str "v", type := .named (str "Int") false Pos.zero,
                           default := some (.mk .int (str "1") .nil Pos.zero),
                           dirs := [{ name := str "c", args := [], pos := Pos.zero }], pos := Pos.zero }],
                dirs := [{ name := str "d", args := [], pos := Pos.zero }],
                sel := .cons (.field (str "a") (str "b")
                        [{ name := str "x", value := .mk .variable (str "v") .nil Pos.zero, pos := Pos.zero }] []
                        (.cons (.spread (str "F") [] Pos.zero)
                          (.cons (.inline (str "T") [] (.cons (.field (str "c") (str "c") [] [] .nil Pos.zero) .nil) Pos.zero) .nil))
                        Pos.zero) .nil,
                pos := Pos.zero }],
      frags := [{ name := str "F", vars := [], typeCond := str "T", dirs := [],
                  sel := .cons (.field (str "c") (str "c") [] [] .nil Pos.zero) .nil, pos := Pos.zero }] } := by
  refine ⟨Or.inl (by simp), ?_, ?_⟩
  · intro o ho
    simp only [List.mem_singleton] at ho
    subst ho
    refine ⟨Or.inl rfl, ?_, by simp, ?_⟩
    · intro v hv
      simp only [List.mem_singleton] at hv
      subst hv
      refine ⟨?_, ?_⟩
      · intro d hd
        simp only [Option.some.injEq] at hd
        subst hd
        simp [ConstValue, ConstChildren]
      · intro d hd; simp only [List.mem_singleton] at hd; subst hd; intro a ha; simp at ha
    · simp [WFSelections, WFSelection]; decide
  · intro f hf
    simp only [List.mem_singleton] at hf
    subst hf
    refine ⟨by decide, by simp, by simp, by simp [WFSelections, WFSelection]⟩

/-! ### the parser is sound: accepted ⇒ derivable, and the tree is faithful

  These theorems are about the parser model itself (`GqlModel/Parser/Query.lean`, the definitions
  the driver op `pq` runs), not only about the specification side.

  Vocabulary (`GqlProofs/Parser/{Stream,Spec}.lean`).  `abs s` is what the proofs see of a parser
  state `s`: whether the one-token look-ahead is filled (`pk`), the stream `σ` of significant
  (non-comment) lexer tokens that `next` has not consumed yet (the look-ahead token included), and
  `cnt = tokenCount + number of raw tokens ahead`.  `Spec p R` says: for every state `s` with a
  consistent look-ahead slot, if the run `run 0 p s` ends live (`err = none`, no fuel exhaustion)
  then `R result (abs s) (abs final)`.  `Eats P result a a'` says: for some token list `used`,
  `a.σ = used ++ a'.σ` (exactly `used` was consumed), no EOF token was consumed, and
  `P result used`.  `tk used` is the grammar's view (`Tok`: kind and value) of `used`.

  So `C05_parse_sound_value` reads: whenever `parseValueLiteral` ends without error, the tokens it
  consumed are derivable from `Value[Const]` and are exactly the unparse of the value it returns. -/

theorem C05_parse_sound_name : Spec parseName (Eats fun n used => tk used = [tName n]) := spec_parseName

theorem C05_parse_sound_value (c : Bool) (n : Nat) :
    Spec (parseValueLiteral n c) (Eats fun v used =>
      Derives gql (.nt (.value c)) (tk used) (printValue v) ∧ tk used = printValue v ∧ (c = true → ConstValue v)) :=
  (spec_parseValueLiteral c n).mono fun _ _ _ _ e => e.mono fun v u ⟨h1, h2, _⟩ =>
    ⟨by rw [h1]; exact L_value c v h2, h1, h2⟩

theorem C05_parse_sound_type (n : Nat) :
    Spec (parseTypeReference n) (Eats fun ty used =>
      Derives gql (.nt .typ) (tk used) (printType ty) ∧ tk used = printType ty) :=
  (spec_parseTypeReference n).mono fun _ _ _ _ e => e.mono fun ty u h => ⟨by rw [h]; exact L_type ty, h⟩

/-- `Arguments[Const]?`: nothing is consumed for the empty list -/
theorem C05_parse_sound_arguments (c : Bool) (n : Nat) :
    Spec (parseArguments n c) (Eats fun as used =>
      Derives gql (.opt (.nt (.arguments c))) (tk used) (printArguments as) ∧ tk used = printArguments as) :=
  (spec_parseArguments n c).mono fun _ _ _ _ e => e.mono fun as u ⟨h1, h2, _⟩ =>
    ⟨by rw [h1]; exact L_optArguments c as h2, h1⟩
theorem C05_parse_sound_directives (c : Bool) (n : Nat) :
    Spec (parseDirectives n c) (Eats fun ds used =>
      Derives gql (.opt (.nt (.directives c))) (tk used) (printDirectives ds) ∧ tk used = printDirectives ds) :=
  (spec_parseDirectives n c).mono fun _ _ _ _ e => e.mono fun ds u ⟨h1, h2, _⟩ =>
    ⟨by rw [h1]; exact L_optDirectives c ds h2, h1⟩
theorem C05_parse_sound_variable_definitions (n : Nat) :
    Spec (parseVariableDefinitions n) (Eats fun vs used =>
      Derives gql (.opt (.nt .variableDefinitions)) (tk used) (printVarDefs vs) ∧ tk used = printVarDefs vs) :=
  (spec_parseVariableDefinitions n).mono fun _ _ _ _ e => e.mono fun vs u ⟨h1, h2, _⟩ =>
    ⟨by rw [h1]; exact L_optVarDefs vs h2, h1⟩

/-- `Selection`: here the consumed tokens and the unparse differ (`a: a` unparses as `a`); the
    unparse is the canonical form of the derivation -/
theorem C05_parse_sound_selection (n : Nat) :
    Spec (parseSelection n) (Eats fun s used =>
      Derives gql (.nt .selection) (tk used) (printSelection s) ∧ WFSelection s) :=
  (spec_parseSelection n).last fun _ _ h => ⟨h.1, h.2.1⟩

/-- `SelectionSet` (never empty) -/
theorem C05_parse_sound_selection_set (n : Nat) :
    Spec (parseRequiredSelectionSet n) (Eats fun ss used =>
      ss ≠ .nil ∧ WFSelections ss ∧ Derives gql (.nt .selectionSet) (tk used) (printSelectionSet ss) ∧ used ≠ []) :=
  (spec_parseRequiredSelectionSet n).last fun _ _ h => ⟨h.1, h.2.1, h.2.2.1, h.2.2.2.1⟩

/-- `OperationDefinition`; the recorded position is that of the first consumed token -/
theorem C05_parse_sound_operation_definition (n : Nat) :
    Spec (parseOperationDefinition n) (Eats fun o used => (∃ t rest, used = t :: rest ∧ o.pos.start = t.start) ∧
      Derives gql (.nt .operationDefinition) (tk used) (printOperation o) ∧ WFOperation o) :=
  (spec_parseOperationDefinition n).last fun _ _ h => h.1

/-- `FragmentDefinition` (with the library's optional variable definitions) -/
theorem C05_parse_sound_fragment_definition (n : Nat) :
    Spec (parseFragmentDefinition n) (Eats fun f used => (∃ t rest, used = t :: rest ∧ f.pos.start = t.start) ∧
      Derives gql (.nt .fragmentDefinition) (tk used) (printFragment f) ∧ WFFragment f) :=
  (spec_parseFragmentDefinition n).last fun _ _ h => h.1

/-- what `Spec … (Eats …)` says, spelled out on runs for one program -/
theorem C05_parse_sound_value_run (c : Bool) (n : Nat) (s : PState) (hs : WF s)
    (hok : (run 0 (parseValueLiteral n c) s).2.err = none ∧ (run 0 (parseValueLiteral n c) s).2.oof = false) :
    ∃ used : List Token,
      (abs s).σ = Stream.app used (abs (run 0 (parseValueLiteral n c) s).2).σ ∧
      Derives gql (.nt (.value c)) (tk used) (printValue (run 0 (parseValueLiteral n c) s).1) := by
  have hl : dead (run 0 (parseValueLiteral n c) s).2 = false := by simp [dead, hok.1, hok.2]
  obtain ⟨_, used, h1, h2, _⟩ := C05_parse_sound_value c n s hs hl
  exact ⟨used, h1.σ, h2⟩

/-- **Soundness of `ParseQuery`.**  If the parser accepts `inp` with a non-empty document `doc`,
    then the lexer model succeeds on `inp`, the comment-free token sequence `ts` of `inp` is
    derivable from `ExecutableDocument`, the unparse of `doc` is a canonical form of `ts` (the
    output of a derivation of `ts`: `printQuery doc` is `ts` with bare `query` keywords and
    self-aliases removed, the definitions in source order), and `doc` is well-formed. -/
theorem C05_parse_sound (inp : Bytes) (doc : QueryDoc) (h : parseQuery 0 inp = .ok doc)
    (hne : doc.ops ≠ [] ∨ doc.frags ≠ []) :
    ∃ ts, tokensOf inp = some ts ∧ Derivable gql .executableDocument ts ∧
      Derives gql (.nt .executableDocument) ts (printQuery doc) ∧ WFQuery doc := by
  obtain ⟨ts, h1, h2, _⟩ := parseQuery_sound inp doc h
  exact ⟨ts, h1, ⟨_, (h2 hne).1⟩, h2 hne⟩

/- Tree faithfulness with the recogniser's `canonical`: `C05_parse_sound_canonical` below
   (`canonical gql .executableDocument ts = some (printQuery doc)`), through the completeness
   theorem `C05_parse_complete_canonical` and the recogniser's completeness
   `C05_recognises_complete`. -/

/-- … under any token limit (a parse that succeeds under a limit is the unlimited parse) -/
theorem C05_parse_sound_limit (L : Nat) (inp : Bytes) (doc : QueryDoc) (h : parseQuery L inp = .ok doc)
    (hne : doc.ops ≠ [] ∨ doc.frags ≠ []) :
    ∃ ts, tokensOf inp = some ts ∧ Derivable gql .executableDocument ts ∧
      Derives gql (.nt .executableDocument) ts (printQuery doc) ∧ WFQuery doc :=
  C05_parse_sound inp doc (parseQuery_zero h) hne

/-- a consequence on the level of `Derivable`: what the parser accepts with a non-empty tree has at
    least the three tokens every executable document has, so it is in none of the "too short"
    rejection classes of the grammar -/
theorem C05_parse_sound_min_length (inp : Bytes) (doc : QueryDoc) (h : parseQuery 0 inp = .ok doc)
    (hne : doc.ops ≠ [] ∨ doc.frags ≠ []) : ∃ ts, tokensOf inp = some ts ∧ 3 ≤ ts.length := by
  obtain ⟨ts, h1, h2, _⟩ := C05_parse_sound inp doc h hne
  exact ⟨ts, h1, C05_document_min_length ts h2⟩

/-- the accepted documents with an empty tree are exactly those the FINDING below is about: the
    input has no significant token at all -/
theorem C05_parse_empty_tree (inp : Bytes) (doc : QueryDoc) (h : parseQuery 0 inp = .ok doc)
    (he : doc.ops = [] ∧ doc.frags = []) : tokensOf inp = some [] := by
  obtain ⟨_, h1, _, h3⟩ := parseQuery_sound inp doc h
  exact h3 he ▸ h1

/-- FINDING (the one exception to "accepts exactly the grammar"): the parser accepts the empty
    document — zero definitions — which `ExecutableDocument : ExecutableDefinition+` does not
    derive.  Inputs: the empty string, or any input of ignored tokens and comments only. -/
theorem C05_parse_empty_counterexample :
    parseQuery 0 [] = .ok { ops := [], frags := [] } ∧ tokensOf [] = some [] ∧
      ¬ Derivable gql .executableDocument [] :=
  ⟨rfl, by decide +kernel, C05_reject_classes_empty_document⟩

/-- the same with ignored tokens only: ` ,` -/
theorem C05_parse_ignored_only_counterexample :
    (parseQuery 0 [32, 44]).isOk = true ∧ tokensOf [32, 44] = some [] := ⟨by decide +kernel, by decide +kernel⟩

/-- non-vacuity of `C05_parse_sound`: `query{a:a}` is accepted with one operation, whose unparse
    is `{ a }` (the bare `query` and the self-alias are not part of the tree) -/
example : (parseQuery 0 [113,117,101,114,121,123,97,58,97,125]).isOk = true ∧
    (runQuery 0 [113,117,101,114,121,123,97,58,97,125]).1.ops.map printOperation
      = [[tP .braceL, tName [97], tP .braceR]] := ⟨by decide +kernel, by decide +kernel⟩

/-! ### the converse on printed trees: parse ∘ print = id (up to positions)

  `Fwd p a R` (`GqlProofs/Parser/Fwd.lean`) is the forward counterpart of `Spec`: from every live
  state with abstraction `a`, the run of `p` ends live with `R result (abs final)` — unless it
  runs out of fuel, which the C01 theorems exclude at the entry points.  `Starts σ ts σ'`: the
  stream `σ` starts with tokens whose grammar view is `ts`, followed by `σ'`.  `erasePos`
  (`GqlProofs/Parser/ErasePos.lean`) replaces every position by `Pos.zero`.

  Side conditions.  `PrintableQuery d` = every definition is well-formed (`WFOperation`,
  `WFFragment`: exactly the conditions of `C05_print_in_grammar`), the parts of the tree the
  unparser does not print are the ones the parser builds (`OpOK`/`FragOK`/`ValueOK`: a Name
  literal has the kind its text determines, scalar values have no children, list items have no
  names, list and object values have no raw text), and each definition list is in the order of
  its recorded positions.  Names, numbers and strings need no condition of their own: the
  hypothesis "the significant tokens of `inp` are `printQuery d`" already says the lexer
  produced them. -/

/-- **parse ∘ print.**  If the comment-free token sequence of `inp` is the unparse of a printable
    tree `d`, the parser accepts `inp` and returns `d` up to positions. -/
theorem C05_parse_print (d : QueryDoc) (hp : PrintableQuery d) (inp : Bytes)
    (htok : tokensOf inp = some (printQuery d)) :
    ∃ d', parseQuery 0 inp = .ok d' ∧ d'.erasePos = d.erasePos :=
  parseQuery_print d hp inp htok

/-- the same for any sequence of definition blocks in any order (`BlockOK`: an operation written
    as `printOperation o` or in the long form `opLong o` with its keyword, a fragment as
    `printFragment f`): the operations and the fragments come back in block order -/
theorem C05_parse_print_blocks (blocks : List (Def × List Tok)) (hok : ∀ b ∈ blocks, BlockOK b) (inp : Bytes)
    (htok : tokensOf inp = some (blocks.flatMap (·.2))) :
    ∃ d', parseQuery 0 inp = .ok d' ∧
      d'.ops.map OperationDef.erasePos = (opsOf (blocks.map (·.1))).map OperationDef.erasePos ∧
      d'.frags.map FragmentDef.erasePos = (fragsOf (blocks.map (·.1))).map FragmentDef.erasePos :=
  parseQuery_blocks blocks hok inp htok

/-- in particular: all operations first (each with its keyword), then all fragments — the order and
    spelling of a formatter that never uses the query shorthand; no condition on positions -/
theorem C05_parse_print_long (d : QueryDoc) (hops : ∀ o ∈ d.ops, WFOperation o ∧ OpOK o)
    (hfrags : ∀ f ∈ d.frags, WFFragment f ∧ FragOK f) (inp : Bytes)
    (htok : tokensOf inp = some ((d.ops.map opLong ++ d.frags.map printFragment).flatten)) :
    ∃ d', parseQuery 0 inp = .ok d' ∧ d'.erasePos = d.erasePos := by
  let blocks : List (Def × List Tok) := d.ops.map (fun o => (.inl o, opLong o)) ++ d.frags.map (fun f => (.inr f, printFragment f))
  have hflat : blocks.flatMap (·.2) = (d.ops.map opLong ++ d.frags.map printFragment).flatten := by
    simp [blocks, List.flatMap_def, List.map_map, Function.comp_def]
  have hfst : blocks.map (·.1) = d.ops.map Sum.inl ++ d.frags.map Sum.inr := by
    simp [blocks, List.map_map, Function.comp_def]
  have hok : ∀ b ∈ blocks, BlockOK b := by
    intro b hb
    simp only [blocks, List.mem_append, List.mem_map] at hb
    rcases hb with ⟨o, ho, rfl⟩ | ⟨f, hf, rfl⟩
    · exact ⟨(hops o ho).2, (hops o ho).1, .inr rfl⟩
    · exact ⟨(hfrags f hf).2, (hfrags f hf).1, rfl⟩
  obtain ⟨d', h1, h2, h3⟩ := parseQuery_blocks blocks hok inp (by rw [hflat]; exact htok)
  rw [hfst, opsOf_append, opsOf_inl, opsOf_inr, List.append_nil] at h2
  rw [hfst, fragsOf_append, fragsOf_inl, fragsOf_inr, List.nil_append] at h3
  exact ⟨d', h1, by simp [QueryDoc.erasePos, h2, h3]⟩

theorem C05_parse_printable (inp : Bytes) (d : QueryDoc) (h : parseQuery 0 inp = .ok d) : PrintableQuery d :=
  parseQuery_printable inp d h

/-- **parse ∘ print ∘ parse = parse** (an accepted tree is printable, `C05_parse_printable`): unparse it, write
    the tokens in any way the lexer reads back (`inp'`), parse again: the same tree up to positions -/
theorem C05_parse_print_parse (inp inp' : Bytes) (d : QueryDoc) (h : parseQuery 0 inp = .ok d)
    (htok : tokensOf inp' = some (printQuery d)) :
    ∃ d', parseQuery 0 inp' = .ok d' ∧ d'.erasePos = d.erasePos :=
  parseQuery_print d (parseQuery_printable inp d h) inp' htok

/-- a printable non-empty tree is well-formed in the sense of `C05_print_in_grammar` -/
theorem C05_printable_wf (d : QueryDoc) (hp : PrintableQuery d) (hne : d.ops ≠ [] ∨ d.frags ≠ []) : WFQuery d :=
  ⟨hne, fun o ho => (hp.1 o ho).1, fun f hf => (hp.2.1 f hf).1⟩

/-- the pieces, bottom-up (each: a run on a stream that starts with the printed tokens of a
    subtree ends live, consumes exactly them and returns the subtree up to positions; optional
    trailing parts need a condition on the token that follows) -/
theorem C05_parse_print_value (c : Bool) (v : Value) (hok : ValueOK v) (hc : c = true → ConstValue v)
    (n : Nat) (a : AS) (σ' : Stream) (hs : Starts a.σ (printValue v) σ') :
    Fwd (parseValueLiteral n c) a (fun v' a' => v'.erasePos = v.erasePos ∧ a'.σ = σ') :=
  fwd_value c v hok hc n a σ' hs

theorem C05_parse_print_type (ty : GType) (n : Nat) (a : AS) (σ' : Stream) (hs : Starts a.σ (printType ty) σ')
    (hfol : ty.nonNull = false → σ'.head.kind ≠ .bang) :
    Fwd (parseTypeReference n) a (fun y a' => y.erasePos = ty.erasePos ∧ a'.σ = σ') :=
  reads_type ty n false a σ' nofun hs hfol

theorem C05_parse_print_arguments (c : Bool) (as : List Argument) (hok : ArgsOK as)
    (hc : c = true → ∀ x ∈ as, ConstValue x.value) (n : Nat) (a : AS) (σ' : Stream)
    (hs : Starts a.σ (printArguments as) σ') (hfol : as = [] → σ'.head.kind ≠ .parenL) :
    Fwd (parseArguments n c) a (fun ys a' => ys.map Argument.erasePos = as.map Argument.erasePos ∧ a'.σ = σ') :=
  reads_arguments (b := false) c as hok hc n a σ' nofun hs hfol

theorem C05_parse_print_directives (c : Bool) (ds : List Directive) (hok : DirsOK ds) (hc : c = true → ConstDirectives ds)
    (n : Nat) (a : AS) (σ' : Stream) (hs : Starts a.σ (printDirectives ds) σ')
    (h1 : σ'.head.kind ≠ .at) (h2 : σ'.head.kind ≠ .parenL) :
    Fwd (parseDirectives n c) a (fun ys a' => ys.map Directive.erasePos = ds.map Directive.erasePos ∧ a'.σ = σ') :=
  reads_directives (b := false) c ds hok hc n a σ' nofun hs (by simp [NoKind, Tok.ofToken, h1, h2])

theorem C05_parse_print_variable_definitions (vs : List VarDef) (hok : ∀ v ∈ vs, VarDefOK v) (hwf : ∀ v ∈ vs, WFVarDef v)
    (n : Nat) (a : AS) (σ' : Stream) (hs : Starts a.σ (printVarDefs vs) σ') (hfol : vs = [] → σ'.head.kind ≠ .parenL) :
    Fwd (parseVariableDefinitions n) a (fun ys a' => ys.map VarDef.erasePos = vs.map VarDef.erasePos ∧ a'.σ = σ') :=
  reads_varDefs (b := false) vs hok hwf n a σ' nofun hs hfol

/-- `Selection`: what follows must not be `:`, `(`, `@` or `{` (it is a Name, `...` or `}`) -/
theorem C05_parse_print_selection (s : Selection) (hok : SelOK s) (hwf : WFSelection s) (n : Nat) (a : AS) (σ' : Stream)
    (hs : Starts a.σ (printSelection s) σ') (hfol : FolSel σ') :
    Fwd (parseSelection n) a (fun y a' => y.erasePos = s.erasePos ∧ a'.σ = σ') :=
  fwd_selection s hok hwf n a σ' hs hfol

theorem C05_parse_print_selection_set (ss : Selections) (hok : SelsOK ss) (hwf : WFSelections ss) (hne : ss ≠ .nil)
    (n : Nat) (a : AS) (σ' : Stream) (hs : Starts a.σ (printSelectionSet ss) σ') :
    Fwd (parseRequiredSelectionSet n) a (fun y a' => y.erasePos = ss.erasePos ∧ a'.σ = σ') :=
  reads_requiredSelectionSet (b := false) (F := fun _ => True) (fwd_selections ss hok hwf) hne n n a σ' nofun hs trivial

theorem C05_parse_print_operation_long (o : OperationDef) (hok : OpOK o) (hwf : WFOperation o) (n : Nat) (a : AS) (σ' : Stream)
    (hs : Starts a.σ (opLong o) σ') :
    Fwd (parseOperationDefinition n) a (fun y a' => y.erasePos = o.erasePos ∧ a'.σ = σ') :=
  reads_opLong (b := false) (F := fun _ => True) o hok hwf n a σ' nofun hs trivial

theorem C05_parse_print_operation_short (o : OperationDef) (hok : OpOK o) (hwf : WFOperation o)
    (hbare : OperationDef.isBare o = true) (n : Nat) (a : AS) (σ' : Stream) (hs : Starts a.σ (printSelectionSet o.sel) σ') :
    Fwd (parseOperationDefinition n) a (fun y a' => y.erasePos = o.erasePos ∧ a'.σ = σ') :=
  reads_opShort (b := false) (F := fun _ => True) o hok hwf hbare n a σ' nofun hs trivial

theorem C05_parse_print_fragment_definition (f : FragmentDef) (hok : FragOK f) (hwf : WFFragment f) (n : Nat) (a : AS)
    (σ' : Stream) (hs : Starts a.σ (printFragment f) σ') :
    Fwd (parseFragmentDefinition n) a (fun y a' => y.erasePos = f.erasePos ∧ a'.σ = σ') :=
  reads_fragment (b := false) (F := fun _ => True) f hok hwf n a σ' nofun hs trivial

/-! ### completeness: the parser accepts EXACTLY the grammar

  Derivation-driven counterpart of the soundness section (`GqlProofs/Parser/CompleteQuery.lean`,
  `CompleteTop.lean`): for every nonterminal, a run of its program on a stream that starts with a
  token list the grammar derives (with canonical output `o`) ends live, consumes exactly those
  tokens, and the unparse of its result is `o` — the grammar is LL(1) along the parser's
  decisions.  The theorems are about lexable inputs (`tokensOf inp = some ts`): the tokens are
  then of lexer shape (punctuators carry no text, names are not empty). -/

/-- **Completeness.**  If the comment-free token sequence of `inp` is derivable from
    `ExecutableDocument` with canonical output `o`, then `ParseQuery` accepts `inp`, with a
    non-empty document whose unparse is `o`. -/
theorem C05_parse_complete_canonical (inp : Bytes) (ts o : List Tok) (htok : tokensOf inp = some ts)
    (hd : Derives gql (.nt .executableDocument) ts o) :
    ∃ d, parseQuery 0 inp = .ok d ∧ printQuery d = o ∧ (d.ops ≠ [] ∨ d.frags ≠ []) :=
  parseQuery_complete inp ts o htok hd

theorem C05_parse_complete (inp : Bytes) (ts : List Tok) (htok : tokensOf inp = some ts)
    (hd : Derivable gql .executableDocument ts) : ∃ d, parseQuery 0 inp = .ok d ∧ (d.ops ≠ [] ∨ d.frags ≠ []) := by
  obtain ⟨o, hd⟩ := hd
  obtain ⟨d, h1, _, h3⟩ := parseQuery_complete inp ts o htok hd
  exact ⟨d, h1, h3⟩

/-- **The query parser accepts exactly the executable grammar** (up to the empty document, which it
    also accepts: `C05_parse_empty_counterexample`): `ParseQuery` returns a non-empty document iff
    the lexer succeeds and the comment-free token sequence is derivable from `ExecutableDocument`. -/
theorem C05_accepts_exactly (inp : Bytes) :
    (∃ d, parseQuery 0 inp = .ok d ∧ (d.ops ≠ [] ∨ d.frags ≠ [])) ↔
      ∃ ts, tokensOf inp = some ts ∧ Derivable gql .executableDocument ts :=
  accepts_exactly C05_parse_complete_canonical
    (fun inp d h hne => let ⟨ts, h1, h2, _⟩ := C05_parse_sound inp d h hne; ⟨ts, h1, h2⟩) inp

/-- canonical outputs are unique on lexable token sequences: all derivations of the token sequence
    of an input have the same canonical output (the grammar is unambiguous up to the spellings that
    `canon` removes) -/
theorem C05_canonical_unique (inp : Bytes) (ts o₁ o₂ : List Tok) (htok : tokensOf inp = some ts)
    (h1 : Derives gql (.nt .executableDocument) ts o₁) (h2 : Derives gql (.nt .executableDocument) ts o₂) : o₁ = o₂ :=
  canonical_unique_of_complete C05_parse_complete_canonical htok h1 h2

/-- **tree faithfulness with the recogniser's `canonical`**: whenever the recogniser returns a
    canonical form for the token sequence of an accepted input, it is the unparse of the tree
    (so the two sides of the unparse equation of the check C05 are provably equal) -/
theorem C05_parse_faithful_canonical (inp : Bytes) (doc : QueryDoc) (h : parseQuery 0 inp = .ok doc) (ts out : List Tok)
    (htok : tokensOf inp = some ts) (hc : canonical gql .executableDocument ts = some out) : out = printQuery doc :=
  faithful_of_complete C05_parse_complete_canonical h htok (C05_canonical_sound ts out hc)

/-- every derivation of the token sequence of an accepted input has the unparse as its output -/
theorem C05_parse_faithful (inp : Bytes) (doc : QueryDoc) (h : parseQuery 0 inp = .ok doc) (ts o : List Tok)
    (htok : tokensOf inp = some ts) (hd : Derives gql (.nt .executableDocument) ts o) : o = printQuery doc :=
  faithful_of_complete C05_parse_complete_canonical h htok hd

/-- the recogniser is complete at its standard fuel `64 * (length + 2)`
    (`GqlProofs/Grammar/Complete.lean`: derivation heights are linear in the number of tokens) … -/
theorem C05_recognises_complete (ts : List Tok) (h : Derivable gql .executableDocument ts) : isExecutable ts = true :=
  recognises_complete _ ts h

/-- … so the executable specification side of the check DECIDES the grammar -/
theorem C05_recognises_iff (ts : List Tok) : isExecutable ts = true ↔ Derivable gql .executableDocument ts :=
  recognises_iff _ ts

/-- **`C05_parse_sound` with the recogniser's `canonical`**: for an accepted non-empty document the
    recogniser returns a canonical form of the token sequence, and it IS the unparse of the tree. -/
theorem C05_parse_sound_canonical (inp : Bytes) (doc : QueryDoc) (h : parseQuery 0 inp = .ok doc)
    (hne : doc.ops ≠ [] ∨ doc.frags ≠ []) :
    ∃ ts, tokensOf inp = some ts ∧ canonical gql .executableDocument ts = some (printQuery doc) ∧ WFQuery doc := by
  obtain ⟨ts, h1, h2, _, h4⟩ := C05_parse_sound inp doc h hne
  obtain ⟨out, ho⟩ := canonical_complete _ ts h2
  exact ⟨ts, h1, by rw [ho, C05_parse_faithful_canonical inp doc h ts out h1 ho], h4⟩

/-- **the runtime comparison of the check C05, proved**: `ParseQuery` returns a non-empty document
    iff the input lexes and the recogniser accepts its token sequence -/
theorem C05_accepts_iff_recognises (inp : Bytes) :
    (∃ d, parseQuery 0 inp = .ok d ∧ (d.ops ≠ [] ∨ d.frags ≠ [])) ↔ ∃ ts, tokensOf inp = some ts ∧ isExecutable ts = true :=
  accepts_iff_recognises C05_parse_complete_canonical
    (fun inp d h hne => let ⟨ts, h1, h2, _⟩ := C05_parse_sound inp d h hne; ⟨ts, h1, h2⟩) inp

/-- the pieces (each: derivable token list at the head of the stream ⇒ the program ends live,
    consumes it, and the unparse of the result is the canonical output of the derivation) -/
theorem C05_parse_complete_value (c : Bool) (n : Nat) (ts o : List Tok) (hok : TsOK ts)
    (hd : Derives gql (.nt (.value c)) ts o) (a : AS) (σ' : Stream) (hs : Starts a.σ ts σ') :
    Fwd (parseValueLiteral n c) a (fun v a' => printValue v = o ∧ a'.σ = σ') :=
  parses_value (b := false) c n ts o hok hd a σ' nofun hs trivial

theorem C05_parse_complete_type (n : Nat) (ts o : List Tok) (hok : TsOK ts) (hd : Derives gql (.nt .typ) ts o) (a : AS)
    (σ' : Stream) (hs : Starts a.σ ts σ') (hfol : σ'.head.kind ≠ .bang) :
    Fwd (parseTypeReference n) a (fun ty a' => printType ty = o ∧ a'.σ = σ') :=
  parses_type (b := false) n ts o hok hd a σ' nofun hs hfol

theorem C05_parse_complete_arguments (c : Bool) (n : Nat) (ts o : List Tok) (hok : TsOK ts)
    (hd : Derives gql (.opt (.nt (.arguments c))) ts o) (a : AS) (σ' : Stream) (hs : Starts a.σ ts σ')
    (hfol : σ'.head.kind ≠ .parenL) :
    Fwd (parseArguments n c) a (fun as a' => printArguments as = o ∧ a'.σ = σ') :=
  parses_arguments (b := false) c n ts o hok hd a σ' nofun hs hfol

theorem C05_parse_complete_directives (c : Bool) (n : Nat) (ts o : List Tok) (hok : TsOK ts)
    (hd : Derives gql (.opt (.nt (.directives c))) ts o) (a : AS) (σ' : Stream) (hs : Starts a.σ ts σ')
    (h1 : σ'.head.kind ≠ .at) (h2 : σ'.head.kind ≠ .parenL) :
    Fwd (parseDirectives n c) a (fun ds a' => printDirectives ds = o ∧ a'.σ = σ') :=
  parses_directives (b := false) c n ts o hok hd a σ' nofun hs (by simp [NoKind, Tok.ofToken, h1, h2])

theorem C05_parse_complete_variable_definitions (n : Nat) (ts o : List Tok) (hok : TsOK ts)
    (hd : Derives gql (.opt (.nt .variableDefinitions)) ts o) (a : AS) (σ' : Stream) (hs : Starts a.σ ts σ')
    (hfol : σ'.head.kind ≠ .parenL) :
    Fwd (parseVariableDefinitions n) a (fun vs a' => printVarDefs vs = o ∧ a'.σ = σ') :=
  parses_varDefs (b := false) n ts o hok hd a σ' nofun hs hfol

theorem C05_parse_complete_selection (n : Nat) (ts o : List Tok) (hok : TsOK ts) (hd : Derives gql (.nt .selection) ts o)
    (a : AS) (σ' : Stream) (hs : Starts a.σ ts σ') (hfol : FolSel σ') :
    Fwd (parseSelection n) a (fun s a' => printSelection s = o ∧ a'.σ = σ') :=
  parses_selection n ts o hok hd a σ' nofun hs (folSel_iff.1 hfol)

theorem C05_parse_complete_selection_set (n : Nat) (ts o : List Tok) (hok : TsOK ts) (hd : Derives gql (.nt .selectionSet) ts o)
    (a : AS) (σ' : Stream) (hs : Starts a.σ ts σ') :
    Fwd (parseRequiredSelectionSet n) a (fun ss a' => printSelectionSet ss = o ∧ a'.σ = σ') :=
  parses_requiredSelectionSet (b := false) (Fol := Any) n hok hd a σ' nofun hs trivial

theorem C05_parse_complete_operation_definition (n : Nat) (ts o : List Tok) (hok : TsOK ts)
    (hd : Derives gql (.nt .operationDefinition) ts o) (a : AS) (σ' : Stream) (hs : Starts a.σ ts σ') :
    Fwd (parseOperationDefinition n) a (fun y a' => printOperation y = o ∧ y.pos.start = a.σ.head.start ∧ a'.σ = σ') :=
  cpl_operation n ts o hok hd a σ' hs

theorem C05_parse_complete_fragment_definition (n : Nat) (ts o : List Tok) (hok : TsOK ts)
    (hd : Derives gql (.nt .fragmentDefinition) ts o) (a : AS) (σ' : Stream) (hs : Starts a.σ ts σ') :
    Fwd (parseFragmentDefinition n) a (fun y a' => printFragment y = o ∧ y.pos.start = a.σ.head.start ∧ a'.σ = σ') :=
  cpl_fragment n ts o hok hd a σ' hs

#print axioms C05_print_in_grammar
#print axioms C05_print_canonical
#print axioms C05_recognise_sound
#print axioms C05_canonical_sound
#print axioms C05_reject_classes_empty_document
#print axioms C05_document_min_length
#print axioms C05_reject_classes_empty_lists
#print axioms C05_reject_classes_variable_in_const
#print axioms C05_reject_classes_fragment_name_on
#print axioms C05_reject_classes_string_token_as_keyword
#print axioms C05_parse_sound
#print axioms C05_parse_sound_limit
#print axioms C05_parse_sound_value
#print axioms C05_parse_sound_type
#print axioms C05_parse_sound_arguments
#print axioms C05_parse_sound_directives
#print axioms C05_parse_sound_variable_definitions
#print axioms C05_parse_sound_selection
#print axioms C05_parse_sound_selection_set
#print axioms C05_parse_sound_operation_definition
#print axioms C05_parse_sound_fragment_definition
#print axioms C05_parse_empty_tree
#print axioms C05_parse_empty_counterexample
#print axioms C05_parse_print
#print axioms C05_parse_print_blocks
#print axioms C05_parse_print_long
#print axioms C05_parse_printable
#print axioms C05_parse_print_parse
#print axioms C05_parse_print_value
#print axioms C05_parse_print_selection
#print axioms C05_parse_print_operation_long
#print axioms C05_parse_print_fragment_definition
#print axioms C05_parse_complete_canonical
#print axioms C05_parse_complete
#print axioms C05_accepts_exactly
#print axioms C05_canonical_unique
#print axioms C05_parse_faithful_canonical
#print axioms C05_parse_faithful
#print axioms C05_parse_complete_selection
#print axioms C05_recognises_iff
#print axioms C05_parse_sound_canonical
#print axioms C05_accepts_iff_recognises
