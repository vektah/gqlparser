import GqlProofs.ValSpec.Stateful
import GqlProofs.ValSpec.KnownDirs
import GqlProofs.ValSpec.TypeRules
import GqlProofs.ValSpec.IntrospectionLinks
import GqlProofs.ValSpec.ValuesCorrectOneOfEx
import GqlProofs.ValSpec.SingleRootEx
import GqlProofs.Props.C18
import GqlProofs.Validate.OverlapWitness
import GqlProofs.EndToEnd.ParsedSchemaTree
import GqlProofs.EndToEnd.RootKeys
import GqlProofs.EndToEnd.ParsedSelStarts
import GqlProofs.EndToEnd.SourceOutcome
import GqlProofs.EndToEnd.Prelude
import GqlProofs.ValSpec.ArgsDirs
import GqlProofs.ValSpec.FieldRules
import GqlProofs.ValSpec.Present
import GqlProofs.Validate.OverlapArgsSym
import GqlProofs.Validate.OverlapMain
/-
  C08 — validation accepts exactly what the rules allow.

  The specification side is `GqlModel/Validate/Spec` (`Spec.specValid`, one Boolean predicate per
  section of the October 2021 specification, over a declarative typing of the document).  The
  validator side is `validate rules s d` (`GqlModel/Validate/Engine.lean`), the model of
  `validator.Validate` that the driver runs; by `C18_union` the errors a rule contributes to any
  rule set are the errors of `validate [rule] s d`, so each theorem below is stated for the
  one-rule run: "the rule reports nothing ⇔ its specification predicate holds".

  Proved here (complete equivalences, no hypothesis on the schema or the document):
    C08_LoneAnonymousOperation   §5.2.2.1
    C08_UniqueVariableNames      §5.8.1
    C08_UniqueFragmentNames      §5.5.1.1
    C08_UniqueOperationNames     §5.2.1.1 (together with "at most one anonymous operation", which
                                 is what the rule really tests: `_iff`; under LoneAnonymousOperation
                                 it is the specification predicate: `C08_UniqueOperationNames`)
    C08_KnownFragmentNames       §5.5.2.1
    C08_UniqueArgumentNames      §5.4.2
    C08_UniqueDirectivesPerLocation   §5.7.3, for documents whose directives are all defined (the
                                 rule counts an undefined directive as non-repeatable, the
                                 specification cannot know; `_complete`: without that hypothesis a
                                 silent rule still implies the specification predicate)
  (these two are stated with the hypothesis `hk` on the operation kinds; their proofs do not use it:
  neither side compares the location of a directive) and, for documents whose operation kinds are the
  ones the parser produces (`query`, `mutation`, `subscription`, shorthand — `parserOpKinds`; the
  walker's directive location of any other kind is the empty string, the specification's is QUERY):
    C08_KnownDirectives          §5.7.1 ∧ §5.7.2
  These rest on the coverage lemmas of `GqlProofs/ValSpec` (`walkDoc_cov`, `walkDoc_hasItems`,
  `docSels_iff`, `directiveSites_iff`, `directiveSites_dirs_iff`): the field / directive /
  directive-list events of a run are exactly the field nodes and directive lists the specification
  quantifies over.

  and, through `walk_parent_type` (`GqlProofs/ValSpec/TypedBridge.lean`: for a well-parented
  document — `Spec.wellParented`: every selection is written where the type in scope is composite,
  and `__typename` is not selected where that type is undetermined — the walker's parent
  definition and field definition of every field node are the declarative ones of `Spec.docSels`):
    C08_FieldsOnCorrectType      §5.3.1
    C08_KnownArgumentNames       §5.4.1
    C08_ProvidedRequiredArguments §5.4.2.1 (these two are also stated with `hk`, which their proofs do not use)
    C08_ScalarLeafs              §5.3.3 (field types are output types: `Spec.fieldTypesAreOutputTypes`)
    C08_FragmentsOnCompositeTypes §5.5.1.3 (no hypothesis on the document; no type has the empty name)
  `Spec.wellParented` fails only for documents that both sides reject (it needs a fragment on a
  non-composite type, a sub-selection on a leaf, an undefined field / root type / type condition
  with `__typename` below it); outside it the walker gives `__typename` a definition on any parent
  and finds the input fields of an input object used as a parent, which the rule-by-rule comparison
  of the check masks for the same reason.

  Second group (helper files `GqlProofs/ValSpec/{ReachClosure,ScopeSound,ScopeComplete,ScopeLinks,ValBlocks,…}.lean`:
  `Spec.reachFrom` is the reflexive-transitive closure of "spreads through defined fragments";
  per-operation scope of the walk — an event fired while `CurrentOperation = op` is about a node /
  directive list written in `op` or in a fragment definition reachable from it, and every such node
  has its event and is marked as linked at the `operation` event; the value events of a run are the
  typed sites of the argument lists of its `field` / `directive` events and of the variable defaults):
    C08_UniqueInputFieldNames    §5.6.3 (values shaped as the parser builds them: only list and object
                                 literals have children — the specification predicate also looks below
                                 other kinds, the walker like Go does not)
    C08_KnownTypeNames           §5.5.1.2 ∧ existence of variable types (no hypothesis); `…WithoutSuggestions`
    C08_VariablesAreInputTypes   §5.8.2 (masked by the existence of the variable types; `_iff`: what the
                                 rule really tests; joint form with KnownTypeNames without hypothesis)
    C08_KnownRootType            library rule (no hypothesis: an unparseable operation kind makes the rule
                                 panic and the specification predicate false); `_panic_iff`
    C08_NoFragmentCycles         §5.5.2.2 (masked by fragment name uniqueness; unconditionally the rule
                                 decides `Acyclic`; the direction specification ⇒ silent needs nothing)
    C08_NoUnusedFragments        §5.5.1.4 (masked by NoFragmentCycles and fragment name uniqueness: the rule
                                 asks for reachability from an operation — plus the "first fragment quirk" —,
                                 the specification text for a spread anywhere; `_complete`, `_reach`)
    C08_NoUndefinedVariables     §5.8.3, C08_NoUnusedVariables §5.8.4 (fragment name uniqueness, constant
                                 default values; variable name uniqueness for the second)
    C08_PossibleFragmentSpreads  §5.5.2.3 (well-parented document, no type named "", `possibleOK s`:
                                 `GetPossibleTypes` is what the definitions imply — loaded schemas: `_loaded`)
    C08_SingleFieldSubscriptions §5.2.3.1 (`subscriptionRootExact s`; spreads defined, fragment definitions
                                 have a type condition, at least one root field is collected, equal response
                                 keys mean equal field names; `_exact`: the rule in its own terms; `_loaded`)
    C08_MaxIntrospectionDepth    library rule (masked by NoFragmentCycles; `_sound` without hypothesis)
    C08_VariablesInAllowedPosition §5.8.5 MODULO the recorded finding (the rule ignores the default value of
                                 the LOCATION): `_iff` is the rule-exact characterisation (location default
                                 ignored), `C08_VariablesInAllowedPosition` / `_harmless` the equivalence
                                 where no usage depends on a location default, `_complete` the direction
                                 that always holds, `_counterexample_location_default` the witness.
    C08_ValuesOfCorrectType      §5.6.1 / 5.6.2 / 5.6.4 and the `@oneOf` clauses (`Spec.valuesOfCorrectType ∧
                                 Spec.oneOfVariablesNonNull`): well-parented document, fragment name
                                 uniqueness, constant defaults, `schemaOK s` (a definition named like a
                                 built-in scalar is that scalar, scalars declare no fields, input-field types
                                 resolve to input types), `rootsInput` (declared types of typed values resolve
                                 to input types), `numLiteralsOK` (numeric literals are lexemes on which the
                                 library's conversion and the specification's range tests agree — a theorem
                                 for IntValue lexemes of any size and for FloatValue lexemes:
                                 `numLeafOK_int_of_lexeme`, `numLeafOK_float_of_lexeme`; in the reduction
                                 `C08_ValuesOfCorrectType_numeric_hypothesis` the Float agreement is still
                                 written as a hypothesis on the text), `leavesWellFormed`,
                                 `usePosDistinct`; `_loaded`, `_partial` (no
                                 `@oneOf`), `_closed`, `_complete`.
  Every hypothesis has a satisfiability example and (where one exists) a kernel-checked
  counterexample next to the theorem or in `GqlProofs/ValSpec/*Ex.lean`.

  Recorded finding, repaired in the library ("an integer literal beyond the range of a double is
  not a Float"; the model is that of the repaired code): an IntValue that does not fit a finite
  double, given where a Float is expected (`{ f(a: 1<309 zeros>) }` with `a: Float`), is rejected by
  `Spec.valuesOfCorrectType` (§3.5.2); before the repair the Int-at-Float branch of
  ValuesOfCorrectType had no range test and accepted it.  Rule and specification agree on such
  literals: `C08_ValuesOfCorrectType_int_beyond_double_rejected`,
  `C08_ValuesOfCorrectType_int_double_boundary`; `numLiteralsOK` does not exclude them (an IntValue
  lexeme of ANY size satisfies its part: `numLeafOK_int_of_lexeme`).

  Capstone: C08_default_rules_iff_spec_partial — the 26 default rules above run TOGETHER report
  nothing iff the 27 predicates of `Spec.specVerdicts` they stand for hold (all but field merging
  §5.3.2), under `C08Hyps` (parser shape of the document, loader invariants of the schema, and the
  side conditions named above that are not specification predicates themselves); the masked forms
  need no hypothesis there.

  END TO END (`section EndToEnd` of this file; proofs in `GqlProofs/EndToEnd/`): every hypothesis of
  `C08Hyps` that is about the SHAPE of the document is an invariant of parser output
  (`parsed_kinds`, `parsed_valuesShaped`, `parsed_constDefaults`, `parsed_typeConds`,
  `parsed_numLiteralsOK` — the Float half included, `Gql.EndToEnd.float_lexeme_agree` —,
  `parsed_leavesWellFormed`, `parsed_usePosDistinct`: `GqlProofs/EndToEnd/Parsed.lean`), every
  hypothesis about the schema alone is an invariant of loader output (`loaded_*`,
  `GqlProofs/EndToEnd/Loaded.lean`; `rootTypesAreObjects` included since the repair of the root kinds);
  `C08_parsed_loaded_iff_spec` is the capstone over a SOURCE TEXT and a
  loaded schema, with only the semantic side conditions left (`C08SemanticHyps`);
  `C08_sources_iff_spec` takes the schema as source texts too (`ParseSchemas` → `load`).
  `Spec.wellParented` is NOT an invariant of parser / loader output but a consequence of EITHER side of
  the equivalence (`C08_wellParented_of_spec`, `C08_wellParented_of_rules`, `C08_wellParented_of_valid`;
  `GqlProofs/EndToEnd/WellParented.lean`), so `C08_sources_iff_spec_wp` / `C08_parsed_loaded_iff_spec_wp`
  need only `C08ResidualHyps` (selectRoot, rootKeys, defaultedLocations) and the prelude.

  The verdict of the whole default rule set (DESIGN's `C08_verdict`):
    validate defaultRules s d = .ok [] ↔ Spec.specValid s d = true
  is `C08_validate_default_iff_spec` under `C08Hyps` and `C08OverlapHyps` (the rule
  OverlappingFieldsCanBeMerged: soundness of every reported conflict, `C08_overlap_sound_partial`, and
  the equivalence with §5.3.2, `C08_OverlappingFieldsCanBeMerged`), and over source texts
  `C08_sources_default_iff_spec`, `C08_loadSchema_default_iff_spec` (`section C08Final`).
  With `Closed s` as the only hypothesis, as DESIGN states it, the equivalence is NOT proved, and it
  is false: the recorded finding about VariablesInAllowedPosition (DESIGN §7 R8e, KNOWN_FINDINGS;
  `C08_location_default_counterexample_sources`) and a subscription that collects no root field
  (`C08_subscription_without_root_field_counterexample`) are counterexamples over source texts — they
  refute the two semantic hypotheses of `C08_sources_default_iff_spec`, each used in one direction.  The hypotheses of
  `C08Hyps` that are not consequences of `Closed s` + "parsed document" mark inputs on which single
  rules and their predicates differ while both sides reject (the check compares those under masks).
-/
open Gql Gql.Validate Gql.Validate.Rules

/-- §5.2.2.1 — LoneAnonymousOperation reports nothing iff the specification predicate holds -/
theorem C08_LoneAnonymousOperation (s : Schema) (d : QueryDoc) :
    validate [loneAnonymousOperation] s d = .ok [] ↔ Spec.loneAnonymousOperation d = true := by
  refine validate_stateless_iff fun evs hw => (opStep_silent_iff hw _).trans ?_
  -- both sides: no operation is anonymous unless it is the only one
  simp only [Spec.loneAnonymousOperation, Bool.or_eq_true, decide_eq_true_eq, List.all_eq_true, bne_iff_ne, ne_eq,
    ite_eq_right_iff, reduceCtorEq, imp_false, Bool.and_eq_true, beq_iff_eq, not_and, Nat.not_lt]
  by_cases hl : d.ops.length ≤ 1 <;> simp [hl]

/-- §5.8.1 — UniqueVariableNames reports nothing iff the variables of every operation have
    different names -/
theorem C08_UniqueVariableNames (s : Schema) (d : QueryDoc) :
    validate [uniqueVariableNames] s d = .ok [] ↔ Spec.variableUniqueness d = true := by
  refine validate_stateless_iff fun evs hw => (opStep_silent_iff hw fun op => dupVars op.vars []).trans ?_
  simp only [Spec.variableUniqueness, List.all_eq_true, distinct_iff_nodup, ← freshFrom_nil]
  exact forall₂_congr fun op _ => dupVars_nil_iff op.vars [] List.nodup_nil

/-- §5.5.1.1 — UniqueFragmentNames reports nothing iff the fragment definitions have different names -/
theorem C08_UniqueFragmentNames (s : Schema) (d : QueryDoc) :
    validate [uniqueFragmentNames] s d = .ok [] ↔ Spec.fragmentNameUniqueness d = true := by
  obtain ⟨evs, hw⟩ := walkDoc_isSome s.view d
  rw [validate_uniqueFragmentNames s d evs hw, (walkDoc_events s.view d evs hw).2, Spec.fragmentNameUniqueness,
    distinct_iff_nodup]

/-- what UniqueOperationNames really tests: all operation names, the empty name of anonymous
    operations included, are different -/
theorem C08_UniqueOperationNames_iff (s : Schema) (d : QueryDoc) :
    validate [uniqueOperationNames] s d = .ok [] ↔
      (Spec.operationNameUniqueness d = true ∧ (d.ops.filter (·.name == [])).length ≤ 1) := by
  obtain ⟨evs, hw⟩ := walkDoc_isSome s.view d
  rw [validate_uniqueOperationNames s d evs hw, (walkDoc_events s.view d evs hw).1, Spec.operationNameUniqueness,
    distinct_iff_nodup]
  exact nodup_names_split d.ops

/-- §5.2.1.1 — for a document that satisfies LoneAnonymousOperation, UniqueOperationNames reports
    nothing iff the named operations have different names -/
theorem C08_UniqueOperationNames (s : Schema) (d : QueryDoc) (hl : Spec.loneAnonymousOperation d = true) :
    validate [uniqueOperationNames] s d = .ok [] ↔ Spec.operationNameUniqueness d = true := by
  rw [C08_UniqueOperationNames_iff, and_iff_left_iff_imp]
  intro _
  simp only [Spec.loneAnonymousOperation, Bool.or_eq_true, decide_eq_true_eq, List.all_eq_true, bne_iff_ne, ne_eq] at hl
  rcases hl with hl | hl
  · exact Nat.le_trans (List.length_filter_le _ _) hl
  · rw [List.filter_eq_nil_iff.2 fun op hop => by simpa using hl op hop]
    exact Nat.zero_le 1

/-- §5.5.2.1 — KnownFragmentNames reports nothing iff every spread written in the document names a
    defined fragment -/
theorem C08_KnownFragmentNames (s : Schema) (d : QueryDoc) :
    validate [knownFragmentNames] s d = .ok [] ↔ Spec.fragmentSpreadTargetDefined d = true :=
  validate_stateless_iff (knownFragmentNames_iff s d)

/-- §5.4.2 — UniqueArgumentNames reports nothing iff no field or directive is given two arguments
    of one name -/
theorem C08_UniqueArgumentNames (s : Schema) (d : QueryDoc) (hk : ∀ op ∈ d.ops, op.op ∈ parserOpKinds) :
    validate [uniqueArgumentNames] s d = .ok [] ↔ Spec.argumentUniqueness s d = true :=
  validate_stateless_iff fun evs hw => uniqueArgumentNames_iff s d evs hw

/-- §5.7.1 and §5.7.2 — KnownDirectives reports nothing iff every directive is defined and is used
    in a location its definition lists -/
theorem C08_KnownDirectives (s : Schema) (d : QueryDoc) (hk : ∀ op ∈ d.ops, op.op ∈ parserOpKinds) :
    validate [knownDirectives] s d = .ok [] ↔
      (Spec.directivesAreDefined s d = true ∧ Spec.directivesInValidLocations s d = true) := by
  obtain ⟨evs, hw⟩ := walkDoc_isSome s.view d
  rw [validate_knownDirectives s d evs hw]
  exact knownDirectives_iff s d evs hw hk

/-- §5.7.3 — for a document whose directives are all defined, UniqueDirectivesPerLocation reports
    nothing iff no location carries a non-repeatable directive twice -/
theorem C08_UniqueDirectivesPerLocation (s : Schema) (d : QueryDoc) (hk : ∀ op ∈ d.ops, op.op ∈ parserOpKinds)
    (hdef : Spec.directivesAreDefined s d = true) :
    validate [uniqueDirectivesPerLocation] s d = .ok [] ↔ Spec.directivesUniquePerLocation s d = true :=
  validate_stateless_iff fun evs hw => uniqueDirectivesPerLocation_iff s d evs hw hdef

/-- §5.7.3, one direction without the hypothesis: whenever UniqueDirectivesPerLocation reports
    nothing the specification predicate holds (no violation goes unreported) -/
theorem C08_UniqueDirectivesPerLocation_complete (s : Schema) (d : QueryDoc)
    (hk : ∀ op ∈ d.ops, op.op ∈ parserOpKinds) (h : validate [uniqueDirectivesPerLocation] s d = .ok []) :
    Spec.directivesUniquePerLocation s d = true := by
  obtain ⟨evs, hw⟩ := walkDoc_isSome s.view d
  exact uniqueDirectivesPerLocation_complete s d evs hw ((validate_stateless_nil s d _ _ evs hw).1 h)

/-- §5.3.1 — for a well-parented document FieldsOnCorrectType reports nothing iff every field is
    defined on the type in scope -/
theorem C08_FieldsOnCorrectType (s : Schema) (d : QueryDoc) (hwp : Spec.wellParented s d = true) :
    validate [fieldsOnCorrectType] s d = .ok [] ↔ Spec.fieldSelections s d = true :=
  validate_stateless_iff fun evs hw => fieldsOnCorrectType_iff s d evs hw hwp

/-- §5.4.1 — KnownArgumentNames reports nothing iff every argument of a field or directive is
    defined by it -/
theorem C08_KnownArgumentNames (s : Schema) (d : QueryDoc) (hwp : Spec.wellParented s d = true)
    (hk : ∀ op ∈ d.ops, op.op ∈ parserOpKinds) :
    validate [knownArgumentNames] s d = .ok [] ↔ Spec.argumentNames s d = true :=
  validate_stateless_iff fun evs hw => knownArgumentNames_iff s d evs hw hwp

/-- §5.4.2.1 — ProvidedRequiredArguments reports nothing iff every required argument of a field or
    directive is given -/
theorem C08_ProvidedRequiredArguments (s : Schema) (d : QueryDoc) (hwp : Spec.wellParented s d = true)
    (hk : ∀ op ∈ d.ops, op.op ∈ parserOpKinds) :
    validate [providedRequiredArguments] s d = .ok [] ↔ Spec.requiredArguments s d = true :=
  validate_stateless_iff fun evs hw => providedRequiredArguments_iff s d evs hw hwp

/-- §5.3.3 — ScalarLeafs reports nothing iff leaf fields have no sub-selection and composite fields
    have one -/
theorem C08_ScalarLeafs (s : Schema) (d : QueryDoc) (hwp : Spec.wellParented s d = true)
    (hout : Spec.fieldTypesAreOutputTypes s d = true) :
    validate [scalarLeafs] s d = .ok [] ↔ Spec.leafFieldSelections s d = true :=
  validate_stateless_iff fun evs hw => scalarLeafs_iff s d evs hw hwp hout

/-- §5.5.1.3 — FragmentsOnCompositeTypes reports nothing iff every type condition that names a type
    names a composite one -/
theorem C08_FragmentsOnCompositeTypes (s : Schema) (d : QueryDoc) (hE : s.type? [] = none) :
    validate [fragmentsOnCompositeTypes] s d = .ok [] ↔ Spec.fragmentsOnCompositeTypes s d = true :=
  validate_stateless_iff fun evs hw => fragmentsOnCompositeTypes_iff s d evs hw hE

/-- the one-rule theorems transfer to any rule set with distinct names (C18): here for the default
    rule set and LoneAnonymousOperation -/
theorem C08_default_LoneAnonymousOperation (s : Schema) (d : QueryDoc) (errs : List Err)
    (h : validate defaultRules s d = .ok errs) :
    (errs.filter fun x => decide (x.rule = loneAnonymousOperation.name)) = [] ↔
      Spec.loneAnonymousOperation d = true := by
  rw [← C08_LoneAnonymousOperation s d, C18_union defaultRules s d errs C18_default_names_distinct h
    loneAnonymousOperation (by simp [defaultRules_eq])]
  exact ⟨congrArg _, VResult.ok.inj⟩


/-! ## OverlappingFieldsCanBeMerged -/

/-
  C08 — validation accepts exactly what the rules allow: the part about
  OverlappingFieldsCanBeMerged (the repaired algorithm: `sameValue` compares children, R8g;
  `doTypesConflict` tests nullability at every level and lets a leaf type conflict with every other
  type, R8h; (selection set, fragment) comparisons are memoised, so a repeated comparison reports
  nothing — soundness is not affected by what the memos contain).

  The equivalence with §5.3.2 (DESIGN's `C08_Overlapping`),

      validate [overlappingFieldsCanBeMerged] s d = .ok [] ↔ Spec.fieldSelectionMerging s d = true,

  is `C08_OverlappingFieldsCanBeMerged` (section "OverlappingFieldsCanBeMerged: completeness" of this
  file), under the side conditions the other rules guarantee.  The theorems from
  `C08_overlap_sound_partial` to `C08_overlap_identical_arguments_accepted` are the soundness half,
  which needs none: SOUNDNESS of every reported conflict — each error of the rule is the rendering of a conflict
  tree in which every leaf names two field nodes of the document (of the selection set the observer
  was called for, or of a fragment definition) with the same response name, and
    * a "different fields" / "differing arguments" leaf only occurs where neither the two fields
      nor any enclosing pair of fields was found to be mutually exclusive (two different Object
      parent types), the field names differ / are equal and the arguments are not identical in the
      sense of `ArgsSame` — exactly the situations in which §5.3.2 FieldsInSetCanMerge demands
      equal names and identical arguments, so no spec-valid document is rejected by these branches;
    * a "conflicting types" leaf only occurs where both field definitions are known and
      `doTypesConflict` holds of the two declared types.
  The equivalence needs on top of this (`GqlProofs/Validate/Overlap*.lean`): that the two fields of a
  nested leaf are reachable from the two enclosing fields (sub-selections followed through spreads),
  that `doTypesConflict` is the negation of SameResponseShape's type test, and completeness.
-/
open Gql Gql.Validate Gql.Validate.Rules

/-- Every conflict reported by one observer call (`findConflictsWithinSelectionSet`) is sound. -/
theorem C08_overlap_sound_partial (s : SV) (d : QueryDoc) (l : Links) (parent : Option Definition)
    (sels : Selections) (st st' : OSt) (cs : List Conflict)
    (h : overlapRun s d l parent sels st = some (st', cs)) :
    ∀ c ∈ cs, Sound s (univOf d sels) false c :=
  overlapRun_sound s d l parent sels st (st', cs) h

/-- … hence every error the rule adds is the rendering (`Conflict.toErr`: message, single location
    `At(m.Position)`) of a sound conflict. -/
theorem C08_overlap_errors_sound (s : SV) (d : QueryDoc) (P P' : OSt) (e : Event) (errs : List RErr)
    (h : overlappingFieldsStep s d P e = .ok P' errs) :
    errs = [] ∨ ∃ (sels : Selections) (cs : List Conflict), errs = cs.map Conflict.toErr ∧ ∀ c ∈ cs, Sound s (univOf d sels) false c := by
  -- the step is silent, or one observer call (`overlappingFieldsStep_eq`)
  rw [overlappingFieldsStep_eq] at h
  split at h
  · injection h with _ h2
    exact Or.inl h2.symm
  · split at h
    · cases h
    · rename_i parent sels _ _ st' cs hr
      injection h with _ h2
      exact Or.inr ⟨sels, cs, h2.symm, C08_overlap_sound_partial s d e.links parent sels P st' cs hr⟩

/- the three kinds of leaf message differ in their first six bytes: `"…`, `they h…`, `they r…` -/
theorem msgDifferingArguments_prefix :
    msgDifferingArguments = [116, 104, 101, 121, 32, 104] ++ msgDifferingArguments.drop 6 := by
  rw [msgDifferingArguments, str_lit rfl]
  rfl

theorem msgConflictingTypes_prefix :
    msgConflictingTypes = [116, 104, 101, 121, 32, 114] ++ msgConflictingTypes.drop 6 := by
  rw [msgConflictingTypes, str_lit rfl]
  rfl

theorem str_they_r : str "they r" = [116, 104, 101, 121, 32, 114] := by
  rw [str_lit rfl]
  rfl

/-- A reported `"x" and "y" are different fields` (a leaf whose message starts with `"`): the
    document contains two field nodes with that response name and different field names, and
    neither they nor any enclosing pair were found to lie on two different Object types. -/
theorem C08_overlap_different_fields_sound (s : SV) (U : Univ) (pe : Bool) (rn msg : Bytes) (pos : Pos)
    (h : Sound s U pe (.mk rn msg [] pos)) (hq : msg.head? = some 34) :
    ∃ a b, Good U a ∧ Good U b ∧ responseName a.node = rn ∧ responseName b.node = rn ∧
      a.node.name ≠ b.node.name ∧ pe = false ∧ goExcl a b = false ∧ pos = b.node.pos ∧
      msg = dq a.node.name ++ andSep ++ dq b.node.name ++ msgDifferentFields := by
  cases h with
  | differentFields ha hb hrn hpe hex hne => exact ⟨_, _, ha, hb, rfl, hrn.symm, hne, hpe, hex, rfl, rfl⟩
  | differingArguments =>
    rw [msgDifferingArguments_prefix] at hq
    simp at hq
  | conflictingTypes =>
    rw [typesConflictMsg, msgConflictingTypes_prefix] at hq
    simp at hq

/-- A reported "they have differing arguments": two field nodes with that response name and the
    same field name whose argument lists are not identical (`ArgsSame`), not known to be exclusive. -/
theorem C08_overlap_differing_arguments_sound (s : SV) (U : Univ) (pe : Bool) (rn : Bytes) (pos : Pos)
    (h : Sound s U pe (.mk rn msgDifferingArguments [] pos)) :
    ∃ a b, Good U a ∧ Good U b ∧ responseName a.node = rn ∧ responseName b.node = rn ∧
      a.node.name = b.node.name ∧ pe = false ∧ goExcl a b = false ∧ pos = b.node.pos ∧
      ¬ ArgsSame a.node.args b.node.args := by
  generalize hm : msgDifferingArguments = msg at h
  rw [msgDifferingArguments_prefix] at hm
  cases h with
  | differentFields ha hb hrn hpe hex hne => simp [dq] at hm
  | differingArguments ha hb hrn hpe hex hn hargs => exact ⟨_, _, ha, hb, rfl, hrn.symm, hn, hpe, hex, rfl, hargs⟩
  | conflictingTypes =>
    rw [typesConflictMsg, msgConflictingTypes_prefix] at hm
    simp at hm

/-- A reported "they return conflicting types": both field definitions are known and
    `doTypesConflict` holds of the declared types that the message prints. -/
theorem C08_overlap_conflicting_types_sound (s : SV) (U : Univ) (pe : Bool) (rn msg : Bytes) (pos : Pos)
    (h : Sound s U pe (.mk rn msg [] pos)) (hq : msg.take 6 = str "they r") :
    ∃ a b da db, Good U a ∧ Good U b ∧ responseName a.node = rn ∧ responseName b.node = rn ∧
      a.dfn = some da ∧ b.dfn = some db ∧ doTypesConflict s da.type db.type = true ∧ pos = b.node.pos ∧
      msg = typesConflictMsg da.type db.type := by
  rw [str_they_r] at hq
  cases h with
  | differentFields => simp [dq] at hq
  | differingArguments =>
    rw [msgDifferingArguments_prefix] at hq
    simp at hq
  | conflictingTypes ha hb hrn hda hdb hc => exact ⟨_, _, _, _, ha, hb, rfl, hrn.symm, hda, hdb, hc, rfl, rfl⟩

/-- `sameArguments` decides `ArgsSame`, `sameValue` decides `ValSame` (order-insensitive for the
    fields of input objects and for arguments, ordered for list items; kinds and raw text equal). -/
theorem C08_overlap_sameArguments_spec (as bs : List Argument) : sameArguments as bs = true ↔ ArgsSame as bs :=
  sameArguments_iff as bs

theorem C08_overlap_sameValue_spec (v1 v2 : Value) : sameValue v1 v2 = true ↔ ValSame v1 v2 :=
  sameValue_iff v1 v2

/-- The "differing arguments" branch never fires on two argument lists with the same text
    (argument by argument, equal up to source positions) whose object literals have pairwise distinct
    field names (which UniqueInputFieldNames demands): identical fields are never reported. -/
theorem C08_overlap_identical_arguments_accepted (as bs : List Argument)
    (hu : ∀ a ∈ as, UniqueFields a.value)
    (he : as.map (fun a => (a.name, eraseV a.value)) = bs.map (fun b => (b.name, eraseV b.value))) :
    sameArguments as bs = true := by
  unfold sameArguments
  simp only [Bool.and_eq_true, beq_iff_eq, List.all_eq_true, List.any_eq_true]
  refine ⟨by simpa using congrArg List.length he, fun a ha => ?_⟩
  -- some argument of `bs` has the name and the text of `a`
  have hm : (a.name, eraseV a.value) ∈ bs.map (fun b => (b.name, eraseV b.value)) := he ▸ List.mem_map_of_mem ha
  obtain ⟨b, hb, e⟩ := List.mem_map.1 hm
  injection e with e1 e2
  exact ⟨b, hb, e1.symm, sameValue_of_erase_eq _ _ (hu a ha) e2.symm⟩

/-- non-vacuity, kernel-checked: `{ a: id a: u { id } }` is rejected with exactly this error … -/
example : validate [overlappingFieldsCanBeMerged] OverlapWitness.schema OverlapWitness.docDifferent =
    .ok [{ rule := str "OverlappingFieldsCanBeMerged",
           msg := str "Fields \"a\" conflict because \"id\" and \"u\" are different fields. Use different aliases on the fields to fetch both if this was intentional.",
           locs := [(1, 9)] }] := by
  rw [str_lit rfl, str_lit rfl]
  decide +kernel

/-- … and `{ u { a: id } u { a: x } }` with a nested conflict -/
example : validate [overlappingFieldsCanBeMerged] OverlapWitness.schema OverlapWitness.docNested =
    .ok [{ rule := str "OverlappingFieldsCanBeMerged",
           msg := str "Fields \"u\" conflict because subfields \"a\" conflict because \"id\" and \"x\" are different fields. Use different aliases on the fields to fetch both if this was intentional.",
           locs := [(1, 15)] }] := by
  rw [str_lit rfl, str_lit rfl]
  decide +kernel

#print axioms C08_overlap_sound_partial
#print axioms C08_overlap_identical_arguments_accepted
#print axioms C08_overlap_errors_sound
#print axioms C08_overlap_different_fields_sound
#print axioms C08_overlap_differing_arguments_sound
#print axioms C08_overlap_conflicting_types_sound
#print axioms C08_overlap_sameArguments_spec
#print axioms C08_overlap_sameValue_spec

/- SingleFieldSubscriptions (§5.2.3.1; the equivalence is `C08_SingleFieldSubscriptions` below): a fragment contributes root fields
   only if its type condition can apply to the subscription root type (`topApplies`).  Witnesses on
   a schema whose subscription root is `S` (`T` is not a type that can be `S`): -/
namespace SingleRootWitness
def schema : Schema := { Schema.empty with subscription := some (str "S") }
def fld (n : String) : Selection := .field [] (str n) [] [] .nil Pos.zero
/-- `subscription { ... on <tc> { a } b }` -/
def doc (tc : String) : QueryDoc :=
  { ops := [{ op := opSubscription, name := [], vars := [], dirs := [],
              sel := .cons (.inline (str tc) [] (.cons (fld "a") .nil) Pos.zero) (.cons (fld "b") .nil), pos := Pos.zero }],
    frags := [] }
end SingleRootWitness

/-- `subscription { ... on T { a } b }`: `a` sits below a type condition that cannot apply, one root field -/
example : validate [singleFieldSubscriptions] SingleRootWitness.schema (SingleRootWitness.doc "T") = .ok [] := by decide +kernel

/-- `subscription { ... on S { a } b }`: two root fields, one error -/
example : (match validate [singleFieldSubscriptions] SingleRootWitness.schema (SingleRootWitness.doc "S") with
    | .ok [_] => true
    | _ => false) = true := by decide +kernel

/-! ## UniqueInputFieldNames -/
section C08
open Gql Gql.Validate Gql.Validate.Rules

/-- §5.6.3 — UniqueInputFieldNames reports nothing iff the fields of every input object literal of
    the document have different names (documents whose values have the parser's shape: only list
    and object literals have children) -/
theorem C08_UniqueInputFieldNames (s : Schema) (d : QueryDoc) (hsh : valuesShaped s d = true) :
    validate [uniqueInputFieldNames] s d = .ok [] ↔ Spec.inputObjectFieldUniqueness s d = true :=
  validate_stateless_iff fun evs hw => uniqueInputFieldNames_iff s d evs hw hsh

/-- without the shape hypothesis: the specification predicate makes the rule silent -/
theorem C08_UniqueInputFieldNames_sound (s : Schema) (d : QueryDoc) (h : Spec.inputObjectFieldUniqueness s d = true) : validate [uniqueInputFieldNames] s d = .ok [] := by
  obtain ⟨evs, hw⟩ := walkDoc_isSome s.view d
  exact (validate_stateless_nil s d _ _ evs hw).2 (uniqueInputFieldNames_sound s d evs hw h)

/- The shape hypothesis.  `{ f(a: <v>) }` on the empty schema: -/
namespace InputFieldsWitness
def doc (v : Value) : QueryDoc :=
  { ops := [{ op := opQuery, name := [], vars := [], dirs := [],
              sel := .cons (.field [] (str "f") [⟨str "a", v, Pos.zero⟩] [] .nil Pos.zero) .nil, pos := Pos.zero }],
    frags := [] }
def int1 : Value := .mk .int (str "1") .nil Pos.zero
/-- `{x: 1, x: 1}` -/
def dupObj : Value := .mk .object [] (.cons (str "x") int1 Pos.zero (.cons (str "x") int1 Pos.zero .nil)) Pos.zero
/-- `[{x: 1, x: 1}]` -/
def dupInList : Value := .mk .list [] (.cons [] dupObj Pos.zero .nil) Pos.zero
/-- not a value the parser builds: an Int literal that has `{x: 1, x: 1}` as a child -/
def dupBelowInt : Value := .mk .int (str "1") (.cons [] dupObj Pos.zero .nil) Pos.zero
end InputFieldsWitness

open InputFieldsWitness in
/-- the shape hypothesis is satisfiable on documents with (nested, duplicate) object literals, and
    both sides of the equivalence reject there -/
example : valuesShaped Schema.empty (doc dupInList) = true ∧
    Spec.inputObjectFieldUniqueness Schema.empty (doc dupInList) = false ∧
    validate [uniqueInputFieldNames] Schema.empty (doc dupInList) ≠ .ok [] := by decide +kernel

open InputFieldsWitness in
/-- without it the equivalence fails: the walker (like the Go walker) does not descend below a
    value that is neither a list nor an object, the specification predicate does -/
example : valuesShaped Schema.empty (doc dupBelowInt) = false ∧
    validate [uniqueInputFieldNames] Schema.empty (doc dupBelowInt) = .ok [] ∧
    Spec.inputObjectFieldUniqueness Schema.empty (doc dupBelowInt) = false := by decide +kernel

#print axioms C08_UniqueInputFieldNames
#print axioms C08_UniqueInputFieldNames_sound

end C08

/-! ## KnownTypeNames, VariablesAreInputTypes, KnownRootType -/
section C08
open Gql Gql.Validate Gql.Validate.Rules

/-- §5.5.1.2 (and the existence of variable types) — KnownTypeNames reports nothing iff every type
    condition written in the document (fragment definitions; inline fragments that have one) and
    the named type of every variable definition is defined in the schema.  No hypothesis: an inline
    fragment without type condition is skipped by the rule and by `Spec.typeConditions` alike, and a
    fragment definition with the (unparseable) empty type condition is looked up by both. -/
theorem C08_KnownTypeNames (s : Schema) (d : QueryDoc) :
    validate [knownTypeNames] s d = .ok [] ↔
      (Spec.fragmentSpreadTypeExistence s d = true ∧ Spec.variableTypesExist s d = true) :=
  validate_stateless_iff (knownTypeNames_iff s d)

/-- the twin rule without suggestions is silent on exactly the same documents -/
theorem C08_KnownTypeNamesWithoutSuggestions (s : Schema) (d : QueryDoc) :
    validate [knownTypeNamesWithoutSuggestions] s d = .ok [] ↔
      (Spec.fragmentSpreadTypeExistence s d = true ∧ Spec.variableTypesExist s d = true) :=
  (validate_withoutSuggestions_nil _ _ s d).trans (C08_KnownTypeNames s d)

/-- what VariablesAreInputTypes really tests: every variable whose named type EXISTS has an input
    type (the rule is silent on a variable of an undefined type; KnownTypeNames reports that) -/
theorem C08_VariablesAreInputTypes_iff (s : Schema) (d : QueryDoc) :
    validate [variablesAreInputTypes] s d = .ok [] ↔
      (d.ops.all fun op => op.vars.all fun v =>
        match s.type? v.type.name with | some t => Spec.isInput t | none => true) = true :=
  validate_stateless_iff (variablesAreInputTypes_iff s d)

/-- §5.8.2, masked form — for documents whose variable types all exist, VariablesAreInputTypes
    reports nothing iff the specification predicate holds -/
theorem C08_VariablesAreInputTypes (s : Schema) (d : QueryDoc) (hex : Spec.variableTypesExist s d = true) :
    validate [variablesAreInputTypes] s d = .ok [] ↔ Spec.variablesAreInputTypes s d = true :=
  (C08_VariablesAreInputTypes_iff s d).trans (variablesAreInputTypes_masked s d hex)

/-- §5.5.1.2 ∧ §5.8.2, joint form without hypothesis: KnownTypeNames and VariablesAreInputTypes are
    both silent iff every type condition is defined and every variable has an (existing) input type -/
theorem C08_KnownTypeNames_VariablesAreInputTypes (s : Schema) (d : QueryDoc) :
    (validate [knownTypeNames] s d = .ok [] ∧ validate [variablesAreInputTypes] s d = .ok []) ↔
      (Spec.fragmentSpreadTypeExistence s d = true ∧ Spec.variablesAreInputTypes s d = true) := by
  rw [C08_KnownTypeNames]
  constructor
  · rintro ⟨⟨h1, h2⟩, h3⟩
    exact ⟨h1, (C08_VariablesAreInputTypes s d h2).1 h3⟩
  · rintro ⟨h1, h2⟩
    have hex := variablesAreInputTypes_exist s d h2
    exact ⟨⟨h1, hex⟩, (C08_VariablesAreInputTypes s d hex).2 h2⟩

/-- library rule — KnownRootType reports nothing (and does not panic) iff the schema defines the
    root type of the kind of every operation.  NO hypothesis on the operation kinds is needed: for a
    kind the parser never produces the rule panics (so the run is not `.ok []`) and
    `Spec.rootDef` is `none` (so the specification predicate is false). -/
theorem C08_KnownRootType (s : Schema) (d : QueryDoc) :
    validate [knownRootType] s d = .ok [] ↔ Spec.knownRootType s d = true :=
  validate_statelessP_iff (knownRootType_iff s d)

/-- the same statement under the parser-kinds hypothesis, which it does not need -/
theorem C08_KnownRootType_parserKinds (s : Schema) (d : QueryDoc) (_hk : ∀ op ∈ d.ops, op.op ∈ parserOpKinds) :
    validate [knownRootType] s d = .ok [] ↔ Spec.knownRootType s d = true :=
  C08_KnownRootType s d

/-- KnownRootType panics exactly when some operation has a kind the parser never produces; for
    parser-produced documents it never does -/
theorem C08_KnownRootType_panic_iff (s : Schema) (d : QueryDoc) :
    (∃ m, validate [knownRootType] s d = .panic m) ↔ ∃ op ∈ d.ops, op.op ∉ parserOpKinds :=
  knownRootType_panic_iff s d

namespace TypeRulesWitness
def at' (n : Nat) : Pos := { start := n, stop := n + 1, line := 1, col := n + 1 }
def tNamed (n : String) : GType := .named (str n) false Pos.zero
def scalar (n : String) : Definition :=
  { kind := .scalar, desc := [], name := str n, dirs := [], interfaces := [], fields := [], types := [],
    enumValues := [], pos := Pos.zero, builtIn := true }

def objectDef (n : String) : Definition :=
  { kind := .object, desc := [], name := str n, dirs := [], interfaces := [],
    fields := [{ desc := [], name := str "f", args := [], default := none, type := tNamed "Int", dirs := [], pos := Pos.zero }],
    types := [], enumValues := [], pos := Pos.zero, builtIn := false }

/-- `type Query { f: Int }` with the scalar `Int` -/
def schema : Schema :=
  { Schema.empty with
    query := some (str "Query"),
    types := [(str "Int", scalar "Int"), (str "Query", objectDef "Query")] }

def fld : Selection := .field [] (str "f") [] [] .nil (at' 30)

/-- `<kind> ($v: <ty>) { f }` -/
def docVar (kind ty : String) : QueryDoc :=
  { ops := [{ op := str kind, name := [],
              vars := [{ var := str "v", type := tNamed ty, default := none, dirs := [], pos := at' 7 }],
              dirs := [], sel := .cons fld .nil, pos := at' 0 }],
    frags := [] }

/-- `{ ... on <tc> { f } }` (`tc = ""`: `{ ... { f } }`) -/
def docInline (tc : String) : QueryDoc :=
  { ops := [{ op := str "query", name := [], vars := [], dirs := [],
              sel := .cons (.inline (str tc) [] (.cons fld .nil) (at' 2)) .nil, pos := at' 0 }],
    frags := [] }
end TypeRulesWitness
open TypeRulesWitness

/-- KnownTypeNames, both sides true: `query ($v: Int) { f }` … -/
example : validate [knownTypeNames] schema (docVar "query" "Int") = .ok [] ∧
    (Spec.fragmentSpreadTypeExistence schema (docVar "query" "Int") = true ∧
      Spec.variableTypesExist schema (docVar "query" "Int") = true) := by decide +kernel
/-- … and `{ ... { f } }`: an inline fragment without type condition is skipped by both sides -/
example : validate [knownTypeNames] schema (docInline "") = .ok [] ∧
    Spec.fragmentSpreadTypeExistence schema (docInline "") = true := by decide +kernel
/-- both sides false: `{ ... on Nope { f } }` (type condition) and `query ($v: Nope) { f }` (variable type) -/
example : validate [knownTypeNames] schema (docInline "Nope") ≠ .ok [] ∧
    Spec.fragmentSpreadTypeExistence schema (docInline "Nope") = false := by decide +kernel
example : validate [knownTypeNames] schema (docVar "query" "Nope") ≠ .ok [] ∧
    Spec.variableTypesExist schema (docVar "query" "Nope") = false := by decide +kernel

/-- the hypothesis `hex` of `C08_VariablesAreInputTypes` is NEEDED: on `query ($v: Nope) { f }` (a
    variable of an undefined type) the rule is silent and the specification predicate is false -/
example : validate [variablesAreInputTypes] schema (docVar "query" "Nope") = .ok [] ∧
    Spec.variablesAreInputTypes schema (docVar "query" "Nope") = false ∧
    Spec.variableTypesExist schema (docVar "query" "Nope") = false := by decide +kernel
/-- … and satisfiable: `query ($v: Int) { f }` (both sides true), `query ($v: Query) { f }` (both false) -/
example : Spec.variableTypesExist schema (docVar "query" "Int") = true ∧
    validate [variablesAreInputTypes] schema (docVar "query" "Int") = .ok [] ∧
    Spec.variablesAreInputTypes schema (docVar "query" "Int") = true := by decide +kernel
example : Spec.variableTypesExist schema (docVar "query" "Query") = true ∧
    validate [variablesAreInputTypes] schema (docVar "query" "Query") ≠ .ok [] ∧
    Spec.variablesAreInputTypes schema (docVar "query" "Query") = false := by decide +kernel

/-- KnownRootType: an operation of kind `foo` makes the run panic — and the specification predicate
    is false there, so `C08_KnownRootType` needs no hypothesis on the kinds -/
example : validate [knownRootType] schema (docVar "foo" "Int") = .panic (str "got unknown operation type \"foo\"") ∧
    Spec.knownRootType schema (docVar "foo" "Int") = false := by decide +kernel
/-- both sides true (`query`), both false without panic (`mutation`: the schema has no mutation type) -/
example : (∀ op ∈ (docVar "query" "Int").ops, op.op ∈ parserOpKinds) ∧
    validate [knownRootType] schema (docVar "query" "Int") = .ok [] ∧
    Spec.knownRootType schema (docVar "query" "Int") = true := by decide +kernel
example : (∀ op ∈ (docVar "mutation" "Int").ops, op.op ∈ parserOpKinds) ∧
    (match validate [knownRootType] schema (docVar "mutation" "Int") with | .ok [_] => true | _ => false) = true ∧
    Spec.knownRootType schema (docVar "mutation" "Int") = false := by decide +kernel

#print axioms C08_KnownTypeNames
#print axioms C08_KnownTypeNamesWithoutSuggestions
#print axioms C08_VariablesAreInputTypes_iff
#print axioms C08_VariablesAreInputTypes
#print axioms C08_KnownTypeNames_VariablesAreInputTypes
#print axioms C08_KnownRootType
#print axioms C08_KnownRootType_parserKinds
#print axioms C08_KnownRootType_panic_iff

end C08

/-! ## NoFragmentCycles -/
section C08
open Gql Gql.Validate Gql.Validate.Rules

/-- NoFragmentCycles (§5.5.2.2), masked form: for a document with unique fragment names
    (UniqueFragmentNames / §5.5.1.1) the rule reports nothing iff no fragment reaches itself through
    spreads.  The direction `Spec.noFragmentCycles d = true → silent` holds without the hypothesis
    (`noFragmentCycles_silent_of_spec`); unconditionally the rule is silent iff `Acyclic d`
    (`validate_noFragmentCycles`, decidable as `acyclicB`); `noFragmentCycles_needs_unique` is the
    counterexample without the hypothesis. -/
theorem C08_NoFragmentCycles (s : Schema) (d : QueryDoc) (hu : Spec.fragmentNameUniqueness d = true) :
    validate [noFragmentCycles] s d = .ok [] ↔ Spec.noFragmentCycles d = true :=
  noFragmentCycles_iff s d hu

#print axioms C08_NoFragmentCycles
#print axioms Gql.Validate.validate_noFragmentCycles
#print axioms Gql.Validate.noFragmentCycles_needs_unique
end C08

/-! ## PossibleFragmentSpreads -/
section C08
open Gql Gql.Validate Gql.Validate.Rules

/-- §5.5.2.3 — PossibleFragmentSpreads reports nothing iff every fragment spread (named or inline) with a
    determined composite parent type and composite fragment type can apply -/
theorem C08_PossibleFragmentSpreads (s : Schema) (d : QueryDoc) (hwp : Spec.wellParented s d = true)
    (hE : s.type? [] = none) (hok : possibleOK s = true) :
    validate [possibleFragmentSpreads] s d = .ok [] ↔ Spec.fragmentSpreadIsPossible s d = true :=
  validate_stateless_iff fun evs hw => possibleFragmentSpreads_iff s d evs hw hwp hE hok

#print axioms C08_PossibleFragmentSpreads

/-- every loaded schema satisfies the schema hypothesis (`C07_relations_exact`, `C07_closed_keys`) -/
theorem C08_PossibleFragmentSpreads_loaded (s : Schema) (d : QueryDoc) (hr : Gql.Spec.RelationsExact s)
    (hk : Gql.Spec.KeysConsistent s) (hwp : Spec.wellParented s d = true) (hE : s.type? [] = none) :
    validate [possibleFragmentSpreads] s d = .ok [] ↔ Spec.fragmentSpreadIsPossible s d = true :=
  C08_PossibleFragmentSpreads s d hwp hE (possibleOK_of_relationsExact s hr hk)

/- Witnesses: the hypotheses are satisfiable, the theorem is not vacuous on either side, and none of the
   three hypotheses can be dropped. -/
namespace PossibleSpreadsWitness

def mkDef (k : DefKind) (n : String) (ifaces : List String := []) (fields : List (String × String) := [])
    (members : List String := []) : Definition :=
  { kind := k, desc := [], name := str n, dirs := [], interfaces := ifaces.map str,
    fields := fields.map fun (f, ty) =>
      { desc := [], name := str f, args := [], default := none, type := .named (str ty) false Pos.zero, dirs := [],
        pos := Pos.zero },
    types := members.map str, enumValues := [], pos := Pos.zero, builtIn := false }

/-- `type Q { a: A  i: I }  type A implements I { x: Q }  type B { x: Q }  interface I { x: Q }  union U = A
    input In { f: A }` as the loader stores it -/
def schema : Schema :=
  { Schema.empty with
    query := some (str "Q"),
    types := [(str "Q", mkDef .object "Q" [] [("a", "A"), ("i", "I")]),
              (str "A", mkDef .object "A" ["I"] [("x", "Q")]),
              (str "B", mkDef .object "B" [] [("x", "Q")]),
              (str "I", mkDef .interface "I" [] [("x", "Q")]),
              (str "U", mkDef .union "U" [] [] ["A"]),
              (str "In", mkDef .inputObject "In" [] [("f", "A")])],
    possibleTypes := [(str "Q", [str "Q"]), (str "A", [str "A"]), (str "B", [str "B"]), (str "I", [str "A"]),
                      (str "U", [str "A"])] }

def fld (n : String) (sub : Selections := .nil) : Selection := .field (str n) (str n) [] [] sub Pos.zero
def one (x : Selection) : Selections := .cons x .nil
def queryDoc (sel : Selections) (frags : List FragmentDef := []) : QueryDoc :=
  { ops := [{ op := str "query", name := [], vars := [], dirs := [], sel := sel, pos := Pos.zero }], frags := frags }
def frag (n tc : String) (sel : Selections := .nil) : FragmentDef :=
  { name := str n, vars := [], typeCond := str tc, dirs := [], sel := sel, pos := Pos.zero }

/-- `{ i { ... on A { x } } }` -/
def docGood : QueryDoc := queryDoc (one (fld "i" (one (.inline (str "A") [] (one (fld "x")) Pos.zero))))
/-- `{ i { ... on B { x } ...FB } }  fragment FB on B { x }` -/
def docBad : QueryDoc :=
  queryDoc (one (fld "i" (.cons (.inline (str "B") [] (one (fld "x")) Pos.zero) (one (.spread (str "FB") [] Pos.zero)))))
    [frag "FB" "B" (one (fld "x"))]

/- (a) the hypotheses hold together, and both verdicts occur under them -/
example : possibleOK schema = true ∧ schema.type? [] = none ∧
    Spec.wellParented schema docGood = true ∧ Spec.wellParented schema docBad = true := by decide +kernel
example : validate [possibleFragmentSpreads] schema docGood = .ok [] ∧
    Spec.fragmentSpreadIsPossible schema docGood = true := by decide +kernel
example : (match validate [possibleFragmentSpreads] schema docBad with | .ok [_, _] => true | _ => false) = true ∧
    Spec.fragmentSpreadIsPossible schema docBad = false := by decide +kernel

/-- (b) `s.type? [] = none` is needed: a type stored under the empty name makes the rule judge an inline
    fragment WITHOUT type condition (`{ ... { } }`) against that type -/
def schemaEmptyName : Schema :=
  { schema with types := ([], mkDef .object "") :: schema.types, possibleTypes := ([], [[]]) :: schema.possibleTypes }
def docNoCond : QueryDoc := queryDoc (one (.inline [] [] .nil Pos.zero))
example : possibleOK schemaEmptyName = true ∧ Spec.wellParented schemaEmptyName docNoCond = true ∧
    (match validate [possibleFragmentSpreads] schemaEmptyName docNoCond with | .ok [_] => true | _ => false) = true ∧
    Spec.fragmentSpreadIsPossible schemaEmptyName docNoCond = true := by decide +kernel

/-- (c) `possibleOK` is needed: with an empty `PossibleTypes` relation the rule rejects `{ i { ... on A } }` -/
def schemaNoRel : Schema := { schema with possibleTypes := [] }
example : possibleOK schemaNoRel = false ∧ schemaNoRel.type? [] = none ∧
    Spec.wellParented schemaNoRel docGood = true ∧
    (match validate [possibleFragmentSpreads] schemaNoRel docGood with | .ok [_] => true | _ => false) = true ∧
    Spec.fragmentSpreadIsPossible schemaNoRel docGood = true := by decide +kernel

/-- (d) `Spec.wellParented` is needed: `{ a { x } }  fragment F on In { f { ...G } }  fragment G on B { x }` — the
    walker finds the input field `f: A` of the input object `In` and types its selection set `A`; for the
    specification an input object has no selectable fields and the parent of `...G` is undetermined -/
def docInput : QueryDoc :=
  queryDoc (one (fld "a" (one (fld "x"))))
    [frag "F" "In" (one (fld "f" (one (.spread (str "G") [] Pos.zero)))), frag "G" "B" (one (fld "x"))]
example : possibleOK schema = true ∧ Spec.wellParented schema docInput = false ∧
    (match validate [possibleFragmentSpreads] schema docInput with | .ok [_] => true | _ => false) = true ∧
    Spec.fragmentSpreadIsPossible schema docInput = true := by decide +kernel

end PossibleSpreadsWitness
end C08

/-! ## SingleFieldSubscriptions -/
section C08
open Gql Gql.Validate Gql.Validate.Rules

/-- §5.2.3.1, the rule in its own terms — SingleFieldSubscriptions reports nothing iff, for every
    subscription operation, the root fields collected by `CollectFields` (the specification's
    `Spec.collectRootFields`) have at most one response key and the FIRST field of every response
    key is not an introspection field. -/
theorem C08_SingleFieldSubscriptions_exact (s : Schema) (d : QueryDoc)
    (hschema : subscriptionRootExact s = true)
    (hdef : Spec.fragmentSpreadTargetDefined d = true)
    (htc : ∀ f ∈ d.frags, f.typeCond ≠ []) :
    validate [singleFieldSubscriptions] s d = .ok [] ↔
      ∀ op ∈ d.ops, op.op = Spec.kwSubscription → ∀ obj, Spec.rootDef s op.op = some obj →
        RuleRootOK (Spec.collectRootFields s d obj op.sel) :=
  validate_statelessP_iff fun evs hw =>
    singleFieldSubscriptions_exact s d evs hw hschema hdef htc

/-- §5.2.3.1, completeness — a document the specification accepts is not reported -/
theorem C08_SingleFieldSubscriptions_complete (s : Schema) (d : QueryDoc)
    (hschema : subscriptionRootExact s = true)
    (hdef : Spec.fragmentSpreadTargetDefined d = true)
    (htc : ∀ f ∈ d.frags, f.typeCond ≠ [])
    (h : Spec.singleRootField s d = true) :
    validate [singleFieldSubscriptions] s d = .ok [] := by
  obtain ⟨evs, hw⟩ := walkDoc_isSome s.view d
  exact (validate_statelessP_nil s d _ _ evs hw).2
    (singleFieldSubscriptions_of_spec s d evs hw hschema hdef htc h)

/-- §5.2.3.1 — SingleFieldSubscriptions reports nothing iff the specification predicate holds, for
    a schema whose subscription root is exact (`subscriptionRootExact`), a document whose spreads
    are defined and whose fragment definitions have a type condition, in which every subscription
    selects at least one root field and equal response keys mean equal field names -/
theorem C08_SingleFieldSubscriptions (s : Schema) (d : QueryDoc)
    (hschema : subscriptionRootExact s = true)
    (hdef : Spec.fragmentSpreadTargetDefined d = true)
    (htc : ∀ f ∈ d.frags, f.typeCond ≠ [])
    (hne : subscriptionsSelectRoot s d = true)
    (hcons : rootKeysConsistent s d = true) :
    validate [singleFieldSubscriptions] s d = .ok [] ↔ Spec.singleRootField s d = true :=
  validate_statelessP_iff fun evs hw =>
    singleFieldSubscriptions_iff s d evs hw hschema hdef htc hne hcons

/-- the same for a schema with the loader's invariants (`C07_loaded_closed`, `C07_relations_exact`)
    whose root operation types are object types (`Spec.rootTypesAreObjects`: an invariant of `load` since the
    repair of the root kinds, `C07_root_types_are_objects`) -/
theorem C08_SingleFieldSubscriptions_loaded (s : Schema) (d : QueryDoc)
    (hc : Gql.Spec.Closed s) (hr : Gql.Spec.RelationsExact s) (hroots : Gql.Spec.rootTypesAreObjects s = true)
    (hdef : Spec.fragmentSpreadTargetDefined d = true)
    (htc : ∀ f ∈ d.frags, f.typeCond ≠ [])
    (hne : subscriptionsSelectRoot s d = true)
    (hcons : rootKeysConsistent s d = true) :
    validate [singleFieldSubscriptions] s d = .ok [] ↔ Spec.singleRootField s d = true :=
  C08_SingleFieldSubscriptions s d (subscriptionRootExact_of_closed s hc hr hroots) hdef htc hne hcons

#print axioms C08_SingleFieldSubscriptions_exact
#print axioms C08_SingleFieldSubscriptions_complete
#print axioms C08_SingleFieldSubscriptions
#print axioms C08_SingleFieldSubscriptions_loaded

end C08

/-! ## MaxIntrospectionDepth -/
section C08
open Gql Gql.Validate Gql.Validate.Rules

/-- MaxIntrospectionDepth (library-specific limit; `rules/max_introspection_depth.go`): on a
    document whose fragment spreads form no cycle (§5.5.2.2, masked form) the rule reports nothing —
    and does not panic — iff below no field named `__schema` / `__type` a path through
    sub-selections, inline fragments and fragment spreads passes 3 list fields. -/
theorem C08_MaxIntrospectionDepth (s : Schema) (d : QueryDoc) (hc : Spec.noFragmentCycles d = true) :
    validate [maxIntrospectionDepth] s d = .ok [] ↔ Spec.maxIntrospectionDepth d = true :=
  validate_statelessP_iff fun evs hw => maxIntrospectionDepth_iff s d evs hw hc

/-- Without any hypothesis on the document: if the specification predicate holds, the rule reports
    nothing (every reported error is a real violation).  The converse needs `Spec.noFragmentCycles`
    (`IntrospectionWitness.docCyc_counterexample`). -/
theorem C08_MaxIntrospectionDepth_sound (s : Schema) (d : QueryDoc) (h : Spec.maxIntrospectionDepth d = true) :
    validate [maxIntrospectionDepth] s d = .ok [] := by
  obtain ⟨evs, hw⟩ := walkDoc_isSome s.view d
  exact (validate_statelessP_nil s d _ _ evs hw).2 (maxIntrospectionDepth_of_spec s d evs hw h)

#print axioms C08_MaxIntrospectionDepth
#print axioms C08_MaxIntrospectionDepth_sound
#print axioms Gql.Validate.IntrospectionWitness.docCyc_counterexample

end C08

/-! ## NoUnusedFragments, NoUndefinedVariables, NoUnusedVariables (per-operation scope of the walk) -/
section C08
open Gql Gql.Validate Gql.Validate.Rules

/-- §5.5.1.4, masked form — on a document without fragment cycles (§5.5.2.2) and with pairwise
    different fragment names (§5.5.1.1) NoUnusedFragments reports nothing iff every fragment
    definition is the target of a spread.  (The rule asks for more than the specification text:
    reachability from an OPERATION — and, "first fragment quirk", it also counts what the
    stand-alone walk of the first fragment definition meets; on acyclic documents with unique names
    the three notions coincide: `used_reachable`.) -/
theorem C08_NoUnusedFragments (s : Schema) (d : QueryDoc) (hc : Spec.noFragmentCycles d = true)
    (hu : Spec.fragmentNameUniqueness d = true) :
    validate [noUnusedFragments] s d = .ok [] ↔ Spec.fragmentsMustBeUsed d = true :=
  noUnusedFragments_iff s d hc hu

/-- one direction without hypothesis: a document NoUnusedFragments accepts satisfies §5.5.1.4 -/
theorem C08_NoUnusedFragments_complete (s : Schema) (d : QueryDoc)
    (h : validate [noUnusedFragments] s d = .ok []) : Spec.fragmentsMustBeUsed d = true :=
  noUnusedFragments_spec_of_silent s d h

/-- the rule in its own terms, both directions without hypothesis on the document: reachability
    from an operation suffices, and a silent rule means reachability from an operation or from the
    first fragment definition -/
theorem C08_NoUnusedFragments_reach (s : Schema) (d : QueryDoc) :
    ((∀ f ∈ d.frags, ∃ op ∈ d.ops, Reach d (Spec.spreadsOfSels op.sel) f.name) →
      validate [noUnusedFragments] s d = .ok []) ∧
    (validate [noUnusedFragments] s d = .ok [] →
      ∀ f ∈ d.frags, (∃ op ∈ d.ops, Reach d (Spec.spreadsOfSels op.sel) f.name) ∨
        (∃ f1, d.frags.head? = some f1 ∧ Reach d (Spec.spreadsOfSels f1.sel) f.name)) :=
  ⟨noUnusedFragments_complete s d, noUnusedFragments_sound s d⟩

/-- §5.8.3 — NoUndefinedVariables reports nothing iff every variable used in the scope of an
    operation (the operation and the fragment definitions it references transitively, the
    directives of the definitions included) is defined by it; for documents with pairwise different
    fragment names whose default values are constant (what the grammar allows) -/
theorem C08_NoUndefinedVariables (s : Schema) (d : QueryDoc) (hu : Spec.fragmentNameUniqueness d = true)
    (hcd : constDefaults d = true) :
    validate [noUndefinedVariables] s d = .ok [] ↔ Spec.allVariableUsesDefined s d = true :=
  validate_stateless_iff fun evs hw => noUndefinedVariables_iff s d evs hw hu hcd

/-- §5.8.4 — NoUnusedVariables reports nothing iff every variable of an operation is used in its
    scope; additionally the variable names of each operation are pairwise different (§5.8.1: the
    walker marks the FIRST definition of a name as used) -/
theorem C08_NoUnusedVariables (s : Schema) (d : QueryDoc) (hu : Spec.fragmentNameUniqueness d = true)
    (hcd : constDefaults d = true) (hv : Spec.variableUniqueness d = true) :
    validate [noUnusedVariables] s d = .ok [] ↔ Spec.allVariablesUsed s d = true :=
  validate_stateless_iff fun evs hw => noUnusedVariables_iff s d evs hw hu hcd hv

namespace ScopeWitness
def at' (n : Nat) : Pos := { start := n, stop := n + 1, line := 1, col := n + 1 }
def fld (n : String) (args : List Argument := []) (p : Nat := 0) : Selection := .field [] (str n) args [] .nil (at' p)
def frag (n : String) (sel : Selections) (p : Nat) : FragmentDef :=
  { name := str n, vars := [], typeCond := str "Q", dirs := [], sel := sel, pos := at' p }
def query (vars : List VarDef) (sel : Selections) : OperationDef :=
  { op := str "query", name := [], vars := vars, dirs := [], sel := sel, pos := at' 0 }
def var (n : String) (p : Nat) (dflt : Option Value := none) : VarDef :=
  { var := str n, type := .named (str "Int") false Pos.zero, default := dflt, dirs := [], pos := at' p }
def useVar (n : String) (p : Nat) : List Argument :=
  [{ name := str "x", value := .mk .variable (str n) .nil (at' p), pos := at' (p - 1) }]

/-- `{ ...A } fragment A on Q { ...B } fragment B on Q { y }` -/
def docChain : QueryDoc :=
  { ops := [query [] (.cons (.spread (str "A") [] (at' 2)) .nil)],
    frags := [frag "A" (.cons (.spread (str "B") [] (at' 30)) .nil) 10, frag "B" (.cons (fld "y" [] 50) .nil) 40] }
/-- `{ ...C } fragment C on Q { y } fragment A on Q { ...B } fragment B on Q { ...A }`: a cycle nobody reaches -/
def docCycle : QueryDoc :=
  { ops := [query [] (.cons (.spread (str "C") [] (at' 2)) .nil)],
    frags := [frag "C" (.cons (fld "y" [] 15) .nil) 10,
              frag "A" (.cons (.spread (str "B") [] (at' 30)) .nil) 20, frag "B" (.cons (.spread (str "A") [] (at' 60)) .nil) 40] }
/-- `{ ...A } fragment A on Q { x } fragment A on Q { ...B } fragment B on Q { y }`: `B` is spread
    only by the second (shadowed) definition of `A` -/
def docShadow : QueryDoc :=
  { ops := [query [] (.cons (.spread (str "A") [] (at' 2)) .nil)],
    frags := [frag "A" (.cons (fld "x" [] 20) .nil) 10, frag "A" (.cons (.spread (str "B") [] (at' 50)) .nil) 40,
              frag "B" (.cons (fld "y" [] 80) .nil) 70] }

/-- `query($a: Int) { f(x: $a) }` -/
def docVarOk : QueryDoc := { ops := [query [var "a" 6] (.cons (fld "f" (useVar "a" 20) 15) .nil)], frags := [] }
/-- `query($a: Int) { f(x: $b) }` -/
def docVarUndef : QueryDoc := { ops := [query [var "a" 6] (.cons (fld "f" (useVar "b" 20) 15) .nil)], frags := [] }
/-- `query($a: Int = $b) { f(x: $a) }` (not grammatical: a default value is constant) -/
def docVarDefault : QueryDoc :=
  { ops := [query [var "a" 6 (some (.mk .variable (str "b") .nil (at' 12)))] (.cons (fld "f" (useVar "a" 20) 15) .nil)], frags := [] }
/-- `query($a: Int, $a: Int) { f(x: $a) }` -/
def docVarTwice : QueryDoc := { ops := [query [var "a" 6, var "a" 12] (.cons (fld "f" (useVar "a" 25) 20) .nil)], frags := [] }
end ScopeWitness
open ScopeWitness

/-- the hypotheses of `C08_NoUnusedFragments` are satisfiable (both sides true) … -/
example : Spec.noFragmentCycles docChain = true ∧ Spec.fragmentNameUniqueness docChain = true ∧
    validate [noUnusedFragments] Schema.empty docChain = .ok [] ∧ Spec.fragmentsMustBeUsed docChain = true := by
  decide +kernel
/-- … `hc` is needed: an unreachable cycle uses its members (specification) but no operation does (rule) … -/
example : Spec.noFragmentCycles docCycle = false ∧ Spec.fragmentNameUniqueness docCycle = true ∧
    validate [noUnusedFragments] Schema.empty docCycle ≠ .ok [] ∧ Spec.fragmentsMustBeUsed docCycle = true := by
  decide +kernel
/-- … and `hu` is needed: a spread written in a shadowed definition counts for the specification only -/
example : Spec.noFragmentCycles docShadow = true ∧ Spec.fragmentNameUniqueness docShadow = false ∧
    validate [noUnusedFragments] Schema.empty docShadow ≠ .ok [] ∧ Spec.fragmentsMustBeUsed docShadow = true := by
  decide +kernel

/-- the hypotheses of `C08_NoUndefinedVariables` / `C08_NoUnusedVariables` are satisfiable, both sides true … -/
example : Spec.fragmentNameUniqueness docVarOk = true ∧ constDefaults docVarOk = true ∧ Spec.variableUniqueness docVarOk = true ∧
    validate [noUndefinedVariables] Schema.empty docVarOk = .ok [] ∧ Spec.allVariableUsesDefined Schema.empty docVarOk = true ∧
    validate [noUnusedVariables] Schema.empty docVarOk = .ok [] ∧ Spec.allVariablesUsed Schema.empty docVarOk = true := by
  decide +kernel
/-- … both sides false … -/
example : Spec.fragmentNameUniqueness docVarUndef = true ∧ constDefaults docVarUndef = true ∧ Spec.variableUniqueness docVarUndef = true ∧
    validate [noUndefinedVariables] Schema.empty docVarUndef ≠ .ok [] ∧ Spec.allVariableUsesDefined Schema.empty docVarUndef = false ∧
    validate [noUnusedVariables] Schema.empty docVarUndef ≠ .ok [] ∧ Spec.allVariablesUsed Schema.empty docVarUndef = false := by
  decide +kernel
/-- … `hcd` is needed: a variable inside a default value is a use for the walker, not for the specification … -/
example : constDefaults docVarDefault = false ∧
    validate [noUndefinedVariables] Schema.empty docVarDefault ≠ .ok [] ∧
    Spec.allVariableUsesDefined Schema.empty docVarDefault = true := by
  decide +kernel
/-- … and `hv` is needed for NoUnusedVariables: the second definition of a name is never marked used -/
example : Spec.variableUniqueness docVarTwice = false ∧ constDefaults docVarTwice = true ∧
    validate [noUnusedVariables] Schema.empty docVarTwice ≠ .ok [] ∧ Spec.allVariablesUsed Schema.empty docVarTwice = true := by
  decide +kernel

#print axioms C08_NoUnusedFragments
#print axioms C08_NoUnusedFragments_complete
#print axioms C08_NoUnusedFragments_reach
#print axioms C08_NoUndefinedVariables
#print axioms C08_NoUnusedVariables
end C08

/-! ## VariablesInAllowedPosition -/
section C08
open Gql Gql.Validate Gql.Validate.Rules VarPositionWitness

/-- §5.8.5, rule-exact — VariablesInAllowedPosition reports nothing iff every variable usage in the
    scope of every operation is allowed WHEN THE DEFAULT VALUE OF THE LOCATION IS IGNORED
    (`hasLocationDefaultValue = false`; the rule never reads it: recorded finding) -/
theorem C08_VariablesInAllowedPosition_iff (s : Schema) (d : QueryDoc)
    (hwp : Spec.wellParented s d = true) (hu : Spec.fragmentNameUniqueness d = true)
    (hcd : constDefaults d = true) (hs : inputPositionsPlain s = true) (hn : variableTypesNamed d = true) :
    validate [variablesInAllowedPosition] s d = .ok [] ↔
      (d.ops.all fun op => (Spec.scopeUses s d op).all fun u =>
        match Spec.varDefByName op u.name, u.loc with
        | some v, some lt => Spec.isVariableUsageAllowed v lt false
        | _, _ => true) = true :=
  validate_stateless_iff fun evs hw => variablesInAllowedPosition_iff s d evs hw hwp hu hcd hs hn

/-- §5.8.5 — under the same hypotheses, when no variable usage in scope sits at a location with a
    default value, VariablesInAllowedPosition reports nothing iff the specification predicate holds -/
theorem C08_VariablesInAllowedPosition (s : Schema) (d : QueryDoc)
    (hwp : Spec.wellParented s d = true) (hu : Spec.fragmentNameUniqueness d = true)
    (hcd : constDefaults d = true) (hs : inputPositionsPlain s = true) (hn : variableTypesNamed d = true)
    (hld : (d.ops.all fun op => (Spec.scopeUses s d op).all fun u => !u.locDefault) = true) :
    validate [variablesInAllowedPosition] s d = .ok [] ↔ Spec.allVariableUsagesAllowed s d = true :=
  (C08_VariablesInAllowedPosition_iff s d hwp hu hcd hs hn).trans (ignoring_iff_allVariableUsagesAllowed s d hld)

/-- §5.8.5 — the same under the weakest form of the extra hypothesis: every usage at a location
    with a default value is allowed without the help of that default -/
theorem C08_VariablesInAllowedPosition_harmless (s : Schema) (d : QueryDoc)
    (hwp : Spec.wellParented s d = true) (hu : Spec.fragmentNameUniqueness d = true)
    (hcd : constDefaults d = true) (hs : inputPositionsPlain s = true) (hn : variableTypesNamed d = true)
    (hld : defaultedLocationsHarmless s d = true) :
    validate [variablesInAllowedPosition] s d = .ok [] ↔ Spec.allVariableUsagesAllowed s d = true :=
  (C08_VariablesInAllowedPosition_iff s d hwp hu hcd hs hn).trans (ignoring_iff_allVariableUsagesAllowed' s d hld)

/-- §5.8.5, the direction that needs no hypothesis on location defaults: a document the rule
    accepts satisfies the specification predicate (what the specification rejects, the rule reports) -/
theorem C08_VariablesInAllowedPosition_complete (s : Schema) (d : QueryDoc)
    (hwp : Spec.wellParented s d = true) (hu : Spec.fragmentNameUniqueness d = true)
    (hcd : constDefaults d = true) (hs : inputPositionsPlain s = true) (hn : variableTypesNamed d = true)
    (h : validate [variablesInAllowedPosition] s d = .ok []) : Spec.allVariableUsagesAllowed s d = true := by
  obtain ⟨evs, hw⟩ := walkDoc_isSome s.view d
  exact allVariableUsagesAllowed_of_ignoring s d
    (usagesAllowedIgnoring_of_silent s d evs hw hwp hu hs hn ((validate_stateless_nil s d _ _ evs hw).1 h))

/-- the recorded finding as a theorem: `type Q { f(r: Int! = 5): Int }`, `query($v: Int) { f(r: $v) }` —
    every hypothesis of `C08_VariablesInAllowedPosition_iff` holds, the specification allows the
    usage (the location has a default value), the rule reports it -/
theorem C08_VariablesInAllowedPosition_counterexample_location_default :
    Spec.wellParented schemaLocDefault docNullable = true ∧ Spec.fragmentNameUniqueness docNullable = true ∧
    constDefaults docNullable = true ∧ inputPositionsPlain schemaLocDefault = true ∧
    variableTypesNamed docNullable = true ∧
    Spec.allVariableUsagesAllowed schemaLocDefault docNullable = true ∧
    validate [variablesInAllowedPosition] schemaLocDefault docNullable ≠ .ok [] ∧
    noUsageAtDefaultedLocation schemaLocDefault docNullable = false := by
  decide +kernel

/-- non-vacuity: all hypotheses of `C08_VariablesInAllowedPosition` hold together, both sides true
    (`query($v: Int) { f(r: $v) }` against `f(r: Int): Int`) … -/
example : Spec.wellParented schemaPlain docNullable = true ∧ Spec.fragmentNameUniqueness docNullable = true ∧
    constDefaults docNullable = true ∧ inputPositionsPlain schemaPlain = true ∧ variableTypesNamed docNullable = true ∧
    noUsageAtDefaultedLocation schemaPlain docNullable = true ∧
    validate [variablesInAllowedPosition] schemaPlain docNullable = .ok [] ∧
    Spec.allVariableUsagesAllowed schemaPlain docNullable = true := by decide +kernel

/-- … and both sides false (`query($v: Int!) { f(r: $v) }` against `f(r: [Int]): Int`) -/
example : Spec.wellParented schemaListArg docNonNull = true ∧ inputPositionsPlain schemaListArg = true ∧
    noUsageAtDefaultedLocation schemaListArg docNonNull = true ∧
    validate [variablesInAllowedPosition] schemaListArg docNonNull ≠ .ok [] ∧
    Spec.allVariableUsagesAllowed schemaListArg docNonNull = false := by decide +kernel

/-- with a non-null variable the location default does not matter: both sides accept
    (`defaultedLocationsHarmless` holds although `noUsageAtDefaultedLocation` does not) -/
example : defaultedLocationsHarmless schemaLocDefault docNonNull = true ∧
    noUsageAtDefaultedLocation schemaLocDefault docNonNull = false ∧ validate [variablesInAllowedPosition] schemaLocDefault docNonNull = .ok [] ∧
    Spec.allVariableUsagesAllowed schemaLocDefault docNonNull = true := by decide +kernel

/-- `inputPositionsPlain_of_closed` is not vacuous: the schema of the finding is closed and its scalars carry no fields -/
example : Gql.Spec.Closed schemaLocDefault ∧
    (∀ p ∈ schemaLocDefault.types, p.2.kind = .scalar ∨ p.2.kind = .enum → p.2.fields = []) := by
  refine ⟨⟨by decide, by decide, by decide, by decide, by decide, by decide, by decide, ⟨?_, ?_, ?_⟩,
    by decide, by decide⟩, by decide⟩
  · intro n h
    cases h
    decide
  · intro n h
    cases h
  · intro n h
    cases h

/-- `inputPositionsPlain` is needed: with an OBJECT type as argument type the walker types the
    fields of the literal from `Definition.Fields`, the specification gives them no location type —
    the rule reports `{x: $v}`, the predicate holds; all other hypotheses hold -/
example : inputPositionsPlain schemaObjectArg = false ∧
    Spec.wellParented schemaObjectArg docObjectArg = true ∧ Spec.fragmentNameUniqueness docObjectArg = true ∧
    constDefaults docObjectArg = true ∧ variableTypesNamed docObjectArg = true ∧
    validate [variablesInAllowedPosition] schemaObjectArg docObjectArg ≠ .ok [] ∧
    usagesAllowedIgnoringLocationDefault schemaObjectArg docObjectArg = true := by decide +kernel

/-- `variableTypesNamed` is needed: a variable of the named type with the empty name passes
    `IsCompatible` at a list location — the rule is silent, the predicate fails -/
example : variableTypesNamed docEmptyTypeName = false ∧
    Spec.wellParented schemaListArg docEmptyTypeName = true ∧ Spec.fragmentNameUniqueness docEmptyTypeName = true ∧
    constDefaults docEmptyTypeName = true ∧ inputPositionsPlain schemaListArg = true ∧
    validate [variablesInAllowedPosition] schemaListArg docEmptyTypeName = .ok [] ∧
    usagesAllowedIgnoringLocationDefault schemaListArg docEmptyTypeName = false := by decide +kernel

/-- `constDefaults` is needed: the walker judges a variable written inside a default value, the
    specification does not look there -/
example : constDefaults docVarInDefault = false ∧
    Spec.wellParented schemaPlain docVarInDefault = true ∧ Spec.fragmentNameUniqueness docVarInDefault = true ∧
    inputPositionsPlain schemaPlain = true ∧ variableTypesNamed docVarInDefault = true ∧
    validate [variablesInAllowedPosition] schemaPlain docVarInDefault ≠ .ok [] ∧
    usagesAllowedIgnoringLocationDefault schemaPlain docVarInDefault = true := by decide +kernel

/-- `Spec.fragmentNameUniqueness` is needed: of two definitions of the same name (here at the same
    position) the walker follows the first, `Spec.opFragments` takes both -/
example : Spec.fragmentNameUniqueness docTwoFragments = false ∧
    Spec.wellParented schemaPlain docTwoFragments = true ∧ constDefaults docTwoFragments = true ∧
    inputPositionsPlain schemaPlain = true ∧ variableTypesNamed docTwoFragments = true ∧
    validate [variablesInAllowedPosition] schemaPlain docTwoFragments = .ok [] ∧
    usagesAllowedIgnoringLocationDefault schemaPlain docTwoFragments = false := by decide +kernel

/-- `Spec.wellParented` is needed: on an input object used as a parent type the walker finds the
    "field" and its argument definitions, the specification no field definition -/
example : Spec.wellParented schemaInputParent docInputParent = false ∧
    Spec.fragmentNameUniqueness docInputParent = true ∧ constDefaults docInputParent = true ∧
    inputPositionsPlain schemaInputParent = true ∧ variableTypesNamed docInputParent = true ∧
    validate [variablesInAllowedPosition] schemaInputParent docInputParent ≠ .ok [] ∧
    usagesAllowedIgnoringLocationDefault schemaInputParent docInputParent = true := by decide +kernel

#print axioms C08_VariablesInAllowedPosition_iff
#print axioms C08_VariablesInAllowedPosition
#print axioms C08_VariablesInAllowedPosition_harmless
#print axioms C08_VariablesInAllowedPosition_complete
#print axioms C08_VariablesInAllowedPosition_counterexample_location_default

end C08

/-! ## ValuesOfCorrectType -/

/-
  ValuesOfCorrectType (§5.6.1, with §5.6.2 field names, §5.6.4 required fields, `@oneOf`): the final statements and their hypotheses.

  The specification entry (`Spec.specValid`) compares the rule with
      Spec.valuesOfCorrectType s d && Spec.oneOfVariablesNonNull s d .

  The theorems (stated below; proved from the files `ValSpec/ValuesCorrect*.lean`):
    * `C08_ValuesOfCorrectType`           the equivalence, `@oneOf` included;
    * `C08_ValuesOfCorrectType_loaded`    the same with the schema hypotheses of a loaded schema (`Gql.Spec.Closed`, `HasBuiltins`);
    * `C08_ValuesOfCorrectType_partial`   the equivalence for schemas WITHOUT `@oneOf` (`noOneOf s`), with fewer hypotheses;
    * `C08_ValuesOfCorrectType_closed`    the latter with the schema / root hypotheses replaced by clauses of
                                          `Gql.Spec.Closed` and the check's mask `Spec.variablesAreInputTypes`;
    * `C08_ValuesOfCorrectType_complete`  with `@oneOf`: a silent rule implies both specification predicates
                                          (no hypothesis on positions, default values, `Value.Value(nil)`);
    * (in `ValuesCorrect.lean`) `valuesOfCorrectType_iff_oneOfVar`: the link-table form of the `@oneOf` clause.
  The statement WITHOUT hypotheses is false; every hypothesis below has a kernel-checked counterexample
  (`ValuesCorrectEx.lean`, `ValuesCorrectOneOfEx.lean`).

  Hypotheses (all decidable Booleans / decidable propositions):
    `Spec.wellParented s d`   the walker's parent / field definitions are the declarative ones (`walk_parent_type`);
    `schemaOK s`              a definition named like a built-in scalar is a scalar; scalars declare no fields; the
                              fields of input objects have types that resolve to input types
                              (`schemaOK_of_closed`: from `Gql.Spec.Closed`, `HasBuiltins`, "scalars declare no fields");
    `rootsInput s d`          the declared type of every typed value position resolves to an input type
                              (`rootsInput_of_closed`: from `ClosedArgTypes`, `ClosedDirectiveArgTypes`, `variablesAreInputTypes`);
    `numLiteralsOK s d`       for the Int / Float literals at typed positions, `strconv` and the specification's
                              arithmetic agree on the text (`numLeafOK`).  It is a theorem for every IntValue lexeme, of any
                              size (`numLeafOK_int_of_lexeme` in `FloatAgree.lean`: from `int_lexeme_agree`, `ValuesCorrectHyps.lean`, for
                              `ParseInt(·,10,32)` / `int32Ok`, and `int_lexeme_float_agree` for `ParseFloat` / `floatLitFinite`);
                              and for every FloatValue lexeme (`float_lexeme_agree`, `numLeafOK_float_of_lexeme` in
                              `FloatAgree.lean`: on every text `-? Digit+ (. Digit*)? ([eE] [+-]? Digit+)?` the model of `ParseFloat`
                              and `floatLitFinite` agree); `numLiteralsOK_of_lexemes` reduces it to these two per literal;
    `leavesWellFormed s d`    `Value.Value(nil)` fails on no value of the document (Int / Float / Boolean leaves are
                              well-formed texts; true of parser output);
  and, only when the schema has `@oneOf` input objects:
    `Spec.fragmentNameUniqueness d`  (a prerequisite predicate: the walker and `Spec.opFragments` agree on "the fragment F");
    `constDefaults d`         default values are constants (the grammar's `Value[Const]`);
    `usePosDistinct s d`      node identity by position: two variable usages that start at the same offset have the same
                              name and the same `@oneOf` mark (the link side table is keyed by `pos.start`; the stand-alone
                              walk of a fragment definition reads what the last operation left there).
-/
section C08
open Gql Gql.Validate Gql.Validate.Rules

/-- §5.6.1 — schemas without `@oneOf`: ValuesOfCorrectType reports nothing iff every literal at a
    position with a declared type is coercible to it (and the `@oneOf` clause, which is vacuous here) -/
theorem C08_ValuesOfCorrectType_partial (s : Schema) (d : QueryDoc)
    (hwp : Spec.wellParented s d = true) (hschema : schemaOK s = true) (hno : noOneOf s = true)
    (hroots : rootsInput s d = true) (hnum : numLiteralsOK s d = true) (hwf : leavesWellFormed s d = true) :
    validate [valuesOfCorrectType] s d = .ok [] ↔
      (Spec.valuesOfCorrectType s d && Spec.oneOfVariablesNonNull s d) = true := by
  rw [oneOfVariablesNonNull_of_noOneOf s d hno, Bool.and_true]
  exact validate_stateless_iff fun evs hw => valuesOfCorrectType_iff s d evs hw hwp hschema hroots hnum hwf hno

/-- the same, with the hypotheses on the schema and on the declared types taken from `Gql.Spec.Closed`
    (which loaded schemas satisfy, `C07`) and from the check's mask `Spec.variablesAreInputTypes` -/
theorem C08_ValuesOfCorrectType_closed (s : Schema) (d : QueryDoc)
    (hwp : Spec.wellParented s d = true) (hschema : schemaOK s = true) (hno : noOneOf s = true)
    (hargs : Gql.Spec.ClosedArgTypes s) (hdargs : Gql.Spec.ClosedDirectiveArgTypes s)
    (hvars : Spec.variablesAreInputTypes s d = true)
    (hnum : numLiteralsOK s d = true) (hwf : leavesWellFormed s d = true) :
    validate [valuesOfCorrectType] s d = .ok [] ↔
      (Spec.valuesOfCorrectType s d && Spec.oneOfVariablesNonNull s d) = true :=
  C08_ValuesOfCorrectType_partial s d hwp hschema hno (rootsInput_of_closed s d hargs hdargs hvars) hnum hwf

/-- WITH `@oneOf`: the rule is complete — if it reports nothing then both specification predicates hold
    (documents with distinct fragment names) -/
theorem C08_ValuesOfCorrectType_complete (s : Schema) (d : QueryDoc)
    (hwp : Spec.wellParented s d = true) (hfu : Spec.fragmentNameUniqueness d = true) (hschema : schemaOK s = true)
    (hroots : rootsInput s d = true) (hnum : numLiteralsOK s d = true)
    (h : validate [valuesOfCorrectType] s d = .ok []) :
    (Spec.valuesOfCorrectType s d && Spec.oneOfVariablesNonNull s d) = true := by
  obtain ⟨evs, hw⟩ := walkDoc_isSome s.view d
  replace h := (validate_stateless_nil s d _ _ evs hw).1 h
  rw [Bool.and_eq_true]
  refine ⟨?_, oneOfVariablesNonNull_of_silent s d evs hw h hwp hfu⟩
  refine (run_pure_iff s d evs hw hwp hschema hroots hnum).1 (fun e he w exp dfn hp => ?_)
  have := (step_nil_iff s.view d e w exp dfn hp).1 (h e he)
  simp only [stepOK, Bool.and_eq_true] at this
  exact this.1.1

/-- §5.6.1 with `@oneOf`: ValuesOfCorrectType reports nothing iff every literal at a position with a declared
    type is coercible to it and no `@oneOf` field is given by a variable of a nullable type -/
theorem C08_ValuesOfCorrectType (s : Schema) (d : QueryDoc)
    (hwp : Spec.wellParented s d = true) (hfu : Spec.fragmentNameUniqueness d = true) (hcd : constDefaults d = true)
    (hschema : schemaOK s = true) (hroots : rootsInput s d = true) (hnum : numLiteralsOK s d = true)
    (hwf : leavesWellFormed s d = true) (hpos : usePosDistinct s d = true) :
    validate [valuesOfCorrectType] s d = .ok [] ↔
      (Spec.valuesOfCorrectType s d && Spec.oneOfVariablesNonNull s d) = true := by
  refine ⟨C08_ValuesOfCorrectType_complete s d hwp hfu hschema hroots hnum, fun h => ?_⟩
  rw [Bool.and_eq_true] at h
  obtain ⟨evs, hw⟩ := walkDoc_isSome s.view d
  exact (validate_stateless_nil s d _ _ evs hw).2
    ((valuesOfCorrectType_iff_oneOfVar s d evs hw hwp hschema hroots hnum hwf).2
      ⟨h.1, oneOfVar_of_spec s d evs hw hwp hfu hcd hschema hroots h.1 h.2 hpos⟩)

/-- the same for a LOADED schema: `Gql.Spec.Closed` and `Gql.Spec.HasBuiltins` (`C07`), scalar definitions declare no
    fields, and the check's mask `Spec.variablesAreInputTypes` -/
theorem C08_ValuesOfCorrectType_loaded (s : Schema) (d : QueryDoc)
    (hclosed : Gql.Spec.Closed s) (hb : Gql.Spec.HasBuiltins s)
    (hsf : ∀ p ∈ s.types, p.2.kind = .scalar → p.2.fields = [])
    (hvars : Spec.variablesAreInputTypes s d = true)
    (hwp : Spec.wellParented s d = true) (hfu : Spec.fragmentNameUniqueness d = true) (hcd : constDefaults d = true)
    (hnum : numLiteralsOK s d = true) (hwf : leavesWellFormed s d = true) (hpos : usePosDistinct s d = true) :
    validate [valuesOfCorrectType] s d = .ok [] ↔
      (Spec.valuesOfCorrectType s d && Spec.oneOfVariablesNonNull s d) = true :=
  C08_ValuesOfCorrectType s d hwp hfu hcd (schemaOK_of_closed s hclosed.keys hclosed.fieldTypes hb hsf)
    (rootsInput_of_closed s d hclosed.argTypes hclosed.directiveArgTypes hvars) hnum hwf hpos

#print axioms C08_ValuesOfCorrectType
#print axioms C08_ValuesOfCorrectType_loaded
#print axioms C08_ValuesOfCorrectType_partial
#print axioms C08_ValuesOfCorrectType_closed
#print axioms C08_ValuesOfCorrectType_complete
end C08

/-- Finding repaired in the library ("an integer literal beyond the range of a double is not a Float"):
    `{ f(a: 1<309 zeros>) }` with `f(a: Float): Int` — an IntValue that no finite double represents, given
    where a Float is expected — IS reported by ValuesOfCorrectType (the finite-double test of FloatValue
    literals is applied to the integer text too), as `Spec.valuesOfCorrectType` demands (§3.5.2); all hypotheses
    of `C08_ValuesOfCorrectType` hold for it, `numLiteralsOK` included (it is a theorem for IntValue lexemes of
    any size: `numLeafOK_int_of_lexeme`).  Before the repair the library's rule was silent here. -/
theorem C08_ValuesOfCorrectType_int_beyond_double_rejected :
    let s := Gql.Validate.ValuesEx.schemaWith (Gql.Validate.Witness.tNamed "Float") []
    let d := Gql.Validate.ValuesEx.docArg Gql.Validate.ValuesEx.bigInt
    Gql.Validate.validate [Gql.Validate.Rules.valuesOfCorrectType] s d =
        .ok [{ rule := str "ValuesOfCorrectType",
               msg := str "Float cannot represent non numeric value: " ++ Gql.Validate.ValuesEx.bigInt.raw,
               locs := [(1, 11)] }] ∧
      Gql.Validate.Spec.valuesOfCorrectType s d = false ∧ Gql.Validate.numLiteralsOK s d = true ∧
      (Gql.Validate.Spec.wellParented s d && Gql.Validate.schemaOK s && Gql.Validate.rootsInput s d &&
        Gql.Validate.leavesWellFormed s d) = true := by
  decide +kernel

/-- the boundary: the largest integer that rounds to a finite double (`2^1024 - 2^970 - 1`) is accepted for a
    Float by the rule and the specification, the next one is rejected by both -/
theorem C08_ValuesOfCorrectType_int_double_boundary :
    let s := Gql.Validate.ValuesEx.schemaWith (Gql.Validate.Witness.tNamed "Float") []
    (Gql.Validate.validate [Gql.Validate.Rules.valuesOfCorrectType] s
        (Gql.Validate.ValuesEx.docArg Gql.Validate.ValuesEx.lastFinite) = .ok [] ∧
      Gql.Validate.Spec.valuesOfCorrectType s (Gql.Validate.ValuesEx.docArg Gql.Validate.ValuesEx.lastFinite) = true) ∧
    (Gql.Validate.validate [Gql.Validate.Rules.valuesOfCorrectType] s
        (Gql.Validate.ValuesEx.docArg Gql.Validate.ValuesEx.firstInfinite) ≠ .ok [] ∧
      Gql.Validate.Spec.valuesOfCorrectType s (Gql.Validate.ValuesEx.docArg Gql.Validate.ValuesEx.firstInfinite) = false) := by
  decide +kernel

/-- the numeric hypothesis of `C08_ValuesOfCorrectType` for lexer-produced literals: IntValues need nothing
    beyond being `-?[0-9]+` texts; for FloatValues the agreement of the library's `ParseFloat` (error or ±Inf)
    with `Spec.floatLitFinite` on the text is a hypothesis here (`numLiteralsLexemes`); it is a theorem for
    every FloatValue lexeme (`float_lexeme_agree`), so parsed documents satisfy it (`parsed_numLiteralsLexemes`) -/
theorem C08_ValuesOfCorrectType_numeric_hypothesis (s : Schema) (d : QueryDoc)
    (h : Gql.Validate.numLiteralsLexemes s d = true) : Gql.Validate.numLiteralsOK s d = true :=
  Gql.Validate.numLiteralsOK_of_lexemes s d h

#print axioms C08_ValuesOfCorrectType_int_beyond_double_rejected
#print axioms C08_ValuesOfCorrectType_int_double_boundary
#print axioms C08_ValuesOfCorrectType_numeric_hypothesis

/-! ## OverlappingFieldsCanBeMerged: completeness -/
section C08
open Gql Gql.Validate Gql.Validate.Rules

/-- Documents WITHOUT fragment spreads: OverlappingFieldsCanBeMerged reports nothing iff
    §5.3.2 (`Spec.fieldSelectionMerging`) holds.  Hypotheses, each guaranteed by other rules / by loaded
    schemas: the prerequisites under which §5.3.2 is judged (`Spec.mergingJudged`), well-parentedness,
    leaf field selections (ScalarLeafs), the type in scope is determined at every selection node
    (a closed schema), the type table is keyed by definition names, unique fragment names and
    every fragment used (with no spread in the document: there are no fragment definitions). -/
theorem C08_overlap_complete_flat (s : Schema) (d : QueryDoc)
    (hflat : Spec.allSpreadNames d = [])
    (hj : Spec.mergingJudged s d = true) (hwp : Spec.wellParented s d = true)
    (hleaf : Spec.leafFieldSelections s d = true)
    (hparents : ∀ t ∈ Spec.docSels s d, t.parent.isSome) (hkeys : KeysOK s)
    (hu : Spec.fragmentNameUniqueness d = true) (hused : Spec.fragmentsMustBeUsed d = true) :
    validate [overlappingFieldsCanBeMerged] s d = .ok [] ↔ Spec.fieldSelectionMerging s d = true := by
  exact overlap_flat_iff s d ⟨hwp, (mergingJudged_iff.1 hj).2.2.2.2.1, hleaf, hparents, hkeys⟩ hflat hj hu hused

#print axioms C08_overlap_complete_flat
end C08

section C08
open Gql Gql.Validate Gql.Validate.Rules

/-- a schema whose type table is keyed by the names of its definitions (`Closed.keys`) -/
theorem C08_overlap_keysOK_of_consistent (s : Schema) (h : Gql.Spec.KeysConsistent s) : KeysOK s := by
  intro n t ht
  exact h.1 (n, t) (mem_of_lookup ht)

/-- The memos: on a document without fragment cycles the memoised rule is
    equivalent to its memo-free semantics: OverlappingFieldsCanBeMerged reports nothing iff no selection
    set of `Spec.docSets` has a derivable conflict (`TopHolds`: the judgments follow the Go code without
    `comparedFragmentPairs` / `comparedFieldsAndFragmentPairs`, and under the link table in which every
    node is linked).  Neither memo, nor the order in which the walker links nodes, changes the verdict.
    `MemoHyps`: the other rules' guarantees (`OvHyps`), no cycles, spreads defined, `ArgsSym`, and the
    node identity assumption of the model (a selection set is identified by its first node). -/
theorem C08_overlap_memo_free (s : Schema) (d : QueryDoc) (M : MemoHyps s d)
    (hu : Spec.fragmentNameUniqueness d = true) (hused : Spec.fragmentsMustBeUsed d = true) :
    validate [overlappingFieldsCanBeMerged] s d = .ok [] ↔
      ∀ t ∈ Spec.docSets s d, ¬ TopHolds (envOf s d (fullLinks d)) t.parent t.sels :=
  overlap_silent_iff s d M hu hused

/-- the two directions against §5.3.2 of the memo-free semantics -/
theorem C08_overlap_sound_spec (s : Schema) (d : QueryDoc) (S : SemHyps s d) (t : Spec.TSet) (ht : t ∈ Spec.docSets s d)
    (h : TopHolds (envOf s d (fullLinks d)) t.parent t.sels) : SpecFalse s d :=
  topHolds_specFalse S ht h

/-- hypotheses of `C08_OverlappingFieldsCanBeMerged` that are not specification predicates: loaded
    schemas (`C07`: closed field types, `String` present, keys consistent) and the node identity
    assumption of the rule model (DESIGN §4; checked by the harness on every document,
    `overlap-selection-identity`) in the form of ONE decidable property of the syntax tree: the
    first nodes of the non-empty selection sets of the document start at pairwise different offsets -/
structure C08OverlapHyps (s : Schema) (d : QueryDoc) : Prop where
  fieldTypesClosed : Gql.Spec.ClosedFieldTypes s
  hasString : (s.type? (str "String")).isSome
  keys : KeysOK s
  setStarts : SetStartsNodup d

/-- the prerequisites under which §5.3.2 is judged are specification predicates -/
theorem C08_mergingJudged_of_spec {s : Schema} {d : QueryDoc}
    (hdef : Spec.fragmentSpreadTargetDefined d = true) (hacyclic : Spec.noFragmentCycles d = true)
    (htc : Spec.fragmentSpreadTypeExistence s d = true) (hcomp : Spec.fragmentsOnCompositeTypes s d = true)
    (hfs : Spec.fieldSelections s d = true) (hroot : Spec.knownRootType s d = true) : Spec.mergingJudged s d = true :=
  mergingJudged_iff.2 ⟨hdef, hacyclic, htc, hcomp, hfs, hroot⟩

/-- **§5.3.2 — OverlappingFieldsCanBeMerged reports nothing iff `Spec.fieldSelectionMerging` holds**, for
    documents without fragment cycles and with unique fragment names.  Every other hypothesis is a
    specification predicate that another rule decides (known root types, known and composite type
    conditions, defined spreads, fields defined, leaf selections, used fragments, unique argument and
    input-field names), well-parentedness, or belongs to `C08OverlapHyps`. -/
theorem C08_OverlappingFieldsCanBeMerged (s : Schema) (d : QueryDoc) (ho : C08OverlapHyps s d)
    (hacyclic : Spec.noFragmentCycles d = true) (hfn : Spec.fragmentNameUniqueness d = true)
    (hwp : Spec.wellParented s d = true) (hroot : Spec.knownRootType s d = true)
    (hdef : Spec.fragmentSpreadTargetDefined d = true) (htc : Spec.fragmentSpreadTypeExistence s d = true)
    (hcomp : Spec.fragmentsOnCompositeTypes s d = true) (hfs : Spec.fieldSelections s d = true)
    (hleaf : Spec.leafFieldSelections s d = true) (hused : Spec.fragmentsMustBeUsed d = true)
    (hargs : Spec.argumentUniqueness s d = true) (hinput : Spec.inputObjectFieldUniqueness s d = true) :
    validate [overlappingFieldsCanBeMerged] s d = .ok [] ↔ Spec.fieldSelectionMerging s d = true := by
  have hj := C08_mergingJudged_of_spec hdef hacyclic htc hcomp hfs hroot
  have hparents : ∀ t ∈ Spec.docSels s d, t.parent.isSome := by
    intro t ht
    obtain ⟨q, hq, _⟩ := parents_present s d ho.fieldTypesClosed ho.hasString hroot hfs htc t ht
    rw [hq]
    rfl
  exact overlap_iff s d ⟨hwp, hfs, hleaf, hparents, ho.keys⟩ hj hfn hused (argsSym_of_spec hargs hinput)
    (argsRefl_of_spec hinput) (idsInj_of_starts ho.setStarts) (idsNested_of_starts ho.setStarts)

#print axioms C08_overlap_memo_free
#print axioms C08_overlap_sound_spec
#print axioms C08_OverlappingFieldsCanBeMerged
end C08

/- non-vacuity of `C08_OverlappingFieldsCanBeMerged` (kernel-checked): documents WITH fragment spreads -/
namespace OverlapCompleteWitness
open Gql Gql.Validate Gql.Validate.Witness Gql.Validate.OverlapWitness

/-- `type Query { id: ID u: Node x: Int }  interface Node { id: ID u: Node x: Int }` with the scalars
    `ID`, `Int`, `String` -/
def schema : Schema :=
  { Schema.empty with
    query := some (str "Query"),
    types := [(str "ID", scalar "ID"), (str "Int", scalar "Int"), (str "String", scalar "String"),
              (str "Node", composite .interface "Node"), (str "Query", composite .object "Query")] }

def frag (n : String) (sel : Selections) (o : Nat) : FragmentDef :=
  { name := str n, vars := [], typeCond := str "Node", dirs := [], sel := sel, pos := at' o }

def query (sel : Selections) : OperationDef :=
  { op := str "query", name := [], vars := [], dirs := [], sel := sel, pos := at' 0 }

/-- `{ u { a: id ...F ...G } }  fragment F on Node { a: id ...G }  fragment G on Node { u { a: id } }` -/
def docGood : QueryDoc :=
  { ops := [query (.cons (.field (str "u") (str "u") [] []
              (.cons (leaf "a" "id" 6) (.cons (.spread (str "F") [] (at' 12)) (.cons (.spread (str "G") [] (at' 17)) .nil))) (at' 2)) .nil)],
    frags := [frag "F" (.cons (leaf "a" "id" 45) (.cons (.spread (str "G") [] (at' 51)) .nil)) 26,
              frag "G" (.cons (.field (str "u") (str "u") [] [] (.cons (leaf "a" "id" 82) .nil) (at' 78)) .nil) 59] }

/-- `{ u { a: id ...F } }  fragment F on Node { ...G }  fragment G on Node { a: x }` — the conflict is
    between a field of the operation and a field two spreads away -/
def docBad : QueryDoc :=
  { ops := [query (.cons (.field (str "u") (str "u") [] []
              (.cons (leaf "a" "id" 6) (.cons (.spread (str "F") [] (at' 12)) .nil)) (at' 2)) .nil)],
    frags := [frag "F" (.cons (.spread (str "G") [] (at' 40)) .nil) 21,
              frag "G" (.cons (leaf "a" "x" 68) .nil) 49] }

theorem hyps (d : QueryDoc) (h : SetStartsNodup d) : C08OverlapHyps schema d :=
  { fieldTypesClosed := by decide +kernel
    hasString := by decide +kernel
    keys := C08_overlap_keysOK_of_consistent schema ⟨by decide +kernel, by decide +kernel, by decide +kernel, by decide +kernel⟩
    setStarts := h }

end OverlapCompleteWitness

open OverlapCompleteWitness in
/-- all hypotheses of `C08_OverlappingFieldsCanBeMerged` hold for `docGood`, and both sides are true … -/
example : SetStartsNodup docGood ∧
    (Spec.noFragmentCycles docGood && Spec.fragmentNameUniqueness docGood && Spec.wellParented schema docGood &&
     Spec.knownRootType schema docGood && Spec.fragmentSpreadTargetDefined docGood &&
     Spec.fragmentSpreadTypeExistence schema docGood && Spec.fragmentsOnCompositeTypes schema docGood &&
     Spec.fieldSelections schema docGood && Spec.leafFieldSelections schema docGood && Spec.fragmentsMustBeUsed docGood &&
     Spec.argumentUniqueness schema docGood && Spec.inputObjectFieldUniqueness schema docGood) = true ∧
    Gql.Validate.validate [Gql.Validate.Rules.overlappingFieldsCanBeMerged] schema docGood = .ok [] ∧
    Spec.fieldSelectionMerging schema docGood = true := by
  decide +kernel

open OverlapCompleteWitness in
/-- … they hold for `docBad`, and both sides are false (the rule reports the conflict found through
    two fragment spreads) -/
example : SetStartsNodup docBad ∧
    (Spec.noFragmentCycles docBad && Spec.fragmentNameUniqueness docBad && Spec.wellParented schema docBad &&
     Spec.knownRootType schema docBad && Spec.fragmentSpreadTargetDefined docBad &&
     Spec.fragmentSpreadTypeExistence schema docBad && Spec.fragmentsOnCompositeTypes schema docBad &&
     Spec.fieldSelections schema docBad && Spec.leafFieldSelections schema docBad && Spec.fragmentsMustBeUsed docBad &&
     Spec.argumentUniqueness schema docBad && Spec.inputObjectFieldUniqueness schema docBad) = true ∧
    Gql.Validate.validate [Gql.Validate.Rules.overlappingFieldsCanBeMerged] schema docBad ≠ .ok [] ∧
    Spec.fieldSelectionMerging schema docBad = false := by
  decide +kernel

open OverlapCompleteWitness in
/-- the theorem applied to the two witnesses -/
example : (Gql.Validate.validate [Gql.Validate.Rules.overlappingFieldsCanBeMerged] schema docGood = .ok [] ↔
      Spec.fieldSelectionMerging schema docGood = true) ∧
    (Gql.Validate.validate [Gql.Validate.Rules.overlappingFieldsCanBeMerged] schema docBad = .ok [] ↔
      Spec.fieldSelectionMerging schema docBad = true) :=
  ⟨C08_OverlappingFieldsCanBeMerged schema docGood (hyps docGood (by decide +kernel)) (by decide +kernel) (by decide +kernel)
      (by decide +kernel) (by decide +kernel) (by decide +kernel) (by decide +kernel) (by decide +kernel) (by decide +kernel)
      (by decide +kernel) (by decide +kernel) (by decide +kernel) (by decide +kernel),
   C08_OverlappingFieldsCanBeMerged schema docBad (hyps docBad (by decide +kernel)) (by decide +kernel) (by decide +kernel)
      (by decide +kernel) (by decide +kernel) (by decide +kernel) (by decide +kernel) (by decide +kernel) (by decide +kernel)
      (by decide +kernel) (by decide +kernel) (by decide +kernel) (by decide +kernel)⟩

namespace OverlapCompleteWitness
open Gql Gql.Validate Gql.Validate.Witness Gql.Validate.OverlapWitness

/-- `{ id }  fragment F on Node { u { a: id a: x } }` — the fragment is never spread -/
def docUnused : QueryDoc :=
  { ops := [query (.cons (leaf "id" "id" 2) .nil)],
    frags := [frag "F" (.cons (.field (str "u") (str "u") [] [] (.cons (leaf "a" "id" 31) (.cons (leaf "a" "x" 37) .nil)) (at' 27)) .nil) 7] }

end OverlapCompleteWitness

open OverlapCompleteWitness in
/-- the hypothesis `Spec.fragmentsMustBeUsed` of `C08_OverlappingFieldsCanBeMerged` is NEEDED (the recorded
    rule-level difference): inside a fragment definition that no operation reaches the `field` observer of the
    rule does nothing (`walker.CurrentOperation == nil`), so the conflict in the sub-selection of `u` is not
    reported, while §5.3.2 judges every selection set of the document.  All other hypotheses hold; the
    document is rejected by NoUnusedFragments. -/
theorem C08_overlap_unused_fragment_counterexample :
    SetStartsNodup docUnused ∧
    (Spec.noFragmentCycles docUnused && Spec.fragmentNameUniqueness docUnused && Spec.wellParented schema docUnused &&
     Spec.knownRootType schema docUnused && Spec.fragmentSpreadTargetDefined docUnused &&
     Spec.fragmentSpreadTypeExistence schema docUnused && Spec.fragmentsOnCompositeTypes schema docUnused &&
     Spec.fieldSelections schema docUnused && Spec.leafFieldSelections schema docUnused &&
     Spec.argumentUniqueness schema docUnused && Spec.inputObjectFieldUniqueness schema docUnused) = true ∧
    Spec.fragmentsMustBeUsed docUnused = false ∧
    Gql.Validate.validate [Gql.Validate.Rules.overlappingFieldsCanBeMerged] schema docUnused = .ok [] ∧
    Spec.fieldSelectionMerging schema docUnused = false := by
  decide +kernel

#print axioms C08_overlap_unused_fragment_counterexample

section C08
open Gql Gql.Validate Gql.Validate.Rules

/-- the side condition `rootKeysConsistent` of `C08_SingleFieldSubscriptions` (collected root fields with one
    response key have one field name) is a consequence of §5.3.2 and the prerequisites under which it is judged -/
theorem C08_rootKeysConsistent_of_merging (s : Schema) (d : QueryDoc)
    (hdef : Spec.fragmentSpreadTargetDefined d = true) (hacyclic : Spec.noFragmentCycles d = true)
    (htc : Spec.fragmentSpreadTypeExistence s d = true) (hcomp : Spec.fragmentsOnCompositeTypes s d = true)
    (hfs : Spec.fieldSelections s d = true) (hroot : Spec.knownRootType s d = true)
    (hm : Spec.fieldSelectionMerging s d = true) : rootKeysConsistent s d = true :=
  Gql.EndToEnd.rootKeysConsistent_of_merging s d (C08_mergingJudged_of_spec hdef hacyclic htc hcomp hfs hroot) hm

end C08

/-! ## Capstone: the rules with a proved equivalence, run together -/
section C08
open Gql Gql.Validate Gql.Validate.Rules

/-- a rule list reports nothing iff every member, run alone, reports nothing (`runAll_nil_iff`) -/
theorem C08_rule_list_silent_iff (rs : List Rule) (s : Schema) (d : QueryDoc) :
    validate rs s d = .ok [] ↔ ∀ r ∈ rs, validate [r] s d = .ok [] := by
  obtain ⟨evs, hw⟩ := walkDoc_isSome s.view d
  rw [validate_ok_iff hw, runAll_nil_iff, List.forall_mem_map]
  exact forall₂_congr fun r _ => (validate_ok_iff (rs := [r]) hw).symm

/-- the default rules with a proved equivalence, in default order: all but
    OverlappingFieldsCanBeMerged -/
def c08Rules : List Rule :=
  [ fieldsOnCorrectType, fragmentsOnCompositeTypes, knownArgumentNames, knownDirectives, knownFragmentNames,
    knownRootType, knownTypeNames, loneAnonymousOperation, maxIntrospectionDepth, noFragmentCycles,
    noUndefinedVariables, noUnusedFragments, noUnusedVariables, possibleFragmentSpreads, providedRequiredArguments,
    scalarLeafs, singleFieldSubscriptions, uniqueArgumentNames, uniqueDirectivesPerLocation, uniqueFragmentNames,
    uniqueInputFieldNames, uniqueOperationNames, uniqueVariableNames, valuesOfCorrectType, variablesAreInputTypes,
    variablesInAllowedPosition ]

/-- the specification predicates that are NOT compared by the capstone (their rules have no
    equivalence theorem in `c08Rules`) -/
def c08Uncovered : List String := ["fieldSelectionMerging"]

/-- `c08Rules` is the default rule list without the rule named above, in the same order -/
theorem C08_rules_are_default_rules :
    c08Rules.map (·.name) = (defaultRules.map (·.name)).filter fun n =>
      !([str "OverlappingFieldsCanBeMerged"].contains n) := by
  -- the default rules are `c08Rules` with one rule inserted after the 13th, and their names are distinct
  have h := C18_default_names_distinct
  rw [defaultRules_eq] at h ⊢
  exact (filter_ne_of_nodup (l₁ := (c08Rules.take 13).map Rule.name) (l₂ := (c08Rules.drop 13).map Rule.name) h).symm

/-- hypotheses of the capstone that are not specification predicates themselves: the shape of
    parser-produced documents, the invariants of loaded schemas, and four semantic side conditions —
    `wellParented`, the two of SingleFieldSubscriptions (`selectRoot`, `rootKeys`) and `defaultedLocations`
    (see `C08SemanticHyps`) -/
structure C08Hyps (s : Schema) (d : QueryDoc) : Prop where
  /-- operation kinds are the parser's -/
  kinds : ∀ op ∈ d.ops, op.op ∈ parserOpKinds
  /-- every selection is written where the type in scope is composite (fails only together with
      other specification predicates, see the header) -/
  wellParented : Spec.wellParented s d = true
  outputTypes : Spec.fieldTypesAreOutputTypes s d = true
  noEmptyTypeName : s.type? [] = none
  possibleOK : possibleOK s = true
  subscriptionRoot : subscriptionRootExact s = true
  /-- only list and object literals have children (parser) -/
  valuesShaped : valuesShaped s d = true
  /-- default values are constant (grammar) -/
  constDefaults : constDefaults d = true
  /-- fragment definitions have a type condition (grammar) -/
  typeConds : ∀ f ∈ d.frags, f.typeCond ≠ []
  /-- every subscription collects at least one root field -/
  selectRoot : subscriptionsSelectRoot s d = true
  /-- collected root fields with the same response key have the same field name -/
  rootKeys : rootKeysConsistent s d = true
  /-- argument and input-field types resolve to input objects or to definitions without fields (loaded schemas) -/
  inputPositions : inputPositionsPlain s = true
  /-- the recorded finding about VariablesInAllowedPosition is not triggered: every variable usage at
      a location WITH a default value is allowed even without that default -/
  defaultedLocations : defaultedLocationsHarmless s d = true
  /-- ValuesOfCorrectType: built-in scalar names are scalars, scalars declare no fields, input-field
      types resolve to input types (loaded schemas: `schemaOK_of_closed`) -/
  schemaOK : schemaOK s = true
  argTypes : Gql.Spec.ClosedArgTypes s
  directiveArgTypes : Gql.Spec.ClosedDirectiveArgTypes s
  /-- numeric literals are IntValue / FloatValue lexemes on which the library's conversion and the
      specification's range tests agree (a theorem for both kinds of lexeme: `numLeafOK_int_of_lexeme`,
      `numLeafOK_float_of_lexeme`) -/
  numLiterals : numLiteralsOK s d = true
  /-- leaf literals are lexemes of their kind (lexer) -/
  leaves : leavesWellFormed s d = true
  /-- two variable usages that start at the same offset are the same usage (parser) -/
  usePos : usePosDistinct s d = true

/-- the hypotheses of the capstone that are invariants of parser output (document side) or of loader
    output (schema side): `C08Hyps` without its four semantic fields `wellParented`, `selectRoot`,
    `rootKeys`, `defaultedLocations` -/
structure C08BaseHyps (s : Schema) (d : QueryDoc) : Prop where
  kinds : ∀ op ∈ d.ops, op.op ∈ parserOpKinds
  outputTypes : Spec.fieldTypesAreOutputTypes s d = true
  noEmptyTypeName : s.type? [] = none
  possibleOK : possibleOK s = true
  subscriptionRoot : subscriptionRootExact s = true
  valuesShaped : valuesShaped s d = true
  constDefaults : constDefaults d = true
  typeConds : ∀ f ∈ d.frags, f.typeCond ≠ []
  inputPositions : inputPositionsPlain s = true
  schemaOK : schemaOK s = true
  argTypes : Gql.Spec.ClosedArgTypes s
  directiveArgTypes : Gql.Spec.ClosedDirectiveArgTypes s
  numLiterals : numLiteralsOK s d = true
  leaves : leavesWellFormed s d = true
  usePos : usePosDistinct s d = true

theorem C08Hyps.toBase {s : Schema} {d : QueryDoc} (h : C08Hyps s d) : C08BaseHyps s d :=
  { h with }

/-- the predicates the capstone compares, as a conjunction -/
theorem c08_covered_iff (s : Schema) (d : QueryDoc) :
    ((Spec.specVerdicts s d).filter (fun p => !c08Uncovered.contains p.1)).all (·.2) = true ↔
    (Spec.operationNameUniqueness d = true ∧ Spec.loneAnonymousOperation d = true ∧ Spec.singleRootField s d = true ∧
     Spec.knownRootType s d = true ∧ Spec.fieldSelections s d = true ∧ Spec.leafFieldSelections s d = true ∧
     Spec.argumentNames s d = true ∧ Spec.argumentUniqueness s d = true ∧ Spec.requiredArguments s d = true ∧
     Spec.fragmentNameUniqueness d = true ∧ Spec.fragmentSpreadTypeExistence s d = true ∧
     Spec.fragmentsOnCompositeTypes s d = true ∧ Spec.fragmentsMustBeUsed d = true ∧
     Spec.fragmentSpreadTargetDefined d = true ∧ Spec.noFragmentCycles d = true ∧
     Spec.fragmentSpreadIsPossible s d = true ∧
     (Spec.valuesOfCorrectType s d && Spec.oneOfVariablesNonNull s d) = true ∧ Spec.inputObjectFieldUniqueness s d = true ∧
     Spec.directivesAreDefined s d = true ∧ Spec.directivesInValidLocations s d = true ∧
     Spec.directivesUniquePerLocation s d = true ∧ Spec.variableUniqueness d = true ∧
     Spec.variablesAreInputTypes s d = true ∧ Spec.allVariableUsesDefined s d = true ∧
     Spec.allVariablesUsed s d = true ∧ Spec.allVariableUsagesAllowed s d = true ∧ Spec.maxIntrospectionDepth d = true) := by
  simp only [Spec.specVerdicts, c08Uncovered]
  simp [List.filter, List.all]

/-- `Spec.specValid` as the conjunction of its 28 predicates -/
theorem C08_specValid_iff (s : Schema) (d : QueryDoc) :
    Spec.specValid s d = true ↔
    (Spec.operationNameUniqueness d = true ∧ Spec.loneAnonymousOperation d = true ∧ Spec.singleRootField s d = true ∧
     Spec.knownRootType s d = true ∧ Spec.fieldSelections s d = true ∧ Spec.fieldSelectionMerging s d = true ∧
     Spec.leafFieldSelections s d = true ∧
     Spec.argumentNames s d = true ∧ Spec.argumentUniqueness s d = true ∧ Spec.requiredArguments s d = true ∧
     Spec.fragmentNameUniqueness d = true ∧ Spec.fragmentSpreadTypeExistence s d = true ∧
     Spec.fragmentsOnCompositeTypes s d = true ∧ Spec.fragmentsMustBeUsed d = true ∧
     Spec.fragmentSpreadTargetDefined d = true ∧ Spec.noFragmentCycles d = true ∧
     Spec.fragmentSpreadIsPossible s d = true ∧
     (Spec.valuesOfCorrectType s d && Spec.oneOfVariablesNonNull s d) = true ∧ Spec.inputObjectFieldUniqueness s d = true ∧
     Spec.directivesAreDefined s d = true ∧ Spec.directivesInValidLocations s d = true ∧
     Spec.directivesUniquePerLocation s d = true ∧ Spec.variableUniqueness d = true ∧
     Spec.variablesAreInputTypes s d = true ∧ Spec.allVariableUsesDefined s d = true ∧
     Spec.allVariablesUsed s d = true ∧ Spec.allVariableUsagesAllowed s d = true ∧ Spec.maxIntrospectionDepth d = true) := by
  simp only [Spec.specValid, Spec.specVerdicts]
  simp [List.all]

/-- all predicates = the covered ones and field merging -/
theorem specValid_iff_covered_and_merging (s : Schema) (d : QueryDoc) :
    Spec.specValid s d = true ↔
      ((Spec.specVerdicts s d).filter (fun p => !c08Uncovered.contains p.1)).all (·.2) = true ∧
        Spec.fieldSelectionMerging s d = true := by
  rw [C08_specValid_iff, c08_covered_iff]
  exact iff_of_eq (by ac_rfl)

/-- where the covered predicates hold, OverlappingFieldsCanBeMerged decides field merging -/
theorem overlap_iff_of_covered {s : Schema} {d : QueryDoc} (ho : C08OverlapHyps s d) (hwp : Spec.wellParented s d = true)
    (hc : ((Spec.specVerdicts s d).filter (fun p => !c08Uncovered.contains p.1)).all (·.2) = true) :
    validate [overlappingFieldsCanBeMerged] s d = .ok [] ↔ Spec.fieldSelectionMerging s d = true := by
  obtain ⟨_, _, _, hroot, hfs, hleaf, _, hargs, _, hfn, htc, hcomp, hused, hdef, hcyc, _, _, hinput, _⟩ :=
    (c08_covered_iff s d).1 hc
  exact C08_OverlappingFieldsCanBeMerged s d ho hcyc hfn hwp hroot hdef htc hcomp hfs hleaf hused hargs hinput

/-- the direction "the rules report nothing ⇒ the predicates hold" of the capstone: each predicate from its rule and
    from what the other rules establish.  `rootKeysConsistent` serves SingleFieldSubscriptions alone and may come
    from the verdict of OverlappingFieldsCanBeMerged instead; `defaultedLocationsHarmless` is not needed here (the
    recorded finding makes VariablesInAllowedPosition report more, not less). -/
theorem c08Rules_sound {s : Schema} {d : QueryDoc} (B : C08BaseHyps s d) (hwp : Spec.wellParented s d = true)
    (hsel : subscriptionsSelectRoot s d = true)
    (hrk : rootKeysConsistent s d = true ∨
      (C08OverlapHyps s d ∧ validate [overlappingFieldsCanBeMerged] s d = .ok []))
    (hall : ∀ r ∈ c08Rules, validate [r] s d = .ok []) :
    ((Spec.specVerdicts s d).filter (fun p => !c08Uncovered.contains p.1)).all (·.2) = true := by
  simp only [c08Rules, List.mem_cons, List.not_mem_nil, or_false, forall_eq_or_imp, forall_eq] at hall
  obtain ⟨r1, r2, r3, r4, r5, r6, r7, r8, r9, r10, r11, r12, r13, r14, r15, r16, r17, r18, r19, r20, r21, r22, r23, rv,
    r24, r25⟩ := hall
  have lone := (C08_LoneAnonymousOperation s d).1 r8
  have opNames := (C08_UniqueOperationNames s d lone).1 r22
  have varUniq := (C08_UniqueVariableNames s d).1 r23
  have fragUniq := (C08_UniqueFragmentNames s d).1 r20
  have spreadsDef := (C08_KnownFragmentNames s d).1 r5
  have dirs := (C08_KnownDirectives s d B.kinds).1 r4
  have cycles := (C08_NoFragmentCycles s d fragUniq).1 r10
  have types := (C08_KnownTypeNames_VariablesAreInputTypes s d).1 ⟨r7, r24⟩
  have hroot := (C08_KnownRootType s d).1 r6
  have hfs := (C08_FieldsOnCorrectType s d hwp).1 r1
  have hleaf := (C08_ScalarLeafs s d hwp B.outputTypes).1 r16
  have hargs := (C08_UniqueArgumentNames s d B.kinds).1 r18
  have hcomp := (C08_FragmentsOnCompositeTypes s d B.noEmptyTypeName).1 r2
  have hused := C08_NoUnusedFragments_complete s d r12
  have hinput := (C08_UniqueInputFieldNames s d B.valuesShaped).1 r21
  have hrk : rootKeysConsistent s d = true := hrk.elim id fun ⟨ho, ro⟩ =>
    C08_rootKeysConsistent_of_merging s d spreadsDef cycles types.1 hcomp hfs hroot
      ((C08_OverlappingFieldsCanBeMerged s d ho cycles fragUniq hwp hroot spreadsDef types.1 hcomp hfs hleaf hused
        hargs hinput).1 ro)
  exact (c08_covered_iff s d).2 ⟨opNames, lone,
    (C08_SingleFieldSubscriptions s d B.subscriptionRoot spreadsDef B.typeConds hsel hrk).1 r17,
    hroot, hfs, hleaf,
    (C08_KnownArgumentNames s d hwp B.kinds).1 r3,
    hargs,
    (C08_ProvidedRequiredArguments s d hwp B.kinds).1 r15,
    fragUniq, types.1, hcomp, hused, spreadsDef, cycles,
    (C08_PossibleFragmentSpreads s d hwp B.noEmptyTypeName B.possibleOK).1 r14,
    C08_ValuesOfCorrectType_complete s d hwp fragUniq B.schemaOK
      (rootsInput_of_closed s d B.argTypes B.directiveArgTypes types.2) B.numLiterals rv,
    hinput, dirs.1, dirs.2,
    C08_UniqueDirectivesPerLocation_complete s d B.kinds r19,
    varUniq, types.2,
    (C08_NoUndefinedVariables s d fragUniq B.constDefaults).1 r11,
    (C08_NoUnusedVariables s d fragUniq B.constDefaults varUniq).1 r13,
    C08_VariablesInAllowedPosition_complete s d hwp fragUniq B.constDefaults B.inputPositions
      (variableTypesNamed_of_exist s d B.noEmptyTypeName (variablesAreInputTypes_exist s d types.2)) r25,
    (C08_MaxIntrospectionDepth s d cycles).1 r9⟩

/-- the direction "the predicates hold ⇒ the rules report nothing": each rule from its predicate.  Neither
    `subscriptionsSelectRoot` nor `rootKeysConsistent` is needed here (`C08_SingleFieldSubscriptions_complete`). -/
theorem c08Rules_complete {s : Schema} {d : QueryDoc} (B : C08BaseHyps s d) (hwp : Spec.wellParented s d = true)
    (hdl : defaultedLocationsHarmless s d = true)
    (hs : ((Spec.specVerdicts s d).filter (fun p => !c08Uncovered.contains p.1)).all (·.2) = true) :
    ∀ r ∈ c08Rules, validate [r] s d = .ok [] := by
  obtain ⟨opNames, lone, root1, rootType, fields, leafs, argNames, argUniq, reqArgs, fragUniq, typeEx, fragComp,
    fragsUsed, spreadsDef, cycles, possible, valuesOK, inputUniq, dirsDef, dirsLoc, dirsUniq, varUniq, varTypes, varsDef,
    varsUsed, varsAllowed, depth⟩ := (c08_covered_iff s d).1 hs
  have types := (C08_KnownTypeNames_VariablesAreInputTypes s d).2 ⟨typeEx, varTypes⟩
  simp only [c08Rules, List.mem_cons, List.not_mem_nil, or_false, forall_eq_or_imp, forall_eq]
  exact ⟨(C08_FieldsOnCorrectType s d hwp).2 fields,
    (C08_FragmentsOnCompositeTypes s d B.noEmptyTypeName).2 fragComp,
    (C08_KnownArgumentNames s d hwp B.kinds).2 argNames,
    (C08_KnownDirectives s d B.kinds).2 ⟨dirsDef, dirsLoc⟩,
    (C08_KnownFragmentNames s d).2 spreadsDef,
    (C08_KnownRootType s d).2 rootType,
    types.1,
    (C08_LoneAnonymousOperation s d).2 lone,
    C08_MaxIntrospectionDepth_sound s d depth,
    (C08_NoFragmentCycles s d fragUniq).2 cycles,
    (C08_NoUndefinedVariables s d fragUniq B.constDefaults).2 varsDef,
    (C08_NoUnusedFragments s d cycles fragUniq).2 fragsUsed,
    (C08_NoUnusedVariables s d fragUniq B.constDefaults varUniq).2 varsUsed,
    (C08_PossibleFragmentSpreads s d hwp B.noEmptyTypeName B.possibleOK).2 possible,
    (C08_ProvidedRequiredArguments s d hwp B.kinds).2 reqArgs,
    (C08_ScalarLeafs s d hwp B.outputTypes).2 leafs,
    C08_SingleFieldSubscriptions_complete s d B.subscriptionRoot spreadsDef B.typeConds root1,
    (C08_UniqueArgumentNames s d B.kinds).2 argUniq,
    (C08_UniqueDirectivesPerLocation s d B.kinds dirsDef).2 dirsUniq,
    (C08_UniqueFragmentNames s d).2 fragUniq,
    C08_UniqueInputFieldNames_sound s d inputUniq,
    (C08_UniqueOperationNames s d lone).2 opNames,
    (C08_UniqueVariableNames s d).2 varUniq,
    (C08_ValuesOfCorrectType s d hwp fragUniq B.constDefaults B.schemaOK
      (rootsInput_of_closed s d B.argTypes B.directiveArgTypes varTypes) B.numLiterals B.leaves B.usePos).2 valuesOK,
    types.2,
    (C08_VariablesInAllowedPosition_harmless s d hwp fragUniq B.constDefaults B.inputPositions
      (variableTypesNamed_of_exist s d B.noEmptyTypeName (variablesAreInputTypes_exist s d varTypes)) hdl).2 varsAllowed⟩

/-- **C08, partial verdict**: for the 26 default rules with a proved equivalence, run together
    (`validate c08Rules`), the validator accepts exactly the documents that satisfy the 27
    specification predicates these rules stand for — all of `Spec.specVerdicts` except field
    merging (§5.3.2).
    The masked forms of the single-rule theorems need no hypothesis here: their prerequisites are
    members of the same conjunction. -/
theorem C08_default_rules_iff_spec_partial (s : Schema) (d : QueryDoc) (h : C08Hyps s d) :
    validate c08Rules s d = .ok [] ↔
      ((Spec.specVerdicts s d).filter (fun p => !c08Uncovered.contains p.1)).all (·.2) = true :=
  ⟨fun hv => c08Rules_sound h.toBase h.wellParented h.selectRoot (.inl h.rootKeys) ((C08_rule_list_silent_iff c08Rules s d).1 hv),
    fun hs => (C08_rule_list_silent_iff c08Rules s d).2 (c08Rules_complete h.toBase h.wellParented h.defaultedLocations hs)⟩

namespace CapstoneWitness
def at' (n : Nat) : Pos := { start := n, stop := n + 1, line := 1, col := n + 1 }
def tInt : GType := .named (str "Int") false Pos.zero
def intDef : Definition :=
  { kind := .scalar, desc := [], name := str "Int", dirs := [], interfaces := [], fields := [], types := [],
    enumValues := [], pos := Pos.zero, builtIn := true }
/-- `type Q { a: Int  f(x: Int): Int }` -/
def qDef : Definition :=
  { kind := .object, desc := [], name := str "Q", dirs := [], interfaces := [],
    fields := [{ desc := [], name := str "a", args := [], default := none, type := tInt, dirs := [], pos := Pos.zero },
               { desc := [], name := str "f",
                 args := [{ desc := [], name := str "x", default := none, type := tInt, dirs := [], pos := Pos.zero }],
                 default := none, type := tInt, dirs := [], pos := Pos.zero }],
    types := [], enumValues := [], pos := Pos.zero, builtIn := false }
def schema : Schema :=
  { Schema.empty with query := some (str "Q"), types := [(str "Int", intDef), (str "Q", qDef)],
                      possibleTypes := [(str "Q", [str "Q"])] }
/-- `query($v: Int) { f(x: $<use>) ...F }  fragment F on Q { a }` -/
def doc (use : String) : QueryDoc :=
  { ops := [{ op := str "query", name := [],
              vars := [{ var := str "v", type := tInt, default := none, dirs := [], pos := at' 6 }], dirs := [],
              sel := .cons (.field [] (str "f")
                        [{ name := str "x", value := .mk .variable (str use) .nil (at' 24), pos := at' 21 }] [] .nil (at' 19))
                      (.cons (.spread (str "F") [] (at' 28)) .nil), pos := at' 0 }],
    frags := [{ name := str "F", vars := [], typeCond := str "Q", dirs := [],
                sel := .cons (.field [] (str "a") [] [] .nil (at' 55)) .nil, pos := at' 36 }] }

/-- `query($v: Int) { f(x: $v) ...F }  fragment F on Q { a }` -/
def docV : QueryDoc := doc "v"
/-- `query($v: Int) { f(x: $w) ...F }  fragment F on Q { a }` -/
def docW : QueryDoc := doc "w"
end CapstoneWitness

/-- the two witness documents differ in one variable name: every hypothesis of the capstone is evaluated, for each -/
theorem CapstoneWitness.hyps_doc {use : String} (h : use = "v" ∨ use = "w") :
    C08Hyps CapstoneWitness.schema (CapstoneWitness.doc use) := by
  rcases h with rfl | rfl <;> exact
    { kinds := by decide +kernel, wellParented := by decide +kernel, outputTypes := by decide +kernel,
      noEmptyTypeName := by decide +kernel, possibleOK := by decide +kernel, subscriptionRoot := by decide +kernel,
      valuesShaped := by decide +kernel, constDefaults := by decide +kernel, typeConds := by decide +kernel,
      selectRoot := by decide +kernel, rootKeys := by decide +kernel, inputPositions := by decide +kernel,
      defaultedLocations := by decide +kernel, schemaOK := by decide +kernel, argTypes := by decide +kernel,
      directiveArgTypes := by decide +kernel, numLiterals := by decide +kernel, leaves := by decide +kernel,
      usePos := by decide +kernel }

/-- the hypotheses of the capstone are satisfiable, with both sides true … -/
theorem CapstoneWitness.hypsV : C08Hyps CapstoneWitness.schema CapstoneWitness.docV :=
  CapstoneWitness.hyps_doc (.inl rfl)
example : ((Spec.specVerdicts CapstoneWitness.schema CapstoneWitness.docV).filter
    (fun p => !c08Uncovered.contains p.1)).all (·.2) = true := by decide +kernel
example : validate c08Rules CapstoneWitness.schema CapstoneWitness.docV = .ok [] :=
  (C08_default_rules_iff_spec_partial _ _ CapstoneWitness.hypsV).2 (by decide +kernel)
/-- … and with both sides false (`$w` is not defined, `$v` is not used) -/
theorem CapstoneWitness.hypsW : C08Hyps CapstoneWitness.schema CapstoneWitness.docW :=
  CapstoneWitness.hyps_doc (.inr rfl)
example : ((Spec.specVerdicts CapstoneWitness.schema CapstoneWitness.docW).filter
    (fun p => !c08Uncovered.contains p.1)).all (·.2) = false := by decide +kernel
example : validate c08Rules CapstoneWitness.schema CapstoneWitness.docW ≠ .ok [] := fun h =>
  absurd ((C08_default_rules_iff_spec_partial _ _ CapstoneWitness.hypsW).1 h) (by decide +kernel)

#print axioms C08_rule_list_silent_iff
#print axioms C08_rules_are_default_rules
#print axioms C08_default_rules_iff_spec_partial
end C08

#print axioms C08_FieldsOnCorrectType
#print axioms C08_FragmentsOnCompositeTypes
#print axioms C08_KnownArgumentNames
#print axioms C08_KnownDirectives
#print axioms C08_KnownFragmentNames
#print axioms C08_LoneAnonymousOperation
#print axioms C08_PossibleFragmentSpreads_loaded
#print axioms C08_ProvidedRequiredArguments
#print axioms C08_ScalarLeafs
#print axioms C08_UniqueArgumentNames
#print axioms C08_UniqueDirectivesPerLocation
#print axioms C08_UniqueDirectivesPerLocation_complete
#print axioms C08_UniqueFragmentNames
#print axioms C08_UniqueOperationNames
#print axioms C08_UniqueOperationNames_iff
#print axioms C08_UniqueVariableNames
#print axioms C08_default_LoneAnonymousOperation


/-! ## End to end: parsed documents, loaded schemas -/
section EndToEnd
open Gql.EndToEnd Gql.Load


/-- the hypotheses of the C08 capstone that speak about the DOCUMENT (shape of parser output, the
    numeric-literal and leaf-lexeme conditions, the side conditions of SingleFieldSubscriptions and of
    the VariablesInAllowedPosition finding): `C08Hyps s d` without its schema-side fields -/
structure C08DocHyps (s : Schema) (d : QueryDoc) : Prop where
  kinds : ∀ op ∈ d.ops, op.op ∈ parserOpKinds
  wellParented : Gql.Validate.Spec.wellParented s d = true
  valuesShaped : valuesShaped s d = true
  constDefaults : constDefaults d = true
  typeConds : ∀ f ∈ d.frags, f.typeCond ≠ []
  selectRoot : subscriptionsSelectRoot s d = true
  rootKeys : rootKeysConsistent s d = true
  defaultedLocations : defaultedLocationsHarmless s d = true
  numLiterals : numLiteralsOK s d = true
  leaves : leavesWellFormed s d = true
  usePos : usePosDistinct s d = true

/-- the hypothesis structure of `C08_default_rules_iff_spec_partial`, for a loaded schema -/
theorem C08Hyps_of_loaded {s : Schema} {d : QueryDoc} (L : LoadedHyps s) (D : C08DocHyps s d) : C08Hyps s d :=
  { D, L with outputTypes := L.outputTypes d }

/-- **the C08 capstone for a loaded schema**: the schema-side hypotheses are discharged by the loader -/
theorem C08_loaded_default_rules_iff_spec_partial {sd : SchemaDoc} {s : Schema} (h : load sd = .ok s)
    (hp : PreludeDeclared sd) (hks : KindFieldless .scalar sd) (hke : KindFieldless .enum sd) (hn : NamesNonEmpty sd) (d : QueryDoc) (D : C08DocHyps s d) :
    validate c08Rules s d = .ok [] ↔
      ((Gql.Validate.Spec.specVerdicts s d).filter (fun p => !c08Uncovered.contains p.1)).all (·.2) = true :=
  C08_default_rules_iff_spec_partial s d (C08Hyps_of_loaded (loaded_hyps h hp hks hke hn) D)


/-- The hypotheses of the capstone that are neither invariants of parser output nor of loader output
    — the genuinely SEMANTIC side conditions:
    * `wellParented`: every selection is written where the type in scope is composite (fails only for
      documents that both sides reject, see the header; it follows from either side of the
      equivalence: `C08_wellParented_of_spec`, `C08_wellParented_of_rules`);
    * `selectRoot`, `rootKeys`: the two hazards of SingleFieldSubscriptions (a subscription that
      collects no root field; two collected root fields with one response key and different names —
      the latter is excluded by field merging §5.3.2, the one rule outside `c08Rules`);
    * `defaultedLocations`: the recorded finding about VariablesInAllowedPosition is not triggered. -/
structure C08SemanticHyps (s : Schema) (d : QueryDoc) : Prop where
  wellParented : Spec.wellParented s d = true
  selectRoot : subscriptionsSelectRoot s d = true
  rootKeys : rootKeysConsistent s d = true
  defaultedLocations : defaultedLocationsHarmless s d = true

/-- the document-side hypotheses of the capstone, for a PARSED document: everything about the shape
    of the tree is discharged by the parser model -/
theorem C08DocHyps_of_parsed {L : Nat} {inp : Bytes} {d : QueryDoc} (hp : Parser.parseQuery L inp = .ok d)
    (s : Schema) (S : C08SemanticHyps s d) : C08DocHyps s d :=
  { S with
    kinds := parsed_kinds hp, valuesShaped := parsed_valuesShaped hp s, constDefaults := parsed_constDefaults hp,
    typeConds := parsed_typeConds hp, numLiterals := parsed_numLiteralsOK hp s,
    leaves := parsed_leavesWellFormed hp s, usePos := parsed_usePosDistinct hp s }

/-- `C08Hyps` for a parsed document and ANY schema that satisfies the schema-side bundle -/
theorem C08Hyps_of_parsed {L : Nat} {inp : Bytes} {d : QueryDoc} (hp : Parser.parseQuery L inp = .ok d)
    {s : Schema} (Ls : LoadedHyps s) (S : C08SemanticHyps s d) : C08Hyps s d :=
  C08Hyps_of_loaded Ls (C08DocHyps_of_parsed hp s S)

/-- **C08 END TO END.**  `sd` loads to the schema `s`, the source text `inp` parses (under any token
    limit `L`) to the document `d`.  Then the 26 default rules with a proved equivalence, run
    together, report nothing iff the 27 specification predicates they stand for hold.
    Hypotheses left:
    * on the schema document: the prelude is part of it (`PreludeDeclared sd`), and the tree has the
      shape the schema parser produces (`KindFieldless`: scalar / enum definitions carry no fields;
      `NamesNonEmpty`) — `load` on arbitrary trees needs them: the kernel-checked
      `Gql.EndToEnd.loaded_kindFieldless_counterexample` and `loaded_noEmptyTypeName_counterexample`
      (`GqlProofs/EndToEnd/Loaded.lean`, trees in its `namespace Witness`);
    * (`rootTypesAreObjects s` is not among them: since the repair "a root operation type must be an object
      type" it is an invariant of `load`, `C07_root_types_are_objects`);
    * the semantic side conditions `C08SemanticHyps s d`. -/
theorem C08_parsed_loaded_iff_spec {sd : SchemaDoc} {s : Schema} (hl : load sd = .ok s)
    (hprel : PreludeDeclared sd) (hks : KindFieldless .scalar sd) (hke : KindFieldless .enum sd) (hn : NamesNonEmpty sd)
    {L : Nat} {inp : Bytes} {d : QueryDoc} (hp : Parser.parseQuery L inp = .ok d) (S : C08SemanticHyps s d) :
    validate c08Rules s d = .ok [] ↔
      ((Spec.specVerdicts s d).filter (fun p => !c08Uncovered.contains p.1)).all (·.2) = true :=
  C08_default_rules_iff_spec_partial s d (C08Hyps_of_parsed hp (loaded_hyps hl hprel hks hke hn) S)

/-- the single-rule theorems whose only hypotheses are about parser shape, over source texts -/
theorem C08_UniqueArgumentNames_parsed {L : Nat} {inp : Bytes} {d : QueryDoc} (hp : Parser.parseQuery L inp = .ok d)
    (s : Schema) : validate [uniqueArgumentNames] s d = .ok [] ↔ Spec.argumentUniqueness s d = true :=
  C08_UniqueArgumentNames s d (parsed_kinds hp)

theorem C08_KnownDirectives_parsed {L : Nat} {inp : Bytes} {d : QueryDoc} (hp : Parser.parseQuery L inp = .ok d)
    (s : Schema) : validate [knownDirectives] s d = .ok [] ↔
      (Spec.directivesAreDefined s d = true ∧ Spec.directivesInValidLocations s d = true) :=
  C08_KnownDirectives s d (parsed_kinds hp)

theorem C08_UniqueInputFieldNames_parsed {L : Nat} {inp : Bytes} {d : QueryDoc} (hp : Parser.parseQuery L inp = .ok d)
    (s : Schema) : validate [uniqueInputFieldNames] s d = .ok [] ↔ Spec.inputObjectFieldUniqueness s d = true :=
  C08_UniqueInputFieldNames s d (parsed_valuesShaped hp s)

/-- **C08 END TO END over SOURCE TEXTS on both sides.**  The schema sources `srcs` (the prelude and the
    user's sources, each with its `BuiltIn` flag) are well-formed UTF-8 and `ParseSchemas` merges them
    into `sd`; `sd` loads to `s`; the query source `inp` parses to `d`.  The tree-shape hypotheses of
    `C08_parsed_loaded_iff_spec` are discharged by the schema parser model
    (`Gql.EndToEnd.parseSchemas_treeHyps`).  Left: the prelude is among the sources
    (`PreludeDeclared sd`) and the semantic side conditions `C08SemanticHyps s d`. -/
theorem C08_sources_iff_spec {Ls : Nat} {srcs : List (Bool × Bytes)} {sd : SchemaDoc} {s : Schema}
    (hsrc : ∀ src ∈ srcs, Lexer.Utf8.valid src.2) (hps : Parser.parseSchemas Ls srcs = .ok sd)
    (hl : load sd = .ok s) (hprel : PreludeDeclared sd)
    {L : Nat} {inp : Bytes} {d : QueryDoc} (hp : Parser.parseQuery L inp = .ok d) (S : C08SemanticHyps s d) :
    validate c08Rules s d = .ok [] ↔
      ((Spec.specVerdicts s d).filter (fun p => !c08Uncovered.contains p.1)).all (·.2) = true :=
  have T := parseSchemas_treeHyps hsrc hps
  C08_parsed_loaded_iff_spec hl hprel T.scalars T.enums T.names hp S


/-! #### `Spec.wellParented` is a consequence of either side -/

/-- the specification side: knownRootType, fragmentSpreadTypeExistence, fragmentsOnCompositeTypes,
    fieldSelections and leafFieldSelections imply `Spec.wellParented` (on a schema with the loader's
    invariants `WPSchema s`) -/
theorem C08_wellParented_of_spec {s : Schema} (W : WPSchema s) (d : QueryDoc)
    (h1 : Spec.knownRootType s d = true) (h2 : Spec.fragmentSpreadTypeExistence s d = true)
    (h3 : Spec.fragmentsOnCompositeTypes s d = true) (h4 : Spec.fieldSelections s d = true)
    (h5 : Spec.leafFieldSelections s d = true) : Spec.wellParented s d = true :=
  wellParented_of_spec W d h1 h2 h3 h4 h5

/-- the validator side: a document on which KnownRootType, KnownTypeNames, FragmentsOnCompositeTypes,
    FieldsOnCorrectType and ScalarLeafs report nothing is well parented -/
theorem C08_wellParented_of_rules {s : Schema} (W : WPSchema s) (hE : s.type? [] = none) (d : QueryDoc)
    (r1 : validate [knownRootType] s d = .ok []) (r2 : validate [knownTypeNames] s d = .ok [])
    (r3 : validate [fragmentsOnCompositeTypes] s d = .ok []) (r4 : validate [fieldsOnCorrectType] s d = .ok [])
    (r5 : validate [scalarLeafs] s d = .ok []) : Spec.wellParented s d = true :=
  wellParented_of_rules W d ((C08_KnownRootType s d).1 r1) ((C08_KnownTypeNames s d).1 r2).1
    ((C08_FragmentsOnCompositeTypes s d hE).1 r3) r4 r5

theorem c08Rules_wellParented {s : Schema} (W : WPSchema s) (hE : s.type? [] = none) (d : QueryDoc)
    (hall : ∀ r ∈ c08Rules, validate [r] s d = .ok []) : Spec.wellParented s d = true :=
  C08_wellParented_of_rules W hE d (hall _ (by simp [c08Rules])) (hall _ (by simp [c08Rules]))
    (hall _ (by simp [c08Rules])) (hall _ (by simp [c08Rules])) (hall _ (by simp [c08Rules]))

/-- every document that validates against a schema with the loader's invariants is well parented -/
theorem C08_wellParented_of_valid {s : Schema} (W : WPSchema s) (hE : s.type? [] = none) (d : QueryDoc)
    (hv : validate c08Rules s d = .ok []) : Spec.wellParented s d = true :=
  c08Rules_wellParented W hE d ((C08_rule_list_silent_iff c08Rules s d).1 hv)

/-- the capstone with `Spec.wellParented` discharged on both sides: `mk` builds the remaining
    hypotheses from well-parentedness -/
theorem C08_default_rules_iff_spec_wp (s : Schema) (d : QueryDoc) (W : WPSchema s) (hE : s.type? [] = none)
    (mk : Spec.wellParented s d = true → C08Hyps s d) :
    validate c08Rules s d = .ok [] ↔
      ((Spec.specVerdicts s d).filter (fun p => !c08Uncovered.contains p.1)).all (·.2) = true := by
  constructor
  · intro hv
    exact (C08_default_rules_iff_spec_partial s d (mk (C08_wellParented_of_valid W hE d hv))).1 hv
  · intro hs
    obtain ⟨_, _, _, rootType, fields, leafs, _, _, _, _, typeEx, fragComp, _⟩ := (c08_covered_iff s d).1 hs
    exact (C08_default_rules_iff_spec_partial s d
      (mk (C08_wellParented_of_spec W d rootType typeEx fragComp fields leafs))).2 hs

/-- what is left of `C08SemanticHyps` once `Spec.wellParented` is derived -/
structure C08ResidualHyps (s : Schema) (d : QueryDoc) : Prop where
  selectRoot : subscriptionsSelectRoot s d = true
  rootKeys : rootKeysConsistent s d = true
  defaultedLocations : defaultedLocationsHarmless s d = true

/-- the capstone for a loaded schema document (a tree, the tree-shape hypotheses explicit) and a parsed query,
    `Spec.wellParented` discharged -/
theorem C08_parsed_loaded_iff_spec_wp {sd : SchemaDoc} {s : Schema} (hl : load sd = .ok s)
    (hprel : PreludeDeclared sd) (hks : KindFieldless .scalar sd) (hke : KindFieldless .enum sd)
    (hku : KindFieldless .union sd) (hn : NamesNonEmpty sd)
    {L : Nat} {inp : Bytes} {d : QueryDoc} (hp : Parser.parseQuery L inp = .ok d) (R : C08ResidualHyps s d) :
    validate c08Rules s d = .ok [] ↔
      ((Spec.specVerdicts s d).filter (fun p => !c08Uncovered.contains p.1)).all (·.2) = true :=
  have LH := loaded_hyps hl hprel hks hke hn
  C08_default_rules_iff_spec_wp s d (loaded_wpSchema hl hprel hku) LH.noEmptyTypeName
    (fun hwp => C08Hyps_of_parsed hp LH { R with wellParented := hwp })

/-- **C08 END TO END, `Spec.wellParented` discharged.**  Schema sources → `ParseSchemas` → `load`; query
    source → `parseQuery`.  The 26 rules report nothing iff the 27 predicates hold.  Hypotheses left:
    the prelude is among the schema sources and `C08ResidualHyps s d`: the two hazards of SingleFieldSubscriptions
    (`selectRoot`; `rootKeys`, a consequence of field merging §5.3.2, the one rule outside `c08Rules`)
    and the recorded finding about VariablesInAllowedPosition (`defaultedLocations`). -/
theorem C08_sources_iff_spec_wp {Ls : Nat} {srcs : List (Bool × Bytes)} {sd : SchemaDoc} {s : Schema}
    (hsrc : ∀ src ∈ srcs, Lexer.Utf8.valid src.2) (hps : Parser.parseSchemas Ls srcs = .ok sd)
    (hl : load sd = .ok s) (hprel : PreludeDeclared sd)
    {L : Nat} {inp : Bytes} {d : QueryDoc} (hp : Parser.parseQuery L inp = .ok d) (R : C08ResidualHyps s d) :
    validate c08Rules s d = .ok [] ↔
      ((Spec.specVerdicts s d).filter (fun p => !c08Uncovered.contains p.1)).all (·.2) = true :=
  have T := parseSchemas_treeHyps hsrc hps
  C08_parsed_loaded_iff_spec_wp hl hprel T.scalars T.enums T.unions T.names hp R

end EndToEnd

#print axioms C08_wellParented_of_spec
#print axioms C08_wellParented_of_rules
#print axioms C08_wellParented_of_valid
#print axioms C08_default_rules_iff_spec_wp
#print axioms C08_sources_iff_spec_wp
#print axioms C08_parsed_loaded_iff_spec_wp
#print axioms C08_sources_iff_spec
#print axioms C08DocHyps_of_parsed
#print axioms C08_parsed_loaded_iff_spec
#print axioms C08_UniqueArgumentNames_parsed
#print axioms C08_KnownDirectives_parsed
#print axioms C08_UniqueInputFieldNames_parsed
section C08
open Gql Gql.Validate Gql.Validate.Rules

def c08AllRules : List Rule :=
  [ fieldsOnCorrectType, fragmentsOnCompositeTypes, knownArgumentNames, knownDirectives, knownFragmentNames,
    knownRootType, knownTypeNames, loneAnonymousOperation, maxIntrospectionDepth, noFragmentCycles,
    noUndefinedVariables, noUnusedFragments, noUnusedVariables, overlappingFieldsCanBeMerged, possibleFragmentSpreads,
    providedRequiredArguments, scalarLeafs, singleFieldSubscriptions, uniqueArgumentNames, uniqueDirectivesPerLocation,
    uniqueFragmentNames, uniqueInputFieldNames, uniqueOperationNames, uniqueVariableNames, valuesOfCorrectType,
    variablesAreInputTypes, variablesInAllowedPosition ]

/-- `c08AllRules` IS the default rule list of the library -/
theorem C08_all_rules_eq_default : defaultRules = c08AllRules := defaultRules_eq

theorem C08_all_rules_are_default_rules : c08AllRules.map (·.name) = defaultRules.map (·.name) := by
  rw [C08_all_rules_eq_default]

theorem C08_all_rules_split (P : Rule → Prop) :
    (∀ r ∈ c08AllRules, P r) ↔ (∀ r ∈ c08Rules, P r) ∧ P overlappingFieldsCanBeMerged := by
  simp only [c08AllRules, c08Rules, List.mem_cons, List.not_mem_nil, or_false, forall_eq_or_imp, forall_eq]
  exact iff_of_eq (by ac_rfl)

theorem defaultRules_silent_iff (s : Schema) (d : QueryDoc) :
    validate defaultRules s d = .ok [] ↔
      (∀ r ∈ c08Rules, validate [r] s d = .ok []) ∧ validate [overlappingFieldsCanBeMerged] s d = .ok [] := by
  rw [C08_all_rules_eq_default, C08_rule_list_silent_iff, C08_all_rules_split]

/-- **C08, verdict**: the 27 default rules, run together, accept exactly the documents that satisfy all
    28 specification predicates (`Spec.specValid`), field merging (§5.3.2) included. -/
theorem C08_default_rules_iff_spec (s : Schema) (d : QueryDoc) (h : C08Hyps s d) (ho : C08OverlapHyps s d) :
    validate c08AllRules s d = .ok [] ↔ Spec.specValid s d = true := by
  -- all but field merging is the partial verdict; given its predicates, field merging is the 27th rule
  rw [C08_rule_list_silent_iff, C08_all_rules_split, ← C08_rule_list_silent_iff c08Rules, C08_default_rules_iff_spec_partial s d h,
    specValid_iff_covered_and_merging]
  exact and_congr_right (overlap_iff_of_covered ho h.wellParented)

#print axioms C08_all_rules_are_default_rules
#print axioms C08_default_rules_iff_spec
end C08

section C08
open Gql Gql.Validate Gql.Validate.Rules

/-- **C08**: `validate` with the default rules accepts exactly the documents that satisfy all
    specification predicates -/
theorem C08_validate_default_iff_spec (s : Schema) (d : QueryDoc) (h : C08Hyps s d) (ho : C08OverlapHyps s d) :
    validate defaultRules s d = .ok [] ↔ Spec.specValid s d = true := by
  rw [C08_all_rules_eq_default]
  exact C08_default_rules_iff_spec s d h ho

#print axioms C08_validate_default_iff_spec
end C08

/-! ## The whole default rule set, over source texts -/
section C08Final
open Gql Gql.Validate Gql.Validate.Rules Gql.EndToEnd Gql.Load

/-- the side condition `subscriptionsSelectRoot` of `C08_SingleFieldSubscriptions` (every subscription collects
    at least one root field) is part of the specification predicate §5.2.3.1 itself ("exactly one entry") -/
theorem C08_subscriptionsSelectRoot_of_spec (s : Schema) (d : QueryDoc) (h : Spec.singleRootField s d = true) :
    subscriptionsSelectRoot s d = true := by
  unfold subscriptionsSelectRoot
  rw [List.all_eq_true]
  intro op hop
  by_cases hk : op.op = Spec.kwSubscription
  · cases hobj : Spec.rootDef s op.op with
    | none => simp
    | some obj =>
      have h1 := (singleRootField_iff s d).1 h op hop hk obj hobj
      cases hfs : Spec.collectRootFields s d obj op.sel with
      | nil => rw [hfs] at h1; exact absurd h1 (by decide)
      | cons f fs => simp [hfs]
  · simp [hk]

/-- **no invalid request passes** (trees): a document on which the 27 default rules report nothing
    satisfies all 28 specification predicates.  Neither `Spec.wellParented` nor `rootKeysConsistent` nor
    `defaultedLocationsHarmless` is assumed: the first follows from the silence of five rules
    (`C08_wellParented_of_rules`), the second from the silence of OverlappingFieldsCanBeMerged
    (`C08_rootKeysConsistent_of_merging`), and the recorded finding about VariablesInAllowedPosition only
    makes the rule report MORE than the specification (`C08_VariablesInAllowedPosition_complete`).
    Left: `subscriptionsSelectRoot`. -/
theorem C08_default_rules_sound (s : Schema) (d : QueryDoc) (B : C08BaseHyps s d) (W : WPSchema s)
    (ho : C08OverlapHyps s d) (hsel : subscriptionsSelectRoot s d = true)
    (hv : validate defaultRules s d = .ok []) : Spec.specValid s d = true := by
  obtain ⟨hall, ro⟩ := (defaultRules_silent_iff s d).1 hv
  have hwp := c08Rules_wellParented W B.noEmptyTypeName d hall
  have hc := c08Rules_sound B hwp hsel (.inr ⟨ho, ro⟩) hall
  exact (specValid_iff_covered_and_merging s d).2 ⟨hc, (overlap_iff_of_covered ho hwp hc).1 ro⟩

/-- **no valid request is rejected** (trees): a document that satisfies all 28 specification predicates
    passes the 27 default rules — PROVIDED the recorded finding about VariablesInAllowedPosition is not
    triggered (`defaultedLocationsHarmless`; needed: `C08_VariablesInAllowedPosition_counterexample_location_default`).
    `Spec.wellParented` follows from the specification predicates; `subscriptionsSelectRoot` and
    `rootKeysConsistent`, which only the other direction reads, are not needed. -/
theorem C08_default_rules_complete (s : Schema) (d : QueryDoc) (B : C08BaseHyps s d) (W : WPSchema s)
    (ho : C08OverlapHyps s d) (hdl : defaultedLocationsHarmless s d = true)
    (hs : Spec.specValid s d = true) : validate defaultRules s d = .ok [] := by
  obtain ⟨hc, hm⟩ := (specValid_iff_covered_and_merging s d).1 hs
  obtain ⟨_, _, _, hroot, hfs, hleaf, _, _, _, _, htc, hcomp, _⟩ := (c08_covered_iff s d).1 hc
  have hwp := C08_wellParented_of_spec W d hroot htc hcomp hfs hleaf
  exact (defaultRules_silent_iff s d).2 ⟨c08Rules_complete B hwp hdl hc, (overlap_iff_of_covered ho hwp hc).2 hm⟩

/-- **C08 for the whole default rule set** (trees): the semantic hypotheses `Spec.wellParented` and
    `rootKeysConsistent` of `C08_validate_default_iff_spec` are discharged -/
theorem C08_validate_default_iff_spec_base (s : Schema) (d : QueryDoc) (B : C08BaseHyps s d) (W : WPSchema s)
    (ho : C08OverlapHyps s d) (hsel : subscriptionsSelectRoot s d = true)
    (hdl : defaultedLocationsHarmless s d = true) :
    validate defaultRules s d = .ok [] ↔ Spec.specValid s d = true :=
  ⟨C08_default_rules_sound s d B W ho hsel, C08_default_rules_complete s d B W ho hdl⟩

/-! ### from source texts -/

/-- everything the parser and the loader guarantee, at once: schema sources → `ParseSchemas` → `load`,
    query source → `parseQuery` -/
theorem C08_hyps_of_sources {Ls : Nat} {srcs : List (Bool × Bytes)} {sd : SchemaDoc} {s : Schema}
    (hsrc : ∀ src ∈ srcs, Lexer.Utf8.valid src.2) (hps : Parser.parseSchemas Ls srcs = .ok sd)
    (hl : load sd = .ok s) (hprel : PreludeDeclared sd)
    {L : Nat} {inp : Bytes} {d : QueryDoc} (hp : Parser.parseQuery L inp = .ok d) :
    C08BaseHyps s d ∧ WPSchema s ∧ C08OverlapHyps s d := by
  have T := parseSchemas_treeHyps hsrc hps
  have LH := loaded_hyps hl hprel T.scalars T.enums T.names
  refine ⟨?_, loaded_wpSchema hl hprel T.unions, ?_⟩
  · exact
      { LH with
        kinds := parsed_kinds hp, outputTypes := LH.outputTypes d, valuesShaped := parsed_valuesShaped hp s,
        constDefaults := parsed_constDefaults hp, typeConds := parsed_typeConds hp,
        numLiterals := parsed_numLiteralsOK hp s, leaves := parsed_leavesWellFormed hp s,
        usePos := parsed_usePosDistinct hp s }
  · exact
      { fieldTypesClosed := LH.closed.fieldTypes, hasString := LH.hasString,
        keys := C08_overlap_keysOK_of_consistent s LH.keys, setStarts := parsed_setStartsNodup hp }


/-- a document without subscription operations satisfies `subscriptionsSelectRoot` trivially -/
theorem C08_subscriptionsSelectRoot_of_no_subscription (s : Schema) (d : QueryDoc)
    (h : ∀ op ∈ d.ops, op.op ≠ Spec.kwSubscription) : subscriptionsSelectRoot s d = true := by
  unfold subscriptionsSelectRoot
  rw [List.all_eq_true]
  intro op hop
  simp [h op hop]

/-- **C08, FINAL STATEMENT OVER SOURCE TEXTS, THE WHOLE DEFAULT RULE SET.**  The schema sources `srcs`
    (the prelude and the user's sources, each with its `BuiltIn` flag) are well-formed UTF-8 and
    `ParseSchemas` merges them into `sd`; `sd` loads to the schema `s`; the query source `inp` parses
    (under any token limit `L`) to the document `d`.  Then `validate` with the 27 default rules reports
    nothing iff all 28 specification predicates hold (`Spec.specValid`).
    Every parser-shape and loader-invariant side condition is discharged (`C08_hyps_of_sources`), among
    them the node identity assumption of the OverlappingFieldsCanBeMerged model (`parsed_setStartsNodup`);
    `Spec.wellParented` and `rootKeysConsistent` are derived on both sides.  Hypotheses left:
    * `PreludeDeclared sd`: the prelude is among the schema sources (the model contains no prelude text);
    * `subscriptionsSelectRoot s d`: every subscription operation collects at least one root field.  NOT a
      consequence of the other rules: `C08_subscription_without_root_field_counterexample` (the rule tests
      `len(fields) > 1`, §5.2.3.1 demands exactly one entry) — used only in the direction ⇒;
    * `defaultedLocationsHarmless s d`: the recorded finding about VariablesInAllowedPosition is not triggered
      (`C08_VariablesInAllowedPosition_counterexample_location_default`) — used only in the direction ⇐. -/
theorem C08_sources_default_iff_spec {Ls : Nat} {srcs : List (Bool × Bytes)} {sd : SchemaDoc} {s : Schema}
    (hsrc : ∀ src ∈ srcs, Lexer.Utf8.valid src.2) (hps : Parser.parseSchemas Ls srcs = .ok sd)
    (hl : load sd = .ok s) (hprel : PreludeDeclared sd)
    {L : Nat} {inp : Bytes} {d : QueryDoc} (hp : Parser.parseQuery L inp = .ok d)
    (hsel : subscriptionsSelectRoot s d = true) (hdl : defaultedLocationsHarmless s d = true) :
    validate defaultRules s d = .ok [] ↔ Spec.specValid s d = true :=
  have ⟨B, W, ho⟩ := C08_hyps_of_sources hsrc hps hl hprel hp
  C08_validate_default_iff_spec_base s d B W ho hsel hdl

/-- **no valid request is rejected** (source texts): a request that satisfies every specification
    predicate passes validation — unless the recorded finding about VariablesInAllowedPosition is triggered
    (`defaultedLocationsHarmless`) -/
theorem C08_no_valid_request_rejected {Ls : Nat} {srcs : List (Bool × Bytes)} {sd : SchemaDoc} {s : Schema}
    (hsrc : ∀ src ∈ srcs, Lexer.Utf8.valid src.2) (hps : Parser.parseSchemas Ls srcs = .ok sd)
    (hl : load sd = .ok s) (hprel : PreludeDeclared sd)
    {L : Nat} {inp : Bytes} {d : QueryDoc} (hp : Parser.parseQuery L inp = .ok d)
    (hdl : defaultedLocationsHarmless s d = true)
    (hs : Spec.specValid s d = true) : validate defaultRules s d = .ok [] :=
  have ⟨B, W, ho⟩ := C08_hyps_of_sources hsrc hps hl hprel hp
  C08_default_rules_complete s d B W ho hdl hs

/-- **no invalid request passes** (source texts): a request that passes validation satisfies every
    specification predicate — provided its subscriptions collect a root field (`subscriptionsSelectRoot`;
    without it: `C08_subscription_without_root_field_counterexample`).  `defaultedLocationsHarmless` is NOT
    needed: the recorded finding only makes the validator reject more. -/
theorem C08_no_invalid_request_passes {Ls : Nat} {srcs : List (Bool × Bytes)} {sd : SchemaDoc} {s : Schema}
    (hsrc : ∀ src ∈ srcs, Lexer.Utf8.valid src.2) (hps : Parser.parseSchemas Ls srcs = .ok sd)
    (hl : load sd = .ok s) (hprel : PreludeDeclared sd)
    {L : Nat} {inp : Bytes} {d : QueryDoc} (hp : Parser.parseQuery L inp = .ok d)
    (hsel : subscriptionsSelectRoot s d = true)
    (hv : validate defaultRules s d = .ok []) : Spec.specValid s d = true :=
  have ⟨B, W, ho⟩ := C08_hyps_of_sources hsrc hps hl hprel hp
  C08_default_rules_sound s d B W ho hsel hv

/-- for a request without subscription operations: no invalid request passes, no side condition left
    but the prelude -/
theorem C08_no_invalid_request_passes_no_subscription {Ls : Nat} {srcs : List (Bool × Bytes)} {sd : SchemaDoc} {s : Schema}
    (hsrc : ∀ src ∈ srcs, Lexer.Utf8.valid src.2) (hps : Parser.parseSchemas Ls srcs = .ok sd)
    (hl : load sd = .ok s) (hprel : PreludeDeclared sd)
    {L : Nat} {inp : Bytes} {d : QueryDoc} (hp : Parser.parseQuery L inp = .ok d)
    (hq : ∀ op ∈ d.ops, op.op ≠ Spec.kwSubscription)
    (hv : validate defaultRules s d = .ok []) : Spec.specValid s d = true :=
  C08_no_invalid_request_passes hsrc hps hl hprel hp (C08_subscriptionsSelectRoot_of_no_subscription s d hq) hv


/-- **C08 for the API as it is called** — `LoadSchema(sources…)` puts the embedded prelude (BuiltIn) in
    front of the caller's sources.  `Gen.preludeBytes` IS that text (regenerated from
    /repo/validator/imported/prelude.graphql on every run); the parser model reads it and the result
    declares every built-in scalar, introspection type and directive (`Prelude.prelude_checked`, one
    kernel evaluation), so `PreludeDeclared` is not a hypothesis here: for ANY well-formed user sources
    that load together with the prelude, and any query text that parses, the 27 default rules report
    nothing iff all specification predicates hold — up to the two recorded findings. -/
theorem C08_loadSchema_default_iff_spec {Ls : Nat} {user : List (Bool × Bytes)} {sd : SchemaDoc} {s : Schema}
    (huser : ∀ src ∈ user, Lexer.Utf8.valid src.2)
    (hps : Parser.parseSchemas Ls ((true, Gen.preludeBytes) :: user) = .ok sd) (hl : load sd = .ok s)
    {L : Nat} {inp : Bytes} {d : QueryDoc} (hp : Parser.parseQuery L inp = .ok d)
    (hsel : subscriptionsSelectRoot s d = true) (hdl : defaultedLocationsHarmless s d = true) :
    validate defaultRules s d = .ok [] ↔ Spec.specValid s d = true :=
  C08_sources_default_iff_spec
    (Prelude.sources_utf8 huser)
    hps hl (Prelude.sources_with_prelude_declared hps) hp hsel hdl

/-- no invalid request without subscriptions passes, for schemas loaded the way `LoadSchema` loads them:
    NO side condition left -/
theorem C08_loadSchema_no_invalid_request_passes_no_subscription {Ls : Nat} {user : List (Bool × Bytes)} {sd : SchemaDoc} {s : Schema}
    (huser : ∀ src ∈ user, Lexer.Utf8.valid src.2)
    (hps : Parser.parseSchemas Ls ((true, Gen.preludeBytes) :: user) = .ok sd) (hl : load sd = .ok s)
    {L : Nat} {inp : Bytes} {d : QueryDoc} (hp : Parser.parseQuery L inp = .ok d)
    (hq : ∀ op ∈ d.ops, op.op ≠ Spec.kwSubscription)
    (hv : validate defaultRules s d = .ok []) : Spec.specValid s d = true :=
  C08_no_invalid_request_passes_no_subscription
    (Prelude.sources_utf8 huser)
    hps hl (Prelude.sources_with_prelude_declared hps) hp hq hv


end C08Final

#print axioms C08_specValid_iff
#print axioms C08_rootKeysConsistent_of_merging
#print axioms C08_subscriptionsSelectRoot_of_spec
#print axioms C08_subscriptionsSelectRoot_of_no_subscription
#print axioms C08_default_rules_sound
#print axioms C08_default_rules_complete
#print axioms C08_validate_default_iff_spec_base
#print axioms C08_hyps_of_sources
#print axioms C08_sources_default_iff_spec
#print axioms C08_no_valid_request_rejected
#print axioms C08_no_invalid_request_passes
#print axioms C08_no_invalid_request_passes_no_subscription

/- non-vacuity of the final statements and the need for the two residual hypotheses, over SOURCE TEXTS
   (one kernel evaluation of lexer, parsers, loader, specification and rules: `SourceWitness.check_true`):
   the prelude source `SourceWitness.preludeText` (the five built-in scalars, the four built-in directives, the
   eight introspection types) and the schema source
     schema { query: Q subscription: S } interface I { a: Int } type S implements I { a: Int }
     type O implements I { a: Int } type Q { a: Int f(x: Int): Int g(r: Int! = 5): Int } -/
section C08FinalWitness
open Gql Gql.Validate Gql.Validate.Rules Gql.EndToEnd Gql.Load Gql.EndToEnd.SourceWitness

/-- the 27 default rules, each run alone, report nothing ⇒ `validate defaultRules` reports nothing -/
theorem C08_validate_default_of_silent {s : Schema} {d : QueryDoc} (h : silent s d = true) :
    validate defaultRules s d = .ok [] := by
  unfold silent at h
  rw [C08_all_rules_eq_default] at h ⊢
  exact (C08_rule_list_silent_iff c08AllRules s d).2 fun r hr => of_decide_eq_true (List.all_eq_true.1 h r hr)

/-- **the hypotheses of `C08_sources_default_iff_spec` are satisfiable together, both sides true**:
    `query($v: Int) { f(x: $v) ...F } fragment F on Q { a }` -/
theorem C08_sources_default_iff_spec_witness_valid :
    (∀ src ∈ srcs, Lexer.Utf8.valid src.2) ∧ Parser.parseSchemas 0 srcs = .ok sdW ∧ load sdW = .ok sW ∧
    PreludeDeclared sdW ∧ Parser.parseQuery 0 qGood = .ok (docOf qGood) ∧
    subscriptionsSelectRoot sW (docOf qGood) = true ∧ defaultedLocationsHarmless sW (docOf qGood) = true ∧
    validate defaultRules sW (docOf qGood) = .ok [] ∧ Spec.specValid sW (docOf qGood) = true :=
  have O := outcome
  ⟨O.valid, O.parsed, O.loaded, O.prelude, O.good.1, O.good.2.1, O.good.2.2.1,
    C08_no_valid_request_rejected O.valid O.parsed O.loaded O.prelude O.good.1 O.good.2.2.1 O.good.2.2.2.1,
    O.good.2.2.2.1⟩

/-- … both sides false: `query($v: Int) { f(x: $w) ...F } fragment F on Q { a }` -/
theorem C08_sources_default_iff_spec_witness_invalid :
    Parser.parseQuery 0 qBad = .ok (docOf qBad) ∧
    subscriptionsSelectRoot sW (docOf qBad) = true ∧ defaultedLocationsHarmless sW (docOf qBad) = true ∧
    validate defaultRules sW (docOf qBad) ≠ .ok [] ∧ Spec.specValid sW (docOf qBad) = false :=
  have O := outcome
  ⟨O.bad.1, O.bad.2.1, O.bad.2.2.1,
    fun hv => absurd (C08_no_invalid_request_passes O.valid O.parsed O.loaded O.prelude O.bad.1 O.bad.2.1 hv)
      (by rw [O.bad.2.2.2.1]; decide),
    O.bad.2.2.2.1⟩

/-- … a subscription, both sides true: `subscription { ... on I { a } }` -/
theorem C08_sources_default_iff_spec_witness_subscription :
    Parser.parseQuery 0 qSubOne = .ok (docOf qSubOne) ∧
    subscriptionsSelectRoot sW (docOf qSubOne) = true ∧ defaultedLocationsHarmless sW (docOf qSubOne) = true ∧
    validate defaultRules sW (docOf qSubOne) = .ok [] ∧ Spec.specValid sW (docOf qSubOne) = true :=
  have O := outcome
  ⟨O.subOne.1, O.subOne.2.1, O.subOne.2.2.1,
    C08_no_valid_request_rejected O.valid O.parsed O.loaded O.prelude O.subOne.1 O.subOne.2.2.1 O.subOne.2.2.2.1,
    O.subOne.2.2.2.1⟩

/-- **`subscriptionsSelectRoot` is needed — FINDING.**  `subscription { ... on I { ... on O { a } } }` against
    `interface I  type S implements I  type O implements I` with subscription root `S`: both fragment spreads
    are possible (`S` and `O` are possible types of `I`), `O` does not apply to the root type, so
    `CollectFields` yields NO root field.  §5.2.3.1 demands exactly one entry (`Spec.singleRootField` fails,
    hence `Spec.specValid`); the 27 default rules report nothing (SingleFieldSubscriptions tests
    `len(fields) > 1`).  Every other hypothesis of `C08_sources_default_iff_spec` holds. -/
theorem C08_subscription_without_root_field_counterexample :
    (∀ src ∈ srcs, Lexer.Utf8.valid src.2) ∧ Parser.parseSchemas 0 srcs = .ok sdW ∧ load sdW = .ok sW ∧
    PreludeDeclared sdW ∧ Parser.parseQuery 0 qSubZero = .ok (docOf qSubZero) ∧
    defaultedLocationsHarmless sW (docOf qSubZero) = true ∧
    subscriptionsSelectRoot sW (docOf qSubZero) = false ∧
    validate defaultRules sW (docOf qSubZero) = .ok [] ∧ Spec.specValid sW (docOf qSubZero) = false :=
  have O := outcome
  ⟨O.valid, O.parsed, O.loaded, O.prelude, O.subZero.1, O.subZero.2.2.1, O.subZero.2.1,
    C08_validate_default_of_silent O.subZeroSilent, O.subZero.2.2.2.1⟩

/-- **`defaultedLocationsHarmless` is needed — the recorded finding, over source texts and for the whole
    rule set.**  `query($v: Int) { g(r: $v) }` against `g(r: Int! = 5): Int`: the specification allows the
    nullable variable (the location has a default value, §5.8.5), all 28 predicates hold; validation rejects
    the request (VariablesInAllowedPosition).  Every other hypothesis of `C08_sources_default_iff_spec` holds. -/
theorem C08_location_default_counterexample_sources :
    (∀ src ∈ srcs, Lexer.Utf8.valid src.2) ∧ Parser.parseSchemas 0 srcs = .ok sdW ∧ load sdW = .ok sW ∧
    PreludeDeclared sdW ∧ Parser.parseQuery 0 qLocDefault = .ok (docOf qLocDefault) ∧
    subscriptionsSelectRoot sW (docOf qLocDefault) = true ∧
    defaultedLocationsHarmless sW (docOf qLocDefault) = false ∧
    validate defaultRules sW (docOf qLocDefault) ≠ .ok [] ∧ Spec.specValid sW (docOf qLocDefault) = true := by
  have O := outcome
  refine ⟨O.valid, O.parsed, O.loaded, O.prelude, O.locDefault.1, O.locDefault.2.1, O.locDefault.2.2.1, ?_,
    O.locDefault.2.2.2.1⟩
  exact fun hv => of_decide_eq_false O.locDefault.2.2.2.2
    (((defaultRules_silent_iff _ _).1 hv).1 variablesInAllowedPosition (by simp [c08Rules]))

end C08FinalWitness

#print axioms C08_sources_default_iff_spec_witness_valid
#print axioms C08_sources_default_iff_spec_witness_invalid
#print axioms C08_sources_default_iff_spec_witness_subscription
#print axioms C08_subscription_without_root_field_counterexample
#print axioms C08_location_default_counterexample_sources
