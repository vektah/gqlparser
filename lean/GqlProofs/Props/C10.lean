import GqlProofs.Gen.Accounted
import GqlProofs.Validate.Determinism
import GqlProofs.Lemmas.Lists
/-
  C10 — validation is deterministic and repeatable (model side).

  The model of `Validate` is a function; the only places where the Go code's result could depend
  on an order that the language leaves open are (i) `for … range` over a Go map and (ii) an
  unstable sort (`sort.Slice`).  In the modelled code the candidates are:
    * `known_type_names.go`: ranges over `Schema.Types` to collect the suggestion options, and
      sorts them (`sort.Strings`, the R10 repair) before handing them on;
    * `suggestionList.go`: sorts the options by distance (ties!) with `sort.SliceStable` (R10
      repair; `C10_gen_sorts_stable`: no call of an unstable sort is left in the library).
  All other map uses are look-ups by key.  The model represents the schema's maps as association
  lists and reads them only through `Schema.view`: look-ups, plus ONE list derived from a map —
  `SV.typeNames`, consumed through `sortNames`, a sort by a total order.
-/
open Gql Gql.Validate Gql.Validate.Rules

/-- the comparator through which the only map-derived list is consumed is a total order -/
theorem C10_typeNames_comparator_total_order :
    (∀ a b : Bytes, (bytesLe a b || bytesLe b a) = true) ∧
    (∀ a b c : Bytes, bytesLe a b = true → bytesLe b c = true → bytesLe a c = true) ∧
    (∀ a b : Bytes, bytesLe a b = true → bytesLe b a = true → a = b) :=
  ⟨bytesLe_total, bytesLe_trans, bytesLe_antisymm⟩

/-- `suggestionList` applied to bytewise-sorted options (what the model of KnownTypeNames does,
    and what the R10 repair makes the Go code do) is invariant under permutation of the options -/
theorem C10_suggestions_stable (input : Bytes) (options options' : List Bytes) (h : options.Perm options') :
    suggestionList input (sortNames options) = suggestionList input (sortNames options') := by
  rw [sortNames_perm h]

/-- without the pre-sort, `suggestionList` (a stable sort by distance) is invariant under
    permutation of the options exactly as far as there are no ties: if equal distance implies
    equal option, the result does not depend on the order of the options -/
theorem C10_suggestions_perm_no_ties (input : Bytes) (options options' : List Bytes) (h : options.Perm options')
    (noTies : ∀ a ∈ options, ∀ b ∈ options, lexicalDistance input a = lexicalDistance input b → a = b) :
    suggestionList input options = suggestionList input options' := by
  unfold suggestionList
  apply stableSort_eq_of_perm
  · intro a b c h1 h2
    simp only [decide_eq_true_eq] at *
    exact Nat.le_trans h1 h2
  · intro a b
    simp only [Bool.or_eq_true, decide_eq_true_eq]
    exact Nat.le_total _ _
  · intro a b ha hb h1 h2
    simp only [decide_eq_true_eq] at h1 h2
    exact noTies a (List.mem_filter.1 ha).1 b (List.mem_filter.1 hb).1 (Nat.le_antisymm h1 h2)
  · exact h.filter _

/-- ties are real: with two options at the same distance the unsorted result follows the input
    order (this is the order dependence R10 exhibits in the Go code, where the input order is a
    map iteration order) -/
theorem C10_suggestions_order_dependent_counterexample :
    ¬ ∀ (input : Bytes) (options options' : List Bytes), options.Perm options' →
        suggestionList input options = suggestionList input options' := by
  intro h
  have := h (str "Dag") [str "Dog", str "Dig"] [str "Dig", str "Dog"] (List.Perm.swap _ _ _)
  revert this
  decide +kernel

/-- the view the validator reads does not depend on the order of the maps -/
theorem C10_view_order_irrelevant (s s' : Schema) (h : SameMaps s s') : s.view = s'.view := by
  unfold Schema.view
  have e1 : s.type? = s'.type? := by
    funext n; exact (perm_lookup h.types.symm h.typeKeys n).symm
  have e2 : s.directive? = s'.directive? := by
    funext n; exact (perm_lookup h.directives.symm h.directiveKeys n).symm
  have e3 : s.possible = s'.possible := by
    funext n; unfold Schema.possible; rw [perm_lookup h.possibleTypes.symm h.possibleKeys n]
  have e4 : sortNames (s.types.map (·.2.name)) = sortNames (s'.types.map (·.2.name)) :=
    sortNames_perm (h.types.map _)
  rw [h.query, h.mutation, h.subscription, e1, e2, e3, e4]

/-- Determinism: `validate` takes no order oracle — its result is a function of the rule list,
    the document and the schema *as a collection of maps*: permuting the association lists that
    represent `Schema.Types`, `Schema.Directives` and `Schema.PossibleTypes` changes nothing
    (errors, their order, messages — suggestions included — and locations). -/
theorem C10_validate_deterministic (rs : List Rule) (s s' : Schema) (d : QueryDoc) (h : SameMaps s s') :
    validate rs s d = validate rs s' d := by
  unfold validate
  rw [C10_view_order_irrelevant s s' h]

/-- non-vacuity: `SameMaps` relates a schema to a genuinely reordered copy -/
example : SameMaps
    { Schema.empty with types := [(str "A", default), (str "B", default)] }
    { Schema.empty with types := [(str "B", default), (str "A", default)] } :=
  { query := rfl, mutation := rfl, subscription := rfl, types := List.Perm.swap _ _ _, typeKeys := by decide,
    directives := List.Perm.refl _, directiveKeys := by decide, possibleTypes := List.Perm.refl _, possibleKeys := by decide }

#print axioms C10_typeNames_comparator_total_order
#print axioms C10_suggestions_stable
#print axioms C10_suggestions_perm_no_ties
#print axioms C10_suggestions_order_dependent_counterexample
#print axioms C10_view_order_irrelevant
#print axioms C10_validate_deterministic

/-! ### facts regenerated from /repo's sources on every run (GqlModel/Gen/Facts.lean) -/

/-- Every `range` over a map and every reflect MapKeys/MapRange in the library's non-test code is
    one of the classified sites of `Gen.accountedMapRanges` (none is order-relevant for a result). -/
theorem C10_gen_map_ranges_accounted :
    ∀ s ∈ Gql.Gen.mapRanges, (Gql.Gen.accountedMapRanges.lookup s).isSome := by decide +kernel

/-- Every call into package sort is a deterministic one (Strings / SliceStable): no unstable sort. -/
theorem C10_gen_sorts_stable :
    ∀ s ∈ Gql.Gen.sortCalls, s.2 ∈ Gql.Gen.stableSortFuncs := by decide +kernel
