import GqlModel.Format.Model
import GqlModel.Parser.Query
import GqlProofs.Format.FmtTokens
import GqlProofs.Format.FmtInvariant
import GqlProofs.Format.NormPreserve
import GqlProofs.Props.C05
import GqlProofs.EndToEnd.ParsedTop
/-
  Property C12 — format ∘ parse round trip for executable documents.

  Proved here (kernel-checked, about the definitions the driver runs):

  * `C12_quote_roundtrip_bytes`, `C12_quote_is_string_token_bytes`: the GraphQL quoting `gqlQuote`
    (what `Value.String()` uses since the repair of finding R12a) is read back byte for byte by the
    lexer model, for EVERY byte string — well-formed UTF-8 or not: the quoting writes every byte
    ≥ 0x80 verbatim, and since the repair of `readString` the lexer keeps the source bytes of every
    unescaped character also after an escape sequence.  (`C12_quote_roundtrip_gql`,
    `C12_quote_is_string_token` are the well-formed special cases.)
  * `C12_quote_strconv_counterexample`: `strconv.Quote` (the quoting before the repair, model
    `goQuote`) is NOT read back.
  * THE BRIDGE formatter text → tokens, for EVERY configuration whose indentation string consists
    of ignored bytes (TAB, LF, CR, space, comma; the empty string included — separation comes from
    the writer's pad / newline rules, never from the indentation), compacted or not:
      `C12_format_tokens_value … _type … _argument … _argument_list … _directive_list …
       _variable_definition_list … _selection … _selection_set … _operation … _fragment`
    (one theorem per formatter function: what it appends to the writer is a complete sequence of
    token texts for the printed tokens of the subtree) and the document theorem
      `C12_format_tokens : tokensOf (fmtQuery cfg d) = some (printQueryLong (normFmt d))`.
    `printQueryLong` differs from the unparser `printQuery` of C05 exactly where the formatter
    deliberately differs: the operation keyword is always written (`{a}` comes out as
    `query {a}`) and all operations are written before all fragments.  `normFmt` turns block-string
    VALUES into string values (`Value.String()` writes both as a quoted string).
    `C12_format_tokens_printQuery` is the statement with `printQuery` itself (no shorthand
    operation, definitions recorded in that order); `C12_format_tokens_bare_counterexample` shows
    that the side condition is needed.
  * THE ROUND TRIP, with C05's parse ∘ print theorem (`C05_parse_print_long`):
      `C12_format_roundtrip : parseQuery 0 (fmtQuery cfg d) = .ok d' ∧ d'.erasePos = (normFmt d).erasePos`
      `C12_format_fixpoint  : … ∧ fmtQuery cfg d' = fmtQuery cfg d`
      `C12_format_roundtrip_parsed`: the same for every `d` the parser returned (the side
      conditions of C05 hold for parser output; `Formattable d` — decidable — stays a hypothesis).
      END TO END (bottom of this file): `C12_parsed_formattable` — `Formattable d` IS an invariant of
      parser output (one traversal of the parser model, `GqlProofs/EndToEnd/ParsedShape.lean`, on top
      of the lexer facts `GqlProofs/EndToEnd/TokLex.lean`) — hence `C12_format_roundtrip_source`:
      for EVERY source text `inp` (any bytes; no UTF-8 hypothesis is needed since string values are
      written byte for byte) that parses, format ∘ parse is the identity up to positions and
      block-string kind, and formatting is a fixpoint.

  Hypothesis `Formattable d` (GqlProofs/Format/Formattable.lean): names are lexer Names, Int / Float
  raw texts are one number lexeme of that kind, required selection sets are not empty.  String values
  are ARBITRARY bytes (`C12_string_value_illformed_roundtrip`; before the repair of `readString`
  the round trip failed on values that are not well-formed UTF-8).  The writer-state lemmas are in
  `GqlProofs/Format/Writer.lean`, the compositional lexing relation in `GqlProofs/Format/Lexes.lean`.
-/
open Gql Gql.Lexer Gql.Format Gql.Grammar Gql.Print Gql.Parser

/-- Lexing `gqlQuote` body + closing quote from any state of the string loop yields one String
    token whose value is the accumulated prefix followed by the original bytes, and leaves exactly
    `rest`. -/
theorem C12_quote_roundtrip_gql (q : Cur) (rest : Bytes) (cps : List Nat) (hs : ∀ r ∈ cps, IsScalar r)
    (c : Cur) (acc : Bytes) (buf : Bool) :
    ∃ t c', readStringLoop q (gqlQuoteBody (utf8Encode cps) ++ 34 :: rest) c acc buf = .tok t rest c' ∧
      t.kind = .string ∧ t.value = acc.reverse ++ utf8Encode cps :=
  rsl_gqlQuoteBody_bytes q rest _ (utf8Encode cps) (Nat.le_refl _) c acc buf

/-- No UTF-8 hypothesis: for EVERY byte string `bs`, lexing the `gqlQuote` body of `bs` + closing
    quote from any state of the string loop (any cursor, accumulator, buffer on or off) yields one
    String token whose value is the accumulated prefix followed by `bs`, and leaves exactly `rest`.
    (Before the repair of `readString` this failed for ill-formed UTF-8 after an escape: `"\n\xFF"`
    came back as 0A EF BF BD.) -/
theorem C12_quote_roundtrip_bytes (q : Cur) (rest : Bytes) (bs : Bytes) (c : Cur) (acc : Bytes) (buf : Bool) :
    ∃ t c', readStringLoop q (gqlQuoteBody bs ++ 34 :: rest) c acc buf = .tok t rest c' ∧
      t.kind = .string ∧ t.value = acc.reverse ++ bs :=
  rsl_gqlQuoteBody_bytes q rest _ bs (Nat.le_refl _) c acc buf

/-- `readToken` on `gqlQuote bs ++ rest`, for EVERY byte string `bs`, returns the String token with
    value `bs` and the remaining input `rest`.  Side condition (needed, see
    `C12_quote_empty_before_quote_counterexample`): the text is not mistaken for the start of a block
    string, i.e. the value is non-empty or `rest` does not start with a quote. -/
theorem C12_quote_is_string_token_bytes (bs : Bytes) (rest : Bytes) (c : Cur)
    (hblk : bs ≠ [] ∨ rest.head? ≠ some 34) :
    ∃ t c', readToken (gqlQuote bs ++ rest) c = .tok t rest c' ∧ t.kind = .string ∧ t.value = bs :=
  readToken_gqlQuote_bytes bs rest c hblk

/-- `readToken` on `gqlQuote bs ++ rest` (bs well-formed UTF-8) returns the String token with value
    `bs` and the remaining input `rest`.  Side condition: the text is not mistaken for the start of a
    block string, i.e. the value is non-empty or `rest` does not start with a quote. -/
theorem C12_quote_is_string_token (cps : List Nat) (hs : ∀ r ∈ cps, IsScalar r) (rest : Bytes) (c : Cur)
    (hblk : cps ≠ [] ∨ rest.head? ≠ some 34) :
    ∃ t c', readToken (gqlQuote (utf8Encode cps) ++ rest) c = .tok t rest c' ∧
      t.kind = .string ∧ t.value = utf8Encode cps :=
  C12_quote_is_string_token_bytes _ rest c (hblk.imp_left fun h h0 => h (utf8Encode_eq_nil h0))

/-- The quoting of the unchanged tree is not read back: `strconv.Quote("\a")` is `"\a"`, and `\a`
    is not a GraphQL escape (finding R12a). -/
theorem C12_quote_strconv_counterexample :
    ¬ (∀ (cps : List Nat), (∀ r ∈ cps, IsScalar r) → ∀ (rest : Bytes) (c : Cur),
        (cps ≠ [] ∨ rest.head? ≠ some 34) →
        ∃ t c', readToken (goQuote (utf8Encode cps) ++ rest) c = .tok t rest c' ∧
          t.kind = .string ∧ t.value = utf8Encode cps) := by
  intro h
  obtain ⟨t, c', h1, _, _⟩ := h [7] (by intro r hr; simp at hr; subst hr; decide) [] Cur.init (Or.inl (by simp))
  have e : goQuote (utf8Encode [7]) ++ [] = [34, 92, 97, 34] := by
    simp [goQuote, utf8Encode, encodeRune, goQuoteBody, escapedRune, isPrintDefault, inRange, runeError]
  rw [e] at h1
  simp [readToken, readTokenBody, Gql.Lexer.punct_quote, ws, isNameStart, isDigit, readStringLoop.eq_def, mkErr, escapeOut] at h1

/-- the side condition of `C12_quote_is_string_token_bytes` is needed: `""` directly followed by a
    quote is the opening of a block string -/
theorem C12_quote_empty_before_quote_counterexample :
    ¬ ∃ t c', readToken (gqlQuote [] ++ [34]) Cur.init = .tok t [34] c' ∧ t.kind = .string := by
  intro ⟨t, c', h, _⟩
  simp [gqlQuote, gqlQuoteBody, readToken, ws, readTokenBody, Gql.Lexer.punct_quote, isNameStart, isDigit,
    readBlockLoop.eq_def, mkErr] at h

/-- after the escape `\n` the ill-formed byte FF is read back as it stands (before the repair of `readString`:
    as EF BF BD, the re-encoded U+FFFD) -/
example : ∃ t c', readStringLoop Cur.init (gqlQuoteBody [10, 255] ++ [34]) Cur.init [] false = .tok t [] c' ∧
    t.value = [10, 255] := by
  obtain ⟨t, c', h1, _, h3⟩ := C12_quote_roundtrip_bytes Cur.init [] [10, 255] Cur.init [] false
  exact ⟨t, c', h1, by simpa using h3⟩

/-- The plain case, stated on `renderValue` (the model of `Value.String()`): a string value made of
    printable ASCII and the control characters BS, TAB, LF, FF, CR is written so that the lexer model
    reads it back byte for byte.  On these bytes `strconv.Quote` (the quoting before the repair of R12a)
    and the GraphQL quoting `quoteString = gqlQuote` write the same text (`goQuote_plain`), so this much
    held of the unrepaired formatter too. -/
theorem C12_quote_roundtrip_partial (bs : Bytes) (hb : ∀ b ∈ bs, PlainByte b) (p : Pos) (rest : Bytes) (c : Cur)
    (hblk : bs ≠ [] ∨ rest.head? ≠ some 34) :
    ∃ t c', readToken (renderValue (.mk .string bs .nil p) ++ rest) c = .tok t rest c' ∧
      t.kind = .string ∧ t.value = bs := by
  simpa [renderValue, quoteString] using C12_quote_is_string_token_bytes bs rest c hblk

/-- Boundary lemma of the pad state machine, two words: `WriteWord a` then `WriteWord b` puts
    exactly one space between the (trimmed) words, in every state and configuration. -/
theorem C12_words_separated (cfg : Cfg) (a b : Bytes) (w : W) :
    (writeWord cfg b (writeWord cfg a w)).text = w.text ++ lead cfg w ++ trimSpace a ++ [32] ++ trimSpace b := by
  have s := writeWord_state cfg a w
  rw [writeWord_text, writeWord_text]
  simp [lead]

/-- Boundary lemma, general form: in a reachable writer state, what `WriteWord` writes is glued to
    the previous output only when the pad flag is off in the middle of a line (after `WriteString`
    or an explicit `NoPadding`); otherwise one space, or a newline and the indentation, precede. -/
theorem C12_write_boundary (cfg : Cfg) (x : Bytes) (w : W) (hinv : w.Inv) :
    (w.lineHead = false ∧ w.padNext = false ∧ (writeWord cfg x w).text = w.text ++ trimSpace x) ∨
    (w.lineHead = false ∧ w.padNext = true ∧ (writeWord cfg x w).text = w.text ++ [32] ++ trimSpace x) ∨
    (∃ pre, w.text = pre ++ [10] ∧
      (writeWord cfg x w).text = pre ++ [10] ++ repeatBytes cfg.indent w.indentSize ++ trimSpace x) := by
  rw [writeWord_text]
  cases hl : w.lineHead with
  | true =>
    obtain ⟨pre, hp⟩ := hinv hl
    exact Or.inr (Or.inr ⟨pre, hp, by simp [lead, hl, hp]⟩)
  | false =>
    cases hp : w.padNext with
    | true => exact Or.inr (Or.inl ⟨rfl, rfl, by simp [lead, hl, hp]⟩)
    | false => exact Or.inl ⟨rfl, rfl, by simp [lead, hl, hp]⟩

/-- non-vacuity: the hypotheses of the round-trip theorems are satisfiable with interesting input
    (a quote, a backslash, BEL, a non-BMP rune). -/
example : ∀ r ∈ [34, 92, 7, 0x1F600], IsScalar r := by decide
example : ∀ b ∈ [104, 34, 105, 92, 10, 9], PlainByte b := by decide
example : W.Inv {} := inv_init

/-! ### the bridge: formatter text → tokens -/

section Bridge
variable {cfg : Cfg} (hind : BlankIndent cfg)
include hind

/-- `FormatValue`: appends token texts for the tokens of the value -/
theorem C12_format_tokens_value {w : W} {ts : List Tok} (v : Value) (h : I false w ts) (hv : valueOk v = true) :
    LexTo (formatValue cfg v w).text (ts ++ printValue (normValue v)) true := (E_value v hv hind w ts h).toTight

theorem C12_format_tokens_type {w : W} {ts : List Tok} (t : GType) (h : I false w ts) (ht : typeOk t = true) :
    LexTo (formatType cfg t w).text (ts ++ printType t) true := (E_type t ht hind w ts h).toTight

theorem C12_format_tokens_argument {w : W} {ts : List Tok} (a : Argument) (h : I false w ts) (ha : argOk a = true) :
    LexTo (formatArgument cfg a w).text (ts ++ printArgument (normArg a)) true := (E_argument a ha hind w ts h).toTight

theorem C12_format_tokens_argument_list {g : Bool} {w : W} {ts : List Tok} (as : List Argument)
    (h : I g w ts) (ha : as.all argOk = true) :
    I g (formatArgumentList cfg as w) (ts ++ printArguments (as.map normArg)) := E_argumentList as ha g hind w ts h

theorem C12_format_tokens_directive_list {g : Bool} {w : W} {ts : List Tok} (ds : List Directive)
    (h : I g w ts) (hd : ds.all dirOk = true) :
    I g (formatDirectiveList cfg ds w) (ts ++ printDirectives (ds.map normDir)) := E_directiveList ds hd g hind w ts h

theorem C12_format_tokens_variable_definition_list {g : Bool} {w : W} {ts : List Tok} (ds : List VarDef)
    (h : I g w ts) (hd : ds.all varDefOk = true) :
    I g (formatVariableDefinitionList cfg ds w) (ts ++ printVarDefs (ds.map normVarDef)) := E_varDefList ds hd g hind w ts h

theorem C12_format_tokens_selection {w : W} {ts : List Tok} (s : Selection) (h : LexTo w.text ts false)
    (hs : selOk s = true) :
    LexTo (formatSelection cfg s w).text (ts ++ printSelection (normSel s)) false := E_selection s hs (c := .free) hind w ts (I.free h)

theorem C12_format_tokens_selection_set {g : Bool} {w : W} {ts : List Tok} (sel : Selections) (h : I g w ts)
    (hs : selsOk sel = true) :
    I g (formatSelectionSet cfg sel w) (ts ++ optSelSet (normSels sel)) := E_selectionSet sel hs g hind w ts h

theorem C12_format_tokens_operation {w : W} {ts : List Tok} (o : OperationDef) (h : LexTo w.text ts false)
    (ho : opOk o = true) :
    LexTo (formatOperationDefinition cfg o w).text (ts ++ printOperationLong (normOp o)) false :=
  E_operation o ho (c := .free) hind w ts (I.free h)

theorem C12_format_tokens_fragment {w : W} {ts : List Tok} (f : FragmentDef) (h : LexTo w.text ts false)
    (hf : fragOk f = true) :
    LexTo (formatFragmentDefinition cfg f w).text (ts ++ printFragment (normFrag f)) false :=
  E_fragment f hf (c := .free) hind w ts (I.free h)

/-- THE BRIDGE: the text the formatter writes for an executable document lexes (comments and EOF
    aside) to exactly the tokens of the document, every operation with its keyword, operations
    before fragments — for every configuration. -/
theorem C12_format_tokens (d : QueryDoc) (hd : Formattable d) :
    tokensOf (fmtQuery cfg d) = some (printQueryLong (normFmt d)) := by
  have h := E_document d hd hind {} [] LexTo_nil [] [] (Follow_nil _) Lexes_nil
  simpa [fmtQuery] using tokensOf_of_Lexes h

omit hind in
/-- the unparser of C05 prints the same tokens when no operation is in shorthand form and the
    recorded positions put the operations, in order, before the fragments, in order -/
theorem C12_printQuery_eq_long (d : QueryDoc) (hb : ∀ o ∈ d.ops, OperationDef.isBare o = false)
    (hs : (d.ops.map (fun o => o.pos.start) ++ d.frags.map (fun f => f.pos.start)).Pairwise (· ≤ ·)) :
    printQuery d = printQueryLong d := by
  unfold printQuery inSourceOrder printQueryLong
  have hp : (d.ops.map (fun o => (o.pos.start, printOperation o)) ++
      d.frags.map (fun f => (f.pos.start, printFragment f))).Pairwise (fun a b => decide (a.1 ≤ b.1) = true) := by
    have : (d.ops.map (fun o => (o.pos.start, printOperation o)) ++
        d.frags.map (fun f => (f.pos.start, printFragment f))).map (·.1)
        = d.ops.map (fun o => o.pos.start) ++ d.frags.map (fun f => f.pos.start) := by
      simp [List.map_map, Function.comp_def]
    rw [← this, List.pairwise_map] at hs
    exact hs.imp (by intro a b h; simpa using h)
  rw [List.mergeSort_of_pairwise hp]
  have e : d.ops.map printOperation = d.ops.map printOperationLong :=
    List.map_congr_left fun o ho => (printOperationLong_of_not_bare o (hb o ho)).symm
  simp [List.map_map, Function.comp_def, e]

/-- the bridge with the unparser of C05 itself -/
theorem C12_format_tokens_printQuery (d : QueryDoc) (hd : Formattable d)
    (hb : ∀ o ∈ d.ops, OperationDef.isBare o = false)
    (hs : (d.ops.map (fun o => o.pos.start) ++ d.frags.map (fun f => f.pos.start)).Pairwise (· ≤ ·)) :
    tokensOf (fmtQuery cfg d) = some (printQuery (normFmt d)) := by
  rw [C12_format_tokens hind d hd, C12_printQuery_eq_long (normFmt d)]
  · intro o ho
    simp only [normFmt, List.mem_map] at ho
    obtain ⟨o0, ho0, rfl⟩ := ho
    have := hb o0 ho0
    simpa [OperationDef.isBare, normOp] using this
  · simpa [normFmt, normOp, normFrag, List.map_map, Function.comp_def] using hs

/-- THE ROUND TRIP: the formatted text of a formattable, printable document parses, and the result
    is the document (block-string values as string values) up to positions. -/
theorem C12_format_roundtrip (d : QueryDoc) (hd : Formattable d)
    (hops : ∀ o ∈ d.ops, WFOperation o ∧ OpOK o) (hfrags : ∀ f ∈ d.frags, WFFragment f ∧ FragOK f) :
    ∃ d', parseQuery 0 (fmtQuery cfg d) = .ok d' ∧ d'.erasePos = (normFmt d).erasePos := by
  refine C05_parse_print_long (normFmt d) ?_ ?_ (fmtQuery cfg d) ?_
  · intro o ho
    simp only [normFmt, List.mem_map] at ho
    obtain ⟨o0, ho0, rfl⟩ := ho
    exact ⟨WFOperation_norm o0 (hops o0 ho0).1, OpOK_norm o0 (hops o0 ho0).2⟩
  · intro f hf
    simp only [normFmt, List.mem_map] at hf
    obtain ⟨f0, hf0, rfl⟩ := hf
    exact ⟨WFFragment_norm f0 (hfrags f0 hf0).1, FragOK_norm f0 (hfrags f0 hf0).2⟩
  · rw [C12_format_tokens hind d hd]
    have e : (normFmt d).ops.map opLong = (normFmt d).ops.map printOperationLong :=
      List.map_congr_left fun o _ => (printOperationLong_eq_opLong o).symm
    rw [e]; rfl

/-- … and formatting is a fixpoint: formatting the re-parsed document gives the same text. -/
theorem C12_format_fixpoint (d : QueryDoc) (hd : Formattable d)
    (hops : ∀ o ∈ d.ops, WFOperation o ∧ OpOK o) (hfrags : ∀ f ∈ d.frags, WFFragment f ∧ FragOK f) :
    ∃ d', parseQuery 0 (fmtQuery cfg d) = .ok d' ∧ d'.erasePos = (normFmt d).erasePos ∧
      fmtQuery cfg d' = fmtQuery cfg d := by
  obtain ⟨d', h1, h2⟩ := C12_format_roundtrip hind d hd hops hfrags
  exact ⟨d', h1, h2, fmtQuery_congr d d' h2⟩

/-- the round trip and the fixpoint for every document the parser returned -/
theorem C12_format_roundtrip_parsed (inp : Bytes) (d : QueryDoc) (hp : parseQuery 0 inp = .ok d)
    (hd : Formattable d) :
    ∃ d', parseQuery 0 (fmtQuery cfg d) = .ok d' ∧ d'.erasePos = (normFmt d).erasePos ∧
      fmtQuery cfg d' = fmtQuery cfg d := by
  have hpq := C05_parse_printable inp d hp
  exact C12_format_fixpoint hind d hd (fun o ho => hpq.1 o ho) (fun f hf => hpq.2.1 f hf)

end Bridge

/-- the default configuration (indent = one TAB) and every blank indentation are covered -/
theorem C12_blankIndent_default : BlankIndent {} := by
  intro b hb; simp at hb; subst hb; rfl

theorem C12_blankIndent_empty : BlankIndent { indent := [] } := by
  intro b hb; simp at hb

/-- the query `{a}` (shorthand form): formatted as `query {⏎⇥a⏎}⏎`, whose tokens are not the
    unparser's `{ a }` — the side condition of `C12_format_tokens_printQuery` is needed -/
def C12_bareDoc : QueryDoc :=
  { ops := [{ op := str "query", name := [], vars := [], dirs := [],
              sel := .cons (.field (str "a") (str "a") [] [] .nil Pos.zero) .nil, pos := Pos.zero }],
    frags := [] }

theorem C12_format_tokens_bare_counterexample :
    Formattable C12_bareDoc ∧
    tokensOf (fmtQuery {} C12_bareDoc) = some (tKw "query" :: printQuery (normFmt C12_bareDoc)) := by
  refine ⟨by decide, ?_⟩
  rw [C12_format_tokens C12_blankIndent_default C12_bareDoc (by decide)]
  simp [printQueryLong, printQuery, inSourceOrder, normFmt, C12_bareDoc, printOperationLong, printOperation,
    OperationDef.isBare, normOp, tKw, tName, printVarDefs, printDirectives]

/-- non-vacuity of `Formattable`: a document with variables, a default value, directives, an
    alias, nested selections, a block-string value, a fragment spread and an inline fragment -/
def C12_sampleDoc : QueryDoc :=
  { ops := [{ op := str "query", name := str "Q",
              vars := [{ var := str "v", type := .list (.named (str "Int") true Pos.zero) false Pos.zero,
                         default := some (.mk .list [] (.cons [] (.mk .int (str "1") .nil Pos.zero) Pos.zero .nil) Pos.zero),
                         dirs := [], pos := Pos.zero }],
              dirs := [{ name := str "d", args := [], pos := Pos.zero }],
              sel := .cons (.field (str "x") (str "a")
                        [{ name := str "s", value := .mk .block [104, 34, 10] .nil Pos.zero, pos := Pos.zero },
                         { name := str "f", value := .mk .float (str "-1.5e3") .nil Pos.zero, pos := Pos.zero }]
                        [] (.cons (.spread (str "F") [] Pos.zero) .nil) Pos.zero)
                     (.cons (.inline (str "T") [] (.cons (.field (str "b") (str "b") [] [] .nil Pos.zero) .nil) Pos.zero) .nil),
              pos := Pos.zero }],
    frags := [{ name := str "F", vars := [], typeCond := str "T", dirs := [],
                sel := .cons (.field (str "c") (str "c") [] [] .nil Pos.zero) .nil, pos := Pos.zero }] }

example : Formattable C12_sampleDoc := by decide

/-- Input that is not well-formed UTF-8: `{a(s:"⇥\xFF")}` (a raw TAB, then the ill-formed byte FF) parses
    with the value 09 FF; the formatter writes the TAB as `\t` and FF verbatim; the lexer reads `"\t\xFF"`
    back with the value 09 FF (before the repair of `readString`: 09 EF BF BD, the re-encoded U+FFFD).
    `Formattable` asks nothing of string values (`valueOk` is `true` on them) and that suffices: the
    quoting is read back byte for byte whatever the bytes (`C12_quote_is_string_token_bytes`), also for
    this value, which is not well-formed UTF-8 (`strRaw = false`). -/
theorem C12_string_value_illformed_roundtrip :
    (∃ t c', readToken [34, 9, 255, 34] Cur.init = .tok t [] c' ∧ t.kind = .string ∧ t.value = [9, 255]) ∧
    quoteString [9, 255] = [34, 92, 116, 255, 34] ∧
    (∃ t c', readToken (quoteString [9, 255]) Cur.init = .tok t [] c' ∧ t.kind = .string ∧
      t.value = [9, 255]) ∧ strRaw [9, 255] = false ∧
    valueOk (.mk .string [9, 255] .nil Pos.zero) = true := by
  refine ⟨?_, by decide, ?_, by decide, by decide⟩
  · simp [readToken, ws, readTokenBody, isNameStart, isDigit, readStringLoop.eq_def, decodeRune, runeError]
  · have := C12_quote_is_string_token_bytes [9, 255] [] Cur.init (Or.inl (by simp))
    simpa [quoteString] using this

/-- `Formattable` is an invariant of parser output: in every document the parser model returns (with
    or without token limit) names are lexer Names, Int / Float raw texts are number lexemes of their
    kind, and required selection sets are not empty. -/
theorem C12_parsed_formattable (L : Nat) (inp : Bytes) (d : QueryDoc) (hp : parseQuery L inp = .ok d) :
    Formattable d :=
  Gql.EndToEnd.parsed_formattable L inp d hp

/-- **C12 END TO END**: for every source text that the parser accepts (any limit), the formatted text
    of the parsed document parses again, to the same document up to positions (and block-string
    values as string values), and formatting the result gives the same text — for every
    configuration whose indentation consists of ignored bytes.  No hypothesis on the document and
    none on the encoding of the source is left. -/
theorem C12_format_roundtrip_source {cfg : Cfg} (hind : BlankIndent cfg) (L : Nat) (inp : Bytes) (d : QueryDoc)
    (hp : parseQuery L inp = .ok d) :
    ∃ d', parseQuery 0 (fmtQuery cfg d) = .ok d' ∧ d'.erasePos = (normFmt d).erasePos ∧
      fmtQuery cfg d' = fmtQuery cfg d :=
  C12_format_roundtrip_parsed hind inp d (parseQuery_zero hp) (C12_parsed_formattable L inp d hp)

#print axioms C12_parsed_formattable
#print axioms C12_format_roundtrip_source
