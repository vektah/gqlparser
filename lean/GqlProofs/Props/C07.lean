import GqlProofs.Schema.Complete
import GqlProofs.Schema.ExampleLoads
/-
  C07 — a loaded schema is closed and consistent.  Property theorems about `Gql.Load.load`
  (the model of `validator.ValidateSchemaDocument` that the driver runs) and the predicates of
  `Gql.Spec` (which the harness evaluates on the real loader's output).
-/
open Gql Gql.Load

theorem C07_closed_interfaces {sd : SchemaDoc} {s : Schema} (h : load sd = .ok s) : Spec.ClosedInterfaces s := by
  obtain ⟨st, r1, d1, F⟩ := loaded_facts h
  rw [F.eq]
  intro p' hp' i hi
  obtain ⟨p, hp, rfl⟩ := F.mem_types hp'
  obtain ⟨t, ht, hk⟩ := (F.defOK _ hp).interfaces i (finalDef_interfaces _ _ ▸ hi)
  exact typeIs_mkSchema ht (by simp [hk])

theorem C07_closed_unionMembers {sd : SchemaDoc} {s : Schema} (h : load sd = .ok s) : Spec.ClosedUnionMembers s := by
  obtain ⟨st, r1, d1, F⟩ := loaded_facts h
  rw [F.eq]
  intro p' hp' m hm
  obtain ⟨p, hp, rfl⟩ := F.mem_types hp'
  obtain ⟨t, ht, hk⟩ := (F.defOK _ hp).members m (finalDef_types _ _ ▸ hm)
  exact typeIs_mkSchema ht (by simp [hk])

/-- **no nil entry is ever stored** in `PossibleTypes` or `Implements`: in the state every validator
    runs in, whatever the document (also one that is later rejected) — the repaired loader skips
    undeclared union members and interfaces -/
theorem C07_relations_no_nil {sd : SchemaDoc} {st : LState} (h : buildState sd = .ok st) :
    (∀ p ∈ st.possible, ∀ e ∈ p.2, e ≠ none) ∧ (∀ p ∈ st.implements, ∀ e ∈ p.2, e ≠ none) :=
  buildState_noNil h

/-- keys and entries of `PossibleTypes` resolve; in particular no nil entry -/
theorem C07_closed_possibleTypes {sd : SchemaDoc} {s : Schema} (h : load sd = .ok s) : Spec.ClosedPossibleTypes s := by
  obtain ⟨st, r1, d1, F⟩ := loaded_facts h
  rw [F.eq]
  exact relOut_closed F.relInv.1

theorem C07_closed_implements {sd : SchemaDoc} {s : Schema} (h : load sd = .ok s) : Spec.ClosedImplements s := by
  obtain ⟨st, r1, d1, F⟩ := loaded_facts h
  rw [F.eq]
  exact relOut_closed F.relInv.2

theorem C07_closed_roots {sd : SchemaDoc} {s : Schema} (h : load sd = .ok s) : Spec.ClosedRoots s := by
  obtain ⟨st, r1, d1, F⟩ := loaded_facts h
  rw [F.eq]
  obtain ⟨h1, h2, h3⟩ := F.roots
  exact ⟨fun n hn => typeIs_any_mkSchema (h1 n hn), fun n hn => typeIs_any_mkSchema (h2 n hn),
         fun n hn => typeIs_any_mkSchema (h3 n hn)⟩

theorem C07_closed_directiveArgTypes {sd : SchemaDoc} {s : Schema} (h : load sd = .ok s) :
    Spec.ClosedDirectiveArgTypes s := by
  obtain ⟨st, r1, d1, F⟩ := loaded_facts h
  rw [F.eq]
  intro p hp a ha
  obtain ⟨⟨t, ht, hk⟩, _⟩ := validateArgs_pass (F.dirDefOK p hp) a ha
  exact typeIs_mkSchema ht (by rw [isInputKind_eq]; exact hk)

theorem C07_closed_keys {sd : SchemaDoc} {s : Schema} (h : load sd = .ok s) : Spec.KeysConsistent s := by
  obtain ⟨st, r1, d1, F⟩ := loaded_facts h
  rw [F.eq]
  have ht : KeysInv (·.name) (mkSchema sd st r1 d1).types := by
    rw [mkSchema_types]
    split
    · exact keysInv_modifyKV (fun d => rfl) F.typesInv
    · exact F.typesInv
  exact ⟨ht.2, F.dirsInv.2, pairwiseDistinct_of_nodup ht.1, pairwiseDistinct_of_nodup F.dirsInv.1⟩

theorem C07_closed_directiveUses {sd : SchemaDoc} {s : Schema} (h : load sd = .ok s) : Spec.ClosedDirectiveUses s := by
  obtain ⟨st, r1, d1, F⟩ := loaded_facts h
  rw [F.eq]
  refine ⟨fun p' hp' => ?_, fun d hd => ?_, fun p hp a ha => directiveIs_of_pass (validateArgs_pass (F.dirDefOK p hp) a ha).2⟩
  · obtain ⟨p, hp, rfl⟩ := F.mem_types hp'
    have D := F.defOK _ hp
    rw [finalDef_dirs, finalDef_kind, finalDef_enumValues]
    refine ⟨?_, fun f hf => ?_, fun hk v hv => ?_⟩
    · rw [kindLocation_eq]
      exact directiveIs_of_pass D.dirs
    · have hf' : f ∈ p.2.fields ∨ f ∈ introspectionFields := by
        rcases finalDef_fields _ p with e | ⟨e, _⟩ <;> rw [e] at hf
        · exact .inl hf
        · exact List.mem_append.mp hf
      rcases hf' with hf' | hf'
      · exact ⟨directiveIs_of_pass (D.fieldDirs f hf'),
          fun a ha => directiveIs_of_pass (validateArgs_pass (D.fieldArgs f hf') a ha).2⟩
      · -- the introspection fields carry no directives
        simp only [introspectionFields, List.mem_cons, List.mem_nil_iff, or_false] at hf'
        rcases hf' with rfl | rfl <;> simp
    · exact directiveIs_of_pass (kindSpecific_enum D.kindSpecific hk v hv).2.2
  · obtain ⟨dd, h1, h2⟩ := F.schemaDirs d hd
    have : (mkSchema sd st r1 d1).directives = st.directives := rfl
    simp only [Spec.directiveIs, this, h1]
    exact h2

/-- **C07_root_types_are_objects**: the root operation types of every loaded schema — declared by a
    schema definition / extension or inferred from the default names — are object types (GraphQL §3.3.1).
    Since the repair "a root operation type must be an object type"; before it `scalar Query`,
    `input Query { foo: String }`, `schema { query: Int }` and `interface Subscription { … }` loaded. -/
theorem C07_root_types_are_objects {sd : SchemaDoc} {s : Schema} (h : load sd = .ok s) :
    Spec.rootTypesAreObjects s = true :=
  loaded_rootTypesAreObjects h

/-- in particular the query root, which receives `__schema` / `__type`, is not an input object -/
theorem C07_query_root_not_input {sd : SchemaDoc} {s : Schema} (h : load sd = .ok s) : QueryRootNotInput s := by
  have hk := C07_closed_keys h
  intro q d hq hmem hkind
  have h1 := ((rootTypesAreObjects_iff s).mp (loaded_rootTypesAreObjects h)).1 q hq
  simp only [Spec.typeIs, lookup_of_mem_nodup (nodup_of_pairwiseDistinct hk.2.2.1) hmem, hkind] at h1
  cases h1

/-- needs the introspection types (prelude): the introspection fields appended to the query root have output
    types, which an input object must not have; the loader's last check leaves only objects as roots (before
    that repair it appended them to whatever type was the query root). -/
theorem C07_closed_fieldTypes {sd : SchemaDoc} {s : Schema} (h : load sd = .ok s)
    (hp : IntrospectionTypesDeclared sd) : Spec.ClosedFieldTypes s := by
  obtain ⟨st, r1, d1, F⟩ := loaded_facts h
  rw [F.eq]
  intro p' hp' f hf
  obtain ⟨p, hp0, rfl⟩ := F.mem_types hp'
  have D := F.defOK _ hp0
  rw [finalDef_kind]
  have own : f ∈ p.2.fields → Spec.typeIs (mkSchema sd st r1 d1) f.type.name (Spec.fieldPosition p.2.kind) = true := fun hf' =>
    let ⟨t, ht⟩ := D.fieldTypes f hf'
    typeIs_mkSchema ht (fieldPosition_ok D hf' ht)
  rcases finalDef_fields _ p with e | ⟨e, hroot⟩ <;> rw [e] at hf
  · exact own hf
  · rcases List.mem_append.mp hf with hf | hf
    · exact own hf
    · -- `__schema: __Schema!` and `__type: __Type` on the query root, an object by the loader's last check
      rw [checkRootKinds_pass_iff.mp F.rootKinds opQuery rfl p.1 p.2 ((rootOf_query _).trans hroot) (F.lookup_self hp0)]
      obtain ⟨ts, hts, hks⟩ := buildState_declares F.built hp.schema
      obtain ⟨tt, htt, hkt⟩ := buildState_declares F.built hp.type
      simp only [introspectionFields, List.mem_cons, List.mem_nil_iff, or_false] at hf
      rcases hf with rfl | rfl
      · exact typeIs_mkSchema hts (by rw [hks]; rfl)
      · exact typeIs_mkSchema htt (by rw [hkt]; rfl)

theorem C07_closed_argTypes {sd : SchemaDoc} {s : Schema} (h : load sd = .ok s)
    (hp : IntrospectionTypesDeclared sd) : Spec.ClosedArgTypes s := by
  obtain ⟨st, r1, d1, F⟩ := loaded_facts h
  rw [F.eq]
  intro p' hp' f hf a ha
  obtain ⟨p, hp0, rfl⟩ := F.mem_types hp'
  have own : f ∈ p.2.fields → Spec.typeIs (mkSchema sd st r1 d1) a.type.name Spec.isInputKind = true := fun hf' =>
    let ⟨⟨t, ht, hk⟩, _⟩ := validateArgs_pass ((F.defOK _ hp0).fieldArgs f hf') a ha
    typeIs_mkSchema ht (by rw [isInputKind_eq]; exact hk)
  rcases finalDef_fields _ p with e | ⟨e, _⟩ <;> rw [e] at hf
  · exact own hf
  · rcases List.mem_append.mp hf with hf | hf
    · exact own hf
    · -- the only argument of an introspection field is `name: String!`
      obtain ⟨t, ht, hk⟩ := buildState_declares F.built hp.string
      simp only [introspectionFields, List.mem_cons, List.mem_nil_iff, or_false] at hf
      rcases hf with rfl | rfl
      · simp at ha
      · simp only [List.mem_cons, List.mem_nil_iff, or_false] at ha
        subst ha
        exact typeIs_mkSchema ht (by rw [hk]; rfl)

/-- **C07_loaded_closed** : whatever `load` returns is closed — every name reachable from a field
    type, argument type, interface list, union member list, possible-types / implements entry,
    directive application or root resolves to a definition of the right kind, and no relation holds a
    nil entry.  Hypothesis: the introspection types are declared (the prelude is part of the document).
    The loader enforces that the query root is not an input object (`C07_query_root_not_input`). -/
theorem C07_loaded_closed {sd : SchemaDoc} {s : Schema} (h : load sd = .ok s)
    (hp : IntrospectionTypesDeclared sd) : Spec.Closed s :=
  { fieldTypes := C07_closed_fieldTypes h hp, argTypes := C07_closed_argTypes h hp,
    directiveArgTypes := C07_closed_directiveArgTypes h, interfaces := C07_closed_interfaces h,
    unionMembers := C07_closed_unionMembers h, possibleTypes := C07_closed_possibleTypes h,
    implements := C07_closed_implements h, roots := C07_closed_roots h,
    directiveUses := C07_closed_directiveUses h, keys := C07_closed_keys h }

/-- **C07_load_no_panic**: the loader never panics, whatever the document.  (Before the repair
    `schema.go` stored `schema.Types[t]` — nil for an undeclared union member — in `PossibleTypes` and
    `isCovariant` dereferenced it.) -/
theorem C07_load_no_panic (sd : SchemaDoc) : (load sd).isPanic = false := load_ne_panic sd

/-- `interface I { f: U }  type A implements I { f: A }  union U = X`, on which the loader panicked before
    the repair, is rejected with an error (kernel-checked) -/
theorem C07_load_former_panic_witness_rejected : ∃ e, load Examples.panicDoc = .err e :=
  exists_err_of Examples.panicDoc_rejected

/-- the same from the hypothesis that no nil entry is stored in `PossibleTypes`, which holds of every
    document (`C07_relations_no_nil`) -/
theorem C07_load_no_panic_of_noNil {sd : SchemaDoc} (h : ∀ st, buildState sd = .ok st → NoNilPossible st) :
    (load sd).isPanic = false :=
  load_ne_panic_of_state h

/-- the order of a union's members does not matter for the kind of outcome: `union U = A | X` and
    `union U = X` are both rejected with an error -/
example : (load Examples.noPanicDoc).isPanic = false ∧ (load Examples.noPanicDoc).isOk = false ∧
    (load Examples.panicDoc).isPanic = false ∧ (load Examples.panicDoc).isOk = false :=
  ⟨Examples.noPanicDoc_rejected.1, Examples.noPanicDoc_rejected.2, Examples.panicDoc_rejected⟩

/-- non-vacuity: a document that loads -/
example : (load Examples.okDoc).isOk = true := Examples.okDoc_loads

/-- kernel-checked: `input Query { foo: String }` is rejected with "Schema root query must be an object
    type, Query is a INPUT_OBJECT." at the position of the definition of `Query` (before the repair it
    loaded and received `__schema` / `__type`, output-typed fields of an input object, against
    `ClosedFieldTypes`) -/
theorem C07_input_query_root_rejected :
    ∃ e, load Examples.inputQueryDoc = .err e ∧
      e.msg = Msg.rootNotObject opQuery (str "Query") .inputObject ∧ (e.line, e.src) = (1, 1) := by
  have key : (match load Examples.inputQueryDoc with
      | .err e => decide (e.msg = Msg.rootNotObject opQuery (str "Query") .inputObject ∧ (e.line, e.src) = (1, 1))
      | _ => false) = true := by decide +kernel
  cases h : load Examples.inputQueryDoc with
  | err e => rw [h] at key; exact ⟨e, rfl, of_decide_eq_true key⟩
  | ok s => rw [h] at key; cases key
  | panic => rw [h] at key; cases key

/-- … and the specification rejects it by the clause `rootTypesAreObjects` alone -/
theorem C07_input_query_root_illformed :
    Spec.rootTypesAreObjectsDoc Examples.inputQueryDoc = false ∧
    (Spec.clauses Examples.inputQueryDoc).filter (fun c => !c.2) = [("S.rootTypesAreObjects", false)] := by
  decide +kernel

/-- `PossibleTypes` of an interface is exactly the set of object / interface types declaring it, and of
    a union exactly its member list.  (Nothing is asked of the input objects: since the repair they are
    not entered into the relations, see `C07_relations_exact`.) -/
theorem C07_relations_possible_abstract {sd : SchemaDoc} {s : Schema} (h : load sd = .ok s) :
    Spec.possibleAbstractExact s = true := by
  obtain ⟨st, r1, d1, F⟩ := loaded_facts h
  rw [F.eq]
  simp only [Spec.possibleAbstractExact, List.all_eq_true]
  intro p' hp'
  obtain ⟨p, hp, rfl⟩ := F.mem_types hp'
  rw [finalDef_kind, finalDef_fst]
  have hl := lookup_final (sd := sd) (r1 := r1) (d1 := d1) (F.lookup_self hp)
  by_cases hk : p.2.kind = .interface
  · simp only [hk, BEq.rfl, Bool.true_or, Bool.not_true, Bool.false_or]
    rw [sameSet_iff]
    intro x
    simp only [Spec.impliedPossible, hl, finalDef_kind, hk]
    have := mem_final_filter (sd := sd) (st := st) (r1 := r1) (d1 := d1) F.typesInv.1
      (fun k i _ => (k == .object || k == .interface) && i.contains p.1) x
    rw [this, possible_exact F hp]
    simp [hk, and_assoc]
  · by_cases hu : p.2.kind = .union
    · simp only [hu, BEq.rfl, Bool.or_true, Bool.not_true, Bool.false_or]
      rw [sameSet_iff]
      intro x
      simp only [Spec.impliedPossible, hl, finalDef_kind, hu, finalDef_types]
      simp [possible_exact F hp, hu]
    · simp [hk, hu]

/-- an object type is its own, only, possible type -/
theorem C07_relations_possible_object {sd : SchemaDoc} {s : Schema} (h : load sd = .ok s) :
    Spec.possibleObjectSelf s = true := by
  obtain ⟨st, r1, d1, F⟩ := loaded_facts h
  rw [F.eq]
  simp only [Spec.possibleObjectSelf, List.all_eq_true]
  intro p' hp'
  obtain ⟨p, hp, rfl⟩ := F.mem_types hp'
  rw [finalDef_kind, finalDef_fst]
  by_cases hk : p.2.kind = .object
  · simp only [hk, bne_self_eq_false, Bool.false_or]
    rw [sameSet_iff]
    intro x
    simp [possible_exact F hp, hk]
  · simp [hk]

/-- only object, interface and union types have possible types (formerly refuted: every input
    object used to be entered as its own possible type) -/
theorem C07_relations_possible_keys {sd : SchemaDoc} {s : Schema} (h : load sd = .ok s) :
    Spec.possibleNoOtherKeys s = true := by
  obtain ⟨st, r1, d1, F⟩ := loaded_facts h
  rw [F.eq]
  simp only [Spec.possibleNoOtherKeys, List.all_eq_true, Bool.or_eq_true]
  intro p hp
  right
  have hp' : p ∈ relOut st.possible := hp
  simp only [relOut, List.mem_map] at hp'
  obtain ⟨⟨k, vs⟩, hq, rfl⟩ := hp'
  obtain ⟨d, hl, hk⟩ := possible_keys_kind F hq
  have hfin := lookup_final (sd := sd) (r1 := r1) (d1 := d1) hl
  simp only at hfin
  simp only [Spec.kindOf, hfin, Option.map, finalDef_kind]
  rcases hk with hk | hk | hk <;> simp [hk]

/-- `Implements` of a type is exactly: the interfaces it declares and the unions listing it -/
theorem C07_relations_implements {sd : SchemaDoc} {s : Schema} (h : load sd = .ok s) :
    Spec.implementsExact s = true := by
  have hclosed := C07_closed_implements h
  obtain ⟨st, r1, d1, F⟩ := loaded_facts h
  rw [F.eq] at hclosed ⊢
  simp only [Spec.implementsExact, Bool.and_eq_true, List.all_eq_true]
  refine ⟨?_, ?_⟩
  · intro p' hp'
    obtain ⟨p, hp, rfl⟩ := F.mem_types hp'
    rw [finalDef_fst, sameSet_iff]
    intro x
    have hl := lookup_final (sd := sd) (r1 := r1) (d1 := d1) (F.lookup_self hp)
    simp only [Spec.impliedImplements, hl, finalDef_kind, finalDef_interfaces, List.mem_append]
    have := mem_final_filter (sd := sd) (st := st) (r1 := r1) (d1 := d1) F.typesInv.1
      (fun k _ t => k == .union && t.contains p.1) x
    rw [implements_exact F hp x]
    apply or_congr
    · by_cases hk : p.2.kind = .object ∨ p.2.kind = .interface <;> simp [hk]
    · exact this.symm
  · intro p hp
    have := (hclosed p hp).1
    simp only [Spec.typeIs] at this
    revert this
    cases (mkSchema sd st r1 d1).types.lookup p.1 <;> simp

/-- three of the four clauses of `RelationsExact` -/
theorem C07_relations_exact_partial {sd : SchemaDoc} {s : Schema} (h : load sd = .ok s) :
    Spec.possibleAbstractExact s = true ∧ Spec.possibleObjectSelf s = true ∧ Spec.implementsExact s = true :=
  ⟨C07_relations_possible_abstract h, C07_relations_possible_object h, C07_relations_implements h⟩

/-- **C07_relations_exact**: the possible-type and implements relations of every loaded schema are
    exactly the ones implied by the definitions (all four clauses, no hypothesis).  Before the repair
    the fourth clause failed: `case InputObject, Object:` registered input objects as possible types. -/
theorem C07_relations_exact {sd : SchemaDoc} {s : Schema} (h : load sd = .ok s) : Spec.RelationsExact s :=
  { possibleAbstractExact := C07_relations_possible_abstract h, possibleObjectSelf := C07_relations_possible_object h,
    possibleNoOtherKeys := C07_relations_possible_keys h, implementsExact := C07_relations_implements h }

/-- **C07_introspection_fields**: the query root of every loaded schema has exactly one field
    `__schema: __Schema!` (no arguments) and exactly one field `__type(name: String!): __Type` -/
theorem C07_introspection_fields {sd : SchemaDoc} {s : Schema} (h : load sd = .ok s) : Spec.IntrospectionFields s := by
  obtain ⟨st, r1, d1, F⟩ := loaded_facts h
  rw [F.eq]
  unfold Spec.IntrospectionFields Spec.introspectionFieldsB
  rw [mkSchema_query]
  cases hq : (finalRoots sd st r1).query with
  | none => rfl
  | some q =>
    have hsome := F.roots.1 q hq
    cases hl : st.types.lookup q with
    | none => rw [hl] at hsome; simp at hsome
    | some d =>
      have hfin := lookup_final (sd := sd) (r1 := r1) (d1 := d1) hl
      rw [hq] at hfin
      have hfd : (finalDef (some q) (q, d)).2 = addIntrospection d := by simp [finalDef]
      rw [hfd] at hfin
      have hnames := (F.defOK (q, d) (mem_of_lookup hl)).fieldNames
      -- the fields of `d` do not begin with `__`, so only the two appended fields are found; what is left is closed
      simp only [hfin, addIntrospection, List.filter_append, List.nil_append,
        filter_dunder_nil hnames (n := str "__schema") (by decide +kernel),
        filter_dunder_nil hnames (n := str "__type") (by decide +kernel)]
      decide +kernel

/-- **C07_prelude_present**: a schema loaded from a document that contains the prelude has the
    built-in scalars, the built-in directives and the introspection types -/
theorem C07_prelude_present {sd : SchemaDoc} {s : Schema} (h : load sd = .ok s) (hp : PreludeDeclared sd) :
    Spec.HasBuiltins s := by
  obtain ⟨st, r1, d1, F⟩ := loaded_facts h
  rw [F.eq]
  unfold Spec.HasBuiltins Spec.hasBuiltinsB
  simp only [Bool.and_eq_true, List.all_eq_true]
  refine ⟨⟨?_, ?_⟩, ?_⟩
  · intro n hn
    obtain ⟨d, hd, hk⟩ := buildState_declares F.built (hp.scalars n hn)
    exact typeIs_mkSchema hd (by simp [hk])
  · intro n hn
    obtain ⟨dd, hdd, rfl⟩ := hp.directives n hn
    exact (declareDirectives_keys (buildState_eq_ok.mp F.built).2.2.1).2 dd hdd
  · intro p hp'
    obtain ⟨d, hd, hk⟩ := buildState_declares F.built (hp.types p hp')
    exact typeIs_mkSchema hd (by simp [hk])

/-
  Both directions are theorems about the model (below):
    ⇒  `C07_load_sound`     accepted ⇒ WellFormed, when no directive name is declared twice
    ⇐  `C07_load_complete`  WellFormed ⇒ accepted, for every merged document (`MergedDoc`)
    ⇔  `C07_load_iff_wellformed`  under the hypotheses of the ⇒ direction
  The ⇒ direction cannot lose its hypothesis: R7b (a builtin directive redeclared more than once is
  accepted and the last declaration wins, see `C07_load_iff_wellformed_counterexample_directive` and
  C17_directive_perm_counterexample).  The documents of R7c (`enum E { __A }`) and R7a (`f(a: String)`
  implementing `f(a: String!)`), which the loader accepted against the specification, are rejected since
  the repair: `C07_load_enumValue_reserved_rejected`, `C07_load_argType_weakened_rejected`.
-/

/-- R7c repaired, kernel-checked: an enum value named `__A` is rejected (the spec clause rejects it too) -/
theorem C07_load_enumValue_reserved_rejected :
    (load Examples.r7cDoc).isOk = false ∧ Spec.enumValueNamesNotReserved (.ofDoc Examples.r7cDoc) = false := by
  decide +kernel

/-- R7a repaired, kernel-checked: an implementing field may not weaken a non-null argument -/
theorem C07_load_argType_weakened_rejected :
    (load Examples.r7aDoc).isOk = false ∧ Spec.implementsFieldsOK (.ofDoc Examples.r7aDoc) = false := by
  decide +kernel

/-- R7b, kernel-checked: `directive @skip on FIELD  directive @skip on OBJECT` loads although the
    directive names are not unique — the ⇒ direction of the iff fails on this clause -/
theorem C07_load_iff_wellformed_counterexample_directive :
    (load Examples.skipFO).isOk = true ∧ Spec.uniqueDirectiveNames Examples.skipFO = false ∧
    ¬ Spec.WellFormed Examples.skipFO := by
  decide +kernel

/-- **soundness, partial** (the ⇒ direction for the type-structure clauses): a document the loader
    accepts has unique type names, unique field names per merged type, resolving and correctly
    positioned field types, interfaces that are interfaces, union members that are objects, existing
    roots, transitively declared interfaces, no empty object/interface/input/enum, no reserved type,
    field or ENUM VALUE names, at most one `schema` block, every root operation type given at most ONCE,
    extensions of the base's kind, no enum value named `true`/`false`/`null`, and OBJECT types as root
    operation types (declared or inferred).
    (`hext`: extensions are not `builtIn` — the prelude has none.)
    `implementsFieldsOK` is `C07_load_sound_implementsFields`, the directive clauses are
    `C07_load_sound_directives`, all 27 clauses together `C07_load_sound` (below). -/
theorem C07_load_sound_partial {sd : SchemaDoc} {s : Schema} (h : load sd = .ok s)
    (hext : ∀ e ∈ sd.extensions, e.builtIn = false) : SoundClauses sd :=
  load_sound h hext

/-- **soundness for `implementsFieldsOK`** (the remaining type-structure clause): in a document the
    loader accepts, every implementer provides every field of its interfaces at a covariant type
    (`Spec.covariant`, the specification's IsValidImplementationFieldType, read off the DEFINITIONS —
    the loader decides it from `PossibleTypes`), takes every argument of the interface field at the
    IDENTICAL type, and adds no required argument.  `NamesLexical`: what the lexer guarantees — no
    empty definition name, no `!`/`[`/`]` inside a name of a field or argument type (`Type.String()`,
    which the repaired loader compares, is injective only on such names). -/
theorem C07_load_sound_implementsFields {sd : SchemaDoc} {s : Schema} (h : load sd = .ok s)
    (hext : ∀ e ∈ sd.extensions, e.builtIn = false) (hlex : NamesLexical sd) :
    Spec.implementsFieldsOK (.ofDoc sd) = true :=
  load_implementsFieldsOK h hext hlex

/-- non-vacuity: a document with interface implementations (one covariant through a union) that
    satisfies the hypotheses and loads -/
example : NamesLexical Examples.implOkDoc ∧ (load Examples.implOkDoc).isOk = true ∧
    Spec.implementsFieldsOK (.ofDoc Examples.implOkDoc) = true := by decide +kernel

/-- **C07_load_sound — the ⇒ direction of "loads iff well formed"**, for documents in which no
    directive name is declared twice: every document the loader accepts satisfies EVERY clause of
    `Spec.WellFormed` (all 27, including `rootTypesAreObjects` since the repair of the root kinds).  The hypothesis `DirectiveNamesDistinct` cannot be dropped: a builtin
    directive redeclared more than once is accepted with the last declaration in force (finding R7b,
    `C07_load_iff_wellformed_counterexample_directive`), and the clauses then read another definition
    than the loader.  (`hext`, `NamesLexical`: guarantees of the prelude and of the lexer.) -/
theorem C07_load_sound {sd : SchemaDoc} {s : Schema} (h : load sd = .ok s)
    (hext : ∀ e ∈ sd.extensions, e.builtIn = false) (hlex : NamesLexical sd) (hd : DirectiveNamesDistinct sd) :
    Spec.WellFormed sd :=
  load_wellFormed h hext hlex hd

/-- the directive clauses alone (no `NamesLexical`) -/
theorem C07_load_sound_directives {sd : SchemaDoc} {s : Schema} (h : load sd = .ok s)
    (hext : ∀ e ∈ sd.extensions, e.builtIn = false) (hd : DirectiveNamesDistinct sd) : DirectiveClauses sd :=
  load_directive_clauses h hext hd

/-- non-vacuity: a document that declares and applies a directive (on a type and on an argument),
    satisfies the hypotheses and loads -/
example : NamesLexical Examples.dirOkDoc ∧ DirectiveNamesDistinct Examples.dirOkDoc ∧
    (load Examples.dirOkDoc).isOk = true ∧ (Spec.TypeSystem.ofDoc Examples.dirOkDoc).directiveUses.length = 2 :=
  by decide +kernel

/-- non-vacuity of the spec: the small valid document is well formed and loads -/
example : Spec.WellFormed Examples.okDoc ∧ (load Examples.okDoc).isOk = true := ⟨by decide +kernel, Examples.okDoc_loads⟩

/-- **C07_load_complete — the ⇐ direction of "loads iff well formed"**: every merged document whose
    merged type system satisfies the 27 clauses of `Spec.WellFormed` is accepted by the loader.
    No clause is missing from the specification: each error site of validator/schema.go is excluded by
    one clause (the lemmas `load_<step>_ok_of_wf` in GqlProofs/Schema/Complete*.lean, and the equivalences
    `validate…_pass_iff`, `setRoots_isOk_iff_spec`, `checkRootKinds_iff_spec`, `uses_pass_iff` under them, name the Go check and
    the clause).  `MergedDoc sd` says that `sd` has the SHAPE `parser.ParseSchemas(prelude, inputs…)`
    produces — no extension is marked built in, the directive definitions of source 0 (the prelude) are among
    the six names the loader lets a user redeclare and precede the user-written ones; it says nothing about
    the type system, and none of its three parts can be dropped (`C07_load_complete_needs_*` below).
    In particular a user may declare a prelude directive once more (`uniqueDirectiveNames` allows it, the
    loader keeps the user's declaration): the document loads. -/
theorem C07_load_complete (sd : SchemaDoc) (h : Spec.WellFormed sd) (hpre : MergedDoc sd) : ∃ s, load sd = .ok s :=
  load_complete h hpre

/-- the same for documents in which no directive name is declared twice (then the order of the sources
    does not matter): the hypotheses are those of the soundness theorem -/
theorem C07_load_complete_distinct (sd : SchemaDoc) (h : Spec.WellFormed sd)
    (hext : ∀ e ∈ sd.extensions, e.builtIn = false) (hd : DirectiveNamesDistinct sd) : ∃ s, load sd = .ok s :=
  load_complete_distinct h hext hd

/-- the stage lemmas, re-exported: the four maps are built … -/
theorem C07_load_complete_buildState (sd : SchemaDoc) (h : Spec.WellFormed sd) (hpre : MergedDoc sd) :
    ∃ st, buildState sd = .ok st :=
  load_buildState_ok_of_wf h hpre

/-- … and in that state the directive definition in force according to the specification (the user's,
    else the prelude's) is the one the loader stored, every type definition and every directive definition
    passes its validator -/
theorem C07_load_complete_validators (sd : SchemaDoc) (h : Spec.WellFormed sd) (hpre : MergedDoc sd) {st : LState}
    (hb : buildState sd = .ok st) :
    (∀ n, (Spec.TypeSystem.ofDoc sd).directive? n = st.directives.lookup n) ∧
    validateTypeDefinitions st = .pass ∧ validateDirectiveDefinitions st = .pass := by
  have hdir := fun n => spec_directive_eq_of_merged hb h.uniqueDirectiveNames hpre n
  have W : WfState sd st := ⟨h, hpre.extNotBuiltin, hb, hdir⟩
  exact ⟨hdir, load_validateTypeDefinitions_ok_of_wf W, load_validateDirectiveDefinitions_ok_of_wf W⟩

/-- **C07_load_iff_wellformed**: for documents in which no directive name is declared twice (and with
    the two guarantees of the prelude and of the lexer that soundness needs) the loader accepts EXACTLY
    the well-formed type systems. -/
theorem C07_load_iff_wellformed (sd : SchemaDoc) (hext : ∀ e ∈ sd.extensions, e.builtIn = false)
    (hlex : NamesLexical sd) (hd : DirectiveNamesDistinct sd) : (load sd).isOk = true ↔ Spec.WellFormed sd :=
  load_isOk_iff_wellFormed hext hlex hd

/-- for every merged document: loading fails only if some clause fails (the contrapositive the harness
    observes as "go-rejects-spec-accepts" never happening) -/
theorem C07_load_rejects_only_illformed (sd : SchemaDoc) (hpre : MergedDoc sd) (h : (load sd).isOk = false) :
    Spec.wfB sd = false := by
  cases hw : Spec.wfB sd with
  | false => rfl
  | true =>
    obtain ⟨s, hs⟩ := load_complete ((Spec.wfB_iff sd).mp hw) hpre
    rw [hs] at h
    cases h

/-- non-vacuity: the example documents are merged documents; `redeclOkDoc` redeclares the prelude's
    `@skip` (so it is outside `DirectiveNamesDistinct`), is well formed and loads -/
example : MergedDoc Examples.okDoc ∧ MergedDoc Examples.implOkDoc ∧ MergedDoc Examples.dirOkDoc ∧
    Spec.WellFormed Examples.implOkDoc ∧ Spec.WellFormed Examples.dirOkDoc ∧
    MergedDoc Examples.redeclOkDoc ∧ Spec.WellFormed Examples.redeclOkDoc ∧ ¬ DirectiveNamesDistinct Examples.redeclOkDoc ∧
    (load Examples.redeclOkDoc).isOk = true := by
  decide +kernel

/-- `MergedDoc.preludeFirst` cannot be dropped: with the user's `directive @skip on OBJECT` placed
    BEFORE the prelude's `directive @skip on FIELD` the document is well formed (the specification reads the
    user's declaration) and is rejected (the loader keeps the last one) -/
theorem C07_load_complete_needs_preludeFirst :
    Spec.WellFormed Examples.redeclUserFirstDoc ∧ (load Examples.redeclUserFirstDoc).isOk = false ∧
    ¬ MergedDoc Examples.redeclUserFirstDoc := by
  decide +kernel

/-- `MergedDoc.preludeDirsBuiltin` cannot be dropped: a source-0 directive outside the loader's list of
    six, declared once more by the user ("Cannot redeclare directive foo.") -/
theorem C07_load_complete_needs_preludeDirsBuiltin :
    Spec.WellFormed Examples.redeclFooDoc ∧ (load Examples.redeclFooDoc).isOk = false ∧
    ¬ MergedDoc Examples.redeclFooDoc := by
  decide +kernel

/-- `MergedDoc.extNotBuiltin` cannot be dropped: `extend scalar __X` marked built in, without a base
    definition (the loader's stub is never built in, so the reserved name is rejected) -/
theorem C07_load_complete_needs_extNotBuiltin :
    Spec.WellFormed Examples.builtinExtDoc ∧ (load Examples.builtinExtDoc).isOk = false ∧
    ¬ MergedDoc Examples.builtinExtDoc := by
  decide +kernel
