import GqlModel.Gen.Facts
import GqlProofs.Validate.Compose
import GqlProofs.Validate.WalkTerm
import GqlProofs.Validate.DefaultRules
import GqlProofs.Lemmas.StrLit
/-
  C18 — rule sets compose.

  `validate rules s d` is the model of `validator.Validate(schema, doc, rules...)` that the driver
  runs (`GqlModel/Validate/Engine.lean`); errors are tagged with the rule name by the engine.
-/
open Gql Gql.Validate Gql.Validate.Rules

/-- Composition: for a rule list with pairwise distinct names, filtering the errors of the whole
    list by the name of a member gives exactly the errors of that member run alone (same order,
    same multiplicity, same messages and locations). -/
theorem C18_union (rs : List Rule) (s : Schema) (d : QueryDoc) (errs : List Err)
    (hdistinct : (rs.map (·.name)).Nodup) (h : validate rs s d = .ok errs) (r : Rule) (hr : r ∈ rs) :
    validate [r] s d = .ok (errs.filter fun x => decide (x.rule = r.name)) := by
  obtain ⟨evs, hw⟩ := walkDoc_isSome s.view d
  rw [validate_ok_iff hw] at h ⊢
  exact runAll_filter evs _ h (by rw [rnames_start]; exact hdistinct) r.start (List.mem_map.2 ⟨r, hr, rfl⟩)

/-- every error of a run is tagged with the name of one of the rules that ran -/
theorem C18_errors_tagged (rs : List Rule) (s : Schema) (d : QueryDoc) (errs : List Err)
    (h : validate rs s d = .ok errs) : ∀ x ∈ errs, x.rule ∈ rs.map (·.name) := by
  obtain ⟨evs, hw⟩ := walkDoc_isSome s.view d
  rw [validate_ok_iff hw] at h
  exact rnames_start rs ▸ runAll_tagged evs _ h

/-- conversely, a rule list returns normally as soon as every member does when run alone (a
    panic of the whole is the panic of some member) -/
theorem C18_ok_of_members (rs : List Rule) (s : Schema) (d : QueryDoc)
    (h : ∀ r ∈ rs, ∃ e, validate [r] s d = .ok e) : ∃ errs, validate rs s d = .ok errs := by
  obtain ⟨evs, hw⟩ := walkDoc_isSome s.view d
  simp only [validate_ok_iff hw] at h ⊢
  exact (runAll_ok_iff evs _).2 fun q hq => by
    obtain ⟨r, hr, rfl⟩ := List.mem_map.1 hq
    exact h r hr

/-- Order independence: the errors of a permuted rule list are a permutation of the errors of
    the original list (and the permuted list returns normally whenever the original does). -/
theorem C18_perm (rs rs' : List Rule) (s : Schema) (d : QueryDoc) (errs : List Err)
    (hp : rs.Perm rs') (hdistinct : (rs.map (·.name)).Nodup) (h : validate rs s d = .ok errs) :
    ∃ errs', validate rs' s d = .ok errs' ∧ errs.Perm errs' := by
  have hd' : (rs'.map (·.name)).Nodup := (hp.map _).nodup_iff.1 hdistinct
  have hmem : ∀ r ∈ rs', ∃ e, validate [r] s d = .ok e :=
    fun r hr => ⟨_, C18_union rs s d errs hdistinct h r (hp.mem_iff.2 hr)⟩
  obtain ⟨errs', h'⟩ := C18_ok_of_members rs' s d hmem
  refine ⟨errs', h', ?_⟩
  rw [List.perm_iff_count]
  intro a
  by_cases ha : ∃ r ∈ rs, r.name = a.rule
  · -- `a` is tagged with the name of `r`: it occurs as often as in the errors of `r` run alone, on both sides
    obtain ⟨r, hr, hn⟩ := ha
    have h2 := (C18_union rs s d errs hdistinct h r hr).symm.trans
      (C18_union rs' s d errs' hd' h' r (hp.mem_iff.1 hr))
    rw [← List.count_filter (l := errs) (p := fun x => decide (x.rule = r.name)) (by simp [hn]),
      VResult.ok.inj h2, List.count_filter (by simp [hn])]
  · -- no rule has the tag of `a`: it occurs on neither side
    have absent : ∀ {l : List Rule} {es : List Err}, (∀ r ∈ l, r ∈ rs) → validate l s d = .ok es → a ∉ es := by
      intro l es hsub hv hx
      obtain ⟨r, hr, hn⟩ := List.mem_map.1 (C18_errors_tagged l s d es hv a hx)
      exact ha ⟨r, hsub r hr, hn⟩
    rw [List.count_eq_zero_of_not_mem (absent (fun _ => id) h),
      List.count_eq_zero_of_not_mem (absent (fun _ => hp.mem_iff.2) h')]

theorem C18_nosuggest_Fields (s : Schema) (d : QueryDoc) :
    NoSuggestTwin (str "FieldsOnCorrectTypeWithoutSuggestions")
      (validate [fieldsOnCorrectType] s d) (validate [fieldsOnCorrectTypeWithoutSuggestions] s d) :=
  validate_withoutSuggestions _ _ s d

theorem C18_nosuggest_Arguments (s : Schema) (d : QueryDoc) :
    NoSuggestTwin (str "KnownArgumentNamesWithoutSuggestions")
      (validate [knownArgumentNames] s d) (validate [knownArgumentNamesWithoutSuggestions] s d) :=
  validate_withoutSuggestions _ _ s d

theorem C18_nosuggest_TypeNames (s : Schema) (d : QueryDoc) :
    NoSuggestTwin (str "KnownTypeNamesWithoutSuggestions")
      (validate [knownTypeNames] s d) (validate [knownTypeNamesWithoutSuggestions] s d) :=
  validate_withoutSuggestions _ _ s d

theorem C18_nosuggest_Values (s : Schema) (d : QueryDoc) :
    NoSuggestTwin (str "ValuesOfCorrectTypeWithoutSuggestions")
      (validate [valuesOfCorrectType] s d) (validate [valuesOfCorrectTypeWithoutSuggestions] s d) :=
  validate_withoutSuggestions _ _ s d

/-- the twin never emits a suggestion: its errors carry exactly `msg` (non-vacuity of the prefix
    clause: on a suggesting error the messages really differ) -/
example : (RErr.toErr (str "R") (RErr.dropSugg { msg := str "m", sugg := str " Did you mean x?", locs := [] })).msg = str "m" := by
  decide +kernel

/-- the hypothesis of `C18_union`/`C18_perm` holds for the modelled default rule list -/
theorem C18_default_names_distinct : (defaultRules.map (·.name)).Nodup := by
  rw [defaultRules_names]
  exact List.Pairwise.map str (fun _ _ h e => h (str_injective e)) (by decide +kernel : defaultRuleNames.Nodup)

#print axioms C18_union
#print axioms C18_errors_tagged
#print axioms C18_ok_of_members
#print axioms C18_perm
#print axioms C18_nosuggest_Fields
#print axioms C18_nosuggest_Arguments
#print axioms C18_nosuggest_TypeNames
#print axioms C18_nosuggest_Values
#print axioms C18_default_names_distinct

/-! ### facts regenerated from /repo's sources on every run (GqlModel/Gen/Facts.lean) -/

/-- The AddRule calls of package rules, in package-initialisation (file name) order, are the
    model's default rule names: "the default rule set equals the explicit list of all specified rules". -/
theorem C18_gen_default_rules_agree : Gql.Gen.ruleRegistry = Gql.Validate.defaultRuleNames := by decide +kernel

/-- every exported Rule value is one the model knows by name (27 standard + 4 without-suggestions) -/
theorem C18_gen_rule_vars_known :
    ∀ n ∈ Gql.Gen.ruleVars, n ∈ Gql.Validate.defaultRuleNames ∨
      n ∈ ["FieldsOnCorrectTypeWithoutSuggestions", "KnownArgumentNamesWithoutSuggestions",
           "KnownTypeNamesWithoutSuggestions", "ValuesOfCorrectTypeWithoutSuggestions"] := by decide +kernel
