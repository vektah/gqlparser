import GqlProofs.Lemmas.ErrorsLemmas
import GqlModel.ErrTemplates
/-
  C20 — "Every error returned by parsing, schema loading, validation or variable coercion has a
  non-empty message; validation errors name the rule that produced them and at least one
  location; errors from a named source carry that file name; the JSON encoding has the shape the
  GraphQL response format requires (message, locations with positive line and column, path of
  names and indices); and any error path encodes to JSON and decodes back to the same path."

  Model: `GqlModel/Errors.lean` (/repo/ast/path.go, /repo/gqlerror/error.go), tied to the code by
  check C20 (ops pathrt / pathenc / pathstr / errjson / errstr on every distinct error the
  error-biased generators reach plus a synthetic grid).  The message templates and the
  `addError` call sites are the REGENERATED table `Gen.errSites` / `Gen.addErrorSites`
  (harness/internal/extract/errsites.go); the clauses "non-empty message", "names the rule",
  "≥ 1 location", "carries the file" are judged on the real code by the check for every error
  reached; what is proved here is their static part over the table, plus the encoding clauses.
-/
open Gql Gql.Json Gql.Errors Gql.Gen Gql.ErrTemplates

/-- Any error path whose indices are Go `int`s (int64; `PathIndex` is an `int`, the model's integers
    are unbounded) and whose names are well-formed UTF-8 encodes to JSON and decodes back to the
    same path. -/
theorem C20_path_roundtrip (p : Path)
    (hidx : ∀ i, PathElem.index i ∈ p → -(2 ^ 63 : Int) ≤ i ∧ i < (2 ^ 63 : Int))
    (hname : ∀ n, PathElem.name n ∈ p → sanitize n = n) :
    decPath (encPath p) = .ok p := by
  have h : ∀ e ∈ p, ElemInDomain e := by
    intro e he
    cases e with
    | name n => exact hname n he
    | index i => exact hidx i he
  simp [decPath, encPath, toList_ofList, decElems_enc p h]

/-- in particular the former failing paths (R20b, repaired: "path indices are read back exactly"):
    an index beyond 2^53 and the largest int64 come back unchanged -/
theorem C20_path_roundtrip_big_indices :
    decPath (encPath [.name (str "a"), .index (2 ^ 53 + 1), .index (2 ^ 63 - 1), .index (-(2 ^ 63))])
      = .ok [.name (str "a"), .index (2 ^ 53 + 1), .index (2 ^ 63 - 1), .index (-(2 ^ 63))] := by
  apply C20_path_roundtrip
  · intro i hi
    simp at hi
    rcases hi with h | h | h <;> subst h <;> decide +kernel
  · intro n hn
    simp at hn
    subst hn
    decide +kernel

/-- history (before the repair every index went through a float64): beyond 2^53 it came back
    different, and the largest int64 did not even stay positive (amd64 `int(float64)` of 2^63) -/
theorem C20_path_roundtrip_through_float_counterexample :
    indexThroughFloat 9007199254740993 = 9007199254740992 ∧ indexThroughFloat (2 ^ 63 - 1) = -(2 ^ 63) := by
  constructor <;> decide +kernel

/-- `Path.String()` of `variable.a[0].b` -/
example : Path.render [.name (str "variable"), .name (str "a"), .index 0, .name (str "b")] = str "variable.a[0].b" := by
  decide +kernel

/-- The encoding of ANY error whose locations are positive is an error object of the GraphQL
    response format: `message` (a string) first; then, each only when non-empty, `path` (an array of
    strings and integers), `locations` (an array of `{"line": l, "column": c}`, both ≥ 1) and
    `extensions` (an object); nothing else. -/
theorem C20_json_shape (e : Error) (hpos : ∀ l ∈ e.locations, 1 ≤ l.line ∧ 1 ≤ l.column) :
    responseShape (encError e) = true := by
  have hp : isArrayOf isPathElemJson (encPath e.path) = true := by
    simp only [encPath, isArrayOf]
    exact all_ofList_map encElem isPathElemJson e.path (fun x _ => isPathElemJson_enc x)
  have hl : isArrayOf isLocationObj (Json.arr (JList.ofList (e.locations.map encLocation))) = true := by
    simp only [isArrayOf]
    exact all_ofList_map encLocation isLocationObj e.locations
      (fun l hl => isLocationObj_enc l (hpos l hl).1 (hpos l hl).2)
  have k1 : (kLocations == kPath) = false := by decide
  have k2 : (kExtensions == kPath) = false := by decide
  have k3 : (kExtensions == kLocations) = false := by decide
  unfold encError
  by_cases h1 : e.path = [] <;> by_cases h2 : e.locations = [] <;> by_cases h3 : e.extensions = [] <;>
    simp [h1, h2, h3, JFields.ofList, responseShape, takeKey, isObject, k1, k2, k3, hp, hl]

/-- The positivity hypothesis is needed: `omitempty` drops a zero `column`, and the location object
    is then not `{line, column}`. -/
theorem C20_json_shape_zero_column_counterexample :
    responseShape (encError { message := str "m", locations := [⟨3, 0⟩] }) = false ∧
    (encError { message := str "m", locations := [⟨3, 0⟩] }).render
      = str "{\"message\":\"m\",\"locations\":[{\"line\":3}]}" := by
  constructor <;> decide +kernel

/-- `omitempty`: an error with nothing but a message encodes as `{"message": …}` -/
example : (encError { message := str "boom" }).render = str "{\"message\":\"boom\"}" := by decide +kernel

/-- An error built by `ErrorLocf` / `ErrorPosf` from a NAMED source carries `extensions.file` and
    exactly one location. -/
theorem C20_file_carried_locf (file : Bytes) (line col : Int) (msg : Bytes) (h : file ≠ []) :
    extGet kFile (errorLocf file line col msg).extensions = some (.str file) ∧
    (errorLocf file line col msg).locations = [⟨line, col⟩] := by
  simp [errorLocf, h, extGet]

/-- `SetFile` (used by the validator's `At` option) stores the name under `file`, whatever else
    the extensions hold. -/
theorem C20_file_carried_setFile (e : Error) (file : Bytes) (h : file ≠ []) :
    extGet kFile (e.setFile file).extensions = some (.str file) := by
  simp [Error.setFile, h, extGet_extSet]

/-- history (R20a, repaired: "the token limit error carries the file name of its source"): an error built
    with `fmt.Errorf`, as the token-limit error was, and wrapped the way `gqlparser.LoadQuery` wraps it
    (`gqlerror.Wrap`) has no location and no file, and prints as coming from "input". -/
theorem C20_plain_error_without_file_counterexample :
    let e : Error := { message := str "exceeded token limit of 2" }
    e.locations = [] ∧ extGet kFile e.extensions = none ∧
      e.render = str "input: exceeded token limit of 2" := by
  refine ⟨rfl, rfl, ?_⟩
  decide +kernel

/-- F7 (DESIGN.md §3.4): every error constructor call of the library (`ErrorLocf`, `ErrorPosf`, `ErrorPathf`,
    `Errorf`, `Message(`, `p.error(`, `makeError(`, `fmt.Errorf`) either has a LITERAL format that
    is non-empty and contains at least one character `fmt.Sprintf` copies verbatim (so the rendered
    message is non-empty whatever the arguments), or is `Message("%s", message)` next to a
    `message := fmt.Sprintf(<such a literal>, …)` in the same declaration, or is one of the three
    forwarders (`ErrorPosf`, `makeError`, `parser.error`) that pass their own `format` on. -/
theorem C20_templates_nonempty : ∀ s ∈ errSites, siteOK s = true := by
  have h : errSites.all siteOK = true := by decide +kernel
  exact fun s hs => List.all_eq_true.mp h s hs

/-- … in particular no literal format is the empty string. -/
theorem C20_templates_literal_nonempty : ∀ s ∈ errSites, s.literal = true → s.format ≠ "" := by
  intro s hs hl
  have h := C20_templates_nonempty s hs
  simp only [siteOK, hl, if_true, Bool.and_eq_true, bne_iff_ne] at h
  exact h.1.1

/-- F7 (DESIGN.md §3.4): every `addError(…)` of every validation rule passes an `At(…)` option (its location) and a
    message option (`Message(…)` directly, or the option computed by `unexpectedTypeMessageOnly`,
    all of whose branches are `Message(<literal>, …)`). -/
theorem C20_addError_has_At_and_Message : ∀ a ∈ addErrorSites, addErrorOK a = true := by
  have h : addErrorSites.all addErrorOK = true := by decide +kernel
  exact fun a ha => List.all_eq_true.mp h a ha

theorem C20_addError_has_At : ∀ a ∈ addErrorSites, a.hasAt = true := by
  intro a ha
  have h := C20_addError_has_At_and_Message a ha
  simp only [addErrorOK, Bool.and_eq_true] at h
  exact h.1

/-- non-vacuity of the table -/
example : errSites.length ≥ 100 ∧ addErrorSites.length ≥ 50 := by decide +kernel
