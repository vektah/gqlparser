import GqlProofs.Parser.ResultsMulti
import GqlProofs.Parser.SoundSchemaTop
/-
  C16 — the token limit is exact, monotone and bounds the work.

  All statements are about the definitions the driver runs (`parseQuery`, `parseSchema`,
  `parseSchemas`, `runQuery`, `runSchema` of `GqlModel/Parser`).  Limit 0 is "no limit"
  (`ParseQuery`/`ParseSchema` pass 0).  `tokenCount` counts every `next` — all tokens including
  comments; a successful parse never consumes the EOF token.
-/
open Gql Gql.Parser

/-- Once the sticky error is set, running *any* parser program changes no field of the parser
    state except (possibly) the model's ghost flag `oof`: no token is pulled or counted, the error
    is not replaced, `prev` and the look-ahead stay. -/
theorem C16_error_sticky {α : Type} (L : Nat) (p : Prog α) (s : PState) (h : s.err.isSome) :
    (run L p s).2 = { s with oof := (run L p s).2.oof } :=
  run_err_state L p s h

/-- `ParseQuery` (limit 0) never reports a token-limit error. -/
theorem C16_zero_unlimited_query (inp : Bytes) (n : Nat) : parseQuery 0 inp ≠ .error (.limit n) :=
  fun h => (LimOk.init 0 _ 0 inp n (ofRun_error h)).2 rfl

/-- The only limit error under `L` is "exceeded token limit of L". -/
theorem C16_limit_error_is_L_query (L : Nat) (inp : Bytes) (n : Nat) (h : parseQuery L inp = .error (.limit n)) :
    n = L ∧ L ≠ 0 :=
  LimOk.init L _ 0 inp n (ofRun_error h)

/-- same tree: a parse that succeeds under a limit is the unlimited parse -/
theorem C16_same_tree_query (L : Nat) (inp : Bytes) (d : QueryDoc) (h : parseQuery L inp = .ok d) :
    parseQuery 0 inp = .ok d :=
  parseQuery_zero h

/-- monotone: success under `L` implies the identical success under every `L' ≥ L` -/
theorem C16_monotone_query (L L' : Nat) (inp : Bytes) (d : QueryDoc) (h0 : L ≠ 0) (hle : L ≤ L')
    (h : parseQuery L inp = .ok d) : parseQuery L' inp = .ok d :=
  ofRun_mono (stricter_le h0 hle) _ _ d h

/-- the link between the counter of the unlimited parse and the lexer: a successful parse consumes
    every non-EOF token of `Lexer.lexAll inp` (comments included) exactly once and never the EOF
    token.  (`countTokens inp` = number of non-EOF tokens of `lexAll inp`; proved through the
    parser-state ↔ token-stream invariant of `GqlProofs/Parser/Stream.lean` and the per-program
    specifications of `SoundQuery.lean`, each of which states "no EOF token consumed".) -/
theorem C16_count_is_lexer_count_query (inp : Bytes) (d : QueryDoc) (h : parseQuery 0 inp = .ok d) :
    (runQuery 0 inp).2.tokenCount = countTokens inp :=
  (whole_run (spec_parseQueryDocument _) h fun _ _ _ q => ⟨q.1, q.2.1⟩).2.2

/-- exact, in terms of the counter: under `L ≠ 0` the parse succeeds iff the unlimited parse succeeds
    and consumed at most `L` tokens -/
theorem C16_limit_exact_query_partial (L : Nat) (inp : Bytes) (hL : L ≠ 0) :
    (parseQuery L inp).isOk = true ↔
      (parseQuery 0 inp).isOk = true ∧ (runQuery 0 inp).2.tokenCount ≤ L := by
  -- unfolded by hand: left to unification under `.2.tokenCount` it is slow
  unfold parseQuery runQuery
  exact ofRun_exact hL _ 0 inp

/-- **exact**: under a limit `L ≠ 0` the parse succeeds iff the unlimited parse succeeds and the
    input has at most `L` lexer tokens (comments included, EOF excluded) -/
theorem C16_limit_exact_query (L : Nat) (inp : Bytes) (hL : L ≠ 0) :
    (parseQuery L inp).isOk = true ↔ (parseQuery 0 inp).isOk = true ∧ countTokens inp ≤ L :=
  ofRun_exact_count (spec_parseQueryDocument _) (fun _ _ _ q => ⟨q.1, q.2.1⟩) hL 0 inp

/-- work is bounded by the limit, not by the input: at most `L + 1` tokens are ever pulled from the
    lexer and the counter stops at `L + 1` -/
theorem C16_pulls_bounded_query (L : Nat) (inp : Bytes) (hL : L ≠ 0) :
    (runQuery L inp).2.pulls ≤ L + 1 ∧ (runQuery L inp).2.tokenCount ≤ L + 1 :=
  have inv := PInv.run (L := L) (parseQueryDocument (fuelFor inp)) (PInv.init L 0 inp)
  ⟨inv.pulls_le hL, inv.tc_le_succ hL⟩

/-- every token pulled is consumed or is the one look-ahead token (no limit needed) -/
theorem C16_pulls_accounting_query (L : Nat) (inp : Bytes) :
    (runQuery L inp).2.pulls ≤ (runQuery L inp).2.tokenCount + 1 :=
  (PInv.run (L := L) (parseQueryDocument (fuelFor inp)) (PInv.init L 0 inp)).pulls_le_tc

theorem C16_zero_unlimited_schema (inp : Bytes) (n : Nat) : parseSchema 0 inp ≠ .error (.limit n) :=
  fun h => (LimOk.init 0 _ 0 inp n (parseSchemaSrc_error h)).2 rfl

theorem C16_limit_error_is_L_schema (L : Nat) (inp : Bytes) (n : Nat) (h : parseSchema L inp = .error (.limit n)) :
    n = L ∧ L ≠ 0 :=
  LimOk.init L _ 0 inp n (parseSchemaSrc_error h)

theorem C16_same_tree_schema (L : Nat) (inp : Bytes) (d : SchemaDoc) (h : parseSchema L inp = .ok d) :
    parseSchema 0 inp = .ok d :=
  parseSchemaSrc_zero h

theorem C16_monotone_schema (L L' : Nat) (inp : Bytes) (d : SchemaDoc) (h0 : L ≠ 0) (hle : L ≤ L')
    (h : parseSchema L inp = .ok d) : parseSchema L' inp = .ok d :=
  parseSchemaSrc_mono (stricter_le h0 hle) 0 false inp d h

/-- the counter of a successful unlimited schema parse is the number of non-EOF lexer tokens -/
theorem C16_count_is_lexer_count_schema (src : Nat) (inp : Bytes) (h : (Result.ofRun (runSchema 0 src inp)).isOk = true) :
    (runSchema 0 src inp).2.tokenCount = countTokens inp := by
  cases hp : Result.ofRun (runSchema 0 src inp) with
  | ok d => exact countTokens_schema src inp d hp
  | error e => rw [hp] at h; cases h
  | outOfFuel => rw [hp] at h; cases h

/-- schema version of `C16_limit_exact_query_partial` -/
theorem C16_limit_exact_schema_partial (L : Nat) (inp : Bytes) (hL : L ≠ 0) :
    (parseSchema L inp).isOk = true ↔
      (parseSchema 0 inp).isOk = true ∧ (runSchema 0 0 inp).2.tokenCount ≤ L := by
  unfold parseSchema
  rw [parseSchemaSrc_isOk, parseSchemaSrc_isOk]
  unfold runSchema
  exact ofRun_exact hL _ 0 inp

/-- **exact**, schema version: under `L ≠ 0` the parse succeeds iff the unlimited parse succeeds and
    the input has at most `L` lexer tokens (comments included, EOF excluded) -/
theorem C16_limit_exact_schema (L : Nat) (inp : Bytes) (hL : L ≠ 0) :
    (parseSchema L inp).isOk = true ↔ (parseSchema 0 inp).isOk = true ∧ countTokens inp ≤ L :=
  parseSchemaSrc_exact hL 0 false inp

theorem C16_pulls_bounded_schema (L src : Nat) (inp : Bytes) (hL : L ≠ 0) :
    (runSchema L src inp).2.pulls ≤ L + 1 ∧ (runSchema L src inp).2.tokenCount ≤ L + 1 :=
  have inv := PInv.run (L := L) (parseSchemaDocument (fuelFor inp)) (PInv.init L src inp)
  ⟨inv.pulls_le hL, inv.tc_le_succ hL⟩

theorem C16_same_tree_schemas (L : Nat) (srcs : List (Bool × Bytes)) (d : SchemaDoc)
    (h : parseSchemas L srcs = .ok d) : parseSchemas 0 srcs = .ok d :=
  parseSchemasFrom_mono (stricter_zero L) srcs 0 _ d h

theorem C16_monotone_schemas (L L' : Nat) (srcs : List (Bool × Bytes)) (d : SchemaDoc) (h0 : L ≠ 0) (hle : L ≤ L')
    (h : parseSchemas L srcs = .ok d) : parseSchemas L' srcs = .ok d :=
  parseSchemasFrom_mono (stricter_le h0 hle) srcs 0 _ d h

/-- **exact**, several sources (`ParseSchemasWithLimit`): under `L ≠ 0` the sources parse iff they parse
    without limit and EVERY source on its own has at most `L` lexer tokens — the limit is neither a
    budget shared by the sources nor waived for a source that carries the BuiltIn mark -/
theorem C16_limit_exact_schemas (L : Nat) (srcs : List (Bool × Bytes)) (hL : L ≠ 0) :
    (parseSchemas L srcs).isOk = true ↔
      (parseSchemas 0 srcs).isOk = true ∧ ∀ s ∈ srcs, countTokens s.2 ≤ L :=
  parseSchemasFrom_exact hL srcs 0 _

/-- a source with more than `L` tokens is refused, wherever it stands and whatever its BuiltIn mark -/
theorem C16_source_beyond_limit_refused (L : Nat) (srcs : List (Bool × Bytes)) (hL : L ≠ 0)
    (s : Bool × Bytes) (hs : s ∈ srcs) (h : L < countTokens s.2) : (parseSchemas L srcs).isOk = false := by
  cases hok : (parseSchemas L srcs).isOk with
  | false => rfl
  | true =>
    have := ((C16_limit_exact_schemas L srcs hL).1 hok).2 s hs
    omega

/-- whether the sources parse under a limit does not depend on their BuiltIn marks -/
theorem C16_limit_ignores_builtin_marks (L : Nat) (srcs : List (Bool × Bytes)) :
    (parseSchemas L srcs).isOk = (parseSchemas L (srcs.map fun s => (false, s.2))).isOk :=
  parseSchemasFrom_isOk_flags L srcs 0 _ _

/-! ### non-vacuity (kernel-evaluated runs of the model) -/

example : Stricter 3 7 := stricter_le (by decide) (by decide)
-- `{a}`: three tokens
example : (parseQuery 0 [123, 97, 125]).isOk = true := by decide +kernel
example : (parseQuery 3 [123, 97, 125]).isOk = true := by decide +kernel
example : (parseQuery 2 [123, 97, 125]).isOk = false := by decide +kernel
example : (runQuery 0 [123, 97, 125]).2.tokenCount = 3 := by decide +kernel
example : countTokens [123, 97, 125] = 3 := by decide +kernel
example : (runQuery 2 [123, 97, 125]).2.pulls = 3 := by decide +kernel      -- the bound L + 1 is attained
-- `type A{a:B}`: seven tokens
example : (parseSchema 0 [116,121,112,101,32,65,123,97,58,66,125]).isOk = true := by decide +kernel
example : (runSchema 0 0 [116,121,112,101,32,65,123,97,58,66,125]).2.tokenCount = 7 := by decide +kernel
example : (parseSchema 6 [116,121,112,101,32,65,123,97,58,66,125]).isOk = false := by decide +kernel
-- two sources, the second marked BuiltIn: seven tokens each; limit 7 passes, limit 6 does not (not a shared budget, not waived)
example : (parseSchemas 7 [(false, [116,121,112,101,32,65,123,97,58,66,125]), (true, [116,121,112,101,32,66,123,97,58,66,125])]).isOk = true := by decide +kernel
example : (parseSchemas 6 [(false, [115,99,97,108,97,114,32,83]), (true, [116,121,112,101,32,66,123,97,58,66,125])]).isOk = false := by decide +kernel
-- a state with the error set exists (hypothesis of `C16_error_sticky`)
example : ((run 1 (parseQueryDocument 5) (PState.init 0 [123, 97, 125])).2.err.isSome) = true := by decide +kernel
#print axioms C16_count_is_lexer_count_query
#print axioms C16_limit_exact_query
#print axioms C16_count_is_lexer_count_schema
#print axioms C16_limit_exact_schema
