import GqlProofs.Gen.Accounted
import GqlProofs.Validate.WalkBound
import GqlProofs.Validate.OverlapSafe
import GqlProofs.Validate.OverlapWitness
import GqlProofs.Validate.DefaultRules
/-
  C02 — validation never crashes and terminates (the part that concerns `validator.Validate`
  and the rules; the theorems on OverlappingFieldsCanBeMerged — the repaired algorithm — follow
  those on the other rules, and `C02_validate_no_panic_parsed` joins the two).

  The model `validate` has three outcomes: `ok errs`, `panic msg` (a Go run-time panic or explicit
  `panic(...)`, which `Validate` does not recover) and `outOfFuel` (the bounded-recursion device
  of the walker model).
-/
open Gql Gql.Validate Gql.Validate.Rules

/-- The walker terminates: the recursion through fragment spreads is bounded by the per-operation
    visited set, `frags.length + 1` nested jumps always suffice (the walker model is structurally
    recursive in everything else), so the event list always exists. -/
theorem C02_walk_terminates (s : Schema) (d : QueryDoc) : ∃ evs, walkDoc s.view d = some evs :=
  walkDoc_isSome s.view d

/-- … hence no rule list ever makes `validate` run out of fuel. -/
theorem C02_validate_fuel_suffices (rs : List Rule) (s : Schema) (d : QueryDoc) : validate rs s d ≠ .outOfFuel := by
  obtain ⟨evs, h⟩ := C02_walk_terminates s d
  unfold validate validateV
  rw [h]
  simp only
  split <;> simp

/-- Number of observer calls: at most one per node and walk.  With `docEvents d` the number of
    events of one pass over every node of the document and `fragEvents d` that of all fragment
    bodies (per fragment: the directives of the definition and its selection set — both are walked
    on the first visit of the fragment in a walk), the walker fires at most
      docEvents d + (#operations + #fragments) · fragEvents d  ≤  docEvents d · (#operations + #fragments + 1)
    events (each fragment body is re-walked at most once per operation and once per stand-alone
    fragment walk). -/
theorem C02_walk_events_bound (s : Schema) (d : QueryDoc) (evs : List Event) (h : walkDoc s.view d = some evs) :
    evs.length ≤ docEvents d + (d.ops.length + d.frags.length) * fragEvents d ∧
    evs.length ≤ docEvents d * (d.ops.length + d.frags.length + 1) := by
  have b := walkDoc_bound s.view d evs h
  refine ⟨b, ?_⟩
  have hle := fragEvents_le_docEvents d
  have : (d.ops.length + d.frags.length) * fragEvents d ≤ (d.ops.length + d.frags.length) * docEvents d :=
    Nat.mul_le_mul_left _ hle
  rw [Nat.mul_add, Nat.mul_one, Nat.mul_comm (docEvents d)]
  omega

/-- `validate` returned an error list (no panic, fuel not exhausted) -/
def returnsNormally : VResult → Bool
  | .ok _ => true
  | _ => false

/-
  No panic (DESIGN's `C02_validate_no_panic`).  For a rule list `rs` drawn from `modelledRules` — the
  27 default rules, OverlappingFieldsCanBeMerged included, and the four `…WithoutSuggestions` twins —

      ∃ errs, validate rs s d = .ok errs

  holds of every schema and every document whose operations have a kind the parser can produce:
  `C02_validate_no_panic_parsed`.  No hypothesis on the schema is needed.  The hypothesis on the
  operation kinds is needed for KnownRootType alone, whose explicit `panic` on an unknown kind is
  reachable from a hand-built AST (`C02_validate_needs_parser_op_kinds`):
  `C02_validate_no_panic_partial` covers the 29 rules of `panicFreeRules'` on every schema and
  document, and no step of OverlappingFieldsCanBeMerged needs it either (`C02_overlap_no_panic`).
-/

/-- Every rule list drawn from the 29 modelled rules other than KnownRootType and
    OverlappingFieldsCanBeMerged (`panicFreeRules'`) returns an error list on every schema and
    document — no panic and no fuel exhaustion; in particular the bounded searches inside
    MaxIntrospectionDepth (terminating: the chain of fragments being visited has pairwise distinct
    names), SingleFieldSubscriptions and NoFragmentCycles never run out of fuel.
    ValuesOfCorrectType and its `…WithoutSuggestions` twin are covered since the repairs of
    R2a/R2b (nil `VariableDefinition` in the `@oneOf` branch), of `Definition.Fields[0]` (the
    message names `Children[0].Name`) and of R15 (`Value.Value` converts every number literal): the
    rule body has no panic site left except the `default` of a switch over all ten value kinds.
    KnownRootType is not among the 29: it panics exactly on an operation kind other than
    query/mutation/subscription, which the parser never produces (`C02_validate_no_panic_parsed`). -/
theorem C02_validate_no_panic_partial (rs : List Rule) (s : Schema) (d : QueryDoc)
    (h : ∀ r ∈ rs, r ∈ panicFreeRules') : ∃ errs, validate rs s d = .ok errs :=
  validateV_safe' rs s.view d fun r hr => .inl (panicFreeRules'_neverPanic r (h r hr))

/-- the rules covered by `C02_validate_no_panic_partial`, by name -/
theorem C02_panic_free_rule_names :
    panicFreeRules'.map (·.name) =
      [ "FieldsOnCorrectType", "FragmentsOnCompositeTypes", "KnownArgumentNames", "KnownDirectives",
        "KnownFragmentNames", "KnownTypeNames", "LoneAnonymousOperation", "NoUndefinedVariables",
        "NoUnusedFragments", "NoUnusedVariables", "PossibleFragmentSpreads", "ProvidedRequiredArguments",
        "ScalarLeafs", "UniqueArgumentNames", "UniqueDirectivesPerLocation", "UniqueFragmentNames",
        "UniqueInputFieldNames", "UniqueOperationNames", "UniqueVariableNames", "VariablesAreInputTypes",
        "VariablesInAllowedPosition", "FieldsOnCorrectTypeWithoutSuggestions",
        "KnownArgumentNamesWithoutSuggestions", "KnownTypeNamesWithoutSuggestions",
        "ValuesOfCorrectType", "ValuesOfCorrectTypeWithoutSuggestions",
        "MaxIntrospectionDepth", "SingleFieldSubscriptions", "NoFragmentCycles" ].map str := by
  -- unfolding the rules shows the very same `str "…"` terms on both sides
  simp only [panicFreeRules', panicFreeRules, List.map, List.cons_append, List.nil_append,
    Rule.stateless, Rule.statelessP, Rule.withoutSuggestions,
    fieldsOnCorrectType, fragmentsOnCompositeTypes, knownArgumentNames, knownDirectives, knownFragmentNames,
    knownTypeNames, loneAnonymousOperation, noUndefinedVariables, noUnusedFragments, noUnusedVariables,
    possibleFragmentSpreads, providedRequiredArguments, scalarLeafs, uniqueArgumentNames,
    uniqueDirectivesPerLocation, uniqueFragmentNames, uniqueInputFieldNames, uniqueOperationNames,
    uniqueVariableNames, variablesAreInputTypes, variablesInAllowedPosition,
    fieldsOnCorrectTypeWithoutSuggestions, knownArgumentNamesWithoutSuggestions, knownTypeNamesWithoutSuggestions,
    valuesOfCorrectType, valuesOfCorrectTypeWithoutSuggestions, maxIntrospectionDepth, singleFieldSubscriptions,
    noFragmentCycles]

/-- … and with KnownRootType as well, for documents whose operations have a kind the parser can
    produce (`query`, `mutation`, `subscription`; the explicit `panic` of known_root_type.go is
    unreachable from parsed documents). -/
theorem C02_validate_no_panic_parsed_partial (rs : List Rule) (s : Schema) (d : QueryDoc)
    (hd : ∀ op ∈ d.ops, op.op ∈ parserOpKinds)
    (h : ∀ r ∈ rs, r ∈ panicFreeRules' ∨ r = knownRootType) : ∃ errs, validate rs s d = .ok errs :=
  validateV_safe rs s.view d hd fun r hr => (h r hr).imp (panicFreeRules'_neverPanic r) .inl

/-- the hypothesis on operation kinds cannot be dropped: KnownRootType panics on a hand-built
    operation of kind `fetch` -/
theorem C02_validate_needs_parser_op_kinds :
    validate [knownRootType] Witness.schema
      { ops := [{ op := str "fetch", name := [], vars := [], dirs := [], sel := .nil, pos := Pos.zero }], frags := [] }
      = .panic (str "got unknown operation type \"fetch\"") := by
  decide +kernel

/-- R2a after the repair (`fix:` commit "no nil dereference for an undefined variable in a oneOf input
    object"), kernel-checked: on `{ f(one: {a: $undef}) }` with `input One @oneOf { a: String }`
    ValuesOfCorrectType does not panic; it returns normally (NoUndefinedVariables reports `$undef`). -/
theorem C02_validate_R2a_returns :
    returnsNormally (validate [valuesOfCorrectType] Witness.schema Witness.docR2a) = true := by
  decide +kernel

/-- R2b after the repair, kernel-checked: `query($v:String!){f} fragment F on Query { f(one:{a:$v}) }`
    (the fragment is only walked stand-alone, so the variable link is never written) returns normally. -/
theorem C02_validate_R2b_returns :
    returnsNormally (validate [valuesOfCorrectType] Witness.schema Witness.docR2b) = true := by
  decide +kernel

/-- the whole modelled default rule set returns normally on the R2a witness -/
theorem C02_validate_default_R2a_returns :
    returnsNormally (validate defaultRules Witness.schema Witness.docR2a) = true := by
  rw [defaultRules_eq]
  decide +kernel

/-- non-vacuity of the witnesses: when the operation spreads the fragment the link exists and the
    same rule returns normally (no error: `$v` is non-null) -/
example : validate [valuesOfCorrectType] Witness.schema Witness.docUsed = .ok [] := by decide +kernel

/- OverlappingFieldsCanBeMerged (the repaired algorithm, DESIGN §7 R2d): (a) termination and cost, (b) no panic. -/

/-- (a) The fuel that the entry point `overlapRun` (one `findConflictsWithinSelectionSet` call of an
    observer) hands out is never exhausted — `overlapFuel` nested `findConflict` calls, `K+2` frames
    per (E) recursion and `2·K²+2` frames per `check` recursion (`K` = fragment definitions) — for
    every schema view, document, link state, selection set and every manager state whose
    fragment-pair memo is SYMMETRIC (an invariant of the rule state: it holds initially and the
    theorem returns it; the memo of (selection set, fragment) comparisons may contain anything).
    So the recursion of the real code, which has no fuel, is well-founded on every input, cyclic
    fragments included: termination follows from the two memos alone. -/
theorem C02_overlap_fuel_suffices (s : SV) (d : QueryDoc) (l : Links) (parent : Option Definition)
    (sels : Selections) (st : OSt) (hP : PSym st.pairs) :
    ∃ st' cs, overlapRun s d l parent sels st = some (st', cs) ∧ PSym st'.pairs := by
  obtain ⟨⟨st', cs⟩, h, a, _⟩ := overlapRun_ok s d l parent sels st hP
  exact ⟨st', cs, h, a⟩

/-- The polynomial cost bound (DESIGN C02; it rests on the library's memo of (selection set, fragment)
    comparisons).  `steps` counts every call of `findConflict`, of
    `collectConflictsBetweenFieldsAndFragment` and of `collectConflictsBetweenFragments.check`.
    ONE observer call (`findConflictsWithinSelectionSet(sels)`) takes at most
        overlapStepBound d sels = (N+1)² · (2·K² + 2·(F+1)·K + 1)
    of them, where `N` / `F` = field-and-spread nodes / field nodes of `sels` and of all fragment
    definitions and `K` = fragment definitions — for EVERY document (cyclic fragments included), every
    link state and every manager state reachable in a validation run (`PSym`; the content of the
    two memos only makes the call cheaper). -/
theorem C02_overlap_ticks (s : SV) (d : QueryDoc) (l : Links) (parent : Option Definition)
    (sels : Selections) (st : OSt) (hP : PSym st.pairs) :
    ∃ st' cs, overlapRun s d l parent sels st = some (st', cs) ∧
      st'.steps ≤ st.steps + overlapStepBound d sels := by
  obtain ⟨⟨st', cs⟩, h, _, _, k⟩ := overlapRun_ok s d l parent sels st hP
  exact ⟨st', cs, h, k⟩

/-- the bound of `C02_overlap_ticks`, spelled out -/
theorem C02_overlap_step_bound_poly (d : QueryDoc) (sels : Selections) :
    overlapStepBound d sels =
      (reachableNodeCount d sels + 1) * (reachableNodeCount d sels + 1) *
        (2 * d.frags.length * d.frags.length + 2 * (reachableFieldCount d sels + 1) * d.frags.length + 1) := rfl

/-- Whole validation: over ANY list of events (in particular the events of `walkDoc`), started from
    the initial manager, the rule returns normally on every event and takes at most the sum of the
    per-observer-call bounds (`eventBound d e = overlapStepBound d sels` for the selection set the
    observer of `e` works on, `0` for the events the rule ignores).  `overlapFold` is the sequence
    of states the engine threads for the rule (`overlap_running_step`). -/
theorem C02_overlap_ticks_validation (s : SV) (d : QueryDoc) (evs : List Event) :
    ∃ st', overlapFold s d OSt.init evs = some st' ∧ st'.steps ≤ sumBounds d evs := by
  obtain ⟨st', h, _, k⟩ := overlapFold_steps s d evs OSt.init PSym_nil
  refine ⟨st', h, ?_⟩
  simpa [OSt.init] using k

/-- … hence a polynomial in the size of the document: if every selection set an observer is called
    for has at most `n` field-and-spread nodes and `f` field nodes (every selection set of the
    document does, for `n` / `f` the node / field count of the document: the events of `walkDoc` carry
    nodes of the document — `walkDoc_opsIn`, `walkDoc_cov`), the whole validation takes at most
        #events · (n + Nf + 1)² · (2·K² + 2·(f + Ff + 1)·K + 1)
    steps (`Nf`/`Ff` = nodes / fields of the fragment definitions; #events is bounded by
    `C02_walk_events_bound`). -/
theorem C02_overlap_ticks_validation_poly (s : SV) (d : QueryDoc) (evs : List Event) (n f : Nat)
    (hin : ∀ e ∈ evs, ∀ sels, eventSels e = some sels → countNodes sels ≤ n ∧ countFields sels ≤ f) :
    ∃ st', overlapFold s d OSt.init evs = some st' ∧
      st'.steps ≤ evs.length *
        ((n + fragNodeCount d + 1) * (n + fragNodeCount d + 1) *
          (2 * d.frags.length * d.frags.length + 2 * (f + fragFieldCount d + 1) * d.frags.length + 1)) := by
  obtain ⟨st', h, k⟩ := C02_overlap_ticks_validation s d evs
  -- a sum of per-event bounds, each at most `B`, is at most `#events · B`
  have sum_le : ∀ (B : Nat) (l : List Event), (∀ e ∈ l, eventBound d e ≤ B) → sumBounds d l ≤ l.length * B := by
    intro B l hB
    induction l with
    | nil => simp [sumBounds, sumNat]
    | cons e es ih =>
      have h1 := hB e List.mem_cons_self
      have h2 := ih fun e' he' => hB e' (List.mem_cons_of_mem _ he')
      simp only [sumBounds, List.map_cons, sumNat_cons, List.length_cons] at h2 ⊢
      rw [Nat.succ_mul]
      omega
  refine ⟨st', h, Nat.le_trans k (sum_le _ evs fun e he => ?_)⟩
  unfold eventBound
  cases hs : eventSels e with
  | none => exact Nat.zero_le _
  | some sels =>
    obtain ⟨h1, h2⟩ := hin e he sels hs
    simp only
    rw [C02_overlap_step_bound_poly]
    unfold reachableNodeCount reachableFieldCount
    apply Nat.mul_le_mul
    · exact Nat.mul_le_mul (by omega) (by omega)
    · have : 2 * (countFields sels + fragFieldCount d + 1) * d.frags.length ≤
          2 * (f + fragFieldCount d + 1) * d.frags.length :=
        Nat.mul_le_mul_right _ (Nat.mul_le_mul_left _ (by omega))
      omega

/-- (b) The rule model has no panic outcome: from a manager whose fragment-pair memo is symmetric
    every observer call returns an error list (and such a manager); and in ANY state the only
    non-`ok` outcome the step function can produce at all is the out-of-fuel marker — there is no Go
    panic site left in the rule (`Schema.Types[...]` is nil-guarded in `doTypesConflict`), so not even
    `Closed s` is needed. -/
theorem C02_overlap_no_panic (s : Schema) (d : QueryDoc) (st : OSt) (e : Event) :
    (PSym st.pairs → ∃ st' errs, overlappingFieldsStep s.view d st e = .ok st' errs ∧ PSym st'.pairs) ∧
    (∀ m, overlappingFieldsStep s.view d st e = .panic m → m = overlapOutOfFuel) :=
  ⟨fun h => by
      obtain ⟨st', errs, h1, h2, _⟩ := overlappingFieldsStep_ok s.view d st e h
      exact ⟨st', errs, h1, h2⟩,
   fun m h => overlappingFieldsStep_panic_only_fuel s.view d st e m h⟩

/-- `C02_validate_no_panic_parsed_partial` with OverlappingFieldsCanBeMerged: every rule list drawn
    from `panicFreeRules'`, KnownRootType and OverlappingFieldsCanBeMerged (that is all of
    `modelledRules`: `C02_modelled_rules_covered`) returns an error list on every schema and every
    document with parser-produced operation kinds — no panic, no fuel exhaustion. -/
theorem C02_validate_no_panic_with_overlap_partial (rs : List Rule) (s : Schema) (d : QueryDoc)
    (hd : ∀ op ∈ d.ops, op.op ∈ parserOpKinds)
    (h : ∀ r ∈ rs, r ∈ panicFreeRules' ∨ r = knownRootType ∨ r = overlappingFieldsCanBeMerged) :
    ∃ errs, validate rs s d = .ok errs :=
  validateV_safe rs s.view d hd fun r hr => (h r hr).imp (panicFreeRules'_neverPanic r) id

/-- non-vacuity: the rule alone, and together with all other panic-free rules, is covered -/
example (s : Schema) (d : QueryDoc) (hd : ∀ op ∈ d.ops, op.op ∈ parserOpKinds) :
    ∃ errs, validate (overlappingFieldsCanBeMerged :: knownRootType :: panicFreeRules') s d = .ok errs :=
  C02_validate_no_panic_with_overlap_partial _ s d hd fun r hr => by
    rcases List.mem_cons.1 hr with h | hr
    · exact Or.inr (Or.inr h)
    · rcases List.mem_cons.1 hr with h | hr
      · exact Or.inr (Or.inl h)
      · exact Or.inl hr

/-- every modelled rule is KnownRootType, OverlappingFieldsCanBeMerged or one of the 29 rules that never panic -/
theorem C02_modelled_rules_covered : ∀ r ∈ modelledRules,
    r ∈ panicFreeRules' ∨ r = knownRootType ∨ r = overlappingFieldsCanBeMerged := by
  -- every rule is found in one of the lists as the same term: no equality test between rules
  simp [modelledRules, panicFreeRules', panicFreeRules]

/-- C02 for ALL 31 modelled rules (all 27 default rules, OverlappingFieldsCanBeMerged included, and the
    four `…WithoutSuggestions` twins), in any selection and order, on EVERY schema: validation of a
    document whose operation kinds are ones the parser produces returns an error list — it neither
    panics nor runs out of fuel.  The only hypothesis is `hd` (operation kinds); it is needed for
    KnownRootType alone. -/
theorem C02_validate_no_panic_parsed (rs : List Rule) (s : Schema) (d : QueryDoc)
    (hd : ∀ op ∈ d.ops, op.op ∈ parserOpKinds)
    (h : ∀ r ∈ rs, r ∈ modelledRules) : ∃ errs, validate rs s d = .ok errs :=
  C02_validate_no_panic_with_overlap_partial rs s d hd fun r hr => C02_modelled_rules_covered r (h r hr)

/-- … in particular the modelled default rule set -/
theorem C02_validate_default_no_panic_parsed (s : Schema) (d : QueryDoc)
    (hd : ∀ op ∈ d.ops, op.op ∈ parserOpKinds) : ∃ errs, validate defaultRules s d = .ok errs := by
  apply C02_validate_no_panic_parsed defaultRules s d hd
  intro r hr
  simp only [defaultRules, List.mem_filterMap] at hr
  obtain ⟨n, _, hn⟩ := hr
  exact List.mem_of_find?_eq_some hn

/-
  Why the library memoises (DESIGN §7 R2d): with the in-progress set of its first repair the rule
  terminated but was exponential —
      { u { ...F } }   fragment F on Node { u { u { … u { id ...F } … ...F } ...F } }      (k levels)
  took 5 s for k = 10, 33 s for k = 11, 214 s for k = 12 (173 bytes).  With the memo of (selection set,
  fragment) comparisons (one per `findConflictsWithinSelectionSet` call) the same family takes 3 ms at
  k = 12, 72 ms at k = 48, 0.7 s at k = 96 (about k³), and the bound is `C02_overlap_ticks` above.
  The memo is per top-level call because the walker links fields as it goes: a comparison cached
  while a fragment was only partly linked must not suppress the same comparison later (with a memo
  per rule instance the rule's verdict changed on 0.2 % of the cyclic documents of X-overlap).
-/

/-- kernel-checked: on `{ u { ...F } } fragment F on Node { u { id ...F } ...F }` — a fragment that
    reaches itself directly and through a field, the shape of DESIGN §7 R2d — the model of the repaired
    rule terminates with an empty error list (the real rule agrees: X-overlap) -/
theorem C02_overlap_cyclic_witness :
    validate [overlappingFieldsCanBeMerged] OverlapWitness.schema OverlapWitness.docCycle = .ok [] := by
  decide +kernel

#print axioms C02_walk_terminates
#print axioms C02_validate_fuel_suffices
#print axioms C02_walk_events_bound
#print axioms C02_validate_no_panic_partial
#print axioms C02_panic_free_rule_names
#print axioms C02_validate_no_panic_parsed_partial
#print axioms C02_overlap_fuel_suffices
#print axioms C02_overlap_ticks
#print axioms C02_overlap_step_bound_poly
#print axioms C02_overlap_ticks_validation
#print axioms C02_overlap_ticks_validation_poly
#print axioms C02_overlap_no_panic
#print axioms C02_validate_no_panic_with_overlap_partial
#print axioms C02_overlap_cyclic_witness
#print axioms C02_modelled_rules_covered
#print axioms C02_validate_no_panic_parsed
#print axioms C02_validate_default_no_panic_parsed
#print axioms C02_validate_needs_parser_op_kinds
#print axioms C02_validate_R2a_returns
#print axioms C02_validate_R2b_returns
#print axioms C02_validate_default_R2a_returns

/-! ### facts regenerated from /repo's sources on every run (GqlModel/Gen/Facts.lean) -/

/-- Every explicit `panic(` of the library's non-test code is one of the classified sites
    (`Gen.accountedPanics`): a new panic site breaks this lemma. -/
theorem C02_gen_panic_sites_accounted :
    ∀ s ∈ Gql.Gen.panicSites, (Gql.Gen.accountedPanics.lookup s).isSome := by decide +kernel

/-- reflect is used only where the model accounts for it -/
theorem C02_gen_reflect_calls_accounted :
    ∀ s ∈ Gql.Gen.reflectCalls, s.1 ∈ Gql.Gen.reflectFiles := by decide +kernel

/-- the introspection list-depth limit of the model is the source's constant -/
theorem C02_gen_max_lists_depth : Gql.Gen.maxListsDepth = Gql.Validate.Rules.maxListsDepth := by decide +kernel
