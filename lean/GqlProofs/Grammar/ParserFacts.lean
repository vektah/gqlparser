import GqlModel.Parser.Schema
/-
  The PARSER MODEL on several sources, used by C06: `parseSchemasFrom` parses each source in turn, and the merge concatenates
  the documents field by field.
-/
namespace Gql.Parser
open Gql

/-- `ds` are the documents of the sources `srcs`, numbered from `i` -/
def ParsedFrom (limit : Nat) : Nat → List (Bool × Bytes) → List SchemaDoc → Prop
  | _, [], [] => True
  | i, (bi, inp) :: rest, d :: ds => parseSchemaSrc limit i bi inp = .ok d ∧ ParsedFrom limit (i + 1) rest ds
  | _, _, _ => False

theorem parseSchemasFrom_ok (limit : Nat) :
    ∀ (srcs : List (Bool × Bytes)) (i : Nat) (acc d : SchemaDoc),
      parseSchemasFrom limit i acc srcs = .ok d →
      ∃ ds, ParsedFrom limit i srcs ds ∧ d = ds.foldl SchemaDoc.merge acc := by
  intro srcs
  induction srcs with
  | nil =>
    intro i acc d h
    exact ⟨[], trivial, (Result.ok.inj h).symm⟩
  | cons s rest ih =>
    intro i acc d h
    obtain ⟨bi, inp⟩ := s
    simp only [parseSchemasFrom] at h
    split at h
    · rename_i d1 h1
      obtain ⟨ds, hp, hd⟩ := ih _ _ _ h
      exact ⟨d1 :: ds, ⟨h1, hp⟩, hd⟩
    · rename_i r hne
      exact absurd h (hne d)

theorem foldl_merge_fields (ds : List SchemaDoc) : ∀ acc : SchemaDoc,
    (ds.foldl SchemaDoc.merge acc).schema = acc.schema ++ ds.flatMap (·.schema)
    ∧ (ds.foldl SchemaDoc.merge acc).schemaExt = acc.schemaExt ++ ds.flatMap (·.schemaExt)
    ∧ (ds.foldl SchemaDoc.merge acc).directives = acc.directives ++ ds.flatMap (·.directives)
    ∧ (ds.foldl SchemaDoc.merge acc).definitions = acc.definitions ++ ds.flatMap (·.definitions)
    ∧ (ds.foldl SchemaDoc.merge acc).extensions = acc.extensions ++ ds.flatMap (·.extensions) := by
  induction ds with
  | nil => intro acc; simp
  | cons d ds ih =>
    intro acc
    simp only [List.foldl_cons, List.flatMap_cons, ih]
    simp [SchemaDoc.merge]

end Gql.Parser
