import GqlProofs.Grammar.PrintShared
/-
  `printQuery` of a well-formed tree is a sentence of `ExecutableDocument`.

  The productions whose tree holds a nested selection set (`derives_field`, `derives_inline`,
  `derives_operation`, `derives_fragment`) are stated for ANY derivation of the nested part, with the
  print of the tree as canonical form: parser soundness uses them with the consumed tokens, and
  `L_selection`, `L_operation`, `L_fragment` are the case where the nested part is printed too.
-/
namespace Gql.Grammar
open Gql Gql.Lexer Gql.Print

theorem Derives.cast {g : Grammar NT} {s : Sym NT} {t t' o o' : List Tok} (h : Derives g s t o) (ht : t = t') (ho : o = o') :
    Derives g s t' o' := ht ▸ ho ▸ h


theorem head_printArguments (as : List Argument) : ∀ t, (printArguments as).head? = some t → t = tP .parenL := by
  intro t h
  cases as with
  | nil => cases h
  | cons a r => exact (Option.some.inj h).symm

theorem head_printDirectives (ds : List Directive) : ∀ t, (printDirectives ds).head? = some t → t = tP .at := by
  intro t h
  cases ds with
  | nil => cases h
  | cons d r => exact (Option.some.inj h).symm

theorem head_printVarDefs (vs : List VarDef) : ∀ t, (printVarDefs vs).head? = some t → t = tP .parenL := by
  intro t h
  cases vs with
  | nil => cases h
  | cons a r => exact (Option.some.inj h).symm

theorem head_append_of {xs ys : List Tok} {P : Tok → Prop} (hx : ∀ t, xs.head? = some t → P t)
    (hy : xs = [] → ∀ t, ys.head? = some t → P t) : ∀ t, (xs ++ ys).head? = some t → P t := by
  cases xs with
  | nil => exact hy rfl
  | cons x r => exact hx

theorem head_append {xs ys : List Tok} {P : Tok → Prop} (hx : ∀ t, xs.head? = some t → P t)
    (hy : ∀ t, ys.head? = some t → P t) : ∀ t, (xs ++ ys).head? = some t → P t :=
  head_append_of hx fun _ => hy

theorem dropSelfAlias_plain (n : Tok) (rest : List Tok) (h : ∀ t, rest.head? = some t → t.kind ≠ .colon) :
    dropSelfAlias (n :: rest) = n :: rest := by
  match rest, h with
  | [], _ => rfl
  | [b], _ => rfl
  | b :: c :: r, h => simp [dropSelfAlias, h b rfl]

theorem dropSelfAlias_alias (al nm : Name) (hne : al ≠ nm) (rest : List Tok) :
    dropSelfAlias (tName al :: tP .colon :: tName nm :: rest) = tName al :: tP .colon :: tName nm :: rest := by
  simp [dropSelfAlias, tName, Ne.symm hne]

theorem dropBareQuery_brace (rest : List Tok) : dropBareQuery (tP .braceL :: rest) = tP .braceL :: rest := by
  cases rest with
  | nil => rfl
  | cons b r => simp [dropBareQuery, tP]

theorem dropBareQuery_second (a : Tok) (rest : List Tok) (h : ∀ t, rest.head? = some t → t.kind ≠ .braceL) :
    dropBareQuery (a :: rest) = a :: rest := by
  cases rest with
  | nil => rfl
  | cons b r => simp [dropBareQuery, h b rfl]

theorem dropBareQuery_first (a : Tok) (rest : List Tok) (h : a.value ≠ str "query") :
    dropBareQuery (a :: rest) = a :: rest := by
  cases rest with
  | nil => rfl
  | cons b r => simp [dropBareQuery, h]

/-- the canonical form of `SelectionSet?` in a field -/
def selOut : Selections → List Tok
  | .nil => []
  | .cons s rest => tP .braceL :: printSelections (.cons s rest) ++ [tP .braceR]

theorem selOut_of_ne {ss : Selections} (h : ss ≠ .nil) : selOut ss = printSelectionSet ss := by
  cases ss with
  | nil => exact absurd rfl h
  | cons s rest => rfl

theorem printSelection_field (al nm : Name) (args : List Argument) (ds : List Directive) (ss : Selections) (p : Pos) :
    printSelection (.field al nm args ds ss p) =
      (if al = nm then [] else [tName al, tP .colon]) ++ tName nm :: (printArguments args ++ (printDirectives ds ++ selOut ss)) := by
  cases ss <;> simp [printSelection, selOut]

theorem head_selOut (ss : Selections) : ∀ t, (selOut ss).head? = some t → t.kind ≠ .colon := by
  intro t h
  cases ss with
  | nil => simp [selOut] at h
  | cons s rest => simp [selOut] at h; subst h; simp [tP]

theorem dropSelfAlias_self (a : Name) (rest : List Tok) :
    dropSelfAlias (tName a :: tP .colon :: tName a :: rest) = tName a :: rest := by
  simp [dropSelfAlias, tName, tP]

/-- the canonical form of a field is its unparse: a self-alias `a: a` is dropped, nothing else changes -/
theorem dropSelfAlias_field (al nm : Name) (args : List Argument) (ds : List Directive) (ss : Selections) (pos : Pos)
    (colon : Bool) (hcol : colon = false → al = nm) :
    dropSelfAlias ((if colon then [tName al, tP .colon] else []) ++ ([tName nm] ++ (printArguments args ++
      (printDirectives ds ++ selOut ss)))) = printSelection (.field al nm args ds ss pos) := by
  rw [printSelection_field]
  cases colon with
  | false =>
    obtain rfl := hcol rfl
    simp only [Bool.false_eq_true, if_false, List.nil_append, if_true, List.singleton_append]
    refine dropSelfAlias_plain _ _ (head_append (fun t h => ?_) (head_append (fun t h => ?_) (head_selOut ss)))
    · rw [head_printArguments _ t h]; simp [tP]
    · rw [head_printDirectives _ t h]; simp [tP]
  | true =>
    by_cases he : al = nm
    · subst he
      simpa using dropSelfAlias_self al _
    · simpa [he] using dropSelfAlias_alias al nm he _

theorem derives_field (al nm : Name) (args : List Argument) (ds : List Directive) (ss : Selections) (pos : Pos)
    (colon : Bool) (hcol : colon = false → al = nm) {tsSel : List Tok}
    (hsel : Derives gql (.opt (.nt .selectionSet)) tsSel (selOut ss)) :
    Derives gql (.nt .selection)
      ((if colon then [tName al, tP .colon] else []) ++ tName nm :: (printArguments args ++ (printDirectives ds ++ tsSel)))
      (printSelection (.field al nm args ds ss pos)) := by
  have halias : Derives gql (.opt (.nt .alias)) (if colon then [tName al, tP .colon] else [])
      (if colon then [tName al, tP .colon] else []) := by
    cases colon
    · exact Derives.optNone
    · exact Derives.optSome (L.nt (L.cons (L.name al) (L.kind .colon)))
  have body := Derives.seq halias (Derives.seq (L.name nm) (Derives.seq (L_optArguments false args (by simp))
    (Derives.seq (L_optDirectives false ds (by simp)) hsel)))
  exact (Derives.nt (n := NT.selection) (Derives.altL (Derives.nt (n := NT.field) (Derives.canon (f := dropSelfAlias) body)))).cast
    (by simp) (dropSelfAlias_field al nm args ds ss pos colon hcol)

theorem derives_inline (tc : Name) (ds : List Directive) (ss : Selections) (pos : Pos) {tsSS : List Tok}
    (hss : Derives gql (.nt .selectionSet) tsSS (printSelectionSet ss)) :
    Derives gql (.nt .selection)
      (tP .spread :: ((if tc = [] then [] else [tKw "on", tName tc]) ++ (printDirectives ds ++ tsSS)))
      (printSelection (.inline tc ds ss pos)) := by
  have htc : L (.opt (.nt .typeCondition)) (if tc = [] then [] else [tKw "on", tName tc]) := by
    split
    · exact L.optNone
    · exact L.optSome (L.nt (L.cons (L.kw "on") (L.namedType tc)))
  have hi := Derives.nt (n := NT.inlineFragment)
    (Derives.seq (L.kind .spread) (Derives.seq htc (Derives.seq (L_optDirectives false ds (by simp)) hss)))
  exact (Derives.nt (n := NT.selection) (Derives.altR (Derives.altR hi))).cast (by simp)
    (by simp [printSelection, printSelectionSet])

mutual
  theorem L_selection : ∀ s : Selection, WFSelection s → L (.nt .selection) (printSelection s)
    | .field al nm args ds sel pos, h => by
      have hsel : L (.opt (.nt .selectionSet)) (selOut sel) := by
        cases sel with
        | nil => exact L.optNone
        | cons s rest => exact L.optSome (L_selectionSet (.cons s rest) Selections.noConfusion h)
      have := derives_field al nm args ds sel pos (decide (al ≠ nm)) (by simp) hsel
      rwa [show _ ++ _ = printSelection (.field al nm args ds sel pos) by simp [printSelection_field]] at this
    | .spread nm ds _, h => by
      have hn : L (.nt .fragmentName) [tName nm] := L.nt (L.tok (by simpa [tName, WFSelection] using h))
      exact L.nt (L.altR (L.altL (L.nt (L.kindCons .spread (L.cons hn (L_optDirectives false ds (by simp)))))))
    | .inline tc ds sel pos, h => by
      simpa [L, printSelection, printSelectionSet] using derives_inline tc ds sel pos (L_selectionSet sel h.1 h.2)
  theorem L_selections : ∀ ss : Selections, WFSelections ss → L (.star (.nt .selection)) (printSelections ss)
    | .nil, _ => L.starNil
    | .cons s rest, h => L.starCons (L_selection s h.1) (L_selections rest h.2)
  theorem L_selectionSet : ∀ sel : Selections, sel ≠ .nil → WFSelections sel →
      L (.nt .selectionSet) (printSelectionSet sel)
    | .nil, hne, _ => absurd rfl hne
    | .cons s rest, _, h =>
      L.nt (L.kindCons .braceL (L.seq (L.plus (L_selection s h.1) (L_selections rest h.2)) (L.kind .braceR)))
end

theorem L_varDef (v : VarDef) (h : WFVarDef v) : L (.nt .variableDefinition) (printVarDef v) := by
  have := L.nt (n := .variableDefinition) (L.seq (L.nt (n := .var) (L.cons (L.kind .dollar) (L.name v.var)))
    (L.kindCons .colon (L.seq (L_type v.type) (L.seq (L_optDefault v.default h.1)
      (L_optDirectives true v.dirs fun _ => h.2)))))
  simpa [printVarDef, List.append_assoc] using this

theorem L_optVarDefs (vs : List VarDef) (h : ∀ v ∈ vs, WFVarDef v) :
    L (.opt (.nt .variableDefinitions)) (printVarDefs vs) :=
  L.optDelim .parenL .parenR rfl vs fun x hx => L_varDef x (h x hx)

theorem L_operationType (op : Bytes) (h : op = str "query" ∨ op = str "mutation" ∨ op = str "subscription") :
    L (.nt .operationType) [tName op] := by
  rcases h with h | h | h
  · exact h ▸ L.nt (L.altL (L.kw "query"))
  · exact h ▸ L.nt (L.altR (L.altL (L.kw "mutation")))
  · exact h ▸ L.nt (L.altR (L.altR (L.kw "subscription")))

/-- after the keyword `query` of an operation that is not bare comes its name, `(` or `@` -/
theorem head_operation (o : OperationDef) (hq : o.op = str "query") (hbare : ¬ OperationDef.isBare o = true)
    (rest : List Tok) :
    ∀ t, ((if o.name = [] then [] else [tName o.name]) ++ (printVarDefs o.vars ++ (printDirectives o.dirs ++ rest))).head?
      = some t → t.kind ≠ .braceL := by
  refine head_append_of (fun t h => ?_) fun h1 => head_append_of (fun t h => ?_) fun h2 =>
    head_append_of (fun t h => ?_) fun h3 => absurd ?_ hbare
  · split at h
    · cases h
    · cases h; simp [tName]
  · rw [head_printVarDefs _ t h]; decide
  · rw [head_printDirectives _ t h]; decide
  · cases hv : o.vars <;> cases hd : o.dirs <;>
      simp_all [OperationDef.isBare, printVarDefs, printDirectives, printDirective]

theorem dropBareQuery_nonbare (o : OperationDef) (hbare : ¬ OperationDef.isBare o = true) :
    dropBareQuery (tName o.op :: ((if o.name = [] then [] else [tName o.name]) ++
        (printVarDefs o.vars ++ (printDirectives o.dirs ++ printSelectionSet o.sel))))
      = tName o.op :: ((if o.name = [] then [] else [tName o.name]) ++
        (printVarDefs o.vars ++ (printDirectives o.dirs ++ printSelectionSet o.sel))) := by
  by_cases hq : o.op = str "query"
  · exact dropBareQuery_second _ _ (head_operation o hq hbare _)
  · exact dropBareQuery_first _ _ hq

/-- the canonical form of an operation written with its keyword is its unparse: a bare `query` is dropped -/
theorem dropBareQuery_long (o : OperationDef) :
    dropBareQuery (tName o.op :: ((if o.name = [] then [] else [tName o.name]) ++
      (printVarDefs o.vars ++ (printDirectives o.dirs ++ printSelectionSet o.sel)))) = printOperation o := by
  by_cases hb : OperationDef.isBare o = true
  · have hp : printOperation o = printSelectionSet o.sel := by simp [printOperation, hb]
    rw [hp]
    simp only [OperationDef.isBare, Bool.and_eq_true, beq_iff_eq, List.isEmpty_iff] at hb
    obtain ⟨⟨⟨h1, h2⟩, h3⟩, h4⟩ := hb
    simp [h1, h2, h3, h4, printVarDefs, printDirectives, printSelectionSet, dropBareQuery, tName, tP]
  · rw [dropBareQuery_nonbare o hb]
    simp [printOperation, hb]

theorem derives_operation (o : OperationDef)
    (hop : o.op = str "query" ∨ o.op = str "mutation" ∨ o.op = str "subscription")
    (hvars : ∀ v ∈ o.vars, WFVarDef v) {tsSS : List Tok}
    (hss : Derives gql (.nt .selectionSet) tsSS (printSelectionSet o.sel)) :
    Derives gql (.nt .operationDefinition)
      (tName o.op :: ((if o.name = [] then [] else [tName o.name]) ++ (printVarDefs o.vars ++ (printDirectives o.dirs ++ tsSS))))
      (printOperation o) := by
  have hn : L (.opt (.nt .name)) (if o.name = [] then [] else [tName o.name]) := by
    split
    · exact L.optNone
    · exact L.optSome (L.name o.name)
  have hbody := Derives.altL (b := .nt .selectionSet) (Derives.seq (L_operationType o.op hop) (Derives.seq hn
    (Derives.seq (L_optVarDefs o.vars hvars) (Derives.seq (L_optDirectives false o.dirs (by simp)) hss))))
  exact (Derives.nt (n := NT.operationDefinition) (Derives.canon (f := dropBareQuery) hbody)).cast (by simp)
    (by simpa using dropBareQuery_long o)

theorem L_operation (o : OperationDef) (h : WFOperation o) : L (.nt .operationDefinition) (printOperation o) := by
  obtain ⟨hop, hvars, hne, hsel⟩ := h
  by_cases hb : OperationDef.isBare o = true
  · simpa [printOperation, hb] using
      L.nt (n := .operationDefinition) (L.canon (L.altR (L_selectionSet o.sel hne hsel)) (dropBareQuery_brace _))
  · simpa [L, printOperation, hb] using derives_operation o hop hvars (L_selectionSet o.sel hne hsel)

theorem derives_fragment (f : FragmentDef) (hname : f.name ≠ str "on") (hvars : ∀ v ∈ f.vars, WFVarDef v)
    {tsSS : List Tok} (hss : Derives gql (.nt .selectionSet) tsSS (printSelectionSet f.sel)) :
    Derives gql (.nt .fragmentDefinition)
      (tKw "fragment" :: tName f.name :: (printVarDefs f.vars ++ (tKw "on" :: tName f.typeCond ::
        (printDirectives f.dirs ++ tsSS))))
      (printFragment f) := by
  have hfn : L (.nt .fragmentName) [tName f.name] := L.nt (L.tok (by simp [tName, hname]))
  have htc : L (.nt .typeCondition) [tKw "on", tName f.typeCond] := L.nt (L.cons (L.kw "on") (L.namedType f.typeCond))
  have := Derives.nt (n := NT.fragmentDefinition) (Derives.seq (L.kw "fragment") (Derives.seq hfn
    (Derives.seq (L_optVarDefs f.vars hvars) (Derives.seq htc (Derives.seq (L_optDirectives false f.dirs (by simp)) hss)))))
  exact this.cast (by simp) (by simp [printFragment])

theorem L_fragment (f : FragmentDef) (h : WFFragment f) : L (.nt .fragmentDefinition) (printFragment f) := by
  simpa [L, printFragment] using derives_fragment f h.1 h.2.1 (L_selectionSet f.sel h.2.2.1 h.2.2.2)

theorem L_inSourceOrder {a : Sym NT} (items : List (Nat × List Tok)) (hne : items ≠ []) (h : ∀ x ∈ items, L a x.2) :
    L (.plus a) (inSourceOrder items).flatten := by
  have hp := List.mergeSort_perm items fun a b => decide (a.1 ≤ b.1)
  refine L.plus_flatMap _ (fun e => ?_) fun x hx => h x (hp.mem_iff.1 hx)
  rw [e] at hp
  exact hne hp.nil_eq.symm

theorem printQuery_in_grammar (d : QueryDoc) (h : WFQuery d) : L (.nt .executableDocument) (printQuery d) := by
  obtain ⟨hne, hops, hfrags⟩ := h
  refine L.nt (L_inSourceOrder _ ?_ fun x hx => ?_)
  · intro e
    simp only [List.append_eq_nil_iff, List.map_eq_nil_iff] at e
    exact hne.elim (· e.1) (· e.2)
  · rcases List.mem_append.1 hx with hx | hx
    · obtain ⟨o, ho, rfl⟩ := List.mem_map.1 hx
      exact L.nt (L.altL (L_operation o (hops o ho)))
    · obtain ⟨f, hf, rfl⟩ := List.mem_map.1 hx
      exact L.nt (L.altR (L_fragment f (hfrags f hf)))

end Gql.Grammar
