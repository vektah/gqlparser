import GqlModel.Syntax.Print
import GqlProofs.Grammar.Analysis
import GqlProofs.Lexer.Progress
/-
  More inversion lemmas for `Derives`, and the terminals of `gql` on lexer-shaped tokens (`TsOK`).
-/
namespace Gql.Grammar
open Gql Gql.Lexer Gql.Print

theorem Derives.opt_inv {N : Type} {g : Grammar N} {a : Sym N} {ts out : List Tok}
    (h : Derives g (.opt a) ts out) : (ts = [] ∧ out = []) ∨ Derives g a ts out := by
  cases h with
  | optNone => exact .inl ⟨rfl, rfl⟩
  | optSome d => exact .inr d

theorem Derives.star_parts {N : Type} {g : Grammar N} {a : Sym N} {ts out : List Tok} (h : Derives g (.star a) ts out) :
    ∃ parts : List (List Tok × List Tok), ts = parts.flatMap (·.1) ∧ out = parts.flatMap (·.2) ∧
      ∀ p ∈ parts, Derives g a p.1 p.2 := by
  generalize hs : Sym.star a = s at h
  induction h with
  | starNil => exact ⟨[], rfl, rfl, fun _ h => by cases h⟩
  | @starCons a' t1 t2 o1 o2 h1 _ _ ih2 =>
    cases hs
    obtain ⟨parts, rfl, rfl, hp⟩ := ih2 rfl
    exact ⟨(t1, o1) :: parts, rfl, rfl, List.forall_mem_cons.2 ⟨h1, hp⟩⟩
  | _ => cases hs

theorem Derives.plus_parts {N : Type} {g : Grammar N} {a : Sym N} {ts out : List Tok} (h : Derives g (.plus a) ts out) :
    ∃ parts : List (List Tok × List Tok), parts ≠ [] ∧ ts = parts.flatMap (·.1) ∧ out = parts.flatMap (·.2) ∧
      ∀ p ∈ parts, Derives g a p.1 p.2 := by
  cases h with
  | @plus _ t1 _ o1 _ h1 h2 =>
    obtain ⟨parts, rfl, rfl, hp⟩ := h2.star_parts
    exact ⟨(t1, o1) :: parts, List.cons_ne_nil _ _, rfl, rfl, List.forall_mem_cons.2 ⟨h1, hp⟩⟩

/-- lexer-shaped tokens: a token whose kind carries no text has the empty value, and a Name is not empty -/
def TsOK (ts : List Tok) : Prop :=
  ∀ t ∈ ts, (t.kind.valued = false → t.value = []) ∧ (t.kind = .name → t.value ≠ [])

theorem TsOK.left {a b : List Tok} (h : TsOK (a ++ b)) : TsOK a := fun t ht => h t (by simp [ht])
theorem TsOK.right {a b : List Tok} (h : TsOK (a ++ b)) : TsOK b := fun t ht => h t (by simp [ht])
theorem TsOK.tail {t : Tok} {b : List Tok} (h : TsOK (t :: b)) : TsOK b := fun u hu => h u (by simp [hu])
theorem TsOK.of_flatMap {ι : Type} {f : ι → List Tok} {xs : List ι} (h : TsOK (xs.flatMap f)) : ∀ x ∈ xs, TsOK (f x) :=
  fun x hx t ht => h t (List.mem_flatMap.2 ⟨x, hx, ht⟩)

theorem kind_inv {N : Type} {g : Grammar N} {k : Kind} {ts out : List Tok} (h : Derives g (kind k) ts out) :
    ∃ t, ts = [t] ∧ out = [t] ∧ t.kind = k := by
  obtain ⟨t, e1, e2, hp⟩ := h.tok_inv
  exact ⟨t, e1, e2, by simpa using hp⟩

theorem punct_inv {N : Type} {g : Grammar N} {k : Kind} {ts out : List Tok} (h : Derives g (kind k) ts out) (hok : TsOK ts)
    (hv : k.valued = false) : ts = [tP k] ∧ out = [tP k] := by
  obtain ⟨⟨_, v⟩, rfl, rfl, rfl⟩ := kind_inv h
  obtain rfl : v = [] := (hok _ (List.mem_singleton_self _)).1 hv
  exact ⟨rfl, rfl⟩

theorem kw_inv {N : Type} {g : Grammar N} {s : String} {ts out : List Tok} (h : Derives g (kw (str s)) ts out) :
    ts = [tKw s] ∧ out = [tKw s] := by
  obtain ⟨⟨k, v⟩, rfl, rfl, hp⟩ := h.tok_inv
  obtain ⟨rfl, rfl⟩ : k = .name ∧ v = str s := by simpa using hp
  exact ⟨rfl, rfl⟩

theorem nameBut_inv {N : Type} {g : Grammar N} {ws : List Bytes} {ts out : List Tok} (h : Derives g (nameBut ws) ts out) :
    ∃ v, ts = [tName v] ∧ v ∉ ws := by
  obtain ⟨⟨k, v⟩, rfl, _, hp⟩ := h.tok_inv
  obtain ⟨rfl, hv⟩ : k = .name ∧ v ∉ ws := by simpa using hp
  exact ⟨v, rfl, hv⟩

theorem name_inv {ts out : List Tok} (h : Derives gql (.nt .name) ts out) : ∃ n, ts = [tName n] ∧ out = [tName n] := by
  obtain ⟨⟨_, v⟩, rfl, rfl, rfl⟩ := kind_inv h.nt_inv
  exact ⟨v, rfl, rfl⟩

end Gql.Grammar
