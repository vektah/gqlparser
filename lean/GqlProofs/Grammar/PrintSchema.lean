import GqlProofs.Grammar.PrintQuery
/-
  `printSchema` of a well-formed tree is a sentence of the type-system document grammar.

  `derives_inputValue`, `derives_schemaDef`, `derives_directiveDef`, `derives_definition`, `derives_extension` state
  their production for ANY derivation of the description (extensions have none) and of the nested or optional parts
  (`OptD`, `BodyParts`),
  with the print of the tree as canonical form: parser soundness uses them with the consumed tokens, and
  `L_inputValue`, `L_schemaDef`, `L_directiveDef`, `L_definition`, `L_extension` are the case where those parts are
  printed too.
-/
namespace Gql.Grammar
open Gql Gql.Lexer Gql.Print

theorem L_optDesc (d : Bytes) : L (.opt (.nt .description)) (printDesc d) :=
  L.optIf fun hd => L.nt (L.canon (L.tok rfl) (by simp [canonDescription, hd]))


namespace D
theorem kwCons {b : Sym NT} (s : String) {ts out : List Tok} (h : Derives gql b ts out) :
    Derives gql (.seq (Grammar.kw (str s)) b) (tKw s :: ts) (tKw s :: out) := Derives.seq (L.kw s) h
theorem kindCons {b : Sym NT} (k : Kind) {ts out : List Tok} (h : Derives gql b ts out) :
    Derives gql (.seq (Grammar.kind k) b) (tP k :: ts) (tP k :: out) := Derives.seq (L.kind k) h
theorem nameCons {b : Sym NT} (n : Name) {ts out : List Tok} (h : Derives gql b ts out) :
    Derives gql (.seq (.nt .name) b) (tName n :: ts) (tName n :: out) := Derives.seq (L.name n) h
end D

theorem derives_inputValue (desc : Bytes) (name : Name) (ty : GType) (dv : Option Value) (dirs : List Directive)
    {tsD : List Tok} (hD : Derives gql (.opt (.nt .description)) tsD (printDesc desc))
    (hdv : ∀ d, dv = some d → ConstValue d) (hdirs : ConstDirectives dirs) :
    Derives gql (.nt .inputValueDefinition)
      (tsD ++ tName name :: tP .colon :: (printType ty ++ (printDefault dv ++ printDirectives dirs)))
      (printDesc desc ++ tName name :: tP .colon :: (printType ty ++ (printDefault dv ++ printDirectives dirs))) :=
  Derives.nt (n := NT.inputValueDefinition) (Derives.seq hD (D.nameCons name (D.kindCons .colon
    (Derives.seq (L_type ty) (Derives.seq (L_optDefault dv hdv) (L_optDirectives true dirs fun _ => hdirs))))))

/-- InputValueDefinition, as an argument definition (`printArgDef`) or an input field (`printInputField`) -/
theorem L_inputValue (desc : Bytes) (name : Name) (type : GType) (default : Option Value) (dirs : List Directive)
    (h1 : ∀ d, default = some d → ConstValue d) (h2 : ConstDirectives dirs) :
    L (.nt .inputValueDefinition)
      (printDesc desc ++ tName name :: tP .colon :: printType type ++ printDefault default ++ printDirectives dirs) := by
  simpa [L, List.append_assoc] using derives_inputValue desc name type default dirs (L_optDesc desc) h1 h2

theorem L_optArgDefs (as : List ArgDef) (h : ∀ a ∈ as, WFArgDef a) :
    L (.opt (.nt .argumentsDefinition)) (printArgDefs as) :=
  L.optDelim .parenL .parenR rfl as fun a ha => L_inputValue a.desc a.name a.type a.default a.dirs (h a ha).1 (h a ha).2

theorem L_fieldDef (f : FieldDef) (h : WFFieldDef f) : L (.nt .fieldDefinition) (printFieldDef f) := by
  have := L.nt (n := .fieldDefinition) (L.seq (L_optDesc f.desc) (L.nameCons f.name (L.seq (L_optArgDefs f.args h.1)
    (L.kindCons .colon (L.seq (L_type f.type) (L_optDirectives true f.dirs fun _ => h.2))))))
  simpa [printFieldDef, List.append_assoc] using this

theorem L_enumVal (e : EnumValDef) (h : WFEnumVal e) : L (.nt .enumValueDefinition) (printEnumVal e) := by
  obtain ⟨⟨h1, h2, h3⟩, hd⟩ := h
  have hv : L (.nt .enumValue) [tName e.name] := L.nt (L.tok (by simp [tName, h1, h2, h3]))
  exact L.nt (L.seq (L_optDesc e.desc) (L.cons hv (L_optDirectives true e.dirs fun _ => hd)))

theorem printBlock_nil {α : Type} (f : α → List Tok) : printBlock f [] = [] := by simp [printBlock]

theorem L_fields (fs : List FieldDef) (hne : fs ≠ []) (h : ∀ f ∈ fs, WFFieldDef f) :
    L (.nt .fieldsDefinition) (printBlock printFieldDef fs) :=
  L.nt (L.block fs hne fun f hf => L_fieldDef f (h f hf))

theorem L_inputFields (fs : List FieldDef) (hne : fs ≠ []) (h : ∀ f ∈ fs, WFInputField f) :
    L (.nt .inputFieldsDefinition) (printBlock printInputField fs) :=
  L.nt (L.block fs hne fun f hf => L_inputValue f.desc f.name f.type f.default f.dirs (h f hf).1 (h f hf).2)

theorem L_enumValues (es : List EnumValDef) (hne : es ≠ []) (h : ∀ e ∈ es, WFEnumVal e) :
    L (.nt .enumValuesDefinition) (printBlock printEnumVal es) :=
  L.nt (L.block es hne fun e he => L_enumVal e (h e he))

theorem printSep_cons (sep : Kind) : ∀ (rest : List Name) (n : Name),
    printSep sep (n :: rest) = tName n :: rest.flatMap (fun m => [tP sep, tName m])
  | [], _ => rfl
  | m :: r, n => congrArg (tName n :: tP sep :: ·) (printSep_cons sep r m)

theorem L_sep (a : Sym NT) (sep : Kind) (n : Name) (rest : List Name) (h : ∀ m ∈ n :: rest, L a [tName m]) :
    L (.seq a (.star (.seq (Grammar.kind sep) a))) (printSep sep (n :: rest)) := by
  rw [printSep_cons]
  exact L.cons (h n List.mem_cons_self) (L.star_flatMap rest fun m hm => L.kindCons sep (h m (List.mem_cons_of_mem _ hm)))

theorem L_implements (ifs : List Name) (hne : ifs ≠ []) : L (.nt .implementsInterfaces) (printImplements ifs) := by
  cases ifs with
  | nil => exact absurd rfl hne
  | cons n rest =>
    exact L.nt (L.kwCons "implements" (L.skipNoise (L_sep (.nt .namedType) .amp n rest fun m _ => L.namedType m)))

theorem L_optImplements (ifs : List Name) : L (.opt (.nt .implementsInterfaces)) (printImplements ifs) := by
  cases ifs with
  | nil => exact L.optNone
  | cons _ _ => exact L.optSome (L_implements _ (List.cons_ne_nil _ _))

theorem L_members (ts : List Name) (hne : ts ≠ []) : L (.nt .unionMemberTypes) (printMembers ts) := by
  cases ts with
  | nil => exact absurd rfl hne
  | cons n rest =>
    exact L.nt (L.kindCons .equals (L.skipNoise (L_sep (.nt .namedType) .pipe n rest fun m _ => L.namedType m)))

theorem L_optMembers (ts : List Name) : L (.opt (.nt .unionMemberTypes)) (printMembers ts) := by
  cases ts with
  | nil => exact L.optNone
  | cons _ _ => exact L.optSome (L_members _ (List.cons_ne_nil _ _))

theorem L_locations (ls : List Bytes) (hne : ls ≠ []) (h : ∀ l ∈ ls, l ∈ directiveLocationNames) :
    L (.nt .directiveLocations) (printSep .pipe ls) := by
  cases ls with
  | nil => exact absurd rfl hne
  | cons n rest =>
    exact L.nt (L.skipNoise (L_sep (.nt .directiveLocation) .pipe n rest fun m hm =>
      L.nt (L.tok (by simpa [tName] using h m hm))))

theorem L_opType (o : OpTypeDef) (h : isOperationType o.op) : L (.nt .rootOperationTypeDefinition) (printOpType o) :=
  L.nt (L.cons (L_operationType o.op h) (L.kindCons .colon (L.namedType o.type)))

theorem L_schemaOps (ops : List OpTypeDef) (hne : ops ≠ []) (h : ∀ o ∈ ops, isOperationType o.op) :
    L (.seq (Grammar.kind .braceL) (.seq (.plus (.nt .rootOperationTypeDefinition)) (Grammar.kind .braceR)))
      (tP .braceL :: ops.flatMap printOpType ++ [tP .braceR]) :=
  L.delim .braceL .braceR ops hne fun o ho => L_opType o (h o ho)

theorem derives_schemaDef (sd : SchemaDef) (h : WFSchemaDef sd) {tsD : List Tok}
    (hD : Derives gql (.opt (.nt .description)) tsD (printDesc sd.desc)) :
    Derives gql (.nt .schemaDefinition)
      (tsD ++ tKw "schema" :: (printDirectives sd.dirs ++ (tP .braceL :: sd.opTypes.flatMap printOpType ++ [tP .braceR])))
      (printSchemaDef sd) := by
  obtain ⟨hd, hne, hops⟩ := h
  have := Derives.nt (n := NT.schemaDefinition) (Derives.seq hD (L.kwCons "schema"
    (L.seq (L_optDirectives true sd.dirs fun _ => hd) (L_schemaOps sd.opTypes hne hops))))
  exact this.cast (by simp) (by simp [printSchemaDef])

theorem L_schemaDef (s : SchemaDef) (h : WFSchemaDef s) : L (.nt .schemaDefinition) (printSchemaDef s) := by
  simpa [L, printSchemaDef] using derives_schemaDef s h (L_optDesc s.desc)

theorem L_extTail (ds : List Directive) (hd : ConstDirectives ds) {x : Sym NT} {ts : List Tok}
    (h : L x ts ∨ ts = [] ∧ ds ≠ []) :
    L (.alt (.seq (.opt (.nt (.directives true))) x) (.nt (.directives true))) (printDirectives ds ++ ts) := by
  rcases h with h | ⟨rfl, hne⟩
  · exact L.altL (L.seq (L_optDirectives true ds fun _ => hd) h)
  · exact L.altR (by rw [List.append_nil]; exact L_directives true ds hne fun _ => hd)

theorem L_extBlock (ds : List Directive) (hd : ConstDirectives ds) {x : Sym NT} {α : Type} (f : α → List Tok)
    (xs : List α) (hx : ds ≠ [] ∨ xs ≠ []) (hb : xs ≠ [] → L x (printBlock f xs)) :
    L (.alt (.seq (.opt (.nt (.directives true))) x) (.nt (.directives true))) (printDirectives ds ++ printBlock f xs) := by
  refine L_extTail ds hd ?_
  cases xs with
  | nil => exact .inr ⟨rfl, hx.resolve_right fun h => h rfl⟩
  | cons y ys => exact .inl (hb (List.cons_ne_nil _ _))

theorem L_schemaExt (s : SchemaDef) (h : WFSchemaExt s) : L (.nt .schemaExtension) (printSchemaExt s) := by
  obtain ⟨hd, hsome, hops⟩ := h
  have := L.seqAlt (L.kw "extend") (L.seqAlt (L.kw "schema") (L_extBlock s.dirs hd printOpType s.opTypes hsome
    fun hne => L.block _ hne fun o ho => L_opType o (hops o ho)))
  exact L.nt this

theorem derives_directiveDef (dd : DirectiveDef) {tsD tsA tsL : List Tok}
    (hD : Derives gql (.opt (.nt .description)) tsD (printDesc dd.desc))
    (hA : Derives gql (.opt (.nt .argumentsDefinition)) tsA (printArgDefs dd.args))
    (hL : Derives gql (.nt .directiveLocations) tsL (printSep .pipe dd.locations)) :
    Derives gql (.nt .directiveDefinition)
      (tsD ++ tKw "directive" :: tP .at :: tName dd.name :: (tsA ++ ((if dd.repeatable then [tKw "repeatable"] else []) ++
        tKw "on" :: tsL)))
      (printDirectiveDef dd) := by
  have hrep : L (.opt (Grammar.kw (str "repeatable"))) (if dd.repeatable then [tKw "repeatable"] else []) := by
    split
    · exact L.optSome (L.kw "repeatable")
    · exact L.optNone
  have := Derives.nt (n := NT.directiveDefinition) (Derives.seq hD (D.kwCons "directive" (D.kindCons .at
    (D.nameCons dd.name (Derives.seq hA (Derives.seq hrep (D.kwCons "on" hL)))))))
  exact this.cast (by simp) (by simp [printDirectiveDef])

theorem L_directiveDef (d : DirectiveDef) (h : WFDirectiveDef d) : L (.nt .directiveDefinition) (printDirectiveDef d) := by
  simpa [L, printDirectiveDef] using
    derives_directiveDef d (L_optDesc d.desc) (L_optArgDefs d.args h.1) (L_locations d.locations h.2.1 h.2.2)


end Gql.Grammar

namespace Gql.Parser
open Gql Gql.Lexer Gql.Grammar Gql.Print

/-- an optional part `X?`: absent (exactly when `empty`), or a derivation of `X` -/
def OptD (n : NT) (ts out : List Tok) (empty : Prop) : Prop :=
  (empty ∧ ts = [] ∧ out = []) ∨ (¬ empty ∧ Derives gql (.nt n) ts out)

theorem OptD.opt {n : NT} {ts out : List Tok} {e : Prop} (h : OptD n ts out e) : Derives gql (.opt (.nt n)) ts out := by
  rcases h with ⟨_, rfl, rfl⟩ | ⟨_, h⟩
  · exact Derives.optNone
  · exact Derives.optSome h

theorem OptD.req {n : NT} {ts out : List Tok} {e : Prop} (h : OptD n ts out e) (he : ¬ e) : Derives gql (.nt n) ts out := by
  rcases h with ⟨h, _⟩ | ⟨_, h⟩
  · exact absurd h he
  · exact h

theorem OptD.nil {n : NT} {ts out : List Tok} {e : Prop} (h : OptD n ts out e) (he : e) : ts = [] ∧ out = [] := by
  rcases h with ⟨_, h⟩ | ⟨h, _⟩
  · exact h
  · exact absurd he h

/-- what the kind-specific parts of a type definition / extension are, after `keyword Name`:
    `tsI` before the directives (ImplementsInterfaces), `tsB` after them (fields, members, values) -/
def BodyParts (d : Definition) (tsI tsB : List Tok) : Prop :=
  match d.kind with
  | .scalar => tsI = [] ∧ tsB = []
  | .object =>
      OptD .implementsInterfaces tsI (printImplements d.interfaces) (d.interfaces = []) ∧
      OptD .fieldsDefinition tsB (printBlock printFieldDef d.fields) (d.fields = []) ∧ ∀ f ∈ d.fields, WFFieldDef f
  | .interface =>
      OptD .implementsInterfaces tsI (printImplements d.interfaces) (d.interfaces = []) ∧
      OptD .fieldsDefinition tsB (printBlock printFieldDef d.fields) (d.fields = []) ∧ ∀ f ∈ d.fields, WFFieldDef f
  | .union => tsI = [] ∧ OptD .unionMemberTypes tsB (printMembers d.types) (d.types = [])
  | .enum => tsI = [] ∧
      ((∀ e ∈ d.enumValues, notLiteralName e.name) →
        OptD .enumValuesDefinition tsB (printBlock printEnumVal d.enumValues) (d.enumValues = [])) ∧
      (d.enumValues = [] → tsB = []) ∧ ∀ e ∈ d.enumValues, ConstDirectives e.dirs
  | .inputObject => tsI = [] ∧
      OptD .inputFieldsDefinition tsB (printBlock printInputField d.fields) (d.fields = []) ∧
      ∀ f ∈ d.fields, WFInputField f

/-- the one place where the parser is more liberal than the grammar -/
def EnumOK (d : Definition) : Prop := d.kind = .enum → ∀ e ∈ d.enumValues, notLiteralName e.name

/-- the two alternatives `… A B` | `… A` of a rule whose last part `B` is optional; `F` is the rest of the rule -/
theorem derives_optLast {F : Sym NT → Sym NT} {pre pre' : List Tok → List Tok}
    (hF : ∀ {X : Sym NT} {t o : List Tok}, Derives gql X t o → Derives gql (F X) (pre t) (pre' o)) {A : Sym NT} {ta oa : List Tok}
    (hA : Derives gql A ta oa) {B : NT} {tB oB : List Tok} {e : Prop} (hB : OptD B tB oB e) :
    Derives gql (.alt (F (A.seq (.nt B))) (F A)) (pre (ta ++ tB)) (pre' (oa ++ oB)) := by
  rcases hB with ⟨_, rfl, rfl⟩ | ⟨_, hB⟩
  · simpa using Derives.altR (hF hA)
  · exact Derives.altL (hF (Derives.seq hA hB))

/-- … of an extension, where `Directives` is required when `B` is absent -/
theorem derives_lastOrDirs {F : Sym NT → Sym NT} {pre pre' : List Tok → List Tok}
    (hF : ∀ {X : Sym NT} {t o : List Tok}, Derives gql X t o → Derives gql (F X) (pre t) (pre' o)) {dirs : List Directive}
    (hd : ConstDirectives dirs) {B : NT} {tB oB : List Tok} {e : Prop} (hB : OptD B tB oB e) (hx : dirs ≠ [] ∨ ¬ e) :
    Derives gql (.alt (F ((Sym.opt (.nt (.directives true))).seq (.nt B))) (F (.nt (.directives true))))
      (pre (printDirectives dirs ++ tB)) (pre' (printDirectives dirs ++ oB)) := by
  rcases hB with ⟨he, rfl, rfl⟩ | ⟨_, hB⟩
  · simpa using Derives.altR (hF (L_directives true dirs (hx.resolve_right fun h => h he) fun _ => hd))
  · exact Derives.altL (hF (Derives.seq (L_optDirectives true dirs fun _ => hd) hB))

theorem derives_definition {d : Definition} {tsD tsI tsB : List Tok} (hcd : ConstDirectives d.dirs) (parts : BodyParts d tsI tsB)
    (hD : Derives gql (.opt (.nt .description)) tsD (printDesc d.desc)) (hen : EnumOK d) :
    Derives gql (.nt .typeDefinition) (tsD ++ DefKind.keyword d.kind :: tName d.name :: (tsI ++ (printDirectives d.dirs ++ tsB)))
      (printDefinition d) := by
  have hdirs := L_optDirectives true d.dirs fun _ => hcd
  have head : ∀ (s : String) {X : Sym NT} {t o : List Tok}, Derives gql X t o → Derives gql
      ((Sym.opt (.nt .description)).seq ((Grammar.kw (str s)).seq ((Sym.nt .name).seq X)))
      (tsD ++ tKw s :: tName d.name :: t) (printDesc d.desc ++ tKw s :: tName d.name :: o) :=
    fun s _ _ _ h => Derives.seq hD (D.kwCons s (D.nameCons d.name h))
  unfold printDefinition printDefBody
  unfold BodyParts at parts
  unfold EnumOK at hen
  cases hk : d.kind <;> simp only [hk, DefKind.keyword] at parts hen ⊢
  · obtain ⟨rfl, rfl⟩ := parts
    exact (Derives.nt (n := NT.typeDefinition) (Derives.altL (Derives.nt (n := NT.scalarTypeDefinition) (head "scalar" hdirs)))).cast
      (by simp) (by simp)
  · exact (Derives.nt (n := NT.typeDefinition) (Derives.altR (Derives.altL (Derives.nt (n := NT.objectTypeDefinition)
      (derives_optLast (F := fun X => _) (fun h => head "type" (Derives.seq parts.1.opt h)) hdirs parts.2.1))))).cast (by simp) (by simp)
  · exact (Derives.nt (n := NT.typeDefinition) (Derives.altR (Derives.altR (Derives.altL (Derives.nt (n := NT.interfaceTypeDefinition)
      (derives_optLast (F := fun X => _) (fun h => head "interface" (Derives.seq parts.1.opt h)) hdirs parts.2.1)))))).cast
      (by simp) (by simp)
  · obtain ⟨rfl, pB⟩ := parts
    exact (Derives.nt (n := NT.typeDefinition) (Derives.altR (Derives.altR (Derives.altR (Derives.altL
      (Derives.nt (n := NT.unionTypeDefinition) (head "union" (Derives.seq hdirs pB.opt)))))))).cast (by simp) (by simp)
  · obtain ⟨rfl, pB, _⟩ := parts
    exact (Derives.nt (n := NT.typeDefinition) (Derives.altR (Derives.altR (Derives.altR (Derives.altR (Derives.altL
      (Derives.nt (n := NT.enumTypeDefinition) (derives_optLast (F := fun X => _) (head "enum") hdirs (pB (hen trivial)))))))))).cast
      (by simp) (by simp)
  · obtain ⟨rfl, pB, _⟩ := parts
    exact (Derives.nt (n := NT.typeDefinition) (Derives.altR (Derives.altR (Derives.altR (Derives.altR (Derives.altR
      (Derives.nt (n := NT.inputObjectTypeDefinition) (derives_optLast (F := fun X => _) (head "input") hdirs pB)))))))).cast
      (by simp) (by simp)

theorem derives_extension {d : Definition} {tsI tsB : List Tok} (hcd : ConstDirectives d.dirs) (parts : BodyParts d tsI tsB)
    (hx : ExtendsSomething d) (hen : EnumOK d) :
    Derives gql (.nt .typeExtension)
      (tKw "extend" :: DefKind.keyword d.kind :: tName d.name :: (tsI ++ (printDirectives d.dirs ++ tsB))) (printExtension d) := by
  let H : String → Sym NT → Sym NT := fun s X => (Grammar.kw (str "extend")).seq ((Grammar.kw (str s)).seq ((Sym.nt .name).seq X))
  have head : ∀ (s : String) {X : Sym NT} {t o : List Tok}, Derives gql X t o → Derives gql (H s X)
      (tKw "extend" :: tKw s :: tName d.name :: t) (tKw "extend" :: tKw s :: tName d.name :: o) :=
    fun s _ _ _ h => D.kwCons "extend" (D.kwCons s (D.nameCons d.name h))
  /- object and interface: `… I? D? F` | `… I? D` | `… I` -/
  have obj : ∀ (s : String), OptD .implementsInterfaces tsI (printImplements d.interfaces) (d.interfaces = []) →
      OptD .fieldsDefinition tsB (printBlock printFieldDef d.fields) (d.fields = []) →
      (d.interfaces ≠ [] ∨ d.dirs ≠ [] ∨ d.fields ≠ []) → Derives gql
        (.alt (H s ((Sym.opt (.nt .implementsInterfaces)).seq ((Sym.opt (.nt (.directives true))).seq (.nt .fieldsDefinition))))
          (.alt (H s ((Sym.opt (.nt .implementsInterfaces)).seq (.nt (.directives true)))) (H s (.nt .implementsInterfaces))))
        (tKw "extend" :: tKw s :: tName d.name :: (tsI ++ (printDirectives d.dirs ++ tsB)))
        (tKw "extend" :: tKw s :: tName d.name :: (printImplements d.interfaces ++ (printDirectives d.dirs ++
          printBlock printFieldDef d.fields))) := by
    intro s pI pB hx
    by_cases h : d.dirs ≠ [] ∨ ¬ d.fields = []
    · cases derives_lastOrDirs (F := fun X => _) (fun h => head s (Derives.seq pI.opt h)) hcd pB h with
      | altL h => exact Derives.altL h
      | altR h => exact Derives.altR (Derives.altL h)
    · have hd : d.dirs = [] := Classical.not_not.1 fun hd => h (.inl hd)
      have hf : d.fields = [] := Classical.not_not.1 fun hf => h (.inr hf)
      obtain ⟨rfl, hb0⟩ := pB.nil hf
      exact (Derives.altR (Derives.altR (head s (pI.req (hx.resolve_right fun h => h.elim (· hd) (· hf)))))).cast
        (by simp [hd, printDirectives]) (by simp [hd, hb0, printDirectives])
  unfold printExtension printDefBody
  unfold BodyParts at parts
  unfold EnumOK at hen
  unfold ExtendsSomething at hx
  cases hk : d.kind <;> simp only [hk, DefKind.keyword] at parts hen hx ⊢
  · obtain ⟨rfl, rfl⟩ := parts
    exact (Derives.nt (n := NT.typeExtension) (Derives.altL (Derives.nt (n := NT.scalarTypeExtension)
      (head "scalar" (L_directives true d.dirs hx fun _ => hcd))))).cast (by simp) (by simp)
  · exact (Derives.nt (n := NT.typeExtension) (Derives.altR (Derives.altL (Derives.nt (n := NT.objectTypeExtension)
      (obj "type" parts.1 parts.2.1 hx))))).cast rfl (by simp)
  · exact (Derives.nt (n := NT.typeExtension) (Derives.altR (Derives.altR (Derives.altL (Derives.nt (n := NT.interfaceTypeExtension)
      (obj "interface" parts.1 parts.2.1 hx)))))).cast rfl (by simp)
  · obtain ⟨rfl, pB⟩ := parts
    exact (Derives.nt (n := NT.typeExtension) (Derives.altR (Derives.altR (Derives.altR (Derives.altL
      (Derives.nt (n := NT.unionTypeExtension) (derives_lastOrDirs (F := fun X => _) (head "union") hcd pB hx))))))).cast
      (by simp) (by simp)
  · obtain ⟨rfl, pB, _⟩ := parts
    exact (Derives.nt (n := NT.typeExtension) (Derives.altR (Derives.altR (Derives.altR (Derives.altR (Derives.altL
      (Derives.nt (n := NT.enumTypeExtension) (derives_lastOrDirs (F := fun X => _) (head "enum") hcd (pB (hen trivial)) hx)))))))).cast
      (by simp) (by simp)
  · obtain ⟨rfl, pB, _⟩ := parts
    exact (Derives.nt (n := NT.typeExtension) (Derives.altR (Derives.altR (Derives.altR (Derives.altR (Derives.altR
      (Derives.nt (n := NT.inputObjectTypeExtension) (derives_lastOrDirs (F := fun X => _) (head "input") hcd pB hx)))))))).cast
      (by simp) (by simp)

theorem OptD.of_print {α : Type} {nt : NT} (pr : List α → List Tok) (hnil : pr [] = []) (xs : List α)
    (h : xs ≠ [] → L (.nt nt) (pr xs)) : OptD nt (pr xs) (pr xs) (xs = []) := by
  cases xs with
  | nil => exact .inl ⟨rfl, hnil, hnil⟩
  | cons x r => exact .inr ⟨List.cons_ne_nil _ _, h (List.cons_ne_nil _ _)⟩

theorem bodyParts_print {d : Definition} (h : WFDefBody d) :
    ∃ tsI tsB, BodyParts d tsI tsB ∧ printDefBody d = tName d.name :: (tsI ++ (printDirectives d.dirs ++ tsB)) := by
  obtain ⟨_, hb⟩ := h
  unfold BodyParts printDefBody
  cases hk : d.kind <;> simp only [hk] at hb ⊢
  · exact ⟨[], [], ⟨rfl, rfl⟩, by simp⟩
  · exact ⟨_, _, ⟨.of_print _ rfl _ (L_implements _), .of_print _ rfl _ fun hne => L_fields _ hne hb, hb⟩, by simp⟩
  · exact ⟨_, _, ⟨.of_print _ rfl _ (L_implements _), .of_print _ rfl _ fun hne => L_fields _ hne hb, hb⟩, by simp⟩
  · exact ⟨[], _, ⟨rfl, .of_print _ rfl _ (L_members _)⟩, rfl⟩
  · exact ⟨[], _, ⟨rfl, fun _ => .of_print _ rfl _ fun hne => L_enumValues _ hne hb, fun h => by simp [h, printBlock],
      fun e he => (hb e he).2⟩, rfl⟩
  · exact ⟨[], _, ⟨rfl, .of_print _ rfl _ fun hne => L_inputFields _ hne hb, hb⟩, rfl⟩

theorem enumOK_of_wf {d : Definition} (h : WFDefBody d) : EnumOK d := fun hk e he => by
  have := h.2
  simp only [hk] at this
  exact (this e he).1

end Gql.Parser

namespace Gql.Grammar
open Gql Gql.Lexer Gql.Print Gql.Parser

theorem L_definition (d : Definition) (h : WFDefBody d) : L (.nt .typeDefinition) (printDefinition d) := by
  obtain ⟨tsI, tsB, parts, e⟩ := bodyParts_print h
  have := derives_definition h.1 parts (L_optDesc d.desc) (enumOK_of_wf h)
  rwa [← e] at this

theorem L_extension (d : Definition) (h : WFDefBody d) (hx : ExtendsSomething d) : L (.nt .typeExtension) (printExtension d) := by
  obtain ⟨tsI, tsB, parts, e⟩ := bodyParts_print h
  have := derives_extension h.1 parts hx (enumOK_of_wf h)
  rwa [← e] at this

theorem printSchema_in_grammar (d : SchemaDoc) (h : WFSchema d) : L (.nt .typeSystemDocument) (printSchema d) := by
  obtain ⟨hne, h1, h2, h3, h4, h5⟩ := h
  refine L.nt (L_inSourceOrder _ ?_ fun x hx => ?_)
  · intro e
    simp only [List.append_eq_nil_iff, List.map_eq_nil_iff] at e
    simp [e] at hne
  · simp only [List.mem_append, List.mem_map] at hx
    rcases hx with (((⟨y, hy, rfl⟩ | ⟨y, hy, rfl⟩) | ⟨y, hy, rfl⟩) | ⟨y, hy, rfl⟩) | ⟨y, hy, rfl⟩
    · exact L.nt (L.altL (L.nt (L.altL (L_schemaDef y (h1 y hy)))))
    · exact L.nt (L.altR (L.nt (L.altL (L_schemaExt y (h2 y hy)))))
    · exact L.nt (L.altL (L.nt (L.altR (L.altR (L_directiveDef y (h3 y hy))))))
    · exact L.nt (L.altL (L.nt (L.altR (L.altL (L_definition y (h4 y hy))))))
    · exact L.nt (L.altR (L.nt (L.altR (L_extension y (h5 y hy).1 (h5 y hy).2))))

end Gql.Grammar
