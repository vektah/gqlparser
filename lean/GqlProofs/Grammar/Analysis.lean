import GqlModel.Syntax.Grammar
/-
  Two generic static analyses of an EBNF grammar with their soundness theorems w.r.t. `Derives`;
  they turn "the grammar derives no sentence of such a shape" into a computation on the tables.

  * `minLen g n s` : a lower bound on the length of every sentence of `s` (unrolling `n` levels).
  * `Avoids S bad s` : every token predicate reachable from `s` through nonterminals in the set `S`
    excludes the tokens satisfying `bad`; then no sentence of `s` contains a `bad` token.
-/
namespace Gql.Grammar

theorem Derives.tok_inv {N : Type} {g : Grammar N} {p : Tok → Bool} {ts out : List Tok}
    (h : Derives g (.tok p) ts out) : ∃ t, ts = [t] ∧ out = [t] ∧ p t = true := by
  cases h with
  | tok hp => exact ⟨_, rfl, rfl, hp⟩

theorem Derives.nt_inv {N : Type} {g : Grammar N} {n : N} {ts out : List Tok}
    (h : Derives g (.nt n) ts out) : Derives g (g.rules n) ts out := by
  cases h with
  | nt d => exact d

theorem Derives.seq_inv' {N : Type} {g : Grammar N} {a b : Sym N} {ts out : List Tok}
    (h : Derives g (.seq a b) ts out) :
    ∃ t1 t2 o1 o2, ts = t1 ++ t2 ∧ out = o1 ++ o2 ∧ Derives g a t1 o1 ∧ Derives g b t2 o2 := by
  cases h with
  | seq d1 d2 => exact ⟨_, _, _, _, rfl, rfl, d1, d2⟩

theorem Derives.alt_inv {N : Type} {g : Grammar N} {a b : Sym N} {ts out : List Tok}
    (h : Derives g (.alt a b) ts out) : Derives g a ts out ∨ Derives g b ts out := by
  cases h with
  | altL d => exact Or.inl d
  | altR d => exact Or.inr d

theorem Derives.canon_inv {N : Type} {g : Grammar N} {f : List Tok → List Tok} {a : Sym N} {ts out : List Tok}
    (h : Derives g (.canon f a) ts out) : ∃ o, out = f o ∧ Derives g a ts o := by
  cases h with
  | canon d => exact ⟨_, rfl, d⟩

def minLen {N : Type} (g : Grammar N) : Nat → Sym N → Nat
  | 0, _ => 0
  | _ + 1, .tok _ => 1
  | n + 1, .nt x => minLen g n (g.rules x)
  | _ + 1, .eps => 0
  | n + 1, .seq a b => minLen g n a + minLen g n b
  | n + 1, .alt a b => min (minLen g n a) (minLen g n b)
  | _ + 1, .opt _ => 0
  | _ + 1, .star _ => 0
  | n + 1, .plus a => minLen g n a
  | n + 1, .canon _ a => minLen g n a

theorem minLen_le {N : Type} {g : Grammar N} {s : Sym N} {ts out : List Tok}
    (h : Derives g s ts out) : ∀ n, minLen g n s ≤ ts.length := by
  intro n
  induction n generalizing s ts out with
  | zero => exact Nat.zero_le _
  | succ n ih =>
    cases h with
    | tok _ => exact Nat.le_refl 1
    | nt d => exact ih d
    | eps | optNone | optSome _ | starNil | starCons _ _ => exact Nat.zero_le _
    | seq d1 d2 => exact List.length_append ▸ Nat.add_le_add (ih d1) (ih d2)
    | altL d => exact Nat.le_trans (Nat.min_le_left ..) (ih d)
    | altR d => exact Nat.le_trans (Nat.min_le_right ..) (ih d)
    | plus d1 _ => exact Nat.le_trans (ih d1) (List.length_append ▸ Nat.le_add_right ..)
    | canon d => exact ih d

inductive Avoids {N : Type} (S : N → Prop) (bad : Tok → Bool) : Sym N → Prop
  | tok {p : Tok → Bool} : (∀ t, p t = true → bad t = false) → Avoids S bad (.tok p)
  | nt {n : N} : S n → Avoids S bad (.nt n)
  | eps : Avoids S bad .eps
  | seq {a b : Sym N} : Avoids S bad a → Avoids S bad b → Avoids S bad (.seq a b)
  | alt {a b : Sym N} : Avoids S bad a → Avoids S bad b → Avoids S bad (.alt a b)
  | opt {a : Sym N} : Avoids S bad a → Avoids S bad (.opt a)
  | star {a : Sym N} : Avoids S bad a → Avoids S bad (.star a)
  | plus {a : Sym N} : Avoids S bad a → Avoids S bad (.plus a)
  | canon {f : List Tok → List Tok} {a : Sym N} : Avoids S bad a → Avoids S bad (.canon f a)

section
variable {N : Type} {S : N → Prop} {bad : Tok → Bool} {a b : Sym N}


@[simp] theorem avoids_tok {p : Tok → Bool} : Avoids S bad (.tok p) ↔ ∀ t, p t = true → bad t = false :=
  ⟨fun h => by cases h; assumption, .tok⟩
@[simp] theorem avoids_nt {n : N} : Avoids S bad (.nt n) ↔ S n := ⟨fun h => by cases h; assumption, .nt⟩
@[simp] theorem avoids_seq : Avoids S bad (.seq a b) ↔ Avoids S bad a ∧ Avoids S bad b :=
  ⟨fun h => by cases h; exact ⟨‹_›, ‹_›⟩, fun h => .seq h.1 h.2⟩
@[simp] theorem avoids_alt : Avoids S bad (.alt a b) ↔ Avoids S bad a ∧ Avoids S bad b :=
  ⟨fun h => by cases h; exact ⟨‹_›, ‹_›⟩, fun h => .alt h.1 h.2⟩
@[simp] theorem avoids_opt : Avoids S bad (.opt a) ↔ Avoids S bad a := ⟨fun h => by cases h; assumption, .opt⟩
@[simp] theorem avoids_star : Avoids S bad (.star a) ↔ Avoids S bad a := ⟨fun h => by cases h; assumption, .star⟩
@[simp] theorem avoids_plus : Avoids S bad (.plus a) ↔ Avoids S bad a := ⟨fun h => by cases h; assumption, .plus⟩
@[simp] theorem avoids_canon {f : List Tok → List Tok} : Avoids S bad (.canon f a) ↔ Avoids S bad a :=
  ⟨fun h => by cases h; assumption, .canon⟩

end

theorem avoids_sound {N : Type} {g : Grammar N} {S : N → Prop} {bad : Tok → Bool}
    (hS : ∀ n, S n → Avoids S bad (g.rules n)) {s : Sym N} {ts out : List Tok}
    (h : Derives g s ts out) : Avoids S bad s → ∀ t ∈ ts, bad t = false := by
  induction h with
  | tok hp => intro ha t ht; rw [List.mem_singleton.1 ht]; exact avoids_tok.1 ha _ hp
  | nt _ ih => exact fun ha => ih (hS _ (avoids_nt.1 ha))
  | eps | optNone | starNil => intro _ t ht; cases ht
  | seq _ _ ih1 ih2 =>
    intro ha t ht; exact (List.mem_append.mp ht).elim (ih1 (avoids_seq.1 ha).1 t) (ih2 (avoids_seq.1 ha).2 t)
  | starCons _ _ ih1 ih2 =>
    intro ha t ht; exact (List.mem_append.mp ht).elim (ih1 (avoids_star.1 ha) t) (ih2 ha t)
  | plus _ _ ih1 ih2 =>
    intro ha t ht
    exact (List.mem_append.mp ht).elim (ih1 (avoids_plus.1 ha) t) (ih2 (.star (avoids_plus.1 ha)) t)
  | altL _ ih => exact fun ha => ih (avoids_alt.1 ha).1
  | altR _ ih => exact fun ha => ih (avoids_alt.1 ha).2
  | optSome _ ih => exact fun ha => ih (avoids_opt.1 ha)
  | canon _ ih => exact fun ha => ih (avoids_canon.1 ha)

end Gql.Grammar
