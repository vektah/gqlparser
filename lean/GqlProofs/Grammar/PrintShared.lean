import GqlProofs.Grammar.Lang
/-
  The printed forms of the shared productions (Type, Value, Arguments, Directives, DefaultValue)
  are sentences of their nonterminals.
-/
namespace Gql.Grammar
open Gql Gql.Lexer Gql.Print

theorem L_type : ∀ t : GType, L (.nt .typ) (printType t)
  | .named n nn _ => by
    cases nn
    · exact L.nt (L.altL (L.namedType n))
    · exact L.nt (L.altR (L.altR (L.nt (L.altL (L.cons (L.namedType n) (L.kind .bang))))))
  | .list e nn _ => by
    have hl : L (.nt .listType) (tP .bracketL :: printType e ++ [tP .bracketR]) :=
      L.nt (L.kindCons .bracketL (L.seq (L_type e) (L.kind .bracketR)))
    cases nn
    · exact L.nt (L.altR (L.altL hl))
    · simpa [printType, bangIf] using L.nt (n := .typ) (L.altR (L.altR (L.nt (L.altR (L.seq hl (L.kind .bang))))))

theorem L_value_of_literal (c : Bool) {ts : List Tok} (h : L (literal c) ts) : L (.nt (.value c)) ts := by
  cases c
  · exact L.nt (L.altR h)
  · exact L.nt h

/-- every Name token is a BooleanValue, the NullValue or an EnumValue -/
theorem lit_name (c : Bool) (raw : Bytes) : L (literal c) [tName raw] := by
  by_cases h1 : raw = str "true"
  · exact h1 ▸ L.altR (L.altR (L.altR (L.altL (L.nt (L.altL (L.kw "true"))))))
  by_cases h2 : raw = str "false"
  · exact h2 ▸ L.altR (L.altR (L.altR (L.altL (L.nt (L.altR (L.kw "false"))))))
  by_cases h3 : raw = str "null"
  · exact h3 ▸ L.altR (L.altR (L.altR (L.altR (L.altL (L.nt (L.kw "null"))))))
  · exact L.altR (L.altR (L.altR (L.altR (L.altR (L.altL (L.nt (L.tok (by simp [tName, h1, h2, h3]))))))))

mutual
  theorem L_value (c : Bool) : ∀ v : Value, (c = true → ConstValue v) → L (.nt (.value c)) (printValue v)
    | .mk k raw ch _, hc => by
      cases k with
      | «variable» =>
        cases c
        · exact L.nt (L.altL (L.nt (L.cons (L.kind .dollar) (L.name raw))))
        · exact absurd rfl (hc rfl).1
      | int => exact L_value_of_literal c (L.altL (L.tok rfl))
      | float => exact L_value_of_literal c (L.altR (L.altL (L.tok rfl)))
      | string => exact L_value_of_literal c (L.altR (L.altR (L.altL (L.tok rfl))))
      | block => exact L_value_of_literal c (L.altR (L.altR (L.altL (L.tok rfl))))
      | boolean => exact L_value_of_literal c (lit_name c raw)
      | null => exact L_value_of_literal c (lit_name c raw)
      | «enum» => exact L_value_of_literal c (lit_name c raw)
      | list =>
        refine L_value_of_literal c (L.altR (L.altR (L.altR (L.altR (L.altR (L.altR (L.altL (L.nt ?_))))))))
        cases ch with
        | nil => exact L.altL (L.cons (L.kind .bracketL) (L.kind .bracketR))
        | cons n v p rest =>
          exact L.altR (L.kindCons .bracketL (L.seq
            (L.plus (L_value c v fun h => (hc h).2.1) (L_items c rest fun h => (hc h).2.2)) (L.kind .bracketR)))
      | object =>
        refine L_value_of_literal c (L.altR (L.altR (L.altR (L.altR (L.altR (L.altR (L.altR (L.nt ?_))))))))
        cases ch with
        | nil => exact L.altL (L.cons (L.kind .braceL) (L.kind .braceR))
        | cons n v p rest =>
          exact L.altR (L.kindCons .braceL (L.seq
            (L.plus (L.nt (L.nameCons n (L.kindCons .colon (L_value c v fun h => (hc h).2.1))))
              (L_objFields c rest fun h => (hc h).2.2)) (L.kind .braceR)))
  theorem L_items (c : Bool) : ∀ ch : Children, (c = true → ConstChildren ch) → L (.star (.nt (.value c))) (printItems ch)
    | .nil, _ => L.starNil
    | .cons _ v _ rest, hc => L.starCons (L_value c v fun h => (hc h).1) (L_items c rest fun h => (hc h).2)
  theorem L_objFields (c : Bool) : ∀ ch : Children, (c = true → ConstChildren ch) →
      L (.star (.nt (.objectField c))) (printObjFields ch)
    | .nil, _ => L.starNil
    | .cons n v _ rest, hc =>
      L.starCons (L.nt (L.nameCons n (L.kindCons .colon (L_value c v fun h => (hc h).1))))
        (L_objFields c rest fun h => (hc h).2)
end

theorem L_argument (c : Bool) (a : Argument) (h : c = true → ConstValue a.value) :
    L (.nt (.argument c)) (printArgument a) :=
  L.nt (L.nameCons a.name (L.kindCons .colon (L_value c a.value h)))

theorem L_optArguments (c : Bool) (as : List Argument) (h : c = true → ∀ a ∈ as, ConstValue a.value) :
    L (.opt (.nt (.arguments c))) (printArguments as) :=
  L.optDelim .parenL .parenR rfl as fun x hx => L_argument c x fun hc => h hc x hx

theorem L_directive (c : Bool) (d : Directive) (h : c = true → ∀ a ∈ d.args, ConstValue a.value) :
    L (.nt (.directive c)) (printDirective d) :=
  L.nt (L.kindCons .at (L.nameCons d.name (L_optArguments c d.args h)))

theorem L_directives (c : Bool) (ds : List Directive) (hne : ds ≠ []) (h : c = true → ConstDirectives ds) :
    L (.nt (.directives c)) (printDirectives ds) :=
  L.nt (L.plus_flatMap _ hne fun x hx => L_directive c x fun hc => h hc x hx)

theorem L_optDirectives (c : Bool) (ds : List Directive) (h : c = true → ConstDirectives ds) :
    L (.opt (.nt (.directives c))) (printDirectives ds) := by
  cases ds with
  | nil => exact L.optNone
  | cons d rest => exact L.optSome (L_directives c _ (List.cons_ne_nil _ _) h)

theorem L_optDefault (dv : Option Value) (h : ∀ d, dv = some d → ConstValue d) :
    L (.opt (.nt .defaultValue)) (printDefault dv) := by
  cases dv with
  | none => exact L.optNone
  | some v => exact L.optSome (L.nt (L.kindCons .equals (L_value true v fun _ => h v rfl)))

end Gql.Grammar
