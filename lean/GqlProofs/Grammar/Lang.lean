import GqlModel.Syntax.Print
/-
  `L s ts` : `ts` is a sentence of symbol `s` of the GraphQL grammar AND is its own canonical
  form (`Derives gql s ts ts`).  Combinators for building such derivations of printed trees.
-/
namespace Gql.Grammar
open Gql Gql.Lexer Gql.Print

def L (s : Sym NT) (ts : List Tok) : Prop := Derives gql s ts ts

namespace L

section
variable {a b c : Sym NT} {ts t1 t2 : List Tok}

theorem tok {p : Tok → Bool} {t : Tok} (h : p t = true) : L (.tok p) [t] := Derives.tok h
theorem nt {n : NT} (h : L (gqlRules n) ts) : L (.nt n) ts := Derives.nt h
theorem eps : L .eps [] := Derives.eps
theorem seq (h1 : L a t1) (h2 : L b t2) : L (.seq a b) (t1 ++ t2) := Derives.seq h1 h2
theorem cons {t : Tok} (h1 : L a [t]) (h2 : L b ts) : L (.seq a b) (t :: ts) := seq h1 h2
theorem altL (h : L a ts) : L (.alt a b) ts := Derives.altL h
theorem altR (h : L b ts) : L (.alt a b) ts := Derives.altR h
theorem optNone : L (.opt a) [] := Derives.optNone
theorem optSome (h : L a ts) : L (.opt a) ts := Derives.optSome h
theorem starNil : L (.star a) [] := Derives.starNil
theorem starCons (h1 : L a t1) (h2 : L (.star a) t2) : L (.star a) (t1 ++ t2) := Derives.starCons h1 h2
theorem plus (h1 : L a t1) (h2 : L (.star a) t2) : L (.plus a) (t1 ++ t2) := Derives.plus h1 h2
theorem canon {f : List Tok → List Tok} (h : L a ts) (hf : f ts = ts) : L (.canon f a) ts := by
  have := Derives.canon (f := f) h
  rwa [hf] at this

theorem optIf {p : Prop} [Decidable p] (h : ¬p → L a ts) : L (.opt a) (if p then [] else ts) := by
  split
  · exact optNone
  · exact optSome (h ‹_›)

theorem seqAlt (h1 : L a t1) (h2 : L (.alt b c) t2) : L (.alt (.seq a b) (.seq a c)) (t1 ++ t2) := by
  cases h2 with
  | altL h => exact altL (seq h1 h)
  | altR h => exact altR (seq h1 h)

end

theorem derivable {n : NT} {ts : List Tok} (h : L (.nt n) ts) : Derivable gql n ts := ⟨ts, h⟩

section
variable {α : Type} {a : Sym NT} {f : α → List Tok}

theorem star_flatMap : ∀ xs : List α, (∀ x ∈ xs, L a (f x)) → L (.star a) (xs.flatMap f)
  | [], _ => starNil
  | x :: xs, h => starCons (h x List.mem_cons_self) (star_flatMap xs fun y hy => h y (List.mem_cons_of_mem _ hy))

theorem plus_flatMap (xs : List α) (hne : xs ≠ []) (h : ∀ x ∈ xs, L a (f x)) : L (.plus a) (xs.flatMap f) := by
  cases xs with
  | nil => exact absurd rfl hne
  | cons x xs => exact plus (h x List.mem_cons_self) (star_flatMap xs fun y hy => h y (List.mem_cons_of_mem _ hy))

end

theorem kind (k : Kind) : L (Grammar.kind k) [tP k] := tok (by simp [tP])
theorem kw (s : String) : L (Grammar.kw (str s)) [tKw s] := tok (by simp [tKw])
theorem name (n : Name) : L (.nt .name) [tName n] := nt (tok (by simp [tName]))
theorem namedType (n : Name) : L (.nt .namedType) [tName n] := nt (name n)

section
variable {a b : Sym NT} {ts : List Tok}

theorem kindCons (k : Kind) (h : L b ts) : L (.seq (Grammar.kind k) b) (tP k :: ts) := cons (kind k) h
theorem kwCons (s : String) (h : L b ts) : L (.seq (Grammar.kw (str s)) b) (tKw s :: ts) := cons (kw s) h
theorem nameCons (n : Name) (h : L b ts) : L (.seq (.nt .name) b) (tName n :: ts) := cons (name n) h

theorem skipNoise (h : L b ts) : L (.seq (Grammar.noise (.opt a)) b) ts :=
  seq (canon (f := fun _ => []) (optNone (a := a)) rfl) h

end

theorem skipOpt {a b : Sym NT} {ts : List Tok} (h : L b ts) : L (.seq (.opt a) b) ts := by
  simpa using seq (optNone (a := a)) h

section
variable {α : Type} {item : Sym NT} {f : α → List Tok}

theorem delim (o c : Kind) (xs : List α) (hne : xs ≠ []) (h : ∀ x ∈ xs, L item (f x)) :
    L (.seq (Grammar.kind o) (.seq (.plus item) (Grammar.kind c))) (tP o :: xs.flatMap f ++ [tP c]) :=
  kindCons o (seq (plus_flatMap xs hne h) (kind c))

theorem optDelim (o c : Kind) {n : NT} (hn : gqlRules n = .seq (Grammar.kind o) (.seq (.plus item) (Grammar.kind c)))
    (xs : List α) (h : ∀ x ∈ xs, L item (f x)) :
    L (.opt (.nt n)) (if xs.isEmpty then [] else tP o :: xs.flatMap f ++ [tP c]) := by
  cases xs with
  | nil => exact optNone
  | cons x xs => exact optSome (nt (hn ▸ delim o c _ (List.cons_ne_nil _ _) h))

theorem block (xs : List α) (hne : xs ≠ []) (h : ∀ x ∈ xs, L item (f x)) :
    L (.seq (Grammar.kind .braceL) (.seq (.plus item) (Grammar.kind .braceR))) (printBlock f xs) := by
  cases xs with
  | nil => exact absurd rfl hne
  | cons x xs => exact delim .braceL .braceR _ hne h

end

end L
end Gql.Grammar
