import GqlProofs.Grammar.Analysis
/-
  Facts about the GraphQL grammar tables (`gql`) obtained from the generic analyses:
  const contexts and type-system documents contain no `$`; `minLen_nt` is the length bound from which C05 and C06 get that
  bracketed lists are never empty.
-/
namespace Gql.Grammar
open Gql.Lexer

def isDollar (t : Tok) : Bool := t.kind == .dollar

/-- the nonterminals from which `Variable` cannot be reached: the `[Const]` instances of the
    parameterised ones, and everything else outside the executable part of the grammar -/
def varFree : NT → Prop
  | .value c | .listValue c | .objectValue c | .objectField c
  | .directives c | .directive c | .arguments c | .argument c => c = true
  | .var | .executableDocument | .executableDefinition | .operationDefinition | .selectionSet | .selection
  | .field | .alias | .fragmentSpread | .inlineFragment | .fragmentDefinition | .fragmentName
  | .typeCondition | .variableDefinitions | .variableDefinition => False
  | _ => True

/-- discharge `Avoids S isDollar sym` for a symbol built from the terminals of Grammar.lean -/
macro "avoid_dollar" S:ident : tactic => `(tactic|
  repeat (first
    | exact Avoids.eps
    | apply Avoids.seq | apply Avoids.alt | apply Avoids.opt | apply Avoids.star | apply Avoids.plus
    | apply Avoids.canon
    | focus (apply Avoids.nt; simp [$S:ident]; done)
    | focus (apply Avoids.tok; intro t h; cases ht : t.kind <;> simp_all [isDollar]; done)))

section
variable {N : Type} {S : N → Prop}

/-! every terminal of Grammar.lean fixes the kind of the token it matches -/

theorem avoids_kind {k : Kind} (hk : k ≠ .dollar) : Avoids S isDollar (kind k) :=
  .tok fun t h => by simp_all [isDollar]
theorem avoids_kw (w : Bytes) : Avoids S isDollar (kw w) := .tok fun t h => by simp_all [isDollar]
theorem avoids_nameBut (ws : List Bytes) : Avoids S isDollar (nameBut ws) := .tok fun t h => by simp_all [isDollar]
theorem avoids_nameIn (ws : List Bytes) : Avoids S isDollar (nameIn ws) := .tok fun t h => by simp_all [isDollar]
theorem avoids_stringValue : Avoids S isDollar stringValue :=
  .tok fun t h => by rcases Bool.or_eq_true _ _ ▸ h with h | h <;> simp_all [isDollar]

end

theorem varFree_closed (n : NT) (h : varFree n) : Avoids varFree isDollar (gql.rules n) := by
  cases n <;> simp_all [varFree, gql, gqlRules, literal, noise, avoids_kind, avoids_kw, avoids_nameBut, avoids_nameIn,
    avoids_stringValue]

theorem varFree_no_dollar {n : NT} {ts out : List Tok} (h : Derives gql (.nt n) ts out) (hn : varFree n) :
    ∀ t ∈ ts, t.kind ≠ .dollar := by
  intro t ht
  simpa [isDollar] using avoids_sound varFree_closed h (.nt hn) t ht

theorem minLen_nt (k : Nat) {n : NT} {ts out : List Tok} (h : Derives gql (.nt n) ts out) :
    minLen gql k (.nt n) ≤ ts.length := minLen_le h k

end Gql.Grammar
