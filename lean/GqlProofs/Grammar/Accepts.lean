import GqlProofs.Grammar.Complete
import GqlModel.Parser.Core
/-
  A parser that is sound and complete for a start symbol of `gql` — it accepts the lexable inputs
  whose token sequence is derivable, and the unparse of its tree is the canonical output of every
  derivation — accepts exactly the grammar, determines the canonical output, and agrees with the
  recogniser.  `NE` is the side condition on the accepted trees (non-empty, …).
-/
namespace Gql.Grammar
open Gql Gql.Parser

section
variable {D : Type} {parse : Bytes → Result D} {print : D → List Tok} {NE : D → Prop} {start : NT}
  (complete : ∀ inp ts o, tokensOf inp = some ts → Derives gql (.nt start) ts o →
    ∃ d, parse inp = .ok d ∧ print d = o ∧ NE d)
include complete

theorem faithful_of_complete {inp : Bytes} {doc : D} (h : parse inp = .ok doc) {ts o : List Tok}
    (htok : tokensOf inp = some ts) (hd : Derives gql (.nt start) ts o) : o = print doc := by
  obtain ⟨d, p, e, _⟩ := complete inp ts o htok hd
  rw [h] at p
  cases p
  exact e.symm

theorem canonical_unique_of_complete {inp : Bytes} {ts o₁ o₂ : List Tok} (htok : tokensOf inp = some ts)
    (h1 : Derives gql (.nt start) ts o₁) (h2 : Derives gql (.nt start) ts o₂) : o₁ = o₂ := by
  obtain ⟨d, p, e, _⟩ := complete inp ts o₁ htok h1
  rw [← e]
  exact (faithful_of_complete complete p htok h2).symm

variable (sound : ∀ inp d, parse inp = .ok d → NE d → ∃ ts, tokensOf inp = some ts ∧ Derivable gql start ts)
include sound

theorem accepts_exactly (inp : Bytes) :
    (∃ d, parse inp = .ok d ∧ NE d) ↔ ∃ ts, tokensOf inp = some ts ∧ Derivable gql start ts :=
  ⟨fun ⟨d, h, hne⟩ => sound inp d h hne,
   fun ⟨ts, h1, o, h2⟩ => let ⟨d, p, _, hne⟩ := complete inp ts o h1 h2; ⟨d, p, hne⟩⟩

theorem accepts_iff_recognises (inp : Bytes) :
    (∃ d, parse inp = .ok d ∧ NE d) ↔ ∃ ts, tokensOf inp = some ts ∧ recognises gql start ts = true := by
  simp only [accepts_exactly complete sound, recognises_iff]

end
end Gql.Grammar
