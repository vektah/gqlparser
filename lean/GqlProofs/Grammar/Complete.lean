import GqlProofs.Grammar.Sound
import GqlProofs.Grammar.Analysis
/-
  Completeness of the generic recogniser at its standard fuel, for the GraphQL grammar.
  `DerivesH g h s ts o` are height-indexed derivations that follow the matcher's use of fuel (one unit per
  constructor; `plus a` goes through `seq a (star a)`; iterations of a repetition derive at least one token).
  `matchSym_complete` (any grammar): a derivation of height `h` is found with fuel `h`, possibly with another
  canonical output (`dedup` keeps one result per remainder).  `derivesH_of_derives` (the GraphQL grammar): a
  derivation of `ts` from `s` has a counterpart of every height above `depth s + 64 * ts.length`; `depth` credits
  64 units to what follows a terminal in a sequence (`depth_table`: evaluated on the 75 productions).
-/
namespace Gql.Grammar
open Gql Gql.Lexer

inductive DerivesH {N : Type} (g : Grammar N) : Nat → Sym N → List Tok → List Tok → Prop
  | tok {h : Nat} {p : Tok → Bool} {t : Tok} : p t = true → DerivesH g (h + 1) (.tok p) [t] [t]
  | nt {h : Nat} {n : N} {ts out : List Tok} : DerivesH g h (g.rules n) ts out → DerivesH g (h + 1) (.nt n) ts out
  | eps {h : Nat} : DerivesH g (h + 1) .eps [] []
  | seq {h : Nat} {a b : Sym N} {t1 t2 o1 o2 : List Tok} :
      DerivesH g h a t1 o1 → DerivesH g h b t2 o2 → DerivesH g (h + 1) (.seq a b) (t1 ++ t2) (o1 ++ o2)
  | altL {h : Nat} {a b : Sym N} {ts out : List Tok} : DerivesH g h a ts out → DerivesH g (h + 1) (.alt a b) ts out
  | altR {h : Nat} {a b : Sym N} {ts out : List Tok} : DerivesH g h b ts out → DerivesH g (h + 1) (.alt a b) ts out
  | optNone {h : Nat} {a : Sym N} : DerivesH g (h + 1) (.opt a) [] []
  | optSome {h : Nat} {a : Sym N} {ts out : List Tok} : DerivesH g h a ts out → DerivesH g (h + 1) (.opt a) ts out
  | starNil {h : Nat} {a : Sym N} : DerivesH g (h + 1) (.star a) [] []
  | starCons {h : Nat} {a : Sym N} {t1 t2 o1 o2 : List Tok} : t1 ≠ [] →
      DerivesH g h a t1 o1 → DerivesH g h (.star a) t2 o2 → DerivesH g (h + 1) (.star a) (t1 ++ t2) (o1 ++ o2)
  | plus {h : Nat} {a : Sym N} {ts out : List Tok} :
      DerivesH g h (.seq a (.star a)) ts out → DerivesH g (h + 1) (.plus a) ts out
  | canon {h : Nat} {f : List Tok → List Tok} {a : Sym N} {ts out : List Tok} :
      DerivesH g h a ts out → DerivesH g (h + 1) (.canon f a) ts (f out)

theorem DerivesH.derives {N : Type} {g : Grammar N} {h : Nat} {s : Sym N} {ts o : List Tok}
    (d : DerivesH g h s ts o) : Derives g s ts o := by
  induction d with
  | tok hp => exact .tok hp
  | nt _ ih => exact .nt ih
  | eps => exact .eps
  | seq _ _ ih1 ih2 => exact .seq ih1 ih2
  | altL _ ih => exact .altL ih
  | altR _ ih => exact .altR ih
  | optNone => exact .optNone
  | optSome _ ih => exact .optSome ih
  | starNil => exact .starNil
  | starCons _ _ _ ih1 ih2 => exact .starCons ih1 ih2
  | plus _ ih =>
    cases ih with
    | seq d1 d2 => exact .plus d1 d2
  | canon _ ih => exact .canon ih

theorem dedup_keeps {l : List Res} {x : Res} (hx : x ∈ l) : ∃ y ∈ dedup l, y.2.length = x.2.length := by
  induction l with
  | nil => cases hx
  | cons r rs ih =>
    rcases List.mem_cons.mp hx with rfl | hx
    · exact ⟨x, List.mem_cons_self, rfl⟩
    · obtain ⟨y, hy, hl⟩ := ih hx
      by_cases hr : y.2.length = r.2.length
      · exact ⟨r, List.mem_cons_self, hr ▸ hl⟩
      · exact ⟨y, List.mem_cons_of_mem _ (List.mem_filter.2 ⟨hy, by simpa using hr⟩), hl⟩

def Finds {N : Type} (g : Grammar N) (n : Nat) (s : Sym N) (inp rest : List Tok) : Prop :=
  ∃ o, (o, rest) ∈ matchSym g n s inp

/-- a candidate with remainder `rest` survives `dedup` (possibly with another output): the survivor
    of the same remainder length is a sound match on `pre ++ rest`, so its remainder is `rest` -/
theorem finds_dedup {N : Type} {g : Grammar N} {n : Nat} {s : Sym N} {pre rest : List Tok} {l : List Res}
    (hm : matchSym g n s (pre ++ rest) = dedup l) (hx : ∃ o, (o, rest) ∈ l) : Finds g n s (pre ++ rest) rest := by
  obtain ⟨o, hx⟩ := hx
  obtain ⟨y, hy, hl⟩ := dedup_keeps hx
  rw [← hm] at hy
  obtain ⟨p, e, _⟩ := matchSym_sound g _ _ _ _ hy
  obtain rfl : rest = y.2 := (List.append_inj' e hl.symm).2
  exact ⟨y.1, hy⟩

theorem matchSym_complete {N : Type} (g : Grammar N) {h : Nat} {s : Sym N} {ts o : List Tok}
    (d : DerivesH g h s ts o) : ∀ rest, Finds g h s (ts ++ rest) rest := by
  induction d with
  | @tok h p t hp => intro rest; exact ⟨[t], by simp [matchSym, hp]⟩
  | nt _ ih => exact ih  -- `matchSym g (h + 1) (.nt n)` is `matchSym g h (g.rules n)`
  | eps => intro rest; exact ⟨[], by simp [matchSym]⟩
  | @seq h a b t1 t2 o1 o2 _ _ ih1 ih2 =>
    intro rest
    obtain ⟨p1, h1⟩ := ih1 (t2 ++ rest)
    obtain ⟨p2, h2⟩ := ih2 rest
    rw [← List.append_assoc] at h1
    exact finds_dedup rfl ⟨p1 ++ p2, List.mem_flatMap.2 ⟨_, h1, List.mem_map.2 ⟨(p2, rest), h2, rfl⟩⟩⟩
  | altL _ ih => exact fun rest => finds_dedup rfl ((ih rest).imp fun _ => List.mem_append_left _)
  | altR _ ih => exact fun rest => finds_dedup rfl ((ih rest).imp fun _ => List.mem_append_right _)
  | optNone => intro rest; exact ⟨[], by simp [matchSym, dedup]⟩
  | optSome _ ih => exact fun rest => finds_dedup rfl ((ih rest).imp fun _ => List.mem_cons_of_mem _)
  | starNil => intro rest; exact ⟨[], by simp [matchSym, dedup]⟩
  | @starCons h a t1 t2 o1 o2 hne _ _ ih1 ih2 =>
    intro rest
    obtain ⟨p1, h1⟩ := ih1 (t2 ++ rest)
    obtain ⟨p2, h2⟩ := ih2 rest
    have hlt : (t2 ++ rest).length < (t1 ++ t2 ++ rest).length := by
      have := List.length_pos_iff.mpr hne
      simp only [List.length_append]; omega
    rw [← List.append_assoc] at h1
    refine finds_dedup rfl ⟨p1 ++ p2, List.mem_cons_of_mem _ (List.mem_flatMap.2 ⟨_, h1, ?_⟩)⟩
    rw [if_pos hlt]
    exact List.mem_map.2 ⟨(p2, rest), h2, rfl⟩
  | plus _ ih => exact ih
  | @canon h f a ts out _ ih =>
    intro rest
    obtain ⟨p, hp⟩ := ih rest
    exact ⟨f p, List.mem_map.2 ⟨(p, rest), hp, rfl⟩⟩

theorem parseWith_complete {N : Type} (g : Grammar N) {h : Nat} {n : N} {ts o : List Tok}
    (d : DerivesH g h (.nt n) ts o) : (parseWith g h n ts).isSome = true := by
  obtain ⟨p, hp⟩ := matchSym_complete g d []
  rw [List.append_nil] at hp
  rw [parseWith, Option.isSome_map, List.find?_isSome]
  exact ⟨_, hp, rfl⟩


/-- height of each nonterminal's derivations of ONE token's worth of input (least solution of
    `depth_table`, computed by iteration) -/
def ntDepth : NT → Nat
  | .name => 2 | .value true => 12 | .value false => 13 | .booleanValue => 3 | .nullValue => 2 | .enumValue => 2
  | .listValue _ => 4 | .objectValue _ => 4 | .objectField _ => 4 | .var => 3 | .defaultValue => 3
  | .typ => 9 | .namedType => 3 | .listType => 3 | .nonNullType => 6
  | .directives _ => 7 | .directive _ => 3 | .arguments _ => 3 | .argument _ => 4 | .operationType => 4
  | .executableDocument => 21 | .executableDefinition => 17 | .operationDefinition => 15 | .selectionSet => 3
  | .selection => 16 | .field => 14 | .alias => 4 | .fragmentSpread => 3 | .inlineFragment => 3
  | .fragmentDefinition => 3 | .fragmentName => 2 | .typeCondition => 3 | .variableDefinitions => 3
  | .variableDefinition => 5
  | .typeSystemDocument => 22 | .typeSystemDefinitionOrExtension => 18 | .typeSystemDefinition => 16
  | .typeSystemExtension => 12 | .description => 3 | .schemaDefinition => 6 | .rootOperationTypeDefinition => 6
  | .schemaExtension => 4 | .typeDefinition => 13 | .typeExtension => 10 | .scalarTypeDefinition => 6
  | .scalarTypeExtension => 3 | .objectTypeDefinition => 7 | .objectTypeExtension => 5 | .implementsInterfaces => 3
  | .fieldsDefinition => 3 | .fieldDefinition => 8 | .argumentsDefinition => 3 | .inputValueDefinition => 6
  | .interfaceTypeDefinition => 7 | .interfaceTypeExtension => 5 | .unionTypeDefinition => 6 | .unionMemberTypes => 3
  | .unionTypeExtension => 4 | .enumTypeDefinition => 7 | .enumValuesDefinition => 3 | .enumValueDefinition => 11
  | .enumTypeExtension => 4 | .inputObjectTypeDefinition => 7 | .inputFieldsDefinition => 3
  | .inputObjectTypeExtension => 4 | .directiveDefinition => 6 | .directiveLocations => 6 | .directiveLocation => 2

/-- static height of a symbol; the second part of a sequence that starts with a terminal is
    credited the 64 units of that token (`minLen gql 1 a` is 1 for a terminal, 0 otherwise) -/
def depth : Sym NT → Nat
  | .tok _ => 1 | .nt n => ntDepth n | .eps => 1
  | .seq a b => max (depth a) (depth b - 64 * minLen gql 1 a) + 1
  | .alt a b => max (depth a) (depth b) + 1
  | .opt a => depth a + 1
  | .star a => depth a + 1
  | .plus a => depth a + 3
  | .canon _ a => depth a + 1

theorem depth_table (n : NT) : depth (gqlRules n) < ntDepth n ∧ ntDepth n < 128 := by
  cases n <;> decide +revert +kernel

/-- what is left for a part `x` of a symbol `y` one level down -/
theorem below {x y len k : Nat} (hxy : x < y) (h : y + len < k + 1) : x + len < k := by omega

/-- iterations of a repetition that derive no token are dropped, so the canonical output may differ -/
theorem derivesH_of_derives {s : Sym NT} {ts o : List Tok} (d : Derives gql s ts o) (h : Nat)
    (hlt : depth s + 64 * ts.length < h) : ∃ o', DerivesH gql h s ts o' := by
  induction d generalizing h with
  | tok hp =>
    obtain ⟨k, rfl⟩ := Nat.exists_eq_add_one.2 (Nat.zero_lt_of_lt hlt)
    exact ⟨_, .tok hp⟩
  | @nt n _ _ _ ih =>
    obtain ⟨k, rfl⟩ := Nat.exists_eq_add_one.2 (Nat.zero_lt_of_lt hlt)
    exact (ih k (below (depth_table n).1 hlt)).imp fun _ => .nt
  | eps =>
    obtain ⟨k, rfl⟩ := Nat.exists_eq_add_one.2 (Nat.zero_lt_of_lt hlt)
    exact ⟨_, .eps⟩
  | seq d1 _ ih1 ih2 =>
    obtain ⟨k, rfl⟩ := Nat.exists_eq_add_one.2 (Nat.zero_lt_of_lt hlt)
    have hm := minLen_le d1 1
    simp only [depth, List.length_append] at hlt
    obtain ⟨p1, ih1⟩ := ih1 k (by omega)
    obtain ⟨p2, ih2⟩ := ih2 k (by omega)
    exact ⟨p1 ++ p2, .seq ih1 ih2⟩
  | altL _ ih =>
    obtain ⟨k, rfl⟩ := Nat.exists_eq_add_one.2 (Nat.zero_lt_of_lt hlt)
    exact (ih k (below (Nat.lt_succ_of_le (Nat.le_max_left _ _)) hlt)).imp fun _ => .altL
  | altR _ ih =>
    obtain ⟨k, rfl⟩ := Nat.exists_eq_add_one.2 (Nat.zero_lt_of_lt hlt)
    exact (ih k (below (Nat.lt_succ_of_le (Nat.le_max_right _ _)) hlt)).imp fun _ => .altR
  | optNone =>
    obtain ⟨k, rfl⟩ := Nat.exists_eq_add_one.2 (Nat.zero_lt_of_lt hlt)
    exact ⟨_, .optNone⟩
  | optSome _ ih =>
    obtain ⟨k, rfl⟩ := Nat.exists_eq_add_one.2 (Nat.zero_lt_of_lt hlt)
    exact (ih k (below (Nat.lt_succ_self _) hlt)).imp fun _ => .optSome
  | starNil =>
    obtain ⟨k, rfl⟩ := Nat.exists_eq_add_one.2 (Nat.zero_lt_of_lt hlt)
    exact ⟨_, .starNil⟩
  | @starCons a t1 t2 _ _ _ _ ih1 ih2 =>
    by_cases hne : t1 = []
    · subst hne
      exact ih2 h hlt
    · obtain ⟨k, rfl⟩ := Nat.exists_eq_add_one.2 (Nat.zero_lt_of_lt hlt)
      have := List.length_pos_iff.mpr hne
      simp only [depth, List.length_append] at hlt ih2
      obtain ⟨p1, ih1⟩ := ih1 k (by omega)
      obtain ⟨p2, ih2⟩ := ih2 k (by omega)
      exact ⟨p1 ++ p2, .starCons hne ih1 ih2⟩
  | plus _ _ ih1 ih2 =>
    simp only [depth, List.length_append] at hlt ih2
    obtain ⟨k, rfl⟩ : ∃ k, h = k + 2 := ⟨h - 2, by omega⟩
    obtain ⟨p1, ih1⟩ := ih1 k (by omega)
    obtain ⟨p2, ih2⟩ := ih2 k (by omega)
    exact ⟨p1 ++ p2, .plus (.seq ih1 ih2)⟩
  | canon _ ih =>
    obtain ⟨k, rfl⟩ := Nat.exists_eq_add_one.2 (Nat.zero_lt_of_lt hlt)
    obtain ⟨p, ih⟩ := ih k (below (Nat.lt_succ_self _) hlt)
    exact ⟨_, .canon ih⟩

theorem recognises_complete (n : NT) (ts : List Tok) (h : Derivable gql n ts) : recognises gql n ts = true := by
  obtain ⟨o, d⟩ := h
  have hlt := (depth_table n).2
  obtain ⟨o', dh⟩ := derivesH_of_derives d (fuelFor ts) (by simp only [depth, fuelFor]; omega)
  exact parseWith_complete gql dh

theorem canonical_complete (n : NT) (ts : List Tok) (h : Derivable gql n ts) :
    ∃ out, canonical gql n ts = some out := Option.isSome_iff_exists.mp (recognises_complete n ts h)

theorem recognises_iff (n : NT) (ts : List Tok) : recognises gql n ts = true ↔ Derivable gql n ts :=
  ⟨recognises_sound gql n ts, recognises_complete n ts⟩

end Gql.Grammar
