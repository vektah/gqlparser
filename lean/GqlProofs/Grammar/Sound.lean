import GqlModel.Syntax.Grammar
/-
  Soundness of the generic recogniser: whatever `matchSym` returns is a derivation
  (`Derives`) of the consumed prefix with the returned canonical form.  Consequently a `1` from
  the driver ops `gq` / `gs` is a derivation in the grammar, and the token list printed by
  `gqc` / `gsc` is the canonical form of one.
-/
namespace Gql.Grammar

theorem mem_dedup {l : List Res} {x : Res} : x ∈ dedup l → x ∈ l := by
  induction l with
  | nil => exact id
  | cons r rs ih => exact fun h => List.mem_cons.2 ((List.mem_cons.1 h).imp_right fun h => ih (List.mem_filter.1 h).1)

theorem matchSym_sound {N : Type} (g : Grammar N) :
    ∀ (n : Nat) (s : Sym N) (ts : List Tok) (r : Res),
      r ∈ matchSym g n s ts → ∃ pre, ts = pre ++ r.2 ∧ Derives g s pre r.1 := by
  intro n
  induction n with
  | zero => intro s ts r h; simp [matchSym] at h
  | succ n ih =>
    intro s ts r h
    cases s with
    | tok p =>
      cases ts with
      | nil => simp [matchSym] at h
      | cons t ts' =>
        by_cases hp : p t = true
        · obtain rfl : r = ([t], ts') := by simpa [matchSym, hp] using h
          exact ⟨[t], rfl, .tok hp⟩
        · simp [matchSym, hp] at h
    | nt x => exact (ih _ _ _ h).imp fun _ => And.imp_right .nt
    | eps =>
      obtain rfl : r = ([], ts) := by simpa [matchSym] using h
      exact ⟨[], rfl, .eps⟩
    | seq a b =>
      have h := mem_dedup h
      simp only [List.mem_flatMap, List.mem_map] at h
      obtain ⟨⟨o1, rest1⟩, hr1, ⟨o2, rest2⟩, hr2, rfl⟩ := h
      obtain ⟨p1, rfl, d1⟩ := ih _ _ _ hr1
      obtain ⟨p2, rfl, d2⟩ := ih _ _ _ hr2
      exact ⟨p1 ++ p2, (List.append_assoc ..).symm, .seq d1 d2⟩
    | alt a b =>
      rcases List.mem_append.1 (mem_dedup h) with h | h
      · exact (ih _ _ _ h).imp fun _ => And.imp_right .altL
      · exact (ih _ _ _ h).imp fun _ => And.imp_right .altR
    | opt a =>
      rcases List.mem_cons.1 (mem_dedup h) with rfl | h
      · exact ⟨[], rfl, .optNone⟩
      · exact (ih _ _ _ h).imp fun _ => And.imp_right .optSome
    | star a =>
      rcases List.mem_cons.1 (mem_dedup h) with rfl | h
      · exact ⟨[], rfl, .starNil⟩
      · obtain ⟨⟨o1, rest1⟩, hr1, h⟩ := List.mem_flatMap.1 h
        split at h
        · obtain ⟨⟨o2, rest2⟩, hr2, rfl⟩ := List.mem_map.1 h
          obtain ⟨p1, rfl, d1⟩ := ih _ _ _ hr1
          obtain ⟨p2, rfl, d2⟩ := ih _ _ _ hr2
          exact ⟨p1 ++ p2, (List.append_assoc ..).symm, .starCons d1 d2⟩
        · cases h
    | plus a =>
      obtain ⟨out, rest⟩ := r
      obtain ⟨pre, h1, h2⟩ := ih _ _ _ h
      cases h2 with
      | seq d1 d2 => exact ⟨_, h1, .plus d1 d2⟩
    | canon f a =>
      obtain ⟨r1, hr1, rfl⟩ := List.mem_map.1 h
      exact (ih _ _ _ hr1).imp fun _ => And.imp_right .canon

theorem parseWith_sound {N : Type} (g : Grammar N) (fuel : Nat) (start : N) (ts out : List Tok)
    (h : parseWith g fuel start ts = some out) : Derives g (.nt start) ts out := by
  obtain ⟨r, hr, rfl⟩ := Option.map_eq_some_iff.1 h
  obtain ⟨pre, rfl, d⟩ := matchSym_sound g _ _ _ _ (List.mem_of_find?_eq_some hr)
  have he : r.2 = [] := by simpa using List.find?_some hr
  rwa [he, List.append_nil]

theorem canonical_sound {N : Type} (g : Grammar N) (start : N) (ts out : List Tok)
    (h : canonical g start ts = some out) : Derives g (.nt start) ts out :=
  parseWith_sound g _ start ts out h

theorem recognises_sound {N : Type} (g : Grammar N) (start : N) (ts : List Tok)
    (h : recognises g start ts = true) : Derivable g start ts := by
  obtain ⟨out, ho⟩ := Option.isSome_iff_exists.mp h
  exact ⟨out, canonical_sound g start ts out ho⟩

end Gql.Grammar
