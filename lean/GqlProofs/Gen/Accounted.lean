import GqlModel.Gen.Facts
/-
  Hand-written expectation tables for the site lists that the extractor regenerates from /repo on
  every run (GqlModel/Gen/Facts.lean).  Every site is classified; a source change that adds a map
  iteration, a call into package sort, an explicit panic or a reflect call produces a site that is
  not in these tables and the `…_accounted` lemmas in the Props files stop building.
  Keys are (file, function:detail) — no line numbers, so harmless edits elsewhere do not disturb them.
-/
namespace Gql.Gen

/-- how a `range` over a map (or reflect MapKeys) is accounted for -/
inductive MapRangeClass
  | sliceNameClash      -- the extractor works without type information: the ranged expression is a SLICE whose
                        -- field name (Types, Directives, Extensions) is also the name of a map-typed field elsewhere
  | keysThenSorted      -- keys are collected and then sorted (sort.Strings): order irrelevant
  | disjointWrites      -- each key writes a different field of the result (JSON decoders): order irrelevant
  | firstErrorOnly      -- order decides only WHICH of several offending keys is named in an error (vars.go unknown
                        -- field): verdict and value are order independent (C14 compares accordingly)
  deriving DecidableEq, Repr

def accountedMapRanges : List ((String × String) × MapRangeClass) :=
  [ (("parser/schema.go", "ParseSchema:Extensions"), .sliceNameClash),
    (("parser/schema.go", "ParseSchemaWithLimit:Extensions"), .sliceNameClash),
    (("ast/decode.go", "UnmarshalSelectionSet:tmp"), .sliceNameClash),
    (("ast/decode.go", "FragmentDefinition.UnmarshalJSON:tmp"), .disjointWrites),
    (("ast/decode.go", "InlineFragment.UnmarshalJSON:tmp"), .disjointWrites),
    (("ast/decode.go", "OperationDefinition.UnmarshalJSON:tmp"), .disjointWrites),
    (("ast/decode.go", "Field.UnmarshalJSON:tmp"), .disjointWrites),
    (("validator/schema.go", "ValidateSchemaDocument:Extensions"), .sliceNameClash),
    (("validator/schema.go", "ValidateSchemaDocument:Types"), .sliceNameClash),
    (("validator/schema.go", "ValidateSchemaDocument:Directives"), .sliceNameClash),
    (("validator/schema.go", "validateTypeDefinitions:Types"), .keysThenSorted),
    (("validator/schema.go", "validateDirectiveDefinitions:Directives"), .keysThenSorted),
    (("validator/schema.go", "validateDefinition:Types"), .sliceNameClash),
    (("validator/vars.go", "varValidator.validateVarType:reflect.MapKeys"), .firstErrorOnly),
    (("validator/rules/known_type_names.go", "ruleFuncKnownTypeNames:Types"), .keysThenSorted),
    (("validator/rules/values_of_correct_type.go", "ruleFuncValuesOfCorrectType:Directives"), .sliceNameClash),
    (("formatter/formatter.go", "formatter.FormatSchema:Directives"), .keysThenSorted),
    (("formatter/formatter.go", "formatter.FormatSchema:Types"), .keysThenSorted) ]

/-- calls into package sort: only deterministic ones are allowed (Strings, SliceStable, Stable, Ints, SearchStrings) -/
def stableSortFuncs : List String := ["Strings", "SliceStable", "Stable", "Ints", "SearchStrings"]

/-- explicit panic( sites and why each is not a way for input to crash the library -/
inductive PanicClass
  | conversionOfParsedLiteral   -- arg2map: Value.Value fails only on malformed literals, which the lexer cannot produce (C15_total)
  | unknownEnumKind             -- switch default over a closed Go enumeration (value kind, selection type, path element)
  | mustHelper                  -- gqlparser.MustLoadSchema / MustLoadQuery: documented to panic, outside every property
  | missingDefinition           -- vars.go: "missing def for %s" — unreachable on a closed schema (C07_loaded_closed) after validation
  | unknownOperationKind        -- known_root_type.go: operation kind other than query/mutation/subscription, never produced by the parser
  deriving DecidableEq, Repr

def accountedPanics : List ((String × String) × PanicClass) :=
  [ (("ast/argmap.go", "arg2map"), .conversionOfParsedLiteral),
    (("ast/path.go", "Path.String"), .unknownEnumKind),
    (("ast/value.go", "Value.Value"), .unknownEnumKind),
    (("ast/value.go", "Value.String"), .unknownEnumKind),
    (("validator/vars.go", "varValidator.validateVarType"), .missingDefinition),
    (("validator/walk.go", "Walker.walkSelection"), .unknownEnumKind),
    (("validator/rules/known_root_type.go", "<package>"), .unknownOperationKind),
    (("validator/rules/values_of_correct_type.go", "ruleFuncValuesOfCorrectType"), .unknownEnumKind),
    (("formatter/formatter.go", "formatter.FormatSelection"), .unknownEnumKind),
    (("gqlparser.go", "MustLoadSchema"), .mustHelper),
    (("gqlparser.go", "MustLoadQuery"), .mustHelper) ]

/-- files that may call into package reflect (modelled crash-explicitly in GqlModel/Vars, and the
    DeepEqual of the overlapping-fields rule, modelled as node identity) -/
def reflectFiles : List String :=
  ["validator/vars.go", "validator/rules/overlapping_fields_can_be_merged.go"]

end Gql.Gen
