import GqlProofs.ValSpec.ValBlocks
import GqlProofs.ValSpec.VarNames
import GqlProofs.ValSpec.UsedVars
import GqlModel.Validate.Rules.NoUndefinedVariables
import GqlModel.Validate.Rules.NoUnusedVariables
/-
  NoUndefinedVariables (§5.8.3) and NoUnusedVariables (§5.8.4): the variables for which a `value`
  event is fired while `CurrentOperation = op` are exactly the variables the specification finds
  in the scope of `op` (`Spec.scopeUses`: the operation itself and the fragment definitions it
  references transitively, definitions' directives included).  Hypotheses: pairwise different fragment
  names (`Spec.opFragments` picks a definition by name and position, the walker the first one of the
  name); no variables in default values of variables (the grammar makes them constant; the walker would
  count such a use, the specification does not look there); for NoUnusedVariables also pairwise different
  variable names in every operation (`Spec.variableUniqueness`): the `Used` flags are set by name.
-/
namespace Gql.Validate
open Gql Gql.Validate.Rules

/-- default values are constant (what the parser produces: `Value[Const]`) -/
def constDefaults (d : QueryDoc) : Bool :=
  d.ops.all fun op => op.vars.all fun v =>
    match v.default with
    | some dv => (varNamesV dv).isEmpty
    | none => true

mutual
  theorem mem_varNamesV_sub (x : Name) : ∀ v : Value, x ∈ varNamesV v ↔ ∃ c q, Value.mk .variable x c q ∈ subValues v
    | .mk k raw ch p => by
      unfold varNamesV subValues
      cases k <;> simp [mem_varNamesCh_sub x ch, eq_comm]
  theorem mem_varNamesCh_sub (x : Name) : ∀ ch : Children,
      x ∈ varNamesCh ch ↔ ∃ c q, Value.mk .variable x c q ∈ childValues ch
    | .nil => by simp [varNamesCh, childValues]
    | .cons _ v _ rest => by
      simp only [varNamesCh, childValues, List.mem_append, mem_varNamesV_sub x v, mem_varNamesCh_sub x rest,
        exists_or]
end

theorem exists_site_iff {x : Name} {L : List VSite} :
    (∃ e d' c q, ((e, d', Value.mk .variable x c q) : VSite) ∈ L) ↔ ∃ c q, Value.mk .variable x c q ∈ L.map (·.2.2) := by
  simp only [List.mem_map, Prod.exists]
  constructor
  · rintro ⟨e, d', c, q, h⟩
    exact ⟨c, q, e, d', _, h, rfl⟩
  · rintro ⟨c, q, e, d', _, h, rfl⟩
    exact ⟨e, d', c, q, h⟩

theorem mem_varNamesV_iff (s : SV) (x : Name) (v : Value) (exp : Option GType) (dfn : Option Definition) :
    x ∈ varNamesV v ↔ ∃ exp' dfn' ch p, ((exp', dfn', Value.mk .variable x ch p) : VSite) ∈ valSites s exp dfn v := by
  rw [mem_varNamesV_sub, ← valSites_values s exp dfn v, exists_site_iff]

theorem mem_varNamesCh_list (s : SV) (x : Name) : ∀ (ch : Children) (exp : Option GType) (dfn : Option Definition),
    x ∈ varNamesCh ch ↔ ∃ exp' dfn' c p, ((exp', dfn', Value.mk .variable x c p) : VSite) ∈ listSites s exp dfn ch := by
  intro ch exp dfn
  rw [mem_varNamesCh_sub, ← listSites_values s exp dfn ch, exists_site_iff]

theorem mem_argsVarNames_iff (s : SV) (x : Name) (defs : Option (List ArgDef)) (args : List Argument) :
    x ∈ argsVarNames args ↔ ∃ exp' dfn' c p, ((exp', dfn', Value.mk .variable x c p) : VSite) ∈ argValSites s defs args := by
  rw [exists_site_iff, argValSites_values]
  simp only [argsVarNames, List.mem_flatMap, mem_varNamesV_sub]
  constructor
  · rintro ⟨a, ha, c, q, h⟩
    exact ⟨c, q, a, ha, h⟩
  · rintro ⟨c, q, a, ha, h⟩
    exact ⟨a, ha, c, q, h⟩

def WalkVarName (evs : List Event) (op : OperationDef) (x : Name) : Prop :=
  ∃ e ∈ evs, e.cur = some op ∧ ∃ ch p exp dfn, e.p = .value (.mk .variable x ch p) exp dfn

theorem walkVarName_of_args {s : SV} {evs : List Event} {op : OperationDef} {defs : Option (List ArgDef)}
    {args : List Argument} {ws : WS} (hsub : ∀ e ∈ (walkArgs s (some op) defs args ws).2, e ∈ evs) {x : Name}
    (hx : x ∈ argsVarNames args) : WalkVarName evs op x := by
  obtain ⟨e', d', c, p, ht⟩ := (mem_argsVarNames_iff s x defs args).1 hx
  obtain ⟨e, he, hp⟩ := walkArgs_complete (some op) ws ht
  exact ⟨e, hsub e he, walkArgs_cur s (some op) defs args ws e he, c, p, e', d', hp⟩

theorem argsVarNames_of_event {s : SV} {cur : Option OperationDef} {defs : Option (List ArgDef)}
    {args : List Argument} {ws : WS} {e : Event} (he : e ∈ (walkArgs s cur defs args ws).2) {x : Name}
    {ch : Children} {p : Pos} {exp : Option GType} {dfn : Option Definition}
    (hp : e.p = .value (.mk .variable x ch p) exp dfn) : x ∈ argsVarNames args := by
  exact (mem_argsVarNames_iff s x defs args).2 ⟨exp, dfn, ch, p, walkArgs_sound he hp⟩

theorem constDefaults_no_var {d : QueryDoc} (hcd : constDefaults d = true) {op : OperationDef} (hop : op ∈ d.ops)
    {vd : VarDef} (hvd : vd ∈ op.vars) {dv : Value} (hdv : vd.default = some dv) {s : SV} {cur : Option OperationDef}
    {exp dfn : _} {ws : WS} {e : Event} (hin : e ∈ (walkValue s cur exp dfn dv ws).2) {x : Name} {ch : Children}
    {p : Pos} {exp' : Option GType} {dfn' : Option Definition} (hp : e.p = .value (.mk .variable x ch p) exp' dfn') :
    False := by
  have hx : x ∈ varNamesV dv := (mem_varNamesV_iff s x dv _ _).2 ⟨_, _, ch, p, walkValue_sound hin hp⟩
  have hcd' := List.all_eq_true.1 (List.all_eq_true.1 hcd op hop) vd hvd
  rw [hdv, List.isEmpty_iff] at hcd'
  rw [hcd'] at hx
  cases hx

theorem mem_dirsVarNames {x : Name} {dirs : List Directive} :
    x ∈ dirsVarNames dirs ↔ ∃ dir ∈ dirs, x ∈ argsVarNames dir.args := by
  simp [dirsVarNames, List.mem_flatMap]

section block
variable (s : Schema) (d : QueryDoc) (blk : List Event) (hB : ValInv s.view d blk)
include hB

theorem walkVarName_of_dirs {op : OperationDef} {loc : Bytes} {ds : List Directive}
    (h : HasDirsC s.view (some op) loc ds blk) {x : Name} (hx : x ∈ dirsVarNames ds) : WalkVarName blk op x := by
  obtain ⟨dir, hdir, hx'⟩ := mem_dirsVarNames.1 hx
  obtain ⟨e', he', par, hc, hp⟩ := h.2 dir hdir
  obtain ⟨ws, hsub⟩ := hB.dirArgs e' he' dir _ par loc hp
  rw [hc] at hsub
  exact walkVarName_of_args hsub hx'

theorem walkVarName_of_node {op : OperationDef} {p' : Option Definition} {y : Selection}
    (hn : HasNodeCur d (some op) blk p' y) (hd : HasDirsC s.view (some op) (Spec.selLoc y) (Spec.selDirs y) blk)
    {x : Name} (hx : x ∈ nodeVarNames y) : WalkVarName blk op x := by
  rcases List.mem_append.1 hx with hx | hx
  · cases y with
    | field al nm args dirs sub p =>
      obtain ⟨e', he', hc, hp⟩ := hn
      obtain ⟨ws, hsub⟩ := hB.fieldArgs e' he' _ _ _ hp
      rw [hc] at hsub
      exact walkVarName_of_args hsub hx
    | spread nm dirs p => simp [nodeArgs, argsVarNames] at hx
    | inline tc dirs sub p => simp [nodeArgs, argsVarNames] at hx
  · exact walkVarName_of_dirs s d blk hB hd hx

theorem walkVarName_of_scopeUses (hu : Spec.fragmentNameUniqueness d = true) (op : OperationDef)
    (hscope : OpScope s.view d op blk) {x : Name} (hx : x ∈ (Spec.scopeUses s d op).map (·.name)) :
    WalkVarName blk op x := by
  rw [mem_scopeUses_names] at hx
  rcases hx with (⟨v, hv, hx⟩ | hx | ⟨y, hy, hx⟩) | ⟨g, hg, hx | ⟨y, hy, hx⟩⟩
  · exact walkVarName_of_dirs s d blk hB (hscope.varDirs v hv) hx
  · exact walkVarName_of_dirs s d blk hB hscope.opDirs hx
  · obtain ⟨p', hw'⟩ := inSels_lift s.view op.sel (opRoot s.view op.op).1 y hy
    obtain ⟨h1, h2⟩ := hscope.nodes p' y (Or.inl hw')
    exact walkVarName_of_node s d blk hB h1 h2 hx
  · obtain ⟨n, hr, hgn⟩ := (mem_opFragments_iff d hu op g).1 hg
    exact walkVarName_of_dirs s d blk hB (hscope.fragDirs n g hr hgn) hx
  · obtain ⟨n, hr, hgn⟩ := (mem_opFragments_iff d hu op g).1 hg
    obtain ⟨p', hw'⟩ := inSels_lift s.view g.sel (s.view.type? g.typeCond) y hy
    obtain ⟨h1, h2⟩ := hscope.nodes p' y (Or.inr ⟨n, g, hr, hgn, hw'⟩)
    exact walkVarName_of_node s d blk hB h1 h2 hx

end block

section run
variable (s : Schema) (d : QueryDoc) (evs : List Event) (hw : walkDoc s.view d = some evs)
include hw

theorem scopeUses_of_walkVarName (hu : Spec.fragmentNameUniqueness d = true) (hcd : constDefaults d = true)
    (op : OperationDef) {x : Name} (h : WalkVarName evs op x) : x ∈ (Spec.scopeUses s d op).map (·.name) := by
  rw [mem_scopeUses_names]
  obtain ⟨e, he, hc, ch, p, exp, dfn, hp⟩ := h
  rcases walkDoc_value_origin s.view d evs hw e he _ exp dfn hp with
    ⟨e', he', f, par, fd, ws, hp', hc', hin⟩ | ⟨e', he', dir, dd, par, loc, ws, hp', hc', hin⟩ |
    ⟨op', hop', vd, hvd, dv, ws, hdv, hc', hin⟩
  ·
    have hx := argsVarNames_of_event hin hp
    obtain ⟨_, hs⟩ := walkDoc_op_sound s.view d evs hw e' he' op (hc'.trans hc)
    have h2 := hs.2
    simp only [hp'] at h2
    have hxn : x ∈ nodeVarNames (.field f.alias f.name f.args f.dirs f.sel f.pos) :=
      List.mem_append_left _ hx
    rcases h2.1 with hi | ⟨n, g, hr, hg, hi⟩
    · exact Or.inl (Or.inr (Or.inr ⟨_, inSelsW_forget s.view op.sel _ _ _ hi, hxn⟩))
    · exact Or.inr ⟨g, (mem_opFragments_iff d hu op g).2 ⟨n, hr, hg⟩,
        Or.inr ⟨_, inSelsW_forget s.view g.sel _ _ _ hi, hxn⟩⟩
  ·
    have hx := argsVarNames_of_event hin hp
    obtain ⟨_, hs⟩ := walkDoc_op_sound s.view d evs hw e' he' op (hc'.trans hc)
    have h2 := hs.2
    simp only [hp'] at h2
    obtain ⟨_, ds, hdir, hds⟩ := h2
    have hxd : x ∈ dirsVarNames ds := mem_dirsVarNames.2 ⟨dir, hdir, hx⟩
    rcases hds with ⟨par', y, hy, _, rfl⟩ | ⟨n, g, hr, hg, _, rfl⟩ | ⟨_, rfl⟩ | ⟨v, hv, _, rfl⟩
    · have hxn : x ∈ nodeVarNames y := List.mem_append_right _ hxd
      rcases hy with hi | ⟨n, g, hr, hg, hi⟩
      · exact Or.inl (Or.inr (Or.inr ⟨_, inSelsW_forget s.view op.sel _ _ _ hi, hxn⟩))
      · exact Or.inr ⟨g, (mem_opFragments_iff d hu op g).2 ⟨n, hr, hg⟩,
          Or.inr ⟨_, inSelsW_forget s.view g.sel _ _ _ hi, hxn⟩⟩
    · exact Or.inr ⟨g, (mem_opFragments_iff d hu op g).2 ⟨n, hr, hg⟩, Or.inl hxd⟩
    · exact Or.inl (Or.inr (Or.inl hxd))
    · exact Or.inl (Or.inl ⟨v, hv, hxd⟩)
  ·
    exact (constDefaults_no_var hcd hop' hvd hdv hin hp).elim

theorem walkVarName_iff (hu : Spec.fragmentNameUniqueness d = true) (hcd : constDefaults d = true)
    (op : OperationDef) (hop : op ∈ d.ops) (x : Name) :
    WalkVarName evs op x ↔ x ∈ (Spec.scopeUses s d op).map (·.name) :=
  ⟨scopeUses_of_walkVarName s d evs hw hu hcd op,
   walkVarName_of_scopeUses s d evs (walkDoc_blocks (valInv_sites s.view d) evs hw) hu op
     (walkDoc_scope_complete s.view d evs hw op hop)⟩

theorem noUndefinedVariables_iff (hu : Spec.fragmentNameUniqueness d = true) (hcd : constDefaults d = true) :
    (∀ e ∈ evs, noUndefinedVariablesStep s.view d e = []) ↔ Spec.allVariableUsesDefined s d = true := by
  unfold Spec.allVariableUsesDefined
  simp only [List.all_eq_true]
  constructor
  · intro h op hop u hu'
    have hx : u.name ∈ (Spec.scopeUses s d op).map (·.name) := List.mem_map_of_mem hu'
    obtain ⟨e, he, hc, ch, p, exp, dfn, hp⟩ := (walkVarName_iff s d evs hw hu hcd op hop u.name).2 hx
    have hlink := walkDoc_varlink s.view d evs hw e he op hc _ ch p exp dfn hp
    have hstep := h e he
    unfold noUndefinedVariablesStep at hstep
    simp only [hp, hc] at hstep
    unfold Spec.varDefByName
    change (varForName op.vars u.name).isSome = true
    rw [← hlink]
    by_cases hs : (e.links.varDef (Value.mk ValueKind.variable u.name ch p).pos.start).isSome = true
    · exact hs
    · exfalso
      have hk : (Value.mk ValueKind.variable u.name ch p).kind = .variable := rfl
      simp only [hk, bne_self_eq_false, Bool.false_or, hs] at hstep
      by_cases hn : (op.name != []) = true <;> simp [hn] at hstep
  · intro h e he
    unfold noUndefinedVariablesStep
    split
    · rename_i v exp dfn op hp hc
      obtain ⟨k, raw, ch, p⟩ := v
      by_cases hk : k = .variable
      · subst hk
        have hop := (walkDoc_op_sound s.view d evs hw e he op hc).1
        have hx := (walkVarName_iff s d evs hw hu hcd op hop raw).1 ⟨e, he, hc, ch, p, exp, dfn, hp⟩
        obtain ⟨u, hu', hname⟩ := List.mem_map.1 hx
        have hdef := h op hop u hu'
        have hlink := walkDoc_varlink s.view d evs hw e he op hc raw ch p exp dfn hp
        have : (e.links.varDef (Value.mk ValueKind.variable raw ch p).pos.start).isSome = true := by
          change (e.links.varDef p.start).isSome = true
          rw [hlink, ← hname]
          exact hdef
        simp [this]
      · have : ((Value.mk k raw ch p).kind != ValueKind.variable) = true := by
          change (k != ValueKind.variable) = true
          simpa using hk
        simp [this]
    · rfl

end run

theorem unusedVars_nil_iff (opName : Name) : ∀ (vs : List VarDef) (us : List Bool), vs.length = us.length →
    (unusedVars opName vs us = [] ↔ ∀ u ∈ us, u = true)
  | [], [], _ => by simp [unusedVars]
  | [], _ :: _, h => by simp at h
  | _ :: _, [], h => by simp at h
  | v :: vs, u :: us, h => by
    have ih := unusedVars_nil_iff opName vs us (by simpa using h)
    cases u with
    | true =>
      simp only [unusedVars, if_true, ih, List.mem_cons, forall_eq_or_imp, true_and]
    | false =>
      simp only [unusedVars, Bool.false_eq_true, if_false, List.mem_cons, forall_eq_or_imp, false_and, iff_false]
      split <;> simp

theorem usedFlags_length (used : List Name) : ∀ (vs : List VarDef) (seen : List Name), (usedFlags used vs seen).length = vs.length
  | [], _ => rfl
  | v :: rest, seen => by simp [usedFlags, usedFlags_length used rest]

theorem usedFlags_all_iff (used : List Name) : ∀ (vs : List VarDef) (seen : List Name),
    (∀ v ∈ vs, v.var ∉ seen) → (vs.map (·.var)).Nodup →
    ((∀ u ∈ usedFlags used vs seen, u = true) ↔ ∀ v ∈ vs, v.var ∈ used)
  | [], _, _, _ => by simp [usedFlags]
  | v :: rest, seen, hseen, hnd => by
    simp only [List.map_cons, List.nodup_cons] at hnd
    have hv : v.var ∉ seen := hseen v List.mem_cons_self
    have ih := usedFlags_all_iff used rest (v.var :: seen) (by
      intro w hw hm
      rcases List.mem_cons.1 hm with h | h
      · exact hnd.1 (h ▸ List.mem_map_of_mem hw)
      · exact hseen w (List.mem_cons_of_mem _ hw) h) hnd.2
    have hflag : (used.contains v.var && !seen.contains v.var) = true ↔ v.var ∈ used := by
      simp only [Bool.and_eq_true, Bool.not_eq_true', List.contains_eq_mem,
        decide_eq_true_eq, decide_eq_false_iff_not]
      exact ⟨fun h => h.1, fun h => ⟨h, hv⟩⟩
    simp only [usedFlags, List.mem_cons, forall_eq_or_imp, ih, hflag]

theorem walkDoc_opEvent_walk (sv : SV) (d : QueryDoc) (evs : List Event) (hw : walkDoc sv d = some evs)
    (e : Event) (he : e ∈ evs) (op : OperationDef) (flags : List Bool) (hp : e.p = .operation op flags) :
    op ∈ d.ops ∧ ∃ l r, walkOperation sv d (walkFuel d) op l = some r ∧ (∀ x ∈ r.2, x ∈ evs) ∧ e ∈ r.2 := by
  obtain ⟨r1, r2, h1, h2, rfl⟩ := walkDoc_inv hw
  rcases List.mem_append.1 he with he | he
  · have key := walkOps_induct (s := sv) (d := d)
      (M := fun ops _ r => ∀ e ∈ r.2, ∃ o ∈ ops, ∃ l' r', walkOperation sv d (walkFuel d) o l' = some r' ∧
        (∀ x ∈ r'.2, x ∈ r.2) ∧ e ∈ r'.2)
      (fun _ _ he => nomatch he)
      (fun o rest l r1 r2 ho ih e he => by
        rcases List.mem_append.1 he with he | he
        · exact ⟨o, List.mem_cons_self, l, r1, ho, fun x hx => List.mem_append_left _ hx, he⟩
        · obtain ⟨o', hm, l', r', h', hsub, hin⟩ := ih e he
          exact ⟨o', List.mem_cons_of_mem _ hm, l', r', h', fun x hx => List.mem_append_right _ (hsub x hx), hin⟩)
    obtain ⟨o, ho, l, r, hr, hsub, hin⟩ := key _ _ _ h1 e he
    obtain ⟨_, hop, _⟩ := walkOperation_used sv d _ o l r hr
    obtain ⟨rfl, _⟩ := hop e hin op flags hp
    exact ⟨ho, l, r, hr, fun x hx => List.mem_append_left _ (hsub x hx), hin⟩
  · have : op ∈ opEvents r2.2 := List.mem_filterMap.2 ⟨e, he, by rw [hp]; rfl⟩
    rw [walkFrags_noOp h2] at this
    cases this

theorem noUnusedVariables_iff (s : Schema) (d : QueryDoc) (evs : List Event) (hw : walkDoc s.view d = some evs)
    (hu : Spec.fragmentNameUniqueness d = true) (hcd : constDefaults d = true)
    (hv : Spec.variableUniqueness d = true) :
    (∀ e ∈ evs, noUnusedVariablesStep s.view d e = []) ↔ Spec.allVariablesUsed s d = true := by
  unfold Spec.allVariablesUsed
  simp only [List.all_eq_true, List.any_eq_true, beq_iff_eq]
  have hnd : ∀ op ∈ d.ops, (op.vars.map (·.var)).Nodup := by
    intro op hop
    have := List.all_eq_true.1 hv op hop
    exact (distinct_iff_nodup _).1 this
  constructor
  · intro h op hop v hv'
    obtain ⟨e, he, flags, hp⟩ := (operation_event_iff s.view d evs hw op).2 hop
    obtain ⟨_, l, r, hwo, hsub, hin⟩ := walkDoc_opEvent_walk s.view d evs hw e he op flags hp
    obtain ⟨used, hflags, hused⟩ := walkOperation_used s.view d _ op l r hwo
    obtain ⟨_, _, hfl⟩ := hflags e hin op flags hp
    have hstep := h e he
    simp only [noUnusedVariablesStep, hp] at hstep
    rw [hfl, unusedVars_nil_iff _ _ _ (usedFlags_length _ _ _).symm,
      usedFlags_all_iff used op.vars [] (fun _ _ h => by cases h) (hnd op hop)] at hstep
    obtain ⟨e', he', _, _, hcur, _, ch, p, exp, dfn, hp'⟩ := (hused v.var).1 (hstep v hv')
    have hx := scopeUses_of_walkVarName s d evs hw hu hcd op ⟨e', hsub e' he', hcur, ch, p, exp, dfn, hp'⟩
    obtain ⟨u, hu', hname⟩ := List.mem_map.1 hx
    exact ⟨u, hu', hname⟩
  · intro h e he
    unfold noUnusedVariablesStep
    split
    · rename_i op flags hp
      obtain ⟨hop, l, r, hwo, hsub, hin⟩ := walkDoc_opEvent_walk s.view d evs hw e he op flags hp
      obtain ⟨used, hflags, hused⟩ := walkOperation_used s.view d _ op l r hwo
      obtain ⟨_, _, hfl⟩ := hflags e hin op flags hp
      rw [hfl, unusedVars_nil_iff _ _ _ (usedFlags_length _ _ _).symm,
        usedFlags_all_iff used op.vars [] (fun _ _ h => by cases h) (hnd op hop)]
      intro v hv'
      obtain ⟨u, hu', hname⟩ := h op hop v hv'
      have hx : v.var ∈ (Spec.scopeUses s d op).map (·.name) := hname ▸ List.mem_map_of_mem hu'
      have hB := walkOperation_blocks (d := d) ((valInv_sites s.view d).toOp op hop) _ l r hwo
      have hsc := (walkOperation_scope_complete s.view d _ op l r hwo).toScope (fun _ h => h)
      obtain ⟨e', he', hcur, ch, p, exp, dfn, hp'⟩ := walkVarName_of_scopeUses s d r.2 hB hu op hsc hx
      refine (hused v.var).2 ⟨e', he', op, rfl, hcur, ?_, ch, p, exp, dfn, hp'⟩
      unfold varForName
      rw [List.find?_isSome]
      exact ⟨v, hv', by simp⟩
    · rfl

end Gql.Validate
