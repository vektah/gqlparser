import GqlProofs.ValSpec.ValueWalk
import GqlModel.Validate.Spec.Links
/-
  C09, value links: one call of `walkValue` against the specification's `Spec.valueLinks` (what the `linkscheck` op runs).
  `valOccs s typed exp dfn v` is `Spec.valueLinks` as data (`valueLinks_eq`): the nodes of the literal `v` with the expected
  type and definition the specification computes for them and whether it demands them (`typed = false` below a custom
  scalar, below an unknown field, below a list literal where a named type is expected).  `walkValue_occ_sound` /
  `walkValue_occ_complete`: the value events of the call are exactly these nodes, and where the links are demanded the event
  carries them (`Agree`).  A single value where a list type is expected keeps the list type and the definition of the
  innermost named type on both sides (the walker does not unwrap; the fields of an object literal there are typed through
  that definition).
-/
namespace Gql.Validate
open Gql

/-- a value node in its declarative context -/
structure ValOcc where
  v : Value
  /-- the node's own expected type / definition are demanded -/
  typed : Bool
  exp : Option GType
  dfn : Option Definition

mutual
  def valOccs (s : Schema) (typed : Bool) (exp : Option GType) (dfn : Option Definition) : Value → List ValOcc
    | .mk k raw ch p =>
      ⟨.mk k raw ch p, typed, exp, dfn⟩ ::
      (match k with
       | .list =>
         (match exp with
          | some (.list e _ _) => itemOccs s true (some e) dfn ch
          | _ => itemOccs s false none none ch)
       | .object => fieldOccs s dfn ch
       | _ => [])
  def itemOccs (s : Schema) (typed : Bool) (e : Option GType) (dfn : Option Definition) : Children → List ValOcc
    | .nil => []
    | .cons _ v _ rest => valOccs s typed e dfn v ++ itemOccs s typed e dfn rest
  def fieldOccs (s : Schema) (dfn : Option Definition) : Children → List ValOcc
    | .nil => []
    | .cons n v _ rest =>
      (match dfn.bind (fun d => if d.kind == .inputObject then Spec.inputFieldByName d n else none) with
       | some fd => valOccs s true (some fd.type) (s.type? fd.type.name) v
       | none => valOccs s false none none v) ++ fieldOccs s dfn rest
end

/-- the demanded link of a value occurrence as `linkscheck` compares it with the dump -/
def ValOcc.toExpLink (cands : Name → List String) (o : ValOcc) : Spec.ExpLink :=
  { start := o.v.pos.start, kind := "V",
    fields := if o.typed then [("def", Spec.optDefName o.dfn), ("exp", (o.exp.map fun t => bytesToString t.render).getD "-")] else [],
    varCands := if o.v.kind == .variable then some (cands o.v.raw) else none }

theorem ValOcc.toExpLink_mk (cands : Name → List String) (k : ValueKind) (raw : Bytes) (ch : Children) (p : Pos)
    (typed : Bool) (exp : Option GType) (dfn : Option Definition) :
    ValOcc.toExpLink cands ⟨.mk k raw ch p, typed, exp, dfn⟩ =
      { start := p.start, kind := "V",
        fields := if typed then [("def", Spec.optDefName dfn), ("exp", (exp.map fun t => bytesToString t.render).getD "-")] else [],
        varCands := if k == .variable then some (cands raw) else none } := rfl

mutual
  theorem valueLinks_eq (s : Schema) (cands : Name → List String) :
      ∀ (v : Value) (typed : Bool) (exp : Option GType) (dfn : Option Definition),
        Spec.valueLinks s cands typed exp dfn v = (valOccs s typed exp dfn v).map (ValOcc.toExpLink cands)
    | .mk k raw ch p, typed, exp, dfn => by
      have hi := fun t e d => itemLinks_eq s cands ch t e d
      have hf := fun d => fieldLinks_eq s cands ch d
      simp only [Spec.valueLinks, valOccs, List.map_cons, ValOcc.toExpLink_mk]
      congr 1
      cases k with
      | list =>
        cases exp with
        | none => simp only [hi]
        | some t =>
          cases t with
          | named _ _ _ => simp only [hi]
          | list _ _ _ => simp only [hi]
      | object => simp only [hf]
      | _ => simp only [List.map_nil]
  theorem itemLinks_eq (s : Schema) (cands : Name → List String) :
      ∀ (ch : Children) (typed : Bool) (e : Option GType) (dfn : Option Definition),
        Spec.itemLinks s cands typed e dfn ch = (itemOccs s typed e dfn ch).map (ValOcc.toExpLink cands)
    | .nil, _, _, _ => by simp [Spec.itemLinks, itemOccs]
    | .cons n v p rest, typed, e, dfn => by
      simp only [Spec.itemLinks, itemOccs, List.map_append, valueLinks_eq s cands v, itemLinks_eq s cands rest]
  theorem fieldLinks_eq (s : Schema) (cands : Name → List String) :
      ∀ (ch : Children) (dfn : Option Definition),
        Spec.fieldLinks s cands dfn ch = (fieldOccs s dfn ch).map (ValOcc.toExpLink cands)
    | .nil, _ => by simp [Spec.fieldLinks, fieldOccs]
    | .cons n v p rest, dfn => by
      simp only [Spec.fieldLinks, fieldOccs, List.map_append, fieldLinks_eq s cands rest]
      congr 1
      generalize (dfn.bind fun d => if d.kind == .inputObject then Spec.inputFieldByName d n else none) = o
      cases o <;> simp only [valueLinks_eq s cands v]
end

/-- the walker's `(exp, dfn)` against the specification's `(typed, exp0, dfn0)`: equal, or the
    specification demands nothing here and below -/
def Agree (typed : Bool) (exp0 : Option GType) (dfn0 : Option Definition) (exp : Option GType)
    (dfn : Option Definition) : Prop :=
  (exp = exp0 ∧ dfn = dfn0) ∨ (typed = false ∧ exp0 = none ∧ dfn0 = none)

theorem Agree.demanded {typed : Bool} {exp0 exp : Option GType} {dfn0 dfn : Option Definition}
    (h : Agree typed exp0 dfn0 exp dfn) (ht : typed = true) : exp = exp0 ∧ dfn = dfn0 := by
  rcases h with h | ⟨h, _⟩
  · exact h
  · rw [ht] at h
    cases h

theorem Agree.untyped (exp : Option GType) (dfn : Option Definition) : Agree false none none exp dfn :=
  Or.inr ⟨rfl, rfl, rfl⟩

theorem Agree.rfl' (typed : Bool) (exp : Option GType) (dfn : Option Definition) : Agree typed exp dfn exp dfn :=
  Or.inl ⟨rfl, rfl⟩

def EvOcc (cur : Option OperationDef) (e : Event) (o : ValOcc) : Prop :=
  e.cur = cur ∧ ∃ exp' dfn', e.p = .value o.v exp' dfn' ∧ Agree o.typed o.exp o.dfn exp' dfn'

/-- `(ExpectedType, Definition)` the walker assigns to the items of a list literal: `listChildLink` of `ValueWalk.lean`
    under a second name (`walkListChildren_cons` is stated with that one; the two unify by unfolding) -/
def listLk (exp : Option GType) (dfn : Option Definition) : Option GType × Option Definition :=
  match exp with
  | some (.list e _ _) => (some e, dfn)
  | _ => (none, none)

/-- the value nodes of an argument list in their declarative context (`Spec.argLinks` as data) -/
def argOccs (s : Schema) (defs : Option (List ArgDef)) (args : List Argument) : List ValOcc :=
  args.flatMap fun a =>
    match defs.bind (Spec.argDefByName · a.name) with
    | some ad => valOccs s true (some ad.type) (s.type? ad.type.name) a.value
    | none => valOccs s false none none a.value

theorem argLinks_eq (s : Schema) (cands : Name → List String) (defs : Option (List ArgDef)) (args : List Argument) :
    Spec.argLinks s cands defs args = (argOccs s defs args).map (ValOcc.toExpLink cands) := by
  unfold Spec.argLinks argOccs
  induction args with
  | nil => rfl
  | cons a rest ih =>
    simp only [List.flatMap_cons, List.map_append, ih]
    congr 1
    cases defs.bind (Spec.argDefByName · a.name) <;> simp only [valueLinks_eq]

/- what the walker hands to a child agrees with a context under which the specification lists
   that child -/

theorem list_ctx (s : Schema) {typed : Bool} {exp0 exp : Option GType} {dfn0 dfn : Option Definition}
    (h : Agree typed exp0 dfn0 exp dfn) (raw : Bytes) (ch : Children) (p : Pos) :
    ∃ t e0 d0, Agree t e0 d0 (listLk exp dfn).1 (listLk exp dfn).2 ∧
      valOccs s typed exp0 dfn0 (.mk .list raw ch p) = ⟨.mk .list raw ch p, typed, exp0, dfn0⟩ :: itemOccs s t e0 d0 ch := by
  rcases h with ⟨rfl, rfl⟩ | ⟨_, rfl, rfl⟩
  · cases exp with
    | none => exact ⟨_, _, _, Agree.untyped _ _, by simp only [valOccs]⟩
    | some t =>
      cases t with
      | named _ _ _ => exact ⟨_, _, _, Agree.untyped _ _, by simp only [valOccs]⟩
      | list e _ _ => exact ⟨true, some e, dfn, Agree.rfl' _ _ _, by simp only [valOccs]⟩
  · exact ⟨_, _, _, Agree.untyped _ _, by simp only [valOccs]⟩

theorem field_ctx (s : Schema) (n : Name) {dfn0 dfn : Option Definition} (h : dfn = dfn0 ∨ dfn0 = none)
    (v : Value) (p : Pos) (rest : Children) :
    ∃ t e0 d0, Agree t e0 d0 (objChildLink s.view dfn n).1 (objChildLink s.view dfn n).2 ∧
      fieldOccs s dfn0 (.cons n v p rest) = valOccs s t e0 d0 v ++ fieldOccs s dfn0 rest := by
  rw [fieldOccs]
  cases hfd : (dfn0.bind fun d => if d.kind == .inputObject then Spec.inputFieldByName d n else none) with
  | none => exact ⟨_, _, _, Agree.untyped _ _, rfl⟩
  | some fd =>
    refine ⟨_, _, _, ?_, rfl⟩
    cases dfn0 with
    | none => cases hfd
    | some d =>
      rcases h with rfl | h
      · rw [Option.bind_some] at hfd
        split at hfd
        · have hf : fieldForName d.fields n = some fd := hfd
          simp only [objChildLink, hf]
          exact Agree.rfl' _ _ _
        · cases hfd
      · cases h

theorem arg_ctx (s : Schema) (defs : Option (List ArgDef)) (a : Argument) (rest : List Argument) :
    ∃ t e0 d0, Agree t e0 d0 (argLink s.view defs a.name).1 (argLink s.view defs a.name).2 ∧
      argOccs s defs (a :: rest) = valOccs s t e0 d0 a.value ++ argOccs s defs rest := by
  rw [argOccs, List.flatMap_cons]
  cases h : defs.bind (Spec.argDefByName · a.name) with
  | none => exact ⟨_, _, _, Agree.untyped _ _, rfl⟩
  | some ad =>
    have h' : defs.bind (argDefForName · a.name) = some ad := h
    refine ⟨_, _, _, ?_, rfl⟩
    simp only [argLink, h']
    exact Agree.rfl' _ _ _

theorem Agree.dfn {typed : Bool} {exp0 exp : Option GType} {dfn0 dfn : Option Definition}
    (h : Agree typed exp0 dfn0 exp dfn) : dfn = dfn0 ∨ dfn0 = none :=
  h.elim (fun h => .inl h.2) (fun h => .inr h.2.2)

mutual
  theorem walkValue_occ_sound (s : Schema) (cur : Option OperationDef) :
      ∀ (v : Value) (typed : Bool) (exp0 : Option GType) (dfn0 : Option Definition) (exp : Option GType)
        (dfn : Option Definition) (ws : WS), Agree typed exp0 dfn0 exp dfn →
        ∀ e ∈ (walkValue s.view cur exp dfn v ws).2, ∃ o ∈ valOccs s typed exp0 dfn0 v, EvOcc cur e o
    | .mk k raw ch p, typed, exp0, dfn0, exp, dfn, ws, ha, e, he => by
      rw [walkValue_mk] at he
      rcases List.mem_append.1 he with he | he
      · cases k with
        | list =>
          obtain ⟨t, e0, d0, hag, hocc⟩ := list_ctx s ha raw ch p
          obtain ⟨o, ho, heo⟩ := walkListChildren_occ_sound s cur ch t e0 d0 exp dfn _ hag e he
          exact ⟨o, hocc ▸ List.mem_cons_of_mem _ ho, heo⟩
        | object =>
          obtain ⟨o, ho, heo⟩ := walkObjChildren_occ_sound s cur ch dfn0 dfn _ ha.dfn e he
          exact ⟨o, by simp only [valOccs]; exact List.mem_cons_of_mem _ ho, heo⟩
        | _ => cases he
      · rw [List.mem_singleton.1 he]
        exact ⟨_, by simp only [valOccs]; exact List.mem_cons_self, rfl, exp, dfn, rfl, ha⟩
  theorem walkObjChildren_occ_sound (s : Schema) (cur : Option OperationDef) :
      ∀ (ch : Children) (dfn0 dfn : Option Definition) (ws : WS), (dfn = dfn0 ∨ dfn0 = none) →
        ∀ e ∈ (walkObjChildren s.view cur dfn ch ws).2, ∃ o ∈ fieldOccs s dfn0 ch, EvOcc cur e o
    | .nil, _, _, _, _, e, he => by rw [walkObjChildren_nil] at he; cases he
    | .cons n v p rest, dfn0, dfn, ws, hd, e, he => by
      rw [walkObjChildren_cons] at he
      obtain ⟨t, e0, d0, hag, hocc⟩ := field_ctx s n hd v p rest
      rw [hocc]
      rcases List.mem_append.1 he with he | he
      · obtain ⟨o, ho, heo⟩ := walkValue_occ_sound s cur v _ _ _ _ _ _ hag e he
        exact ⟨o, List.mem_append_left _ ho, heo⟩
      · obtain ⟨o, ho, heo⟩ := walkObjChildren_occ_sound s cur rest dfn0 dfn _ hd e he
        exact ⟨o, List.mem_append_right _ ho, heo⟩
  theorem walkListChildren_occ_sound (s : Schema) (cur : Option OperationDef) :
      ∀ (ch : Children) (t : Bool) (e0 : Option GType) (d0 : Option Definition) (exp : Option GType)
        (dfn : Option Definition) (ws : WS), Agree t e0 d0 (listLk exp dfn).1 (listLk exp dfn).2 →
        ∀ e ∈ (walkListChildren s.view cur exp dfn ch ws).2, ∃ o ∈ itemOccs s t e0 d0 ch, EvOcc cur e o
    | .nil, _, _, _, _, _, _, _, e, he => by rw [walkListChildren_nil] at he; cases he
    | .cons n v p rest, t, e0, d0, exp, dfn, ws, hag, e, he => by
      rw [walkListChildren_cons] at he
      rw [itemOccs]
      rcases List.mem_append.1 he with he | he
      · obtain ⟨o, ho, heo⟩ := walkValue_occ_sound s cur v _ _ _ _ _ _ hag e he
        exact ⟨o, List.mem_append_left _ ho, heo⟩
      · obtain ⟨o, ho, heo⟩ := walkListChildren_occ_sound s cur rest t e0 d0 exp dfn _ hag e he
        exact ⟨o, List.mem_append_right _ ho, heo⟩
end

mutual
  theorem walkValue_occ_complete (s : Schema) (cur : Option OperationDef) :
      ∀ (v : Value) (typed : Bool) (exp0 : Option GType) (dfn0 : Option Definition) (exp : Option GType)
        (dfn : Option Definition) (ws : WS), Agree typed exp0 dfn0 exp dfn →
        ∀ o ∈ valOccs s typed exp0 dfn0 v, ∃ e ∈ (walkValue s.view cur exp dfn v ws).2, EvOcc cur e o
    | .mk k raw ch p, typed, exp0, dfn0, exp, dfn, ws, ha, o, ho => by
      rw [walkValue_mk]
      have hself : ∃ e ∈ (walkChildren s.view cur exp dfn k ch (varMark cur k raw p ws)).2 ++
          [⟨cur, (walkChildren s.view cur exp dfn k ch (varMark cur k raw p ws)).1.links, .value (.mk k raw ch p) exp dfn⟩],
          EvOcc cur e ⟨.mk k raw ch p, typed, exp0, dfn0⟩ :=
        ⟨_, List.mem_append_right _ (List.mem_singleton.2 rfl), rfl, exp, dfn, rfl, ha⟩
      cases k with
      | list =>
        obtain ⟨t, e0, d0, hag, hocc⟩ := list_ctx s ha raw ch p
        rw [hocc] at ho
        rcases List.mem_cons.1 ho with rfl | ho
        · exact hself
        · obtain ⟨e, he, heo⟩ := walkListChildren_occ_complete s cur ch t e0 d0 exp dfn _ hag o ho
          exact ⟨e, List.mem_append_left _ he, heo⟩
      | object =>
        simp only [valOccs] at ho
        rcases List.mem_cons.1 ho with rfl | ho
        · exact hself
        · obtain ⟨e, he, heo⟩ := walkObjChildren_occ_complete s cur ch dfn0 dfn _ ha.dfn o ho
          exact ⟨e, List.mem_append_left _ he, heo⟩
      | _ =>
        simp only [valOccs, List.mem_singleton] at ho
        rw [ho]
        exact hself
  theorem walkObjChildren_occ_complete (s : Schema) (cur : Option OperationDef) :
      ∀ (ch : Children) (dfn0 dfn : Option Definition) (ws : WS), (dfn = dfn0 ∨ dfn0 = none) →
        ∀ o ∈ fieldOccs s dfn0 ch, ∃ e ∈ (walkObjChildren s.view cur dfn ch ws).2, EvOcc cur e o
    | .nil, _, _, _, _, o, ho => by rw [fieldOccs] at ho; cases ho
    | .cons n v p rest, dfn0, dfn, ws, hd, o, ho => by
      rw [walkObjChildren_cons]
      obtain ⟨t, e0, d0, hag, hocc⟩ := field_ctx s n hd v p rest
      rw [hocc] at ho
      rcases List.mem_append.1 ho with ho | ho
      · obtain ⟨e, he, heo⟩ := walkValue_occ_complete s cur v _ _ _ _ _ ws hag o ho
        exact ⟨e, List.mem_append_left _ he, heo⟩
      · obtain ⟨e, he, heo⟩ := walkObjChildren_occ_complete s cur rest dfn0 dfn _ hd o ho
        exact ⟨e, List.mem_append_right _ he, heo⟩
  theorem walkListChildren_occ_complete (s : Schema) (cur : Option OperationDef) :
      ∀ (ch : Children) (t : Bool) (e0 : Option GType) (d0 : Option Definition) (exp : Option GType)
        (dfn : Option Definition) (ws : WS), Agree t e0 d0 (listLk exp dfn).1 (listLk exp dfn).2 →
        ∀ o ∈ itemOccs s t e0 d0 ch, ∃ e ∈ (walkListChildren s.view cur exp dfn ch ws).2, EvOcc cur e o
    | .nil, _, _, _, _, _, _, _, o, ho => by rw [itemOccs] at ho; cases ho
    | .cons n v p rest, t, e0, d0, exp, dfn, ws, hag, o, ho => by
      rw [walkListChildren_cons]
      rw [itemOccs] at ho
      rcases List.mem_append.1 ho with ho | ho
      · obtain ⟨e, he, heo⟩ := walkValue_occ_complete s cur v _ _ _ _ _ ws hag o ho
        exact ⟨e, List.mem_append_left _ he, heo⟩
      · obtain ⟨e, he, heo⟩ := walkListChildren_occ_complete s cur rest t e0 d0 exp dfn _ hag o ho
        exact ⟨e, List.mem_append_right _ he, heo⟩
end

theorem walkArgs_occ_sound (s : Schema) (cur : Option OperationDef) (defs : Option (List ArgDef)) :
    ∀ (args : List Argument) (ws : WS), ∀ e ∈ (walkArgs s.view cur defs args ws).2,
      ∃ o ∈ argOccs s defs args, EvOcc cur e o
  | [], _, e, he => nomatch he
  | a :: rest, ws, e, he => by
    rw [walkArgs_cons] at he
    obtain ⟨t, e0, d0, hag, hocc⟩ := arg_ctx s defs a rest
    rw [hocc]
    rcases List.mem_append.1 he with he | he
    · obtain ⟨o, ho, heo⟩ := walkValue_occ_sound s cur a.value _ _ _ _ _ _ hag e he
      exact ⟨o, List.mem_append_left _ ho, heo⟩
    · obtain ⟨o, ho, heo⟩ := walkArgs_occ_sound s cur defs rest _ e he
      exact ⟨o, List.mem_append_right _ ho, heo⟩

theorem walkArgs_occ_complete (s : Schema) (cur : Option OperationDef) (defs : Option (List ArgDef)) :
    ∀ (args : List Argument) (ws : WS), ∀ o ∈ argOccs s defs args,
      ∃ e ∈ (walkArgs s.view cur defs args ws).2, EvOcc cur e o
  | [], _, o, ho => nomatch ho
  | a :: rest, ws, o, ho => by
    rw [walkArgs_cons]
    obtain ⟨t, e0, d0, hag, hocc⟩ := arg_ctx s defs a rest
    rw [hocc] at ho
    rcases List.mem_append.1 ho with ho | ho
    · obtain ⟨e, he, heo⟩ := walkValue_occ_complete s cur a.value _ _ _ _ _ ws hag o ho
      exact ⟨e, List.mem_append_left _ he, heo⟩
    · obtain ⟨e, he, heo⟩ := walkArgs_occ_complete s cur defs rest _ o ho
      exact ⟨e, List.mem_append_right _ he, heo⟩

end Gql.Validate
