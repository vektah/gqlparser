import GqlProofs.ValSpec.ReachSpec
import GqlProofs.ValSpec.VarUses
/-
  C09, the `var=` part of the demands: every variable use of the document has an event that shows a
  definition among the candidates `Spec.valueLinks` allows for it — for a use written in an
  operation the definition of that name of that operation; for a use written in a fragment
  definition a definition of that name of an operation in whose scope the fragment lies (when no
  such operation declares the name, `linkscheck` does not judge the link).
-/
namespace Gql.Validate
open Gql

def Demand.MetUnder (evs : List Event) (op : OperationDef) (c0 : Name → List String) : Demand → Prop
  | .value c o => c = c0 ∧ ∃ e ∈ evs, e.cur = some op ∧ ∃ exp dfn, e.p = .value o.v exp dfn ∧
      (o.typed = true → exp = o.exp ∧ dfn = o.dfn)
  | _ => True

theorem EvOcc.under {op : OperationDef} {e : Event} {o : ValOcc} (h : EvOcc (some op) e o) :
    e.cur = some op ∧ ∃ exp dfn, e.p = .value o.v exp dfn ∧ (o.typed = true → exp = o.exp ∧ dfn = o.dfn) := by
  obtain ⟨hc, exp, dfn, hp, hag⟩ := h
  exact ⟨hc, exp, dfn, hp, fun ht => hag.demanded ht⟩

theorem OpReaches.mem {d : QueryDoc} {op : OperationDef} {f : FragmentDef} (h : OpReaches d op f) : f ∈ d.frags := by
  cases h with
  | direct nm f _ hf => exact fragForName_mem hf
  | step g nm f _ _ hf => exact fragForName_mem hf

section
variable (s : Schema) (d : QueryDoc) (evs : List Event) (hw : walkDoc s.view d = some evs)
  (op : OperationDef) (hop : op ∈ d.ops)
include hw hop

theorem argDemands_under (c0 : Name → List String) (defs : Option (List ArgDef)) (args : List Argument)
    (hc : OpArgCall s.view d op defs args) : ∀ dm ∈ argDemands s c0 defs args, dm.MetUnder evs op c0 := by
  intro dm hdm
  simp only [argDemands, List.mem_map] at hdm
  obtain ⟨o, ho, rfl⟩ := hdm
  obtain ⟨e, he, heo⟩ := walkDoc_scope_values s d evs hw op hop defs args hc o ho
  exact ⟨rfl, e, he, heo.under⟩

theorem dirDemands_under (c0 : Name → List String) (loc : Bytes) (ds : List Directive)
    (hc : ∀ dir ∈ ds, OpArgCall s.view d op ((s.directive? dir.name).map (·.args)) dir.args) :
    ∀ dm ∈ dirDemands s c0 loc ds, dm.MetUnder evs op c0 := by
  intro dm hdm
  simp only [dirDemands, List.mem_flatMap, List.mem_cons] at hdm
  obtain ⟨dir, hd, rfl | hdm⟩ := hdm
  · trivial
  · exact argDemands_under s d evs hw op hop c0 _ _ (hc dir hd) dm hdm

theorem nodeDemands_under (c0 : Name → List String) (t : Spec.TSel) (hwpt : Spec.nodeWellParented t = true)
    (hfield : ∀ al nm args dirs sub pos, t.sel = .field al nm args dirs sub pos →
      OpArgCall s.view d op ((wFieldDef t.parent nm).map (·.args)) args)
    (hdir : ∀ dir ∈ Spec.selDirs t.sel, OpArgCall s.view d op ((s.directive? dir.name).map (·.args)) dir.args) :
    ∀ dm ∈ nodeDemands s c0 t, dm.MetUnder evs op c0 := by
  intro dm hdm
  obtain ⟨par, sel⟩ := t
  cases sel with
  | field al nm args dirs sub p =>
    simp only [nodeDemands, List.mem_cons, List.mem_append] at hdm
    rcases hdm with rfl | hdm | hdm
    · trivial
    · have := hfield al nm args dirs sub p rfl
      rw [wFieldDef_eq par al nm args dirs sub p hwpt] at this
      exact argDemands_under s d evs hw op hop c0 _ _ this dm hdm
    · exact dirDemands_under s d evs hw op hop c0 _ _ hdir dm hdm
  | spread nm dirs p =>
    simp only [nodeDemands, List.mem_cons] at hdm
    rcases hdm with rfl | hdm
    · trivial
    · exact dirDemands_under s d evs hw op hop c0 _ _ hdir dm hdm
  | inline tc dirs sub p =>
    simp only [nodeDemands, List.mem_cons] at hdm
    rcases hdm with rfl | hdm
    · trivial
    · exact dirDemands_under s d evs hw op hop c0 _ _ hdir dm hdm

theorem defaultDemands_under (c0 : Name → List String) (v : VarDef) (hv : v ∈ op.vars) :
    ∀ dm ∈ defaultDemands s c0 v, dm.MetUnder evs op c0 := by
  intro dm hdm
  unfold defaultDemands at hdm
  cases hdv : v.default with
  | none => rw [hdv] at hdm; cases hdm
  | some dv =>
    rw [hdv] at hdm
    simp only at hdm
    obtain ⟨ws, hsub⟩ := ((walkDoc_reach s.view d evs hw).1 op hop).defaults v hv dv hdv
    have hall : ∀ o ∈ valOccs s true (some v.type) (s.type? v.type.name) dv, ∃ e ∈ evs, EvOcc (some op) e o := by
      intro o ho
      obtain ⟨e, he, heo⟩ := walkValue_occ_complete s (some op) dv true _ _ _ _ ws (Agree.rfl' _ _ _) o ho
      exact ⟨e, hsub e he, heo⟩
    cases hocc : valOccs s true (some v.type) (s.type? v.type.name) dv with
    | nil => rw [hocc] at hdm; cases hdm
    | cons top rest =>
      rw [hocc] at hdm hall
      simp only [List.mem_cons, List.mem_map] at hdm
      rcases hdm with rfl | ⟨o, ho, rfl⟩
      · obtain ⟨e, he, heo⟩ := hall top List.mem_cons_self
        obtain ⟨hc, exp, dfn, hp, _⟩ := heo.under
        exact ⟨rfl, e, he, hc, exp, dfn, hp, fun h => by cases h⟩
      · obtain ⟨e, he, heo⟩ := hall o (List.mem_cons_of_mem _ ho)
        exact ⟨rfl, e, he, heo.under⟩

variable (hwp : Spec.wellParented s d = true)
include hwp

theorem opDemands_under : ∀ dm ∈ opDemands s d op, dm.MetUnder evs op (Spec.varCandidates [op]) := by
  have hwp' := wellParented_docSels hwp
  intro dm hdm
  simp only [opDemands, List.mem_append, List.mem_flatMap, List.mem_cons] at hdm
  rcases hdm with (⟨v, hv, rfl | hdm | hdm⟩ | hdm) | ⟨t, ht, hdm⟩
  · trivial
  · exact defaultDemands_under s d evs hw op hop _ v hv dm hdm
  · exact dirDemands_under s d evs hw op hop _ _ _ (fun dir hd => OpArgCall.varDir v dir hv hd) dm hdm
  · exact dirDemands_under s d evs hw op hop _ _ _ (fun dir hd => OpArgCall.opDir dir hd) dm hdm
  · have hall : ∀ t' ∈ Spec.typedSels s (Spec.rootDef s op.op) op.sel, Spec.nodeWellParented t' = true :=
      fun t' ht' => hwp' t' (by
        simp only [Spec.docSels, List.mem_append, List.mem_flatMap]
        exact Or.inl ⟨op, hop, ht'⟩)
    have hin : InSelsW s.view (opRoot s.view op.op).1 op.sel t.parent t.sel := by
      rw [opRoot_def]
      exact (inSelsW_iff s op.sel _ hall t.parent t.sel).2 ht
    refine nodeDemands_under s d evs hw op hop _ t (hall t ht) (fun al nm args dirs sub pos hs => ?_)
      (fun dir hd => OpArgCall.ownNodeDir _ _ dir hin hd) dm hdm
    rw [hs] at hin
    exact OpArgCall.ownField _ al nm args dirs sub pos hin

theorem fragDemands_under (f : FragmentDef) (hr : OpReaches d op f) :
    ∀ dm ∈ fragDemands s d f, dm.MetUnder evs op (Spec.varCandidates (fragOps d f)) := by
  have hwp' := wellParented_docSels hwp
  have hf := hr.mem
  intro dm hdm
  simp only [fragDemands, List.mem_cons, List.mem_append, List.mem_flatMap] at hdm
  rcases hdm with rfl | hdm | ⟨t, ht, hdm⟩
  · trivial
  · exact dirDemands_under s d evs hw op hop _ _ _ (fun dir hd => OpArgCall.fragDir f dir hr hd) dm hdm
  · have hall : ∀ t' ∈ Spec.typedSels s (s.type? f.typeCond) f.sel, Spec.nodeWellParented t' = true :=
      fun t' ht' => hwp' t' (by
        simp only [Spec.docSels, List.mem_append, List.mem_flatMap]
        exact Or.inr ⟨f, hf, ht'⟩)
    have hin : InSelsW s.view (s.view.type? f.typeCond) f.sel t.parent t.sel :=
      (inSelsW_iff s f.sel _ hall t.parent t.sel).2 ht
    refine nodeDemands_under s d evs hw op hop _ t (hall t ht) (fun al nm args dirs sub pos hs => ?_)
      (fun dir hd => OpArgCall.fragNodeDir f _ _ dir hr hin hd) dm hdm
    rw [hs] at hin
    exact OpArgCall.fragField f _ al nm args dirs sub pos hr hin

end

/-- how the link dump prints `Value.VariableDefinition` -/
def varText : Option VarDef → String
  | none => "-"
  | some vd => bytesToString vd.var ++ "@" ++ toString vd.pos.start

theorem varCandidates_mem (ops : List OperationDef) (op : OperationDef) (hop : op ∈ ops) (raw : Name) (vd : VarDef)
    (h : Spec.varDefByName op raw = some vd) : varText (some vd) ∈ Spec.varCandidates ops raw := by
  simp only [Spec.varCandidates, List.mem_filterMap]
  exact ⟨op, hop, by rw [h]; rfl⟩

theorem varCandidates_nil (ops : List OperationDef) (raw : Name) (h : ∀ op ∈ ops, Spec.varDefByName op raw = none) :
    Spec.varCandidates ops raw = [] := by
  simp only [Spec.varCandidates, List.filterMap_eq_nil_iff]
  intro op hop
  rw [h op hop]
  rfl

theorem argDemands_cands {s : Schema} {c c' : Name → List String} {defs : Option (List ArgDef)} {args : List Argument}
    {o : ValOcc} (h : Demand.value c' o ∈ argDemands s c defs args) : c' = c := by
  obtain ⟨_, _, h⟩ := List.mem_map.1 h
  cases h
  rfl

theorem dirDemands_cands {s : Schema} {c c' : Name → List String} {loc : Bytes} {ds : List Directive} {o : ValOcc}
    (h : Demand.value c' o ∈ dirDemands s c loc ds) : c' = c := by
  obtain ⟨dir, _, h⟩ := List.mem_flatMap.1 h
  rcases List.mem_cons.1 h with h | h
  · cases h
  · exact argDemands_cands h

theorem nodeDemands_cands {s : Schema} {c c' : Name → List String} {t : Spec.TSel} {o : ValOcc}
    (h : Demand.value c' o ∈ nodeDemands s c t) : c' = c := by
  obtain ⟨par, sel⟩ := t
  cases sel <;> simp only [nodeDemands, List.mem_cons, List.mem_append, reduceCtorEq, false_or] at h
  · exact h.elim argDemands_cands dirDemands_cands
  · exact dirDemands_cands h
  · exact dirDemands_cands h

theorem docDemands_var_met (s : Schema) (d : QueryDoc) (evs : List Event) (hw : walkDoc s.view d = some evs)
    (hwp : Spec.wellParented s d = true) (hpos : FragPosDistinct d) :
    ∀ dm ∈ docDemands s d, ∀ cands o raw ch p, dm = .value cands o → o.v = .mk .variable raw ch p →
      cands raw = [] ∨ ∃ e ∈ evs, (∃ exp dfn, e.p = .value o.v exp dfn ∧ (o.typed = true → exp = o.exp ∧ dfn = o.dfn)) ∧
        varText (e.links.varDef p.start) ∈ cands raw := by
  intro dm hdm cands o raw ch p hdmeq hv
  obtain ⟨l, ht⟩ := walkDoc_trace s.view d evs hw
  have hown : ∀ (op : OperationDef) (e : Event), e ∈ evs → e.cur = some op →
      (∃ exp dfn, e.p = .value o.v exp dfn ∧ (o.typed = true → exp = o.exp ∧ dfn = o.dfn)) →
      e.links.varDef p.start = Spec.varDefByName op raw := by
    intro op e he hc ⟨exp, dfn, hp, _⟩
    obtain ⟨pre, post, hsplit⟩ := List.append_of_mem he
    rw [hsplit] at ht
    rw [hv] at hp
    exact trace_own pre e post ht op raw ch p exp dfn hc hp
  simp only [docDemands, List.mem_append, List.mem_flatMap] at hdm
  rcases hdm with ⟨op, hop, hdm⟩ | ⟨f, hf, hdm⟩
  · have := opDemands_under s d evs hw op hop hwp dm hdm
    rw [hdmeq] at this
    obtain ⟨hc0, e, he, hc, hx⟩ := this
    subst hc0
    cases hvd : Spec.varDefByName op raw with
    | none =>
      left
      apply varCandidates_nil
      intro op' hop'
      rw [List.mem_singleton.1 hop']
      exact hvd
    | some vd =>
      right
      refine ⟨e, he, hx, ?_⟩
      rw [hown op e he hc hx, hvd]
      exact varCandidates_mem [op] op List.mem_cons_self raw vd hvd
  · by_cases hall : ∀ op ∈ fragOps d f, Spec.varDefByName op raw = none
    · left
      have : cands = Spec.varCandidates (fragOps d f) := by
        subst hdmeq
        simp only [fragDemands, List.mem_cons, List.mem_append, List.mem_flatMap, reduceCtorEq, false_or] at hdm
        rcases hdm with h | ⟨t, _, h⟩
        · exact dirDemands_cands h
        · exact nodeDemands_cands h
      rw [this]
      exact varCandidates_nil _ raw hall
    · right
      have hex : ∃ op ∈ fragOps d f, ∃ vd, Spec.varDefByName op raw = some vd := by
        apply Classical.byContradiction
        intro hne
        apply hall
        intro op hop
        cases hvd : Spec.varDefByName op raw with
        | none => rfl
        | some vd => exact absurd ⟨op, hop, vd, hvd⟩ hne
      obtain ⟨op, hopf, vd, hvd⟩ := hex
      obtain ⟨hop, hr⟩ := fragOps_reaches d hpos f hf op hopf
      have := fragDemands_under s d evs hw op hop hwp f hr dm hdm
      rw [hdmeq] at this
      obtain ⟨hc0, e, he, hc, hx⟩ := this
      subst hc0
      refine ⟨e, he, hx, ?_⟩
      rw [hown op e he hc hx, hvd]
      exact varCandidates_mem _ op hopf raw vd hvd

end Gql.Validate
