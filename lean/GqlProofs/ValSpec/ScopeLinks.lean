import GqlProofs.ValSpec.ScopeComplete
import GqlProofs.ValSpec.UsedVars
import GqlProofs.ValSpec.LeafFrag
/-
  The link side table at an `operation` event: every selection node written in the operation or in
  a fragment definition reachable from it has been marked as linked (`FragmentSpread.Definition`
  is set), so the rules that follow spreads from an operation (SingleFieldSubscriptions) see
  `Document.Fragments.ForName(name)` for every spread they can meet.
-/
namespace Gql.Validate
open Gql

def OpMarked (s : SV) (d : QueryDoc) (e : Event) : Prop :=
  ∀ op used, e.p = .operation op used →
    ∀ p' y, NodeScope s d (Spec.spreadsOfSels op.sel) (InSelsW s (opRoot s op.op).1 op.sel) p' y →
      e.links.linked (selPos y).start = true

theorem walkDoc_opMarked (s : SV) (d : QueryDoc) (evs : List Event) (h : walkDoc s d = some evs) :
    AllE (OpMarked s d) evs := by
  refine walkDoc_forall (fun o _ l r hr e he op used hp p' y hi => ?_) (fun f _ l r hr e he op used hp => ?_) h
  · obtain ⟨_, hop, _⟩ := walkOperation_used s d _ o l r hr
    obtain ⟨rfl, hl, _⟩ := hop e he op used hp
    rw [hl]
    exact ((walkOperation_scope_complete s d _ op l r hr).nodes p' y hi).2.1
  · obtain ⟨pre, hpre, hr'⟩ := walkFragment_split (inner_selSites s d) hr
    rw [hr'] at he
    rcases List.mem_append.1 he with he | he
    · have := hpre e he
      rw [hp] at this
      exact this.elim
    · rw [List.mem_singleton.1 he] at hp
      cases hp

theorem walkDoc_operation_linked (s : SV) (d : QueryDoc) (evs : List Event) (h : walkDoc s d = some evs) :
    ∀ e ∈ evs, ∀ op used, e.p = .operation op used →
      (∀ y, InSels op.sel (.sel y) → e.links.linked (selPos y).start = true) ∧
      (∀ n f, Reach d (Spec.spreadsOfSels op.sel) n → fragForName d n = some f →
         ∀ y, InSels f.sel (.sel y) → e.links.linked (selPos y).start = true) := by
  intro e he op used hp
  have hm := walkDoc_opMarked s d evs h e he op used hp
  constructor
  · intro y hy
    obtain ⟨p', hw⟩ := inSels_lift s op.sel (opRoot s op.op).1 y hy
    exact hm p' y (Or.inl hw)
  · intro n f hr hf y hy
    obtain ⟨p', hw⟩ := inSels_lift s f.sel (s.type? f.typeCond) y hy
    exact hm p' y (Or.inr ⟨n, f, hr, hf, hw⟩)

theorem walkDoc_operation_spreadDef (s : SV) (d : QueryDoc) (evs : List Event) (h : walkDoc s d = some evs) :
    ∀ e ∈ evs, ∀ op used, e.p = .operation op used →
      (∀ nm dirs p, InSels op.sel (.sel (.spread nm dirs p)) → e.links.spreadDef d nm p = fragForName d nm) ∧
      (∀ n f, Reach d (Spec.spreadsOfSels op.sel) n → fragForName d n = some f →
         ∀ nm dirs p, InSels f.sel (.sel (.spread nm dirs p)) → e.links.spreadDef d nm p = fragForName d nm) := by
  intro e he op used hp
  obtain ⟨h1, h2⟩ := walkDoc_operation_linked s d evs h e he op used hp
  constructor
  · intro nm dirs p hy
    have := h1 _ hy
    simp only [selPos] at this
    simp [Links.spreadDef, this]
  · intro n f hr hf nm dirs p hy
    have := h2 n f hr hf _ hy
    simp only [selPos] at this
    simp [Links.spreadDef, this]

end Gql.Validate
