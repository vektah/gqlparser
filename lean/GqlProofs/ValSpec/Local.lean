import GqlProofs.ValSpec.Sequence
import GqlModel.Validate.Spec.Valid
/-
  List-level lemmas that connect the duplicate detectors of the rule models with the
  specification's `distinct`.
-/
namespace Gql.Validate
open Gql Gql.Validate.Rules

theorem distinct_iff_nodup : ∀ xs : List Name, Spec.distinct xs = true ↔ xs.Nodup
  | [] => by simp [Spec.distinct]
  | x :: xs => by simp [Spec.distinct, distinct_iff_nodup xs]

def freshFrom (seen : List Name) : List Name → Prop
  | [] => True
  | x :: xs => x ∉ seen ∧ freshFrom (x :: seen) xs

theorem freshFrom_iff : ∀ (xs seen : List Name), freshFrom seen xs ↔ (∀ x ∈ xs, x ∉ seen) ∧ xs.Nodup
  | [], seen => by simp [freshFrom]
  | x :: xs, seen => by
    simp only [freshFrom, freshFrom_iff xs (x :: seen), List.mem_cons, List.nodup_cons, not_or, forall_eq_or_imp]
    constructor
    · rintro ⟨h1, h2, h3⟩
      exact ⟨⟨h1, fun y hy => (h2 y hy).2⟩, fun hx => (h2 x hx).1 rfl, h3⟩
    · rintro ⟨⟨h1, h2⟩, h3, h4⟩
      exact ⟨h1, fun y hy => ⟨fun e => h3 (e ▸ hy), h2 y hy⟩, h4⟩

theorem freshFrom_nil (xs : List Name) : freshFrom [] xs ↔ xs.Nodup := by
  rw [freshFrom_iff]
  simp

theorem dupVars_nil_iff : ∀ (vs : List VarDef) (seen : List Name), seen.Nodup →
    (dupVars vs seen = [] ↔ freshFrom seen (vs.map (·.var)))
  | [], seen, _ => by simp [dupVars, freshFrom]
  | v :: rest, seen, hn => by
    simp only [dupVars, List.map_cons, freshFrom, List.append_eq_nil_iff, hn.count]
    by_cases hm : v.var ∈ seen
    · simp [hm]
    · simp [hm, dupVars_nil_iff rest (v.var :: seen) (List.nodup_cons.2 ⟨hm, hn⟩)]

theorem checkUniqueArgs_nil_iff : ∀ (as : List Argument) (seen : List Name), seen.Nodup →
    (checkUniqueArgs as seen = [] ↔ freshFrom seen (as.map (·.name)))
  | [], seen, _ => by simp [checkUniqueArgs, freshFrom]
  | a :: rest, seen, hn => by
    simp only [checkUniqueArgs, List.map_cons, freshFrom, List.append_eq_nil_iff, hn.count]
    by_cases hm : a.name ∈ seen
    · simp [hm]
    · simp [hm, checkUniqueArgs_nil_iff rest (a.name :: seen) (List.nodup_cons.2 ⟨hm, hn⟩)]

theorem dupInputFields_nil_iff : ∀ (ch : Children) (seen : List Name),
    (dupInputFields ch seen = [] ↔ freshFrom seen (Spec.childNames ch))
  | .nil, seen => by simp [dupInputFields, Spec.childNames, freshFrom]
  | .cons n v p rest, seen => by
    simp only [dupInputFields, Spec.childNames, freshFrom, List.append_eq_nil_iff]
    by_cases hm : n ∈ seen
    · simp [hm]
    · simp [hm, dupInputFields_nil_iff rest (n :: seen)]

end Gql.Validate
