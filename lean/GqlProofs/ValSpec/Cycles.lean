import GqlProofs.ValSpec.ReachClosure
import GqlProofs.ValSpec.Local
/-
  NoFragmentCycles (§5.5.2.2): the rule's depth-first search with a global visited set (keyed by fragment NAME,
  recursion through `fragForName`, the FIRST definition of a name) reports nothing iff no defined name reaches itself
  through one or more spreads (`Acyclic`: `validate_noFragmentCycles`).  With unique fragment names this is
  `Spec.noFragmentCycles` (`noFragmentCycles_iff`).  White / grey / black argument: grey = the names in `index` (the
  fragments on the current search path), black = visited and not grey.  Soundness of errors (`cycLevel_sound`): every
  grey name reaches the fragment being scanned, so a spread whose name is grey closes a cycle.  Completeness
  (`cycLevel_inv`): while no error is reported, `CycInv` holds: every black name has all its DEFINED successors black
  and lies on no cycle.
-/
namespace Gql.Validate
open Gql Gql.Validate.Rules

theorem spreadsOf_names (n : Name) : ∀ ss : Selections,
    (∃ node ∈ spreadsOf ss, node.name = n) ↔ n ∈ Spec.spreadsOfSels ss
  | .nil => by simp [spreadsOf, directSpreads, nestedSpreads, Spec.spreadsOfSels]
  | .cons (.field _ _ _ _ sub _) rest => by
    have ih1 := spreadsOf_names n rest
    have ih2 := spreadsOf_names n sub
    rw [spreadsOf] at ih1 ih2 ⊢
    simp only [directSpreads, nestedSpreads, Spec.spreadsOfSels, Spec.spreadsOfSel, List.mem_append] at ih1 ih2 ⊢
    rw [← ih1, ← ih2, spreadsOf]
    simp only [List.mem_append]
    grind
  | .cons (.inline _ _ sub _) rest => by
    have ih1 := spreadsOf_names n rest
    have ih2 := spreadsOf_names n sub
    rw [spreadsOf] at ih1 ih2 ⊢
    simp only [directSpreads, nestedSpreads, Spec.spreadsOfSels, Spec.spreadsOfSel, List.mem_append] at ih1 ih2 ⊢
    rw [← ih1, ← ih2, spreadsOf]
    simp only [List.mem_append]
    grind
  | .cons (.spread nm ds p) rest => by
    have ih1 := spreadsOf_names n rest
    rw [spreadsOf] at ih1 ⊢
    simp only [directSpreads, nestedSpreads, Spec.spreadsOfSels, Spec.spreadsOfSel, List.mem_append, List.mem_cons,
      List.cons_append, List.nil_append] at ih1 ⊢
    rw [← ih1]
    grind

/-- the grey names: the keys of `spreadPathIndexByName`, the fragments on the current search path -/
def gnames (index : List (Name × Nat)) : List Name := index.map Prod.fst

theorem lookup_none_iff (index : List (Name × Nat)) (n : Name) : index.lookup n = none ↔ n ∉ gnames index := by
  rw [List.lookup_eq_none_iff]
  simp only [gnames, List.mem_map, not_exists, not_and, bne_iff_ne, ne_eq]
  constructor
  · intro h p hp e
    exact h p hp e.symm
  · intro h p hp e
    exact h p hp e.symm

/-- the empty-list shortcut of `cycLevel` is what the loop does anyway -/
theorem cycLevel_succ (d : QueryDoc) (n : Nat) (frag : FragmentDef) (path : List SpreadNode)
    (index : List (Name × Nat)) (st : CycState) :
    cycLevel d (n + 1) frag path index st =
      if st.visited.contains frag.name then some st
      else cycLoop d (cycLevel d n) path ((frag.name, path.length) :: index) (spreadsOf frag.sel)
        { st with visited := frag.name :: st.visited } := by
  simp only [cycLevel]
  split
  · rfl
  · cases h : spreadsOf frag.sel with
    | nil => simp [cycLoop]
    | cons a b => simp

def RecErrs (R : CycRec) : Prop :=
  ∀ frag path index (st r : CycState), R frag path index st = some r → r.errs = [] → st.errs = []

theorem cycLoop_errs (d : QueryDoc) (R : CycRec) (hR : RecErrs R) (path : List SpreadNode) (index : List (Name × Nat)) :
    ∀ (nodes : List SpreadNode) (st r : CycState), cycLoop d R path index nodes st = some r → r.errs = [] → st.errs = []
  | [], st, r, h, he => by
    simp only [cycLoop] at h
    injection h with h
    subst h
    exact he
  | node :: rest, st, r, h, he => by
    unfold cycLoop at h
    split at h
    · split at h
      · split at h
        · cases h
        · rename_i st' h1
          exact hR _ _ _ _ _ h1 (cycLoop_errs d R hR path index rest st' r h he)
      · exact cycLoop_errs d R hR path index rest st r h he
    · have := cycLoop_errs d R hR path index rest _ r h he
      simp at this

theorem cycLevel_errs (d : QueryDoc) : ∀ n, RecErrs (cycLevel d n)
  | 0 => by intro _ _ _ _ _ h; simp [cycLevel] at h
  | n + 1 => by
    intro frag path index st r h he
    rw [cycLevel_succ] at h
    split at h
    · injection h with h
      subst h
      exact he
    · have := cycLoop_errs d _ (cycLevel_errs d n) _ _ _ _ r h he
      exact this

theorem cycLoop_grey_errs (d : QueryDoc) (R : CycRec) (hR : RecErrs R) (path : List SpreadNode) (index : List (Name × Nat)) :
    ∀ (nodes : List SpreadNode) (st r : CycState), cycLoop d R path index nodes st = some r → r.errs = [] →
      ∀ node ∈ nodes, node.name ∉ gnames index
  | [], _, _, _, _, _, hm => by cases hm
  | node :: rest, st, r, h, he, x, hx => by
    unfold cycLoop at h
    split at h
    · rename_i hl
      have hrest : ∀ y ∈ rest, y.name ∉ gnames index := by
        split at h
        · split at h
          · cases h
          · exact cycLoop_grey_errs d R hR path index rest _ r h he
        · exact cycLoop_grey_errs d R hR path index rest _ r h he
      rcases List.mem_cons.1 hx with rfl | hx
      · exact (lookup_none_iff _ _).1 hl
      · exact hrest x hx
    · have := cycLoop_errs d R hR path index rest _ r h he
      simp at this

def CycInv (d : QueryDoc) (V G : List Name) : Prop :=
  ∀ m ∈ V, m ∉ G →
    (∀ n ∈ Spec.fragSpreads d m, (fragForName d n).isSome = true → n ∈ V ∧ n ∉ G) ∧
      ¬ Reach d (Spec.fragSpreads d m) m

theorem CycInv.closed {d : QueryDoc} {V G : List Name} (h : CycInv d V G) {m : Name} (hm : m ∈ V) (hg : m ∉ G)
    {x : Name} (hr : Reach d (Spec.fragSpreads d m) x) (hx : (fragForName d x).isSome = true) : x ∈ V ∧ x ∉ G := by
  induction hr with
  | base hn => exact (h m hm hg).1 _ hn hx
  | step _ hn ih =>
    obtain ⟨f, hf, _⟩ := fragSpreads_defined hn
    have hb := ih (by simp [hf])
    exact (h _ hb.1 hb.2).1 _ hn hx

def RecInv (d : QueryDoc) (R : CycRec) : Prop :=
  ∀ frag path index (st r : CycState), fragForName d frag.name = some frag → frag.name ∉ gnames index →
    R frag path index st = some r → r.errs = [] → CycInv d st.visited (gnames index) →
      st.visited ⊆ r.visited ∧ frag.name ∈ r.visited ∧ CycInv d r.visited (gnames index)

theorem cycLoop_inv (d : QueryDoc) (R : CycRec) (hE : RecErrs R) (hR : RecInv d R) (path : List SpreadNode)
    (index : List (Name × Nat)) :
    ∀ (nodes : List SpreadNode) (st r : CycState), cycLoop d R path index nodes st = some r → r.errs = [] →
      CycInv d st.visited (gnames index) →
        st.visited ⊆ r.visited ∧ CycInv d r.visited (gnames index) ∧
          ∀ node ∈ nodes, (fragForName d node.name).isSome = true → node.name ∈ r.visited ∧ node.name ∉ gnames index
  | [], st, r, h, _, hinv => by
    simp only [cycLoop] at h
    injection h with h
    subst h
    exact ⟨fun _ hx => hx, hinv, fun _ hm => by cases hm⟩
  | node :: rest, st, r, h, he, hinv => by
    have hgrey := cycLoop_grey_errs d R hE path index (node :: rest) st r h he
    unfold cycLoop at h
    split at h
    · split at h
      · rename_i f hf
        split at h
        · cases h
        · rename_i st' h1
          have he' := cycLoop_errs d R hE path index rest st' r h he
          have hname := fragForName_name hf
          have hng : f.name ∉ gnames index := by rw [hname]; exact hgrey node List.mem_cons_self
          obtain ⟨s1, m1, i1⟩ := hR f _ index st st' (by rw [hname]; exact hf) hng h1 he' hinv
          obtain ⟨s2, i2, n2⟩ := cycLoop_inv d R hE hR path index rest st' r h he i1
          refine ⟨fun a ha => s2 (s1 ha), i2, ?_⟩
          intro x hx hdef
          rcases List.mem_cons.1 hx with rfl | hx
          · exact ⟨s2 (hname ▸ m1), hgrey _ List.mem_cons_self⟩
          · exact n2 x hx hdef
      · rename_i hf
        obtain ⟨s2, i2, n2⟩ := cycLoop_inv d R hE hR path index rest st r h he hinv
        refine ⟨s2, i2, ?_⟩
        intro x hx hdef
        rcases List.mem_cons.1 hx with rfl | hx
        · rw [hf] at hdef
          cases hdef
        · exact n2 x hx hdef
    · have := cycLoop_errs d R hE path index rest _ r h he
      simp at this

theorem cycLevel_inv (d : QueryDoc) : ∀ n, RecInv d (cycLevel d n)
  | 0 => by intro _ _ _ _ _ _ _ h; simp [cycLevel] at h
  | n + 1 => by
    intro frag path index st r hcan hng h he hinv
    rw [cycLevel_succ] at h
    split at h
    · rename_i hc
      injection h with h
      subst h
      exact ⟨fun _ hx => hx, by simpa using hc, hinv⟩
    · rename_i hc
      have hcV : frag.name ∉ st.visited := by simpa using hc
      have hfs := fragSpreads_of_forName hcan
      -- the invariant with the fragment grey
      have hinv1 : CycInv d (frag.name :: st.visited) (gnames ((frag.name, path.length) :: index)) := by
        intro m hm hg
        simp only [gnames, List.map_cons, List.mem_cons, not_or] at hg
        rcases List.mem_cons.1 hm with rfl | hm
        · exact absurd rfl hg.1
        · have := hinv m hm hg.2
          refine ⟨fun x hx hdef => ?_, this.2⟩
          have hb := this.1 x hx hdef
          refine ⟨List.mem_cons_of_mem _ hb.1, ?_⟩
          simp only [gnames, List.map_cons, List.mem_cons, not_or]
          exact ⟨fun e => hcV (e ▸ hb.1), hb.2⟩
      have hloop := cycLoop_inv d _ (cycLevel_errs d n) (cycLevel_inv d n) path _ _ _ r h he hinv1
      obtain ⟨s1, i1, n1⟩ := hloop
      have hcr : frag.name ∈ r.visited := s1 List.mem_cons_self
      have hcg : frag.name ∈ gnames ((frag.name, path.length) :: index) := by simp [gnames]
      have hsub : ∀ x, x ∉ gnames ((frag.name, path.length) :: index) → x ∉ gnames index := by
        intro x hx hxi
        apply hx
        simp only [gnames, List.map_cons, List.mem_cons]
        exact Or.inr hxi
      -- the successors of the fragment are black
      have hsucc : ∀ x ∈ Spec.fragSpreads d frag.name, (fragForName d x).isSome = true →
          x ∈ r.visited ∧ x ∉ gnames ((frag.name, path.length) :: index) := by
        intro x hx hdef
        rw [hfs] at hx
        obtain ⟨node, hnode, rfl⟩ := (spreadsOf_names x frag.sel).2 hx
        exact n1 node hnode hdef
      -- hence everything defined that it reaches
      have hreach : ∀ x, Reach d (Spec.fragSpreads d frag.name) x → ∀ g, fragForName d x = some g →
          x ∈ r.visited ∧ x ∉ gnames ((frag.name, path.length) :: index) :=
        Reach.closed (fun x hx g hg => hsucc x hx (by simp [hg])) fun m f _ hb hf x hx g hg =>
          (i1 m hb.1 hb.2).1 x (fragSpreads_of_forName hf ▸ hx) (by simp [hg])
      refine ⟨fun a ha => s1 (List.mem_cons_of_mem _ ha), hcr, ?_⟩
      intro m hm hg
      by_cases hmc : m = frag.name
      · subst hmc
        refine ⟨fun x hx hdef => ?_, ?_⟩
        · have := hsucc x hx hdef
          exact ⟨this.1, hsub _ this.2⟩
        · intro hcyc
          exact (hreach _ hcyc frag hcan).2 hcg
      · have hg' : m ∉ gnames ((frag.name, path.length) :: index) := by
          simp only [gnames, List.map_cons, List.mem_cons, not_or]
          exact ⟨hmc, hg⟩
        have := i1 m hm hg'
        refine ⟨fun x hx hdef => ?_, this.2⟩
        have hb := this.1 x hx hdef
        exact ⟨hb.1, hsub _ hb.2⟩

def Acyclic (d : QueryDoc) : Prop := ∀ m, ¬ Reach d (Spec.fragSpreads d m) m

def ReachRefl (d : QueryDoc) (g x : Name) : Prop := g = x ∨ Reach d (Spec.fragSpreads d g) x

theorem ReachRefl.step {d : QueryDoc} {g c x : Name} (h : ReachRefl d g c) (hx : x ∈ Spec.fragSpreads d c) :
    Reach d (Spec.fragSpreads d g) x := by
  rcases h with rfl | h
  · exact Reach.base hx
  · exact Reach.step h hx

def RecSound (d : QueryDoc) (R : CycRec) : Prop :=
  ∀ frag path index (st r : CycState), fragForName d frag.name = some frag →
    (∀ g ∈ gnames index, ReachRefl d g frag.name) → R frag path index st = some r → r.errs = st.errs

theorem cycLoop_sound (d : QueryDoc) (hac : Acyclic d) (R : CycRec) (hR : RecSound d R) (path : List SpreadNode)
    (index : List (Name × Nat)) (c : Name) (hG : ∀ g ∈ gnames index, ReachRefl d g c) :
    ∀ (nodes : List SpreadNode) (st r : CycState), (∀ node ∈ nodes, node.name ∈ Spec.fragSpreads d c) →
      cycLoop d R path index nodes st = some r → r.errs = st.errs
  | [], st, r, _, h => by
    simp only [cycLoop] at h
    injection h with h
    subst h
    rfl
  | node :: rest, st, r, hn, h => by
    have hnode := hn node List.mem_cons_self
    have hrest : ∀ x ∈ rest, x.name ∈ Spec.fragSpreads d c := fun x hx => hn x (List.mem_cons_of_mem _ hx)
    unfold cycLoop at h
    split at h
    · split at h
      · rename_i f hf
        split at h
        · cases h
        · rename_i st' h1
          have hname := fragForName_name hf
          have e1 := hR f _ index st st' (by rw [hname]; exact hf)
            (fun g hg => by rw [hname]; exact Or.inr ((hG g hg).step hnode)) h1
          have e2 := cycLoop_sound d hac R hR path index c hG rest st' r hrest h
          rw [e2, e1]
      · exact cycLoop_sound d hac R hR path index c hG rest st r hrest h
    · rename_i ci hl
      have hg : node.name ∈ gnames index := by
        apply Classical.byContradiction
        intro hng
        rw [(lookup_none_iff _ _).2 hng] at hl
        cases hl
      exact absurd ((hG _ hg).step hnode) (hac _)

theorem cycLevel_sound (d : QueryDoc) (hac : Acyclic d) : ∀ n, RecSound d (cycLevel d n)
  | 0 => by intro _ _ _ _ _ _ _ h; simp [cycLevel] at h
  | n + 1 => by
    intro frag path index st r hcan hG h
    rw [cycLevel_succ] at h
    split at h
    · injection h with h
      subst h
      rfl
    · have hfs := fragSpreads_of_forName hcan
      have := cycLoop_sound d hac _ (cycLevel_sound d hac n) path ((frag.name, path.length) :: index) frag.name
        (by
          intro g hg
          simp only [gnames, List.map_cons, List.mem_cons] at hg
          rcases hg with rfl | hg
          · exact Or.inl rfl
          · exact hG g hg)
        (spreadsOf frag.sel) _ r
        (by
          intro node hnode
          rw [hfs]
          exact (spreadsOf_names node.name frag.sel).1 ⟨node, hnode, rfl⟩)
        h
      exact this

theorem fragForName_first {d : QueryDoc} {pre rest : List FragmentDef} {f : FragmentDef}
    (hd : d.frags = pre ++ f :: rest) (h : ∀ g ∈ pre, g.name ≠ f.name) : fragForName d f.name = some f := by
  unfold fragForName
  rw [hd, List.find?_append]
  have : pre.find? (fun x => x.name == f.name) = none := by
    rw [List.find?_eq_none]
    intro g hg
    simpa using h g hg
  rw [this]
  simp

/-- the run of the rule's step function from the visited set `V` (`pre`: the fragment definitions
    whose events are already behind): it is silent on a document without cycles, and when it is
    silent it ends with every fragment name black -/
theorem noFragmentCycles_silent (sv : SV) (d : QueryDoc) (name : Bytes) (init : List Name) :
    ∀ (es : List Event) (V : List Name) (pre : List FragmentDef),
      d.frags = pre ++ fragDefEvents es → (∀ g ∈ pre, g.name ∈ V) →
      (Acyclic d →
        runAll sv d [⟨{ name := name, σ := List Name, init := init, step := noFragmentCyclesStep }, V⟩] es = .ok []) ∧
      (runAll sv d [⟨{ name := name, σ := List Name, init := init, step := noFragmentCyclesStep }, V⟩] es = .ok [] →
        CycInv d V [] → ∃ V', CycInv d V' [] ∧ ∀ g ∈ d.frags, g.name ∈ V')
  | [], V, pre, hd, hpre => by
    refine ⟨fun _ => rfl, fun _ hinv => ⟨V, hinv, fun g hg => hpre g ?_⟩⟩
    simpa [hd, fragDefEvents] using hg
  | e :: rest, V, pre, hd, hpre => by
    cases hf : fragOf e.p with
    | none =>
      have hst : noFragmentCyclesStep sv d V e = .ok V [] := by
        unfold noFragmentCyclesStep
        split
        · rename_i hp
          simp [fragOf, hp] at hf
        · rfl
      rw [runAll_single_nil_cons hst]
      simp only [true_and]
      exact noFragmentCycles_silent sv d name init rest V pre (by simpa [fragDefEvents, hf] using hd) hpre
    | some f =>
      have hd' : d.frags = pre ++ f :: fragDefEvents rest := by
        rw [hd]
        simp only [fragDefEvents, List.filterMap_cons, hf]
      obtain ⟨st, hcyc, hsub⟩ := cycLevel_ok d (d.frags.length + 2) f [] [] { visited := V, errs := [] }
        (by rw [hd']; simp) (by have := unvisited_le_length d V; simp only; omega)
      have hst : noFragmentCyclesStep sv d V e = .ok st.visited st.errs := by
        unfold noFragmentCyclesStep
        unfold fragOf at hf
        split at hf
        · rename_i heq
          injection hf with hf
          subst hf
          simp only [heq, hcyc]
        · cases hf
      have hstep : f.name ∈ st.visited ∧ (Acyclic d → st.errs = []) ∧
          (st.errs = [] → CycInv d V [] → CycInv d st.visited []) := by
        by_cases hc : f.name ∈ V
        · rw [cycLevel_succ] at hcyc
          simp only [List.contains_iff_mem, hc, if_true] at hcyc
          injection hcyc with hcyc
          subst hcyc
          exact ⟨hc, fun _ => rfl, fun _ h => h⟩
        · have hcan : fragForName d f.name = some f :=
            fragForName_first hd' fun g hg e => hc (e ▸ hpre g hg)
          have hinv := cycLevel_inv d _ f [] [] _ st hcan (by simp [gnames]) hcyc
          refine ⟨?_, fun hac => ?_, fun he hi => (hinv he hi).2.2⟩
          · rw [cycLevel_succ] at hcyc
            simp only [List.contains_iff_mem, hc, if_false] at hcyc
            obtain ⟨r, hr, hm⟩ := cycLoop_ok d (cycLevel d (d.frags.length + 1)) (d.frags.length + 1) (cycLevel_ok d _) []
              [(f.name, ([] : List SpreadNode).length)] (spreadsOf f.sel) { visited := f.name :: V, errs := [] }
              (by have := unvisited_le_length d (f.name :: V); simp only; omega)
            rw [hcyc] at hr
            injection hr with hr
            subst hr
            exact hm List.mem_cons_self
          · exact cycLevel_sound d hac _ f [] [] _ st hcan (by intro g hg; simp [gnames] at hg) hcyc
      obtain ⟨hsound, hcomp⟩ := noFragmentCycles_silent sv d name init rest st.visited (pre ++ [f]) (by rw [hd']; simp)
        (by
          intro g hg
          rcases List.mem_append.1 hg with hg | hg
          · exact hsub (hpre g hg)
          · rw [List.mem_singleton.1 hg]
            exact hstep.1)
      rw [runAll_single_nil_cons hst]
      exact ⟨fun hac => ⟨hstep.2.1 hac, hsound hac⟩, fun ⟨he, hs⟩ hinv => hcomp hs (hstep.2.2 he hinv)⟩

/-- the rule, run alone, reports nothing iff no defined fragment name lies on a spread cycle
    (no hypothesis on the document) -/
theorem validate_noFragmentCycles (s : Schema) (d : QueryDoc) :
    validate [noFragmentCycles] s d = .ok [] ↔ Acyclic d := by
  obtain ⟨evs, hw⟩ := walkDoc_isSome s.view d
  refine (validate_single_nil_iff _ s d evs hw).trans ?_
  obtain ⟨hsound, hcomp⟩ := noFragmentCycles_silent s.view d noFragmentCycles.name [] evs [] []
    (by rw [(walkDoc_events s.view d evs hw).2]; rfl) (fun g hg => by cases hg)
  refine ⟨fun hrun m hcyc => ?_, hsound⟩
  obtain ⟨V', hinv, hall⟩ := hcomp hrun (fun m hm => by cases hm)
  obtain ⟨f, hf⟩ := reach_fragSpreads_defined hcyc
  have hV := hall f (fragForName_mem hf)
  rw [fragForName_name hf] at hV
  exact (hinv m hV (by simp)).2 hcyc

/-- `Acyclic` as a Boolean: the specification's closure started from the spreads of the FIRST
    definition of every defined name -/
def acyclicB (d : QueryDoc) : Bool :=
  d.frags.all fun f => !(Spec.reachFrom d (Spec.fragSpreads d f.name)).contains f.name

theorem acyclic_iff (d : QueryDoc) : Acyclic d ↔ acyclicB d = true := by
  unfold acyclicB
  rw [List.all_eq_true]
  constructor
  · intro h f _
    cases hc : (Spec.reachFrom d (Spec.fragSpreads d f.name)).contains f.name with
    | false => rfl
    | true => exact absurd ((reachFrom_contains_iff d _ _).1 hc) (h f.name)
  · intro h m hcyc
    obtain ⟨f, hf⟩ := reach_fragSpreads_defined hcyc
    have := h f (fragForName_mem hf)
    rw [fragForName_name hf, (reachFrom_contains_iff d _ _).2 hcyc] at this
    cases this

theorem acyclic_of_spec (d : QueryDoc) (h : Spec.noFragmentCycles d = true) : Acyclic d := by
  intro m hcyc
  obtain ⟨f, hf⟩ := reach_fragSpreads_defined hcyc
  unfold Spec.noFragmentCycles at h
  have := List.all_eq_true.1 h f (fragForName_mem hf)
  rw [fragSpreads_of_forName hf] at hcyc
  rw [fragForName_name hf, (reachFrom_contains_iff d _ _).2 hcyc] at this
  cases this

theorem spec_of_acyclic (d : QueryDoc) (hu : Spec.fragmentNameUniqueness d = true) (h : Acyclic d) :
    Spec.noFragmentCycles d = true := by
  unfold Spec.noFragmentCycles
  rw [List.all_eq_true]
  intro f hf
  cases hc : (Spec.reachFrom d (Spec.spreadsOfSels f.sel)).contains f.name with
  | false => rfl
  | true =>
    have := (reachFrom_contains_iff d _ _).1 hc
    rw [← fragSpreads_of_forName (fragForName_of_nodup ((distinct_iff_nodup _).1 hu) hf)] at this
    exact absurd this (h f.name)

theorem noFragmentCycles_silent_of_spec (s : Schema) (d : QueryDoc) (h : Spec.noFragmentCycles d = true) :
    validate [noFragmentCycles] s d = .ok [] :=
  (validate_noFragmentCycles s d).2 (acyclic_of_spec d h)

theorem noFragmentCycles_iff (s : Schema) (d : QueryDoc) (hu : Spec.fragmentNameUniqueness d = true) :
    validate [noFragmentCycles] s d = .ok [] ↔ Spec.noFragmentCycles d = true := by
  rw [validate_noFragmentCycles]
  exact ⟨spec_of_acyclic d hu, acyclic_of_spec d⟩

namespace CycWitness
def fld (n : String) : Selection := .field [] (str n) [] [] .nil Pos.zero
def spr (n : String) : Selection := .spread (str n) [] Pos.zero
def frag (n : String) (x : Selection) : FragmentDef :=
  { name := str n, vars := [], typeCond := str "T", dirs := [], sel := .cons x .nil, pos := Pos.zero }
/-- `fragment A on T { x }  fragment A on T { ...B }  fragment B on T { ...A }` -/
def docDup : QueryDoc := { ops := [], frags := [frag "A" (fld "x"), frag "A" (spr "B"), frag "B" (spr "A")] }
/-- `fragment A on T { ...B }  fragment B on T { x }` -/
def docOk : QueryDoc := { ops := [], frags := [frag "A" (spr "B"), frag "B" (fld "x")] }
/-- `fragment A on T { ...B }  fragment B on T { ...A }` -/
def docCyc : QueryDoc := { ops := [], frags := [frag "A" (spr "B"), frag "B" (spr "A")] }
end CycWitness

/-- the hypothesis `fragmentNameUniqueness` is needed: with a second definition of `A` the rule
    explores only the first one (the visited set is keyed by name, recursion goes through the first
    definition) and stays silent, while the second `A` and `B` spread each other -/
theorem noFragmentCycles_needs_unique :
    validate [noFragmentCycles] Schema.empty CycWitness.docDup = .ok [] ∧
      Spec.noFragmentCycles CycWitness.docDup = false ∧
      Spec.fragmentNameUniqueness CycWitness.docDup = false := by
  refine ⟨?_, by decide, by decide⟩
  rw [validate_noFragmentCycles, acyclic_iff]
  decide

/-- the hypothesis is satisfiable, on an accepted and on a rejected document -/
example : Spec.fragmentNameUniqueness CycWitness.docOk = true ∧ Spec.noFragmentCycles CycWitness.docOk = true := by decide
example : Spec.fragmentNameUniqueness CycWitness.docCyc = true ∧ Spec.noFragmentCycles CycWitness.docCyc = false := by decide
example : validate [noFragmentCycles] Schema.empty CycWitness.docCyc ≠ .ok [] := by
  rw [Ne, noFragmentCycles_iff _ _ (by decide)]
  decide

end Gql.Validate
