import GqlProofs.ValSpec.ValuesCorrect
import GqlProofs.Validate.Witness
/-
  ValuesOfCorrectType: kernel-checked examples — the hypotheses of `C08_ValuesOfCorrectType_partial`
  are satisfiable, and for each one an input on which the equivalence fails without it; the
  hazards of the comparison, each confirmed on a concrete input.
-/
namespace Gql.Validate.ValuesEx
open Gql Gql.Validate Gql.Validate.Rules Gql.Validate.Witness

def mkDef (k : DefKind) (n : String) (fields : List FieldDef := []) (evs : List String := []) (dirs : List Directive := []) :
    Definition :=
  { kind := k, desc := [], name := str n, dirs := dirs, interfaces := [], fields := fields, types := [],
    enumValues := evs.map fun v => { desc := [], name := str v, dirs := [], pos := Pos.zero },
    pos := Pos.zero, builtIn := false }

def fld (n : String) (t : GType) (args : List ArgDef := []) : FieldDef :=
  { desc := [], name := str n, args := args, default := none, type := t, dirs := [], pos := Pos.zero }

def tList (e : GType) (nn : Bool := false) : GType := .list e nn Pos.zero

/-- `type Query { f(a: <t>): Int }` plus the built-in scalars and `extra` -/
def schemaWith (t : GType) (extra : List (Name × Definition)) (qkind : DefKind := .object) : Schema :=
  { Schema.empty with
    query := some (str "Query"),
    types := [(str "Int", scalar "Int"), (str "Float", scalar "Float"), (str "String", scalar "String"),
              (str "Boolean", scalar "Boolean"), (str "ID", scalar "ID"),
              (str "Query", mkDef qkind "Query"
                [fld "f" (tNamed "Int") [{ desc := [], name := str "a", default := none, type := t, dirs := [], pos := Pos.zero }]])]
             ++ extra }

/-- `{ f(a: <v>) }` -/
def docArg (v : Value) : QueryDoc :=
  { ops := [{ op := str "query", name := [], vars := [], dirs := [],
              sel := .cons (.field (str "f") (str "f") [{ name := str "a", value := v, pos := at' 4 }] [] .nil (at' 2)) .nil,
              pos := at' 0 }],
    frags := [] }

/-- `query($x: <t> = <dv>) { f }` -/
def docVar (t : GType) (dv : Value) : QueryDoc :=
  { ops := [{ op := str "query", name := [],
              vars := [{ var := str "x", type := t, default := some dv, dirs := [], pos := at' 6 }], dirs := [],
              sel := .cons (.field (str "f") (str "f") [] [] .nil (at' 30)) .nil, pos := at' 0 }],
    frags := [] }

def lit (k : ValueKind) (raw : String) (o : Nat := 10) : Value := .mk k (str raw) .nil (at' o)
def obj (fields : List (String × Value)) (o : Nat := 8) : Value :=
  .mk .object [] (Children.ofList (fields.map fun (n, v) => (str n, v, v.pos))) (at' o)
def lst (items : List Value) (o : Nat := 8) : Value :=
  .mk .list [] (Children.ofList (items.map fun v => ([], v, v.pos))) (at' o)

def hyps (s : Schema) (d : QueryDoc) : Bool :=
  Spec.wellParented s d && schemaOK s && noOneOf s && rootsInput s d && numLiteralsOK s d && leavesWellFormed s d

def ruleSilent (s : Schema) (d : QueryDoc) : Bool := validate [valuesOfCorrectType] s d == .ok []

/-- `input I { x: [Int!]!, e: E, s: S }  enum E { A B }  scalar S` -/
def richExtra : List (Name × Definition) :=
  [(str "I", mkDef .inputObject "I" [fld "x" (tList (tNamed "Int" true) true), fld "e" (tNamed "E"), fld "s" (tNamed "S")]),
   (str "E", mkDef .enum "E" [] ["A", "B"]),
   (str "S", mkDef .scalar "S")]

/-- `{ f(a: {x: [1, 2], e: A, s: {any: [thing]}}) }` : accepted by both -/
example :
    let s := schemaWith (tNamed "I") richExtra
    let d := docArg (obj [("x", lst [lit .int "1" 12, lit .int "2" 14] 11), ("e", lit .enum "A" 20),
      ("s", obj [("any", lst [lit .enum "thing" 30] 29)] 25)])
    hyps s d = true ∧ ruleSilent s d = true ∧ Spec.valuesOfCorrectType s d = true := by decide +kernel

/-- `{ f(a: {x: [1, null], e: C}) }` : rejected by both -/
example :
    let s := schemaWith (tNamed "I") richExtra
    let d := docArg (obj [("x", lst [lit .int "1" 12, lit .null "null" 14] 11), ("e", lit .enum "C" 20)])
    hyps s d = true ∧ ruleSilent s d = false ∧ Spec.valuesOfCorrectType s d = false := by decide +kernel

/-- `Spec.wellParented`: a union that declares a field (not a loaded schema) as the query root;
    `{ f(a: "x") }` with `a: Int`.  The walker finds `f` on the union and types the argument, the
    specification gives a union no fields. -/
example :
    let s := schemaWith (tNamed "Int") [] .union
    let d := docArg (lit .string "x")
    Spec.wellParented s d = false ∧
    (schemaOK s && noOneOf s && rootsInput s d && numLiteralsOK s d && leavesWellFormed s d) = true ∧
    ruleSilent s d = false ∧ Spec.valuesOfCorrectType s d = true := by decide +kernel

/-- `schemaOK`, first clause: an enum whose definition is NAMED `Int` (stored under the key `E`);
    `{ f(a: 1) }` with `a: E`.  The rule dispatches on the name (`defOneOf`), the specification on the kind. -/
example :
    let s := schemaWith (tNamed "E") [(str "E", mkDef .enum "Int" [] ["A"])]
    let d := docArg (lit .int "1")
    schemaOK s = false ∧
    (Spec.wellParented s d && noOneOf s && rootsInput s d && numLiteralsOK s d && leavesWellFormed s d) = true ∧
    ruleSilent s d = true ∧ Spec.valuesOfCorrectType s d = false := by decide +kernel

/-- `schemaOK`, second clause: a custom scalar that declares a field `x: Int!` (not a loaded schema);
    `{ f(a: {x: null}) }` with `a: S`.  The walker types the child from `dfn.fields` whatever the kind of `dfn`. -/
example :
    let s := schemaWith (tNamed "S") [(str "S", mkDef .scalar "S" [fld "x" (tNamed "Int" true)])]
    let d := docArg (obj [("x", lit .null "null" 12)])
    schemaOK s = false ∧
    (Spec.wellParented s d && noOneOf s && rootsInput s d && numLiteralsOK s d && leavesWellFormed s d) = true ∧
    ruleSilent s d = false ∧ Spec.valuesOfCorrectType s d = true := by decide +kernel

/-- `schemaOK`, third clause: an input object with a field of an OBJECT type (not a closed schema),
    `input I { q: Query }`; `{ f(a: {q: {}}) }`.  The rule rejects an object literal at any definition that is not an
    input object; for the specification only scalars, enums and input objects are judged. -/
example :
    let s := schemaWith (tNamed "I") [(str "I", mkDef .inputObject "I" [fld "q" (tNamed "Query")])]
    let d := docArg (obj [("q", obj [] 12)])
    schemaOK s = false ∧
    (Spec.wellParented s d && noOneOf s && rootsInput s d && numLiteralsOK s d && leavesWellFormed s d) = true ∧
    ruleSilent s d = false ∧ Spec.valuesOfCorrectType s d = true := by decide +kernel

/-- `noOneOf` (for the statement with `Spec.valuesOfCorrectType` alone): `input One @oneOf { a: String }`,
    `query($x: String = "d") { f(a: {a: $x}) }`: the rule reports the nullable variable; that clause is
    `Spec.oneOfVariablesNonNull`, not `Spec.valuesOfCorrectType`. -/
def docOneOfVar : QueryDoc :=
  { ops := [{ op := str "query", name := [],
              vars := [{ var := str "x", type := tNamed "String", default := some (lit .string "d" 20), dirs := [], pos := at' 6 }],
              dirs := [],
              sel := .cons (.field (str "f") (str "f")
                [{ name := str "a", value := obj [("a", lit .variable "x" 40)] 36, pos := at' 33 }] [] .nil (at' 30)) .nil,
              pos := at' 0 }],
    frags := [] }

example :
    let s := schemaWith (tNamed "One") [(str "One", Witness.oneDef)]
    let d := docOneOfVar
    noOneOf s = false ∧
    (Spec.wellParented s d && schemaOK s && rootsInput s d && numLiteralsOK s d && leavesWellFormed s d) = true ∧
    ruleSilent s d = false ∧ Spec.valuesOfCorrectType s d = true ∧ Spec.oneOfVariablesNonNull s d = false := by decide +kernel

/-- `rootsInput`: the type of a variable does not exist, `query($x: [Unknown!] = [null]) { f }`.
    The walker gives the default value no `Definition` (the rule needs one: silent); `Spec.valueOk`
    descends into a list literal at a list type and judges `null` against the non-null item type
    without asking whether the named type exists. -/
example :
    let s := schemaWith (tNamed "Int") []
    let d := docVar (tList (tNamed "Unknown" true)) (lst [lit .null "null" 20] 19)
    rootsInput s d = false ∧
    (Spec.wellParented s d && schemaOK s && noOneOf s && numLiteralsOK s d && leavesWellFormed s d) = true ∧
    ruleSilent s d = true ∧ Spec.valuesOfCorrectType s d = false ∧ Spec.variablesAreInputTypes s d = false := by decide +kernel

/-- … the same for `query($x: Unknown! = null) { f }` -/
example :
    let s := schemaWith (tNamed "Int") []
    let d := docVar (tNamed "Unknown" true) (lit .null "null" 20)
    rootsInput s d = false ∧ ruleSilent s d = true ∧ Spec.valuesOfCorrectType s d = false := by decide +kernel

/-- `rootsInput`: a variable of an OBJECT type with a default, `query($x: Query = {}) { f }`.
    The rule judges the default (an object literal where no input object is expected), the specification does not. -/
example :
    let s := schemaWith (tNamed "Int") []
    let d := docVar (tNamed "Query") (obj [] 20)
    rootsInput s d = false ∧
    (Spec.wellParented s d && schemaOK s && noOneOf s && numLiteralsOK s d && leavesWellFormed s d) = true ∧
    ruleSilent s d = false ∧ Spec.valuesOfCorrectType s d = true ∧ Spec.variablesAreInputTypes s d = false := by decide +kernel

/-- `numLiteralsOK`: an "Int literal" whose text is not an IntValue lexeme, `1x` (no lexer produces it), at `a: Int`:
    the two arithmetic readings differ (a syntax error for `strconv.ParseInt`, a number in range for `Spec.intLitValue`). -/
example :
    let s := schemaWith (tNamed "Int") []
    let d := docArg (lit .int "1x")
    numLiteralsOK s d = false ∧ ruleSilent s d = false ∧ Spec.valuesOfCorrectType s d = true := by decide +kernel

/-- `leavesWellFormed`: a "Boolean literal" whose text `strconv.ParseBool` does not know, `yes` (no parser
    produces it): `Value.Value(nil)` fails, the specification only looks at the kind. -/
example :
    let s := schemaWith (tNamed "Boolean") []
    let d := docArg (lit .boolean "yes")
    leavesWellFormed s d = false ∧
    (Spec.wellParented s d && schemaOK s && noOneOf s && rootsInput s d && numLiteralsOK s d) = true ∧
    ruleSilent s d = false ∧ Spec.valuesOfCorrectType s d = true := by decide +kernel

/-- … and through a variable: `query($x: Boolean = yes) { f(a: $x) }` with `a: Boolean` — the event of `$x`
    evaluates the default value of the linked definition. -/
example :
    let s := schemaWith (tNamed "Boolean") []
    let d : QueryDoc :=
      { ops := [{ op := str "query", name := [],
                  vars := [{ var := str "x", type := tNamed "Boolean", default := some (lit .boolean "yes" 20), dirs := [], pos := at' 6 }],
                  dirs := [],
                  sel := .cons (.field (str "f") (str "f") [{ name := str "a", value := lit .variable "x" 36, pos := at' 33 }] [] .nil (at' 30)) .nil,
                  pos := at' 0 }],
        frags := [] }
    leavesWellFormed s d = false ∧ ruleSilent s d = false ∧ Spec.valuesOfCorrectType s d = true := by decide +kernel

/-- `numLiteralsOK` on parser-produced input: an IntValue that is too large for a finite double, `1` followed by 309
    zeros, at `a: Float`.  The rule applies the finite-double test of FloatValue literals (`strconv.ParseFloat`, error or
    ±Inf) to the integer text as well ("an integer literal given for a Float is a finite double too"), as the specification
    does (§3.5.2): rejected by both.  All hypotheses hold (the numeric one is a theorem for IntValue lexemes). -/
def bigInt : Value := .mk .int (49 :: List.replicate 309 48) .nil (at' 10)

example :
    let s := schemaWith (tNamed "Float") []
    let d := docArg bigInt
    hyps s d = true ∧ ruleSilent s d = false ∧ Spec.valuesOfCorrectType s d = false := by decide +kernel

/-- the boundary: `2^1024 - 2^970 - 1` (309 digits; the largest integer that still rounds to the largest finite
    double) is accepted by both, `2^1024 - 2^970` (rounds to +Inf) is rejected by both -/
def natDigits (n : Nat) : Bytes := (Nat.toDigits 10 n).map Char.toNat
def lastFinite : Value := .mk .int (natDigits (2 ^ 1024 - 2 ^ 970 - 1)) .nil (at' 10)
def firstInfinite : Value := .mk .int (natDigits (2 ^ 1024 - 2 ^ 970)) .nil (at' 10)

example :
    let s := schemaWith (tNamed "Float") []
    (hyps s (docArg lastFinite) = true ∧ ruleSilent s (docArg lastFinite) = true ∧
      Spec.valuesOfCorrectType s (docArg lastFinite) = true) ∧
    (hyps s (docArg firstInfinite) = true ∧ ruleSilent s (docArg firstInfinite) = false ∧
      Spec.valuesOfCorrectType s (docArg firstInfinite) = false) := by decide +kernel

/-- … whereas the FloatValue `1e309` is rejected by both (`floatErr`) -/
example :
    let s := schemaWith (tNamed "Float") []
    let d := docArg (lit .float "1e309")
    hyps s d = true ∧ ruleSilent s d = false ∧ Spec.valuesOfCorrectType s d = false := by decide +kernel

/-- a list literal where a named type is expected — rejected by both, unless the type is a custom scalar -/
example :
    let d := docArg (lst [lit .int "1" 12])
    (hyps (schemaWith (tNamed "Int") []) d = true ∧ ruleSilent (schemaWith (tNamed "Int") []) d = false ∧
      Spec.valuesOfCorrectType (schemaWith (tNamed "Int") []) d = false) ∧
    (let s := schemaWith (tNamed "S") [(str "S", mkDef .scalar "S")]
     hyps s d = true ∧ ruleSilent s d = true ∧ Spec.valuesOfCorrectType s d = true) := by decide +kernel

/-- list coercion of a single value (§3.11), `a: [[Int!]]`: `1` accepted, `"x"` and `null`-in-a-list judged
    against the innermost named type / the item type by both -/
example :
    let s := schemaWith (tList (tList (tNamed "Int" true))) []
    (hyps s (docArg (lit .int "1")) = true ∧ ruleSilent s (docArg (lit .int "1")) = true ∧
      Spec.valuesOfCorrectType s (docArg (lit .int "1")) = true) ∧
    (ruleSilent s (docArg (lit .string "x")) = false ∧ Spec.valuesOfCorrectType s (docArg (lit .string "x")) = false) ∧
    (ruleSilent s (docArg (lst [lst [lit .null "null" 14] 12])) = false ∧
      Spec.valuesOfCorrectType s (docArg (lst [lst [lit .null "null" 14] 12])) = false) ∧
    (ruleSilent s (docArg (lst [lit .null "null" 14])) = true ∧
      Spec.valuesOfCorrectType s (docArg (lst [lit .null "null" 14])) = true) := by decide +kernel

/-- required and unknown input fields, `input I { x: Int!  y: Int }`: `{}` and `{x: 1, z: 2}` rejected by both -/
example :
    let s := schemaWith (tNamed "I") [(str "I", mkDef .inputObject "I" [fld "x" (tNamed "Int" true), fld "y" (tNamed "Int")])]
    (hyps s (docArg (obj [])) = true ∧ ruleSilent s (docArg (obj [])) = false ∧ Spec.valuesOfCorrectType s (docArg (obj [])) = false) ∧
    (ruleSilent s (docArg (obj [("x", lit .int "1" 12), ("z", lit .int "2" 16)])) = false ∧
      Spec.valuesOfCorrectType s (docArg (obj [("x", lit .int "1" 12), ("z", lit .int "2" 16)])) = false) ∧
    (ruleSilent s (docArg (obj [("x", lit .int "1" 12)])) = true ∧
      Spec.valuesOfCorrectType s (docArg (obj [("x", lit .int "1" 12)])) = true) := by decide +kernel

/-- `input One @oneOf { a: String }`: `{}`, `{a: null}` rejected by the rule and by `Spec.oneOfOk`;
    the equivalence WITH `@oneOf` in the schema is `valuesOfCorrectType_iff_oneOfVar` (link-table form). -/
example :
    let s := schemaWith (tNamed "One") [(str "One", Witness.oneDef)]
    (ruleSilent s (docArg (obj [])) = false ∧ Spec.valuesOfCorrectType s (docArg (obj [])) = false) ∧
    (ruleSilent s (docArg (obj [("a", lit .null "null" 12)])) = false ∧
      Spec.valuesOfCorrectType s (docArg (obj [("a", lit .null "null" 12)])) = false) ∧
    (ruleSilent s (docArg (obj [("a", lit .string "x" 12)])) = true ∧
      Spec.valuesOfCorrectType s (docArg (obj [("a", lit .string "x" 12)])) = true) := by decide +kernel

end Gql.Validate.ValuesEx
