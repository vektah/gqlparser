import GqlProofs.ValSpec.Coverage
import GqlProofs.ValSpec.ReachClosure
import GqlModel.Validate.Spec.Introspection
/-
  MaxIntrospectionDepth (library-specific depth limit), the search.  `Deep d node k`: having passed `k` list fields, some
  path below the node (through sub-selections, inline fragments and DEFINED fragment spreads; no cut, no memo, no link
  table) reaches the limit of 3 list fields.  The model's search answers `true` only if `Deep` (`check*_sound`, no
  hypothesis) and `false` only if `¬ Deep` (`check*_complete`: acyclic document, every spread reachable from the node
  linked, memo invariant `ClOK`); on an acyclic document the specification's search decides `Deep` (`specDeep_iff`).
-/
namespace Gql.Validate
open Gql Gql.Validate.Rules

inductive DNode
  | one (x : Selection)
  | many (xs : Selections)

def DNode.spreads : DNode → List Name
  | .one x => Spec.spreadsOfSel x
  | .many xs => Spec.spreadsOfSels xs

def DNode.Has : DNode → Selection → Prop
  | .one x, y => InSel x (.sel y)
  | .many xs, y => InSels xs (.sel y)

inductive Deep (d : QueryDoc) : DNode → Nat → Prop
  | hit (al nm : Name) (args : List Argument) (dirs : List Directive) (sub : Selections) (p : Pos) (k : Nat) :
      isListField nm = true → k + 1 ≥ maxListsDepth → Deep d (.one (.field al nm args dirs sub p)) k
  | sub (al nm : Name) (args : List Argument) (dirs : List Directive) (sub : Selections) (p : Pos) (k : Nat) :
      Deep d (.many sub) (if isListField nm then k + 1 else k) → Deep d (.one (.field al nm args dirs sub p)) k
  | spread (nm : Name) (dirs : List Directive) (p : Pos) (f : FragmentDef) (k : Nat) :
      fragForName d nm = some f → Deep d (.many f.sel) k → Deep d (.one (.spread nm dirs p)) k
  | inline (tc : Name) (dirs : List Directive) (sub : Selections) (p : Pos) (k : Nat) :
      Deep d (.many sub) k → Deep d (.one (.inline tc dirs sub p)) k
  | head (x : Selection) (rest : Selections) (k : Nat) : Deep d (.one x) k → Deep d (.many (.cons x rest)) k
  | tail (x : Selection) (rest : Selections) (k : Nat) : Deep d (.many rest) k → Deep d (.many (.cons x rest)) k

theorem Deep.mono {d : QueryDoc} {node : DNode} {k : Nat} (h : Deep d node k) : ∀ k', k ≤ k' → Deep d node k' := by
  induction h with
  | hit al nm args dirs sub p k hl hk =>
    intro k' hle
    exact Deep.hit al nm args dirs sub p k' hl (by simp only [maxListsDepth] at *; omega)
  | sub al nm args dirs sub p k _ ih =>
    intro k' hle
    refine Deep.sub al nm args dirs sub p k' (ih _ ?_)
    split <;> omega
  | spread nm dirs p f k hf _ ih => exact fun k' hle => Deep.spread nm dirs p f k' hf (ih k' hle)
  | inline tc dirs sub p k _ ih => exact fun k' hle => Deep.inline tc dirs sub p k' (ih k' hle)
  | head x rest k _ ih => exact fun k' hle => Deep.head x rest k' (ih k' hle)
  | tail x rest k _ ih => exact fun k' hle => Deep.tail x rest k' (ih k' hle)

def DJumpSound (d : QueryDoc) (J : DJump) : Prop :=
  ∀ visited depth cl sels cl', J visited depth cl sels = some (true, cl') → Deep d (.many sels) depth

mutual
  theorem checkDepthSelection_sound (l : Links) (d : QueryDoc) (J : DJump) (hJ : DJumpSound d J) :
      ∀ (x : Selection) (visited : List Name) (depth : Nat) (cl cl' : Cleared),
        checkDepthSelection l d J visited depth cl x = some (true, cl') → Deep d (.one x) depth
    | .field al nm args dirs sub p, visited, depth, cl, cl', h => by
      unfold checkDepthSelection at h
      split at h
      · rename_i hl
        split at h
        · rename_i hk
          exact Deep.hit al nm args dirs sub p depth hl hk
        · refine Deep.sub al nm args dirs sub p depth ?_
          rw [if_pos hl]
          exact checkDepthSelections_sound l d J hJ sub visited (depth + 1) cl cl' h
      · rename_i hl
        refine Deep.sub al nm args dirs sub p depth ?_
        rw [if_neg hl]
        exact checkDepthSelections_sound l d J hJ sub visited depth cl cl' h
    | .spread nm dirs p, visited, depth, cl, cl', h => by
      unfold checkDepthSelection at h
      split at h
      · cases h
      · split at h
        · cases h
        · cases hs : l.spreadDef d nm p with
          | none => rw [hs] at h; cases h
          | some f =>
            rw [hs] at h
            simp only at h
            cases hj : J (nm :: visited) depth cl f.sel with
            | none => rw [hj] at h; cases h
            | some r =>
              obtain ⟨b, cl1⟩ := r
              rw [hj] at h
              cases b with
              | false => cases h
              | true => exact Deep.spread nm dirs p f depth (spreadDef_some hs) (hJ _ _ _ _ _ hj)
    | .inline tc dirs sub p, visited, depth, cl, cl', h => by
      unfold checkDepthSelection at h
      exact Deep.inline tc dirs sub p depth (checkDepthSelections_sound l d J hJ sub visited depth cl cl' h)
  theorem checkDepthSelections_sound (l : Links) (d : QueryDoc) (J : DJump) (hJ : DJumpSound d J) :
      ∀ (xs : Selections) (visited : List Name) (depth : Nat) (cl cl' : Cleared),
        checkDepthSelections l d J visited depth cl xs = some (true, cl') → Deep d (.many xs) depth
    | .nil, _, _, _, _, h => by simp [checkDepthSelections] at h
    | .cons x rest, visited, depth, cl, cl', h => by
      unfold checkDepthSelections at h
      cases hx : checkDepthSelection l d J visited depth cl x with
      | none => rw [hx] at h; cases h
      | some r =>
        obtain ⟨b, cl1⟩ := r
        rw [hx] at h
        cases b with
        | true => exact Deep.head x rest depth (checkDepthSelection_sound l d J hJ x visited depth cl cl1 hx)
        | false => exact Deep.tail x rest depth (checkDepthSelections_sound l d J hJ rest visited depth cl1 cl' h)
end

structure ReachLinked (l : Links) (d : QueryDoc) (node : DNode) : Prop where
  here : ∀ nm dirs p, node.Has (.spread nm dirs p) → l.linked p.start = true
  below : ∀ n g, Reach d node.spreads n → fragForName d n = some g →
    ∀ nm dirs p, InSels g.sel (.sel (.spread nm dirs p)) → l.linked p.start = true

def NoCut (d : QueryDoc) (chain : List Name) (node : DNode) : Prop := ∀ n ∈ chain, ¬ Reach d node.spreads n

def NoSelfReach (d : QueryDoc) : Prop := ∀ n f, fragForName d n = some f → ¬ Reach d (Spec.spreadsOfSels f.sel) n

theorem noSelfReach_of_spec {d : QueryDoc} (h : Spec.noFragmentCycles d = true) : NoSelfReach d := by
  intro n f hf hr
  unfold Spec.noFragmentCycles at h
  have := List.all_eq_true.1 h f (fragForName_mem hf)
  rw [← fragForName_name hf] at hr
  rw [← reachFrom_contains_iff] at hr
  rw [hr] at this
  cases this

theorem reach_of_body {d : QueryDoc} {start : List Name} {nm n : Name} {f : FragmentDef} (hnm : nm ∈ start)
    (hf : fragForName d nm = some f) (h : Reach d (Spec.spreadsOfSels f.sel) n) : Reach d start n := by
  apply Reach.trans (Reach.base hnm)
  rw [fragSpreads_of_forName hf]
  exact h

theorem spreads_field (al nm : Name) (args : List Argument) (dirs : List Directive) (sub : Selections) (p : Pos) :
    (DNode.one (.field al nm args dirs sub p)).spreads = (DNode.many sub).spreads := by
  simp [DNode.spreads, Spec.spreadsOfSel]

theorem spreads_inline (tc : Name) (dirs : List Directive) (sub : Selections) (p : Pos) :
    (DNode.one (.inline tc dirs sub p)).spreads = (DNode.many sub).spreads := by
  simp [DNode.spreads, Spec.spreadsOfSel]

theorem spreads_cons (x : Selection) (rest : Selections) :
    (DNode.many (.cons x rest)).spreads = (DNode.one x).spreads ++ (DNode.many rest).spreads := by
  simp [DNode.spreads, Spec.spreadsOfSels]

theorem spreads_spread (nm : Name) (dirs : List Directive) (p : Pos) : (DNode.one (.spread nm dirs p)).spreads = [nm] := by
  simp [DNode.spreads, Spec.spreadsOfSel]

theorem ReachLinked.field {l : Links} {d : QueryDoc} {al nm : Name} {args : List Argument} {dirs : List Directive}
    {sub : Selections} {p : Pos} (h : ReachLinked l d (.one (.field al nm args dirs sub p))) : ReachLinked l d (.many sub) :=
  ⟨fun nm' ds q hi => h.here nm' ds q (InSel.fieldSub al nm args dirs sub p _ hi),
   fun n g hr => h.below n g (by rw [spreads_field]; exact hr)⟩

theorem ReachLinked.inline {l : Links} {d : QueryDoc} {tc : Name} {dirs : List Directive}
    {sub : Selections} {p : Pos} (h : ReachLinked l d (.one (.inline tc dirs sub p))) : ReachLinked l d (.many sub) :=
  ⟨fun nm' ds q hi => h.here nm' ds q (InSel.inlineSub tc dirs sub p _ hi),
   fun n g hr => h.below n g (by rw [spreads_inline]; exact hr)⟩

theorem ReachLinked.head {l : Links} {d : QueryDoc} {x : Selection} {rest : Selections}
    (h : ReachLinked l d (.many (.cons x rest))) : ReachLinked l d (.one x) :=
  ⟨fun nm' ds q hi => h.here nm' ds q (InSels.head x rest _ hi),
   fun n g hr => h.below n g (by rw [spreads_cons]; exact Reach.mono (fun _ hx => List.mem_append_left _ hx) hr)⟩

theorem ReachLinked.tail {l : Links} {d : QueryDoc} {x : Selection} {rest : Selections}
    (h : ReachLinked l d (.many (.cons x rest))) : ReachLinked l d (.many rest) :=
  ⟨fun nm' ds q hi => h.here nm' ds q (InSels.tail x rest _ hi),
   fun n g hr => h.below n g (by rw [spreads_cons]; exact Reach.mono (fun _ hx => List.mem_append_right _ hx) hr)⟩

theorem ReachLinked.jump {l : Links} {d : QueryDoc} {nm : Name} {dirs : List Directive} {p : Pos} {f : FragmentDef}
    (h : ReachLinked l d (.one (.spread nm dirs p))) (hf : fragForName d nm = some f) : ReachLinked l d (.many f.sel) :=
  ⟨fun nm' ds q hi => h.below nm f (Reach.base (by simp [spreads_spread])) hf nm' ds q hi,
   fun n g hr => h.below n g (reach_of_body (by simp [spreads_spread]) hf hr)⟩

theorem ReachLinked.spreadDef {l : Links} {d : QueryDoc} {nm : Name} {dirs : List Directive} {p : Pos}
    (h : ReachLinked l d (.one (.spread nm dirs p))) : l.spreadDef d nm p = fragForName d nm := by
  unfold Links.spreadDef
  rw [if_pos (h.here nm dirs p (InSel.self _))]

theorem NoCut.field {d : QueryDoc} {chain : List Name} {al nm : Name} {args : List Argument} {dirs : List Directive}
    {sub : Selections} {p : Pos} (h : NoCut d chain (.one (.field al nm args dirs sub p))) : NoCut d chain (.many sub) :=
  fun n hn hr => h n hn (by rw [spreads_field]; exact hr)

theorem NoCut.inline {d : QueryDoc} {chain : List Name} {tc : Name} {dirs : List Directive}
    {sub : Selections} {p : Pos} (h : NoCut d chain (.one (.inline tc dirs sub p))) : NoCut d chain (.many sub) :=
  fun n hn hr => h n hn (by rw [spreads_inline]; exact hr)

theorem NoCut.head {d : QueryDoc} {chain : List Name} {x : Selection} {rest : Selections}
    (h : NoCut d chain (.many (.cons x rest))) : NoCut d chain (.one x) :=
  fun n hn hr => h n hn (by rw [spreads_cons]; exact Reach.mono (fun _ hx => List.mem_append_left _ hx) hr)

theorem NoCut.tail {d : QueryDoc} {chain : List Name} {x : Selection} {rest : Selections}
    (h : NoCut d chain (.many (.cons x rest))) : NoCut d chain (.many rest) :=
  fun n hn hr => h n hn (by rw [spreads_cons]; exact Reach.mono (fun _ hx => List.mem_append_right _ hx) hr)

theorem NoCut.notMem {d : QueryDoc} {chain : List Name} {nm : Name} {dirs : List Directive} {p : Pos}
    (h : NoCut d chain (.one (.spread nm dirs p))) : chain.contains nm = false := by
  cases hc : chain.contains nm with
  | false => rfl
  | true =>
    exact absurd (Reach.base (by simp [spreads_spread])) (h nm (by simpa using hc))

theorem NoCut.jump {d : QueryDoc} (hac : NoSelfReach d) {chain : List Name} {nm : Name} {dirs : List Directive} {p : Pos}
    {f : FragmentDef} (h : NoCut d chain (.one (.spread nm dirs p))) (hf : fragForName d nm = some f) :
    NoCut d (nm :: chain) (.many f.sel) := by
  intro n hn hr
  rcases List.mem_cons.1 hn with rfl | hn
  · exact hac n f hf hr
  · exact h n hn (reach_of_body (by simp [spreads_spread]) hf hr)

theorem noCut_nil (d : QueryDoc) (node : DNode) : NoCut d [] node := fun _ h => by cases h

def ClOK (d : QueryDoc) (cl : Cleared) : Prop :=
  ∀ nm k, (nm, k) ∈ cl → ∀ f, fragForName d nm = some f → ¬ Deep d (.many f.sel) k

theorem clearedSkip_sound {d : QueryDoc} {cl : Cleared} (hcl : ClOK d cl) {nm : Name} {depth : Nat}
    (h : clearedSkip cl nm depth = true) {f : FragmentDef} (hf : fragForName d nm = some f) :
    ¬ Deep d (.many f.sel) depth := by
  unfold clearedSkip at h
  split at h
  · rename_i a ha
    have hle : depth ≤ a := by simpa using h
    exact fun hd => hcl nm a (mem_of_lookup ha) f hf (hd.mono a hle)
  · cases h

theorem clearedUpdate_ok {d : QueryDoc} {cl : Cleared} (hcl : ClOK d cl) {nm : Name} {depth : Nat}
    (h : ∀ f, fragForName d nm = some f → ¬ Deep d (.many f.sel) depth) : ClOK d (clearedUpdate cl nm depth) := by
  have hcons : ClOK d ((nm, depth) :: cl) := by
    intro nm' k hm f hf
    rcases List.mem_cons.1 hm with heq | hm
    · injection heq with h1 h2
      subst h1; subst h2
      exact h f hf
    · exact hcl nm' k hm f hf
  unfold clearedUpdate
  split
  · split
    · exact hcons
    · exact hcl
  · exact hcons

def DJumpComplete (l : Links) (d : QueryDoc) (J : DJump) : Prop :=
  ∀ visited depth cl sels r, ReachLinked l d (.many sels) → NoCut d visited (.many sels) → ClOK d cl →
    J visited depth cl sels = some r → ClOK d r.2 ∧ (r.1 = false → ¬ Deep d (.many sels) depth)

mutual
  theorem checkDepthSelection_complete (l : Links) (d : QueryDoc) (hac : NoSelfReach d) (J : DJump) (hJ : DJumpComplete l d J) :
      ∀ (x : Selection) (visited : List Name) (depth : Nat) (cl : Cleared) (r : Bool × Cleared),
        ReachLinked l d (.one x) → NoCut d visited (.one x) → ClOK d cl →
        checkDepthSelection l d J visited depth cl x = some r → ClOK d r.2 ∧ (r.1 = false → ¬ Deep d (.one x) depth)
    | .field al nm args dirs sub p, visited, depth, cl, r, hl, hn, hcl, h => by
      unfold checkDepthSelection at h
      split at h
      · rename_i hlist
        split at h
        · injection h with h
          subst h
          exact ⟨hcl, fun hf => by cases hf⟩
        · rename_i hk
          obtain ⟨a, b⟩ := checkDepthSelections_complete l d hac J hJ sub visited (depth + 1) cl r hl.field hn.field hcl h
          refine ⟨a, fun hf hd => ?_⟩
          cases hd with
          | hit _ _ _ _ _ _ _ _ hk' => exact hk hk'
          | sub _ _ _ _ _ _ _ hs =>
            rw [if_pos hlist] at hs
            exact b hf hs
      · rename_i hlist
        obtain ⟨a, b⟩ := checkDepthSelections_complete l d hac J hJ sub visited depth cl r hl.field hn.field hcl h
        refine ⟨a, fun hf hd => ?_⟩
        cases hd with
        | hit _ _ _ _ _ _ _ hl' _ => exact hlist hl'
        | sub _ _ _ _ _ _ _ hs =>
          rw [if_neg hlist] at hs
          exact b hf hs
    | .spread nm dirs p, visited, depth, cl, r, hl, hn, hcl, h => by
      unfold checkDepthSelection at h
      rw [hn.notMem, hl.spreadDef] at h
      simp only [Bool.false_eq_true, if_false] at h
      split at h
      · rename_i hskip
        injection h with h
        subst h
        refine ⟨hcl, fun _ hd => ?_⟩
        cases hd with
        | spread _ _ _ f _ hf hb => exact clearedSkip_sound hcl hskip hf hb
      · cases hf : fragForName d nm with
        | none =>
          rw [hf] at h
          injection h with h
          subst h
          refine ⟨hcl, fun _ hd => ?_⟩
          cases hd with
          | spread _ _ _ f' _ hf' _ => rw [hf] at hf'; cases hf'
        | some f =>
          rw [hf] at h
          simp only at h
          cases hj : J (nm :: visited) depth cl f.sel with
          | none => rw [hj] at h; cases h
          | some r1 =>
            obtain ⟨b1, cl1⟩ := r1
            rw [hj] at h
            obtain ⟨a, b⟩ := hJ _ _ _ _ _ (hl.jump hf) (hn.jump hac hf) hcl hj
            cases b1 with
            | true =>
              injection h with h
              subst h
              exact ⟨a, fun hx => by cases hx⟩
            | false =>
              injection h with h
              subst h
              have hnd : ∀ f', fragForName d nm = some f' → ¬ Deep d (.many f'.sel) depth := by
                intro f' hf'
                rw [hf] at hf'
                injection hf' with hf'
                subst hf'
                exact b rfl
              refine ⟨clearedUpdate_ok a hnd, fun _ hd => ?_⟩
              cases hd with
              | spread _ _ _ f' _ hf' hb => exact hnd f' hf' hb
    | .inline tc dirs sub p, visited, depth, cl, r, hl, hn, hcl, h => by
      unfold checkDepthSelection at h
      obtain ⟨a, b⟩ := checkDepthSelections_complete l d hac J hJ sub visited depth cl r hl.inline hn.inline hcl h
      refine ⟨a, fun hf hd => ?_⟩
      cases hd with
      | inline _ _ _ _ _ hs => exact b hf hs
  theorem checkDepthSelections_complete (l : Links) (d : QueryDoc) (hac : NoSelfReach d) (J : DJump) (hJ : DJumpComplete l d J) :
      ∀ (xs : Selections) (visited : List Name) (depth : Nat) (cl : Cleared) (r : Bool × Cleared),
        ReachLinked l d (.many xs) → NoCut d visited (.many xs) → ClOK d cl →
        checkDepthSelections l d J visited depth cl xs = some r → ClOK d r.2 ∧ (r.1 = false → ¬ Deep d (.many xs) depth)
    | .nil, _, _, cl, r, _, _, hcl, h => by
      simp only [checkDepthSelections] at h
      injection h with h
      subst h
      exact ⟨hcl, fun _ hd => by cases hd⟩
    | .cons x rest, visited, depth, cl, r, hl, hn, hcl, h => by
      unfold checkDepthSelections at h
      cases hx : checkDepthSelection l d J visited depth cl x with
      | none => rw [hx] at h; cases h
      | some r1 =>
        obtain ⟨b1, cl1⟩ := r1
        rw [hx] at h
        obtain ⟨a1, c1⟩ := checkDepthSelection_complete l d hac J hJ x visited depth cl _ hl.head hn.head hcl hx
        cases b1 with
        | true =>
          injection h with h
          subst h
          exact ⟨a1, fun hf => by cases hf⟩
        | false =>
          obtain ⟨a2, c2⟩ := checkDepthSelections_complete l d hac J hJ rest visited depth cl1 r hl.tail hn.tail a1 h
          refine ⟨a2, fun hf hd => ?_⟩
          cases hd with
          | head _ _ _ hh => exact c1 rfl hh
          | tail _ _ _ ht => exact c2 hf ht
end

theorem depthLevel_complete (l : Links) (d : QueryDoc) (hac : NoSelfReach d) : ∀ n, DJumpComplete l d (depthLevel l d n)
  | 0 => by intro _ _ _ _ _ _ _ _ h; simp [depthLevel] at h
  | n + 1 => by
    intro visited depth cl sels r hl hn hcl h
    simp only [depthLevel] at h
    exact checkDepthSelections_complete l d hac _ (depthLevel_complete l d hac n) sels visited depth cl r hl hn hcl h

theorem isListField_eq (n : Name) : Spec.isIntrospectionListField n = isListField n := rfl

def SJumpSound (d : QueryDoc) (J : Spec.DepthJump) : Prop :=
  ∀ sels path k, k < 3 → J sels path k = true → Deep d (.many sels) k

mutual
  theorem deepSel_sound (d : QueryDoc) (J : Spec.DepthJump) (hJ : SJumpSound d J) :
      ∀ (x : Selection) (path : List Name) (k : Nat), k < 3 → Spec.deepSel d J x path k = true → Deep d (.one x) k
    | .field al nm args dirs sub p, path, k, hk, h => by
      unfold Spec.deepSel at h
      cases hl : Spec.isIntrospectionListField nm with
      | true =>
        have hl' : isListField nm = true := hl
        simp only [hl, if_true, Spec.maxListsDepth, Bool.or_eq_true, decide_eq_true_eq] at h
        rcases h with h | h
        · exact Deep.hit al nm args dirs sub p k hl' h
        · by_cases hk' : k + 1 ≥ 3
          · exact Deep.hit al nm args dirs sub p k hl' hk'
          · refine Deep.sub al nm args dirs sub p k ?_
            rw [if_pos hl']
            exact deepSels_sound d J hJ sub path (k + 1) (by omega) h
      | false =>
        have hl' : ¬ isListField nm = true := by rw [← isListField_eq, hl]; simp
        simp only [hl, Bool.false_eq_true, if_false, Spec.maxListsDepth, Bool.or_eq_true, decide_eq_true_eq] at h
        rcases h with h | h
        · omega
        · refine Deep.sub al nm args dirs sub p k ?_
          rw [if_neg hl']
          exact deepSels_sound d J hJ sub path k hk h
    | .spread nm dirs p, path, k, hk, h => by
      unfold Spec.deepSel at h
      split at h
      · cases h
      · rw [fragByName_eq] at h
        cases hf : fragForName d nm with
        | none => rw [hf] at h; cases h
        | some f =>
          rw [hf] at h
          exact Deep.spread nm dirs p f k hf (hJ _ _ _ hk h)
    | .inline tc dirs sub p, path, k, hk, h => by
      unfold Spec.deepSel at h
      exact Deep.inline tc dirs sub p k (deepSels_sound d J hJ sub path k hk h)
  theorem deepSels_sound (d : QueryDoc) (J : Spec.DepthJump) (hJ : SJumpSound d J) :
      ∀ (xs : Selections) (path : List Name) (k : Nat), k < 3 → Spec.deepSels d J xs path k = true → Deep d (.many xs) k
    | .nil, _, _, _, h => by simp [Spec.deepSels] at h
    | .cons x rest, path, k, hk, h => by
      unfold Spec.deepSels at h
      rw [Bool.or_eq_true] at h
      rcases h with h | h
      · exact Deep.head x rest k (deepSel_sound d J hJ x path k hk h)
      · exact Deep.tail x rest k (deepSels_sound d J hJ rest path k hk h)
end

theorem deepLevel_sound (d : QueryDoc) : ∀ n, SJumpSound d (Spec.deepLevel d n)
  | 0 => by intro _ _ _ _ h; simp [Spec.deepLevel] at h
  | n + 1 => by
    intro sels path k hk h
    simp only [Spec.deepLevel] at h
    exact deepSels_sound d _ (deepLevel_sound d n) sels path k hk h

def specDeep (d : QueryDoc) (m : Nat) : DNode → List Name → Nat → Bool
  | .one x, path, k => Spec.deepSel d (Spec.deepLevel d m) x path k
  | .many xs, path, k => Spec.deepSels d (Spec.deepLevel d m) xs path k

/-- on an acyclic document the specification's search finds every path: the chain test never
    fires and `unvisited d path` levels are enough -/
theorem specDeep_complete {d : QueryDoc} (hac : NoSelfReach d) {node : DNode} {k : Nat} (h : Deep d node k) :
    ∀ (m : Nat) (path : List Name), unvisited d path ≤ m → NoCut d path node → k < 3 → specDeep d m node path k = true := by
  induction h with
  | hit al nm args dirs sub p k hl hk =>
    intro m path _ _ _
    simp only [specDeep]
    unfold Spec.deepSel
    have hl' : Spec.isIntrospectionListField nm = true := hl
    simp only [hl', if_true, Spec.maxListsDepth, Bool.or_eq_true, decide_eq_true_eq]
    exact Or.inl hk
  | sub al nm args dirs sub p k _ ih =>
    intro m path hm hn hk
    simp only [specDeep] at ih ⊢
    unfold Spec.deepSel
    cases hl : Spec.isIntrospectionListField nm with
    | true =>
      have hl' : isListField nm = true := hl
      simp only [if_true, Spec.maxListsDepth, Bool.or_eq_true, decide_eq_true_eq]
      rw [if_pos hl'] at ih
      by_cases hk' : k + 1 < 3
      · exact Or.inr (ih m path hm hn.field hk')
      · exact Or.inl (by omega)
    | false =>
      have hl' : ¬ isListField nm = true := by rw [← isListField_eq, hl]; simp
      simp only [Bool.false_eq_true, if_false, Spec.maxListsDepth, Bool.or_eq_true, decide_eq_true_eq]
      rw [if_neg hl'] at ih
      exact Or.inr (ih m path hm hn.field hk)
  | spread nm dirs p f k hf _ ih =>
    intro m path hm hn hk
    simp only [specDeep]
    unfold Spec.deepSel
    rw [hn.notMem, fragByName_eq, hf]
    simp only [Bool.false_eq_true, if_false]
    have hlt := unvisited_lt d path f (fragForName_mem hf) (by rw [fragForName_name hf]; exact hn.notMem)
    rw [fragForName_name hf] at hlt
    cases m with
    | zero => omega
    | succ m' =>
      simp only [Spec.deepLevel]
      exact ih m' (nm :: path) (by omega) (hn.jump hac hf) hk
  | inline tc dirs sub p k _ ih =>
    intro m path hm hn hk
    simp only [specDeep]
    unfold Spec.deepSel
    exact ih m path hm hn.inline hk
  | head x rest k _ ih =>
    intro m path hm hn hk
    simp only [specDeep]
    unfold Spec.deepSels
    rw [Bool.or_eq_true]
    exact Or.inl (ih m path hm hn.head hk)
  | tail x rest k _ ih =>
    intro m path hm hn hk
    simp only [specDeep]
    unfold Spec.deepSels
    rw [Bool.or_eq_true]
    exact Or.inr (ih m path hm hn.tail hk)

theorem specDeep_iff {d : QueryDoc} (hac : NoSelfReach d) (sub : Selections) :
    Spec.deepSels d (Spec.deepLevel d (d.frags.length + 1)) sub [] 0 = true ↔ Deep d (.many sub) 0 := by
  constructor
  · exact deepSels_sound d _ (deepLevel_sound d _) sub [] 0 (by omega)
  · intro h
    exact specDeep_complete hac h (d.frags.length + 1) [] (by rw [unvisited_nil]; omega) (noCut_nil d _) (by omega)

end Gql.Validate
