import GqlProofs.ValSpec.Spreads
import GqlProofs.Validate.RuleFuel
/-
  The specification's fragment reachability (`Spec.reachFrom`: `frags.length + 1` rounds of a
  breadth-first closure) is the reflexive-transitive closure of "spreads, through a defined
  fragment" (`Reach`): the fuel is enough because every productive round after the first one makes
  a new DEFINED fragment name visible.
-/
namespace Gql.Validate
open Gql

/-- `n` is reachable from the spread names `start` through defined fragments (zero or more steps) -/
inductive Reach (d : QueryDoc) (start : List Name) : Name → Prop
  | base {n : Name} : n ∈ start → Reach d start n
  | step {m n : Name} : Reach d start m → n ∈ Spec.fragSpreads d m → Reach d start n

theorem mem_addNew (n : Name) : ∀ (xs acc : List Name), n ∈ Spec.addNew acc xs ↔ n ∈ acc ∨ n ∈ xs
  | [], acc => by simp [Spec.addNew]
  | x :: xs, acc => by
    unfold Spec.addNew
    split
    · rename_i hc
      have hx : x ∈ acc := by simpa using hc
      rw [mem_addNew n xs acc, List.mem_cons]
      exact ⟨Or.imp_right Or.inr, fun h => h.elim Or.inl fun h => h.elim (fun e => Or.inl (e ▸ hx)) Or.inr⟩
    · rw [mem_addNew n xs (acc ++ [x])]
      simp only [List.mem_append, List.mem_cons, List.not_mem_nil, or_false, or_assoc]

theorem mem_foldl_addNew (d : QueryDoc) (n : Name) : ∀ (l acc : List Name),
    n ∈ l.foldl (fun acc m => Spec.addNew acc (Spec.fragSpreads d m)) acc ↔
      n ∈ acc ∨ ∃ m ∈ l, n ∈ Spec.fragSpreads d m
  | [], acc => by simp
  | x :: l, acc => by
    simp only [List.foldl_cons]
    rw [mem_foldl_addNew d n l, mem_addNew]
    simp only [List.mem_cons, exists_eq_or_imp, or_assoc]

theorem mem_closeRound (d : QueryDoc) (seen : List Name) (n : Name) :
    n ∈ Spec.closeRound d seen ↔ n ∈ seen ∨ ∃ m ∈ seen, n ∈ Spec.fragSpreads d m :=
  mem_foldl_addNew d n seen seen

def SpreadClosed (d : QueryDoc) (S : List Name) : Prop := ∀ m ∈ S, ∀ n ∈ Spec.fragSpreads d m, n ∈ S

theorem closeRound_of_closed {d : QueryDoc} {S : List Name} (h : SpreadClosed d S) (n : Name) :
    n ∈ Spec.closeRound d S ↔ n ∈ S := by
  rw [mem_closeRound]
  constructor
  · rintro (h1 | ⟨m, hm, hn⟩)
    · exact h1
    · exact h m hm n hn
  · exact Or.inl

theorem spreadClosed_closeRound {d : QueryDoc} {S : List Name} (h : SpreadClosed d S) :
    SpreadClosed d (Spec.closeRound d S) := by
  intro m hm n hn
  rw [closeRound_of_closed h] at hm ⊢
  exact h m hm n hn

theorem spreadClosed_closeRounds {d : QueryDoc} : ∀ (k : Nat) {S : List Name}, SpreadClosed d S →
    SpreadClosed d (Spec.closeRounds d k S)
  | 0, _, h => h
  | k + 1, _, h => by
    simp only [Spec.closeRounds]
    exact spreadClosed_closeRounds k (spreadClosed_closeRound h)

theorem subset_closeRounds (d : QueryDoc) : ∀ (k : Nat) (S : List Name) (n : Name), n ∈ S → n ∈ Spec.closeRounds d k S
  | 0, _, _, h => h
  | k + 1, S, n, h => by
    simp only [Spec.closeRounds]
    exact subset_closeRounds d k _ n ((mem_closeRound d S n).2 (Or.inl h))

theorem fragSpreads_defined {d : QueryDoc} {m n : Name} (h : n ∈ Spec.fragSpreads d m) :
    ∃ f, fragForName d m = some f ∧ f ∈ d.frags ∧ f.name = m ∧ n ∈ Spec.spreadsOfSels f.sel := by
  unfold Spec.fragSpreads at h
  rw [fragByName_eq] at h
  cases hf : fragForName d m with
  | none => rw [hf] at h; cases h
  | some f =>
    rw [hf] at h
    have hn : f.name = m := by
      have := List.find?_some hf
      simpa using this
    exact ⟨f, rfl, fragForName_mem hf, hn, h⟩

theorem fragSpreads_of_forName {d : QueryDoc} {nm : Name} {f : FragmentDef} (hf : fragForName d nm = some f) :
    Spec.fragSpreads d nm = Spec.spreadsOfSels f.sel := by
  unfold Spec.fragSpreads
  rw [fragByName_eq, hf]

theorem Reach.closed {d : QueryDoc} {start : List Name} {V : Name → Prop}
    (h0 : ∀ m ∈ start, ∀ g, fragForName d m = some g → V m)
    (hstep : ∀ m f, Reach d start m → V m → fragForName d m = some f →
      ∀ n ∈ Spec.spreadsOfSels f.sel, ∀ g, fragForName d n = some g → V n) :
    ∀ n, Reach d start n → ∀ g, fragForName d n = some g → V n := by
  intro n hr
  induction hr with
  | base hn => exact h0 _ hn
  | step hm hn ih =>
    obtain ⟨f, hf, _, _, hn'⟩ := fragSpreads_defined hn
    exact hstep _ f hm (ih f hf) hf _ hn'

theorem reach_fragSpreads_defined {d : QueryDoc} {m x : Name} (h : Reach d (Spec.fragSpreads d m) x) :
    ∃ f, fragForName d m = some f := by
  induction h with
  | base hn =>
    obtain ⟨f, hf, _⟩ := fragSpreads_defined hn
    exact ⟨f, hf⟩
  | step _ _ ih => exact ih

theorem fragForName_of_nodup {d : QueryDoc} (hu : (d.frags.map (·.name)).Nodup) {f : FragmentDef} (hf : f ∈ d.frags) :
    fragForName d f.name = some f := by
  unfold fragForName
  generalize d.frags = fs at hu hf
  induction fs with
  | nil => cases hf
  | cons g rest ih =>
    simp only [List.map_cons, List.nodup_cons] at hu
    rcases List.mem_cons.1 hf with rfl | hm
    · simp
    · have hne : g.name ≠ f.name := by
        intro he
        exact hu.1 (he ▸ List.mem_map.2 ⟨f, hm, rfl⟩)
      rw [List.find?_cons_of_neg (by simpa using hne)]
      exact ih hu.2 hm

theorem unvisited_closeRound (d : QueryDoc) (S : List Name) (h : ¬ SpreadClosed d (Spec.closeRound d S)) :
    unvisited d (Spec.closeRound d S) + 1 ≤ unvisited d S := by
  have : ∃ m ∈ Spec.closeRound d S, ∃ n ∈ Spec.fragSpreads d m, n ∉ Spec.closeRound d S := by
    apply Classical.byContradiction
    intro hc
    apply h
    intro m hm n hn
    apply Classical.byContradiction
    intro hnn
    exact hc ⟨m, hm, n, hn, hnn⟩
  obtain ⟨m, hm, n, hn, hnot⟩ := this
  have hmS : m ∉ S := by
    intro hmS
    exact hnot ((mem_closeRound d S n).2 (Or.inr ⟨m, hmS, hn⟩))
  obtain ⟨f, _, hfm, hname, _⟩ := fragSpreads_defined hn
  unfold unvisited
  apply filter_length_lt_of_imp _ _ _ f _ _ _ hfm
  · intro x hx
    simp only [Bool.not_eq_true', List.contains_eq_mem, decide_eq_false_iff_not] at hx ⊢
    intro hxS
    exact hx ((mem_closeRound d S _).2 (Or.inl hxS))
  · simpa [hname] using hmS
  · simpa [hname] using hm

theorem closeRounds_closed (d : QueryDoc) : ∀ (k : Nat) (S : List Name), unvisited d S ≤ k →
    SpreadClosed d (Spec.closeRounds d (k + 1) S)
  | 0, S, h => by
    simp only [Spec.closeRounds]
    intro m hm n hn
    obtain ⟨f, _, hfm, hname, _⟩ := fragSpreads_defined hn
    have hmS : m ∈ S := by
      apply Classical.byContradiction
      intro hmS
      have hpos : 0 < unvisited d S := by
        unfold unvisited
        apply List.length_pos_of_mem (a := f)
        exact List.mem_filter.2 ⟨hfm, by simpa [hname] using hmS⟩
      omega
    exact (mem_closeRound d S n).2 (Or.inr ⟨m, hmS, hn⟩)
  | k + 1, S, h => by
    rw [Spec.closeRounds]
    by_cases hc : SpreadClosed d (Spec.closeRound d S)
    · exact spreadClosed_closeRounds (k + 1) hc
    · have := unvisited_closeRound d S hc
      exact closeRounds_closed d k _ (by omega)

theorem reach_closeRounds (d : QueryDoc) (start : List Name) : ∀ (k : Nat) (S : List Name),
    (∀ n ∈ S, Reach d start n) → ∀ n ∈ Spec.closeRounds d k S, Reach d start n
  | 0, _, h, n, hn => h n hn
  | k + 1, S, h, n, hn => by
    simp only [Spec.closeRounds] at hn
    refine reach_closeRounds d start k _ ?_ n hn
    intro x hx
    rcases (mem_closeRound d S x).1 hx with h1 | ⟨m, hm, hx⟩
    · exact h x h1
    · exact Reach.step (h m hm) hx

theorem mem_reachFrom_iff (d : QueryDoc) (start : List Name) (n : Name) :
    n ∈ Spec.reachFrom d start ↔ Reach d start n := by
  unfold Spec.reachFrom
  constructor
  · apply reach_closeRounds d start
    intro x hx
    exact Reach.base (by simpa [mem_addNew] using hx)
  · intro h
    have hcl : SpreadClosed d (Spec.closeRounds d (d.frags.length + 1) (Spec.addNew [] start)) :=
      closeRounds_closed d _ _ (unvisited_le_length d _)
    induction h with
    | base hn => exact subset_closeRounds d _ _ _ (by simpa [mem_addNew] using hn)
    | step _ hn ih => exact hcl _ ih _ hn

theorem reachFrom_contains_iff (d : QueryDoc) (start : List Name) (n : Name) :
    (Spec.reachFrom d start).contains n = true ↔ Reach d start n := by
  rw [List.contains_iff_mem, mem_reachFrom_iff]

theorem mem_allSpreadNames {d : QueryDoc} {n : Name} :
    n ∈ Spec.allSpreadNames d ↔ (∃ op ∈ d.ops, n ∈ Spec.spreadsOfSels op.sel) ∨ (∃ f ∈ d.frags, n ∈ Spec.spreadsOfSels f.sel) := by
  simp [Spec.allSpreadNames, List.mem_append, List.mem_flatMap]

theorem reach_mem_allSpreadNames {d : QueryDoc} {op : OperationDef} (hop : op ∈ d.ops) {n : Name}
    (h : Reach d (Spec.spreadsOfSels op.sel) n) : n ∈ Spec.allSpreadNames d := by
  cases h with
  | base hn => exact mem_allSpreadNames.2 (Or.inl ⟨op, hop, hn⟩)
  | step _ hn =>
    obtain ⟨g, _, hg, _, hn'⟩ := fragSpreads_defined hn
    exact mem_allSpreadNames.2 (Or.inr ⟨g, hg, hn'⟩)

theorem Reach.mono {d : QueryDoc} {a b : List Name} (h : ∀ x ∈ a, x ∈ b) {n : Name} (hr : Reach d a n) : Reach d b n := by
  induction hr with
  | base hn => exact Reach.base (h _ hn)
  | step _ hn ih => exact Reach.step ih hn

theorem Reach.trans {d : QueryDoc} {start : List Name} {m n : Name} (hm : Reach d start m)
    (hn : Reach d (Spec.fragSpreads d m) n) : Reach d start n := by
  induction hn with
  | base h => exact Reach.step hm h
  | step _ h ih => exact Reach.step ih h

end Gql.Validate
