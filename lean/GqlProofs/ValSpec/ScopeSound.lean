import GqlProofs.ValSpec.ReachClosure
import GqlProofs.ValSpec.Typed
/-
  Per-operation scope, soundness: every event fired while `CurrentOperation = op` is about a node
  (with the walker's parent typing) or a directive list written in the operation itself or in a
  fragment definition REACHABLE from the operation through spreads of defined fragments
  (`Reach`); every event fired with `CurrentOperation = nil` is about a fragment definition of the
  document or one reachable from it.  No reasoning about the `visited` set is needed for this
  direction.
-/
namespace Gql.Validate
open Gql

def NodeScope (s : SV) (d : QueryDoc) (names : List Name) (nodes : Option Definition → Selection → Prop)
    (par : Option Definition) (y : Selection) : Prop :=
  nodes par y ∨ ∃ n f, Reach d names n ∧ fragForName d n = some f ∧ InSelsW s (s.type? f.typeCond) f.sel par y

def DirScope (s : SV) (d : QueryDoc) (names : List Name) (nodes : Option Definition → Selection → Prop)
    (extra : Bytes → List Directive → Prop) (loc : Bytes) (ds : List Directive) : Prop :=
  (∃ par y, NodeScope s d names nodes par y ∧ loc = Spec.selLoc y ∧ ds = Spec.selDirs y) ∨
  (∃ n f, Reach d names n ∧ fragForName d n = some f ∧ loc = locFragmentDefinition ∧ ds = f.dirs) ∨
  extra loc ds

def EvSound (s : SV) (d : QueryDoc) (cur : Option OperationDef) (names : List Name)
    (nodes : Option Definition → Selection → Prop) (extra : Bytes → List Directive → Prop) (e : Event) : Prop :=
  e.cur = cur ∧
  match e.p with
  | .field f par dfn =>
    NodeScope s d names nodes par (.field f.alias f.name f.args f.dirs f.sel f.pos) ∧ dfn = wFieldDef par f.name
  | .inlineFragment f par => NodeScope s d names nodes par (.inline f.typeCond f.dirs f.sel f.pos)
  | .fragmentSpread f dfn par =>
    NodeScope s d names nodes par (.spread f.name f.dirs f.pos) ∧ dfn = fragForName d f.name
  | .directive dir dfn _ loc => dfn = s.directive? dir.name ∧ ∃ ds, dir ∈ ds ∧ DirScope s d names nodes extra loc ds
  | .directiveList ds => ∃ loc, DirScope s d names nodes extra loc ds
  | _ => True

theorem DirScope.weaken {s : SV} {d : QueryDoc} {names names' : List Name}
    {nodes nodes' : Option Definition → Selection → Prop} {extra extra' : Bytes → List Directive → Prop}
    (hn : ∀ par y, NodeScope s d names nodes par y → NodeScope s d names' nodes' par y)
    (hr : ∀ n, Reach d names n → Reach d names' n) (hx : ∀ loc ds, extra loc ds → extra' loc ds)
    {loc : Bytes} {ds : List Directive} (h : DirScope s d names nodes extra loc ds) :
    DirScope s d names' nodes' extra' loc ds := by
  rcases h with ⟨par, y, h1, h2, h3⟩ | ⟨n, f, h1, h2, h3, h4⟩ | h
  · exact Or.inl ⟨par, y, hn par y h1, h2, h3⟩
  · exact Or.inr (Or.inl ⟨n, f, hr n h1, h2, h3, h4⟩)
  · exact Or.inr (Or.inr (hx _ _ h))

theorem EvSound.weaken {s : SV} {d : QueryDoc} {cur : Option OperationDef} {names names' : List Name}
    {nodes nodes' : Option Definition → Selection → Prop} {extra extra' : Bytes → List Directive → Prop}
    (hn : ∀ par y, NodeScope s d names nodes par y → NodeScope s d names' nodes' par y)
    (hr : ∀ n, Reach d names n → Reach d names' n) (hx : ∀ loc ds, extra loc ds → extra' loc ds)
    (e : Event) (h : EvSound s d cur names nodes extra e) : EvSound s d cur names' nodes' extra' e := by
  unfold EvSound at h ⊢
  refine ⟨h.1, ?_⟩
  have h2 := h.2
  split <;> rename_i hp <;> simp only [hp] at h2
  · exact ⟨hn _ _ h2.1, h2.2⟩
  · exact hn _ _ h2
  · exact ⟨hn _ _ h2.1, h2.2⟩
  · obtain ⟨h3, ds, h4, h5⟩ := h2
    exact ⟨h3, ds, h4, h5.weaken hn hr hx⟩
  · obtain ⟨loc, h5⟩ := h2
    exact ⟨loc, h5.weaken hn hr hx⟩
  · trivial

theorem EvSound.mono {s : SV} {d : QueryDoc} {cur : Option OperationDef} {names names' : List Name}
    {nodes nodes' : Option Definition → Selection → Prop} {extra : Bytes → List Directive → Prop}
    (hnames : ∀ z ∈ names, z ∈ names') (hnodes : ∀ par y, nodes par y → nodes' par y)
    (e : Event) (h : EvSound s d cur names nodes extra e) : EvSound s d cur names' nodes' extra e := by
  refine h.weaken ?_ (fun _ hr => hr.mono hnames) (fun _ _ h => h)
  rintro par y (hi | ⟨n, g, hr, hg, hi⟩)
  · exact Or.inl (hnodes par y hi)
  · exact Or.inr ⟨n, g, hr.mono hnames, hg, hi⟩

section sel
variable (s : SV) (d : QueryDoc) (cur : Option OperationDef) (extra : Bytes → List Directive → Prop)

theorem evSound_value (names : List Name) (nodes : Option Definition → Selection → Prop) :
    ∀ links v exp dfn, EvSound s d cur names nodes extra { cur := cur, links := links, p := .value v exp dfn } :=
  fun _ _ _ _ => ⟨rfl, trivial⟩

theorem walkDirectives_sound (names : List Name) (nodes : Option Definition → Selection → Prop)
    (parent : Option Definition) (loc : Bytes) (ds : List Directive)
    (hds : DirScope s d names nodes extra loc ds) (ws : WS) :
    AllE (EvSound s d cur names nodes extra) (walkDirectives s cur parent ds loc ws).2 :=
  walkDirectives_allE (evSound_value s d cur extra names nodes) parent loc ds
    (fun _ _ hdir => ⟨rfl, rfl, ds, hdir, hds⟩) (fun _ => ⟨rfl, loc, hds⟩) ws

def JumpS (J : Jump) : Prop :=
  ∀ parent sels (ws : WS) r, J parent sels ws = some r →
    AllE (EvSound s d cur (Spec.spreadsOfSels sels) (InSelsW s parent sels) extra) r.2

theorem EvSound.of_jump {nm : Name} {dirs : List Directive} {p : Pos} {parent : Option Definition} {f : FragmentDef}
    (hf : fragForName d nm = some f) (e : Event)
    (h : EvSound s d cur (Spec.spreadsOfSels f.sel) (InSelsW s (s.type? f.typeCond) f.sel) extra e) :
    EvSound s d cur (Spec.spreadsOfSel (.spread nm dirs p)) (InSelW s parent (.spread nm dirs p)) extra e := by
  have hbase : Reach d (Spec.spreadsOfSel (.spread nm dirs p)) nm := Reach.base (by simp [Spec.spreadsOfSel])
  have hr : ∀ n, Reach d (Spec.spreadsOfSels f.sel) n → Reach d (Spec.spreadsOfSel (.spread nm dirs p)) n :=
    fun n hr => Reach.trans hbase (by rw [fragSpreads_of_forName hf]; exact hr)
  refine h.weaken ?_ hr (fun _ _ h => h)
  rintro par y (hi | ⟨n, g, hn, hg, hi⟩)
  · exact Or.inr ⟨nm, f, hbase, hf, hi⟩
  · exact Or.inr ⟨n, g, hr n hn, hg, hi⟩

theorem walkSel_sound_cases (J : Jump) (hJ : JumpS s d cur extra J) :
    WalkCases s d cur J
      (fun parent x _ r => AllE (EvSound s d cur (Spec.spreadsOfSel x) (InSelW s parent x) extra) r.2)
      (fun parent xs _ r => AllE (EvSound s d cur (Spec.spreadsOfSels xs) (InSelsW s parent xs) extra) r.2) where
  field := fun parent al nm args dirs sub p _ _ _ ih => by
    have hself : NodeScope s d (Spec.spreadsOfSel (.field al nm args dirs sub p))
        (InSelW s parent (.field al nm args dirs sub p)) parent (.field al nm args dirs sub p) :=
      Or.inl (InSelW.self _ _)
    exact AllE.append (AllE.append (AllE.append (walkArgs_allE (evSound_value s d cur extra _ _) _ args _)
      (walkDirectives_sound s d cur extra _ _ _ _ dirs (Or.inl ⟨_, _, hself, rfl, rfl⟩) _))
      (ih.imp (EvSound.mono (fun _ h => h) fun par y hi => InSelW.fieldSub parent al nm args dirs sub p par y hi)))
      (AllE.single ⟨rfl, hself, rfl⟩)
  inline := fun parent tc dirs sub p _ _ _ ih => by
    have hself : NodeScope s d (Spec.spreadsOfSel (.inline tc dirs sub p))
        (InSelW s parent (.inline tc dirs sub p)) parent (.inline tc dirs sub p) :=
      Or.inl (InSelW.self _ _)
    exact AllE.append (AllE.append (walkDirectives_sound s d cur extra _ _ _ _ dirs (Or.inl ⟨_, _, hself, rfl, rfl⟩) _)
      (ih.imp (EvSound.mono (fun _ h => h) fun par y hi => InSelW.inlineSub parent tc dirs sub p par y hi)))
      (AllE.single ⟨rfl, hself⟩)
  spreadStop := fun parent nm dirs p _ _ => by
    have hself : NodeScope s d (Spec.spreadsOfSel (.spread nm dirs p))
        (InSelW s parent (.spread nm dirs p)) parent (.spread nm dirs p) :=
      Or.inl (InSelW.self _ _)
    exact AllE.append (walkDirectives_sound s d cur extra _ _ _ _ dirs (Or.inl ⟨_, _, hself, rfl, rfl⟩) _)
      (AllE.single ⟨rfl, hself, rfl⟩)
  spreadJump := fun parent nm dirs p _ f r3 hf _ h3 => by
    have hself : NodeScope s d (Spec.spreadsOfSel (.spread nm dirs p))
        (InSelW s parent (.spread nm dirs p)) parent (.spread nm dirs p) :=
      Or.inl (InSelW.self _ _)
    refine AllE.append (AllE.append (AllE.append
      (walkDirectives_sound s d cur extra _ _ _ _ dirs (Or.inl ⟨_, _, hself, rfl, rfl⟩) _)
      (walkDirectives_sound s d cur extra _ _ _ _ f.dirs (Or.inr (Or.inl ⟨nm, f, ?_, hf, rfl, rfl⟩)) _))
      ((hJ _ _ _ r3 h3).imp (EvSound.of_jump s d cur extra hf))) (AllE.single ⟨rfl, hself, hf.symm⟩)
    exact Reach.base (by simp [Spec.spreadsOfSel])
  nil := fun _ _ => AllE.nil
  cons := fun parent x rest _ _ _ _ _ ih1 ih2 =>
    AllE.append
      (ih1.imp (EvSound.mono (fun z hz => by simp [Spec.spreadsOfSels, hz]) fun par y hi => InSelsW.head parent x rest par y hi))
      (ih2.imp (EvSound.mono (fun z hz => by simp [Spec.spreadsOfSels, hz]) fun par y hi => InSelsW.tail parent x rest par y hi))

theorem walkSelection_sound (J : Jump) (hJ : JumpS s d cur extra J) :
    ∀ (x : Selection) (parent : Option Definition) (ws : WS) r,
      walkSelection s d cur J parent x ws = some r →
      AllE (EvSound s d cur (Spec.spreadsOfSel x) (InSelW s parent x) extra) r.2 :=
  walkSelection_induct (walkSel_sound_cases s d cur extra J hJ)

theorem walkLevel_sound : ∀ n, JumpS s d cur extra (walkLevel s d cur n) :=
  walkLevel_induct fun J hJ => walkSel_sound_cases s d cur extra J hJ

end sel

def opExtra (s : SV) (op : OperationDef) (loc : Bytes) (ds : List Directive) : Prop :=
  (loc = (opRoot s op.op).2 ∧ ds = op.dirs) ∨ ∃ v ∈ op.vars, loc = locVariableDefinition ∧ ds = v.dirs

def fragExtra (f : FragmentDef) (loc : Bytes) (ds : List Directive) : Prop :=
  loc = locFragmentDefinition ∧ ds = f.dirs

abbrev OpSound (s : SV) (d : QueryDoc) (op : OperationDef) : Event → Prop :=
  EvSound s d (some op) (Spec.spreadsOfSels op.sel) (InSelsW s (opRoot s op.op).1 op.sel) (opExtra s op)

abbrev FragSound (s : SV) (d : QueryDoc) (f : FragmentDef) : Event → Prop :=
  EvSound s d none (Spec.spreadsOfSels f.sel) (InSelsW s (s.type? f.typeCond) f.sel) (fragExtra f)

theorem walkOperation_sound (s : SV) (d : QueryDoc) (fuel : Nat) (op : OperationDef) (l : Links)
    (r : Links × List Event) (h : walkOperation s d fuel op l = some r) : AllE (OpSound s d op) r.2 := by
  obtain ⟨r4, h4, rfl⟩ := walkOperation_inv h
  refine AllE.append (AllE.append (AllE.append (AllE.append ?_ ?_)
    (walkDirectives_sound s d (some op) _ _ _ _ _ op.dirs (Or.inr (Or.inr (Or.inl ⟨rfl, rfl⟩))) _))
    (walkLevel_sound s d (some op) (opExtra s op) fuel _ _ _ r4 h4)) (AllE.single ⟨rfl, trivial⟩)
  · exact walkVarDefsA_allE (vds := op.vars) (fun _ _ _ => ⟨rfl, trivial⟩) _ _ (fun _ h => h)
  · exact walkVarDefsB_allE (evSound_value s d (some op) _ _ _) op.vars
      (fun _ v dir hv hd => ⟨rfl, rfl, v.dirs, hd, Or.inr (Or.inr (Or.inr ⟨v, hv, rfl, rfl⟩))⟩)
      (fun _ v hv => ⟨rfl, _, Or.inr (Or.inr (Or.inr ⟨v, hv, rfl, rfl⟩))⟩) _ _ (fun _ h => h)

theorem walkFragment_sound (s : SV) (d : QueryDoc) (fuel : Nat) (f : FragmentDef) (l : Links)
    (r : Links × List Event) (h : walkFragment s d fuel f l = some r) : AllE (FragSound s d f) r.2 := by
  obtain ⟨r2, h2, rfl⟩ := walkFragment_inv h
  exact AllE.append (AllE.append
    (walkDirectives_sound s d none _ _ _ _ _ f.dirs (Or.inr (Or.inr ⟨rfl, rfl⟩)) _)
    (walkLevel_sound s d none (fragExtra f) fuel _ _ _ r2 h2)) (AllE.single ⟨rfl, trivial⟩)

def DocSound (s : SV) (d : QueryDoc) (e : Event) : Prop :=
  (∃ op ∈ d.ops, OpSound s d op e) ∨ (∃ f ∈ d.frags, FragSound s d f e)

theorem walkDoc_scope_sound (s : SV) (d : QueryDoc) (evs : List Event) (h : walkDoc s d = some evs) :
    AllE (DocSound s d) evs :=
  walkDoc_forall (fun op hop l r h e he => Or.inl ⟨op, hop, walkOperation_sound s d _ op l r h e he⟩)
    (fun f hf l r h e he => Or.inr ⟨f, hf, walkFragment_sound s d _ f l r h e he⟩) h

theorem walkDoc_op_sound (s : SV) (d : QueryDoc) (evs : List Event) (h : walkDoc s d = some evs)
    (e : Event) (he : e ∈ evs) (op : OperationDef) (hc : e.cur = some op) : op ∈ d.ops ∧ OpSound s d op e := by
  rcases walkDoc_scope_sound s d evs h e he with ⟨op', hop, hs⟩ | ⟨f, _, hs⟩
  · have : some op' = some op := hs.1.symm.trans hc
    injection this with this
    subst this
    exact ⟨hop, hs⟩
  · have : (none : Option OperationDef) = some op := hs.1.symm.trans hc
    cases this

end Gql.Validate
