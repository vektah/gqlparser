import GqlProofs.ValSpec.ValBlocks
import GqlProofs.ValSpec.VarNames
/-
  The variable usages in the scope of an operation, one ARGUMENT LIST at a time.  The specification collects the usages
  in the scope of `op` (`Spec.scopeUses`) from the argument lists of the field nodes and directives of the operation and
  of the fragment definitions it references; the walker walks each of these argument lists on behalf of `op`.  For
  well-parented documents with distinct fragment names, `scopeUses_site`: every usage in the scope of `op` lies in an
  argument site of the specification whose block has been walked on behalf of `op`; `event_block`: every value event
  lies in the block of such a site, all of whose usages are in the scope of the operation the event is fired for — or in
  the default value of a variable.  What a rule does with one argument block is then a fact about `walkArgs`.
-/
namespace Gql.Validate
open Gql Gql.Validate.Rules

theorem mem_usesInSel_typedV (s : Schema) (u : Spec.VarUse) : ∀ (sel : Selection) (parent : Option Definition),
    u ∈ Spec.usesInSel s parent sel → ∃ t ∈ Spec.typedSel s parent sel, u ∈ nodeUsesV s t :=
  fun sel parent => (mem_usesInSel_typed s u sel parent).1

theorem nodeUses_sub_usesInSel (s : Schema) (u : Spec.VarUse) : ∀ (sel : Selection) (parent : Option Definition),
    ∀ t ∈ Spec.typedSel s parent sel, u ∈ nodeUsesV s t → u ∈ Spec.usesInSel s parent sel :=
  fun sel parent t ht hu => (mem_usesInSel_typed s u sel parent).2 ⟨t, ht, hu⟩

theorem nodeUses_sub_usesInSels (s : Schema) (u : Spec.VarUse) : ∀ (sels : Selections) (parent : Option Definition),
    ∀ t ∈ Spec.typedSels s parent sels, u ∈ nodeUsesV s t → u ∈ Spec.usesInSels s parent sels :=
  fun sels parent t ht hu => (mem_usesInSels_typed s u sels parent).2 ⟨t, ht, hu⟩

theorem usesInDirs_args {s : Schema} {ds : List Directive} {u : Spec.VarUse} (h : u ∈ Spec.usesInDirs s ds) :
    ∃ defs args, u ∈ Spec.usesInArgs s defs args := by
  obtain ⟨dir, _, h⟩ := List.mem_flatMap.1 h
  exact ⟨_, _, h⟩

theorem nodeUsesV_args {s : Schema} {t : Spec.TSel} {u : Spec.VarUse} (h : u ∈ nodeUsesV s t) :
    ∃ defs args, u ∈ Spec.usesInArgs s defs args := by
  rcases List.mem_append.1 h with h | h
  · split at h
    · exact ⟨_, _, h⟩
    · cases h
  · exact usesInDirs_args h

theorem usesInSel_args {s : Schema} {parent : Option Definition} {x : Selection} {u : Spec.VarUse}
    (h : u ∈ Spec.usesInSel s parent x) : ∃ defs args, u ∈ Spec.usesInArgs s defs args := by
  obtain ⟨t, _, h⟩ := (mem_usesInSel_typed s u x parent).1 h
  exact nodeUsesV_args h

def ScopeNode (s : Schema) (d : QueryDoc) (op : OperationDef) (t : Spec.TSel) : Prop :=
  t ∈ Spec.typedSels s (Spec.rootDef s op.op) op.sel ∨
    ∃ g ∈ Spec.opFragments d op, t ∈ Spec.typedSels s (s.type? g.typeCond) g.sel

theorem mem_scopeUses_iff (s : Schema) (d : QueryDoc) (op : OperationDef) (u : Spec.VarUse) :
    u ∈ Spec.scopeUses s d op ↔
      (∃ v ∈ op.vars, u ∈ Spec.usesInDirs s v.dirs) ∨ u ∈ Spec.usesInDirs s op.dirs ∨
      (∃ g ∈ Spec.opFragments d op, u ∈ Spec.usesInDirs s g.dirs) ∨ ∃ t, ScopeNode s d op t ∧ u ∈ nodeUsesV s t := by
  simp only [Spec.scopeUses, Spec.usesInOperation, Spec.usesInFragment, List.mem_append, List.mem_flatMap,
    mem_usesInSels_typed, ScopeNode]
  constructor
  · rintro (((h | h) | ⟨t, ht, hu⟩) | ⟨g, hg, h | ⟨t, ht, hu⟩⟩)
    · exact .inl h
    · exact .inr (.inl h)
    · exact .inr (.inr (.inr ⟨t, .inl ht, hu⟩))
    · exact .inr (.inr (.inl ⟨g, hg, h⟩))
    · exact .inr (.inr (.inr ⟨t, .inr ⟨g, hg, ht⟩, hu⟩))
  · rintro (h | h | ⟨g, hg, h⟩ | ⟨t, ht | ⟨g, hg, ht⟩, hu⟩)
    · exact .inl (.inl (.inl h))
    · exact .inl (.inl (.inr h))
    · exact .inr ⟨g, hg, .inl h⟩
    · exact .inl (.inr ⟨t, ht, hu⟩)
    · exact .inr ⟨g, hg, .inr ⟨t, ht, hu⟩⟩

theorem scopeUses_args {s : Schema} {d : QueryDoc} {op : OperationDef} {u : Spec.VarUse}
    (h : u ∈ Spec.scopeUses s d op) : ∃ defs args, u ∈ Spec.usesInArgs s defs args := by
  rcases (mem_scopeUses_iff s d op u).1 h with ⟨_, _, h⟩ | h | ⟨_, _, h⟩ | ⟨_, _, h⟩
  · exact usesInDirs_args h
  · exact usesInDirs_args h
  · exact usesInDirs_args h
  · exact nodeUsesV_args h

theorem ScopeNode.docSels {s : Schema} {d : QueryDoc} {op : OperationDef} (hop : op ∈ d.ops) {t : Spec.TSel}
    (h : ScopeNode s d op t) : t ∈ Spec.docSels s d := by
  unfold Spec.docSels
  rcases h with h | ⟨g, hg, h⟩
  · exact List.mem_append_left _ (List.mem_flatMap.2 ⟨op, hop, h⟩)
  · exact List.mem_append_right _ (List.mem_flatMap.2 ⟨g, (List.mem_filter.1 hg).1, h⟩)

section
variable (s : Schema) (d : QueryDoc) (hwp : Spec.wellParented s d = true)
  (hfu : Spec.fragmentNameUniqueness d = true) (op : OperationDef) (hop : op ∈ d.ops)
include hwp hfu hop

theorem nodeScope_iff (par : Option Definition) (y : Selection) :
    NodeScope s.view d (Spec.spreadsOfSels op.sel) (InSelsW s.view (opRoot s.view op.op).1 op.sel) par y ↔
      ScopeNode s d op ⟨par, y⟩ := by
  have hwp' := wellParented_docSels hwp
  have hop' : ∀ t, t ∈ Spec.typedSels s (Spec.rootDef s op.op) op.sel → Spec.nodeWellParented t = true :=
    fun t ht => hwp' t (ScopeNode.docSels hop (.inl ht))
  have hfr : ∀ g ∈ Spec.opFragments d op, ∀ t ∈ Spec.typedSels s (s.type? g.typeCond) g.sel,
      Spec.nodeWellParented t = true := fun g hg t ht => hwp' t (ScopeNode.docSels hop (.inr ⟨g, hg, ht⟩))
  rw [opRoot_def]
  constructor
  · rintro (hi | ⟨n, g, hr, hg, hi⟩)
    · exact .inl ((inSelsW_iff s op.sel _ hop' par y).1 hi)
    · have hgo := (mem_opFragments_iff d hfu op g).2 ⟨n, hr, hg⟩
      exact .inr ⟨g, hgo, (inSelsW_iff s g.sel _ (hfr g hgo) par y).1 hi⟩
  · rintro (ht | ⟨g, hgo, ht⟩)
    · exact .inl ((inSelsW_iff s op.sel _ hop' par y).2 ht)
    · obtain ⟨n, hr, hg⟩ := (mem_opFragments_iff d hfu op g).1 hgo
      exact .inr ⟨n, g, hr, hg, (inSelsW_iff s g.sel _ (hfr g hgo) par y).2 ht⟩

variable (evs : List Event) (hw : walkDoc s.view d = some evs)
include hw

theorem scopeUses_site {u : Spec.VarUse} (hu : u ∈ Spec.scopeUses s d op) :
    ∃ site ∈ Spec.argSites s d, u ∈ Spec.usesInArgs s site.defs site.args ∧
      ∃ ws, ∀ e ∈ (walkArgs s.view (some op) site.defs site.args ws).2, e ∈ evs := by
  have hB := walkDoc_blocks (valInv_sites s.view d) evs hw
  have hscope := walkDoc_scope_complete s.view d evs hw op hop
  have hdirs : ∀ {loc ds}, HasDirsC s.view (some op) loc ds evs → u ∈ Spec.usesInDirs s ds →
      ∃ site ∈ Spec.argSites s d, u ∈ Spec.usesInArgs s site.defs site.args ∧
        ∃ ws, ∀ e ∈ (walkArgs s.view (some op) site.defs site.args ws).2, e ∈ evs := by
    intro loc ds h hu
    obtain ⟨dir, hdir, hu⟩ := List.mem_flatMap.1 hu
    obtain ⟨e', he', par, hc, hp⟩ := h.2 dir hdir
    obtain ⟨ws, hsub⟩ := hB.dirArgs e' he' dir _ par loc hp
    refine ⟨⟨(s.directive? dir.name).map (·.args), dir.args⟩, List.mem_append_right _ ?_, hu, ws, hc ▸ hsub⟩
    exact List.mem_map.2 ⟨dir, (directive_event_sound' s d evs hw e' he' dir _ par loc hp).2, rfl⟩
  rcases (mem_scopeUses_iff s d op u).1 hu with ⟨v, hv, hu⟩ | hu | ⟨g, hg, hu⟩ | ⟨t, ht, hu⟩
  · exact hdirs (hscope.varDirs v hv) hu
  · exact hdirs hscope.opDirs hu
  · obtain ⟨n, hr, hgn⟩ := (mem_opFragments_iff d hfu op g).1 hg
    exact hdirs (hscope.fragDirs n g hr hgn) hu
  · obtain ⟨hn, hd⟩ := hscope.nodes t.parent t.sel ((nodeScope_iff s d hwp hfu op hop _ _).2 ht)
    rcases List.mem_append.1 hu with hu | hu
    · obtain ⟨par, sel⟩ := t
      cases sel with
      | field al nm args dirs sub p =>
        obtain ⟨e', he', hc, hp⟩ := hn
        obtain ⟨ws, hsub⟩ := hB.fieldArgs e' he' _ _ _ hp
        rw [hc, wFieldDef_eq par al nm args dirs sub p (wellParented_docSels hwp _ (ht.docSels hop))] at hsub
        refine ⟨⟨_, args⟩, List.mem_append_left _ ?_, hu, ws, hsub⟩
        exact List.mem_filterMap.2 ⟨_, ht.docSels hop, rfl⟩
      | spread nm dirs p => cases hu
      | inline tc dirs sub p => cases hu
    · exact hdirs hd hu

theorem block_uses_scope (e' : Event) (he' : e' ∈ evs) (hc : e'.cur = some op) :
    (∀ f par fd, e'.p = .field f par fd → ∀ u ∈ Spec.usesInArgs s (fd.map (·.args)) f.args, u ∈ Spec.scopeUses s d op) ∧
    (∀ dir dd par loc, e'.p = .directive dir dd par loc →
      ∀ u ∈ Spec.usesInArgs s (dd.map (·.args)) dir.args, u ∈ Spec.scopeUses s d op) := by
  have h2 := (walkDoc_op_sound s.view d evs hw e' he' op hc).2.2
  have hnode : ∀ par y, NodeScope s.view d (Spec.spreadsOfSels op.sel) (InSelsW s.view (opRoot s.view op.op).1 op.sel) par y →
      ∀ u ∈ nodeUsesV s ⟨par, y⟩, u ∈ Spec.scopeUses s d op := fun par y hn u hu =>
    (mem_scopeUses_iff s d op u).2 (.inr (.inr (.inr ⟨_, (nodeScope_iff s d hwp hfu op hop par y).1 hn, hu⟩)))
  constructor
  · intro f par fd hp u hu
    simp only [hp] at h2
    have hwpn := wellParented_docSels hwp _ (((nodeScope_iff s d hwp hfu op hop _ _).1 h2.1).docSels hop)
    refine hnode _ _ h2.1 u (List.mem_append_left _ ?_)
    simp only
    rw [← wFieldDef_eq par f.alias f.name f.args f.dirs f.sel f.pos hwpn, ← h2.2]
    exact hu
  · intro dir dd par loc hp u hu
    simp only [hp] at h2
    obtain ⟨hdd, ds, hdir, hds⟩ := h2
    rw [hdd] at hu
    have hud : u ∈ Spec.usesInDirs s ds := List.mem_flatMap.2 ⟨dir, hdir, hu⟩
    rcases hds with ⟨par', y, hy, _, rfl⟩ | ⟨n, g, hr, hg, _, rfl⟩ | ⟨_, rfl⟩ | ⟨v, hv, _, rfl⟩
    · exact hnode par' y hy u (List.mem_append_right _ hud)
    · exact (mem_scopeUses_iff s d op u).2 (.inr (.inr (.inl ⟨g, (mem_opFragments_iff d hfu op g).2 ⟨n, hr, hg⟩, hud⟩)))
    · exact (mem_scopeUses_iff s d op u).2 (.inr (.inl hud))
    · exact (mem_scopeUses_iff s d op u).2 (.inl ⟨v, hv, hud⟩)

end

section
variable (s : Schema) (d : QueryDoc) (evs : List Event) (hw : walkDoc s.view d = some evs)
  (hwp : Spec.wellParented s d = true)
include hw hwp

theorem event_block (hfu : Spec.fragmentNameUniqueness d = true) (e : Event) (he : e ∈ evs) (w : Value)
    (exp : Option GType) (dfn : Option Definition) (hp : e.p = .value w exp dfn) :
    (∃ site ∈ Spec.argSites s d, ∃ ws, e ∈ (walkArgs s.view e.cur site.defs site.args ws).2 ∧
        ∀ op, e.cur = some op → ∀ u ∈ Spec.usesInArgs s site.defs site.args, u ∈ Spec.scopeUses s d op) ∨
    (∃ op ∈ d.ops, ∃ vd ∈ op.vars, ∃ dv ws, vd.default = some dv ∧ e.cur = some op ∧
        e ∈ (walkValue s.view (some op) (some vd.type) (s.type? vd.type.name) dv ws).2) := by
  have hscope : ∀ (e' : Event), e' ∈ evs → e'.cur = e.cur → ∀ op, e.cur = some op → _ := fun e' he' hc' op hc =>
    block_uses_scope s d hwp hfu op (walkDoc_op_sound s.view d evs hw e' he' op (hc'.trans hc)).1 evs hw e' he'
      (hc'.trans hc)
  rcases walkDoc_value_origin s.view d evs hw e he w _ _ hp with
    ⟨e', he', f, par, fd, ws, hp', hc', hin⟩ | ⟨e', he', dir, dd, par, loc, ws, hp', hc', hin⟩ | h
  · exact .inl ⟨_, (block_site s d evs hw hwp e' he').1 f par fd hp', ws, hin,
      fun op hc => (hscope e' he' hc' op hc).1 f par fd hp'⟩
  · exact .inl ⟨_, (block_site s d evs hw hwp e' he').2 dir dd par loc hp', ws, hin,
      fun op hc => (hscope e' he' hc' op hc).2 dir dd par loc hp'⟩
  · exact .inr h

end

end Gql.Validate
