import GqlProofs.Validate.OpEvents
/-
  The walker's `used` set (the variable definitions that got `Used = true`) in terms of events:
  a name is in `used` after a walk iff it was there before or the walk fired a `value` event for a
  variable of that name which the current operation defines.
-/
namespace Gql.Validate
open Gql

def VarUseEv (cur : Option OperationDef) (x : Name) (e : Event) : Prop :=
  ∃ op, cur = some op ∧ e.cur = cur ∧ (varForName op.vars x).isSome = true ∧
    ∃ ch p exp dfn, e.p = .value (.mk .variable x ch p) exp dfn

def UsedInv (cur : Option OperationDef) (ws : WS) (r : WS × List Event) : Prop :=
  ∀ x, x ∈ r.1.used ↔ (x ∈ ws.used ∨ ∃ e ∈ r.2, VarUseEv cur x e)

theorem UsedInv.refl (cur : Option OperationDef) (ws : WS) : UsedInv cur ws (ws, []) := by
  intro x
  simp

theorem UsedInv.seq {cur : Option OperationDef} {ws : WS} {r1 r2 : WS × List Event}
    (h1 : UsedInv cur ws r1) (h2 : UsedInv cur r1.1 r2) : UsedInv cur ws (r2.1, r1.2 ++ r2.2) := by
  intro x
  rw [h2 x, h1 x]
  simp only [List.mem_append]
  constructor
  · rintro ((h | ⟨e, he, hv⟩) | ⟨e, he, hv⟩)
    · exact Or.inl h
    · exact Or.inr ⟨e, Or.inl he, hv⟩
    · exact Or.inr ⟨e, Or.inr he, hv⟩
  · rintro (h | ⟨e, he | he, hv⟩)
    · exact Or.inl (Or.inl h)
    · exact Or.inl (Or.inr ⟨e, he, hv⟩)
    · exact Or.inr ⟨e, he, hv⟩

theorem UsedInv.post {cur : Option OperationDef} {ws : WS} {r : WS × List Event} (h : UsedInv cur ws r)
    (e : Event) (hne : ∀ x, ¬ VarUseEv cur x e) : UsedInv cur ws (r.1, r.2 ++ [e]) := by
  intro x
  rw [h x]
  simp only [List.mem_append, List.mem_singleton]
  constructor
  · rintro (h | ⟨e', he, hv⟩)
    · exact Or.inl h
    · exact Or.inr ⟨e', Or.inl he, hv⟩
  · rintro (h | ⟨e', he | he, hv⟩)
    · exact Or.inl h
    · exact Or.inr ⟨e', he, hv⟩
    · subst he
      exact absurd hv (hne x)

theorem not_varUseEv_of_not_value {cur : Option OperationDef} {e : Event} (hne : ∀ v exp dfn, e.p ≠ .value v exp dfn)
    (x : Name) : ¬ VarUseEv cur x e :=
  fun ⟨_, _, _, _, _, _, _, _, hp⟩ => hne _ _ _ hp

theorem UsedInv.start {cur : Option OperationDef} {ws ws' : WS} {r : WS × List Event} (h : UsedInv cur ws' r)
    (hu : ws.used = ws'.used) : UsedInv cur ws r := by
  intro x
  rw [h x, hu]

theorem emit_used (cur : Option OperationDef) : ∀ (l : List VSite) (ws : WS), UsedInv cur ws (emit cur ws l) := by
  refine emit_rel (UsedInv.refl cur) UsedInv.seq fun ws x => ?_
  obtain ⟨exp, dfn, k, raw, ch, p⟩ := x
  by_cases hk : k = .variable
  · subst hk
    cases cur with
    | none => exact (UsedInv.refl none ws).post _ fun x ⟨_, hc, _⟩ => nomatch hc
    | some op =>
      intro x
      have hev : (∃ e ∈ [(⟨some op, (varMark (some op) .variable raw p ws).links,
          .value (.mk .variable raw ch p) exp dfn⟩ : Event)], VarUseEv (some op) x e) ↔
          x = raw ∧ (varForName op.vars raw).isSome = true := by
        constructor
        · rintro ⟨e, he, op', hc, _, hd, _, _, _, _, hp⟩
          rw [List.mem_singleton.1 he] at hp
          cases hc
          cases hp
          exact ⟨rfl, hd⟩
        · rintro ⟨rfl, hd⟩
          exact ⟨_, List.mem_singleton.2 rfl, op, rfl, rfl, hd, ch, p, exp, dfn, rfl⟩
      simp only [siteMark, VSite.payload, Value.kind, Value.raw, Value.pos]
      rw [hev]
      simp only [varMark]
      split <;> simp [*, Or.comm]
  · rw [siteMark_of_ne cur (x := (exp, dfn, .mk k raw ch p)) hk]
    refine (UsedInv.refl cur ws).post _ ?_
    rintro x ⟨_, _, _, _, _, _, _, _, hp⟩
    cases hp
    exact hk rfl

section values
variable (s : SV) (cur : Option OperationDef)

theorem walkValue_used (exp : Option GType) (dfn : Option Definition) :
    ∀ (v : Value) (ws : WS), UsedInv cur ws (walkValue s cur exp dfn v ws) :=
  fun v ws => by rw [walkValue_emit]; exact emit_used cur _ ws

theorem walkObjChildren_used (dfn : Option Definition) :
    ∀ (ch : Children) (ws : WS), UsedInv cur ws (walkObjChildren s cur dfn ch ws) :=
  fun ch ws => by rw [walkObjChildren_emit]; exact emit_used cur _ ws

theorem walkListChildren_used (exp : Option GType) (dfn : Option Definition) :
    ∀ (ch : Children) (ws : WS), UsedInv cur ws (walkListChildren s cur exp dfn ch ws) :=
  fun ch ws => by rw [walkListChildren_emit]; exact emit_used cur _ ws

theorem walkArgs_used (ad : Option (List ArgDef)) :
    ∀ (as : List Argument) (ws : WS), UsedInv cur ws (walkArgs s cur ad as ws) :=
  fun as ws => by rw [walkArgs_emit]; exact emit_used cur _ ws

theorem walkDirectiveItems_used (parent : Option Definition) (loc : Bytes) :
    ∀ (ds : List Directive) (ws : WS), UsedInv cur ws (walkDirectiveItems s cur parent loc ds ws)
  | [], ws => UsedInv.refl cur ws
  | dir :: rest, ws => by
    simp only [walkDirectiveItems]
    have h1 := (walkArgs_used s cur ((s.directive? dir.name).map (·.args)) dir.args ws).post
      ⟨cur, (walkArgs s cur ((s.directive? dir.name).map (·.args)) dir.args ws).1.links,
        .directive dir (s.directive? dir.name) parent loc⟩
      (not_varUseEv_of_not_value fun _ _ _ h => Payload.noConfusion h)
    have := h1.seq (walkDirectiveItems_used parent loc rest _)
    simpa [List.append_assoc] using this

theorem walkDirectives_used (parent : Option Definition) (ds : List Directive) (loc : Bytes) (ws : WS) :
    UsedInv cur ws (walkDirectives s cur parent ds loc ws) := by
  simp only [walkDirectives]
  exact (walkDirectiveItems_used s cur parent loc ds ws).post _ (not_varUseEv_of_not_value fun _ _ _ h => Payload.noConfusion h)

end values

def JumpU (cur : Option OperationDef) (J : Jump) : Prop :=
  ∀ parent sels (ws : WS) r, J parent sels ws = some r → UsedInv cur ws r

section sel
variable (s : SV) (d : QueryDoc) (cur : Option OperationDef)

theorem used_cases (J : Jump) (hJ : JumpU cur J) :
    WalkCases s d cur J (fun _ _ ws r => UsedInv cur ws r) (fun _ _ ws r => UsedInv cur ws r) where
  field := fun _ _ _ args dirs _ p ws _ _ ih =>
    ((((walkArgs_used s cur _ args (ws.markSel p.start)).start (ws := ws) rfl).seq
      (walkDirectives_used s cur _ dirs locField _)).seq ih).post _
      (not_varUseEv_of_not_value fun _ _ _ h => Payload.noConfusion h)
  inline := fun _ _ dirs _ p ws _ _ ih =>
    (((walkDirectives_used s cur _ dirs locInlineFragment (ws.markSel p.start)).start (ws := ws) rfl).seq ih).post _
      (not_varUseEv_of_not_value fun _ _ _ h => Payload.noConfusion h)
  spreadStop := fun _ _ dirs p ws _ =>
    ((walkDirectives_used s cur _ dirs locFragmentSpread (ws.markSel p.start)).start (ws := ws) rfl).post _
      (not_varUseEv_of_not_value fun _ _ _ h => Payload.noConfusion h)
  spreadJump := fun _ _ dirs p ws f r3 _ _ h3 =>
    (((((walkDirectives_used s cur _ dirs locFragmentSpread (ws.markSel p.start)).start (ws := ws) rfl).seq
      -- parent and start state written out: left to unification against the clause they take a second to elaborate
      ((walkDirectives_used s cur (s.type? f.typeCond) f.dirs locFragmentDefinition
        { (walkDirectives s cur (s.type? f.typeCond) dirs locFragmentSpread (ws.markSel p.start)).1 with
          visited := f.name :: ws.visited }).start
        (ws := (walkDirectives s cur (s.type? f.typeCond) dirs locFragmentSpread (ws.markSel p.start)).1) rfl)).seq
      (hJ _ _ _ r3 h3)).post _
      (not_varUseEv_of_not_value fun _ _ _ h => Payload.noConfusion h))
  nil := fun _ ws => UsedInv.refl cur ws
  cons := fun _ _ _ _ _ _ _ _ h1 h2 => h1.seq h2

theorem walkSelection_used (J : Jump) (hJ : JumpU cur J) :
    ∀ (x : Selection) (parent : Option Definition) (ws : WS) r,
      walkSelection s d cur J parent x ws = some r → UsedInv cur ws r :=
  walkSelection_induct (used_cases s d cur J hJ)

theorem walkLevel_used : ∀ n, JumpU cur (walkLevel s d cur n) :=
  walkLevel_induct (used_cases s d cur)

end sel

theorem walkVarDefsB_used (s : SV) (cur : Option OperationDef) :
    ∀ (vs : List VarDef) (ws : WS), UsedInv cur ws (walkVarDefsB s cur vs ws)
  | [], ws => UsedInv.refl cur ws
  | v :: rest, ws => by
    simp only [walkVarDefsB]
    refine (UsedInv.seq ?_ (walkDirectives_used s cur _ v.dirs _ _)).seq (walkVarDefsB_used s cur rest _)
    cases v.default with
    | none => exact UsedInv.refl cur ws
    | some dv => exact walkValue_used s cur _ _ dv ws

theorem walkVarDefsA_not_value (s : SV) (cur : Option OperationDef) (ws : WS) :
    ∀ (vs : List VarDef), ∀ e ∈ walkVarDefsA s cur ws vs, ∀ v exp dfn, e.p ≠ .value v exp dfn
  | [], e, he, _, _, _ => by cases he
  | v :: rest, e, he, _, _, _ => by
    simp only [walkVarDefsA, List.mem_cons] at he
    rcases he with rfl | he
    · intro h; cases h
    · exact walkVarDefsA_not_value s cur ws rest e he _ _ _

theorem walkOperation_used (s : SV) (d : QueryDoc) (fuel : Nat) (op : OperationDef) (l : Links)
    (r : Links × List Event) (h : walkOperation s d fuel op l = some r) :
    ∃ used, (∀ e ∈ r.2, ∀ op' flags, e.p = .operation op' flags →
        op' = op ∧ e.links = r.1 ∧ flags = usedFlags used op.vars []) ∧
      ∀ x, x ∈ used ↔ ∃ e ∈ r.2, VarUseEv (some op) x e := by
  obtain ⟨r4, h4, rfl⟩ := walkOperation_inv h
  refine ⟨r4.1.used, ?_, ?_⟩
  · intro e he op' flags hp
    rcases List.mem_append.1 he with he | he
    · have hin := AllP.append (P := fun p => p.isOperation = false) (AllP.append (AllP.append
        (walkVarDefsA_allE (P := fun e => e.p.isOperation = false) (vds := op.vars) (fun _ _ _ => rfl) _ _ (fun _ h => h))
        (walkVarDefsB_all (notOp_selSites s d).toValSites (some op) op.vars _))
        (walkDirectives_all (notOp_selSites s d).toValSites (some op) (opRoot s op.op).1 op.dirs (opRoot s op.op).2 _))
        (walkLevel_all (notOp_selSites s d) (some op) fuel _ _ _ r4 (fun _ _ => trivial) h4) e he
      rw [hp] at hin
      cases hin
    · obtain rfl := List.mem_singleton.1 he
      injection hp with h1 h2
      exact ⟨h1.symm, rfl, h2.symm⟩
  have h2 := walkVarDefsB_used s (some op) op.vars { visited := [], links := l, used := [] }
  have h3 := walkDirectives_used s (some op) (opRoot s op.op).1 op.dirs (opRoot s op.op).2
    (walkVarDefsB s (some op) op.vars { visited := [], links := l, used := [] }).1
  have h4' := walkLevel_used s d (some op) fuel _ _ _ r4 h4
  have hall := (h2.seq h3).seq h4'
  intro x
  rw [hall x]
  simp only [List.not_mem_nil, false_or, List.mem_append, List.mem_singleton]
  constructor
  · rintro ⟨e, he, hv⟩
    refine ⟨e, Or.inl ?_, hv⟩
    rcases he with (he | he) | he
    · exact Or.inr he |> Or.inl |> Or.inl
    · exact Or.inr he |> Or.inl
    · exact Or.inr he
  · rintro ⟨e, he, hv⟩
    rcases he with (((he | he) | he) | he) | he
    ·
      exfalso
      obtain ⟨_, _, _, _, ch, p, exp, dfn, hp⟩ := hv
      exact walkVarDefsA_not_value s (some op) _ op.vars e he _ _ _ hp
    · exact ⟨e, Or.inl (Or.inl he), hv⟩
    · exact ⟨e, Or.inl (Or.inr he), hv⟩
    · exact ⟨e, Or.inr he, hv⟩
    · subst he
      obtain ⟨_, _, _, _, ch, p, exp, dfn, hp⟩ := hv
      cases hp

end Gql.Validate
