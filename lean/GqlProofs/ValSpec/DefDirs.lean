import GqlProofs.ValSpec.Complete
import GqlProofs.Validate.RuleFuel
/-
  The directives of a fragment DEFINITION are walked on behalf of every operation that enters the
  fragment (walk.go, `walkSelection`, FragmentSpread case: on the first visit of the fragment in a
  walk `walkDirectives(nextParentDef, def.Directives, LocationFragmentDefinition)` runs before the
  fragment's selection set), so the variables used there are linked to — and marked used in — the
  operation, and the directive / value observers see them with `CurrentOperation` set.
  Invariant of a walk from visited set `v` to `v'`: (mono) v ⊆ v'; (A) every name in v' \ v is a
  fragment whose definition directives have events in this walk; (B) every spread written in the
  walked selections whose fragment exists is in v'.
-/
namespace Gql.Validate
open Gql

def DefDirsWalked (s : SV) (d : QueryDoc) (cur : Option OperationDef) (evs : List Event) (n : Name) : Prop :=
  ∃ f, fragForName d n = some f ∧ HasDirsCur s cur (s.type? f.typeCond) locFragmentDefinition f.dirs evs

theorem DefDirsWalked.mono {s : SV} {d : QueryDoc} {cur : Option OperationDef} {a b : List Event} (hs : ∀ e ∈ a, e ∈ b)
    {n : Name} (h : DefDirsWalked s d cur a n) : DefDirsWalked s d cur b n := by
  obtain ⟨f, hf, hd⟩ := h
  exact ⟨f, hf, hd.mono hs⟩

/-- (mono) and (A) of the header, for a walk from state `ws` with result `r` -/
def WalkDD (s : SV) (d : QueryDoc) (cur : Option OperationDef) (ws : WS) (r : WS × List Event) : Prop :=
  ws.visited ⊆ r.1.visited ∧ ∀ n ∈ r.1.visited, n ∈ ws.visited ∨ DefDirsWalked s d cur r.2 n

def JumpDD (s : SV) (d : QueryDoc) (cur : Option OperationDef) (J : Jump) : Prop :=
  ∀ parent sels (ws : WS) r, J parent sels ws = some r → WalkDD s d cur ws r

abbrev SpreadIn (x : Selection) (nm : Name) : Prop := ∃ dirs p, InSel x (.sel (.spread nm dirs p))
abbrev SpreadInSels (xs : Selections) (nm : Name) : Prop := ∃ dirs p, InSels xs (.sel (.spread nm dirs p))

theorem spreadIn_spread {nm nm' : Name} {dirs : List Directive} {p : Pos} (h : SpreadIn (.spread nm dirs p) nm') : nm' = nm := by
  obtain ⟨ds, q, hi⟩ := h
  cases hi
  rfl

theorem walkSel_dd_cases (s : SV) (d : QueryDoc) (cur : Option OperationDef) (J : Jump) (hJ : JumpDD s d cur J) :
    WalkCases s d cur J
      (fun _ x ws r => WalkDD s d cur ws r ∧ ∀ nm f, SpreadIn x nm → fragForName d nm = some f → nm ∈ r.1.visited)
      (fun _ xs ws r => WalkDD s d cur ws r ∧ ∀ nm f, SpreadInSels xs nm → fragForName d nm = some f → nm ∈ r.1.visited) where
  field := fun _ _ _ _ _ _ _ _ _ _ ⟨⟨m, a⟩, b⟩ => by
    simp only [walkDirectives_visited, walkArgs_visited, markSel_visited] at m a
    refine ⟨⟨m, fun n hn => (a n hn).imp_right ?_⟩, fun nm' f ⟨ds, q, hi⟩ hf => ?_⟩
    · exact DefDirsWalked.mono (sub_mid _ _)
    · cases hi with
      | fieldSub _ _ _ _ _ _ _ hs' => exact b nm' f ⟨ds, q, hs'⟩ hf
  inline := fun _ _ _ _ _ _ _ _ ⟨⟨m, a⟩, b⟩ => by
    simp only [walkDirectives_visited, markSel_visited] at m a
    refine ⟨⟨m, fun n hn => (a n hn).imp_right ?_⟩, fun nm' f ⟨ds, q, hi⟩ hf => ?_⟩
    · exact DefDirsWalked.mono (sub_mid _ _)
    · cases hi with
      | inlineSub _ _ _ _ _ hs' => exact b nm' f ⟨ds, q, hs'⟩ hf
  spreadStop := fun _ nm _ _ ws hdef => by
    simp only [WalkDD, walkDirectives_visited, markSel_visited]
    refine ⟨⟨fun _ hx => hx, fun n hn => Or.inl hn⟩, fun nm' f hs hf => ?_⟩
    rw [spreadIn_spread hs] at hf ⊢
    rw [← fragForName_name hf]
    exact hdef f hf
  spreadJump := fun _ nm _ _ ws f r3 hf _ h3 => by
    have hname := fragForName_name hf
    obtain ⟨m, a⟩ := hJ _ _ _ r3 h3
    simp only [walkDirectives_visited] at m a
    refine ⟨⟨fun x hx => m (List.mem_cons_of_mem _ hx), fun n hn => ?_⟩, fun nm' f' hs _ => ?_⟩
    · rcases a n hn with h1 | h1
      · rcases List.mem_cons.1 h1 with h2 | h2
        · right
          refine ⟨f, by rw [h2, hname]; exact hf, ?_⟩
          exact HasDirsCur.mono (sub_left (sub_mid _ _) _)
            (walkDirectives_complete_cur s cur (s.type? f.typeCond) f.dirs locFragmentDefinition _)
        · exact Or.inl h2
      · exact Or.inr (h1.mono (sub_mid _ _))
    · rw [spreadIn_spread hs, ← hname]
      exact m List.mem_cons_self
  nil := fun _ _ => ⟨⟨fun _ hx => hx, fun n hn => Or.inl hn⟩, fun nm f ⟨_, _, hi⟩ _ => by cases hi⟩
  cons := fun _ _ _ _ _ _ _ _ ⟨⟨m1, a1⟩, b1⟩ ⟨⟨m2, a2⟩, b2⟩ => by
    refine ⟨⟨fun n hn => m2 (m1 hn), fun n hn => ?_⟩, fun nm f ⟨ds, q, hi⟩ hf => ?_⟩
    · rcases a2 n hn with h3 | h3
      · exact (a1 n h3).imp_right (DefDirsWalked.mono fun e he => List.mem_append_left _ he)
      · exact Or.inr (h3.mono fun e he => List.mem_append_right _ he)
    · cases hi with
      | head _ _ _ hx => exact m2 (b1 nm f ⟨ds, q, hx⟩ hf)
      | tail _ _ _ hx => exact b2 nm f ⟨ds, q, hx⟩ hf

theorem walkSelection_dd (s : SV) (d : QueryDoc) (cur : Option OperationDef) (J : Jump) (hJ : JumpDD s d cur J) :
    ∀ (x : Selection) (parent : Option Definition) (ws : WS) r, walkSelection s d cur J parent x ws = some r →
      WalkDD s d cur ws r ∧ ∀ nm f, SpreadIn x nm → fragForName d nm = some f → nm ∈ r.1.visited :=
  walkSelection_induct (walkSel_dd_cases s d cur J hJ)

theorem walkDoc_defDirs (s : SV) (d : QueryDoc) (evs : List Event) (h : walkDoc s d = some evs) :
    ∀ op ∈ d.ops, ∀ nm f, SpreadInSels op.sel nm → fragForName d nm = some f →
      HasDirsCur s (some op) (s.type? f.typeCond) locFragmentDefinition f.dirs evs := by
  intro op hop nm f hs hf
  obtain ⟨l, r, hr, hsub⟩ := walkDoc_op_events h hop
  obtain ⟨r4, h4, rfl⟩ := walkOperation_inv hr
  obtain ⟨⟨_, a⟩, b⟩ := walkLevel_induct
    (fun J hJ => walkSel_dd_cases s d (some op) J fun p x w r h => (hJ p x w r h).1) _ _ _ _ r4 h4
  rcases a nm (b nm f hs hf) with h1 | ⟨f', hf', hd⟩
  · simp only [walkDirectives_visited, walkVarDefsB_visited] at h1
    cases h1
  · rw [hf] at hf'
    injection hf' with hf'
    subst hf'
    exact hd.mono fun e he => hsub e (List.mem_append_left _ (List.mem_append_right _ he))

end Gql.Validate
