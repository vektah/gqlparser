import GqlProofs.ValSpec.ValueDoc
/-
  C09: `Spec.expectedLinks` — the list of demanded links the `linkscheck` op compares a link dump
  with — as the RENDERING of a list of structured demands (`Demand`: the node itself with its
  declarative context), `expectedLinks_eq`.  The capstone of C09 is stated over these demands, at the
  end: every structured demand of the document is MET by the run — there is an event about the node of
  the demand that carries exactly the demanded link (`docDemands_met`).  For an inline fragment "met"
  records what the walker does (the enclosing type), which is not what `Spec.selLinks` demands: the
  recorded known finding.
-/
namespace Gql.Validate
open Gql

/-- one demanded link: the node and what the specification's typing says about it -/
inductive Demand
  /-- a field node selected on `parent` -/
  | field (f : FieldNode) (parent : Option Definition)
  | spread (f : SpreadNode)
  /-- an inline fragment written where the type in scope is `parent` -/
  | inline (f : InlineNode) (parent : Option Definition)
  /-- a directive written at location `loc` -/
  | directive (dir : Directive) (loc : Bytes)
  | varDef (v : VarDef)
  | fragDef (f : FragmentDef)
  /-- a value node; `cands`: the admissible `var=` texts of a variable use of a given name -/
  | value (cands : Name → List String) (o : ValOcc)

/-- the expected-link record `linkscheck` uses for a demand -/
def Demand.render (s : Schema) (d : QueryDoc) : Demand → Spec.ExpLink
  | .field f parent =>
    { start := f.pos.start, kind := "F",
      fields := Spec.demand "obj" (parent.map fun x => bytesToString x.name) ++
        Spec.demand "def" ((parent.bind (Spec.fieldDefOn · f.name)).map fun x =>
          bytesToString x.name ++ ":" ++ bytesToString x.type.render),
      varCands := none }
  | .spread f =>
    { start := f.pos.start, kind := "S",
      fields := Spec.demand "def" ((Spec.fragByName d f.name).map fun g =>
        bytesToString g.name ++ "@" ++ toString g.pos.start),
      varCands := none }
  | .inline f parent =>
    { start := f.pos.start, kind := "I",
      fields := Spec.demand "obj" ((Spec.inlineType s parent f.typeCond).map fun x => bytesToString x.name),
      varCands := none }
  | .directive dir loc =>
    { start := dir.pos.start, kind := "D",
      fields := Spec.demand "def" ((s.directive? dir.name).map fun x => bytesToString x.name) ++
        [("loc", bytesToString loc)],
      varCands := none }
  | .varDef v =>
    { start := v.pos.start, kind := "VD",
      fields := Spec.demand "def" ((s.type? v.type.name).map fun x => bytesToString x.name), varCands := none }
  | .fragDef f =>
    { start := f.pos.start, kind := "FD",
      fields := Spec.demand "def" ((s.type? f.typeCond).map fun x => bytesToString x.name), varCands := none }
  | .value cands o => o.toExpLink cands

def argDemands (s : Schema) (cands : Name → List String) (defs : Option (List ArgDef)) (args : List Argument) :
    List Demand :=
  (argOccs s defs args).map (.value cands)

def dirDemands (s : Schema) (cands : Name → List String) (loc : Bytes) (dirs : List Directive) : List Demand :=
  dirs.flatMap fun dir => .directive dir loc :: argDemands s cands ((s.directive? dir.name).map (·.args)) dir.args

def nodeDemands (s : Schema) (cands : Name → List String) (t : Spec.TSel) : List Demand :=
  match t.sel with
  | .field al nm args dirs sub p =>
    .field ⟨al, nm, args, dirs, sub, p⟩ t.parent ::
      (argDemands s cands ((t.parent.bind (Spec.fieldDefOn · nm)).map (·.args)) args ++
        dirDemands s cands (str "FIELD") dirs)
  | .spread nm dirs p => .spread ⟨nm, dirs, p⟩ :: dirDemands s cands (str "FRAGMENT_SPREAD") dirs
  | .inline tc dirs sub p => .inline ⟨tc, dirs, sub, p⟩ t.parent :: dirDemands s cands (str "INLINE_FRAGMENT") dirs

theorem argDemands_render (s : Schema) (d : QueryDoc) (cands : Name → List String) (defs : Option (List ArgDef))
    (args : List Argument) : (argDemands s cands defs args).map (Demand.render s d) = Spec.argLinks s cands defs args := by
  rw [argLinks_eq, argDemands, List.map_map]
  rfl

theorem dirDemands_render (s : Schema) (d : QueryDoc) (cands : Name → List String) (loc : Bytes) :
    ∀ dirs : List Directive, (dirDemands s cands loc dirs).map (Demand.render s d) = Spec.dirLinks s cands loc dirs
  | [] => rfl
  | dir :: rest => by
    have ih := dirDemands_render s d cands loc rest
    simp only [dirDemands, Spec.dirLinks, List.flatMap_cons, List.map_append, List.map_cons] at ih ⊢
    rw [ih, argDemands_render]
    rfl

mutual
  theorem selLinks_eq (s : Schema) (d : QueryDoc) (cands : Name → List String) :
      ∀ (x : Selection) (parent : Option Definition),
        Spec.selLinks s d cands parent x =
          ((Spec.typedSel s parent x).flatMap (nodeDemands s cands)).map (Demand.render s d)
    | .field al nm args dirs sub p, parent => by
      simp only [Spec.selLinks, Spec.typedSel, List.flatMap_cons, nodeDemands, List.map_append, List.map_cons,
        argDemands_render, dirDemands_render, selsLinks_eq s d cands sub, List.cons_append, List.append_assoc]
      rfl
    | .spread nm dirs p, parent => by
      simp only [Spec.selLinks, Spec.typedSel, List.flatMap_cons, List.flatMap_nil, nodeDemands,
        List.map_cons, dirDemands_render, List.append_nil]
      rfl
    | .inline tc dirs sub p, parent => by
      simp only [Spec.selLinks, Spec.typedSel, List.flatMap_cons, nodeDemands, List.map_append, List.map_cons,
        dirDemands_render, selsLinks_eq s d cands sub, List.cons_append]
      rfl
  theorem selsLinks_eq (s : Schema) (d : QueryDoc) (cands : Name → List String) :
      ∀ (xs : Selections) (parent : Option Definition),
        Spec.selsLinks s d cands parent xs =
          ((Spec.typedSels s parent xs).flatMap (nodeDemands s cands)).map (Demand.render s d)
    | .nil, _ => rfl
    | .cons x rest, parent => by
      simp only [Spec.selsLinks, Spec.typedSels, List.flatMap_append, List.map_append, selLinks_eq s d cands x,
        selsLinks_eq s d cands rest]
end

/-- the default value of a variable: the node itself is not demanded, what is nested in it is -/
def defaultDemands (s : Schema) (cands : Name → List String) (v : VarDef) : List Demand :=
  match v.default with
  | some dv =>
    (match valOccs s true (some v.type) (s.type? v.type.name) dv with
     | top :: rest => .value cands { top with typed := false } :: rest.map (.value cands)
     | [] => [])
  | none => []

def opDemands (s : Schema) (_d : QueryDoc) (op : OperationDef) : List Demand :=
  let cands := Spec.varCandidates [op]
  op.vars.flatMap (fun v =>
    .varDef v :: (defaultDemands s cands v ++ dirDemands s cands (str "VARIABLE_DEFINITION") v.dirs)) ++
  dirDemands s cands (Spec.locOfOp op.op) op.dirs ++
  (Spec.typedSels s (Spec.rootDef s op.op) op.sel).flatMap (nodeDemands s cands)

/-- the operations whose scope contains the fragment definition (the specification identifies a
    definition by its position) -/
def fragOps (d : QueryDoc) (f : FragmentDef) : List OperationDef :=
  d.ops.filter fun op => (Spec.opFragments d op).any (·.pos == f.pos)

def fragDemands (s : Schema) (d : QueryDoc) (f : FragmentDef) : List Demand :=
  let cands := Spec.varCandidates (fragOps d f)
  .fragDef f :: (dirDemands s cands (str "FRAGMENT_DEFINITION") f.dirs ++
    (Spec.typedSels s (s.type? f.typeCond) f.sel).flatMap (nodeDemands s cands))

def docDemands (s : Schema) (d : QueryDoc) : List Demand :=
  d.ops.flatMap (opDemands s d) ++ d.frags.flatMap (fragDemands s d)

theorem defaultDemands_render (s : Schema) (d : QueryDoc) (cands : Name → List String) (v : VarDef) :
    (defaultDemands s cands v).map (Demand.render s d) =
      (match v.default with
       | some dv =>
         (match Spec.valueLinks s cands true (some v.type) (s.type? v.type.name) dv with
          | top :: rest => { top with fields := [] } :: rest
          | [] => [])
       | none => []) := by
  unfold defaultDemands
  cases v.default with
  | none => rfl
  | some dv =>
    simp only [valueLinks_eq]
    cases valOccs s true (some v.type) (s.type? v.type.name) dv with
    | nil => rfl
    | cons top rest =>
      simp only [List.map_cons, List.map_map]
      rfl

theorem opLinks_eq (s : Schema) (d : QueryDoc) (op : OperationDef) :
    Spec.opLinks s d op = (opDemands s d op).map (Demand.render s d) := by
  simp only [Spec.opLinks, opDemands, List.map_append, dirDemands_render, ← selsLinks_eq]
  congr 2
  induction op.vars with
  | nil => rfl
  | cons v rest ih =>
    simp only [List.flatMap_cons, List.map_append, List.map_cons, ih, defaultDemands_render, dirDemands_render]
    rfl

theorem fragLinks_eq (s : Schema) (d : QueryDoc) (f : FragmentDef) :
    Spec.fragLinks s d f = (fragDemands s d f).map (Demand.render s d) := by
  simp only [Spec.fragLinks, fragDemands, List.map_cons, List.map_append, dirDemands_render, ← selsLinks_eq]
  rfl

theorem expectedLinks_eq (s : Schema) (d : QueryDoc) :
    Spec.expectedLinks s d = (docDemands s d).map (Demand.render s d) := by
  have h1 : ∀ ops : List OperationDef, ops.flatMap (Spec.opLinks s d) =
      (ops.flatMap (opDemands s d)).map (Demand.render s d) := by
    intro ops
    induction ops with
    | nil => rfl
    | cons op rest ih => simp only [List.flatMap_cons, List.map_append, ih, opLinks_eq]
  have h2 : ∀ fs : List FragmentDef, fs.flatMap (Spec.fragLinks s d) =
      (fs.flatMap (fragDemands s d)).map (Demand.render s d) := by
    intro fs
    induction fs with
    | nil => rfl
    | cons f rest ih => simp only [List.flatMap_cons, List.map_append, ih, fragLinks_eq]
  simp only [Spec.expectedLinks, docDemands, List.map_append, h1, h2]

theorem docDemands_forall (s : Schema) (d : QueryDoc) (P : Demand → Prop)
    (field : ∀ t ∈ Spec.docSels s d, ∀ al nm args dirs sub p, t.sel = .field al nm args dirs sub p →
      P (.field ⟨al, nm, args, dirs, sub, p⟩ t.parent))
    (spread : ∀ t ∈ Spec.docSels s d, ∀ nm dirs p, t.sel = .spread nm dirs p → P (.spread ⟨nm, dirs, p⟩))
    (inline : ∀ t ∈ Spec.docSels s d, ∀ tc dirs sub p, t.sel = .inline tc dirs sub p →
      P (.inline ⟨tc, dirs, sub, p⟩ t.parent))
    (directive : ∀ site ∈ Spec.directiveSites s d, ∀ dir ∈ site.2, P (.directive dir site.1))
    (varDef : ∀ op ∈ d.ops, ∀ v ∈ op.vars, P (.varDef v))
    (fragDef : ∀ f ∈ d.frags, P (.fragDef f))
    (value : ∀ cands o, SpecValOcc s d o → P (.value cands o))
    (defaultTop : ∀ cands top, SpecValOcc s d top → P (.value cands { top with typed := false })) :
    ∀ dm ∈ docDemands s d, P dm := by
  have harg : ∀ cands (site : Spec.ArgSite), site ∈ Spec.argSites s d →
      ∀ dm ∈ argDemands s cands site.defs site.args, P dm := by
    intro cands site hsite dm hdm
    simp only [argDemands, List.mem_map] at hdm
    obtain ⟨o, ho, rfl⟩ := hdm
    exact value cands o (Or.inl ⟨site, hsite, ho⟩)
  have hdir : ∀ cands loc ds, (loc, ds) ∈ Spec.directiveSites s d → ∀ dm ∈ dirDemands s cands loc ds, P dm := by
    intro cands loc ds hsite dm hdm
    simp only [dirDemands, List.mem_flatMap, List.mem_cons] at hdm
    obtain ⟨dir, hd, rfl | hdm⟩ := hdm
    · exact directive _ hsite dir hd
    · exact harg cands _ (argSites_directive (mem_allDirectives hsite hd)) dm hdm
  have hnode : ∀ cands, ∀ t ∈ Spec.docSels s d, ∀ dm ∈ nodeDemands s cands t, P dm := by
    intro cands t ht dm hdm
    have hdirs : (Spec.selLoc t.sel, Spec.selDirs t.sel) ∈ Spec.directiveSites s d := by
      simp only [Spec.directiveSites, List.mem_append, List.mem_map]
      exact Or.inr ⟨t, ht, rfl⟩
    obtain ⟨par, sel⟩ := t
    cases sel with
    | field al nm args dirs sub p =>
      simp only [nodeDemands, List.mem_cons, List.mem_append] at hdm
      rcases hdm with rfl | hdm | hdm
      · exact field _ ht al nm args dirs sub p rfl
      · exact harg cands _ (argSites_field ht) dm hdm
      · exact hdir cands _ _ hdirs dm hdm
    | spread nm dirs p =>
      simp only [nodeDemands, List.mem_cons] at hdm
      rcases hdm with rfl | hdm
      · exact spread _ ht nm dirs p rfl
      · exact hdir cands _ _ hdirs dm hdm
    | inline tc dirs sub p =>
      simp only [nodeDemands, List.mem_cons] at hdm
      rcases hdm with rfl | hdm
      · exact inline _ ht tc dirs sub p rfl
      · exact hdir cands _ _ hdirs dm hdm
  intro dm hdm
  simp only [docDemands, List.mem_append, List.mem_flatMap] at hdm
  rcases hdm with ⟨op, hop, hdm⟩ | ⟨f, hf, hdm⟩
  · simp only [opDemands, List.mem_append, List.mem_flatMap, List.mem_cons] at hdm
    rcases hdm with (⟨v, hv, rfl | hdm | hdm⟩ | hdm) | ⟨t, ht, hdm⟩
    · exact varDef op hop v hv
    · unfold defaultDemands at hdm
      cases hdv : v.default with
      | none => rw [hdv] at hdm; cases hdm
      | some dv =>
        rw [hdv] at hdm
        simp only at hdm
        cases hocc : valOccs s true (some v.type) (s.type? v.type.name) dv with
        | nil => rw [hocc] at hdm; cases hdm
        | cons top rest =>
          rw [hocc] at hdm
          simp only [List.mem_cons, List.mem_map] at hdm
          have hmem : ∀ o ∈ top :: rest, SpecValOcc s d o := fun o ho =>
            Or.inr ⟨op, hop, v, hv, dv, hdv, by rw [hocc]; exact ho⟩
          rcases hdm with rfl | ⟨o, ho, rfl⟩
          · exact defaultTop _ top (hmem top List.mem_cons_self)
          · exact value _ o (hmem o (List.mem_cons_of_mem _ ho))
    · refine hdir _ _ _ ?_ dm hdm
      simp only [Spec.directiveSites, List.mem_append, List.mem_flatMap, List.mem_cons, List.mem_map]
      exact Or.inl (Or.inl ⟨op, hop, Or.inr ⟨v, hv, rfl⟩⟩)
    · refine hdir _ _ _ ?_ dm hdm
      simp only [Spec.directiveSites, List.mem_append, List.mem_flatMap, List.mem_cons, List.mem_map]
      exact Or.inl (Or.inl ⟨op, hop, Or.inl rfl⟩)
    · refine hnode _ t ?_ dm hdm
      simp only [Spec.docSels, List.mem_append, List.mem_flatMap]
      exact Or.inl ⟨op, hop, ht⟩
  · simp only [fragDemands, List.mem_cons, List.mem_append, List.mem_flatMap] at hdm
    rcases hdm with rfl | hdm | ⟨t, ht, hdm⟩
    · exact fragDef f hf
    · refine hdir _ _ _ ?_ dm hdm
      simp only [Spec.directiveSites, List.mem_append, List.mem_map]
      exact Or.inl (Or.inr ⟨f, hf, rfl⟩)
    · refine hnode _ t ?_ dm hdm
      simp only [Spec.docSels, List.mem_append, List.mem_flatMap]
      exact Or.inr ⟨f, hf, ht⟩

/-- the run has an event about the node of the demand that carries exactly the demanded link
    (for an inline fragment: the enclosing type — see `C09_inline_fragment_link_is_parent`) -/
def Demand.Met (s : Schema) (d : QueryDoc) (evs : List Event) : Demand → Prop
  | .field f parent => ∃ e ∈ evs, e.p = .field f parent (parent.bind (Spec.fieldDefOn · f.name))
  | .spread f => ∃ e ∈ evs, ∃ par, e.p = .fragmentSpread f (Spec.fragByName d f.name) par
  | .inline f parent => ∃ e ∈ evs, e.p = .inlineFragment f parent
  | .directive dir loc => ∃ e ∈ evs, ∃ par, e.p = .directive dir (s.directive? dir.name) par loc
  | .varDef v => ∃ e ∈ evs, e.p = .variable v (s.type? v.type.name)
  | .fragDef f => ∃ e ∈ evs, e.p = .fragment f (s.type? f.typeCond)
  | .value _ o => ∃ e ∈ evs, ∃ exp dfn, e.p = .value o.v exp dfn ∧ (o.typed = true → exp = o.exp ∧ dfn = o.dfn)

section
variable (s : Schema) (d : QueryDoc) (evs : List Event) (hw : walkDoc s.view d = some evs)
  (hwp : Spec.wellParented s d = true)
include hw hwp

theorem specValOcc_met (cands : Name → List String) (o : ValOcc) (ho : SpecValOcc s d o) :
    (Demand.value cands o).Met s d evs := by
  obtain ⟨e, he, _, exp', dfn', hp', hag⟩ := walkDoc_values_completeW s d evs hw o ((wValOcc_iff s d hwp o).2 ho)
  exact ⟨e, he, exp', dfn', hp', fun ht => hag.demanded ht⟩

variable (hk : ∀ op ∈ d.ops, op.op ∈ parserOpKinds)
include hk

theorem docDemands_met : ∀ dm ∈ docDemands s d, dm.Met s d evs := by
  refine docDemands_forall s d (Demand.Met s d evs)
    (fun t ht al nm args dirs sub p hs => walk_parent_type_complete s d evs hw hwp t ht al nm args dirs sub p hs)
    (fun t ht nm dirs p hs => ?_) (fun t ht tc dirs sub p hs => ?_)
    (fun site hsite dir hd => directive_event_complete s d evs hw hk site.1 site.2 hsite dir hd)
    (fun op hop v hv => ?_) (fun f hf => ?_) (specValOcc_met s d evs hw hwp) (fun cands top ho => ?_)
  · obtain ⟨par, sel⟩ := t
    subst hs
    obtain ⟨e, he, hp⟩ := node_event_complete s d evs hw hwp _ ht
    exact ⟨e, he, par, hp⟩
  · obtain ⟨par, sel⟩ := t
    subst hs
    exact node_event_complete s d evs hw hwp _ ht
  · exact (varDef_event_iff s.view d evs hw v _).2 ⟨⟨op, hop, hv⟩, rfl⟩
  · exact (fragment_event_iff s.view d evs hw f _).2 ⟨hf, rfl⟩
  · obtain ⟨e, he, exp, dfn, hp, _⟩ := specValOcc_met s d evs hw hwp cands top ho
    exact ⟨e, he, exp, dfn, hp, fun h => by cases h⟩

end

end Gql.Validate
