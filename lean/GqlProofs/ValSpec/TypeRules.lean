import GqlProofs.ValSpec.LeafFrag
/-
  KnownTypeNames, VariablesAreInputTypes and KnownRootType against their specification predicates.
-/
namespace Gql.Validate
open Gql Gql.Validate.Rules

theorem variable_event_iff (s : SV) (d : QueryDoc) (evs : List Event) (hw : walkDoc s d = some evs) (v : VarDef) :
    (∃ e ∈ evs, ∃ dfn, e.p = .variable v dfn) ↔ ∃ op ∈ d.ops, v ∈ op.vars :=
  ⟨fun ⟨e, he, dfn, hp⟩ => ((varDef_event_iff s d evs hw v dfn).1 ⟨e, he, hp⟩).1,
   fun h => let ⟨e, he, hp⟩ := (varDef_event_iff s d evs hw v _).2 ⟨h, rfl⟩; ⟨e, he, _, hp⟩⟩

theorem variable_event_link (s : SV) (d : QueryDoc) (evs : List Event) (hw : walkDoc s d = some evs)
    (e : Event) (he : e ∈ evs) (v : VarDef) (dfn : Option Definition) (hp : e.p = .variable v dfn) :
    dfn = s.type? v.type.name :=
  ((varDef_event_iff s d evs hw v dfn).1 ⟨e, he, hp⟩).2

theorem unknownType_nil_iff (s : Schema) (n : Name) (x : RErr) :
    (match s.view.type? n with | some _ => ([] : List RErr) | none => [x]) = [] ↔ (s.type? n).isSome = true := by
  have : s.view.type? n = s.type? n := rfl
  rw [this]
  cases s.type? n <;> simp

theorem knownTypeNames_iff (s : Schema) (d : QueryDoc) (evs : List Event) (hw : walkDoc s.view d = some evs) :
    (∀ e ∈ evs, knownTypeNamesStep s.view d e = []) ↔
      (Spec.fragmentSpreadTypeExistence s d = true ∧ Spec.variableTypesExist s d = true) := by
  unfold Spec.fragmentSpreadTypeExistence Spec.typeConditions Spec.variableTypesExist
  simp only [List.all_append, Bool.and_eq_true, List.all_eq_true, List.mem_map, List.mem_filterMap]
  constructor
  · intro h
    refine ⟨⟨?_, ?_⟩, ?_⟩
    · rintro tc ⟨f, hf, rfl⟩
      obtain ⟨e, he, hp⟩ := (fragment_event_iff s.view d evs hw f _).2 ⟨hf, rfl⟩
      have := h e he
      simp only [knownTypeNamesStep, hp] at this
      exact (unknownType_nil_iff s _ _).1 this
    · rintro tc ⟨⟨par, sel⟩, ht, hm⟩
      cases sel with
      | field al nm args dirs sub p => cases hm
      | spread nm dirs p => cases hm
      | inline tc' dirs sub p =>
        simp only at hm
        by_cases hemp : (tc' == []) = true
        · simp [hemp] at hm
        · simp only [hemp, Bool.false_eq_true, if_false, Option.some.injEq] at hm
          subst hm
          obtain ⟨e, he, par', hp⟩ := inline_event_complete s d evs hw _ ht tc' dirs sub p rfl
          have := h e he
          simp only [knownTypeNamesStep, hp, hemp, Bool.false_eq_true, if_false] at this
          exact (unknownType_nil_iff s _ _).1 this
    · intro op hop v hv
      obtain ⟨e, he, hp⟩ := (varDef_event_iff s.view d evs hw v _).2 ⟨⟨op, hop, hv⟩, rfl⟩
      have := h e he
      simp only [knownTypeNamesStep, hp] at this
      exact (unknownType_nil_iff s _ _).1 this
  · rintro ⟨⟨h1, h2⟩, h3⟩ e he
    unfold knownTypeNamesStep
    split
    · rename_i v dfn hp
      obtain ⟨⟨op, hop, hv⟩, _⟩ := (varDef_event_iff s.view d evs hw v dfn).1 ⟨e, he, hp⟩
      exact (unknownType_nil_iff s _ _).2 (h3 op hop v hv)
    · rename_i f par hp
      split
      · rfl
      · rename_i hemp
        obtain ⟨p, hmem⟩ := inline_event_sound s d evs hw e he f par hp
        exact (unknownType_nil_iff s _ _).2 (h2 f.typeCond ⟨_, hmem, by simp [hemp]⟩)
    · rename_i f dfn hp
      have hf := ((fragment_event_iff s.view d evs hw f dfn).1 ⟨e, he, hp⟩).1
      exact (unknownType_nil_iff s _ _).2 (h1 f.typeCond ⟨f, hf, rfl⟩)
    · rfl

theorem validate_withoutSuggestions_nil (n' : Bytes) (r : Rule) (s : Schema) (d : QueryDoc) :
    validate [r.withoutSuggestions n'] s d = .ok [] ↔ validate [r] s d = .ok [] := by
  have key := validate_withoutSuggestions n' r s d
  constructor
  · intro h
    rw [h] at key
    generalize validate [r] s d = a at key ⊢
    cases key with
    | ok hf => cases hf; rfl
  · intro h
    rw [h] at key
    generalize validate [r.withoutSuggestions n'] s d = a at key ⊢
    cases key with
    | ok hf => cases hf; rfl

theorem isInputType_eq (t : Definition) : isInputType t = Spec.isInput t := rfl

theorem nonInputVars_nil_iff (s : Schema) : ∀ vs : List VarDef,
    nonInputVars s.view vs = [] ↔
      (vs.all fun v => match s.type? v.type.name with | some t => Spec.isInput t | none => true) = true
  | [] => by simp [nonInputVars]
  | v :: rest => by
    have ih := nonInputVars_nil_iff s rest
    have hview : s.view.type? v.type.name = s.type? v.type.name := rfl
    simp only [nonInputVars, List.all_cons, Bool.and_eq_true, hview]
    cases ht : s.type? v.type.name with
    | none => simp [ih]
    | some t =>
      simp only [isInputType_eq]
      by_cases hi : Spec.isInput t = true <;> simp [hi, ih]

theorem variablesAreInputTypes_iff (s : Schema) (d : QueryDoc) (evs : List Event) (hw : walkDoc s.view d = some evs) :
    (∀ e ∈ evs, variablesAreInputTypesStep s.view d e = []) ↔
      (d.ops.all fun op => op.vars.all fun v =>
        match s.type? v.type.name with | some t => Spec.isInput t | none => true) = true := by
  simp only [List.all_eq_true (l := d.ops)]
  exact (opStep_silent_iff hw fun op => nonInputVars s.view op.vars).trans
    (forall₂_congr fun op _ => nonInputVars_nil_iff s op.vars)

theorem variablesAreInputTypes_masked (s : Schema) (d : QueryDoc) (hex : Spec.variableTypesExist s d = true) :
    (d.ops.all fun op => op.vars.all fun v =>
        match s.type? v.type.name with | some t => Spec.isInput t | none => true) = true ↔
      Spec.variablesAreInputTypes s d = true := by
  unfold Spec.variablesAreInputTypes
  unfold Spec.variableTypesExist at hex
  simp only [List.all_eq_true] at hex ⊢
  constructor
  · intro h op hop v hv
    have h1 := h op hop v hv
    have h2 := hex op hop v hv
    cases ht : s.type? v.type.name with
    | none => rw [ht] at h2; cases h2
    | some t => rw [ht] at h1; exact h1
  · intro h op hop v hv
    have h1 := h op hop v hv
    cases ht : s.type? v.type.name with
    | none => rfl
    | some t => rw [ht] at h1; exact h1

theorem variablesAreInputTypes_exist (s : Schema) (d : QueryDoc) (h : Spec.variablesAreInputTypes s d = true) :
    Spec.variableTypesExist s d = true := by
  unfold Spec.variablesAreInputTypes at h
  unfold Spec.variableTypesExist
  simp only [List.all_eq_true] at h ⊢
  intro op hop v hv
  have h1 := h op hop v hv
  cases ht : s.type? v.type.name with
  | none => rw [ht] at h1; cases h1
  | some t => rfl

/-- for a kind the parser never produces both sides are false: the step panics and `Spec.rootDef`
    is `none` -/
theorem knownRootTypeStep_operation (s : Schema) (d : QueryDoc) (e : Event) (op : OperationDef) (u : List Bool)
    (hp : e.p = .operation op u) :
    knownRootTypeStep s.view d e = .ok [] ↔ (Spec.rootDef s op.op).isSome = true := by
  simp only [knownRootTypeStep, hp]
  by_cases hc : (op.op == opQuery || op.op == [] || op.op == opMutation || op.op == opSubscription) = true
  · simp only [hc, if_true]
    rw [opRoot_def]
    cases Spec.rootDef s op.op with
    | none => simp
    | some t => simp
  · simp only [hc, Bool.false_eq_true, if_false, reduceCtorEq, false_iff]
    simp only [Bool.or_eq_true, not_or] at hc
    obtain ⟨⟨⟨h1, h2⟩, h3⟩, h4⟩ := hc
    have h1' : ¬ (op.op == Spec.kwQuery) = true := h1
    have h3' : ¬ (op.op == Spec.kwMutation) = true := h3
    have h4' : ¬ (op.op == Spec.kwSubscription) = true := h4
    simp [Spec.rootDef, Spec.rootName, h1', h2, h3', h4']

theorem knownRootType_iff (s : Schema) (d : QueryDoc) (evs : List Event) (hw : walkDoc s.view d = some evs) :
    (∀ e ∈ evs, knownRootTypeStep s.view d e = .ok []) ↔ Spec.knownRootType s d = true := by
  unfold Spec.knownRootType
  simp only [List.all_eq_true]
  constructor
  · intro h op hop
    obtain ⟨e, he, u, hp⟩ := (operation_event_iff s.view d evs hw op).2 hop
    exact (knownRootTypeStep_operation s d e op u hp).1 (h e he)
  · intro h e he
    cases hp : e.p with
    | operation op u =>
      exact (knownRootTypeStep_operation s d e op u hp).2 (h op ((operation_event_iff s.view d evs hw op).1 ⟨e, he, u, hp⟩))
    | _ => simp only [knownRootTypeStep, hp]

theorem knownRootType_panic_iff (s : Schema) (d : QueryDoc) :
    (∃ m, validate [knownRootType] s d = .panic m) ↔ ∃ op ∈ d.ops, op.op ∉ parserOpKinds := by
  obtain ⟨evs, hw⟩ := walkDoc_isSome s.view d
  unfold knownRootType
  rw [validate_statelessP_panic_iff s d _ _ evs hw]
  have key : ∀ (e : Event) (op : OperationDef) (u : List Bool), e.p = .operation op u →
      ((∃ m, knownRootTypeStep s.view d e = .error m) ↔ op.op ∉ parserOpKinds) := by
    intro e op u hp
    simp only [knownRootTypeStep, hp, parserOpKinds, List.mem_cons, List.mem_nil_iff, or_false]
    by_cases hc : (op.op == opQuery || op.op == [] || op.op == opMutation || op.op == opSubscription) = true
    · simp only [hc, if_true]
      have : op.op = opQuery ∨ op.op = opMutation ∨ op.op = opSubscription ∨ op.op = [] := by
        simp only [Bool.or_eq_true, beq_iff_eq] at hc
        rcases hc with ((h | h) | h) | h
        · exact Or.inl h
        · exact Or.inr (Or.inr (Or.inr h))
        · exact Or.inr (Or.inl h)
        · exact Or.inr (Or.inr (Or.inl h))
      cases (opRoot s.view op.op).1 <;> simp [this]
    · simp only [hc, Bool.false_eq_true, if_false]
      simp only [Bool.or_eq_true, beq_iff_eq, not_or] at hc
      obtain ⟨⟨⟨h1, h2⟩, h3⟩, h4⟩ := hc
      simp [h1, h2, h3, h4]
  constructor
  · rintro ⟨e, he, m, hm⟩
    cases hp : e.p with
    | operation op u =>
      exact ⟨op, (operation_event_iff s.view d evs hw op).1 ⟨e, he, u, hp⟩, (key e op u hp).1 ⟨m, hm⟩⟩
    | _ => simp [knownRootTypeStep, hp] at hm
  · rintro ⟨op, hop, hk⟩
    obtain ⟨e, he, u, hp⟩ := (operation_event_iff s.view d evs hw op).2 hop
    obtain ⟨m, hm⟩ := (key e op u hp).2 hk
    exact ⟨e, he, m, hm⟩

end Gql.Validate
