import GqlProofs.ValSpec.VarCands
/-
  C09, the dump line of an event as DATA: `Event.linkFields` is (start offset, kind tag, the
  `key=value` fields) and `Event.linkLine` — what `linkDump` prints and `linkscheck` parses again —
  is its formatting (`linkLine_eq`).  A demand that is met (`Demand.Met`) has an event whose dump
  line has the start offset and kind of the rendered demand (`Demand.render`, an element of
  `Spec.expectedLinks`) and contains every demanded field with the demanded text (`met_line`) — except the
  demand of an inline fragment, where `Demand.Met` records the enclosing type and `Demand.render` demands
  `Spec.inlineType` (`C09_inline_fragment_link_is_parent`).
-/
namespace Gql.Validate
open Gql

def fieldDefText : Option FieldDef → String
  | none => "-"
  | some fd => bytesToString fd.name ++ ":" ++ bytesToString fd.type.render

def fragDefText : Option FragmentDef → String
  | none => "-"
  | some fd => bytesToString fd.name ++ "@" ++ toString fd.pos.start

def dirDefText : Option DirectiveDef → String
  | none => "-"
  | some dd => bytesToString dd.name

def typeText : Option GType → String
  | none => "-"
  | some t => bytesToString t.render

def Event.linkFields (e : Event) : Option (Nat × String × List (String × String)) :=
  match e.p with
  | .operation op used =>
    some (op.pos.start, "O", [("used", String.ofList (used.map fun b => if b then '1' else '0'))])
  | .variable v dfn => some (v.pos.start, "VD", [("def", optDefName dfn)])
  | .field f parent dfn => some (f.pos.start, "F", [("obj", optDefName parent), ("def", fieldDefText dfn)])
  | .fragment f dfn => some (f.pos.start, "FD", [("def", optDefName dfn)])
  | .inlineFragment f parent => some (f.pos.start, "I", [("obj", optDefName parent)])
  | .fragmentSpread f dfn parent => some (f.pos.start, "S", [("def", fragDefText dfn), ("obj", optDefName parent)])
  | .directive d dfn parent loc =>
    some (d.pos.start, "D", [("def", dirDefText dfn), ("parent", optDefName parent), ("loc", bytesToString loc)])
  | .value v expected dfn =>
    some (v.pos.start, "V", [("def", optDefName dfn), ("exp", typeText expected),
      ("var", varText (e.links.varDef v.pos.start))])
  | .directiveList _ => none

/-- `KIND k1=v1 k2=v2 …` -/
def fmtLine (kind : String) (fs : List (String × String)) : String :=
  fs.foldl (fun acc kv => acc ++ (" " ++ kv.1 ++ "=") ++ kv.2) kind

theorem linkLine_eq (e : Event) :
    e.linkLine = e.linkFields.map fun x => (x.1, fmtLine x.2.1 x.2.2) := by
  unfold Event.linkLine Event.linkFields
  cases e.p with
  | operation op used => simp [fmtLine]
  | «variable» v dfn => simp [fmtLine]
  | field f parent dfn => cases dfn <;> simp [fmtLine, fieldDefText]
  | fragment f dfn => simp [fmtLine]
  | inlineFragment f parent => simp [fmtLine]
  | fragmentSpread f dfn parent => cases dfn <;> simp [fmtLine, fragDefText]
  | directive d dfn parent loc => cases dfn <;> simp [fmtLine, dirDefText]
  | value v expected dfn =>
    cases expected <;> cases hv : e.links.varDef v.pos.start <;> simp [fmtLine, typeText, varText, hv]
  | directiveList ds => rfl

theorem optDefName_eq (x : Option Definition) : Spec.optDefName x = optDefName x := by
  cases x <;> rfl

theorem mem_demand_map {α : Type} {k : String} {x : Option α} {f : α → String} {kv : String × String}
    (h : kv ∈ Spec.demand k (x.map f)) : ∃ a, x = some a ∧ kv = (k, f a) := by
  cases x with
  | none => simp [Spec.demand] at h
  | some a => exact ⟨a, rfl, by simpa [Spec.demand] using h⟩

/-- the dump line of a value event that shows the links of the occurrence `o` -/
theorem value_line (cands : Name → List String) {e : Event} {o : ValOcc} {exp : Option GType} {dfn : Option Definition}
    (hp : e.p = .value o.v exp dfn) (hag : o.typed = true → exp = o.exp ∧ dfn = o.dfn) :
    ∃ fs, e.linkFields = some (o.v.pos.start, "V", fs) ∧ (∀ kv ∈ (o.toExpLink cands).fields, kv ∈ fs) ∧
      ("var", varText (e.links.varDef o.v.pos.start)) ∈ fs := by
  refine ⟨_, by unfold Event.linkFields; rw [hp], ?_, by simp⟩
  intro kv hkv
  simp only [ValOcc.toExpLink] at hkv
  cases ht : o.typed with
  | false => rw [ht] at hkv; simp at hkv
  | true =>
    rw [ht] at hkv
    obtain ⟨h1, h2⟩ := hag ht
    subst h1 h2
    simp only [if_true, List.mem_cons, List.not_mem_nil, or_false] at hkv
    rcases hkv with hkv | hkv
    · subst hkv
      simp [optDefName_eq]
    · subst hkv
      cases o.exp <;> simp [typeText]

theorem met_line (s : Schema) (d : QueryDoc) (evs : List Event) (dm : Demand) (h : dm.Met s d evs)
    (hni : ∀ f parent, dm ≠ .inline f parent) :
    ∃ e ∈ evs, ∃ fs, e.linkFields = some ((dm.render s d).start, (dm.render s d).kind, fs) ∧
      ∀ kv ∈ (dm.render s d).fields, kv ∈ fs := by
  cases dm with
  | field f parent =>
    obtain ⟨e, he, hp⟩ := h
    refine ⟨e, he, _, by unfold Event.linkFields; rw [hp]; rfl, ?_⟩
    intro kv hkv
    simp only [Demand.render, List.mem_append] at hkv
    rcases hkv with hkv | hkv
    · obtain ⟨q, hq, rfl⟩ := mem_demand_map hkv
      simp [hq, optDefName]
    · obtain ⟨fd, hfd, rfl⟩ := mem_demand_map hkv
      simp [hfd, fieldDefText]
  | spread f =>
    obtain ⟨e, he, par, hp⟩ := h
    refine ⟨e, he, _, by unfold Event.linkFields; rw [hp]; rfl, ?_⟩
    intro kv hkv
    obtain ⟨fd, hfd, rfl⟩ := mem_demand_map hkv
    simp [hfd, fragDefText]
  | inline f parent => exact absurd rfl (hni f parent)
  | directive dir loc =>
    obtain ⟨e, he, par, hp⟩ := h
    refine ⟨e, he, _, by unfold Event.linkFields; rw [hp]; rfl, ?_⟩
    intro kv hkv
    simp only [Demand.render, List.mem_append, List.mem_singleton] at hkv
    rcases hkv with hkv | rfl
    · obtain ⟨dd, hdd, rfl⟩ := mem_demand_map hkv
      simp [hdd, dirDefText]
    · simp
  | varDef v =>
    obtain ⟨e, he, hp⟩ := h
    refine ⟨e, he, _, by unfold Event.linkFields; rw [hp]; rfl, ?_⟩
    intro kv hkv
    obtain ⟨dd, hdd, rfl⟩ := mem_demand_map hkv
    simp [hdd, optDefName]
  | fragDef f =>
    obtain ⟨e, he, hp⟩ := h
    refine ⟨e, he, _, by unfold Event.linkFields; rw [hp]; rfl, ?_⟩
    intro kv hkv
    obtain ⟨dd, hdd, rfl⟩ := mem_demand_map hkv
    simp [hdd, optDefName]
  | value cands o =>
    obtain ⟨e, he, exp, dfn, hp, hag⟩ := h
    obtain ⟨fs, hf, hall, _⟩ := value_line cands hp hag
    exact ⟨e, he, fs, hf, hall⟩

end Gql.Validate
