import GqlProofs.ValSpec.ValBlocks
import GqlProofs.ValSpec.VarLinks
/-
  PROVENANCE of the link side table: every entry `(k, x)` of `Links.vlinks`, in the snapshot of every
  event of a run, was written for a variable node starting at `k` that has its own `value` event in the
  run, fired on behalf of an operation `op`, and `x = op.vars.ForName(name of that node)`
  (`walkDoc_linksW`, read off the trace of the table).  So every `VariableDefinition` link the walker
  ever writes is a variable definition of an operation of the document (`walkDoc_varDef_mem`) — needed
  for `Value.Value(nil)` in ValuesOfCorrectType, which evaluates the DEFAULT VALUE of the linked
  definition of a variable, of any node below the value the event is about, whenever it was linked.
-/
namespace Gql.Validate
open Gql

theorem mem_vlinks_of_varDef {l : Links} {k : Nat} {vd : VarDef} (hv : l.varDef k = some vd) :
    (k, some vd) ∈ l.vlinks := by
  unfold Links.varDef at hv
  cases hl : l.vlinks.lookup k with
  | none => rw [hl] at hv; cases hv
  | some o =>
    rw [hl, Option.join_some] at hv
    exact hv ▸ mem_of_lookup hl

def Written (evs : List Event) (k : Nat) (x : Option VarDef) : Prop :=
  ∃ e0 ∈ evs, ∃ op raw ch p exp dfn, e0.cur = some op ∧ e0.p = .value (.mk .variable raw ch p) exp dfn ∧
    p.start = k ∧ x = varForName op.vars raw

def LinksW (evs : List Event) (l : Links) : Prop := ∀ k x, (k, x) ∈ l.vlinks → Written evs k x

def StepW (evs : List Event) (ws : WS) (r : WS × List Event) : Prop :=
  (∀ e ∈ r.2, e ∈ evs) → LinksW evs ws.links → LinksW evs r.1.links ∧ ∀ e ∈ r.2, LinksW evs e.links

theorem LinksW.lookup {evs : List Event} {l : Links} (h : LinksW evs l) {k : Nat} {vd : VarDef}
    (hv : l.varDef k = some vd) : Written evs k (some vd) :=
  h k _ (mem_vlinks_of_varDef hv)

theorem siteMark_linksW {evs : List Event} {cur : Option OperationDef} (ws : WS) (x : VSite)
    (he : (⟨cur, (siteMark cur ws x).links, x.payload⟩ : Event) ∈ evs) (h0 : LinksW evs ws.links) :
    LinksW evs (siteMark cur ws x).links := by
  obtain ⟨exp, dfn, k, raw, ch, p⟩ := x
  by_cases hk : k = .variable
  · subst hk
    cases cur with
    | none => exact h0
    | some op =>
      intro k' y hm
      rcases List.mem_cons.1 hm with hm | hm
      · cases hm
        exact ⟨_, he, op, raw, ch, p, exp, dfn, rfl, rfl, rfl, rfl⟩
      · exact h0 k' y hm
  · rw [siteMark_of_ne cur (x := (exp, dfn, .mk k raw ch p)) hk]
    exact h0

theorem emit_stepW (evs : List Event) (cur : Option OperationDef) : ∀ (l : List VSite) (ws : WS), StepW evs ws (emit cur ws l)
  | [], _ => fun _ h => ⟨h, fun _ he => nomatch he⟩
  | x :: l, ws => fun hsub h0 => by
    have h1 := siteMark_linksW ws x (hsub _ List.mem_cons_self) h0
    obtain ⟨a, b⟩ := emit_stepW evs cur l _ (fun e he => hsub e (List.mem_cons_of_mem _ he)) h1
    exact ⟨a, fun e he => (List.mem_cons.1 he).elim (fun h => h ▸ h1) (b e)⟩

theorem walkObjChildren_linksW (evs : List Event) (s : SV) (cur : Option OperationDef) :
    ∀ (ch : Children) (dfn : Option Definition) (ws : WS), StepW evs ws (walkObjChildren s cur dfn ch ws) :=
  fun ch dfn ws => by rw [walkObjChildren_emit]; exact emit_stepW evs cur _ ws

theorem walkListChildren_linksW (evs : List Event) (s : SV) (cur : Option OperationDef) :
    ∀ (ch : Children) (exp : Option GType) (dfn : Option Definition) (ws : WS),
      StepW evs ws (walkListChildren s cur exp dfn ch ws) :=
  fun ch exp dfn ws => by rw [walkListChildren_emit]; exact emit_stepW evs cur _ ws

theorem mem_logFrom {x : Nat × Option VarDef} : ∀ {es : List Event} {l0 : VLinks}, x ∈ logFrom l0 es →
    x ∈ l0 ∨ ∃ e ∈ es, x ∈ wr e
  | [], _, h => .inl h
  | e :: es, l0, h => by
    rcases mem_logFrom (es := es) h with h | ⟨e', he', hx⟩
    · rcases List.mem_append.1 h with h | h
      · exact .inr ⟨e, List.mem_cons_self, h⟩
      · exact .inl h
    · exact .inr ⟨e', List.mem_cons_of_mem _ he', hx⟩

theorem walkDoc_linksW (s : SV) (d : QueryDoc) (evs : List Event) (h : walkDoc s d = some evs) :
    ∀ e ∈ evs, LinksW evs e.links := by
  intro e he k x hm
  obtain ⟨l, ht⟩ := walkDoc_trace s d evs h
  obtain ⟨pre, post, rfl⟩ := List.append_of_mem he
  rw [trace_at pre e post ht] at hm
  rcases mem_logFrom hm with h0 | ⟨e0, he0, hx⟩
  · cases h0
  · rcases wr_cases e0 with hw | ⟨op, raw, ch, p, exp, dfn, hc, hp, hw⟩
    · rw [hw] at hx; cases hx
    · rw [hw, List.mem_singleton] at hx
      cases hx
      refine ⟨e0, ?_, op, raw, ch, p, exp, dfn, hc, hp, rfl, rfl⟩
      rcases List.mem_append.1 he0 with h' | h'
      · exact List.mem_append_left _ h'
      · rw [List.mem_singleton.1 h']
        exact List.mem_append_right _ List.mem_cons_self

theorem walkDoc_varDef_mem (s : SV) (d : QueryDoc) (evs : List Event) (h : walkDoc s d = some evs) :
    ∀ e ∈ evs, ∀ k vd, e.links.varDef k = some vd → ∃ op ∈ d.ops, vd ∈ op.vars := by
  intro e he k vd hv
  obtain ⟨e0, he0, op, raw, _, _, _, _, hc, _, _, hx⟩ := (walkDoc_linksW s d evs h e he).lookup hv
  rcases walkDoc_cur s d evs h e0 he0 with hn | ⟨op', hop, hc'⟩
  · rw [hn] at hc; cases hc
  · rw [hc'] at hc
    cases hc
    exact ⟨op, hop, List.mem_of_find?_eq_some hx.symm⟩

def LinksQ (Q : VarDef → Prop) (l : Links) : Prop := ∀ k vd, (k, some vd) ∈ l.vlinks → Q vd

def CurQ (Q : VarDef → Prop) (cur : Option OperationDef) : Prop := ∀ op, cur = some op → ∀ vd ∈ op.vars, Q vd

def StepQ (Q : VarDef → Prop) (ws : WS) (r : WS × List Event) : Prop :=
  LinksQ Q ws.links → LinksQ Q r.1.links ∧ ∀ e ∈ r.2, LinksQ Q e.links

theorem siteMark_linksQ {Q : VarDef → Prop} {cur : Option OperationDef} (hc : CurQ Q cur) (ws : WS) (x : VSite)
    (h0 : LinksQ Q ws.links) : LinksQ Q (siteMark cur ws x).links := by
  obtain ⟨exp, dfn, k, raw, ch, p⟩ := x
  by_cases hk : k = .variable
  · subst hk
    cases cur with
    | none => exact h0
    | some op =>
      intro k' vd hm
      rcases List.mem_cons.1 hm with hm | hm
      · injection hm with _ hm
        exact hc op rfl vd (List.mem_of_find?_eq_some hm.symm)
      · exact h0 k' vd hm
  · rw [siteMark_of_ne cur (x := (exp, dfn, .mk k raw ch p)) hk]
    exact h0

theorem emit_stepQ {Q : VarDef → Prop} {cur : Option OperationDef} (hc : CurQ Q cur) (l : List VSite) (ws : WS) :
    StepQ Q ws (emit cur ws l) := fun h0 =>
  (emit_inv (I := fun ws => LinksQ Q ws.links) (siteMark_linksQ hc) l ws h0).imp_right fun h e he => by
    obtain ⟨ws', h', hl⟩ := h e he
    rwa [hl]

theorem walkObjChildren_linksQ {Q : VarDef → Prop} (s : SV) (cur : Option OperationDef) (hc : CurQ Q cur) :
    ∀ (ch : Children) (dfn : Option Definition) (ws : WS), StepQ Q ws (walkObjChildren s cur dfn ch ws) :=
  fun ch dfn ws => by rw [walkObjChildren_emit]; exact emit_stepQ hc _ ws

theorem walkListChildren_linksQ {Q : VarDef → Prop} (s : SV) (cur : Option OperationDef) (hc : CurQ Q cur) :
    ∀ (ch : Children) (exp : Option GType) (dfn : Option Definition) (ws : WS),
      StepQ Q ws (walkListChildren s cur exp dfn ch ws) :=
  fun ch exp dfn ws => by rw [walkListChildren_emit]; exact emit_stepQ hc _ ws

end Gql.Validate
