import GqlProofs.ValSpec.LeafFrag
/-
  C09, value links of a run, soundness direction: a run of `walkDoc` is a sequence (`Built`, `walkDoc_built`) of
    * `walkArgs` calls on the argument list of a field node (with the argument definitions of the field definition the
      walker found on its parent type of that node) or of a directive written at a directive site of the document
      (with the argument definitions of the directive definition of that name),
    * `walkValue` calls on the default value of a variable definition of an operation,
    * single events that are not value events and that carry the current link table.
  What is said of value events and of the variable-link table is then a fact about one `walkArgs` / `walkValue` call.
-/
namespace Gql.Validate
open Gql

/-- `walker.CurrentOperation` is nil or an operation of the document -/
def CurOK (d : QueryDoc) (cur : Option OperationDef) : Prop := ∀ op, cur = some op → op ∈ d.ops

inductive ArgCall (sv : SV) (d : QueryDoc) : Option (List ArgDef) → List Argument → Prop
  | field (p' : Option Definition) (al nm : Name) (args : List Argument) (dirs : List Directive) (sub : Selections)
      (pos : Pos) : InDocW sv d p' (.field al nm args dirs sub pos) →
      ArgCall sv d ((wFieldDef p' nm).map (·.args)) args
  | directive (loc : Bytes) (ds : List Directive) (dir : Directive) : InDoc sv d (.dirs loc ds) → dir ∈ ds →
      ArgCall sv d ((sv.directive? dir.name).map (·.args)) dir.args

abbrev VLinks := List (Nat × Option VarDef)

def Payload.isValue : Payload → Prop
  | .value .. => True
  | _ => False

def Payload.isPlain : Payload → Prop
  | .value .. => False
  | .variable .. => False
  | _ => True

theorem Payload.isPlain.notValue {p : Payload} (h : p.isPlain) : ¬ p.isValue := by
  cases p <;> first | exact fun h' => h' | exact fun _ => h

/-- the event list of a walk, from variable-link table `l` to `l'` -/
inductive Built (sv : SV) (d : QueryDoc) : VLinks → List Event → VLinks → Prop
  | nil (l : VLinks) : Built sv d l [] l
  | append {a b c : VLinks} {es es' : List Event} : Built sv d a es b → Built sv d b es' c → Built sv d a (es ++ es') c
  | args (cur : Option OperationDef) (defs : Option (List ArgDef)) (args : List Argument) (ws : WS) :
      CurOK d cur → ArgCall sv d defs args →
      Built sv d ws.links.vlinks (walkArgs sv cur defs args ws).2 (walkArgs sv cur defs args ws).1.links.vlinks
  | default (op : OperationDef) (vd : VarDef) (dv : Value) (ws : WS) : op ∈ d.ops → vd ∈ op.vars →
      vd.default = some dv →
      Built sv d ws.links.vlinks (walkValue sv (some op) (some vd.type) (sv.type? vd.type.name) dv ws).2
        (walkValue sv (some op) (some vd.type) (sv.type? vd.type.name) dv ws).1.links.vlinks
  | vdef (op : OperationDef) (vd : VarDef) (l : Links) : op ∈ d.ops → vd ∈ op.vars →
      Built sv d l.vlinks [{ cur := some op, links := l, p := .variable vd (sv.type? vd.type.name) }] l.vlinks
  | ev (e : Event) : e.p.isPlain → Built sv d e.links.vlinks [e] e.links.vlinks

theorem Built.ev' {sv : SV} {d : QueryDoc} (e : Event) (l : VLinks) (h : e.p.isPlain) (hl : e.links.vlinks = l) :
    Built sv d l [e] l := by
  subst hl
  exact Built.ev e h

theorem Built.snoc {sv : SV} {d : QueryDoc} {a b : VLinks} {es : List Event} (h : Built sv d a es b) (e : Event)
    (hv : e.p.isPlain) (hl : e.links.vlinks = b) : Built sv d a (es ++ [e]) b :=
  Built.append h (Built.ev' e b hv hl)

theorem Built.cons {sv : SV} {d : QueryDoc} {a b : VLinks} {es : List Event} (e : Event)
    (hv : e.p.isPlain) (hl : e.links.vlinks = a) (h : Built sv d a es b) : Built sv d a (e :: es) b :=
  Built.append (es := [e]) (Built.ev' e a hv hl) h

theorem inDocW_dirs {sv : SV} {d : QueryDoc} {p' : Option Definition} {y : Selection} (h : InDocW sv d p' y) :
    InDoc sv d (.dirs (Spec.selLoc y) (Spec.selDirs y)) := by
  rcases h with ⟨op, hop, h⟩ | ⟨f, hf, h⟩
  · exact Or.inl ⟨op, hop, Or.inl (inSels_dirs_of_sel _ _ (inSelsW_forget sv _ _ _ _ h))⟩
  · exact Or.inr ⟨f, hf, Or.inl (inSels_dirs_of_sel _ _ (inSelsW_forget sv _ _ _ _ h))⟩

section
variable {sv : SV} {d : QueryDoc}

theorem walkDirectiveItems_built (cur : Option OperationDef) (hc : CurOK d cur) (parent : Option Definition)
    (loc : Bytes) (ds : List Directive) (hds : InDoc sv d (.dirs loc ds)) :
    ∀ (suffix : List Directive) (ws : WS), (∀ dir ∈ suffix, dir ∈ ds) →
      Built sv d ws.links.vlinks (walkDirectiveItems sv cur parent loc suffix ws).2
        (walkDirectiveItems sv cur parent loc suffix ws).1.links.vlinks
  | [], ws, _ => by simp only [walkDirectiveItems]; exact Built.nil _
  | dir :: rest, ws, hsub => by
    simp only [walkDirectiveItems]
    have h1 := Built.args (sv := sv) cur ((sv.directive? dir.name).map (·.args)) dir.args ws hc
      (ArgCall.directive loc ds dir hds (hsub dir List.mem_cons_self))
    have h2 := walkDirectiveItems_built cur hc parent loc ds hds rest
      (walkArgs sv cur ((sv.directive? dir.name).map (·.args)) dir.args ws).1
      (fun x hx => hsub x (List.mem_cons_of_mem _ hx))
    refine Built.append h1 (Built.cons _ ?_ rfl h2)
    exact trivial

theorem walkDirectives_built (cur : Option OperationDef) (hc : CurOK d cur) (parent : Option Definition)
    (ds : List Directive) (loc : Bytes) (ws : WS) (hds : InDoc sv d (.dirs loc ds)) :
    Built sv d ws.links.vlinks (walkDirectives sv cur parent ds loc ws).2
      (walkDirectives sv cur parent ds loc ws).1.links.vlinks := by
  simp only [walkDirectives]
  refine Built.snoc (walkDirectiveItems_built cur hc parent loc ds hds ds ws (fun _ h => h)) _ ?_ rfl
  exact trivial

def JumpBuilt (sv : SV) (d : QueryDoc) (J : Jump) : Prop :=
  ∀ parent sels (ws : WS) r, (∀ p' y, InSelsW sv parent sels p' y → InDocW sv d p' y) → J parent sels ws = some r →
    Built sv d ws.links.vlinks r.2 r.1.links.vlinks

theorem walkSel_built_cases (cur : Option OperationDef) (hc : CurOK d cur) (J : Jump) (hJ : JumpBuilt sv d J) :
    WalkCases sv d cur J
      (fun parent x ws r => (∀ p' y, InSelW sv parent x p' y → InDocW sv d p' y) →
        Built sv d ws.links.vlinks r.2 r.1.links.vlinks)
      (fun parent xs ws r => (∀ p' y, InSelsW sv parent xs p' y → InDocW sv d p' y) →
        Built sv d ws.links.vlinks r.2 r.1.links.vlinks) where
  field := fun parent al nm args dirs sub p ws _ _ ih hx => by
    have hself := hx _ _ (InSelW.self parent (.field al nm args dirs sub p))
    have h1 := Built.args (sv := sv) cur ((wFieldDef parent nm).map (·.args)) args (ws.markSel p.start) hc
      (ArgCall.field parent al nm args dirs sub p hself)
    have h2 := walkDirectives_built (sv := sv) cur hc (wNext sv parent nm) dirs locField
      (walkArgs sv cur ((wFieldDef parent nm).map (·.args)) args (ws.markSel p.start)).1 (inDocW_dirs hself)
    exact Built.snoc (Built.append (Built.append h1 h2)
      (ih fun p' y hi => hx p' y (InSelW.fieldSub parent al nm args dirs sub p p' y hi))) _ trivial rfl
  inline := fun parent tc dirs sub p ws _ _ ih hx => by
    have hself := hx _ _ (InSelW.self parent (.inline tc dirs sub p))
    have h2 := walkDirectives_built (sv := sv) cur hc (wInline sv parent tc) dirs locInlineFragment
      (ws.markSel p.start) (inDocW_dirs hself)
    exact Built.snoc (Built.append h2
      (ih fun p' y hi => hx p' y (InSelW.inlineSub parent tc dirs sub p p' y hi))) _ trivial rfl
  spreadStop := fun parent nm dirs p ws _ hx =>
    Built.snoc (walkDirectives_built (sv := sv) cur hc _ dirs locFragmentSpread (ws.markSel p.start)
      (inDocW_dirs (hx _ _ (InSelW.self parent (.spread nm dirs p))))) _ trivial rfl
  spreadJump := fun parent nm dirs p ws f r3 hf _ h3 hx => by
    have hfm := fragForName_mem hf
    have hd := walkDirectives_built (sv := sv) cur hc (sv.type? f.typeCond) dirs locFragmentSpread (ws.markSel p.start)
      (inDocW_dirs (hx _ _ (InSelW.self parent (.spread nm dirs p))))
    have hdd := walkDirectives_built (sv := sv) cur hc (sv.type? f.typeCond) f.dirs locFragmentDefinition
      { (walkDirectives sv cur (sv.type? f.typeCond) dirs locFragmentSpread (ws.markSel p.start)).1 with
        visited := f.name :: ws.visited } (Or.inr ⟨f, hfm, Or.inr rfl⟩)
    exact Built.snoc (Built.append (Built.append hd hdd)
      (hJ _ _ _ r3 (fun p' y hi => Or.inr ⟨f, hfm, hi⟩) h3)) _ trivial rfl
  nil := fun _ _ _ => Built.nil _
  cons := fun parent x rest _ _ _ _ _ ih1 ih2 hx =>
    Built.append (ih1 fun p' y hi => hx p' y (InSelsW.head parent x rest p' y hi))
      (ih2 fun p' y hi => hx p' y (InSelsW.tail parent x rest p' y hi))

theorem walkSelection_built (cur : Option OperationDef) (hc : CurOK d cur) (J : Jump) (hJ : JumpBuilt sv d J) :
    ∀ (x : Selection) (parent : Option Definition) (ws : WS) r,
      (∀ p' y, InSelW sv parent x p' y → InDocW sv d p' y) →
      walkSelection sv d cur J parent x ws = some r → Built sv d ws.links.vlinks r.2 r.1.links.vlinks :=
  fun x parent ws r hx h => walkSelection_induct (walkSel_built_cases cur hc J hJ) x parent ws r h hx

theorem walkLevel_built (cur : Option OperationDef) (hc : CurOK d cur) : ∀ n, JumpBuilt sv d (walkLevel sv d cur n) :=
  fun n parent sels ws r hx h =>
    walkLevel_induct (fun J hJ => walkSel_built_cases cur hc J fun p x w r hx h => hJ p x w r h hx) n parent sels ws r h hx

theorem walkVarDefsA_built (op : OperationDef) (hop : op ∈ d.ops) (ws : WS) :
    ∀ vs : List VarDef, (∀ v ∈ vs, v ∈ op.vars) →
      Built sv d ws.links.vlinks (walkVarDefsA sv (some op) ws vs) ws.links.vlinks
  | [], _ => Built.nil _
  | v :: rest, hsub => by
    simp only [walkVarDefsA]
    exact Built.append (es := [_]) (Built.vdef op v ws.links hop (hsub v List.mem_cons_self))
      (walkVarDefsA_built op hop ws rest (fun x hx => hsub x (List.mem_cons_of_mem _ hx)))

theorem walkVarDefsB_built (op : OperationDef) (hop : op ∈ d.ops) :
    ∀ (vs : List VarDef) (ws : WS), (∀ v ∈ vs, v ∈ op.vars) →
      Built sv d ws.links.vlinks (walkVarDefsB sv (some op) vs ws).2 (walkVarDefsB sv (some op) vs ws).1.links.vlinks
  | [], ws, _ => by simp only [walkVarDefsB]; exact Built.nil _
  | v :: rest, ws, hsub => by
    have hc : CurOK d (some op) := fun o ho => by injection ho with ho; subst ho; exact hop
    have hv := hsub v List.mem_cons_self
    simp only [walkVarDefsB]
    cases hdv : v.default with
    | none =>
      simp only
      have h2 := walkDirectives_built (sv := sv) (some op) hc (sv.type? v.type.name) v.dirs locVariableDefinition ws
        (Or.inl ⟨op, hop, Or.inr (Or.inr ⟨v, hv, rfl⟩)⟩)
      have h3 := walkVarDefsB_built op hop rest
        (walkDirectives sv (some op) (sv.type? v.type.name) v.dirs locVariableDefinition ws).1
        (fun x hx => hsub x (List.mem_cons_of_mem _ hx))
      exact Built.append (Built.append (Built.nil _) h2) h3
    | some dv =>
      simp only
      have h1 := Built.default (sv := sv) op v dv ws hop hv hdv
      have h2 := walkDirectives_built (sv := sv) (some op) hc (sv.type? v.type.name) v.dirs locVariableDefinition
        (walkValue sv (some op) (some v.type) (sv.type? v.type.name) dv ws).1
        (Or.inl ⟨op, hop, Or.inr (Or.inr ⟨v, hv, rfl⟩)⟩)
      have h3 := walkVarDefsB_built op hop rest
        (walkDirectives sv (some op) (sv.type? v.type.name) v.dirs locVariableDefinition
          (walkValue sv (some op) (some v.type) (sv.type? v.type.name) dv ws).1).1
        (fun x hx => hsub x (List.mem_cons_of_mem _ hx))
      exact Built.append (Built.append h1 h2) h3

end

theorem walkDoc_built (sv : SV) (d : QueryDoc) (evs : List Event) (h : walkDoc sv d = some evs) :
    ∃ l, Built sv d [] evs l := by
  refine (walkDoc_fold (M := fun l es l' => Built sv d l.vlinks es l'.vlinks) (fun _ => Built.nil _)
    Built.append (fun op hop l r h => ?_) (fun f hf l r h => ?_) h).elim fun l hb => ⟨_, hb⟩
  · have hc : CurOK d (some op) := fun o ho => by injection ho with ho; subst ho; exact hop
    obtain ⟨r4, h4, rfl⟩ := walkOperation_inv h
    exact Built.snoc (Built.append (Built.append (Built.append
      (walkVarDefsA_built op hop { visited := [], links := l, used := [] } op.vars (fun _ h => h))
      (walkVarDefsB_built op hop op.vars { visited := [], links := l, used := [] } (fun _ h => h)))
      (walkDirectives_built (some op) hc (opRoot sv op.op).1 op.dirs (opRoot sv op.op).2 _
        (Or.inl ⟨op, hop, Or.inr (Or.inl rfl)⟩)))
      (walkLevel_built (some op) hc _ _ _ _ r4 (fun p' y hi => Or.inl ⟨op, hop, hi⟩) h4)) _ trivial rfl
  · have hc : CurOK d none := fun o ho => by cases ho
    obtain ⟨r2, h2, rfl⟩ := walkFragment_inv h
    exact Built.snoc (Built.append
      (walkDirectives_built none hc (sv.type? f.typeCond) f.dirs locFragmentDefinition
        { visited := [], links := l, used := [] } (Or.inr ⟨f, hf, Or.inr rfl⟩))
      (walkLevel_built none hc _ _ _ _ r2 (fun p' y hi => Or.inr ⟨f, hf, hi⟩) h2)) _ trivial rfl

end Gql.Validate
