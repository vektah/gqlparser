import GqlProofs.ValSpec.EventSets
/-
  KnownDirectives (a rule with a `seen` set that only suppresses REPEATED reports) against
  `directivesAreDefined ∧ directivesInValidLocations`.
-/
namespace Gql.Validate
open Gql Gql.Validate.Rules

def kdOK (e : Event) : Prop :=
  match e.p with
  | .directive _ none _ _ => False
  | .directive _ (some dd) _ loc => dd.locations.contains loc = true
  | _ => True

/-- from the empty `seen` set: an event that is fine leaves it empty, any other event is reported -/
theorem knownDirectives_silent (sv : SV) (d : QueryDoc) (name : Bytes) :
    ∀ es : List Event,
      runAll sv d [⟨{ name := name, σ := KDState, init := [], step := knownDirectivesStep }, []⟩] es = .ok [] ↔
        ∀ e ∈ es, kdOK e
  | [] => by simp [runAll]
  | e :: rest => by
    have ih := knownDirectives_silent sv d name rest
    simp only [List.mem_cons, forall_eq_or_imp, ← ih]
    by_cases hok : kdOK e
    · have hst : knownDirectivesStep sv d [] e = .ok [] [] := by
        unfold knownDirectivesStep
        unfold kdOK at hok
        split <;> simp_all
      rw [runAll_single_nil_cons hst]
      simp [hok]
    · have hst : ∃ st' er, knownDirectivesStep sv d [] e = .ok st' er ∧ er ≠ [] := by
        unfold knownDirectivesStep
        unfold kdOK at hok
        split
        · exact ⟨_, _, rfl, by simp⟩
        · rename_i dir dd par loc hp
          rw [hp] at hok
          simp only at hok
          simp only [hok, Bool.false_eq_true, if_false, List.contains_nil]
          exact ⟨_, _, rfl, by simp⟩
        · rename_i h1 h2
          exfalso
          apply hok
          split
          · rename_i hp; exact absurd hp (h1 _ _ _)
          · rename_i hp; exact absurd hp (h2 _ _ _ _)
          · trivial
      obtain ⟨st', er, h1, h2⟩ := hst
      rw [runAll_single_nil_cons h1]
      simp [hok, h2]

theorem validate_knownDirectives (s : Schema) (d : QueryDoc) (evs : List Event) (hw : walkDoc s.view d = some evs) :
    validate [knownDirectives] s d = .ok [] ↔ ∀ e ∈ evs, kdOK e :=
  (validate_single_nil_iff _ s d evs hw).trans (knownDirectives_silent s.view d _ evs)

theorem knownDirectives_iff (s : Schema) (d : QueryDoc) (evs : List Event) (hw : walkDoc s.view d = some evs)
    (hk : ∀ op ∈ d.ops, op.op ∈ parserOpKinds) :
    (∀ e ∈ evs, kdOK e) ↔
      (Spec.directivesAreDefined s d = true ∧ Spec.directivesInValidLocations s d = true) := by
  unfold Spec.directivesAreDefined Spec.directivesInValidLocations
  simp only [List.all_eq_true]
  constructor
  · intro h
    constructor
    · intro dir hdir
      simp only [Spec.allDirectives, List.mem_flatMap] at hdir
      obtain ⟨⟨loc, ds⟩, hls, hd⟩ := hdir
      obtain ⟨e, he, par, hp⟩ := directive_event_complete s d evs hw hk loc ds hls dir hd
      have := h e he
      unfold kdOK at this
      rw [hp] at this
      cases hdd : s.directive? dir.name with
      | none =>
        rw [hdd] at this
        exact absurd this (by simp)
      | some dd => rfl
    · rintro ⟨loc, ds⟩ hls dir hd
      obtain ⟨e, he, par, hp⟩ := directive_event_complete s d evs hw hk loc ds hls dir hd
      have := h e he
      unfold kdOK at this
      rw [hp] at this
      unfold Spec.locationAllowed
      cases hdd : s.directive? dir.name with
      | none => rfl
      | some dd =>
        rw [hdd] at this
        exact this
  · rintro ⟨h1, h2⟩ e he
    unfold kdOK
    split
    · rename_i dir par loc hp
      obtain ⟨hdfn, ds, hls, hd⟩ := directive_event_sound s d evs hw hk e he dir none par loc hp
      have := h1 dir (by simp only [Spec.allDirectives, List.mem_flatMap]; exact ⟨(loc, ds), hls, hd⟩)
      have hview : s.directive? dir.name = none := hdfn.symm
      rw [hview] at this
      simp at this
    · rename_i dir dd par loc hp
      obtain ⟨hdfn, ds, hls, hd⟩ := directive_event_sound s d evs hw hk e he dir (some dd) par loc hp
      have := h2 (loc, ds) hls dir hd
      unfold Spec.locationAllowed at this
      have hview : s.directive? dir.name = some dd := hdfn.symm
      rw [hview] at this
      exact this
    · trivial

end Gql.Validate
