import GqlProofs.ValSpec.Coverage
import GqlProofs.Validate.OpEvents
import GqlModel.Validate.Spec.Valid
/-
  Bridge between the syntactic occurrence predicates (`InSel`, `InDoc`) and the lists the
  specification quantifies over (`Spec.docSels`, `Spec.directiveSites`); and the parent types of
  `Spec.docSels` (`typedSel_parent`, `docSels_parent`: what holds of every definition the schema resolves);
  the argument sites of the specification (`mem_argSites_iff`; `argSites_defs`: their argument definitions are
  those of the fields and directives of the schema).
-/
namespace Gql.Validate
open Gql

theorem typedSel_head (s : Schema) (p : Option Definition) (x : Selection) :
    (⟨p, x⟩ : Spec.TSel) ∈ Spec.typedSel s p x := by
  cases x <;> simp [Spec.typedSel]

section parents
variable (s : Schema) {P : Option Definition → Prop} (hn : P none) (ht : ∀ n, P (s.type? n))
include hn ht

theorem bind_type?_parent {α : Type} (o : Option α) (f : α → Name) : P (o.bind fun x => s.type? (f x)) := by
  cases o with
  | none => exact hn
  | some x => exact ht _

mutual
  theorem typedSel_parent : ∀ (x : Selection) (parent : Option Definition), P parent →
      ∀ t ∈ Spec.typedSel s parent x, P t.parent
    | .field al nm args dirs sub p, parent, hp, t, h => by
      rw [Spec.typedSel] at h
      rcases List.mem_cons.1 h with rfl | h
      · exact hp
      · exact typedSels_parent sub _ (bind_type?_parent s hn ht _ _) t h
    | .spread nm dirs p, parent, hp, t, h => by
      rw [Spec.typedSel, List.mem_singleton] at h
      exact h ▸ hp
    | .inline tc dirs sub p, parent, hp, t, h => by
      rw [Spec.typedSel] at h
      rcases List.mem_cons.1 h with rfl | h
      · exact hp
      · refine typedSels_parent sub _ ?_ t h
        unfold Spec.inlineType
        split
        · exact hp
        · exact ht tc
  theorem typedSels_parent : ∀ (xs : Selections) (parent : Option Definition), P parent →
      ∀ t ∈ Spec.typedSels s parent xs, P t.parent
    | .nil, parent, hp, t, h => by rw [Spec.typedSels] at h; cases h
    | .cons x rest, parent, hp, t, h => by
      rw [Spec.typedSels] at h
      rcases List.mem_append.1 h with h | h
      · exact typedSel_parent x parent hp t h
      · exact typedSels_parent rest parent hp t h
end

theorem docSels_parent (d : QueryDoc) : ∀ t ∈ Spec.docSels s d, P t.parent := by
  intro t h
  rcases List.mem_append.1 h with h | h
  · obtain ⟨op, _, h⟩ := List.mem_flatMap.1 h
    exact typedSels_parent s hn ht op.sel _ (bind_type?_parent s hn ht (Spec.rootName s op.op) id) t h
  · obtain ⟨f, _, h⟩ := List.mem_flatMap.1 h
    exact typedSels_parent s hn ht f.sel _ (ht _) t h

end parents

mutual
  theorem typedSel_mem_inSel (s : Schema) :
      ∀ (x : Selection) (p : Option Definition) (t : Spec.TSel), t ∈ Spec.typedSel s p x → InSel x (.sel t.sel)
    | .field al nm args dirs sub pos, p, t, h => by
      simp only [Spec.typedSel, List.mem_cons] at h
      rcases h with rfl | h
      · exact InSel.self _
      · exact InSel.fieldSub _ _ _ _ _ _ _ (typedSels_mem_inSels s sub _ t h)
    | .spread nm dirs pos, p, t, h => by
      simp only [Spec.typedSel, List.mem_singleton] at h
      subst h
      exact InSel.self _
    | .inline tc dirs sub pos, p, t, h => by
      simp only [Spec.typedSel, List.mem_cons] at h
      rcases h with rfl | h
      · exact InSel.self _
      · exact InSel.inlineSub _ _ _ _ _ (typedSels_mem_inSels s sub _ t h)
  theorem typedSels_mem_inSels (s : Schema) :
      ∀ (xs : Selections) (p : Option Definition) (t : Spec.TSel), t ∈ Spec.typedSels s p xs → InSels xs (.sel t.sel)
    | .nil, p, t, h => by simp [Spec.typedSels] at h
    | .cons x rest, p, t, h => by
      simp only [Spec.typedSels, List.mem_append] at h
      rcases h with h | h
      · exact InSels.head _ _ _ (typedSel_mem_inSel s x p t h)
      · exact InSels.tail _ _ _ (typedSels_mem_inSels s rest p t h)
end

mutual
  theorem inSel_mem_typedSel (s : Schema) :
      ∀ (x : Selection) (p : Option Definition) (y : Selection), InSel x (.sel y) →
        ∃ p', (⟨p', y⟩ : Spec.TSel) ∈ Spec.typedSel s p x
    | .field al nm args dirs sub pos, p, y, h => by
      cases h with
      | self => exact ⟨p, typedSel_head s p _⟩
      | fieldSub _ _ _ _ _ _ _ hs =>
        obtain ⟨p', hp⟩ := inSels_mem_typedSels s sub (Spec.fieldType s p nm) y hs
        exact ⟨p', by simp only [Spec.typedSel, List.mem_cons]; exact Or.inr hp⟩
    | .spread nm dirs pos, p, y, h => by
      cases h with
      | self => exact ⟨p, typedSel_head s p _⟩
    | .inline tc dirs sub pos, p, y, h => by
      cases h with
      | self => exact ⟨p, typedSel_head s p _⟩
      | inlineSub _ _ _ _ _ hs =>
        obtain ⟨p', hp⟩ := inSels_mem_typedSels s sub (Spec.inlineType s p tc) y hs
        exact ⟨p', by simp only [Spec.typedSel, List.mem_cons]; exact Or.inr hp⟩
  theorem inSels_mem_typedSels (s : Schema) :
      ∀ (xs : Selections) (p : Option Definition) (y : Selection), InSels xs (.sel y) →
        ∃ p', (⟨p', y⟩ : Spec.TSel) ∈ Spec.typedSels s p xs
    | .nil, p, y, h => by cases h
    | .cons x rest, p, y, h => by
      cases h with
      | head _ _ _ hx =>
        obtain ⟨p', hp⟩ := inSel_mem_typedSel s x p y hx
        exact ⟨p', by simp only [Spec.typedSels, List.mem_append]; exact Or.inl hp⟩
      | tail _ _ _ hx =>
        obtain ⟨p', hp⟩ := inSels_mem_typedSels s rest p y hx
        exact ⟨p', by simp only [Spec.typedSels, List.mem_append]; exact Or.inr hp⟩
end

theorem inSel_self_dirs : ∀ (y : Selection), InSel y (.dirs (Spec.selLoc y) (Spec.selDirs y))
  | .field al nm args dirs sub p => InSel.fieldDirs al nm args dirs sub p
  | .spread nm dirs p => InSel.spreadDirs nm dirs p
  | .inline tc dirs sub p => InSel.inlineDirs tc dirs sub p

mutual
  theorem inSel_dirs_of_sel :
      ∀ (x y : Selection), InSel x (.sel y) → InSel x (.dirs (Spec.selLoc y) (Spec.selDirs y))
    | .field al nm args dirs sub pos, y, h => by
      cases h with
      | self => exact inSel_self_dirs _
      | fieldSub _ _ _ _ _ _ _ hs => exact InSel.fieldSub _ _ _ _ _ _ _ (inSels_dirs_of_sel sub y hs)
    | .spread nm dirs pos, y, h => by
      cases h with
      | self => exact inSel_self_dirs _
    | .inline tc dirs sub pos, y, h => by
      cases h with
      | self => exact inSel_self_dirs _
      | inlineSub _ _ _ _ _ hs => exact InSel.inlineSub _ _ _ _ _ (inSels_dirs_of_sel sub y hs)
  theorem inSels_dirs_of_sel :
      ∀ (xs : Selections) (y : Selection), InSels xs (.sel y) → InSels xs (.dirs (Spec.selLoc y) (Spec.selDirs y))
    | .nil, y, h => by cases h
    | .cons x rest, y, h => by
      cases h with
      | head _ _ _ hx => exact InSels.head _ _ _ (inSel_dirs_of_sel x y hx)
      | tail _ _ _ hx => exact InSels.tail _ _ _ (inSels_dirs_of_sel rest y hx)
end

mutual
  theorem inSel_dirs_inv :
      ∀ (x : Selection) (loc : Bytes) (ds : List Directive), InSel x (.dirs loc ds) →
        ∃ y, InSel x (.sel y) ∧ loc = Spec.selLoc y ∧ ds = Spec.selDirs y
    | .field al nm args dirs sub pos, loc, ds, h => by
      cases h with
      | fieldDirs => exact ⟨_, InSel.self _, rfl, rfl⟩
      | fieldSub _ _ _ _ _ _ _ hs =>
        obtain ⟨y, hy, a, b⟩ := inSels_dirs_inv sub loc ds hs
        exact ⟨y, InSel.fieldSub _ _ _ _ _ _ _ hy, a, b⟩
    | .spread nm dirs pos, loc, ds, h => by
      cases h with
      | spreadDirs => exact ⟨_, InSel.self _, rfl, rfl⟩
    | .inline tc dirs sub pos, loc, ds, h => by
      cases h with
      | inlineDirs => exact ⟨_, InSel.self _, rfl, rfl⟩
      | inlineSub _ _ _ _ _ hs =>
        obtain ⟨y, hy, a, b⟩ := inSels_dirs_inv sub loc ds hs
        exact ⟨y, InSel.inlineSub _ _ _ _ _ hy, a, b⟩
  theorem inSels_dirs_inv :
      ∀ (xs : Selections) (loc : Bytes) (ds : List Directive), InSels xs (.dirs loc ds) →
        ∃ y, InSels xs (.sel y) ∧ loc = Spec.selLoc y ∧ ds = Spec.selDirs y
    | .nil, loc, ds, h => by cases h
    | .cons x rest, loc, ds, h => by
      cases h with
      | head _ _ _ hx =>
        obtain ⟨y, hy, a, b⟩ := inSel_dirs_inv x loc ds hx
        exact ⟨y, InSels.head _ _ _ hy, a, b⟩
      | tail _ _ _ hx =>
        obtain ⟨y, hy, a, b⟩ := inSels_dirs_inv rest loc ds hx
        exact ⟨y, InSels.tail _ _ _ hy, a, b⟩
end

def InDocSel (d : QueryDoc) (i : Item) : Prop :=
  (∃ op ∈ d.ops, InSels op.sel i) ∨ (∃ f ∈ d.frags, InSels f.sel i)

theorem inDoc_sel_iff (sv : SV) (d : QueryDoc) (y : Selection) : InDoc sv d (.sel y) ↔ InDocSel d (.sel y) := by
  unfold InDoc InDocSel
  constructor
  · rintro (⟨op, hop, h | h | ⟨v, _, h⟩⟩ | ⟨f, hf, h | h⟩)
    · exact Or.inl ⟨op, hop, h⟩
    · cases h
    · cases h
    · exact Or.inr ⟨f, hf, h⟩
    · cases h
  · rintro (⟨op, hop, h⟩ | ⟨f, hf, h⟩)
    · exact Or.inl ⟨op, hop, Or.inl h⟩
    · exact Or.inr ⟨f, hf, Or.inl h⟩

theorem docSels_iff (s : Schema) (d : QueryDoc) (y : Selection) :
    (∃ p, (⟨p, y⟩ : Spec.TSel) ∈ Spec.docSels s d) ↔ InDocSel d (.sel y) := by
  unfold Spec.docSels InDocSel
  simp only [List.mem_append, List.mem_flatMap]
  constructor
  · rintro ⟨p, ⟨op, hop, h⟩ | ⟨f, hf, h⟩⟩
    · exact Or.inl ⟨op, hop, typedSels_mem_inSels s _ _ _ h⟩
    · exact Or.inr ⟨f, hf, typedSels_mem_inSels s _ _ _ h⟩
  · rintro (⟨op, hop, h⟩ | ⟨f, hf, h⟩)
    · obtain ⟨p, hp⟩ := inSels_mem_typedSels s _ (Spec.rootDef s op.op) y h
      exact ⟨p, Or.inl ⟨op, hop, hp⟩⟩
    · obtain ⟨p, hp⟩ := inSels_mem_typedSels s _ (s.type? f.typeCond) y h
      exact ⟨p, Or.inr ⟨f, hf, hp⟩⟩

theorem docSels_mem_inDocSel (s : Schema) (d : QueryDoc) (t : Spec.TSel) (h : t ∈ Spec.docSels s d) :
    InDocSel d (.sel t.sel) := (docSels_iff s d t.sel).1 ⟨t.parent, h⟩

theorem opRoot_loc (sv : SV) (op : Operation) (h : op ∈ parserOpKinds) : (opRoot sv op).2 = Spec.locOfOp op := by
  simp only [parserOpKinds, List.mem_cons, List.not_mem_nil, or_false] at h
  rcases h with rfl | rfl | rfl | rfl <;> rfl

/-- Only the location of an operation's own directives is computed differently on the two sides (`Spec.locOfOp` /
    `opRoot`): `R` is what is known of the two there — equality for the parser's operation kinds, nothing when the
    location is not compared. -/
theorem directiveSites_rel (s : Schema) (d : QueryDoc) (R : Bytes → Bytes → Prop) (hR : ∀ l, R l l)
    (hop : ∀ op ∈ d.ops, R (Spec.locOfOp op.op) (opRoot s.view op.op).2) (ds : List Directive) :
    (∀ loc, (loc, ds) ∈ Spec.directiveSites s d → ∃ loc', R loc loc' ∧ InDoc s.view d (.dirs loc' ds)) ∧
    (∀ loc', InDoc s.view d (.dirs loc' ds) → ∃ loc, R loc loc' ∧ (loc, ds) ∈ Spec.directiveSites s d) := by
  unfold Spec.directiveSites InDoc
  simp only [List.mem_append, List.mem_flatMap, List.mem_cons, List.mem_map]
  constructor
  · rintro loc ((⟨op, hop', h | ⟨v, hv, h⟩⟩ | ⟨f, hf, h⟩) | ⟨t, ht, h⟩) <;> injection h with h1 h2 <;> subst h1 h2
    · exact ⟨_, hop op hop', Or.inl ⟨op, hop', Or.inr (Or.inl rfl)⟩⟩
    · exact ⟨_, hR _, Or.inl ⟨op, hop', Or.inr (Or.inr ⟨v, hv, rfl⟩)⟩⟩
    · exact ⟨_, hR _, Or.inr ⟨f, hf, Or.inr rfl⟩⟩
    · rcases docSels_mem_inDocSel s d t ht with ⟨op, hop', hs⟩ | ⟨f, hf, hs⟩
      · exact ⟨_, hR _, Or.inl ⟨op, hop', Or.inl (inSels_dirs_of_sel _ _ hs)⟩⟩
      · exact ⟨_, hR _, Or.inr ⟨f, hf, Or.inl (inSels_dirs_of_sel _ _ hs)⟩⟩
  · rintro loc' (⟨op, hop', h | h | ⟨v, hv, h⟩⟩ | ⟨f, hf, h | h⟩)
    · obtain ⟨y, hy, rfl, rfl⟩ := inSels_dirs_inv _ _ _ h
      obtain ⟨p, hp⟩ := (docSels_iff s d y).2 (Or.inl ⟨op, hop', hy⟩)
      exact ⟨_, hR _, Or.inr ⟨⟨p, y⟩, hp, rfl⟩⟩
    · injection h with h1 h2
      subst h1 h2
      exact ⟨_, hop op hop', Or.inl (Or.inl ⟨op, hop', Or.inl rfl⟩)⟩
    · injection h with h1 h2
      subst h1 h2
      exact ⟨_, hR _, Or.inl (Or.inl ⟨op, hop', Or.inr ⟨v, hv, rfl⟩⟩)⟩
    · obtain ⟨y, hy, rfl, rfl⟩ := inSels_dirs_inv _ _ _ h
      obtain ⟨p, hp⟩ := (docSels_iff s d y).2 (Or.inr ⟨f, hf, hy⟩)
      exact ⟨_, hR _, Or.inr ⟨⟨p, y⟩, hp, rfl⟩⟩
    · injection h with h1 h2
      subst h1 h2
      exact ⟨_, hR _, Or.inl (Or.inr ⟨f, hf, rfl⟩)⟩

theorem directiveSites_iff (s : Schema) (d : QueryDoc) (hk : ∀ op ∈ d.ops, op.op ∈ parserOpKinds)
    (loc : Bytes) (ds : List Directive) :
    (loc, ds) ∈ Spec.directiveSites s d ↔ InDoc s.view d (.dirs loc ds) := by
  have h := directiveSites_rel s d Eq (fun _ => rfl) (fun op hop => (opRoot_loc s.view op.op (hk op hop)).symm) ds
  exact ⟨fun hs => by obtain ⟨_, rfl, hi⟩ := h.1 loc hs; exact hi, fun hi => by obtain ⟨_, rfl, hs⟩ := h.2 loc hi; exact hs⟩

/-- `directiveSites_iff` without the location (and so without a hypothesis on the operation kinds) -/
theorem directiveSites_dirs_iff (s : Schema) (d : QueryDoc) (ds : List Directive) :
    (∃ loc, (loc, ds) ∈ Spec.directiveSites s d) ↔ ∃ loc, InDoc s.view d (.dirs loc ds) := by
  have h := directiveSites_rel s d (fun _ _ => True) (fun _ => trivial) (fun _ _ => trivial) ds
  exact ⟨fun ⟨loc, hs⟩ => (h.1 loc hs).imp fun _ x => x.2, fun ⟨loc, hi⟩ => (h.2 loc hi).imp fun _ x => x.2⟩

theorem mem_argSites_iff {s : Schema} {d : QueryDoc} {site : Spec.ArgSite} :
    site ∈ Spec.argSites s d ↔
      (∃ par al nm args dirs sub p, (⟨par, .field al nm args dirs sub p⟩ : Spec.TSel) ∈ Spec.docSels s d ∧
          site = ⟨(par.bind (Spec.fieldDefOn · nm)).map (·.args), args⟩) ∨
      ∃ dir ∈ Spec.allDirectives s d, site = ⟨(s.directive? dir.name).map (·.args), dir.args⟩ := by
  simp only [Spec.argSites, Spec.fieldArgSites, Spec.directiveArgSites, List.mem_append, List.mem_filterMap, List.mem_map]
  refine or_congr ⟨?_, ?_⟩ ⟨fun ⟨dir, h, e⟩ => ⟨dir, h, e.symm⟩, fun ⟨dir, h, e⟩ => ⟨dir, h, e.symm⟩⟩
  · rintro ⟨⟨par, sel⟩, ht, hm⟩
    cases sel with
    | field al nm args dirs sub p => exact ⟨par, al, nm, args, dirs, sub, p, ht, (Option.some.inj hm).symm⟩
    | spread nm dirs p => cases hm
    | inline tc dirs sub p => cases hm
  · rintro ⟨par, al, nm, args, dirs, sub, p, ht, rfl⟩
    exact ⟨_, ht, rfl⟩

theorem argSites_field {s : Schema} {d : QueryDoc} {par : Option Definition} {al nm : Name} {args : List Argument}
    {dirs : List Directive} {sub : Selections} {p : Pos}
    (h : (⟨par, .field al nm args dirs sub p⟩ : Spec.TSel) ∈ Spec.docSels s d) :
    (⟨(par.bind (Spec.fieldDefOn · nm)).map (·.args), args⟩ : Spec.ArgSite) ∈ Spec.argSites s d :=
  mem_argSites_iff.2 (.inl ⟨par, al, nm, args, dirs, sub, p, h, rfl⟩)

theorem argSites_directive {s : Schema} {d : QueryDoc} {dir : Directive} (h : dir ∈ Spec.allDirectives s d) :
    (⟨(s.directive? dir.name).map (·.args), dir.args⟩ : Spec.ArgSite) ∈ Spec.argSites s d :=
  mem_argSites_iff.2 (.inr ⟨dir, h, rfl⟩)

theorem fieldDefOn_cases {p : Definition} {nm : Name} {fd : FieldDef} (h : Spec.fieldDefOn p nm = some fd) :
    fd = Spec.typenameField ∨ fd ∈ p.fields := by
  unfold Spec.fieldDefOn at h
  split at h
  · split at h
    · exact Or.inl (Option.some.inj h).symm
    · cases h
  · split at h
    · exact Or.inr (List.mem_of_find?_eq_some h)
    · cases h

theorem argSites_defs {s : Schema} {d : QueryDoc} {P : ArgDef → Prop}
    (hf : ∀ p ∈ s.types, ∀ f ∈ p.2.fields, ∀ a ∈ f.args, P a) (hd : ∀ p ∈ s.directives, ∀ a ∈ p.2.args, P a)
    {site : Spec.ArgSite} (hsite : site ∈ Spec.argSites s d) {l : List ArgDef} (hl : site.defs = some l) :
    ∀ a ∈ l, P a := by
  rcases mem_argSites_iff.1 hsite with ⟨par, al, nm, args, dirs, sub, p, hts, rfl⟩ | ⟨dir, _, rfl⟩
  · obtain ⟨fd, hfd, rfl⟩ := Option.map_eq_some_iff.1 hl
    obtain ⟨q, rfl, hq⟩ := Option.bind_eq_some_iff.1 hfd
    obtain ⟨n, hn⟩ := docSels_parent s (P := fun p => ∀ q, p = some q → ∃ n, s.type? n = some q) nofun
      (fun n _ h => ⟨n, h⟩) d _ hts q rfl
    rcases fieldDefOn_cases hq with rfl | hm
    · exact nofun
    · exact hf _ (mem_of_lookup hn) fd hm
  · obtain ⟨dd, hdd, rfl⟩ := Option.map_eq_some_iff.1 hl
    exact hd _ (mem_of_lookup hdd)

theorem mem_allDirectives {s : Schema} {d : QueryDoc} {loc : Bytes} {ds : List Directive} {dir : Directive}
    (hls : (loc, ds) ∈ Spec.directiveSites s d) (hd : dir ∈ ds) : dir ∈ Spec.allDirectives s d :=
  List.mem_flatMap.2 ⟨(loc, ds), hls, hd⟩

end Gql.Validate
