import GqlProofs.ValSpec.Events
import GqlProofs.Validate.Compose
/-
  What a run fires outside the walks of selections, directives and values, as one equation
  (`walkDoc_tops`): per operation its `variable` events and then its `operation` event, then the
  `fragment` events, in document order, once each, with their links.  Read through a projection:
  `walkDoc_events`, `operation_event_iff`, `fragment_event_iff`, `varDef_event_iff`.
  Then: one rule run alone on a stream, and "the rule reports nothing" for a rule run alone reduced to
  its step function on the events of the walk, which always exists (`validate_stateless_iff`).
-/
namespace Gql.Validate
open Gql

/-- a payload built inside the walk of selections, directives or values -/
def Payload.inner : Payload → Prop
  | .variable .. => False
  | .operation .. => False
  | .fragment .. => False
  | _ => True

theorem inner_selSites (s : SV) (d : QueryDoc) : SelSites s d (fun _ => True) Payload.inner :=
  { value := fun _ _ _ => trivial, directive := fun _ _ _ => trivial, directiveList := fun _ => trivial,
    field := fun _ _ _ => trivial, inline := fun _ _ => trivial, spread := fun _ _ _ => trivial,
    frags := fun _ _ _ _ => trivial }

theorem walkOperation_split {s : SV} {d : QueryDoc} {P : Payload → Prop} (hP : SelSites s d (fun _ => True) P)
    {fuel : Nat} {op : OperationDef} {l : Links} {r : Links × List Event} (h : walkOperation s d fuel op l = some r) :
    ∃ mid used, AllP P mid ∧ r.2 = walkVarDefsA s (some op) { visited := [], links := l, used := [] } op.vars ++ mid ++
      [{ cur := some op, links := r.1, p := .operation op used }] := by
  obtain ⟨r4, h4, rfl⟩ := walkOperation_inv h
  refine ⟨(walkVarDefsB s (some op) op.vars { visited := [], links := l, used := [] }).2 ++
      (walkDirectives s (some op) (opRoot s op.op).1 op.dirs (opRoot s op.op).2
        (walkVarDefsB s (some op) op.vars { visited := [], links := l, used := [] }).1).2 ++ r4.2,
    usedFlags r4.1.used op.vars [],
    AllP.append (AllP.append (walkVarDefsB_all hP.toValSites _ _ _) (walkDirectives_all hP.toValSites _ _ _ _ _))
      (walkLevel_all hP (some op) fuel _ _ _ r4 (fun _ _ => trivial) h4), ?_⟩
  simp only [List.append_assoc]

theorem walkFragment_split {s : SV} {d : QueryDoc} {P : Payload → Prop} (hP : SelSites s d (fun _ => True) P)
    {fuel : Nat} {f : FragmentDef} {l : Links} {r : Links × List Event} (h : walkFragment s d fuel f l = some r) :
    ∃ pre, AllP P pre ∧ r.2 = pre ++ [{ cur := none, links := r.1, p := .fragment f (s.type? f.typeCond) }] := by
  obtain ⟨r2, h2, rfl⟩ := walkFragment_inv h
  exact ⟨_, AllP.append (walkDirectives_all hP.toValSites _ _ _ _ _)
    (walkLevel_all hP none fuel _ _ _ r2 (fun _ _ => trivial) h2), rfl⟩

section tops
variable {α : Type} {s : SV} {d : QueryDoc} {g : Payload → Option α}

theorem walkOperation_tops (hg : ∀ p, Payload.inner p → g p = none) (hu : ∀ op u, g (.operation op u) = g (.operation op []))
    {fuel : Nat} {op : OperationDef} {l : Links} {r : Links × List Event} (h : walkOperation s d fuel op l = some r) :
    r.2.filterMap (fun e => g e.p) =
      op.vars.filterMap (fun v => g (.variable v (s.type? v.type.name))) ++ (g (.operation op [])).toList := by
  obtain ⟨mid, used, hmid, hr⟩ := walkOperation_split (inner_selSites s d) h
  have hA : ∀ (ws : WS) (vs : List VarDef), (walkVarDefsA s (some op) ws vs).filterMap (fun e => g e.p) =
      vs.filterMap fun v => g (.variable v (s.type? v.type.name)) := fun ws vs => by
    induction vs with
    | nil => rfl
    | cons v rest ih => simp only [walkVarDefsA, List.filterMap_cons, ih]
  rw [hr, List.filterMap_append, List.filterMap_append, hA, filterMap_eq_nil_of_allP (fun e he => hg _ he) hmid]
  simp only [List.append_nil, List.filterMap_cons, List.filterMap_nil, hu op used]
  cases g (.operation op []) <;> rfl

theorem walkFragment_tops (hg : ∀ p, Payload.inner p → g p = none) {fuel : Nat} {f : FragmentDef} {l : Links}
    {r : Links × List Event} (h : walkFragment s d fuel f l = some r) :
    r.2.filterMap (fun e => g e.p) = (g (.fragment f (s.type? f.typeCond))).toList := by
  obtain ⟨pre, hpre, hr⟩ := walkFragment_split (inner_selSites s d) h
  rw [hr, List.filterMap_append, filterMap_eq_nil_of_allP (fun e he => hg _ he) hpre]
  simp only [List.nil_append, List.filterMap_cons, List.filterMap_nil]
  cases g (.fragment f (s.type? f.typeCond)) <;> rfl

theorem walkOps_tops (hg : ∀ p, Payload.inner p → g p = none) (hu : ∀ op u, g (.operation op u) = g (.operation op []))
    {fuel : Nat} : ∀ (ops : List OperationDef) (l : Links) (r : Links × List Event), walkOps s d fuel ops l = some r →
      r.2.filterMap (fun e => g e.p) = ops.flatMap fun op =>
        op.vars.filterMap (fun v => g (.variable v (s.type? v.type.name))) ++ (g (.operation op [])).toList :=
  walkOps_induct (fun _ => rfl) fun op rest l r1 r2 h1 ih => by
    rw [List.filterMap_append, walkOperation_tops hg hu h1, ih, List.flatMap_cons]

theorem walkFrags_tops (hg : ∀ p, Payload.inner p → g p = none) {fuel : Nat} :
    ∀ (fs : List FragmentDef) (l : Links) (r : Links × List Event), walkFrags s d fuel fs l = some r →
      r.2.filterMap (fun e => g e.p) = fs.flatMap fun f => (g (.fragment f (s.type? f.typeCond))).toList :=
  walkFrags_induct (fun _ => rfl) fun f rest l r1 r2 h1 ih => by
    rw [List.filterMap_append, walkFragment_tops hg h1, ih, List.flatMap_cons]

theorem walkDoc_tops (hg : ∀ p, Payload.inner p → g p = none) (hu : ∀ op u, g (.operation op u) = g (.operation op []))
    {evs : List Event} (hw : walkDoc s d = some evs) :
    evs.filterMap (fun e => g e.p) =
      (d.ops.flatMap fun op =>
        op.vars.filterMap (fun v => g (.variable v (s.type? v.type.name))) ++ (g (.operation op [])).toList) ++
      d.frags.flatMap fun f => (g (.fragment f (s.type? f.typeCond))).toList := by
  obtain ⟨r1, r2, h1, h2, rfl⟩ := walkDoc_inv hw
  rw [List.filterMap_append, walkOps_tops hg hu _ _ _ h1, walkFrags_tops hg _ _ _ h2]

end tops

def opOf : Payload → Option OperationDef
  | .operation op _ => some op
  | _ => none

def fragOf : Payload → Option FragmentDef
  | .fragment f _ => some f
  | _ => none

def fragLinkOf : Payload → Option (FragmentDef × Option Definition)
  | .fragment f dfn => some (f, dfn)
  | _ => none

def varLinkOf : Payload → Option (VarDef × Option Definition)
  | .variable v dfn => some (v, dfn)
  | _ => none

def opEvents (evs : List Event) : List OperationDef := evs.filterMap fun e => opOf e.p
def fragDefEvents (evs : List Event) : List FragmentDef := evs.filterMap fun e => fragOf e.p

theorem opOf_inner (p : Payload) (h : p.inner) : opOf p = none := by cases p <;> first | rfl | exact h.elim
theorem fragOf_inner (p : Payload) (h : p.inner) : fragOf p = none := by cases p <;> first | rfl | exact h.elim
theorem fragLinkOf_inner (p : Payload) (h : p.inner) : fragLinkOf p = none := by cases p <;> first | rfl | exact h.elim
theorem varLinkOf_inner (p : Payload) (h : p.inner) : varLinkOf p = none := by cases p <;> first | rfl | exact h.elim

theorem walkOps_noFrag {s : SV} {d : QueryDoc} {fuel : Nat} {ops : List OperationDef} {l : Links}
    {r : Links × List Event} (h : walkOps s d fuel ops l = some r) : fragDefEvents r.2 = [] :=
  (walkOps_tops fragOf_inner (fun _ _ => rfl) ops l r h).trans (by simp [fragOf, filterMap_none', flatMap_nil'])

theorem walkFrags_noOp {s : SV} {d : QueryDoc} {fuel : Nat} {fs : List FragmentDef} {l : Links}
    {r : Links × List Event} (h : walkFrags s d fuel fs l = some r) : opEvents r.2 = [] :=
  (walkFrags_tops opOf_inner fs l r h).trans (by simp [opOf, flatMap_nil'])

section run
variable (s : SV) (d : QueryDoc) (evs : List Event) (hw : walkDoc s d = some evs)
include hw

theorem walkDoc_events : opEvents evs = d.ops ∧ fragDefEvents evs = d.frags :=
  ⟨(walkDoc_tops opOf_inner (fun _ _ => rfl) hw).trans (by simp [opOf, filterMap_none', flatMap_nil']),
   (walkDoc_tops fragOf_inner (fun _ _ => rfl) hw).trans (by simp [fragOf, filterMap_none', flatMap_nil'])⟩

theorem operation_event_iff (op : OperationDef) : (∃ e ∈ evs, ∃ u, e.p = .operation op u) ↔ op ∈ d.ops := by
  rw [← (walkDoc_events s d evs hw).1, opEvents, List.mem_filterMap]
  exact exists_congr fun e => and_congr_right fun _ => by cases e.p <;> simp [opOf, eq_comm]

theorem fragment_event_iff (f : FragmentDef) (dfn : Option Definition) :
    (∃ e ∈ evs, e.p = .fragment f dfn) ↔ f ∈ d.frags ∧ dfn = s.type? f.typeCond := by
  have hl : evs.filterMap (fun e => fragLinkOf e.p) = d.frags.map fun f => (f, s.type? f.typeCond) :=
    (walkDoc_tops fragLinkOf_inner (fun _ _ => rfl) hw).trans
      (by simp [fragLinkOf, filterMap_none', flatMap_nil', List.map_eq_flatMap])
  have : (f, dfn) ∈ d.frags.map (fun f => (f, s.type? f.typeCond)) ↔ f ∈ d.frags ∧ dfn = s.type? f.typeCond := by
    simp only [List.mem_map, Prod.mk.injEq]
    exact ⟨fun ⟨a, ha, h1, h2⟩ => h1 ▸ ⟨ha, h2.symm⟩, fun ⟨h1, h2⟩ => ⟨f, h1, rfl, h2.symm⟩⟩
  rw [← this, ← hl, List.mem_filterMap]
  exact exists_congr fun e => and_congr_right fun _ => by cases e.p <;> simp [fragLinkOf, eq_comm]

/-- the experimental variable definitions of fragment definitions (`FragmentDef.vars`) are not walked (validator/walk.go
    ranges over `operation.VariableDefinitions` only): they have no `variable` event -/
theorem varDef_event_iff (v : VarDef) (dfn : Option Definition) :
    (∃ e ∈ evs, e.p = .variable v dfn) ↔ (∃ op ∈ d.ops, v ∈ op.vars) ∧ dfn = s.type? v.type.name := by
  have hl : evs.filterMap (fun e => varLinkOf e.p) = d.ops.flatMap fun op => op.vars.map fun v => (v, s.type? v.type.name) :=
    (walkDoc_tops varLinkOf_inner (fun _ _ => rfl) hw).trans (by simp [varLinkOf, flatMap_nil'])
  have : (v, dfn) ∈ d.ops.flatMap (fun op => op.vars.map fun v => (v, s.type? v.type.name)) ↔
      (∃ op ∈ d.ops, v ∈ op.vars) ∧ dfn = s.type? v.type.name := by
    simp only [List.mem_flatMap, List.mem_map, Prod.mk.injEq]
    exact ⟨fun ⟨op, ho, a, ha, h1, h2⟩ => h1 ▸ ⟨⟨op, ho, ha⟩, h2.symm⟩,
      fun ⟨⟨op, ho, ha⟩, h2⟩ => ⟨op, ho, v, ha, rfl, h2.symm⟩⟩
  rw [← this, ← hl, List.mem_filterMap]
  exact exists_congr fun e => and_congr_right fun _ => by cases e.p <;> simp [varLinkOf, eq_comm]

end run

theorem runAll_single_nil_cons {rule : Rule} {s : SV} {d : QueryDoc} {st st' : rule.σ} {e : Event} {errs : List RErr}
    (h : rule.step s d st e = .ok st' errs) (es : List Event) :
    runAll s d [⟨rule, st⟩] (e :: es) = .ok [] ↔ errs = [] ∧ runAll s d [⟨rule, st'⟩] es = .ok [] := by
  rw [runAll_single_cons]
  simp only [Running.step, h]
  cases runAll s d [⟨rule, st'⟩] es <;> simp

theorem runAll_single_nil_cons_iff {rule : Rule} {s : SV} {d : QueryDoc} {st : rule.σ} {e : Event} {es : List Event} :
    runAll s d [⟨rule, st⟩] (e :: es) = .ok [] ↔
      ∃ st', rule.step s d st e = .ok st' [] ∧ runAll s d [⟨rule, st'⟩] es = .ok [] := by
  cases hst : rule.step s d st e with
  | panic m =>
    rw [runAll_single_cons]
    simp [Running.step, hst]
  | ok st' errs =>
    rw [runAll_single_nil_cons hst]
    exact ⟨fun ⟨he, h⟩ => ⟨st', he ▸ rfl, h⟩, fun ⟨_, h1, h2⟩ => by cases h1; exact ⟨rfl, h2⟩⟩

theorem validate_single_nil_iff (rule : Rule) (s : Schema) (d : QueryDoc) (evs : List Event)
    (hw : walkDoc s.view d = some evs) :
    validate [rule] s d = .ok [] ↔ runAll s.view d [rule.start] evs = .ok [] :=
  validate_ok_iff hw

theorem statelessP_step (s : SV) (d : QueryDoc) (name : Bytes)
    (f : SV → QueryDoc → Event → Except Bytes (List RErr)) (e : Event) :
    Running.step s d (Rule.statelessP name f).start e =
      match f s d e with
      | .ok errs => .ok ((Rule.statelessP name f).start, errs.map (RErr.toErr name))
      | .error m => .error m := by
  simp only [Running.step, Rule.start, Rule.statelessP]
  cases f s d e <;> rfl

theorem runAll_statelessP_nil_iff (s : SV) (d : QueryDoc) (name : Bytes) (f : SV → QueryDoc → Event → Except Bytes (List RErr)) :
    ∀ evs : List Event, runAll s d [(Rule.statelessP name f).start] evs = .ok [] ↔ ∀ e ∈ evs, f s d e = .ok []
  | [] => by simp [runAll]
  | e :: es => by
    rw [runAll_single_cons, statelessP_step, List.forall_mem_cons, ← runAll_statelessP_nil_iff s d name f es]
    cases f s d e with
    | error m => simp
    | ok a =>
      simp only
      cases runAll s d [(Rule.statelessP name f).start] es <;> simp

/-- a stateless rule is a `statelessP` rule that never panics -/
theorem validate_stateless_nil (s : Schema) (d : QueryDoc) (name : Bytes) (f : SV → QueryDoc → Event → List RErr)
    (evs : List Event) (hw : walkDoc s.view d = some evs) :
    validate [Rule.stateless name f] s d = .ok [] ↔ ∀ e ∈ evs, f s.view d e = [] := by
  rw [validate_single_nil_iff _ s d evs hw]
  refine (runAll_statelessP_nil_iff s.view d name (fun s d e => .ok (f s d e)) evs).trans ?_
  simp only [Except.ok.injEq]

theorem validate_statelessP_nil (s : Schema) (d : QueryDoc) (name : Bytes)
    (f : SV → QueryDoc → Event → Except Bytes (List RErr))
    (evs : List Event) (hw : walkDoc s.view d = some evs) :
    validate [Rule.statelessP name f] s d = .ok [] ↔ ∀ e ∈ evs, f s.view d e = .ok [] := by
  rw [validate_single_nil_iff _ s d evs hw]
  exact runAll_statelessP_nil_iff s.view d name f evs

theorem runAll_statelessP_panic_iff (s : SV) (d : QueryDoc) (name : Bytes)
    (f : SV → QueryDoc → Event → Except Bytes (List RErr)) :
    ∀ evs : List Event, (∃ m, runAll s d [(Rule.statelessP name f).start] evs = .error m) ↔
      ∃ e ∈ evs, ∃ m, f s d e = .error m
  | [] => by simp [runAll]
  | e :: es => by
    rw [runAll_single_cons, statelessP_step]
    simp only [List.mem_cons, exists_eq_or_imp, ← runAll_statelessP_panic_iff s d name f es]
    cases f s d e with
    | error m => simp
    | ok a =>
      simp only
      generalize runAll s d [(Rule.statelessP name f).start] es = r
      cases r <;> simp

theorem validate_statelessP_panic_iff (s : Schema) (d : QueryDoc) (name : Bytes)
    (f : SV → QueryDoc → Event → Except Bytes (List RErr))
    (evs : List Event) (hw : walkDoc s.view d = some evs) :
    (∃ m, validate [Rule.statelessP name f] s d = .panic m) ↔ ∃ e ∈ evs, ∃ m, f s.view d e = .error m := by
  rw [← runAll_statelessP_panic_iff s.view d name f evs]
  unfold validate validateV
  rw [hw]
  simp only [List.map_cons, List.map_nil]
  cases runAll s.view d [(Rule.statelessP name f).start] evs <;> simp

theorem validate_stateless_iff {name : Bytes} {f : SV → QueryDoc → Event → List RErr} {s : Schema} {d : QueryDoc}
    {P : Prop} (h : ∀ evs, walkDoc s.view d = some evs → ((∀ e ∈ evs, f s.view d e = []) ↔ P)) :
    validate [Rule.stateless name f] s d = .ok [] ↔ P := by
  obtain ⟨evs, hw⟩ := walkDoc_isSome s.view d
  rw [validate_stateless_nil s d _ _ evs hw]
  exact h evs hw

theorem validate_statelessP_iff {name : Bytes} {f : SV → QueryDoc → Event → Except Bytes (List RErr)} {s : Schema}
    {d : QueryDoc} {P : Prop} (h : ∀ evs, walkDoc s.view d = some evs → ((∀ e ∈ evs, f s.view d e = .ok []) ↔ P)) :
    validate [Rule.statelessP name f] s d = .ok [] ↔ P := by
  obtain ⟨evs, hw⟩ := walkDoc_isSome s.view d
  rw [validate_statelessP_nil s d _ _ evs hw]
  exact h evs hw

theorem opStep_silent_iff {s : SV} {d : QueryDoc} {evs : List Event} (hw : walkDoc s d = some evs)
    (g : OperationDef → List RErr) :
    (∀ e ∈ evs, (match e.p with | .operation op _ => g op | _ => []) = []) ↔ ∀ op ∈ d.ops, g op = [] := by
  constructor
  · intro h op hop
    obtain ⟨e, he, u, hp⟩ := (operation_event_iff s d evs hw op).2 hop
    simpa only [hp] using h e he
  · intro h e he
    cases hp : e.p <;> simp only
    exact h _ ((operation_event_iff s d evs hw _).1 ⟨e, he, _, hp⟩)

end Gql.Validate
