import GqlModel.Validate.Walk
/-
  `walkValue` / `walkArgs` in equations.  The walk is a function of the typed positions of the value:
  `valSites s exp dfn v` lists the value nodes below (and including) `v` with the links the walker assigns to them
  (`objChildLink`, `listChildLink`, `argLink`), children first; `emit cur ws l` fires the events of the sites `l` from
  left to right: a variable site first writes its `VariableDefinition` link (`siteMark`, `varMark`), then every site
  fires its event with the table as it stands; the walker on values IS `emit` of the sites (`walkValue_emit`, `walk…_emit`).
  A statement about the value events of one block can then be proved as a fact about `emit` on a list (`emit_payloads`,
  `emit_forall`, `emit_inv`, `emit_rel`, `emit_visited`, `emit_sels`); `ValueLinks.lean` and `walkValue_oneOfLink` go by
  induction over the walker's own equations instead (`walkValue_mk`, the `…_cons` lemmas).
-/
namespace Gql.Validate
open Gql

/-- links of the field `name` of an object literal whose own `Definition` is `dfn` -/
def objChildLink (s : SV) (dfn : Option Definition) (name : Name) : Option GType × Option Definition :=
  match dfn with
  | some d => match fieldForName d.fields name with
    | some fd => linkOfType s fd.type
    | none => (none, none)
  | none => (none, none)

/-- links of the items of a list literal whose own links are `exp` / `dfn` -/
def listChildLink (exp : Option GType) (dfn : Option Definition) : Option GType × Option Definition :=
  match exp with
  | some (.list e _ _) => (some e, dfn)
  | _ => (none, none)

/-- links of the value of the argument `name` given to something with argument definitions `defs` -/
def argLink (s : SV) (defs : Option (List ArgDef)) (name : Name) : Option GType × Option Definition :=
  match defs.bind (argDefForName · name) with
  | some ad => linkOfType s ad.type
  | none => (none, none)

theorem walkObjChildren_nil (s : SV) (cur : Option OperationDef) (dfn : Option Definition) (ws : WS) :
    walkObjChildren s cur dfn .nil ws = (ws, []) := by
  unfold walkObjChildren; rfl

theorem walkListChildren_nil (s : SV) (cur : Option OperationDef) (exp : Option GType) (dfn : Option Definition)
    (ws : WS) : walkListChildren s cur exp dfn .nil ws = (ws, []) := by
  unfold walkListChildren; rfl

theorem walkObjChildren_cons (s : SV) (cur : Option OperationDef) (dfn : Option Definition) (name : Name) (v : Value)
    (p : Pos) (rest : Children) (ws : WS) :
    walkObjChildren s cur dfn (.cons name v p rest) ws =
      ((walkObjChildren s cur dfn rest
          (walkValue s cur (objChildLink s dfn name).1 (objChildLink s dfn name).2 v ws).1).1,
       (walkValue s cur (objChildLink s dfn name).1 (objChildLink s dfn name).2 v ws).2 ++
        (walkObjChildren s cur dfn rest
          (walkValue s cur (objChildLink s dfn name).1 (objChildLink s dfn name).2 v ws).1).2) := by
  conv => lhs; unfold walkObjChildren
  cases dfn <;> rfl

theorem walkListChildren_cons (s : SV) (cur : Option OperationDef) (exp : Option GType) (dfn : Option Definition)
    (name : Name) (v : Value) (p : Pos) (rest : Children) (ws : WS) :
    walkListChildren s cur exp dfn (.cons name v p rest) ws =
      ((walkListChildren s cur exp dfn rest
          (walkValue s cur (listChildLink exp dfn).1 (listChildLink exp dfn).2 v ws).1).1,
       (walkValue s cur (listChildLink exp dfn).1 (listChildLink exp dfn).2 v ws).2 ++
        (walkListChildren s cur exp dfn rest
          (walkValue s cur (listChildLink exp dfn).1 (listChildLink exp dfn).2 v ws).1).2) := by
  conv => lhs; unfold walkListChildren
  rfl

theorem walkArgs_cons (s : SV) (cur : Option OperationDef) (defs : Option (List ArgDef)) (a : Argument)
    (rest : List Argument) (ws : WS) :
    walkArgs s cur defs (a :: rest) ws =
      ((walkArgs s cur defs rest (walkValue s cur (argLink s defs a.name).1 (argLink s defs a.name).2 a.value ws).1).1,
       (walkValue s cur (argLink s defs a.name).1 (argLink s defs a.name).2 a.value ws).2 ++
        (walkArgs s cur defs rest (walkValue s cur (argLink s defs a.name).1 (argLink s defs a.name).2 a.value ws).1).2) := by
  conv => lhs; unfold walkArgs
  rfl

/-- the state after the `VariableDefinition` link of a variable has been written -/
def varMark (cur : Option OperationDef) (k : ValueKind) (raw : Bytes) (p : Pos) (ws : WS) : WS :=
  match k, cur with
  | .variable, some op =>
    { ws with links := { ws.links with vlinks := (p.start, varForName op.vars raw) :: ws.links.vlinks },
              used := if (varForName op.vars raw).isSome then raw :: ws.used else ws.used }
  | _, _ => ws

theorem varMark_of_ne (cur : Option OperationDef) {k : ValueKind} (hk : k ≠ .variable) (raw : Bytes) (p : Pos)
    (ws : WS) : varMark cur k raw p ws = ws := by
  cases k <;> first | rfl | exact absurd rfl hk

def walkChildren (s : SV) (cur : Option OperationDef) (exp : Option GType) (dfn : Option Definition)
    (k : ValueKind) (ch : Children) (ws : WS) : WS × List Event :=
  match k with
  | .object => walkObjChildren s cur dfn ch ws
  | .list => walkListChildren s cur exp dfn ch ws
  | _ => (ws, [])

theorem walkValue_mk (s : SV) (cur : Option OperationDef) (exp : Option GType) (dfn : Option Definition)
    (k : ValueKind) (raw : Bytes) (ch : Children) (p : Pos) (ws : WS) :
    walkValue s cur exp dfn (.mk k raw ch p) ws =
      ((walkChildren s cur exp dfn k ch (varMark cur k raw p ws)).1,
       (walkChildren s cur exp dfn k ch (varMark cur k raw p ws)).2 ++
        [{ cur := cur, links := (walkChildren s cur exp dfn k ch (varMark cur k raw p ws)).1.links,
           p := .value (.mk k raw ch p) exp dfn }]) := by
  conv => lhs; unfold walkValue
  rfl

/-- a value node with the links the walker assigns to it: `(ExpectedType, Definition, node)` -/
abbrev VSite := Option GType × Option Definition × Value

def VSite.payload (t : VSite) : Payload := .value t.2.2 t.1 t.2.1

mutual
  /-- the value nodes below (and including) `v`, with their links, in the order of their events:
      children first, then the value itself -/
  def valSites (s : SV) (exp : Option GType) (dfn : Option Definition) : Value → List VSite
    | .mk k raw ch p =>
      (match k with
       | .object => objSites s dfn ch
       | .list => listSites s exp dfn ch
       | _ => []) ++ [(exp, dfn, .mk k raw ch p)]
  def objSites (s : SV) (dfn : Option Definition) : Children → List VSite
    | .nil => []
    | .cons name v _ rest =>
      valSites s (objChildLink s dfn name).1 (objChildLink s dfn name).2 v ++ objSites s dfn rest
  def listSites (s : SV) (exp : Option GType) (dfn : Option Definition) : Children → List VSite
    | .nil => []
    | .cons _ v _ rest =>
      valSites s (listChildLink exp dfn).1 (listChildLink exp dfn).2 v ++ listSites s exp dfn rest
end

def argValSites (s : SV) (defs : Option (List ArgDef)) : List Argument → List VSite
  | [] => []
  | a :: rest => valSites s (argLink s defs a.name).1 (argLink s defs a.name).2 a.value ++ argValSites s defs rest

def siteMark (cur : Option OperationDef) (ws : WS) (x : VSite) : WS :=
  varMark cur x.2.2.kind x.2.2.raw x.2.2.pos ws

theorem siteMark_of_ne (cur : Option OperationDef) {x : VSite} (h : x.2.2.kind ≠ .variable) (ws : WS) :
    siteMark cur ws x = ws := varMark_of_ne cur h _ _ ws

def emit (cur : Option OperationDef) : WS → List VSite → WS × List Event
  | ws, [] => (ws, [])
  | ws, x :: l =>
    ((emit cur (siteMark cur ws x) l).1,
      ⟨cur, (siteMark cur ws x).links, x.payload⟩ :: (emit cur (siteMark cur ws x) l).2)

theorem emit_append (cur : Option OperationDef) : ∀ (l l' : List VSite) (ws : WS),
    emit cur ws (l ++ l') = ((emit cur (emit cur ws l).1 l').1, (emit cur ws l).2 ++ (emit cur (emit cur ws l).1 l').2)
  | [], _, _ => rfl
  | x :: l, l', ws => by simp only [List.cons_append, emit, emit_append cur l l']

mutual
  theorem walkValue_emit (s : SV) (cur : Option OperationDef) (exp : Option GType) (dfn : Option Definition) :
      ∀ (v : Value) (ws : WS), walkValue s cur exp dfn v ws = emit cur ws (valSites s exp dfn v)
    | .mk k raw ch p, ws => by
      rw [walkValue_mk]
      unfold valSites
      rw [emit_append]
      -- a list or object literal writes no link of its own: its event carries the table its children leave
      cases k <;> simp only [walkChildren, walkListChildren_emit s cur exp dfn ch, walkObjChildren_emit s cur dfn ch] <;> rfl
  theorem walkObjChildren_emit (s : SV) (cur : Option OperationDef) (dfn : Option Definition) :
      ∀ (ch : Children) (ws : WS), walkObjChildren s cur dfn ch ws = emit cur ws (objSites s dfn ch)
    | .nil, ws => by rw [walkObjChildren_nil, objSites]; rfl
    | .cons n v _ rest, ws => by
      rw [walkObjChildren_cons, objSites, emit_append, walkValue_emit s cur _ _ v ws, walkObjChildren_emit s cur dfn rest]
  theorem walkListChildren_emit (s : SV) (cur : Option OperationDef) (exp : Option GType) (dfn : Option Definition) :
      ∀ (ch : Children) (ws : WS), walkListChildren s cur exp dfn ch ws = emit cur ws (listSites s exp dfn ch)
    | .nil, ws => by rw [walkListChildren_nil, listSites]; rfl
    | .cons n v _ rest, ws => by
      rw [walkListChildren_cons, listSites, emit_append, walkValue_emit s cur _ _ v ws,
        walkListChildren_emit s cur exp dfn rest]
end

theorem walkArgs_emit (s : SV) (cur : Option OperationDef) (defs : Option (List ArgDef)) :
    ∀ (args : List Argument) (ws : WS), walkArgs s cur defs args ws = emit cur ws (argValSites s defs args)
  | [], _ => rfl
  | a :: rest, ws => by
    rw [walkArgs_cons, argValSites, emit_append, walkValue_emit, walkArgs_emit s cur defs rest]

theorem emit_payloads (cur : Option OperationDef) : ∀ (l : List VSite) (ws : WS),
    (emit cur ws l).2.map (·.p) = l.map VSite.payload
  | [], _ => rfl
  | x :: l, ws => by simp only [emit, List.map_cons, emit_payloads cur l]

theorem emit_forall {cur : Option OperationDef} {P : Event → Prop}
    (step : ∀ ws x, P ⟨cur, (siteMark cur ws x).links, x.payload⟩) :
    ∀ (l : List VSite) (ws : WS), ∀ e ∈ (emit cur ws l).2, P e
  | [], _, _, h => nomatch h
  | x :: l, ws, e, h => by
    rcases List.mem_cons.1 h with rfl | h
    · exact step ws x
    · exact emit_forall step l _ e h

theorem emit_inv {cur : Option OperationDef} {I : WS → Prop} (step : ∀ ws x, I ws → I (siteMark cur ws x)) :
    ∀ (l : List VSite) (ws : WS), I ws →
      I (emit cur ws l).1 ∧ ∀ e ∈ (emit cur ws l).2, ∃ ws', I ws' ∧ e.links = ws'.links
  | [], ws, h => ⟨h, fun _ he => nomatch he⟩
  | x :: l, ws, h => by
    obtain ⟨h1, h2⟩ := emit_inv step l _ (step ws x h)
    refine ⟨h1, fun e he => ?_⟩
    rcases List.mem_cons.1 he with rfl | he
    · exact ⟨_, step ws x h, rfl⟩
    · exact h2 e he

theorem emit_rel {cur : Option OperationDef} {R : WS → WS × List Event → Prop} (nil : ∀ ws, R ws (ws, []))
    (seq : ∀ {ws r1 r2}, R ws r1 → R r1.1 r2 → R ws (r2.1, r1.2 ++ r2.2))
    (step : ∀ ws x, R ws (siteMark cur ws x, [⟨cur, (siteMark cur ws x).links, x.payload⟩])) :
    ∀ (l : List VSite) (ws : WS), R ws (emit cur ws l)
  | [], ws => nil ws
  | x :: l, ws => seq (step ws x) (emit_rel nil seq step l _)

theorem siteMark_visited (cur : Option OperationDef) (ws : WS) (x : VSite) : (siteMark cur ws x).visited = ws.visited := by
  unfold siteMark varMark
  split <;> rfl

theorem siteMark_sels (cur : Option OperationDef) (ws : WS) (x : VSite) :
    (siteMark cur ws x).links.sels = ws.links.sels := by
  unfold siteMark varMark
  split <;> rfl

theorem emit_visited (cur : Option OperationDef) : ∀ (l : List VSite) (ws : WS), (emit cur ws l).1.visited = ws.visited
  | [], _ => rfl
  | x :: l, ws => by rw [emit, emit_visited cur l, siteMark_visited]

theorem emit_sels (cur : Option OperationDef) : ∀ (l : List VSite) (ws : WS),
    (emit cur ws l).1.links.sels = ws.links.sels
  | [], _ => rfl
  | x :: l, ws => by rw [emit, emit_sels cur l, siteMark_sels]

end Gql.Validate
