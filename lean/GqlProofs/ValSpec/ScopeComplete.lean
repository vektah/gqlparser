import GqlProofs.ValSpec.ScopeSound
import GqlProofs.ValSpec.Complete
/-
  Per-operation scope, completeness: the walk of an operation fires, with `CurrentOperation` = that
  operation, the event of every node and of every directive list written in the operation or in a
  fragment definition reachable from it, and marks every one of these selection nodes as linked
  (`walkOperation_scope_complete`, `walkDoc_scope_complete`).  Invariant of a walk from state `ws` to `r`,
  whatever `CurrentOperation` is (`WalkC`): `visited` and the marks only grow; every defined spread name of
  the walked source is visited afterwards; every node of the source is done; every fragment that BECAME
  visited in this walk is completely done (its nodes, the directives of its definition, and all its
  defined spread names are visited).
-/
namespace Gql.Validate
open Gql

def selPos : Selection → Pos
  | .field _ _ _ _ _ p => p
  | .spread _ _ p => p
  | .inline _ _ _ p => p

def HasNodeCur (d : QueryDoc) (cur : Option OperationDef) (evs : List Event) (p' : Option Definition) : Selection → Prop
  | .field al nm args dirs sub p =>
    ∃ e ∈ evs, e.cur = cur ∧ e.p = .field ⟨al, nm, args, dirs, sub, p⟩ p' (wFieldDef p' nm)
  | .inline tc dirs sub p => ∃ e ∈ evs, e.cur = cur ∧ e.p = .inlineFragment ⟨tc, dirs, sub, p⟩ p'
  | .spread nm dirs p => ∃ e ∈ evs, e.cur = cur ∧ e.p = .fragmentSpread ⟨nm, dirs, p⟩ (fragForName d nm) p'

theorem HasNodeCur.sub {d : QueryDoc} {cur : Option OperationDef} {a b : List Event} (h : ∀ e ∈ a, e ∈ b)
    {p' : Option Definition} : ∀ {y : Selection}, HasNodeCur d cur a p' y → HasNodeCur d cur b p' y
  | .field .., ⟨e, he, x⟩ => ⟨e, h e he, x⟩
  | .inline .., ⟨e, he, x⟩ => ⟨e, h e he, x⟩
  | .spread .., ⟨e, he, x⟩ => ⟨e, h e he, x⟩

/-- the directive list `ds` at `loc` has been walked on behalf of `cur` (whatever the parent) -/
def HasDirsC (s : SV) (cur : Option OperationDef) (loc : Bytes) (ds : List Directive) (evs : List Event) : Prop :=
  (∃ e ∈ evs, e.cur = cur ∧ e.p = .directiveList ds) ∧
  ∀ dir ∈ ds, ∃ e ∈ evs, ∃ par, e.cur = cur ∧ e.p = .directive dir (s.directive? dir.name) par loc

theorem HasDirsC.sub {s : SV} {cur : Option OperationDef} {loc : Bytes} {ds : List Directive} {a b : List Event}
    (h : ∀ e ∈ a, e ∈ b) (hd : HasDirsC s cur loc ds a) : HasDirsC s cur loc ds b := by
  obtain ⟨⟨e, he, x⟩, h2⟩ := hd
  refine ⟨⟨e, h e he, x⟩, fun dir hdir => ?_⟩
  obtain ⟨e, he, x⟩ := h2 dir hdir
  exact ⟨e, h e he, x⟩

theorem HasDirsCur.toC {s : SV} {cur : Option OperationDef} {parent : Option Definition} {loc : Bytes}
    {ds : List Directive} {evs : List Event} (h : HasDirsCur s cur parent loc ds evs) : HasDirsC s cur loc ds evs := by
  obtain ⟨h1, h2⟩ := h
  refine ⟨h1, fun dir hdir => ?_⟩
  obtain ⟨e, he, x⟩ := h2 dir hdir
  exact ⟨e, he, parent, x⟩

theorem walkValue_sels (s : SV) (cur : Option OperationDef) (exp : Option GType) (dfn : Option Definition) :
    ∀ (v : Value) (ws : WS), (walkValue s cur exp dfn v ws).1.links.sels = ws.links.sels :=
  fun v ws => by rw [walkValue_emit]; exact emit_sels cur _ ws

theorem walkObjChildren_sels (s : SV) (cur : Option OperationDef) (dfn : Option Definition) :
    ∀ (ch : Children) (ws : WS), (walkObjChildren s cur dfn ch ws).1.links.sels = ws.links.sels :=
  fun ch ws => by rw [walkObjChildren_emit]; exact emit_sels cur _ ws

theorem walkListChildren_sels (s : SV) (cur : Option OperationDef) (exp : Option GType) (dfn : Option Definition) :
    ∀ (ch : Children) (ws : WS), (walkListChildren s cur exp dfn ch ws).1.links.sels = ws.links.sels :=
  fun ch ws => by rw [walkListChildren_emit]; exact emit_sels cur _ ws

theorem walkArgs_sels (s : SV) (cur : Option OperationDef) (ad : Option (List ArgDef)) :
    ∀ (as : List Argument) (ws : WS), (walkArgs s cur ad as ws).1.links.sels = ws.links.sels :=
  fun as ws => by rw [walkArgs_emit]; exact emit_sels cur _ ws

theorem walkDirectiveItems_sels (s : SV) (cur : Option OperationDef) (parent : Option Definition) (loc : Bytes) :
    ∀ (ds : List Directive) (ws : WS), (walkDirectiveItems s cur parent loc ds ws).1.links.sels = ws.links.sels
  | [], ws => rfl
  | dir :: rest, ws => by
    simp only [walkDirectiveItems, walkDirectiveItems_sels s cur parent loc rest, walkArgs_sels]

theorem walkDirectives_sels (s : SV) (cur : Option OperationDef) (parent : Option Definition) (ds : List Directive)
    (loc : Bytes) (ws : WS) : (walkDirectives s cur parent ds loc ws).1.links.sels = ws.links.sels := by
  simp only [walkDirectives]
  exact walkDirectiveItems_sels s cur parent loc ds ws

theorem walkVarDefsB_sels (s : SV) (cur : Option OperationDef) :
    ∀ (vs : List VarDef) (ws : WS), (walkVarDefsB s cur vs ws).1.links.sels = ws.links.sels
  | [], ws => rfl
  | v :: rest, ws => by
    simp only [walkVarDefsB, walkVarDefsB_sels s cur rest, walkDirectives_sels]
    cases v.default <;> simp only [walkValue_sels]

theorem linked_of_sels {l l' : Links} (h : l'.sels = l.sels) (k : Nat) : l'.linked k = l.linked k := by
  unfold Links.linked
  rw [h]

theorem markSel_linked_self (ws : WS) (k : Nat) : (ws.markSel k).links.linked k = true := by
  simp [WS.markSel, Links.linked]

theorem markSel_linked_mono (ws : WS) (k k' : Nat) (h : ws.links.linked k' = true) : (ws.markSel k).links.linked k' = true := by
  simp only [WS.markSel, Links.linked, List.contains_cons, Bool.or_eq_true] at h ⊢
  exact Or.inr h

def Done (s : SV) (d : QueryDoc) (cur : Option OperationDef) (r : WS × List Event) (p' : Option Definition)
    (y : Selection) : Prop :=
  HasNodeCur d cur r.2 p' y ∧ r.1.links.linked (selPos y).start = true ∧
    HasDirsC s cur (Spec.selLoc y) (Spec.selDirs y) r.2

def FragDone (s : SV) (d : QueryDoc) (cur : Option OperationDef) (r : WS × List Event) (f : FragmentDef) : Prop :=
  (∀ p' y, InSelsW s (s.type? f.typeCond) f.sel p' y → Done s d cur r p' y) ∧
  HasDirsC s cur locFragmentDefinition f.dirs r.2 ∧
  ∀ m ∈ Spec.spreadsOfSels f.sel, ∀ g, fragForName d m = some g → m ∈ r.1.visited

def Ext (r r' : WS × List Event) : Prop :=
  (∀ e ∈ r.2, e ∈ r'.2) ∧ (∀ k, r.1.links.linked k = true → r'.1.links.linked k = true) ∧ r.1.visited ⊆ r'.1.visited

theorem Ext.frame (r : WS × List Event) (pre post : List Event) : Ext r (r.1, pre ++ r.2 ++ post) :=
  ⟨fun _ he => List.mem_append_left _ (List.mem_append_right _ he), fun _ h => h, fun _ h => h⟩

theorem Done.ext {s : SV} {d : QueryDoc} {cur : Option OperationDef} {r r' : WS × List Event} (hx : Ext r r')
    {p' : Option Definition} {y : Selection} (h : Done s d cur r p' y) : Done s d cur r' p' y :=
  ⟨h.1.sub hx.1, hx.2.1 _ h.2.1, h.2.2.sub hx.1⟩

theorem FragDone.ext {s : SV} {d : QueryDoc} {cur : Option OperationDef} {r r' : WS × List Event} (hx : Ext r r')
    {f : FragmentDef} (h : FragDone s d cur r f) : FragDone s d cur r' f :=
  ⟨fun p' y hi => (h.1 p' y hi).ext hx, h.2.1.sub hx.1, fun m hm g hg => hx.2.2 (h.2.2 m hm g hg)⟩

structure WalkC (s : SV) (d : QueryDoc) (cur : Option OperationDef) (names : List Name)
    (nodes : Option Definition → Selection → Prop) (ws : WS) (r : WS × List Event) : Prop where
  mono : ws.visited ⊆ r.1.visited
  marks : ∀ k, ws.links.linked k = true → r.1.links.linked k = true
  src : ∀ nm ∈ names, ∀ f, fragForName d nm = some f → nm ∈ r.1.visited
  nodes : ∀ p' y, nodes p' y → Done s d cur r p' y
  new : ∀ n ∈ r.1.visited, n ∉ ws.visited → ∃ f, fragForName d n = some f ∧ FragDone s d cur r f

theorem WalkC.frame {s : SV} {d : QueryDoc} {cur : Option OperationDef} {names : List Name}
    {nodes : Option Definition → Selection → Prop} {ws ws' : WS} {r : WS × List Event}
    (h : WalkC s d cur names nodes ws' r) (hv : ws.visited = ws'.visited)
    (hl : ∀ k, ws.links.linked k = true → ws'.links.linked k = true) (pre post : List Event) :
    WalkC s d cur names nodes ws (r.1, pre ++ r.2 ++ post) := by
  have hx := Ext.frame r pre post
  exact { mono := by rw [hv]; exact h.mono
          marks := fun k hk => h.marks k (hl k hk)
          src := h.src
          nodes := fun p' y hi => (h.nodes p' y hi).ext hx
          new := fun n hn hnot => by
            obtain ⟨f, hf, hd⟩ := h.new n hn (by rw [← hv]; exact hnot)
            exact ⟨f, hf, hd.ext hx⟩ }

theorem WalkC.withNodes {s : SV} {d : QueryDoc} {cur : Option OperationDef} {names : List Name}
    {nodes nodes' : Option Definition → Selection → Prop} {ws : WS} {r : WS × List Event}
    (h : WalkC s d cur names nodes ws r) (hn : ∀ p' y, nodes' p' y → nodes p' y ∨ Done s d cur r p' y) :
    WalkC s d cur names nodes' ws r :=
  { mono := h.mono, marks := h.marks, src := h.src, new := h.new
    nodes := fun p' y hi => by
      rcases hn p' y hi with h1 | h1
      · exact h.nodes p' y h1
      · exact h1 }

theorem WalkC.seq {s : SV} {d : QueryDoc} {cur : Option OperationDef} {n1 n2 : List Name}
    {nodes1 nodes2 : Option Definition → Selection → Prop} {ws : WS} {r1 r2 : WS × List Event}
    (h1 : WalkC s d cur n1 nodes1 ws r1) (h2 : WalkC s d cur n2 nodes2 r1.1 r2) :
    WalkC s d cur (n1 ++ n2) (fun p y => nodes1 p y ∨ nodes2 p y) ws (r2.1, r1.2 ++ r2.2) := by
  have hx1 : Ext r1 (r2.1, r1.2 ++ r2.2) := ⟨fun e he => List.mem_append_left _ he, h2.marks, h2.mono⟩
  have hx2 : Ext r2 (r2.1, r1.2 ++ r2.2) := ⟨fun e he => List.mem_append_right _ he, fun _ h => h, fun _ h => h⟩
  exact { mono := fun x hx => h2.mono (h1.mono hx)
          marks := fun k hk => h2.marks k (h1.marks k hk)
          src := fun nm hnm f hf => by
            rcases List.mem_append.1 hnm with h | h
            · exact h2.mono (h1.src nm h f hf)
            · exact h2.src nm h f hf
          nodes := fun p' y hi => by
            rcases hi with h | h
            · exact (h1.nodes p' y h).ext hx1
            · exact (h2.nodes p' y h).ext hx2
          new := fun n hn hnot => by
            by_cases hm : n ∈ r1.1.visited
            · obtain ⟨f, hf, hd⟩ := h1.new n hm hnot
              exact ⟨f, hf, hd.ext hx1⟩
            · obtain ⟨f, hf, hd⟩ := h2.new n hn hm
              exact ⟨f, hf, hd.ext hx2⟩ }

def JumpC (s : SV) (d : QueryDoc) (cur : Option OperationDef) (J : Jump) : Prop :=
  ∀ parent sels (ws : WS) r, J parent sels ws = some r →
    WalkC s d cur (Spec.spreadsOfSels sels) (InSelsW s parent sels) ws r

section sel
variable (s : SV) (d : QueryDoc) (cur : Option OperationDef)

theorem pre_linked (ws : WS) (k : Nat) (w : WS) (hs : w.links.sels = (ws.markSel k).links.sels) :
    w.links.linked k = true ∧ ∀ k', ws.links.linked k' = true → w.links.linked k' = true := by
  constructor
  · rw [linked_of_sels hs]; exact markSel_linked_self ws k
  · intro k' h
    rw [linked_of_sels hs]; exact markSel_linked_mono ws k k' h

theorem walkSel_c_cases (J : Jump) (hJ : JumpC s d cur J) :
    WalkCases s d cur J (fun parent x ws r => WalkC s d cur (Spec.spreadsOfSel x) (InSelW s parent x) ws r)
      (fun parent xs ws r => WalkC s d cur (Spec.spreadsOfSels xs) (InSelsW s parent xs) ws r) where
  field := fun parent al nm args dirs sub p ws r3 _ ih => by
    obtain ⟨hk, hmono⟩ := pre_linked ws p.start _
      ((walkDirectives_sels s cur _ dirs locField _).trans (walkArgs_sels s cur _ args (ws.markSel p.start)))
    have hfr := ih.frame (ws := ws)
      (by simp only [walkDirectives_visited, walkArgs_visited, markSel_visited]) hmono
    simp only [Spec.spreadsOfSel]
    refine (hfr _ _).withNodes ?_
    intro p' y hi
    cases hi with
    | self =>
      refine Or.inr ⟨⟨_, List.mem_append_right _ (List.mem_singleton.2 rfl), rfl, rfl⟩, ih.marks _ hk, ?_⟩
      exact HasDirsC.sub (sub_left (sub_mid _ _) _)
        (walkDirectives_complete_cur s cur _ dirs locField _).toC
    | fieldSub _ _ _ _ _ _ _ _ _ hs => exact Or.inl hs
  inline := fun parent tc dirs sub p ws r3 _ ih => by
    obtain ⟨hk, hmono⟩ := pre_linked ws p.start _ (walkDirectives_sels s cur _ dirs locInlineFragment (ws.markSel p.start))
    have hfr := ih.frame (ws := ws) (by simp only [walkDirectives_visited, markSel_visited]) hmono
    refine (hfr _ _).withNodes ?_
    intro p' y hi
    cases hi with
    | self =>
      refine Or.inr ⟨⟨_, List.mem_append_right _ (List.mem_singleton.2 rfl), rfl, rfl⟩, ih.marks _ hk, ?_⟩
      exact HasDirsC.sub (sub_left (sub_inl _) _)
        (walkDirectives_complete_cur s cur _ dirs locInlineFragment _).toC
    | inlineSub _ _ _ _ _ _ _ hs => exact Or.inl hs
  spreadStop := fun parent nm dirs p ws hdef => by
    obtain ⟨hk, hmono⟩ := pre_linked ws p.start _ (walkDirectives_sels s cur _ dirs locFragmentSpread (ws.markSel p.start))
    exact { mono := by simp only [walkDirectives_visited, markSel_visited]; exact fun _ h => h
            marks := hmono
            src := fun n hn f hf => by
              simp only [Spec.spreadsOfSel, List.mem_singleton] at hn
              subst hn
              simp only [walkDirectives_visited, markSel_visited]
              rw [← fragForName_name hf]
              exact hdef f hf
            nodes := fun p' y hi => by
              cases hi with
              | self =>
                exact ⟨⟨_, List.mem_append_right _ (List.mem_singleton.2 rfl), rfl, rfl⟩, hk,
                  HasDirsC.sub (sub_inl _)
                    (walkDirectives_complete_cur s cur _ dirs locFragmentSpread _).toC⟩
            new := fun n hn hnot => by
              simp only [walkDirectives_visited, markSel_visited] at hn
              exact absurd hn hnot }
  spreadJump := fun parent nm dirs p ws f r3 hf hnot h3 => by
    have hname : f.name = nm := fragForName_name hf
    have ih := hJ _ _ _ r3 h3
    obtain ⟨hk, hmono⟩ := pre_linked ws p.start _ (walkDirectives_sels s cur (s.type? f.typeCond) dirs locFragmentSpread (ws.markSel p.start))
    -- the jump starts with `f` visited and the marks as after the spread's directives
    have hl0 : ∀ k, (walkDirectives s cur (s.type? f.typeCond) dirs locFragmentSpread (ws.markSel p.start)).1.links.linked k = true →
        (walkDirectives s cur (s.type? f.typeCond) f.dirs locFragmentDefinition
          { (walkDirectives s cur (s.type? f.typeCond) dirs locFragmentSpread (ws.markSel p.start)).1 with
            visited := f.name :: ws.visited }).1.links.linked k = true := by
      intro k hk'
      rw [linked_of_sels (walkDirectives_sels _ _ _ _ _ _)]
      exact hk'
    exact { mono := fun x hxm => ih.mono (by rw [walkDirectives_visited]; exact List.mem_cons_of_mem _ hxm)
            marks := fun k hk' => ih.marks k (hl0 k (hmono k hk'))
            src := fun n hn g _ => by
              simp only [Spec.spreadsOfSel, List.mem_singleton] at hn
              subst hn
              rw [← hname]
              exact ih.mono (by rw [walkDirectives_visited]; exact List.mem_cons_self)
            nodes := fun p' y hi => by
              cases hi with
              | self =>
                refine ⟨⟨_, List.mem_append_right _ (List.mem_singleton.2 rfl), rfl, by rw [hf]⟩,
                  ih.marks _ (hl0 _ hk), ?_⟩
                exact HasDirsC.sub (sub_left (sub_left (sub_inl _) _) _)
                  (walkDirectives_complete_cur s cur _ dirs locFragmentSpread _).toC
            new := fun n hn hnw => by
              by_cases hnf : n = f.name
              · subst hnf
                exact ⟨f, by rw [hname]; exact hf, fun p' y hi => (ih.nodes p' y hi).ext (Ext.frame r3 _ _),
                  HasDirsC.sub (sub_left (sub_mid _ _) _)
                    (walkDirectives_complete_cur s cur _ f.dirs locFragmentDefinition _).toC,
                  fun m hm g hg => ih.src m hm g hg⟩
              · obtain ⟨g, hg, hd⟩ := ih.new n hn (by
                  rw [walkDirectives_visited]
                  intro hm
                  rcases List.mem_cons.1 hm with h | h
                  · exact hnf h
                  · exact hnw h)
                exact ⟨g, hg, hd.ext (Ext.frame r3 _ _)⟩ }
  nil := fun parent ws =>
    { mono := fun _ h => h, marks := fun _ h => h
      src := fun n hn => by simp [Spec.spreadsOfSels] at hn
      nodes := fun p' y hi => by cases hi
      new := fun n hn hnot => absurd hn hnot }
  cons := fun parent x rest ws r1 r2 _ _ ha hb => by
    simp only [Spec.spreadsOfSels]
    refine (ha.seq hb).withNodes ?_
    intro p' y hi
    cases hi with
    | head _ _ _ _ _ hx => exact Or.inl (Or.inl hx)
    | tail _ _ _ _ _ hx => exact Or.inl (Or.inr hx)

theorem walkSelection_c (J : Jump) (hJ : JumpC s d cur J) :
    ∀ (x : Selection) (parent : Option Definition) (ws : WS) r,
      walkSelection s d cur J parent x ws = some r →
      WalkC s d cur (Spec.spreadsOfSel x) (InSelW s parent x) ws r :=
  walkSelection_induct (walkSel_c_cases s d cur J hJ)

theorem walkSelections_c (J : Jump) (hJ : JumpC s d cur J) :
    ∀ (xs : Selections) (parent : Option Definition) (ws : WS) r,
      walkSelections s d cur J parent xs ws = some r →
      WalkC s d cur (Spec.spreadsOfSels xs) (InSelsW s parent xs) ws r :=
  walkSelections_induct (walkSel_c_cases s d cur J hJ)

theorem walkLevel_c : ∀ n, JumpC s d cur (walkLevel s d cur n) :=
  walkLevel_induct fun J hJ => walkSel_c_cases s d cur J hJ

end sel

theorem WalkC.reach {s : SV} {d : QueryDoc} {cur : Option OperationDef} {names : List Name}
    {nodes : Option Definition → Selection → Prop} {ws : WS} {r : WS × List Event}
    (h : WalkC s d cur names nodes ws r) (hv : ws.visited = []) :
    ∀ n, Reach d names n → ∀ f, fragForName d n = some f → n ∈ r.1.visited ∧ FragDone s d cur r f := by
  have hall : ∀ n ∈ r.1.visited, ∃ f, fragForName d n = some f ∧ FragDone s d cur r f :=
    fun n hn => h.new n hn (by rw [hv]; exact List.not_mem_nil)
  have key := Reach.closed (V := (· ∈ r.1.visited)) h.src fun m f _ hm hf => by
    obtain ⟨g, hg, hd⟩ := hall m hm
    cases hf.symm.trans hg
    exact hd.2.2
  intro n hr f hf
  refine ⟨key n hr f hf, ?_⟩
  obtain ⟨g, hg, hd⟩ := hall n (key n hr f hf)
  rw [hf] at hg
  injection hg with hg
  subst hg
  exact hd

theorem WalkC.scope {s : SV} {d : QueryDoc} {cur : Option OperationDef} {names : List Name}
    {nodes : Option Definition → Selection → Prop} {ws : WS} {r : WS × List Event}
    (h : WalkC s d cur names nodes ws r) (hv : ws.visited = []) :
    (∀ p' y, NodeScope s d names nodes p' y → Done s d cur r p' y) ∧
    (∀ n f, Reach d names n → fragForName d n = some f → HasDirsC s cur locFragmentDefinition f.dirs r.2) := by
  constructor
  · rintro p' y (hi | ⟨n, f, hr, hf, hi⟩)
    · exact h.nodes p' y hi
    · exact (h.reach hv n hr f hf).2.1 p' y hi
  · intro n f hr hf
    exact (h.reach hv n hr f hf).2.2.1

structure OpComplete (s : SV) (d : QueryDoc) (op : OperationDef) (l' : Links) (evs : List Event) : Prop where
  nodes : ∀ p' y, NodeScope s d (Spec.spreadsOfSels op.sel) (InSelsW s (opRoot s op.op).1 op.sel) p' y →
    HasNodeCur d (some op) evs p' y ∧ l'.linked (selPos y).start = true ∧
      HasDirsC s (some op) (Spec.selLoc y) (Spec.selDirs y) evs
  fragDirs : ∀ n f, Reach d (Spec.spreadsOfSels op.sel) n → fragForName d n = some f →
    HasDirsC s (some op) locFragmentDefinition f.dirs evs
  opDirs : HasDirsC s (some op) (opRoot s op.op).2 op.dirs evs
  varDirs : ∀ v ∈ op.vars, HasDirsC s (some op) locVariableDefinition v.dirs evs
  last : ∃ used pre, evs = pre ++ [{ cur := some op, links := l', p := .operation op used }]

theorem walkVarDefsB_complete_cur (s : SV) (cur : Option OperationDef) :
    ∀ (vs : List VarDef) (ws : WS), ∀ v ∈ vs, HasDirsC s cur locVariableDefinition v.dirs (walkVarDefsB s cur vs ws).2
  | [], _, v, h => by cases h
  | v0 :: rest, ws, v, h => by
    simp only [walkVarDefsB]
    rcases List.mem_cons.1 h with rfl | h
    · exact HasDirsC.sub (sub_mid _ _)
        (walkDirectives_complete_cur s cur _ v.dirs locVariableDefinition _).toC
    · exact HasDirsC.sub (sub_inr _) (walkVarDefsB_complete_cur s cur rest _ v h)

theorem walkOperation_scope_complete (s : SV) (d : QueryDoc) (fuel : Nat) (op : OperationDef) (l : Links)
    (r : Links × List Event) (h : walkOperation s d fuel op l = some r) : OpComplete s d op r.1 r.2 := by
  obtain ⟨r4, h4, rfl⟩ := walkOperation_inv h
  obtain ⟨hn, hd⟩ := (walkLevel_c s d (some op) fuel _ _ _ r4 h4).scope
    (by rw [walkDirectives_visited, walkVarDefsB_visited])
  exact { nodes := fun p' y hi => by
            obtain ⟨h1, h2, h3⟩ := hn p' y hi
            exact ⟨h1.sub (sub_mid _ _), h2, h3.sub (sub_mid _ _)⟩
          fragDirs := fun n f hr hf => (hd n f hr hf).sub (sub_mid _ _)
          opDirs := HasDirsC.sub
            (sub_left (sub_mid _ _) _)
            (walkDirectives_complete_cur s (some op) _ op.dirs _ _).toC
          varDirs := fun v hv' => HasDirsC.sub
            (sub_left (sub_left (sub_mid _ _) _) _)
            (walkVarDefsB_complete_cur s (some op) op.vars _ v hv')
          last := ⟨_, _, rfl⟩ }

structure OpScope (s : SV) (d : QueryDoc) (op : OperationDef) (evs : List Event) : Prop where
  nodes : ∀ p' y, NodeScope s d (Spec.spreadsOfSels op.sel) (InSelsW s (opRoot s op.op).1 op.sel) p' y →
    HasNodeCur d (some op) evs p' y ∧ HasDirsC s (some op) (Spec.selLoc y) (Spec.selDirs y) evs
  fragDirs : ∀ n f, Reach d (Spec.spreadsOfSels op.sel) n → fragForName d n = some f →
    HasDirsC s (some op) locFragmentDefinition f.dirs evs
  opDirs : HasDirsC s (some op) (opRoot s op.op).2 op.dirs evs
  varDirs : ∀ v ∈ op.vars, HasDirsC s (some op) locVariableDefinition v.dirs evs

theorem OpComplete.toScope {s : SV} {d : QueryDoc} {op : OperationDef} {l' : Links} {a b : List Event}
    (h : OpComplete s d op l' a) (hsub : ∀ e ∈ a, e ∈ b) : OpScope s d op b :=
  { nodes := fun p' y hi => ⟨(h.nodes p' y hi).1.sub hsub, (h.nodes p' y hi).2.2.sub hsub⟩
    fragDirs := fun n f hr hf => (h.fragDirs n f hr hf).sub hsub
    opDirs := h.opDirs.sub hsub
    varDirs := fun v hv => (h.varDirs v hv).sub hsub }

theorem walkDoc_scope_complete (s : SV) (d : QueryDoc) (evs : List Event) (h : walkDoc s d = some evs) :
    ∀ op ∈ d.ops, OpScope s d op evs := by
  intro op hop
  obtain ⟨l, r, hr, hsub⟩ := walkDoc_op_events h hop
  exact (walkOperation_scope_complete s d _ op l r hr).toScope hsub

end Gql.Validate
