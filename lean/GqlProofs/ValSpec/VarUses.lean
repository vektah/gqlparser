import GqlProofs.ValSpec.ValueDoc
import GqlProofs.ValSpec.VarLinks
/-
  C09, variable uses of a whole run.  `OpArgCall sv d op defs args`: the argument list `args` (with the
  argument definitions `defs`) is in the SCOPE of the operation `op`: written in the operation itself
  (fields and directives of its selection set, its own directives, the directives of its variable
  definitions) or in a fragment definition the operation reaches through spreads of defined fragments
  (`OpReaches`) — its directives and everything in its selection set.  All of them are walked on behalf of
  `op` (`walkDoc_scope_done`), so every value node in the scope of `op` has an event with
  `CurrentOperation = op` (`walkDoc_scope_values`); for a variable use it shows `op`'s definition of that
  name (`trace_own`).  `walkDoc_varlinks_agreeing`: what EVERY event shows when the operations agree.
-/
namespace Gql.Validate
open Gql

inductive OpArgCall (sv : SV) (d : QueryDoc) (op : OperationDef) : Option (List ArgDef) → List Argument → Prop
  | ownField (p' : Option Definition) (al nm : Name) (args : List Argument) (dirs : List Directive) (sub : Selections)
      (pos : Pos) : InSelsW sv (opRoot sv op.op).1 op.sel p' (.field al nm args dirs sub pos) →
      OpArgCall sv d op ((wFieldDef p' nm).map (·.args)) args
  | ownNodeDir (p' : Option Definition) (y : Selection) (dir : Directive) :
      InSelsW sv (opRoot sv op.op).1 op.sel p' y → dir ∈ Spec.selDirs y →
      OpArgCall sv d op ((sv.directive? dir.name).map (·.args)) dir.args
  | opDir (dir : Directive) : dir ∈ op.dirs → OpArgCall sv d op ((sv.directive? dir.name).map (·.args)) dir.args
  | varDir (v : VarDef) (dir : Directive) : v ∈ op.vars → dir ∈ v.dirs →
      OpArgCall sv d op ((sv.directive? dir.name).map (·.args)) dir.args
  | fragDir (f : FragmentDef) (dir : Directive) : OpReaches d op f → dir ∈ f.dirs →
      OpArgCall sv d op ((sv.directive? dir.name).map (·.args)) dir.args
  | fragField (f : FragmentDef) (p' : Option Definition) (al nm : Name) (args : List Argument) (dirs : List Directive)
      (sub : Selections) (pos : Pos) : OpReaches d op f →
      InSelsW sv (sv.type? f.typeCond) f.sel p' (.field al nm args dirs sub pos) →
      OpArgCall sv d op ((wFieldDef p' nm).map (·.args)) args
  | fragNodeDir (f : FragmentDef) (p' : Option Definition) (y : Selection) (dir : Directive) : OpReaches d op f →
      InSelsW sv (sv.type? f.typeCond) f.sel p' y → dir ∈ Spec.selDirs y →
      OpArgCall sv d op ((sv.directive? dir.name).map (·.args)) dir.args

theorem OpDone.scope {sv : SV} {d : QueryDoc} {op : OperationDef} {es : List Event} (h : OpDone sv d op es)
    {defs : Option (List ArgDef)} {args : List Argument} (hc : OpArgCall sv d op defs args) :
    HasArgs sv (some op) es defs args := by
  cases hc with
  | ownField p' al nm args dirs sub pos hi => exact (h.nodes _ _ hi).1
  | ownNodeDir p' y dir hi hd => exact nodeDone_dirs (h.nodes _ _ hi) dir hd
  | opDir dir hd => exact h.dirs dir hd
  | varDir v dir hv hd => exact h.varDirs v hv dir hd
  | fragDir f dir hr hd => exact (h.frags f hr).1 dir hd
  | fragField f p' al nm args dirs sub pos hr hi => exact ((h.frags f hr).2 _ _ hi).1
  | fragNodeDir f p' y dir hr hi hd => exact nodeDone_dirs ((h.frags f hr).2 _ _ hi) dir hd

theorem walkDoc_scope_done (sv : SV) (d : QueryDoc) (evs : List Event) (hw : walkDoc sv d = some evs)
    (op : OperationDef) (hop : op ∈ d.ops) (defs : Option (List ArgDef)) (args : List Argument)
    (hc : OpArgCall sv d op defs args) : HasArgs sv (some op) evs defs args :=
  ((walkDoc_reach sv d evs hw).1 op hop).scope hc

theorem walkDoc_scope_values (s : Schema) (d : QueryDoc) (evs : List Event) (hw : walkDoc s.view d = some evs)
    (op : OperationDef) (hop : op ∈ d.ops) (defs : Option (List ArgDef)) (args : List Argument)
    (hc : OpArgCall s.view d op defs args) : ∀ o ∈ argOccs s defs args, ∃ e ∈ evs, EvOcc (some op) e o := by
  intro o ho
  obtain ⟨ws, hsub⟩ := walkDoc_scope_done s.view d evs hw op hop defs args hc
  obtain ⟨e, he, heo⟩ := walkArgs_occ_complete s (some op) defs args ws o ho
  exact ⟨e, hsub e he, heo⟩

/-- variable uses with the same start offset have the same name (true of every parse: distinct
    nodes start at distinct offsets) -/
def VarStartsDistinct (evs : List Event) : Prop :=
  ∀ e1 ∈ evs, ∀ e2 ∈ evs, ∀ r1 c1 p1 x1 y1 r2 c2 p2 x2 y2,
    e1.p = .value (.mk .variable r1 c1 p1) x1 y1 → e2.p = .value (.mk .variable r2 c2 p2) x2 y2 →
    p1.start = p2.start → r1 = r2

theorem walkDoc_varlinks_agreeing (s : Schema) (d : QueryDoc) (evs : List Event) (hw : walkDoc s.view d = some evs)
    (hagree : ∀ op ∈ d.ops, ∀ op' ∈ d.ops, ∀ raw, varForName op.vars raw = varForName op'.vars raw)
    (huniq : VarStartsDistinct evs) :
    ∀ pre e' post, evs = pre ++ e' :: post → ∀ raw ch p exp dfn, e'.p = .value (.mk .variable raw ch p) exp dfn →
      (e'.links.varDef p.start = none ∧ NoWrite p.start (pre ++ [e'])) ∨
      ∀ op ∈ d.ops, e'.links.varDef p.start = varForName op.vars raw := by
  intro pre e' post hev raw ch p exp dfn hp
  obtain ⟨l, ht⟩ := walkDoc_trace s.view d evs hw
  rw [hev] at ht
  rw [event_varDef pre e' post ht p.start]
  rcases lastWrite_cases p.start (pre ++ [e']) with hn | ⟨pre', e, mid, hsplit, hn, op0, raw0, ch0, p0, exp0, dfn0, hc, hp0, hk⟩
  · left
    rw [logFrom_noWrite p.start _ _ hn]
    exact ⟨rfl, hn⟩
  · right
    intro op hop
    have hmem : e ∈ evs := by
      rw [hev]
      have : e ∈ pre ++ [e'] := by rw [hsplit]; simp
      rcases List.mem_append.1 this with h | h
      · exact List.mem_append_left _ h
      · rw [List.mem_singleton.1 h]; simp
    have hmem' : e' ∈ evs := by rw [hev]; simp
    have hraw : raw0 = raw := huniq e hmem e' hmem' _ _ _ _ _ _ _ _ _ _ hp0 hp hk
    have hop0 : op0 ∈ d.ops := by
      have := (walkDoc_values_soundW s d evs hw e hmem (by rw [hp0]; trivial)).1
      exact this op0 hc
    have hw : wr e = [(p.start, varForName op0.vars raw0)] := by
      unfold wr
      rw [hc, hp0]
      simp only [hk]
    rw [hsplit, logFrom_lastWrite p.start _ pre' e mid [] hw hn]
    simp only [Option.join_some]
    rw [hraw]
    exact hagree op0 hop0 op hop raw

end Gql.Validate

namespace Gql.Validate
open Gql

def varUseKeys (evs : List Event) : List (Nat × Name) :=
  evs.filterMap fun e =>
    match e.p with
    | .value (.mk .variable raw _ p) _ _ => some (p.start, raw)
    | _ => none

def varStartsDistinctB (evs : List Event) : Bool :=
  (varUseKeys evs).all fun a => (varUseKeys evs).all fun b => a.1 != b.1 || a.2 == b.2

theorem varStartsDistinct_of_B (evs : List Event) (h : varStartsDistinctB evs = true) : VarStartsDistinct evs := by
  intro e1 h1 e2 h2 r1 c1 p1 x1 y1 r2 c2 p2 x2 y2 hp1 hp2 hk
  unfold varStartsDistinctB at h
  simp only [List.all_eq_true, Bool.or_eq_true, bne_iff_ne, ne_eq, beq_iff_eq] at h
  have m1 : (p1.start, r1) ∈ varUseKeys evs := List.mem_filterMap.2 ⟨e1, h1, by rw [hp1]⟩
  have m2 : (p2.start, r2) ∈ varUseKeys evs := List.mem_filterMap.2 ⟨e2, h2, by rw [hp2]⟩
  rcases h _ m1 _ m2 with h | h
  · exact absurd hk h
  · exact h

end Gql.Validate
