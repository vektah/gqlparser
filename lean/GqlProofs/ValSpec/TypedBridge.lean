import GqlProofs.ValSpec.Typed
import GqlProofs.ValSpec.Bridge
/-
  `walk_parent_type`: for a well-parented document (`Spec.wellParented`) the walker's
  typing is the declarative typing of the specification (`inDocW_iff`: occurrence under the walker's
  typing is membership in `Spec.docSels`), so every `field` event carries the parent type and field
  definition that `Spec.docSels` assigns to its node (`walk_parent_type`; `inline_parent_type`,
  `spread_parent_type` for the other two kinds of node), and every node of `Spec.docSels` has such an
  event (`node_event_complete`, `walk_parent_type_complete`).
-/
namespace Gql.Validate
open Gql

theorem typenameDef_eq : typenameDef = Spec.typenameField := rfl

theorem wInline_eq (s : Schema) (p : Option Definition) (tc : Name) :
    wInline s.view p tc = Spec.inlineType s p tc := by
  unfold wInline Spec.inlineType
  by_cases h : tc = []
  · simp [h]
  · simp [h]
    rfl

theorem wFieldDef_eq (p : Option Definition) (al nm : Name) (args : List Argument) (dirs : List Directive)
    (sub : Selections) (pos : Pos)
    (h : Spec.nodeWellParented ⟨p, .field al nm args dirs sub pos⟩ = true) :
    wFieldDef p nm = p.bind (Spec.fieldDefOn · nm) := by
  unfold Spec.nodeWellParented at h
  unfold wFieldDef
  cases p with
  | none =>
    simp only at h
    have : (nm == nameTypename) = false := by
      simp only [bne_iff_ne, ne_eq] at h
      have h' : ¬ nm = nameTypename := h
      simpa using h'
    simp [this]
  | some q =>
    simp only [Bool.and_eq_true, Bool.or_eq_true, bne_iff_ne, ne_eq, List.isEmpty_iff] at h
    obtain ⟨hc, hu⟩ := h
    simp only [Option.bind_some, Spec.fieldDefOn]
    by_cases ht : (nm == nameTypename) = true
    · have ht' : (nm == Spec.nameTypename) = true := ht
      simp only [ht, ht', if_true, hc]
      rfl
    · have ht' : ¬ (nm == Spec.nameTypename) = true := ht
      simp only [ht, ht', if_false, Bool.false_eq_true]
      by_cases hoi : (q.kind == .object || q.kind == .interface) = true
      · simp only [hoi, if_true]
        rfl
      · simp only [hoi, if_false, Bool.false_eq_true]
        have hunion : q.kind = .union := by
          unfold Spec.isComposite at hc
          simp only [Bool.or_eq_true, beq_iff_eq] at hc hoi
          rcases hc with (h1 | h1) | h1
          · exact absurd (Or.inl h1) hoi
          · exact absurd (Or.inr h1) hoi
          · exact h1
        have hf : q.fields = [] := by
          rcases hu with hu | hu
          · exact absurd hunion hu
          · exact hu
        simp [fieldForName, hf]

theorem wNext_eq (s : Schema) (p : Option Definition) (al nm : Name) (args : List Argument) (dirs : List Directive)
    (sub : Selections) (pos : Pos)
    (h : Spec.nodeWellParented ⟨p, .field al nm args dirs sub pos⟩ = true) :
    wNext s.view p nm = Spec.fieldType s p nm := by
  unfold wNext Spec.fieldType
  rw [wFieldDef_eq p al nm args dirs sub pos h]
  rfl

mutual
  theorem inSelW_iff (s : Schema) :
      ∀ (x : Selection) (p : Option Definition), (∀ t ∈ Spec.typedSel s p x, Spec.nodeWellParented t = true) →
        ∀ p' y, InSelW s.view p x p' y ↔ (⟨p', y⟩ : Spec.TSel) ∈ Spec.typedSel s p x
    | .field al nm args dirs sub pos, p, hwp, p', y => by
      have hhead := hwp ⟨p, .field al nm args dirs sub pos⟩ (typedSel_head s p _)
      have hnext := wNext_eq s p al nm args dirs sub pos hhead
      have ih := inSelsW_iff s sub (Spec.fieldType s p nm)
        (fun t ht => hwp t (by simp only [Spec.typedSel, List.mem_cons]; exact Or.inr ht)) p' y
      simp only [Spec.typedSel, List.mem_cons]
      constructor
      · intro h
        cases h with
        | self => exact Or.inl rfl
        | fieldSub _ _ _ _ _ _ _ _ _ hs =>
          rw [hnext] at hs
          exact Or.inr (ih.1 hs)
      · rintro (h | h)
        · injection h with h1 h2
          subst h1 h2
          exact InSelW.self _ _
        · refine InSelW.fieldSub _ _ _ _ _ _ _ _ _ ?_
          rw [hnext]
          exact ih.2 h
    | .spread nm dirs pos, p, hwp, p', y => by
      simp only [Spec.typedSel, List.mem_singleton]
      constructor
      · intro h
        cases h with
        | self => rfl
      · intro h
        injection h with h1 h2
        subst h1 h2
        exact InSelW.self _ _
    | .inline tc dirs sub pos, p, hwp, p', y => by
      have hnext := wInline_eq s p tc
      have ih := inSelsW_iff s sub (Spec.inlineType s p tc)
        (fun t ht => hwp t (by simp only [Spec.typedSel, List.mem_cons]; exact Or.inr ht)) p' y
      simp only [Spec.typedSel, List.mem_cons]
      constructor
      · intro h
        cases h with
        | self => exact Or.inl rfl
        | inlineSub _ _ _ _ _ _ _ hs =>
          rw [hnext] at hs
          exact Or.inr (ih.1 hs)
      · rintro (h | h)
        · injection h with h1 h2
          subst h1 h2
          exact InSelW.self _ _
        · refine InSelW.inlineSub _ _ _ _ _ _ _ ?_
          rw [hnext]
          exact ih.2 h
  theorem inSelsW_iff (s : Schema) :
      ∀ (xs : Selections) (p : Option Definition), (∀ t ∈ Spec.typedSels s p xs, Spec.nodeWellParented t = true) →
        ∀ p' y, InSelsW s.view p xs p' y ↔ (⟨p', y⟩ : Spec.TSel) ∈ Spec.typedSels s p xs
    | .nil, p, _, p', y => by
      simp only [Spec.typedSels, List.not_mem_nil, iff_false]
      intro h
      cases h
    | .cons x rest, p, hwp, p', y => by
      have ih1 := inSelW_iff s x p
        (fun t ht => hwp t (by simp only [Spec.typedSels, List.mem_append]; exact Or.inl ht)) p' y
      have ih2 := inSelsW_iff s rest p
        (fun t ht => hwp t (by simp only [Spec.typedSels, List.mem_append]; exact Or.inr ht)) p' y
      simp only [Spec.typedSels, List.mem_append]
      constructor
      · intro h
        cases h with
        | head _ _ _ _ _ hx => exact Or.inl (ih1.1 hx)
        | tail _ _ _ _ _ hx => exact Or.inr (ih2.1 hx)
      · rintro (h | h)
        · exact InSelsW.head _ _ _ _ _ (ih1.2 h)
        · exact InSelsW.tail _ _ _ _ _ (ih2.2 h)
end

theorem opRoot_def (s : Schema) (op : Operation) : (opRoot s.view op).1 = Spec.rootDef s op := by
  unfold opRoot Spec.rootDef Spec.rootName
  by_cases h1 : (op == opQuery || op == []) = true
  · have h1' : (op == Spec.kwQuery || op == []) = true := h1
    simp only [h1, h1', if_true]
    rfl
  · have h1' : ¬ (op == Spec.kwQuery || op == []) = true := h1
    simp only [h1, h1', if_false, Bool.false_eq_true]
    by_cases h2 : (op == opMutation) = true
    · have h2' : (op == Spec.kwMutation) = true := h2
      simp only [h2, h2', if_true]
      rfl
    · have h2' : ¬ (op == Spec.kwMutation) = true := h2
      simp only [h2, h2', if_false, Bool.false_eq_true]
      by_cases h3 : (op == opSubscription) = true
      · have h3' : (op == Spec.kwSubscription) = true := h3
        simp only [h3, h3', if_true]
        rfl
      · have h3' : ¬ (op == Spec.kwSubscription) = true := h3
        simp only [h3, h3', if_false, Bool.false_eq_true]
        rfl

theorem wellParented_docSels {s : Schema} {d : QueryDoc} (hwp : Spec.wellParented s d = true) :
    ∀ t ∈ Spec.docSels s d, Spec.nodeWellParented t = true :=
  List.all_eq_true.1 hwp

theorem inDocW_iff (s : Schema) (d : QueryDoc) (hwp : Spec.wellParented s d = true) (p' : Option Definition)
    (y : Selection) : InDocW s.view d p' y ↔ (⟨p', y⟩ : Spec.TSel) ∈ Spec.docSels s d := by
  have hwp := wellParented_docSels hwp
  unfold InDocW Spec.docSels
  simp only [List.mem_append, List.mem_flatMap]
  have hop : ∀ op ∈ d.ops, ∀ t ∈ Spec.typedSels s (Spec.rootDef s op.op) op.sel, Spec.nodeWellParented t = true :=
    fun op hop t ht => hwp t (by
      simp only [Spec.docSels, List.mem_append, List.mem_flatMap]
      exact Or.inl ⟨op, hop, ht⟩)
  have hfr : ∀ f ∈ d.frags, ∀ t ∈ Spec.typedSels s (s.type? f.typeCond) f.sel, Spec.nodeWellParented t = true :=
    fun f hf t ht => hwp t (by
      simp only [Spec.docSels, List.mem_append, List.mem_flatMap]
      exact Or.inr ⟨f, hf, ht⟩)
  constructor
  · rintro (⟨op, hop', h⟩ | ⟨f, hf, h⟩)
    · rw [opRoot_def] at h
      exact Or.inl ⟨op, hop', (inSelsW_iff s op.sel _ (hop op hop') p' y).1 h⟩
    · exact Or.inr ⟨f, hf, (inSelsW_iff s f.sel _ (hfr f hf) p' y).1 h⟩
  · rintro (⟨op, hop', h⟩ | ⟨f, hf, h⟩)
    · refine Or.inl ⟨op, hop', ?_⟩
      rw [opRoot_def]
      exact (inSelsW_iff s op.sel _ (hop op hop') p' y).2 h
    · exact Or.inr ⟨f, hf, (inSelsW_iff s f.sel _ (hfr f hf) p' y).2 h⟩

section
variable (s : Schema) (d : QueryDoc) (evs : List Event) (hw : walkDoc s.view d = some evs)
  (hwp : Spec.wellParented s d = true)
include hw hwp

theorem walk_parent_type (e : Event) (he : e ∈ evs) (f : FieldNode) (par : Option Definition) (dfn : Option FieldDef)
    (hp : e.p = .field f par dfn) :
    (⟨par, .field f.alias f.name f.args f.dirs f.sel f.pos⟩ : Spec.TSel) ∈ Spec.docSels s d ∧
      dfn = par.bind (Spec.fieldDefOn · f.name) := by
  have := walkDoc_w s.view d evs hw e he
  rw [hp] at this
  obtain ⟨h1, h2⟩ := this
  have hmem := (inDocW_iff s d hwp _ _).1 h1
  refine ⟨hmem, ?_⟩
  rw [h2]
  exact wFieldDef_eq par f.alias f.name f.args f.dirs f.sel f.pos (wellParented_docSels hwp _ hmem)

theorem inline_parent_type (e : Event) (he : e ∈ evs) (f : InlineNode) (par : Option Definition)
    (hp : e.p = .inlineFragment f par) :
    (⟨par, .inline f.typeCond f.dirs f.sel f.pos⟩ : Spec.TSel) ∈ Spec.docSels s d := by
  have := walkDoc_w s.view d evs hw e he
  rw [hp] at this
  exact (inDocW_iff s d hwp _ _).1 this

theorem spread_parent_type (e : Event) (he : e ∈ evs) (f : SpreadNode) (dfn : Option FragmentDef)
    (par : Option Definition) (hp : e.p = .fragmentSpread f dfn par) :
    (⟨par, .spread f.name f.dirs f.pos⟩ : Spec.TSel) ∈ Spec.docSels s d := by
  have := walkDoc_w s.view d evs hw e he
  rw [hp] at this
  exact (inDocW_iff s d hwp _ _).1 this

theorem node_event_complete (t : Spec.TSel) (ht : t ∈ Spec.docSels s d) : HasNode d evs t.parent t.sel :=
  walkDoc_hasW s.view d evs hw _ _ ((inDocW_iff s d hwp _ _).2 ht)

theorem walk_parent_type_complete (t : Spec.TSel) (ht : t ∈ Spec.docSels s d) (al nm : Name) (args : List Argument)
    (dirs : List Directive) (sub : Selections) (p : Pos) (hs : t.sel = .field al nm args dirs sub p) :
    ∃ e ∈ evs, e.p = .field ⟨al, nm, args, dirs, sub, p⟩ t.parent (t.parent.bind (Spec.fieldDefOn · nm)) := by
  obtain ⟨par, sel⟩ := t
  subst hs
  obtain ⟨e, he, hp⟩ := node_event_complete s d evs hw hwp _ ht
  exact ⟨e, he, by rw [hp, wFieldDef_eq par al nm args dirs sub p (wellParented_docSels hwp _ ht)]⟩

end

end Gql.Validate
