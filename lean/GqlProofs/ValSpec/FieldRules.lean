import GqlProofs.ValSpec.TypedBridge
import GqlProofs.ValSpec.EventSets
/-
  The rules that read `Field.Definition` / `Field.ObjectDefinition` against their specification
  predicates, for well-parented documents (`Spec.wellParented`): FieldsOnCorrectType,
  KnownArgumentNames, ProvidedRequiredArguments.
-/
namespace Gql.Validate
open Gql Gql.Validate.Rules

theorem fieldsOnCorrectType_iff (s : Schema) (d : QueryDoc) (evs : List Event) (hw : walkDoc s.view d = some evs)
    (hwp : Spec.wellParented s d = true) :
    (∀ e ∈ evs, fieldsOnCorrectTypeStep s.view d e = []) ↔ Spec.fieldSelections s d = true := by
  unfold Spec.fieldSelections
  simp only [List.all_eq_true]
  constructor
  · intro h t ht
    obtain ⟨par, sel⟩ := t
    cases sel with
    | spread nm dirs p => rfl
    | inline tc dirs sub p => rfl
    | field al nm args dirs sub p =>
      cases par with
      | none => rfl
      | some q =>
        obtain ⟨e, he, hp⟩ := walk_parent_type_complete s d evs hw hwp _ ht al nm args dirs sub p rfl
        have := h e he
        simp only [Option.bind_some] at hp
        simp only [fieldsOnCorrectTypeStep, hp] at this
        cases hfd : Spec.fieldDefOn q nm with
        | some fd => simp only [hfd, Option.isSome_some]
        | none =>
          rw [hfd] at this
          simp at this
  · intro h e he
    unfold fieldsOnCorrectTypeStep
    split
    · rename_i f parent hp
      obtain ⟨hmem, hdfn⟩ := walk_parent_type s d evs hw hwp e he f (some parent) none hp
      have := h _ hmem
      simp only [Option.bind_some] at hdfn
      simp only at this
      rw [← hdfn] at this
      simp at this
    · rfl

theorem argCheck_rule_iff (s : Schema) (d : QueryDoc) (evs : List Event) (hw : walkDoc s.view d = some evs)
    (hwp : Spec.wellParented s d = true)
    (step : SV → QueryDoc → Event → List RErr) (chk : List ArgDef → List Argument → Bool)
    (hfield : ∀ e f parent fd, e.p = .field f (some parent) (some fd) →
      (step s.view d e = [] ↔ chk fd.args f.args = true))
    (hdir : ∀ e dir dd par loc, e.p = .directive dir (some dd) par loc →
      (step s.view d e = [] ↔ chk dd.args dir.args = true))
    (hother : ∀ e, (∀ f fd, e.p ≠ .field f none (some fd)) → (∀ f parent fd, e.p ≠ .field f (some parent) (some fd)) →
      (∀ dir dd par loc, e.p ≠ .directive dir (some dd) par loc) → step s.view d e = []) :
    (∀ e ∈ evs, step s.view d e = []) ↔
      ((Spec.argSites s d).all fun site =>
        match site.defs with
        | none => true
        | some defs => chk defs site.args) = true := by
  simp only [List.all_eq_true]
  constructor
  · intro h site hsite
    rcases mem_argSites_iff.1 hsite with ⟨par, al, nm, args, dirs, sub, p, ht, rfl⟩ | ⟨dir, hmd, rfl⟩
    · obtain ⟨e, he, hp⟩ := walk_parent_type_complete s d evs hw hwp _ ht al nm args dirs sub p rfl
      cases par with
      | none => rfl
      | some q =>
        cases hfd : Spec.fieldDefOn q nm with
        | none => simp [hfd]
        | some fd =>
          simp only [Option.bind_some, hfd] at hp ⊢
          exact (hfield e _ q fd hp).1 (h e he)
    · obtain ⟨e, he, par, loc, hp⟩ := directive_event_complete' s d evs hw dir hmd
      cases hdd : s.directive? dir.name with
      | none => rfl
      | some dd =>
        rw [hdd] at hp
        exact (hdir e dir dd par loc hp).1 (h e he)
  · intro h e he
    by_cases hf : ∃ f parent fd, e.p = .field f (some parent) (some fd)
    · obtain ⟨f, parent, fd, hp⟩ := hf
      obtain ⟨hmem, hdfn⟩ := walk_parent_type s d evs hw hwp e he f (some parent) (some fd) hp
      have := h _ (argSites_field hmem)
      rw [← hdfn] at this
      exact (hfield e f parent fd hp).2 this
    · by_cases hdr : ∃ dir dd par loc, e.p = .directive dir (some dd) par loc
      · obtain ⟨dir, dd, par, loc, hp⟩ := hdr
        obtain ⟨hdfn, hd⟩ := directive_event_sound' s d evs hw e he dir (some dd) par loc hp
        have := h _ (argSites_directive hd)
        rw [← hdfn] at this
        exact (hdir e dir dd par loc hp).2 this
      · refine hother e (fun f fd hp => ?_) (fun f parent fd hp => hf ⟨f, parent, fd, hp⟩)
          (fun dir dd par loc hp => hdr ⟨dir, dd, par, loc, hp⟩)
        -- under `wellParented` no field definition is found without a parent
        cases (walk_parent_type s d evs hw hwp e he f none (some fd) hp).2

theorem unknownArgs_nil_iff (defs : List ArgDef) (mk : Name → Bytes) (p : Pos) :
    ∀ args : List Argument, unknownArgs defs mk p args = [] ↔
      (args.all fun a => (Spec.argDefByName defs a.name).isSome) = true
  | [] => by simp [unknownArgs]
  | a :: rest => by
    have ih := unknownArgs_nil_iff defs mk p rest
    simp only [unknownArgs, List.all_cons, Bool.and_eq_true]
    have hsame : argDefForName defs a.name = Spec.argDefByName defs a.name := rfl
    cases hd : Spec.argDefByName defs a.name with
    | none => simp [hsame, hd]
    | some ad => simp [hsame, hd, ih]

theorem knownArgumentNames_iff (s : Schema) (d : QueryDoc) (evs : List Event) (hw : walkDoc s.view d = some evs)
    (hwp : Spec.wellParented s d = true) :
    (∀ e ∈ evs, knownArgumentNamesStep s.view d e = []) ↔ Spec.argumentNames s d = true := by
  refine argCheck_rule_iff s d evs hw hwp knownArgumentNamesStep
    (fun defs args => args.all fun a => (Spec.argDefByName defs a.name).isSome) ?_ ?_ ?_
  · intro e f parent fd hp
    simp only [knownArgumentNamesStep, hp]
    exact unknownArgs_nil_iff _ _ _ _
  · intro e dir dd par loc hp
    simp only [knownArgumentNamesStep, hp]
    exact unknownArgs_nil_iff _ _ _ _
  · intro e _ h1 h2
    unfold knownArgumentNamesStep
    split
    · exact absurd ‹_› (h1 _ _ _)
    · exact absurd ‹_› (h2 _ _ _ _)
    · rfl

theorem missingArgs_nil_iff (args : List Argument) (mk : ArgDef → Bytes) (p : Pos) :
    ∀ defs : List ArgDef, missingArgs args mk p defs = [] ↔
      (defs.all fun ad => !(ad.type.nonNull && ad.default.isNone) || args.any (·.name == ad.name)) = true
  | [] => by simp [missingArgs]
  | ad :: rest => by
    have ih := missingArgs_nil_iff args mk p rest
    simp only [missingArgs, List.all_cons, Bool.and_eq_true]
    by_cases hc : (!ad.type.nonNull || ad.default.isSome || args.any (·.name == ad.name)) = true
    · simp only [hc, if_true, ih]
      constructor
      · intro h
        refine ⟨?_, h⟩
        cases h1 : ad.type.nonNull <;> cases h2 : ad.default <;> simp_all
      · exact fun h => h.2
    · simp only [hc, Bool.false_eq_true, if_false]
      constructor
      · intro h; cases h
      · rintro ⟨h, _⟩
        exfalso
        apply hc
        cases h1 : ad.type.nonNull <;> cases h2 : ad.default <;> simp_all

theorem providedRequiredArguments_iff (s : Schema) (d : QueryDoc) (evs : List Event) (hw : walkDoc s.view d = some evs)
    (hwp : Spec.wellParented s d = true) :
    (∀ e ∈ evs, providedRequiredArgumentsStep s.view d e = []) ↔ Spec.requiredArguments s d = true := by
  refine argCheck_rule_iff s d evs hw hwp providedRequiredArgumentsStep
    (fun defs args => defs.all fun ad => !(ad.type.nonNull && ad.default.isNone) || args.any (·.name == ad.name)) ?_ ?_ ?_
  · intro e f parent fd hp
    simp only [providedRequiredArgumentsStep, hp]
    exact missingArgs_nil_iff _ _ _ _
  · intro e dir dd par loc hp
    simp only [providedRequiredArgumentsStep, hp]
    exact missingArgs_nil_iff _ _ _ _
  · intro e h0 h1 h2
    unfold providedRequiredArgumentsStep
    split
    · rename_i f par fd hp
      cases par with
      | none => exact absurd hp (h0 _ _)
      | some parent => exact absurd hp (h1 _ _ _)
    · exact absurd ‹_› (h2 _ _ _ _)
    · rfl

end Gql.Validate
