import GqlProofs.ValSpec.ValuesCorrectOneOf
import GqlProofs.ValSpec.VarRules
/-
  ValuesOfCorrectType and `@oneOf`, the converse: in a document that satisfies `Spec.valuesOfCorrectType` and
  `Spec.oneOfVariablesNonNull` the `@oneOf` variable test of the rule passes at every event (`oneOfVar_of_spec`).
  The variable that is the single field of the event's object literal is a marked usage `u` of its argument block
  (`marked_site_use_args`).  Fired on behalf of `op`, the event carries the link of `op`, and `u` is in the scope of
  `op`.  Fired with `CurrentOperation = nil` (stand-alone walk of a fragment definition) it reads a link written for a
  variable node at the same offset on behalf of some `op'` (`walkDoc_linksW`); by `usePosDistinct` that node is a usage
  with the name and the mark of `u`, in the scope of `op'`.  `constDefaults` excludes the blocks of variable defaults.
-/
namespace Gql.Validate
open Gql Gql.Validate.Rules

mutual
  theorem var_site_use_value (s : Schema) : ∀ (v : Value) (exp : Option GType) (dfn : Option Definition)
      (exp' : Option GType) (ld : Bool) (oo : Option Name), ∀ x ∈ valSites s.view exp dfn v,
      ∀ r ch p, x.2.2 = .mk .variable r ch p → ∃ u ∈ Spec.usesInValue s exp' ld oo v, u.name = r ∧ u.pos = p
    | .mk k raw ch0 p0, exp, dfn, exp', ld, oo, x, hx, r, ch, p, hxv => by
      unfold valSites at hx
      unfold Spec.usesInValue
      rcases List.mem_append.1 hx with hx | hx
      · cases k <;> simp only [List.not_mem_nil] at hx
        · exact var_site_use_items s ch0 exp dfn _ x hx r ch p hxv
        · simp only
          split
          · split
            · exact var_site_use_fields s ch0 dfn _ x hx r ch p hxv
            · exact var_site_use_fields s ch0 dfn _ x hx r ch p hxv
          · exact var_site_use_fields s ch0 dfn _ x hx r ch p hxv
      · rw [List.mem_singleton.1 hx] at hxv
        simp only [Value.mk.injEq] at hxv
        obtain ⟨rfl, rfl, rfl, rfl⟩ := hxv
        exact ⟨_, List.mem_singleton.2 rfl, rfl, rfl⟩
  theorem var_site_use_items (s : Schema) : ∀ (ch0 : Children) (exp : Option GType) (dfn : Option Definition)
      (e' : Option GType), ∀ x ∈ listSites s.view exp dfn ch0,
      ∀ r ch p, x.2.2 = .mk .variable r ch p → ∃ u ∈ Spec.usesInItems s e' ch0, u.name = r ∧ u.pos = p
    | .nil, exp, dfn, e', x, hx => by simp [listSites] at hx
    | .cons n v q rest, exp, dfn, e', x, hx => by
      intro r ch p hxv
      rw [listSites] at hx
      rw [Spec.usesInItems]
      rcases List.mem_append.1 hx with hx | hx
      · obtain ⟨u, hu, h⟩ := var_site_use_value s v _ _ e' false none x hx r ch p hxv
        exact ⟨u, List.mem_append_left _ hu, h⟩
      · obtain ⟨u, hu, h⟩ := var_site_use_items s rest exp dfn e' x hx r ch p hxv
        exact ⟨u, List.mem_append_right _ hu, h⟩
  theorem var_site_use_fields (s : Schema) : ∀ (ch0 : Children) (dfn : Option Definition)
      (d' : Option Definition), ∀ x ∈ objSites s.view dfn ch0,
      ∀ r ch p, x.2.2 = .mk .variable r ch p → ∃ u ∈ Spec.usesInFields s d' ch0, u.name = r ∧ u.pos = p
    | .nil, dfn, d', x, hx => by simp [objSites] at hx
    | .cons n v q rest, dfn, d', x, hx => by
      intro r ch p hxv
      rw [objSites] at hx
      rw [Spec.usesInFields]
      rcases List.mem_append.1 hx with hx | hx
      · split
        · obtain ⟨u, hu, h⟩ := var_site_use_value s v _ _ _ _ _ x hx r ch p hxv
          exact ⟨u, List.mem_append_left _ hu, h⟩
        · obtain ⟨u, hu, h⟩ := var_site_use_value s v _ _ _ _ _ x hx r ch p hxv
          exact ⟨u, List.mem_append_left _ hu, h⟩
      · obtain ⟨u, hu, h⟩ := var_site_use_fields s rest dfn d' x hx r ch p hxv
        exact ⟨u, List.mem_append_right _ hu, h⟩
end

theorem var_site_use_args (s : Schema) (defs : Option (List ArgDef)) (args : List Argument) (x : VSite)
    (hx : x ∈ argValSites s.view defs args) (r : Name) (ch : Children) (p : Pos) (hxv : x.2.2 = .mk .variable r ch p) :
    ∃ u ∈ Spec.usesInArgs s defs args, u.name = r ∧ u.pos = p := by
  obtain ⟨a, ha, hxa⟩ := (mem_argValSites_iff s.view defs x args).1 hx
  unfold Spec.usesInArgs
  cases hb : defs.bind (Spec.argDefByName · a.name) with
  | none =>
    obtain ⟨u, hu, h⟩ := var_site_use_value s a.value _ _ none false none x hxa r ch p hxv
    exact ⟨u, List.mem_flatMap.2 ⟨a, ha, by rw [hb]; exact hu⟩, h⟩
  | some ad =>
    obtain ⟨u, hu, h⟩ := var_site_use_value s a.value _ _ (some ad.type) ad.default.isSome none x hxa r ch p hxv
    exact ⟨u, List.mem_flatMap.2 ⟨a, ha, by rw [hb]; exact hu⟩, h⟩

def MarkedSite (x : VSite) (dd : Definition) (r : Name) (pv : Pos) : Prop :=
  ∃ t raw ch p n chv, x.1 = some t ∧ x.2.1 = some dd ∧ x.2.2 = .mk .object raw ch p ∧ dd.kind = .inputObject ∧
    Spec.hasOneOf dd = true ∧ ChildIs ch n (.mk .variable r chv pv)

theorem child_use (s : Schema) (dd : Definition) : ∀ ch : Children, Spec.fieldsOk s dd ch = true →
    ∀ n r chv pv, ChildIs ch n (.mk .variable r chv pv) →
      ∃ u ∈ Spec.usesInFields s (some dd) ch, u.name = r ∧ u.pos = pv ∧
        u.oneOf = (if Spec.hasOneOf dd then some dd.name else none)
  | .nil, _, n, r, chv, pv, h => nomatch h
  | .cons n0 v q rest, hok, n, r, chv, pv, h => by
    rw [Spec.fieldsOk, Bool.and_eq_true] at hok
    rw [Spec.usesInFields]
    rcases h with ⟨_, hv⟩ | h
    · cases hf : Spec.inputFieldByName dd n0 with
      | none => rw [hf] at hok; cases hok.1
      | some fd =>
        refine ⟨⟨r, some fd.type, fd.default.isSome, if Spec.hasOneOf dd then some dd.name else none, pv⟩,
          List.mem_append_left _ ?_, rfl, rfl, rfl⟩
        simp only [Option.bind_some, hf, Option.map_some, hv]
        unfold Spec.usesInValue
        exact List.mem_singleton.2 rfl
    · obtain ⟨u, hu, hh⟩ := child_use s dd rest hok.2 n r chv pv h
      exact ⟨u, List.mem_append_right _ hu, hh⟩

mutual
  theorem marked_site_use_value (s : Schema) (hs : schemaOK s = true) (dd : Definition) (r : Name) (pv : Pos) :
      ∀ (v : Value) (t : GType) (d0 : Definition) (ld : Bool) (oo : Option Name), s.type? t.name = some d0 →
        Spec.isInput d0 = true → Spec.valueOk s t v = true →
        ∀ x ∈ valSites s.view (some t) (some d0) v, MarkedSite x dd r pv →
          ∃ u ∈ Spec.usesInValue s (some t) ld oo v, u.name = r ∧ u.pos = pv ∧ u.oneOf = some dd.name
    | .mk k raw ch p, t, d0, ld, oo, hd, hin, hok, x, hx, hm => by
      have hdok := defOK_of_type? hs hd
      simp only [defOK, Bool.and_eq_true, Bool.or_eq_true, Bool.not_eq_true', beq_iff_eq] at hdok
      obtain ⟨⟨_, hsf⟩, hif⟩ := hdok
      unfold valSites at hx
      unfold Spec.valueOk at hok
      unfold Spec.usesInValue
      rcases List.mem_append.1 hx with hx | hx
      · cases k <;> simp only [List.not_mem_nil] at hx
        case list =>
          simp only at hok ⊢
          cases t with
          | named nme nn q =>
            have := listSites_untyped s.view _ _ rfl ch x hx
            obtain ⟨t', _, _, _, _, _, h1, _⟩ := hm
            rw [this] at h1
            cases h1
          | list e nn q =>
            simp only at hok
            exact marked_site_use_items s hs dd r pv ch e nn q d0 hd hin hok x hx hm
        case object =>
          simp only at hok ⊢
          have hbind : (some t).bind (fun t => s.type? t.name) = some d0 := hd
          rw [hd] at hok
          rw [hbind]
          simp only at hok ⊢
          by_cases hio : d0.kind = .inputObject
          · simp only [hio, beq_self_eq_true, if_true, Bool.and_eq_true] at hok ⊢
            have hf : ∀ f ∈ d0.fields, inputTypeB s f.type = true := by
              rcases hif with h | h
              · rw [hio] at h; simp at h
              · exact List.all_eq_true.1 h
            exact marked_site_use_fields s hs dd r pv ch d0 hf hok.1.1 x hx hm
          · exfalso
            have hne : (d0.kind == DefKind.inputObject) = false := by simpa using hio
            simp only [hne, Bool.false_eq_true, if_false] at hok
            rw [structured_eq d0 hin] at hok
            have hk : d0.kind = .scalar := by
              simp only [customScalar, Bool.and_eq_true, beq_iff_eq] at hok
              exact hok.1
            have hfl : d0.fields = [] := by
              rcases hsf with h' | h'
              · rw [hk] at h'; cases h'
              · simpa using h'
            have := objSites_untyped s.view (some d0) (fun nm => by simp [objChildLink, hfl, fieldForName]) ch x hx
            obtain ⟨t', _, _, _, _, _, h1, _⟩ := hm
            rw [this] at h1
            cases h1
      · rw [List.mem_singleton.1 hx] at hm
        obtain ⟨t', raw', ch', p', n, chv, _, h2, h3, hio, hone, hc⟩ := hm
        simp only [Option.some.injEq] at h2
        subst h2
        simp only [Value.mk.injEq] at h3
        obtain ⟨rfl, rfl, rfl, rfl⟩ := h3
        simp only at hok ⊢
        have hbind : (some t).bind (fun t => s.type? t.name) = some d0 := hd
        rw [hd] at hok
        rw [hbind]
        simp only [hio, beq_self_eq_true, if_true, Bool.and_eq_true] at hok ⊢
        obtain ⟨u, hu, h1, h2, h3⟩ := child_use s d0 ch hok.1.1 n r chv pv hc
        rw [hone] at h3
        exact ⟨u, hu, h1, h2, h3⟩
  theorem marked_site_use_items (s : Schema) (hs : schemaOK s = true) (dd : Definition) (r : Name) (pv : Pos) :
      ∀ (ch : Children) (e : GType) (nn : Bool) (q : Pos) (d0 : Definition), s.type? e.name = some d0 →
        Spec.isInput d0 = true → Spec.itemsOk s e ch = true →
        ∀ x ∈ listSites s.view (some (.list e nn q)) (some d0) ch, MarkedSite x dd r pv →
          ∃ u ∈ Spec.usesInItems s (Spec.elemOf (some (.list e nn q))) ch, u.name = r ∧ u.pos = pv ∧ u.oneOf = some dd.name
    | .nil, e, nn, q, d0, _, _, _, x, hx, _ => by simp [listSites] at hx
    | .cons n v p rest, e, nn, q, d0, hd, hin, hok, x, hx, hm => by
      rw [Spec.itemsOk, Bool.and_eq_true] at hok
      rw [listSites] at hx
      simp only [Spec.elemOf]
      rw [Spec.usesInItems]
      rcases List.mem_append.1 hx with hx | hx
      · obtain ⟨u, hu, h⟩ := marked_site_use_value s hs dd r pv v e d0 false none hd hin hok.1 x hx hm
        exact ⟨u, List.mem_append_left _ hu, h⟩
      · obtain ⟨u, hu, h⟩ := marked_site_use_items s hs dd r pv rest e nn q d0 hd hin hok.2 x hx hm
        exact ⟨u, List.mem_append_right _ hu, h⟩
  theorem marked_site_use_fields (s : Schema) (hs : schemaOK s = true) (dd : Definition) (r : Name) (pv : Pos) :
      ∀ (ch : Children) (d0 : Definition), (∀ f ∈ d0.fields, inputTypeB s f.type = true) → Spec.fieldsOk s d0 ch = true →
        ∀ x ∈ objSites s.view (some d0) ch, MarkedSite x dd r pv →
          ∃ u ∈ Spec.usesInFields s (some d0) ch, u.name = r ∧ u.pos = pv ∧ u.oneOf = some dd.name
    | .nil, d0, _, _, x, hx, _ => by simp [objSites] at hx
    | .cons n v p rest, d0, hf, hok, x, hx, hm => by
      rw [Spec.fieldsOk, Bool.and_eq_true] at hok
      rw [objSites] at hx
      rw [Spec.usesInFields]
      rcases List.mem_append.1 hx with hx | hx
      · have hsame : Spec.inputFieldByName d0 n = fieldForName d0.fields n := rfl
        cases hfn : fieldForName d0.fields n with
        | none => rw [hsame, hfn] at hok; cases hok.1
        | some fd =>
          rw [hsame, hfn] at hok
          simp only at hok
          have hit := hf fd (List.mem_of_find?_eq_some hfn)
          unfold inputTypeB at hit
          cases hd' : s.type? fd.type.name with
          | none => rw [hd'] at hit; cases hit
          | some d' =>
            rw [hd'] at hit
            have hlink : objChildLink s.view (some d0) n = (some fd.type, some d') := by
              simp only [objChildLink, hfn, linkOfType]
              exact congrArg _ hd'
            rw [hlink] at hx
            obtain ⟨u, hu, h⟩ := marked_site_use_value s hs dd r pv v fd.type d' fd.default.isSome
              (if Spec.hasOneOf d0 then some d0.name else none) hd' hit hok.1 x hx hm
            refine ⟨u, List.mem_append_left _ ?_, h⟩
            simp only [Option.bind_some, hsame, hfn, Option.map_some]
            exact hu
      · obtain ⟨u, hu, h⟩ := marked_site_use_fields s hs dd r pv rest d0 hf hok.2 x hx hm
        exact ⟨u, List.mem_append_right _ hu, h⟩
end

def allUses (s : Schema) (d : QueryDoc) : List Spec.VarUse :=
  (Spec.argSites s d).flatMap fun site => Spec.usesInArgs s site.defs site.args

/-- NODE IDENTITY BY POSITION, as far as the link side table needs it: two variable usages of the
    document that start at the same offset are the same usage (same name, same `@oneOf` mark).  True of every parsed document (distinct nodes have distinct offsets). -/
def usePosDistinct (s : Schema) (d : QueryDoc) : Bool :=
  (allUses s d).all fun u => (allUses s d).all fun u' =>
    u.pos.start != u'.pos.start || (u.name == u'.name && u.oneOf == u'.oneOf)

theorem usePosDistinct_apply (s : Schema) (d : QueryDoc) (h : usePosDistinct s d = true) (u : Spec.VarUse)
    (hu : u ∈ allUses s d) (u' : Spec.VarUse) (hu' : u' ∈ allUses s d) (hp : u.pos.start = u'.pos.start) :
    u.name = u'.name ∧ u.oneOf = u'.oneOf := by
  unfold usePosDistinct at h
  have := List.all_eq_true.1 (List.all_eq_true.1 h u hu) u' hu'
  simp only [Bool.or_eq_true, bne_iff_ne, ne_eq, Bool.and_eq_true, beq_iff_eq] at this
  rcases this with h1 | h1
  · exact absurd hp h1
  · exact h1

section
variable (s : Schema) (d : QueryDoc) (evs : List Event) (hw : walkDoc s.view d = some evs)
  (hwp : Spec.wellParented s d = true)
include hw hwp

theorem block_uses_all (e' : Event) (he' : e' ∈ evs) :
    (∀ f par fd, e'.p = .field f par fd → ∀ u ∈ Spec.usesInArgs s (fd.map (·.args)) f.args, u ∈ allUses s d) ∧
    (∀ dir dd par loc, e'.p = .directive dir dd par loc →
      ∀ u ∈ Spec.usesInArgs s (dd.map (·.args)) dir.args, u ∈ allUses s d) :=
  ⟨fun f par fd hp _ hu => List.mem_flatMap.2 ⟨_, (block_site s d evs hw hwp e' he').1 f par fd hp, hu⟩,
   fun dir dd par loc hp _ hu => List.mem_flatMap.2 ⟨_, (block_site s d evs hw hwp e' he').2 dir dd par loc hp, hu⟩⟩

end

theorem marked_site_use_root (s : Schema) (d : QueryDoc) (hs : schemaOK s = true) (hroots : rootsInput s d = true)
    (hvoc : Spec.valuesOfCorrectType s d = true) {t : GType} {v : Value} (htv : (t, v) ∈ Spec.typedValueSites s d)
    (ld : Bool) (oo : Option Name) {x : VSite} (hx : x ∈ valSites s.view (some t) (s.view.type? t.name) v)
    {dd : Definition} {r : Name} {pv : Pos} (hm : MarkedSite x dd r pv) :
    ∃ u ∈ Spec.usesInValue s (some t) ld oo v, u.name = r ∧ u.pos = pv ∧ u.oneOf = some dd.name := by
  obtain ⟨d0, hd0, hin⟩ := rootsInput_type hroots htv
  rw [show s.view.type? t.name = some d0 from hd0] at hx
  exact marked_site_use_value s hs dd r pv v t d0 ld oo hd0 hin (List.all_eq_true.1 hvoc _ htv) x hx hm

theorem marked_site_use_args (s : Schema) (d : QueryDoc) (hs : schemaOK s = true) (hroots : rootsInput s d = true)
    (hvoc : Spec.valuesOfCorrectType s d = true) (site : Spec.ArgSite) (hsite : site ∈ Spec.argSites s d)
    (x : VSite) (hx : x ∈ argValSites s.view site.defs site.args) (dd : Definition) (r : Name) (pv : Pos)
    (hm : MarkedSite x dd r pv) :
    ∃ u ∈ Spec.usesInArgs s site.defs site.args, u.name = r ∧ u.pos = pv ∧ u.oneOf = some dd.name := by
  obtain ⟨a, ha, hxa⟩ := (mem_argValSites_iff s.view site.defs x site.args).1 hx
  cases hb : site.defs.bind (argDefForName · a.name) with
  | none =>
    rw [argLink_none s.view site.defs a.name hb] at hxa
    have := valSites_untyped s.view a.value x hxa
    obtain ⟨t', _, _, _, _, _, h1, _⟩ := hm
    rw [this] at h1
    cases h1
  | some ad =>
    cases hdefs : site.defs with
    | none => rw [hdefs] at hb; cases hb
    | some dl =>
      rw [hdefs] at hb hxa
      have had : Spec.argDefByName dl a.name = some ad := hb
      rw [argLink_some s.view dl a.name ad had] at hxa
      have htv : (ad.type, a.value) ∈ Spec.typedValueSites s d :=
        (mem_typedValueSites_iff s d _ _).2 (Or.inl ⟨site, hsite, dl, hdefs, a, ha, ad, had, rfl, rfl⟩)
      obtain ⟨u, hu, h⟩ := marked_site_use_root s d hs hroots hvoc htv ad.default.isSome none hxa hm
      refine ⟨u, List.mem_flatMap.2 ⟨a, ha, ?_⟩, h⟩
      rw [show (some dl).bind (Spec.argDefByName · a.name) = some ad from had]
      exact hu

theorem constDefault_no_uses (s : Schema) (d : QueryDoc) (hcd : constDefaults d = true) (op : OperationDef) (hop : op ∈ d.ops)
    (vd : VarDef) (hvd : vd ∈ op.vars) (dv : Value) (hdv : vd.default = some dv) (exp : Option GType) (ld : Bool)
    (oo : Option Name) (u : Spec.VarUse) (hu : u ∈ Spec.usesInValue s exp ld oo dv) : False := by
  have hcd' := List.all_eq_true.1 (List.all_eq_true.1 hcd op hop) vd hvd
  rw [hdv] at hcd'
  simp only [List.isEmpty_iff] at hcd'
  have : u.name ∈ (Spec.usesInValue s exp ld oo dv).map (·.name) := List.mem_map_of_mem hu
  rw [usesInValue_names, hcd'] at this
  cases this

theorem oneOf_clause (s : Schema) (d : QueryDoc) (hoo : Spec.oneOfVariablesNonNull s d = true) (op : OperationDef)
    (hop : op ∈ d.ops) (u : Spec.VarUse) (hu : u ∈ Spec.scopeUses s d op) (nm : Name) (ho : u.oneOf = some nm)
    (vd : VarDef) (hv : varForName op.vars u.name = some vd) : vd.type.nonNull = true := by
  unfold Spec.oneOfVariablesNonNull at hoo
  have := List.all_eq_true.1 (List.all_eq_true.1 hoo op hop) u hu
  have hv' : Spec.varDefByName op u.name = some vd := hv
  rw [ho, hv'] at this
  exact this

section
variable (s : Schema) (d : QueryDoc) (evs : List Event) (hw : walkDoc s.view d = some evs)
  (hwp : Spec.wellParented s d = true)
include hw hwp

theorem oneOfVar_of_spec (hfu : Spec.fragmentNameUniqueness d = true) (hcd : constDefaults d = true)
    (hs : schemaOK s = true) (hroots : rootsInput s d = true) (hvoc : Spec.valuesOfCorrectType s d = true)
    (hoo : Spec.oneOfVariablesNonNull s d = true) (hpos : usePosDistinct s d = true) :
    ∀ e ∈ evs, ∀ w exp dfn, e.p = .value w (some exp) (some dfn) → oneOfVar e.links dfn w = true := by
  intro e he w exp dfn hp
  cases hcond : (w.kind == .object && dfn.kind == .inputObject && Spec.hasOneOf dfn) with
  | false => simp [oneOfVar, hcond]
  | true =>
  simp only [Bool.and_eq_true, beq_iff_eq] at hcond
  obtain ⟨⟨hk, hio⟩, hone⟩ := hcond
  unfold oneOfVar
  rw [Bool.or_eq_true]
  right
  obtain ⟨k, raw, ch, p⟩ := w
  simp only [Value.kind] at hk
  subst hk
  unfold oneOfVarOK
  simp only [Value.children]
  cases ch with
  | nil => rfl
  | cons n fv q rest =>
    cases rest with
    | cons _ _ _ _ => rfl
    | nil =>
      simp only
      obtain ⟨kv, rv, chv, pv⟩ := fv
      simp only [Value.kind, Value.pos]
      cases hkvb : (kv == ValueKind.variable) with
      | false => simp
      | true =>
      have hkv : kv = .variable := by simpa using hkvb
      subst hkv
      simp only [Bool.not_true, Bool.false_or]
      cases hv : e.links.varDef pv.start with
      | none => rfl
      | some vd =>
        simp only
        have hm : MarkedSite (some exp, some dfn, Value.mk .object raw (.cons n (.mk .variable rv chv pv) q .nil) p) dfn rv pv :=
          ⟨exp, raw, _, p, n, chv, rfl, rfl, rfl, hio, hone, Or.inl ⟨rfl, rfl⟩⟩
        rcases event_block s d evs hw hwp hfu e he _ _ _ hp with
          ⟨site, hsite, ws, hin, hscope⟩ | ⟨op, hop, vd0, hvd0, dv, ws, hdv, hc, hin⟩
        · have hx := walkArgs_sound hin hp
          obtain ⟨u, hu, hn, hpu, hou⟩ := marked_site_use_args s d hs hroots hvoc site hsite _ hx dfn rv pv hm
          have hall : u ∈ allUses s d := List.mem_flatMap.2 ⟨site, hsite, hu⟩
          cases hcur : e.cur with
          | some op =>
            rw [hcur] at hin
            have hlink := walkArgs_oneOfLink s.view op site.defs site.args ws e hin raw n rv chv pv q p _ _ hp
            rw [hv] at hlink
            have hop : op ∈ d.ops := (walkDoc_op_sound s.view d evs hw e he op hcur).1
            exact oneOf_clause s d hoo op hop u (hscope op hcur u hu) _ hou vd (by rw [hn]; exact hlink.symm)
          | none =>
            obtain ⟨e0, he0, op', r0, ch0, p0, exp0, dfn0, hc0, hp0, hk0, hx0⟩ :=
              (walkDoc_linksW s.view d evs hw e he).lookup hv
            have hop' : op' ∈ d.ops := (walkDoc_op_sound s.view d evs hw e0 he0 op' hc0).1
            rcases event_block s d evs hw hwp hfu e0 he0 _ _ _ hp0 with
              ⟨site0, hsite0, ws0, hin0, hscope0⟩ | ⟨op0, hop0, vd0, hvd0, dv, ws0, hdv, _, hin0⟩
            · have hx0' := walkArgs_sound hin0 hp0
              obtain ⟨u0, hu0, hn0, hpu0⟩ := var_site_use_args s site0.defs site0.args _ hx0' r0 ch0 p0 rfl
              have hall0 : u0 ∈ allUses s d := List.mem_flatMap.2 ⟨site0, hsite0, hu0⟩
              obtain ⟨_, hof⟩ := usePosDistinct_apply s d hpos u0 hall0 u hall (by rw [hpu0, hpu]; exact hk0)
              exact oneOf_clause s d hoo op' hop' u0 (hscope0 op' hc0 u0 hu0) _ (hof.trans hou) vd
                (by rw [hn0]; exact hx0.symm)
            · exfalso
              have hx0' := walkValue_sound hin0 hp0
              obtain ⟨u0, hu0, _⟩ := var_site_use_value s dv _ _ none false none _ hx0' r0 ch0 p0 rfl
              exact constDefault_no_uses s d hcd op0 hop0 vd0 hvd0 dv hdv _ _ _ u0 hu0
        · exfalso
          have hx := walkValue_sound hin hp
          have htv : (vd0.type, dv) ∈ Spec.typedValueSites s d :=
            (mem_typedValueSites_iff s d _ _).2 (Or.inr ⟨op, hop, vd0, hvd0, dv, hdv, rfl, rfl⟩)
          obtain ⟨u, hu, _⟩ := marked_site_use_root s d hs hroots hvoc htv false none hx hm
          exact constDefault_no_uses s d hcd op hop vd0 hvd0 dv hdv _ _ _ u hu

end

end Gql.Validate
