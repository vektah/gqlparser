import GqlProofs.ValSpec.Built
/-
  C09, variable links: `Value.VariableDefinition` is the one link that is NOT a function of the static context of
  the node.  The model keeps it in the side table `Links.vlinks` (key `pos.start`, most recent binding first); every
  event carries the table at the time it fires.  `wr e`: what the walker writes just before it fires `e` — for a
  variable use walked while `CurrentOperation = op` the binding `(start, op.VariableDefinitions.ForName(name))`, else
  nothing.  The table threads through a run from the empty one (`Trace`, `walkDoc_trace`), so a use shows `op`'s
  definition at its own event (`trace_own`) and later events show the LAST write for that start (`trace_last`): a
  fragment walked again stand-alone (`CurrentOperation = nil`, nothing is written) shows the definition of the operation
  that walked it last — of several operations spreading it, the last in document order (the recorded C15 finding).
-/
namespace Gql.Validate
open Gql

def wr (e : Event) : VLinks :=
  match e.cur, e.p with
  | some op, .value (.mk .variable raw _ p) _ _ => [(p.start, varForName op.vars raw)]
  | _, _ => []

def Trace : VLinks → List Event → VLinks → Prop
  | l0, [], l1 => l1 = l0
  | l0, e :: es, l1 => e.links.vlinks = wr e ++ l0 ∧ Trace (wr e ++ l0) es l1

theorem Trace.append : ∀ {a b c : VLinks} {es es' : List Event}, Trace a es b → Trace b es' c → Trace a (es ++ es') c
  | _, _, _, [], _, h1, h2 => by
    simp only [Trace] at h1
    subst h1
    exact h2
  | _, _, _, e :: es, _, h1, h2 => by
    simp only [Trace, List.cons_append] at h1 ⊢
    exact ⟨h1.1, Trace.append h1.2 h2⟩

theorem Trace.single {a : VLinks} (e : Event) (hw : wr e = []) (hl : e.links.vlinks = a) : Trace a [e] a := by
  simp only [Trace, hw, List.nil_append]
  exact ⟨hl, trivial⟩

theorem wr_nonvalue (e : Event) (h : ¬ e.p.isValue) : wr e = [] := by
  unfold wr
  split
  · rename_i hp
    rw [hp] at h
    exact absurd trivial h
  · rfl

theorem wr_of_ne {k : ValueKind} (hk : k ≠ .variable) (cur : Option OperationDef) (l : Links) (raw : Bytes)
    (ch : Children) (p : Pos) (exp : Option GType) (dfn : Option Definition) :
    wr ⟨cur, l, .value (.mk k raw ch p) exp dfn⟩ = [] := by
  cases k <;> cases cur <;> first | rfl | exact absurd rfl hk

theorem emit_trace (cur : Option OperationDef) (l : List VSite) (ws : WS) :
    Trace ws.links.vlinks (emit cur ws l).2 (emit cur ws l).1.links.vlinks :=
  emit_rel (R := fun ws r => Trace ws.links.vlinks r.2 r.1.links.vlinks) (fun _ => rfl) Trace.append
    (fun ws x => by
      obtain ⟨exp, dfn, k, raw, ch, p⟩ := x
      by_cases hk : k = .variable
      · subst hk
        cases cur <;> exact ⟨rfl, rfl⟩
      · rw [siteMark_of_ne cur (x := (exp, dfn, .mk k raw ch p)) hk]
        exact Trace.single _ (wr_of_ne hk ..) rfl) l ws

theorem walkObjChildren_trace (sv : SV) (cur : Option OperationDef) (dfn : Option Definition) :
    ∀ (ch : Children) (ws : WS), Trace ws.links.vlinks (walkObjChildren sv cur dfn ch ws).2
      (walkObjChildren sv cur dfn ch ws).1.links.vlinks :=
  fun ch ws => by rw [walkObjChildren_emit]; exact emit_trace cur _ ws

theorem walkListChildren_trace (sv : SV) (cur : Option OperationDef) (exp : Option GType) (dfn : Option Definition) :
    ∀ (ch : Children) (ws : WS), Trace ws.links.vlinks (walkListChildren sv cur exp dfn ch ws).2
      (walkListChildren sv cur exp dfn ch ws).1.links.vlinks :=
  fun ch ws => by rw [walkListChildren_emit]; exact emit_trace cur _ ws

theorem Built.trace {sv : SV} {d : QueryDoc} {a b : VLinks} {es : List Event} (h : Built sv d a es b) : Trace a es b := by
  induction h with
  | nil l => rfl
  | append _ _ ih1 ih2 => exact Trace.append ih1 ih2
  | args cur defs args ws _ _ => rw [walkArgs_emit]; exact emit_trace cur _ ws
  | default op vd dv ws _ _ _ => rw [walkValue_emit]; exact emit_trace _ _ ws
  | vdef op vd l _ _ => exact Trace.single _ rfl rfl
  | ev e hv => exact Trace.single e (wr_nonvalue e hv.notValue) rfl

theorem walkDoc_trace (sv : SV) (d : QueryDoc) (evs : List Event) (h : walkDoc sv d = some evs) :
    ∃ l, Trace [] evs l := by
  obtain ⟨l, hb⟩ := walkDoc_built sv d evs h
  exact ⟨l, hb.trace⟩

def logFrom (l0 : VLinks) (es : List Event) : VLinks := es.foldl (fun acc e => wr e ++ acc) l0

theorem trace_at : ∀ {l0 l1 : VLinks} (pre : List Event) (e : Event) (post : List Event),
    Trace l0 (pre ++ e :: post) l1 → e.links.vlinks = logFrom l0 (pre ++ [e])
  | _, _, [], e, post, h => by
    simp only [List.nil_append, Trace] at h
    simp only [List.nil_append, logFrom, List.foldl_cons, List.foldl_nil]
    exact h.1
  | _, _, e0 :: pre, e, post, h => by
    simp only [List.cons_append, Trace] at h
    have := trace_at pre e post h.2
    simpa only [List.cons_append, logFrom, List.foldl_cons] using this

theorem logFrom_append (l0 : VLinks) (a b : List Event) : logFrom l0 (a ++ b) = logFrom (logFrom l0 a) b := by
  simp [logFrom, List.foldl_append]

def NoWrite (k : Nat) (es : List Event) : Prop := ∀ x ∈ es, ∀ y ∈ wr x, y.1 ≠ k

theorem logFrom_noWrite (k : Nat) : ∀ (es : List Event) (l0 : VLinks), NoWrite k es →
    (logFrom l0 es).lookup k = l0.lookup k
  | [], _, _ => rfl
  | e :: es, l0, h => by
    simp only [logFrom, List.foldl_cons]
    have ih := logFrom_noWrite k es (wr e ++ l0) (fun x hx => h x (List.mem_cons_of_mem _ hx))
    simp only [logFrom] at ih
    rw [ih]
    have he := h e List.mem_cons_self
    -- `wr e` has at most one binding
    unfold wr at he ⊢
    split
    · rename_i op raw ch p exp dfn hc hp
      simp only [hc, hp, List.mem_singleton, forall_eq] at he
      have hk : (k == p.start) = false := by
        simp only [beq_eq_false_iff_ne, ne_eq]
        exact fun h' => he h'.symm
      simp [List.lookup, hk]
    · rfl

theorem trace_own {l0 l1 : VLinks} (pre : List Event) (e : Event) (post : List Event)
    (h : Trace l0 (pre ++ e :: post) l1) (op : OperationDef) (raw : Bytes) (ch : Children) (p : Pos)
    (exp : Option GType) (dfn : Option Definition) (hc : e.cur = some op)
    (hp : e.p = .value (.mk .variable raw ch p) exp dfn) : e.links.varDef p.start = varForName op.vars raw := by
  have := trace_at pre e post h
  rw [logFrom_append] at this
  simp only [logFrom, List.foldl_cons, List.foldl_nil] at this
  have hw : wr e = [(p.start, varForName op.vars raw)] := by
    unfold wr
    rw [hc, hp]
  rw [hw] at this
  unfold Links.varDef
  rw [this]
  simp

theorem trace_last {l0 l1 : VLinks} (pre : List Event) (e : Event) (mid : List Event) (e' : Event) (post : List Event)
    (h : Trace l0 (pre ++ e :: (mid ++ e' :: post)) l1) (op : OperationDef) (raw : Bytes) (ch : Children) (p : Pos)
    (exp : Option GType) (dfn : Option Definition) (hc : e.cur = some op)
    (hp : e.p = .value (.mk .variable raw ch p) exp dfn) (hn : NoWrite p.start (mid ++ [e'])) :
    e'.links.varDef p.start = varForName op.vars raw := by
  have h' : Trace l0 ((pre ++ e :: mid) ++ e' :: post) l1 := by
    simpa only [List.append_assoc, List.cons_append] using h
  have := trace_at (pre ++ e :: mid) e' post h'
  have hsplit : pre ++ e :: mid ++ [e'] = (pre ++ [e]) ++ (mid ++ [e']) := by simp
  rw [hsplit, logFrom_append] at this
  unfold Links.varDef
  rw [this, logFrom_noWrite p.start _ _ hn, logFrom_append]
  simp only [logFrom, List.foldl_cons, List.foldl_nil]
  have hw : wr e = [(p.start, varForName op.vars raw)] := by
    unfold wr
    rw [hc, hp]
  rw [hw]
  simp

theorem trace_none {l1 : VLinks} (pre : List Event) (e' : Event) (post : List Event)
    (h : Trace [] (pre ++ e' :: post) l1) (k : Nat) (hn : NoWrite k (pre ++ [e'])) : e'.links.varDef k = none := by
  have := trace_at pre e' post h
  unfold Links.varDef
  rw [this, logFrom_noWrite k _ _ hn]
  rfl

theorem wr_cases (e : Event) : wr e = [] ∨ ∃ op raw ch p exp dfn, e.cur = some op ∧
    e.p = .value (.mk .variable raw ch p) exp dfn ∧ wr e = [(p.start, varForName op.vars raw)] := by
  unfold wr
  split
  · rename_i op raw ch p exp dfn hc hp
    exact Or.inr ⟨op, raw, ch, p, exp, dfn, hc, hp, rfl⟩
  · exact Or.inl rfl

theorem lastWrite_cases (k : Nat) : ∀ es : List Event, NoWrite k es ∨
    ∃ pre e mid, es = pre ++ e :: mid ∧ NoWrite k mid ∧ ∃ op raw ch p exp dfn, e.cur = some op ∧
      e.p = .value (.mk .variable raw ch p) exp dfn ∧ p.start = k
  | [] => Or.inl (fun x hx => by cases hx)
  | x :: rest => by
    rcases lastWrite_cases k rest with h | ⟨pre, e, mid, he, hn, hx⟩
    · rcases wr_cases x with hw | ⟨op, raw, ch, p, exp, dfn, hc, hp, hw⟩
      · left
        intro y hy
        rcases List.mem_cons.1 hy with rfl | hy
        · rw [hw]; intro z hz; cases hz
        · exact h y hy
      · by_cases hk : p.start = k
        · exact Or.inr ⟨[], x, rest, rfl, h, op, raw, ch, p, exp, dfn, hc, hp, hk⟩
        · left
          intro y hy
          rcases List.mem_cons.1 hy with rfl | hy
          · rw [hw]
            intro z hz
            rw [List.mem_singleton.1 hz]
            exact hk
          · exact h y hy
    · exact Or.inr ⟨x :: pre, e, mid, by rw [he]; rfl, hn, hx⟩

theorem event_varDef {l1 : VLinks} (pre : List Event) (e' : Event) (post : List Event)
    (h : Trace [] (pre ++ e' :: post) l1) (k : Nat) :
    e'.links.varDef k = ((logFrom [] (pre ++ [e'])).lookup k).join := by
  unfold Links.varDef
  rw [trace_at pre e' post h]

theorem logFrom_lastWrite (k : Nat) (vd : Option VarDef) (pre : List Event) (e : Event) (mid : List Event) (l0 : VLinks)
    (hw : wr e = [(k, vd)]) (hn : NoWrite k mid) : (logFrom l0 (pre ++ e :: mid)).lookup k = some vd := by
  have hsplit : pre ++ e :: mid = (pre ++ [e]) ++ mid := by simp
  rw [hsplit, logFrom_append, logFrom_noWrite k _ _ hn, logFrom_append]
  simp only [logFrom, List.foldl_cons, List.foldl_nil, hw]
  simp

end Gql.Validate
