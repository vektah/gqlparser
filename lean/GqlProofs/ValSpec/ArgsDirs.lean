import GqlProofs.ValSpec.EventSets
import GqlProofs.ValSpec.Local
/-
  UniqueArgumentNames and UniqueDirectivesPerLocation against their specification predicates
  (KnownDirectives is in `KnownDirs.lean`).
-/
namespace Gql.Validate
open Gql Gql.Validate.Rules

theorem checkUniqueArgs_distinct (as : List Argument) :
    checkUniqueArgs as [] = [] ↔ Spec.distinct (as.map (·.name)) = true := by
  rw [checkUniqueArgs_nil_iff as [] List.nodup_nil, freshFrom_nil, distinct_iff_nodup]

theorem uniqueArgumentNames_iff (s : Schema) (d : QueryDoc) (evs : List Event) (hw : walkDoc s.view d = some evs) :
    (∀ e ∈ evs, uniqueArgumentNamesStep s.view d e = []) ↔ Spec.argumentUniqueness s d = true := by
  unfold Spec.argumentUniqueness
  simp only [List.all_eq_true]
  constructor
  · intro h site hsite
    rcases mem_argSites_iff.1 hsite with ⟨par, al, nm, args, dirs, sub, p, ht, rfl⟩ | ⟨dir, hdir, rfl⟩
    · obtain ⟨e, he, _, dfn, hp⟩ := field_event_complete s d evs hw _ ht al nm args dirs sub p rfl
      have := h e he
      simp only [uniqueArgumentNamesStep, hp] at this
      exact (checkUniqueArgs_distinct args).1 this
    · obtain ⟨e, he, par, loc, hp⟩ := directive_event_complete' s d evs hw dir hdir
      have := h e he
      simp only [uniqueArgumentNamesStep, hp] at this
      exact (checkUniqueArgs_distinct dir.args).1 this
  · intro h e he
    unfold uniqueArgumentNamesStep
    split
    · rename_i f par dfn hp
      obtain ⟨p, hmem⟩ := field_event_sound s d evs hw e he f par dfn hp
      exact (checkUniqueArgs_distinct f.args).2 (h _ (argSites_field hmem))
    · rename_i dir dfn par loc hp
      exact (checkUniqueArgs_distinct dir.args).2
        (h _ (argSites_directive (directive_event_sound' s d evs hw e he dir dfn par loc hp).2))
    · rfl

def dupFree (q : Name → Bool) : List Directive → List Name → Prop
  | [], _ => True
  | x :: rest, seen => (q x.name = true → x.name ∉ seen) ∧ dupFree q rest (x.name :: seen)

theorem dupFree_iff (q : Name → Bool) : ∀ (ds : List Directive) (seen : List Name),
    dupFree q ds seen ↔
      (((ds.map (·.name)).filter q).Nodup ∧ ∀ n ∈ (ds.map (·.name)).filter q, n ∉ seen)
  | [], seen => by simp [dupFree]
  | x :: rest, seen => by
    simp only [dupFree, dupFree_iff q rest (x.name :: seen), List.map_cons]
    by_cases hq : q x.name = true
    · rw [List.filter_cons_of_pos hq]
      constructor
      · rintro ⟨h0, h1, h2⟩
        refine ⟨List.nodup_cons.2 ⟨fun hm => h2 _ hm List.mem_cons_self, h1⟩, fun n hn hs => ?_⟩
        rcases List.mem_cons.1 hn with rfl | hn
        · exact h0 hq hs
        · exact h2 n hn (List.mem_cons_of_mem _ hs)
      · rintro ⟨h1, h2⟩
        have ⟨ha, hb⟩ := List.nodup_cons.1 h1
        refine ⟨fun _ => h2 _ List.mem_cons_self, hb, fun n hn hm => ?_⟩
        rcases List.mem_cons.1 hm with rfl | hm
        · exact ha hn
        · exact h2 n (List.mem_cons_of_mem _ hn) hm
    · rw [List.filter_cons_of_neg hq]
      constructor
      · rintro ⟨_, h1, h2⟩
        exact ⟨h1, fun n hn hs => (h2 n hn) (List.mem_cons_of_mem _ hs)⟩
      · rintro ⟨h1, h2⟩
        refine ⟨fun hc => absurd hc hq, h1, fun n hn hm => ?_⟩
        rcases List.mem_cons.1 hm with hne | hm
        · have := (List.mem_filter.1 hn).2
          rw [hne] at this
          exact hq this
        · exact h2 n hn hm

theorem filter_map_name (P : Directive → Bool) (q : Name → Bool) :
    ∀ ds : List Directive, (∀ dir ∈ ds, P dir = q dir.name) →
      (ds.filter P).map (·.name) = (ds.map (·.name)).filter q
  | [], _ => rfl
  | x :: rest, h => by
    have hx := h x List.mem_cons_self
    have ih := filter_map_name P q rest (fun dir hd => h dir (List.mem_cons_of_mem _ hd))
    simp only [List.map_cons, List.filter_cons, hx]
    cases q x.name <;> simp [ih]

/-- the rule's selector: not known to be repeatable -/
def notRepeatable (sv : SV) (n : Name) : Bool := !((sv.directive? n).map (·.repeatable)).getD false

theorem dupDirectives_nil_iff (sv : SV) : ∀ (ds : List Directive) (seen : List Name),
    dupDirectives sv ds seen = [] ↔ dupFree (notRepeatable sv) ds seen
  | [], seen => by simp [dupDirectives, dupFree]
  | x :: rest, seen => by
    simp only [dupDirectives, dupFree, List.append_eq_nil_iff, dupDirectives_nil_iff sv rest (x.name :: seen)]
    apply and_congr_left'
    unfold notRepeatable
    by_cases hq : (!((sv.directive? x.name).map (·.repeatable)).getD false) = true
    · by_cases hm : x.name ∈ seen
      · simp [hq, hm]
      · simp [hq, hm]
    · simp [hq]

theorem filter_map_sublist (P : Directive → Bool) (q : Name → Bool) (hPq : ∀ dir, P dir = true → q dir.name = true) :
    ∀ ds : List Directive, List.Sublist ((ds.filter P).map (·.name)) ((ds.map (·.name)).filter q)
  | [] => List.Sublist.slnil
  | x :: rest => by
    have ih := filter_map_sublist P q hPq rest
    by_cases hp : P x = true
    · have hq := hPq x hp
      rw [List.filter_cons_of_pos hp, List.map_cons, List.map_cons, List.filter_cons_of_pos hq]
      exact List.Sublist.cons_cons _ ih
    · rw [List.filter_cons_of_neg hp, List.map_cons]
      by_cases hq : q x.name = true
      · rw [List.filter_cons_of_pos hq]
        exact List.Sublist.cons _ ih
      · rw [List.filter_cons_of_neg hq]
        exact ih

/-- needs no hypothesis on the directives: the rule also counts the undefined ones -/
theorem uniqueDirectivesPerLocation_complete (s : Schema) (d : QueryDoc) (evs : List Event)
    (hw : walkDoc s.view d = some evs)
    (h : ∀ e ∈ evs, uniqueDirectivesPerLocationStep s.view d e = []) :
    Spec.directivesUniquePerLocation s d = true := by
  unfold Spec.directivesUniquePerLocation
  simp only [List.all_eq_true]
  rintro ⟨loc, ds⟩ hsite
  obtain ⟨e, he, hp⟩ := directiveList_event_complete s d evs hw loc ds hsite
  have := h e he
  simp only [uniqueDirectivesPerLocationStep, hp] at this
  rw [dupDirectives_nil_iff, dupFree_iff] at this
  simp only
  rw [distinct_iff_nodup]
  refine List.Nodup.sublist (filter_map_sublist _ (notRepeatable s.view) ?_ ds) this.1
  intro dir hdir
  unfold Spec.definedNotRepeatable at hdir
  cases hdd : s.directive? dir.name with
  | none => rw [hdd] at hdir; cases hdir
  | some dd =>
    rw [hdd] at hdir
    have hview : s.view.directive? dir.name = some dd := hdd
    simp only [notRepeatable, hview, Option.map_some, Option.getD_some]
    exact hdir

theorem uniqueDirectivesPerLocation_iff (s : Schema) (d : QueryDoc) (evs : List Event)
    (hw : walkDoc s.view d = some evs)
    (hdef : Spec.directivesAreDefined s d = true) :
    (∀ e ∈ evs, uniqueDirectivesPerLocationStep s.view d e = []) ↔ Spec.directivesUniquePerLocation s d = true := by
  unfold Spec.directivesUniquePerLocation
  simp only [List.all_eq_true]
  -- on a directive list of the document every directive is defined, so both selectors agree
  have hsel : ∀ loc ds, (loc, ds) ∈ Spec.directiveSites s d →
      (ds.filter (Spec.definedNotRepeatable s)).map (·.name) = (ds.map (·.name)).filter (notRepeatable s.view) := by
    intro loc ds hls
    apply filter_map_name
    intro dir hd
    have hsome : (s.directive? dir.name).isSome = true := by
      unfold Spec.directivesAreDefined at hdef
      simp only [List.all_eq_true] at hdef
      apply hdef
      simp only [Spec.allDirectives, List.mem_flatMap]
      exact ⟨(loc, ds), hls, hd⟩
    obtain ⟨dd, hdd⟩ := Option.isSome_iff_exists.1 hsome
    have hview : s.view.directive? dir.name = some dd := hdd
    simp [Spec.definedNotRepeatable, notRepeatable, hdd, hview]
  refine ⟨fun h => by
    have := uniqueDirectivesPerLocation_complete s d evs hw h
    unfold Spec.directivesUniquePerLocation at this
    simpa only [List.all_eq_true] using this, ?_⟩
  · intro h e he
    unfold uniqueDirectivesPerLocationStep
    split
    · rename_i ds hp
      obtain ⟨loc, hls⟩ := directiveList_event_sound s d evs hw e he ds hp
      rw [dupDirectives_nil_iff, dupFree_iff]
      have := h (loc, ds) hls
      simp only at this
      rw [distinct_iff_nodup, hsel loc ds hls] at this
      exact ⟨this, fun _ _ hm => by cases hm⟩
    · rfl

end Gql.Validate
