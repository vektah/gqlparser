import GqlProofs.Schema.Basic
import GqlProofs.ValSpec.SingleRoot
import GqlModel.Schema.Spec
/-
  SingleFieldSubscriptions (§5.2.3.1): the schema hypothesis `subscriptionRootExact` follows from the loaded-schema
  predicates of `GqlModel/Schema/Spec.lean` — consistent keys, exact `PossibleTypes` on abstract types — and "the root
  operation types are object types" (`Gql.Spec.rootTypesAreObjects`, which the loader enforces:
  `Gql.Load.loaded_rootTypesAreObjects` / `C07_root_types_are_objects`).
-/
namespace Gql.Validate
open Gql Gql.Validate.Rules

theorem mem_iff_of_sameSet {a b : List Name} (h : Gql.Spec.sameSet a b = true) (x : Name) : x ∈ a ↔ x ∈ b := by
  unfold Gql.Spec.sameSet at h
  simp only [Bool.and_eq_true, List.all_eq_true, List.contains_eq_mem, decide_eq_true_eq] at h
  exact ⟨h.1 x, h.2 x⟩

theorem subscriptionRootExact_of_loaded (s : Schema) (hkeys : Gql.Spec.KeysConsistent s)
    (hposs : Gql.Spec.possibleAbstractExact s = true) (hroots : Gql.Spec.rootTypesAreObjects s = true) :
    subscriptionRootExact s = true := by
  obtain ⟨hname, _, hdist, _⟩ := hkeys
  have hnd : (s.types.map Prod.fst).Nodup := Load.nodup_of_pairwiseDistinct hdist
  unfold subscriptionRootExact
  cases hsub : s.subscription with
  | none => rfl
  | some R =>
    simp only
    have hR : Gql.Spec.typeIs s R (· == .object) = true := by
      unfold Gql.Spec.rootTypesAreObjects at hroots
      have := List.all_eq_true.1 hroots s.subscription (by simp)
      rw [hsub] at this
      exact this
    unfold Gql.Spec.typeIs at hR
    have htype : ∀ n, s.type? n = s.types.lookup n := fun _ => rfl
    cases hobj : s.types.lookup R with
    | none => rw [hobj] at hR; cases hR
    | some obj =>
      rw [hobj] at hR
      have hk : obj.kind = .object := by simpa using hR
      have hon : obj.name = R := hname (R, obj) (mem_of_lookup hobj)
      rw [htype, hobj]
      simp only [Bool.and_eq_true, beq_iff_eq, List.all_eq_true]
      refine ⟨⟨hk, hon⟩, ?_⟩
      intro p hp
      cases hft : s.types.lookup p.1 with
      | none => rw [htype, hft]
      | some ft =>
        rw [htype, hft]
        have hmem := mem_of_lookup hft
        have hfn : ft.name = p.1 := hname (p.1, ft) hmem
        simp only [Bool.and_eq_true, beq_iff_eq]
        refine ⟨hfn, ?_⟩
        have hex := List.all_eq_true.1 hposs (p.1, ft) hmem
        cases hkind : ft.kind with
        | interface =>
          simp only [hkind, beq_self_eq_true, Bool.true_or, Bool.not_true, Bool.false_or] at hex
          have hiff := mem_iff_of_sameSet hex R
          have himp : R ∈ Gql.Spec.impliedPossible s p.1 ↔ p.1 ∈ obj.interfaces := by
            unfold Gql.Spec.impliedPossible
            rw [hft]
            simp only [hkind, List.mem_map, List.mem_filter, Bool.and_eq_true, Bool.or_eq_true, beq_iff_eq,
              List.contains_eq_mem, decide_eq_true_eq]
            constructor
            · rintro ⟨q, ⟨hq, _, hqi⟩, hq1⟩
              obtain ⟨qk, qd⟩ := q
              simp only at hq1 hqi
              subst hq1
              have := lookup_of_mem_nodup hnd hq
              rw [hobj] at this
              injection this with this
              subst this
              exact hqi
            · intro hi
              exact ⟨(R, obj), ⟨mem_of_lookup hobj, Or.inl hk, hi⟩, rfl⟩
          simp only [hfn]
          simp only [List.contains_eq_mem, beq_iff_eq, decide_eq_decide]
          exact hiff.trans himp
        | union =>
          simp only [hkind, beq_self_eq_true, Bool.or_true, Bool.not_true, Bool.false_or] at hex
          have hiff := mem_iff_of_sameSet hex R
          have himp : R ∈ Gql.Spec.impliedPossible s p.1 ↔ R ∈ ft.types := by
            unfold Gql.Spec.impliedPossible
            rw [hft]
            simp only [hkind]
          simp only [hfn, hon]
          simp only [List.contains_eq_mem, beq_iff_eq, decide_eq_decide]
          exact hiff.trans himp
        | object => rfl
        | scalar => rfl
        | enum => rfl
        | inputObject => rfl

theorem subscriptionRootExact_of_closed (s : Schema) (hc : Gql.Spec.Closed s) (hr : Gql.Spec.RelationsExact s)
    (hroots : Gql.Spec.rootTypesAreObjects s = true) : subscriptionRootExact s = true :=
  subscriptionRootExact_of_loaded s hc.keys hr.possibleAbstractExact hroots

end Gql.Validate
