import GqlProofs.ValSpec.Built
import GqlProofs.ValSpec.Reach
import GqlProofs.ValSpec.ValueLinks
/-
  C09, value links of a whole run.  `SpecValOcc s d o`: `o` is a node of a value written in the document, with the expected
  type and definition the specification computes for it (`argOccs` over the sites of `Spec.argSites`, `valOccs` over the
  variable defaults; the top node of a default is listed with `typed = true`, `Spec.opLinks` does not demand its links).
  `WValOcc` is the same over the argument lists as the WALKER types them (`ArgCall`).  The value events of a run are exactly
  the `WValOcc` occurrences and carry the links wherever they are demanded (`walkDoc_values_soundW`, from `walkDoc_built`;
  `walkDoc_values_completeW`, from `walkDoc_reach`); for a well-parented document with the parser's operation kinds `WValOcc`
  and `SpecValOcc` coincide (`wValOcc_iff`).
-/
namespace Gql.Validate
open Gql

/-- a value occurrence under the WALKER's typing of the selection nodes -/
def WValOcc (s : Schema) (d : QueryDoc) (o : ValOcc) : Prop :=
  (∃ defs args, ArgCall s.view d defs args ∧ o ∈ argOccs s defs args) ∨
  (∃ op ∈ d.ops, ∃ vd ∈ op.vars, ∃ dv, vd.default = some dv ∧
    o ∈ valOccs s true (some vd.type) (s.type? vd.type.name) dv)

/-- a value occurrence under the specification's typing -/
def SpecValOcc (s : Schema) (d : QueryDoc) (o : ValOcc) : Prop :=
  (∃ site ∈ Spec.argSites s d, o ∈ argOccs s site.defs site.args) ∨
  (∃ op ∈ d.ops, ∃ vd ∈ op.vars, ∃ dv, vd.default = some dv ∧
    o ∈ valOccs s true (some vd.type) (s.type? vd.type.name) dv)

theorem Built.value_sound {s : Schema} {d : QueryDoc} {a b : VLinks} {es : List Event} (h : Built s.view d a es b) :
    ∀ e ∈ es, e.p.isValue → CurOK d e.cur ∧ ∃ o, WValOcc s d o ∧ EvOcc e.cur e o := by
  induction h with
  | nil l => intro e he; cases he
  | append _ _ ih1 ih2 =>
    intro e he hv
    rcases List.mem_append.1 he with he | he
    · exact ih1 e he hv
    · exact ih2 e he hv
  | args cur defs args ws hc hcall =>
    intro e he _
    obtain ⟨o, ho, heo⟩ := walkArgs_occ_sound s cur defs args ws e he
    have hcur : e.cur = cur := heo.1
    rw [hcur]
    exact ⟨hc, o, Or.inl ⟨defs, args, hcall, ho⟩, heo⟩
  | default op vd dv ws hop hvd hdv =>
    intro e he _
    obtain ⟨o, ho, heo⟩ := walkValue_occ_sound s (some op) dv true _ _ _ _ ws (Agree.rfl' _ _ _) e he
    have hcur : e.cur = some op := heo.1
    rw [hcur]
    refine ⟨fun o' ho' => ?_, o, Or.inr ⟨op, hop, vd, hvd, dv, hdv, ho⟩, heo⟩
    injection ho' with ho'
    subst ho'
    exact hop
  | vdef op vd l _ _ =>
    intro e' he' hv'
    rw [List.mem_singleton.1 he'] at hv'
    exact absurd hv' (fun h => h)
  | ev e hv =>
    intro e' he' hv'
    rw [List.mem_singleton.1 he'] at hv'
    exact absurd hv' hv.notValue

theorem walkDoc_values_soundW (s : Schema) (d : QueryDoc) (evs : List Event) (hw : walkDoc s.view d = some evs) :
    ∀ e ∈ evs, e.p.isValue → CurOK d e.cur ∧ ∃ o, WValOcc s d o ∧ EvOcc e.cur e o := by
  obtain ⟨l, hb⟩ := walkDoc_built s.view d evs hw
  exact hb.value_sound

theorem nodeDone_dirs {sv : SV} {cur : Option OperationDef} {es : List Event} {p' : Option Definition} :
    ∀ {y : Selection}, NodeDone sv cur es p' y → HasDirArgs sv cur es (Spec.selDirs y)
  | .field .., h => h.2
  | .inline .., h => h
  | .spread .., h => h

theorem walkDoc_argCall_done (sv : SV) (d : QueryDoc) (evs : List Event) (hw : walkDoc sv d = some evs)
    (defs : Option (List ArgDef)) (args : List Argument) (h : ArgCall sv d defs args) :
    ∃ cur, HasArgs sv cur evs defs args := by
  obtain ⟨hops, hfrags⟩ := walkDoc_reach sv d evs hw
  cases h with
  | field p' al nm args dirs sub pos hin =>
    rcases hin with ⟨op, hop, hi⟩ | ⟨f, hf, hi⟩
    · exact ⟨some op, ((hops op hop).nodes _ _ hi).1⟩
    · exact ⟨none, ((hfrags f hf).2 _ _ hi).1⟩
  | directive loc ds dir hin hd =>
    rcases hin with ⟨op, hop, hi | hi | ⟨v, hv, hi⟩⟩ | ⟨f, hf, hi | hi⟩
    · obtain ⟨y, hy, _, rfl⟩ := inSels_dirs_inv _ _ _ hi
      obtain ⟨p', hp'⟩ := inSels_lift sv op.sel (opRoot sv op.op).1 y hy
      exact ⟨some op, nodeDone_dirs ((hops op hop).nodes _ _ hp') dir hd⟩
    · injection hi with _ h2
      subst h2
      exact ⟨some op, (hops op hop).dirs dir hd⟩
    · injection hi with _ h2
      subst h2
      exact ⟨some op, (hops op hop).varDirs v hv dir hd⟩
    · obtain ⟨y, hy, _, rfl⟩ := inSels_dirs_inv _ _ _ hi
      obtain ⟨p', hp'⟩ := inSels_lift sv f.sel (sv.type? f.typeCond) y hy
      exact ⟨none, nodeDone_dirs ((hfrags f hf).2 _ _ hp') dir hd⟩
    · injection hi with _ h2
      subst h2
      exact ⟨none, (hfrags f hf).1 dir hd⟩

theorem walkDoc_values_completeW (s : Schema) (d : QueryDoc) (evs : List Event) (hw : walkDoc s.view d = some evs) :
    ∀ o, WValOcc s d o → ∃ e ∈ evs, EvOcc e.cur e o := by
  intro o ho
  rcases ho with ⟨defs, args, hcall, ho⟩ | ⟨op, hop, vd, hvd, dv, hdv, ho⟩
  · obtain ⟨cur, ws, hsub⟩ := walkDoc_argCall_done s.view d evs hw defs args hcall
    obtain ⟨e, he, heo⟩ := walkArgs_occ_complete s cur defs args ws o ho
    have hcur : e.cur = cur := heo.1
    exact ⟨e, hsub e he, by rw [hcur]; exact heo⟩
  · obtain ⟨ws, hsub⟩ := ((walkDoc_reach s.view d evs hw).1 op hop).defaults vd hvd dv hdv
    obtain ⟨e, he, heo⟩ := walkValue_occ_complete s (some op) dv true _ _ _ _ ws (Agree.rfl' _ _ _) o ho
    have hcur : e.cur = some op := heo.1
    exact ⟨e, hsub e he, by rw [hcur]; exact heo⟩

theorem argCall_iff (s : Schema) (d : QueryDoc) (hwp : Spec.wellParented s d = true)
    (defs : Option (List ArgDef)) (args : List Argument) :
    ArgCall s.view d defs args ↔ ∃ site ∈ Spec.argSites s d, site.defs = defs ∧ site.args = args := by
  have hwp' := wellParented_docSels hwp
  constructor
  · intro h
    cases h with
    | field p' al nm args dirs sub pos hin =>
      have hmem := (inDocW_iff s d hwp _ _).1 hin
      exact ⟨_, argSites_field hmem, by rw [wFieldDef_eq p' al nm args dirs sub pos (hwp' _ hmem)], rfl⟩
    | directive loc ds dir hin hd =>
      obtain ⟨loc', hls⟩ := (directiveSites_dirs_iff s d ds).2 ⟨loc, hin⟩
      exact ⟨_, argSites_directive (mem_allDirectives hls hd), rfl, rfl⟩
  · rintro ⟨site, hsite, rfl, rfl⟩
    rcases mem_argSites_iff.1 hsite with ⟨par, al, nm, args, dirs, sub, p, ht, rfl⟩ | ⟨dir, hdir, rfl⟩
    · have := ArgCall.field (sv := s.view) (d := d) par al nm args dirs sub p ((inDocW_iff s d hwp _ _).2 ht)
      rw [wFieldDef_eq par al nm args dirs sub p (hwp' _ ht)] at this
      exact this
    · obtain ⟨⟨loc, ds⟩, hls, hd⟩ := List.mem_flatMap.1 hdir
      obtain ⟨loc', hin⟩ := (directiveSites_dirs_iff s d ds).1 ⟨loc, hls⟩
      exact ArgCall.directive loc' ds dir hin hd

theorem wValOcc_iff (s : Schema) (d : QueryDoc) (hwp : Spec.wellParented s d = true) (o : ValOcc) : WValOcc s d o ↔ SpecValOcc s d o := by
  unfold WValOcc SpecValOcc
  constructor
  · rintro (⟨defs, args, hc, ho⟩ | h)
    · obtain ⟨site, hs, rfl, rfl⟩ := (argCall_iff s d hwp defs args).1 hc
      exact Or.inl ⟨site, hs, ho⟩
    · exact Or.inr h
  · rintro (⟨site, hs, ho⟩ | h)
    · exact Or.inl ⟨site.defs, site.args, (argCall_iff s d hwp _ _).2 ⟨site, hs, rfl, rfl⟩, ho⟩
    · exact Or.inr h

end Gql.Validate
