import GqlProofs.ValSpec.Coverage
/-
  Completeness of the walk: every field node and every directive list of the document gets its
  events (`walkDoc_hasItems`); a spread that enters its fragment walks the directives of the
  fragment DEFINITION on behalf of the current operation (`walkSelection_spread_defDirs`).
-/
namespace Gql.Validate
open Gql

def HasDirs (s : SV) (loc : Bytes) (ds : List Directive) (evs : List Event) : Prop :=
  (∃ e ∈ evs, e.p = .directiveList ds) ∧
  ∀ dir ∈ ds, ∃ e ∈ evs, ∃ par, e.p = .directive dir (s.directive? dir.name) par loc

def HasItem (s : SV) (evs : List Event) : Item → Prop
  | .sel (.field al nm args dirs sub p) => ∃ e ∈ evs, ∃ par dfn, e.p = .field ⟨al, nm, args, dirs, sub, p⟩ par dfn
  | .sel _ => True
  | .dirs loc ds => HasDirs s loc ds evs

def HasDirsCur (s : SV) (cur : Option OperationDef) (parent : Option Definition) (loc : Bytes)
    (ds : List Directive) (evs : List Event) : Prop :=
  (∃ e ∈ evs, e.cur = cur ∧ e.p = .directiveList ds) ∧
  ∀ dir ∈ ds, ∃ e ∈ evs, e.cur = cur ∧ e.p = .directive dir (s.directive? dir.name) parent loc

theorem HasDirs.mono {s : SV} {loc : Bytes} {ds : List Directive} {a b : List Event} (hs : ∀ e ∈ a, e ∈ b)
    (h : HasDirs s loc ds a) : HasDirs s loc ds b := by
  obtain ⟨⟨e, he, hp⟩, h2⟩ := h
  refine ⟨⟨e, hs e he, hp⟩, fun dir hd => ?_⟩
  obtain ⟨e, he, x⟩ := h2 dir hd
  exact ⟨e, hs e he, x⟩

theorem HasDirsCur.mono {s : SV} {cur : Option OperationDef} {parent : Option Definition} {loc : Bytes}
    {ds : List Directive} {a b : List Event} (hs : ∀ e ∈ a, e ∈ b) (h : HasDirsCur s cur parent loc ds a) :
    HasDirsCur s cur parent loc ds b := by
  obtain ⟨⟨e, he, x⟩, h2⟩ := h
  refine ⟨⟨e, hs e he, x⟩, fun dir hd => ?_⟩
  obtain ⟨e, he, x⟩ := h2 dir hd
  exact ⟨e, hs e he, x⟩

theorem HasDirsCur.toHasDirs {s : SV} {cur : Option OperationDef} {parent : Option Definition} {loc : Bytes}
    {ds : List Directive} {evs : List Event} (h : HasDirsCur s cur parent loc ds evs) : HasDirs s loc ds evs := by
  obtain ⟨⟨e, he, _, hp⟩, h2⟩ := h
  refine ⟨⟨e, he, hp⟩, fun dir hd => ?_⟩
  obtain ⟨e, he, _, hp⟩ := h2 dir hd
  exact ⟨e, he, parent, hp⟩

theorem HasItem.mono {s : SV} {a b : List Event} (hs : ∀ e ∈ a, e ∈ b) : ∀ {i : Item}, HasItem s a i → HasItem s b i
  | .sel (.field ..), ⟨e, he, x⟩ => ⟨e, hs e he, x⟩
  | .sel (.spread ..), _ => trivial
  | .sel (.inline ..), _ => trivial
  | .dirs _ _, h => HasDirs.mono hs h

theorem walkDirectiveItems_complete_cur (s : SV) (cur : Option OperationDef) (parent : Option Definition) (loc : Bytes) :
    ∀ (ds : List Directive) (ws : WS), ∀ dir ∈ ds, ∃ e ∈ (walkDirectiveItems s cur parent loc ds ws).2,
      e.cur = cur ∧ e.p = .directive dir (s.directive? dir.name) parent loc
  | [], _, dir, h => by cases h
  | d0 :: rest, ws, dir, h => by
    simp only [walkDirectiveItems]
    rcases List.mem_cons.1 h with rfl | h
    · exact ⟨_, List.mem_append_right _ List.mem_cons_self, rfl, rfl⟩
    · obtain ⟨e, he, x⟩ := walkDirectiveItems_complete_cur s cur parent loc rest _ dir h
      exact ⟨e, List.mem_append_right _ (List.mem_cons_of_mem _ he), x⟩

theorem walkDirectives_complete_cur (s : SV) (cur : Option OperationDef) (parent : Option Definition)
    (ds : List Directive) (loc : Bytes) (ws : WS) :
    HasDirsCur s cur parent loc ds (walkDirectives s cur parent ds loc ws).2 := by
  simp only [walkDirectives]
  refine ⟨⟨_, List.mem_append_right _ (List.mem_singleton.2 rfl), rfl, rfl⟩, fun dir hd => ?_⟩
  obtain ⟨e, he, x⟩ := walkDirectiveItems_complete_cur s cur parent loc ds ws dir hd
  exact ⟨e, List.mem_append_left _ he, x⟩

theorem walkDirectives_complete (s : SV) (cur : Option OperationDef) (parent : Option Definition)
    (ds : List Directive) (loc : Bytes) (ws : WS) : HasDirs s loc ds (walkDirectives s cur parent ds loc ws).2 :=
  (walkDirectives_complete_cur s cur parent ds loc ws).toHasDirs

theorem walkSel_hasItems_cases (s : SV) (d : QueryDoc) (cur : Option OperationDef) (J : Jump) :
    WalkCases s d cur J (fun _ x _ r => ∀ i, InSel x i → HasItem s r.2 i) (fun _ xs _ r => ∀ i, InSels xs i → HasItem s r.2 i) where
  field := fun _ _ _ _ dirs _ _ _ _ _ ih i hi => by
    cases hi with
    | self => exact ⟨_, List.mem_append_right _ (List.mem_singleton.2 rfl), _, _, rfl⟩
    | fieldDirs =>
      exact HasDirs.mono (sub_left (sub_mid _ _) _)
        (walkDirectives_complete s cur _ dirs _ _)
    | fieldSub _ _ _ _ _ _ _ hs =>
      exact (ih i hs).mono (sub_mid _ _)
  inline := fun _ _ dirs _ _ _ _ _ ih i hi => by
    cases hi with
    | self => trivial
    | inlineDirs =>
      exact HasDirs.mono (sub_left (sub_inl _) _) (walkDirectives_complete s cur _ dirs _ _)
    | inlineSub _ _ _ _ _ hs => exact (ih i hs).mono (sub_mid _ _)
  spreadStop := fun _ _ dirs _ _ _ i hi => by
    cases hi with
    | self => trivial
    | spreadDirs => exact HasDirs.mono (sub_inl _) (walkDirectives_complete s cur _ dirs _ _)
  spreadJump := fun _ _ dirs _ _ _ _ _ _ _ i hi => by
    cases hi with
    | self => trivial
    | spreadDirs =>
      exact HasDirs.mono (sub_left (sub_left (sub_inl _) _) _)
        (walkDirectives_complete s cur _ dirs _ _)
  nil := fun _ _ i hi => by cases hi
  cons := fun _ _ _ _ _ _ _ _ ih1 ih2 i hi => by
    cases hi with
    | head _ _ _ hx => exact (ih1 i hx).mono (sub_inl _)
    | tail _ _ _ hx => exact (ih2 i hx).mono (sub_inr _)

theorem walkSelection_hasItems (s : SV) (d : QueryDoc) (cur : Option OperationDef) (J : Jump) :
    ∀ (x : Selection) (parent : Option Definition) (ws : WS) r, walkSelection s d cur J parent x ws = some r →
      ∀ i, InSel x i → HasItem s r.2 i :=
  walkSelection_induct (walkSel_hasItems_cases s d cur J)

theorem walkVarDefsB_complete (s : SV) (cur : Option OperationDef) :
    ∀ (vs : List VarDef) (ws : WS), ∀ v ∈ vs, HasDirs s locVariableDefinition v.dirs (walkVarDefsB s cur vs ws).2
  | [], _, v, h => by cases h
  | v0 :: rest, ws, v, h => by
    simp only [walkVarDefsB]
    rcases List.mem_cons.1 h with rfl | h
    · exact HasDirs.mono (sub_mid _ _) (walkDirectives_complete s cur _ v.dirs _ _)
    · exact HasDirs.mono (sub_inr _) (walkVarDefsB_complete s cur rest _ v h)

theorem walkDoc_hasItems (s : SV) (d : QueryDoc) (evs : List Event) (h : walkDoc s d = some evs) :
    ∀ i, InDoc s d i → HasItem s evs i := by
  rintro i (⟨op, hop, hi⟩ | ⟨f, hf, hi⟩)
  · obtain ⟨l, r, hr, hsub⟩ := walkDoc_op_events h hop
    obtain ⟨r4, h4, rfl⟩ := walkOperation_inv hr
    refine HasItem.mono hsub ?_
    rcases hi with hi | rfl | ⟨v, hv, rfl⟩
    · exact (walkLevel_induct (fun J _ => walkSel_hasItems_cases s d _ J) _ _ _ _ r4 h4 i hi).mono
        (sub_mid _ _)
    · exact HasDirs.mono (sub_left (sub_mid _ _) _)
        (walkDirectives_complete s _ _ op.dirs _ _)
    · exact HasDirs.mono (sub_left (sub_left (sub_mid _ _) _) _)
        (walkVarDefsB_complete s _ op.vars _ v hv)
  · obtain ⟨l, r, hr, hsub⟩ := walkDoc_frag_events h hf
    obtain ⟨r2, h2, rfl⟩ := walkFragment_inv hr
    refine HasItem.mono hsub ?_
    rcases hi with hi | rfl
    · exact (walkLevel_induct (fun J _ => walkSel_hasItems_cases s d _ J) _ _ _ _ r2 h2 i hi).mono
        (sub_mid _ _)
    · exact HasDirs.mono (sub_left (sub_inl _) _)
        (walkDirectives_complete s _ _ f.dirs _ _)

theorem walkSelection_spread_defDirs (s : SV) (d : QueryDoc) (cur : Option OperationDef) (J : Jump)
    (parent : Option Definition) (nm : Name) (dirs : List Directive) (p : Pos) (ws : WS) (r : WS × List Event)
    (f : FragmentDef) (h : walkSelection s d cur J parent (.spread nm dirs p) ws = some r)
    (hf : fragForName d nm = some f) (hv : ws.visited.contains f.name = false) :
    HasDirsCur s cur (s.type? f.typeCond) locFragmentDefinition f.dirs r.2 := by
  unfold walkSelection at h
  simp only at h
  rw [hf] at h
  simp only [walkDirectives_visited, markSel_visited, hv, Bool.false_eq_true, if_false] at h
  split at h
  · cases h
  · rename_i r3 h3
    injection h with h
    subst h
    exact HasDirsCur.mono (sub_left (sub_mid _ _) _)
      (walkDirectives_complete_cur s cur (s.type? f.typeCond) f.dirs locFragmentDefinition _)

end Gql.Validate
