import GqlProofs.ValSpec.Present
/-
  C09, "contents of custom-scalar literals excepted" (`untyped_only_in_custom`): for a document in which every
  argument has a definition (`SiteOK`: KnownArgumentNames) and that satisfies ValuesOfCorrectType
  (`Spec.valuesOfCorrectType`), a value node whose expected type / definition the specification does NOT demand
  lies inside a list or object literal written where the definition in scope takes any literal
  (`Spec.structuredAtNamed`: a custom scalar; also any definition that is not an input type) — or where that
  definition does not exist, which `specValOcc_present` excludes on a closed schema.
-/
namespace Gql.Validate
open Gql

def CustomLit (r : ValOcc) : Prop :=
  r.typed = true ∧ ∀ dd, r.dfn = some dd → Spec.structuredAtNamed dd = true

mutual
  theorem valueOk_untyped (s : Schema) :
      ∀ (v : Value) (t : GType), Spec.valueOk s t v = true →
        ∀ o ∈ valOccs s true (some t) (s.type? t.name) v, o.typed = false →
          ∃ r ∈ valOccs s true (some t) (s.type? t.name) v, CustomLit r ∧ o ∈ valOccs s r.typed r.exp r.dfn r.v
    | .mk k raw ch p, t, hok, o, ho, hot => by
      -- the literal itself as the enclosing custom literal
      have top : (∀ dd, s.type? t.name = some dd → Spec.structuredAtNamed dd = true) →
          ∃ r ∈ valOccs s true (some t) (s.type? t.name) (.mk k raw ch p), CustomLit r ∧
            o ∈ valOccs s r.typed r.exp r.dfn r.v :=
        fun h => ⟨⟨.mk k raw ch p, true, some t, s.type? t.name⟩, by simp only [valOccs]; exact List.mem_cons_self,
          ⟨rfl, h⟩, ho⟩
      have ho' := ho
      simp only [valOccs, List.mem_cons] at ho'
      rcases ho' with rfl | ho'
      · cases hot
      · cases k with
        | list =>
          cases t with
          | named n nn q =>
            apply top
            intro dd hdd
            simp only [Spec.valueOk] at hok
            have hdd' : s.type? n = some dd := hdd
            rw [hdd'] at hok
            exact hok
          | list e nn q =>
            simp only [Spec.valueOk] at hok
            simp only at ho'
            obtain ⟨r, hr, hc, hin⟩ := itemsOk_untyped s ch e (s.type? (GType.list e nn q).name) rfl hok o ho' hot
            exact ⟨r, by simp only [valOccs, List.mem_cons]; exact Or.inr hr, hc, hin⟩
        | object =>
          simp only [Spec.valueOk] at hok
          simp only at ho'
          cases hd : s.type? t.name with
          | none =>
            rw [hd] at top
            apply top
            intro dd hdd
            cases hdd
          | some d =>
            rw [hd] at hok ho' top
            simp only at hok
            by_cases hk : (d.kind == .inputObject) = true
            · simp only [hk, if_true, Bool.and_eq_true] at hok
              obtain ⟨r, hr, hc, hin⟩ := fieldsOk_untyped s ch d hk hok.1.1 o ho' hot
              exact ⟨r, by simp only [valOccs, List.mem_cons]; exact Or.inr hr, hc, hin⟩
            · simp only [hk, if_false, Bool.false_eq_true] at hok
              apply top
              intro dd hdd
              injection hdd with hdd
              subst hdd
              exact hok
        | _ => simp at ho'
  theorem itemsOk_untyped (s : Schema) :
      ∀ (ch : Children) (e : GType) (dfn : Option Definition), dfn = s.type? e.name → Spec.itemsOk s e ch = true →
        ∀ o ∈ itemOccs s true (some e) dfn ch, o.typed = false →
          ∃ r ∈ itemOccs s true (some e) dfn ch, CustomLit r ∧ o ∈ valOccs s r.typed r.exp r.dfn r.v
    | .nil, _, _, _, _, o, ho, _ => by simp [itemOccs] at ho
    | .cons n v p rest, e, dfn, hdfn, hok, o, ho, hot => by
      simp only [Spec.itemsOk, Bool.and_eq_true] at hok
      simp only [itemOccs, List.mem_append] at ho
      rcases ho with ho | ho
      · subst hdfn
        obtain ⟨r, hr, hc, hin⟩ := valueOk_untyped s v e hok.1 o ho hot
        exact ⟨r, by simp only [itemOccs, List.mem_append]; exact Or.inl hr, hc, hin⟩
      · obtain ⟨r, hr, hc, hin⟩ := itemsOk_untyped s rest e dfn hdfn hok.2 o ho hot
        exact ⟨r, by simp only [itemOccs, List.mem_append]; exact Or.inr hr, hc, hin⟩
  theorem fieldsOk_untyped (s : Schema) :
      ∀ (ch : Children) (d : Definition), (d.kind == .inputObject) = true → Spec.fieldsOk s d ch = true →
        ∀ o ∈ fieldOccs s (some d) ch, o.typed = false →
          ∃ r ∈ fieldOccs s (some d) ch, CustomLit r ∧ o ∈ valOccs s r.typed r.exp r.dfn r.v
    | .nil, _, _, _, o, ho, _ => by simp [fieldOccs] at ho
    | .cons n v p rest, d, hk, hok, o, ho, hot => by
      simp only [Spec.fieldsOk, Bool.and_eq_true] at hok
      simp only [fieldOccs, List.mem_append, Option.bind_some, hk, if_true] at ho
      rcases ho with ho | ho
      · cases hfd : Spec.inputFieldByName d n with
        | none => rw [hfd] at hok; exact absurd hok.1 (by simp)
        | some fd =>
          rw [hfd] at hok ho
          obtain ⟨r, hr, hc, hin⟩ := valueOk_untyped s v fd.type hok.1 o ho hot
          exact ⟨r, by simp only [fieldOccs, List.mem_append, Option.bind_some, hk, if_true, hfd]; exact Or.inl hr, hc, hin⟩
      · obtain ⟨r, hr, hc, hin⟩ := fieldsOk_untyped s rest d hk hok.2 o ho hot
        exact ⟨r, by simp only [fieldOccs, List.mem_append]; exact Or.inr hr, hc, hin⟩
end

theorem untyped_only_in_custom (s : Schema) (d : QueryDoc) (hsites : ∀ site ∈ Spec.argSites s d, SiteOK s site)
    (hValuesOfCorrectType : Spec.valuesOfCorrectType s d = true) :
    ∀ o, SpecValOcc s d o → o.typed = false →
      ∃ r, SpecValOcc s d r ∧ CustomLit r ∧ o ∈ valOccs s r.typed r.exp r.dfn r.v := by
  unfold Spec.valuesOfCorrectType Spec.typedValueSites at hValuesOfCorrectType
  simp only [List.all_eq_true, List.mem_append, List.mem_flatMap, List.mem_filterMap] at hValuesOfCorrectType
  intro o ho hot
  rcases ho with ⟨site, hsite, ho⟩ | ⟨op, hop, vd, hvd, dv, hdv, ho⟩
  · obtain ⟨defs, hd, hall⟩ := hsites site hsite
    simp only [argOccs, List.mem_flatMap] at ho
    obtain ⟨a, ha, ho⟩ := ho
    obtain ⟨ad, had, _⟩ := hall a ha
    have hok : Spec.valueOk s ad.type a.value = true :=
      hValuesOfCorrectType (ad.type, a.value) (Or.inl ⟨site, hsite, by
        rw [hd]
        simp only [List.mem_filterMap]
        exact ⟨a, ha, by rw [had]; rfl⟩⟩)
    rw [hd] at ho
    simp only [Option.bind_some, had] at ho
    obtain ⟨r, hr, hc, hin⟩ := valueOk_untyped s a.value ad.type hok o ho hot
    refine ⟨r, Or.inl ⟨site, hsite, ?_⟩, hc, hin⟩
    simp only [argOccs, List.mem_flatMap]
    exact ⟨a, ha, by rw [hd]; simp only [Option.bind_some, had]; exact hr⟩
  · have hok : Spec.valueOk s vd.type dv = true :=
      hValuesOfCorrectType (vd.type, dv) (Or.inr ⟨op, hop, vd, hvd, by rw [hdv]; rfl⟩)
    obtain ⟨r, hr, hc, hin⟩ := valueOk_untyped s dv vd.type hok o ho hot
    exact ⟨r, Or.inr ⟨op, hop, vd, hvd, dv, hdv, hr⟩, hc, hin⟩

end Gql.Validate
