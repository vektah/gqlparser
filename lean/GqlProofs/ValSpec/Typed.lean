import GqlProofs.ValSpec.Events
/-
  Towards `walk_parent_type` (`TypedBridge.lean`): the parent definition the walker hands to a
  selection node is the one obtained by following the WALKER's own typing (`wFieldDef` / `wNext` /
  `wInline`) from the root type of the operation or the type condition of the fragment definition
  that contains the node — soundness and completeness, for every document.  (`TypedBridge.lean`:
  under `Spec.wellParented` the walker's typing is the declarative typing `Spec.typedSels`.)
-/
namespace Gql.Validate
open Gql

mutual
  /-- `InSelW sv p x p' y`: walking `x` with parent `p` reaches the node `y` with parent `p'` -/
  inductive InSelW (sv : SV) : Option Definition → Selection → Option Definition → Selection → Prop
    | self (p : Option Definition) (x : Selection) : InSelW sv p x p x
    | fieldSub (p : Option Definition) (al nm : Name) (args : List Argument) (dirs : List Directive)
        (sub : Selections) (pos : Pos) (p' : Option Definition) (y : Selection) :
        InSelsW sv (wNext sv p nm) sub p' y → InSelW sv p (.field al nm args dirs sub pos) p' y
    | inlineSub (p : Option Definition) (tc : Name) (dirs : List Directive) (sub : Selections) (pos : Pos)
        (p' : Option Definition) (y : Selection) :
        InSelsW sv (wInline sv p tc) sub p' y → InSelW sv p (.inline tc dirs sub pos) p' y
  inductive InSelsW (sv : SV) : Option Definition → Selections → Option Definition → Selection → Prop
    | head (p : Option Definition) (x : Selection) (rest : Selections) (p' : Option Definition) (y : Selection) :
        InSelW sv p x p' y → InSelsW sv p (.cons x rest) p' y
    | tail (p : Option Definition) (x : Selection) (rest : Selections) (p' : Option Definition) (y : Selection) :
        InSelsW sv p rest p' y → InSelsW sv p (.cons x rest) p' y
end

def InDocW (sv : SV) (d : QueryDoc) (p' : Option Definition) (y : Selection) : Prop :=
  (∃ op ∈ d.ops, InSelsW sv (opRoot sv op.op).1 op.sel p' y) ∨
  (∃ f ∈ d.frags, InSelsW sv (sv.type? f.typeCond) f.sel p' y)

def TSound (sv : SV) (d : QueryDoc) : Payload → Prop
  | .field f parent dfn =>
    InDocW sv d parent (.field f.alias f.name f.args f.dirs f.sel f.pos) ∧ dfn = wFieldDef parent f.name
  | .inlineFragment f parent => InDocW sv d parent (.inline f.typeCond f.dirs f.sel f.pos)
  | .fragmentSpread f _ parent => InDocW sv d parent (.spread f.name f.dirs f.pos)
  | _ => True

theorem tSound_valSites (sv : SV) (d : QueryDoc) : ValSites sv (TSound sv d) :=
  { value := fun _ _ _ => trivial, directive := fun _ _ _ => trivial, directiveList := fun _ => trivial }

def JumpW (sv : SV) (d : QueryDoc) (J : Jump) : Prop :=
  ∀ parent sels (ws : WS) r, (∀ p' y, InSelsW sv parent sels p' y → InDocW sv d p' y) → J parent sels ws = some r →
    AllP (TSound sv d) r.2

theorem walkSel_w_cases (s : SV) (d : QueryDoc) (cur : Option OperationDef) (J : Jump) (hJ : JumpW s d J) :
    WalkCases s d cur J
      (fun parent x _ r => (∀ p' y, InSelW s parent x p' y → InDocW s d p' y) → AllP (TSound s d) r.2)
      (fun parent xs _ r => (∀ p' y, InSelsW s parent xs p' y → InDocW s d p' y) → AllP (TSound s d) r.2) where
  field := fun parent al nm args dirs sub p _ _ _ ih hx =>
    AllP.append (AllP.append (AllP.append (walkArgs_all (tSound_valSites s d).value cur _ args _)
      (walkDirectives_all (tSound_valSites s d) cur _ dirs _ _))
      (ih fun p' y hi => hx p' y (InSelW.fieldSub parent al nm args dirs sub p p' y hi)))
      (AllP.single ⟨hx _ _ (InSelW.self _ _), rfl⟩)
  inline := fun parent tc dirs sub p _ _ _ ih hx =>
    AllP.append (AllP.append (walkDirectives_all (tSound_valSites s d) cur _ dirs _ _)
      (ih fun p' y hi => hx p' y (InSelW.inlineSub parent tc dirs sub p p' y hi)))
      (AllP.single (hx _ _ (InSelW.self _ _)))
  spreadStop := fun _ _ dirs _ _ _ hx =>
    AllP.append (walkDirectives_all (tSound_valSites s d) cur _ dirs _ _) (AllP.single (hx _ _ (InSelW.self _ _)))
  spreadJump := fun _ _ dirs _ _ f r3 hf _ h3 hx =>
    AllP.append (AllP.append (AllP.append (walkDirectives_all (tSound_valSites s d) cur _ dirs _ _)
      (walkDirectives_all (tSound_valSites s d) cur _ f.dirs _ _))
      (hJ _ _ _ r3 (fun _ _ hi => Or.inr ⟨f, fragForName_mem hf, hi⟩) h3)) (AllP.single (hx _ _ (InSelW.self _ _)))
  nil := fun _ _ _ => AllP.nil
  cons := fun parent x rest _ _ _ _ _ ih1 ih2 hx =>
    AllP.append (ih1 fun p' y hi => hx p' y (InSelsW.head parent x rest p' y hi))
      (ih2 fun p' y hi => hx p' y (InSelsW.tail parent x rest p' y hi))

theorem walkSelection_w (s : SV) (d : QueryDoc) (cur : Option OperationDef) (J : Jump) (hJ : JumpW s d J) :
    ∀ (x : Selection) (parent : Option Definition) (ws : WS) r,
      (∀ p' y, InSelW s parent x p' y → InDocW s d p' y) →
      walkSelection s d cur J parent x ws = some r → AllP (TSound s d) r.2 :=
  fun x parent ws r hx h => walkSelection_induct (walkSel_w_cases s d cur J hJ) x parent ws r h hx

theorem walkLevel_w (s : SV) (d : QueryDoc) (cur : Option OperationDef) : ∀ n, JumpW s d (walkLevel s d cur n) :=
  fun n parent sels ws r hx h =>
    walkLevel_induct (fun J hJ => walkSel_w_cases s d cur J fun p x w r hx h => hJ p x w r h hx) n parent sels ws r h hx

theorem walkDoc_w (s : SV) (d : QueryDoc) (evs : List Event) (h : walkDoc s d = some evs) :
    AllP (TSound s d) evs := by
  refine walkDoc_forall (P := fun e => TSound s d e.p) (fun op hop l r h => ?_) (fun f hf l r h => ?_) h
  · obtain ⟨r4, h4, rfl⟩ := walkOperation_inv h
    exact AllP.append (AllP.append (AllP.append (AllP.append
      (walkVarDefsA_allE (P := fun e => TSound s d e.p) (vds := op.vars) (fun _ _ _ => trivial) _ _ (fun _ h => h))
      (walkVarDefsB_all (tSound_valSites s d) _ _ _)) (walkDirectives_all (tSound_valSites s d) _ _ _ _ _))
      (walkLevel_w s d (some op) _ _ _ _ r4 (fun p' y hi => Or.inl ⟨op, hop, hi⟩) h4)) (AllP.single trivial)
  · obtain ⟨r2, h2, rfl⟩ := walkFragment_inv h
    exact AllP.append (AllP.append (walkDirectives_all (tSound_valSites s d) _ _ _ _ _)
      (walkLevel_w s d none _ _ _ _ r2 (fun p' y hi => Or.inr ⟨f, hf, hi⟩) h2)) (AllP.single trivial)

def HasNode (d : QueryDoc) (evs : List Event) (p' : Option Definition) : Selection → Prop
  | .field al nm args dirs sub p =>
    ∃ e ∈ evs, e.p = .field ⟨al, nm, args, dirs, sub, p⟩ p' (wFieldDef p' nm)
  | .inline tc dirs sub p => ∃ e ∈ evs, e.p = .inlineFragment ⟨tc, dirs, sub, p⟩ p'
  | .spread nm dirs p => ∃ e ∈ evs, e.p = .fragmentSpread ⟨nm, dirs, p⟩ (fragForName d nm) p'

theorem HasNode.mono {d : QueryDoc} {a b : List Event} (hs : ∀ e ∈ a, e ∈ b) {p' : Option Definition} :
    ∀ {y : Selection}, HasNode d a p' y → HasNode d b p' y
  | .field .., ⟨e, he, x⟩ => ⟨e, hs e he, x⟩
  | .inline .., ⟨e, he, x⟩ => ⟨e, hs e he, x⟩
  | .spread .., ⟨e, he, x⟩ => ⟨e, hs e he, x⟩

theorem walkSel_hasW_cases (s : SV) (d : QueryDoc) (cur : Option OperationDef) (J : Jump) :
    WalkCases s d cur J (fun parent x _ r => ∀ p' y, InSelW s parent x p' y → HasNode d r.2 p' y)
      (fun parent xs _ r => ∀ p' y, InSelsW s parent xs p' y → HasNode d r.2 p' y) where
  field := fun _ _ _ _ _ _ _ _ _ _ ih p' y hi => by
    cases hi with
    | self => exact ⟨_, List.mem_append_right _ (List.mem_singleton.2 rfl), rfl⟩
    | fieldSub _ _ _ _ _ _ _ _ _ hs =>
      exact (ih p' y hs).mono (sub_mid _ _)
  inline := fun _ _ _ _ _ _ _ _ ih p' y hi => by
    cases hi with
    | self => exact ⟨_, List.mem_append_right _ (List.mem_singleton.2 rfl), rfl⟩
    | inlineSub _ _ _ _ _ _ _ hs =>
      exact (ih p' y hs).mono (sub_mid _ _)
  spreadStop := fun _ _ _ _ _ _ p' y hi => by
    cases hi with
    | self => exact ⟨_, List.mem_append_right _ (List.mem_singleton.2 rfl), rfl⟩
  spreadJump := fun _ _ _ _ _ _ _ hf _ _ p' y hi => by
    cases hi with
    | self => exact ⟨_, List.mem_append_right _ (List.mem_singleton.2 rfl), by rw [hf]⟩
  nil := fun _ _ p' y hi => by cases hi
  cons := fun _ _ _ _ _ _ _ _ ih1 ih2 p' y hi => by
    cases hi with
    | head _ _ _ _ _ hx => exact (ih1 p' y hx).mono (sub_inl _)
    | tail _ _ _ _ _ hx => exact (ih2 p' y hx).mono (sub_inr _)

theorem walkSelection_hasW (s : SV) (d : QueryDoc) (cur : Option OperationDef) (J : Jump) :
    ∀ (x : Selection) (parent : Option Definition) (ws : WS) r, walkSelection s d cur J parent x ws = some r →
      ∀ p' y, InSelW s parent x p' y → HasNode d r.2 p' y :=
  walkSelection_induct (walkSel_hasW_cases s d cur J)

theorem walkDoc_hasW (s : SV) (d : QueryDoc) (evs : List Event) (h : walkDoc s d = some evs) :
    ∀ p' y, InDocW s d p' y → HasNode d evs p' y := by
  rintro p' y (⟨op, hop, hi⟩ | ⟨f, hf, hi⟩)
  · obtain ⟨l, r, hr, hsub⟩ := walkDoc_op_events h hop
    obtain ⟨r4, h4, rfl⟩ := walkOperation_inv hr
    exact (walkLevel_induct (fun J _ => walkSel_hasW_cases s d _ J) _ _ _ _ r4 h4 p' y hi).mono
      fun e he => hsub e (List.mem_append_left _ (List.mem_append_right _ he))
  · obtain ⟨l, r, hr, hsub⟩ := walkDoc_frag_events h hf
    obtain ⟨r2, h2, rfl⟩ := walkFragment_inv hr
    exact (walkLevel_induct (fun J _ => walkSel_hasW_cases s d _ J) _ _ _ _ r2 h2 p' y hi).mono
      fun e he => hsub e (List.mem_append_left _ (List.mem_append_right _ he))

end Gql.Validate
