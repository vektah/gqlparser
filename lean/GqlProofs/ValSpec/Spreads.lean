import GqlModel.Validate.Rules.KnownFragmentNames
import GqlProofs.ValSpec.Events
import GqlModel.Validate.Spec.Fragments
/-
  Fragment spreads: every spread event of a run is a spread written in the document and carries
  `Document.Fragments.ForName(name)` (soundness), and every spread written in the document has an
  event (completeness: operations and fragment definitions are walked top-down without needing a
  jump).  Consequence: KnownFragmentNames ⇔ `Spec.fragmentSpreadTargetDefined`.
-/
namespace Gql.Validate
open Gql Gql.Validate.Rules

theorem fragByName_eq (d : QueryDoc) (n : Name) : Spec.fragByName d n = fragForName d n := rfl

def SpreadSound (d : QueryDoc) : Payload → Prop
  | .fragmentSpread f dfn _ => f.name ∈ Spec.allSpreadNames d ∧ dfn = fragForName d f.name
  | _ => True

theorem spreadSound_docSites (s : SV) (d : QueryDoc) :
    DocSites s d (fun n => n ∈ Spec.allSpreadNames d) (SpreadSound d) :=
  { value := fun _ _ _ => trivial, directive := fun _ _ _ => trivial, directiveList := fun _ => trivial,
    field := fun _ _ _ => trivial, inline := fun _ _ => trivial,
    spread := fun _ _ h => ⟨h, rfl⟩,
    frags := fun f hf n hn => by
      simp only [Spec.allSpreadNames, List.mem_append, List.mem_flatMap]
      exact Or.inr ⟨f, hf, hn⟩,
    ops := fun op hop n hn => by
      simp only [Spec.allSpreadNames, List.mem_append, List.mem_flatMap]
      exact Or.inl ⟨op, hop, hn⟩,
    varDef := fun _ => trivial, operation := fun _ _ _ => trivial, fragment := fun _ _ => trivial }

theorem walkDoc_spreads_sound (s : SV) (d : QueryDoc) (evs : List Event) (h : walkDoc s d = some evs) :
    ∀ e ∈ evs, ∀ f dfn par, e.p = .fragmentSpread f dfn par →
      f.name ∈ Spec.allSpreadNames d ∧ dfn = fragForName d f.name := by
  intro e he f dfn par hp
  have := walkDoc_all (spreadSound_docSites s d) evs h e he
  rw [hp] at this
  exact this

def HasSpread (d : QueryDoc) (n : Name) (evs : List Event) : Prop :=
  ∃ e ∈ evs, ∃ f par, e.p = .fragmentSpread f (fragForName d n) par ∧ f.name = n

theorem HasSpread.mono {d : QueryDoc} {n : Name} {a b : List Event} (hs : ∀ e ∈ a, e ∈ b) (h : HasSpread d n a) :
    HasSpread d n b := by
  obtain ⟨e, he, x⟩ := h
  exact ⟨e, hs e he, x⟩

theorem hasSpread_last (d : QueryDoc) (cur : Option OperationDef) (l : Links) (nm : Name) (dirs : List Directive)
    (p : Pos) (parent : Option Definition) (pre : List Event) :
    HasSpread d nm (pre ++ [{ cur := cur, links := l, p := .fragmentSpread ⟨nm, dirs, p⟩ (fragForName d nm) parent }]) :=
  ⟨_, List.mem_append_right _ (List.mem_singleton.2 rfl), ⟨nm, dirs, p⟩, parent, rfl, rfl⟩

theorem walkSel_complete_cases (s : SV) (d : QueryDoc) (cur : Option OperationDef) (J : Jump) :
    WalkCases s d cur J (fun _ x _ r => ∀ n ∈ Spec.spreadsOfSel x, HasSpread d n r.2)
      (fun _ xs _ r => ∀ n ∈ Spec.spreadsOfSels xs, HasSpread d n r.2) where
  field := fun _ _ _ _ _ _ _ _ _ _ ih n hn =>
    (ih n (by simpa [Spec.spreadsOfSel] using hn)).mono (sub_mid _ _)
  inline := fun _ _ _ _ _ _ _ _ ih n hn =>
    (ih n (by simpa [Spec.spreadsOfSel] using hn)).mono (sub_mid _ _)
  spreadStop := fun parent nm dirs p _ _ n hn => by
    obtain rfl : n = nm := by simpa [Spec.spreadsOfSel] using hn
    exact hasSpread_last d cur _ n dirs p parent _
  spreadJump := fun parent nm dirs p _ f _ hf _ _ n hn => by
    obtain rfl : n = nm := by simpa [Spec.spreadsOfSel] using hn
    rw [← hf]
    exact hasSpread_last d cur _ n dirs p parent _
  nil := fun _ _ n hn => by simp [Spec.spreadsOfSels] at hn
  cons := fun _ _ _ _ _ _ _ _ ih1 ih2 n hn => by
    simp only [Spec.spreadsOfSels, List.mem_append] at hn
    rcases hn with hn | hn
    · exact (ih1 n hn).mono (sub_inl _)
    · exact (ih2 n hn).mono (sub_inr _)

theorem walkSelection_complete (s : SV) (d : QueryDoc) (cur : Option OperationDef) (J : Jump) :
    ∀ (x : Selection) (parent : Option Definition) (ws : WS) r, walkSelection s d cur J parent x ws = some r →
      ∀ n ∈ Spec.spreadsOfSel x, HasSpread d n r.2 :=
  walkSelection_induct (walkSel_complete_cases s d cur J)

theorem walkDoc_spreads_complete (s : SV) (d : QueryDoc) (evs : List Event) (h : walkDoc s d = some evs) :
    ∀ n ∈ Spec.allSpreadNames d, HasSpread d n evs := by
  intro n hn
  simp only [Spec.allSpreadNames, List.mem_append, List.mem_flatMap] at hn
  rcases hn with ⟨op, hop, hn⟩ | ⟨f, hf, hn⟩
  · obtain ⟨l, r, hr, hsub⟩ := walkDoc_op_events h hop
    obtain ⟨r4, h4, rfl⟩ := walkOperation_inv hr
    refine (walkLevel_induct (fun J _ => walkSel_complete_cases s d _ J) _ _ _ _ r4 h4 n hn).mono fun e he => hsub e ?_
    exact List.mem_append_left _ (List.mem_append_right _ he)
  · obtain ⟨l, r, hr, hsub⟩ := walkDoc_frag_events h hf
    obtain ⟨r2, h2, rfl⟩ := walkFragment_inv hr
    refine (walkLevel_induct (fun J _ => walkSel_complete_cases s d _ J) _ _ _ _ r2 h2 n hn).mono fun e he => hsub e ?_
    exact List.mem_append_left _ (List.mem_append_right _ he)

theorem knownFragmentNames_iff (s : Schema) (d : QueryDoc) (evs : List Event)
    (hw : walkDoc s.view d = some evs) :
    (∀ e ∈ evs, knownFragmentNamesStep s.view d e = []) ↔ Spec.fragmentSpreadTargetDefined d = true := by
  unfold Spec.fragmentSpreadTargetDefined
  simp only [List.all_eq_true, fragByName_eq]
  constructor
  · intro h n hn
    obtain ⟨e, he, f, par, hp, _⟩ := walkDoc_spreads_complete s.view d evs hw n hn
    have := h e he
    cases hf : fragForName d n with
    | some x => rfl
    | none =>
      rw [hf] at hp
      simp [knownFragmentNamesStep, hp] at this
  · intro h e he
    unfold knownFragmentNamesStep
    split
    · rename_i f par hp
      obtain ⟨hm, hd⟩ := walkDoc_spreads_sound s.view d evs hw e he f none par hp
      have := h f.name hm
      rw [← hd] at this
      simp at this
    · rfl

end Gql.Validate
