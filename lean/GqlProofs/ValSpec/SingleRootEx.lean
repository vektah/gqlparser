import GqlProofs.ValSpec.SingleRoot
/-
  SingleFieldSubscriptions (§5.2.3.1): kernel-checked examples for every hypothesis of
  `C08_SingleFieldSubscriptions` — satisfiable together, and the equivalence fails without each.
-/
namespace Gql.Validate
open Gql Gql.Validate.Rules

namespace SingleRootEx

def at' (n : Nat) : Pos := { start := n, stop := n + 1, line := 1, col := n + 1 }

def mkDef (k : DefKind) (n : String) (ifaces : List Name := []) (members : List Name := []) : Definition :=
  { kind := k, desc := [], name := str n, dirs := [], interfaces := ifaces, fields := [], types := members,
    enumValues := [], pos := Pos.zero, builtIn := false }

/-- `schema { subscription: S }  interface I  type S implements I  type T  union U = S | T` -/
def schema : Schema :=
  { Schema.empty with
    subscription := some (str "S"),
    types := [(str "I", mkDef .interface "I"), (str "S", mkDef .object "S" [str "I"]), (str "T", mkDef .object "T"),
              (str "U", mkDef .union "U" [] [str "S", str "T"])],
    possibleTypes := [(str "I", [str "S"]), (str "S", [str "S"]), (str "T", [str "T"]), (str "U", [str "S", str "T"])] }

def fld (n : String) (o : Nat) (al : String := "") : Selection :=
  .field (str al) (str n) [] [] .nil (at' o)

def sub (sel : Selections) : OperationDef :=
  { op := str "subscription", name := [], vars := [], dirs := [], sel := sel, pos := at' 0 }

def frag (n : String) (tc : String) (o : Nat) (sel : Selections) : FragmentDef :=
  { name := str n, vars := [], typeCond := str tc, dirs := [], sel := sel, pos := at' o }

/-- `subscription { ...F ... on U { a } }  fragment F on I { a: a ...F }`: all hypotheses hold, both
    sides accept -/
def docGood : QueryDoc :=
  { ops := [sub (.cons (.spread (str "F") [] (at' 2)) (.cons (.inline (str "U") [] (.cons (fld "a" 4) .nil) (at' 3)) .nil))],
    frags := [frag "F" "I" 10 (.cons (fld "a" 12 "a") (.cons (.spread (str "F") [] (at' 14)) .nil))] }

/-- all hypotheses of `C08_SingleFieldSubscriptions` are satisfiable together (non-vacuity) -/
example : subscriptionRootExact schema = true ∧ Spec.fragmentSpreadTargetDefined docGood = true ∧
    (∀ f ∈ docGood.frags, f.typeCond ≠ []) ∧ subscriptionsSelectRoot schema docGood = true ∧
    rootKeysConsistent schema docGood = true ∧
    validate [singleFieldSubscriptions] schema docGood = .ok [] ∧ Spec.singleRootField schema docGood = true := by
  decide +kernel

/-- `subscription { a b }`: both sides reject -/
def docTwo : QueryDoc := { ops := [sub (.cons (fld "a" 2) (.cons (fld "b" 4) .nil))], frags := [] }

example : validate [singleFieldSubscriptions] schema docTwo ≠ .ok [] ∧ Spec.singleRootField schema docTwo = false := by
  decide +kernel

/-- hazard 1 (links): the step on an `operation` event whose side table has NOT linked the spread
    is silent although the specification rejects `subscription { ...F }  fragment F on S { a b }`.
    (No run produces such an event: `walkDoc_opLinked`.) -/
def docSpread2 : QueryDoc :=
  { ops := [sub (.cons (.spread (str "F") [] (at' 2)) .nil)],
    frags := [frag "F" "S" 10 (.cons (fld "a" 12) (.cons (fld "b" 14) .nil))] }

example : (singleFieldSubscriptionsStep schema.view docSpread2
      { cur := none, links := Links.empty, p := .operation (sub (.cons (.spread (str "F") [] (at' 2)) .nil)) [] }
        matches .ok []) ∧
    Spec.singleRootField schema docSpread2 = false ∧
    validate [singleFieldSubscriptions] schema docSpread2 ≠ .ok [] := by
  decide +kernel

/-- hazard 2 (`Spec.fragmentSpreadTargetDefined`): `subscription { ...Nope a b }` — the rule's walk
    returns at the undefined spread and sees no field; all other hypotheses hold -/
def docUndefined : QueryDoc :=
  { ops := [sub (.cons (.spread (str "Nope") [] (at' 2)) (.cons (fld "a" 4) (.cons (fld "b" 6) .nil)))], frags := [] }

example : validate [singleFieldSubscriptions] schema docUndefined = .ok [] ∧
    Spec.singleRootField schema docUndefined = false ∧
    Spec.fragmentSpreadTargetDefined docUndefined = false ∧
    subscriptionRootExact schema = true ∧ (∀ f ∈ docUndefined.frags, f.typeCond ≠ []) ∧
    subscriptionsSelectRoot schema docUndefined = true ∧ rootKeysConsistent schema docUndefined = true := by
  decide +kernel

/-- hazard 3 (`subscriptionsSelectRoot`): `subscription { ...F }  fragment F on S { ...F }` collects no
    root field: the rule is silent, the specification demands exactly one -/
def docZero : QueryDoc :=
  { ops := [sub (.cons (.spread (str "F") [] (at' 2)) .nil)],
    frags := [frag "F" "S" 10 (.cons (.spread (str "F") [] (at' 12)) .nil)] }

example : validate [singleFieldSubscriptions] schema docZero = .ok [] ∧
    Spec.singleRootField schema docZero = false ∧
    subscriptionsSelectRoot schema docZero = false ∧
    subscriptionRootExact schema = true ∧ Spec.fragmentSpreadTargetDefined docZero = true ∧
    (∀ f ∈ docZero.frags, f.typeCond ≠ []) ∧ rootKeysConsistent schema docZero = true := by
  decide +kernel

/-- … and `subscription { ... on T { a } }` (a fragment that does not apply) -/
def docZero' : QueryDoc :=
  { ops := [sub (.cons (.inline (str "T") [] (.cons (fld "a" 4) .nil) (at' 2)) .nil)], frags := [] }

example : validate [singleFieldSubscriptions] schema docZero' = .ok [] ∧
    Spec.singleRootField schema docZero' = false ∧ subscriptionsSelectRoot schema docZero' = false := by
  decide +kernel

/-- hazard 4 (`rootKeysConsistent`): `subscription { a: foo  a: __typename }` — the rule removes
    duplicates by response name first and never looks at the shadowed `__typename` -/
def docShadow : QueryDoc :=
  { ops := [sub (.cons (fld "foo" 2 "a") (.cons (fld "__typename" 6 "a") .nil))], frags := [] }

example : validate [singleFieldSubscriptions] schema docShadow = .ok [] ∧
    Spec.singleRootField schema docShadow = false ∧
    rootKeysConsistent schema docShadow = false ∧
    subscriptionRootExact schema = true ∧ Spec.fragmentSpreadTargetDefined docShadow = true ∧
    (∀ f ∈ docShadow.frags, f.typeCond ≠ []) ∧ subscriptionsSelectRoot schema docShadow = true := by
  decide +kernel

/-- hazard 5a (`subscriptionRootExact`, relations): the same schema with an empty `PossibleTypes`
    table; `subscription { ... on I { a b } }` — the rule does not enter the inline fragment -/
def schemaNoPossible : Schema := { schema with possibleTypes := [] }

def docOnI : QueryDoc :=
  { ops := [sub (.cons (.inline (str "I") [] (.cons (fld "a" 4) (.cons (fld "b" 6) .nil)) (at' 2)) .nil)], frags := [] }

example : validate [singleFieldSubscriptions] schemaNoPossible docOnI = .ok [] ∧
    Spec.singleRootField schemaNoPossible docOnI = false ∧
    subscriptionRootExact schemaNoPossible = false ∧
    Spec.fragmentSpreadTargetDefined docOnI = true ∧ (∀ f ∈ docOnI.frags, f.typeCond ≠ []) ∧
    subscriptionsSelectRoot schemaNoPossible docOnI = true ∧ rootKeysConsistent schemaNoPossible docOnI = true := by
  decide +kernel

/-- hazard 5b (`subscriptionRootExact`, root defined): the subscription root type is named but
    not defined; `subscription { a b }` — the rule reports, the specification does not judge -/
def schemaNoRoot : Schema := { schema with types := [(str "T", mkDef .object "T")] }

example : validate [singleFieldSubscriptions] schemaNoRoot docTwo ≠ .ok [] ∧
    Spec.singleRootField schemaNoRoot docTwo = true ∧
    subscriptionRootExact schemaNoRoot = false ∧
    Spec.fragmentSpreadTargetDefined docTwo = true ∧ (∀ f ∈ docTwo.frags, f.typeCond ≠ []) ∧
    subscriptionsSelectRoot schemaNoRoot docTwo = true ∧ rootKeysConsistent schemaNoRoot docTwo = true := by
  decide +kernel

/-- hazard 5c (`subscriptionRootExact`, root is an object): the subscription root is the interface
    `I`; `subscription { ... on I { a b } }` — the rule takes "the root type itself" to apply, the
    specification asks whether `I` implements `I` -/
def schemaIfaceRoot : Schema := { schema with subscription := some (str "I") }

example : validate [singleFieldSubscriptions] schemaIfaceRoot docOnI ≠ .ok [] ∧
    Spec.singleRootField schemaIfaceRoot docOnI = false := by
  decide +kernel

def docOnIOne : QueryDoc :=
  { ops := [sub (.cons (fld "c" 1) (.cons (.inline (str "I") [] (.cons (fld "a" 4) .nil) (at' 2)) .nil))], frags := [] }

example : validate [singleFieldSubscriptions] schemaIfaceRoot docOnIOne ≠ .ok [] ∧
    Spec.singleRootField schemaIfaceRoot docOnIOne = true ∧
    subscriptionRootExact schemaIfaceRoot = false ∧
    Spec.fragmentSpreadTargetDefined docOnIOne = true ∧ (∀ f ∈ docOnIOne.frags, f.typeCond ≠ []) ∧
    subscriptionsSelectRoot schemaIfaceRoot docOnIOne = true ∧ rootKeysConsistent schemaIfaceRoot docOnIOne = true := by
  decide +kernel

/-- hazard 5d (fragment definitions have a type condition): `subscription { c ...F }  fragment F on
    <empty> { b }` — the rule treats the empty type condition as "no condition", the specification
    looks the empty name up.  (The parser never produces an empty type condition.) -/
def docEmptyTc : QueryDoc :=
  { ops := [sub (.cons (fld "c" 1) (.cons (.spread (str "F") [] (at' 2)) .nil))],
    frags := [frag "F" "" 10 (.cons (fld "b" 12) .nil)] }

example : validate [singleFieldSubscriptions] schema docEmptyTc ≠ .ok [] ∧
    Spec.singleRootField schema docEmptyTc = true ∧
    ¬ (∀ f ∈ docEmptyTc.frags, f.typeCond ≠ []) ∧
    subscriptionRootExact schema = true ∧ Spec.fragmentSpreadTargetDefined docEmptyTc = true ∧
    subscriptionsSelectRoot schema docEmptyTc = true ∧ rootKeysConsistent schema docEmptyTc = true := by
  decide +kernel

end SingleRootEx

end Gql.Validate
