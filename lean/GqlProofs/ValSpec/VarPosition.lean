import GqlProofs.ValSpec.ScopeArgs
import GqlModel.Schema.Spec
import GqlModel.Validate.Rules.VariablesInAllowedPosition
import GqlModel.Validate.Spec.Variables
import GqlProofs.ValSpec.VarRules
/-
  VariablesInAllowedPosition (§5.8.5).  The variable value events fired while `CurrentOperation = op`, WITH their
  `ExpectedType`, are exactly the usages the specification finds in the scope of `op` (`Spec.scopeUses`) with their
  location types; the `VariableDefinition` link of the event is the definition of that name in the operation; the test
  of the rule on one usage is `IsVariableUsageAllowed` with `hasLocationDefaultValue = false` — the rule never looks at
  the default value of the LOCATION (recorded finding; witness `schemaLocDefault`, `docNullable` at the end), so the
  rule-exact predicate is `usagesAllowedIgnoringLocationDefault`, which implies `Spec.allVariableUsagesAllowed`.
  Hypotheses beyond those of VarRules (`Spec.fragmentNameUniqueness`, `constDefaults`): `Spec.wellParented` (the walker's
  field definitions are the declarative ones), `inputPositionsPlain` and `variableTypesNamed` (explained where defined).
-/
namespace Gql.Validate
open Gql Gql.Validate.Rules

/-
  `IsCompatible` compares the `NamedType` strings first; a list type has the EMPTY `NamedType`, so
  a variable whose type is the named type with the empty name is "compatible" with every list
  location.  The parser never produces such a type; the hypothesis here is `t.name ≠ []`
  (`GType.name` is the innermost name, and a type has exactly one).
-/
theorem clearNonNull_eq (t : GType) : clearNonNull t = Spec.withNonNull false t := by
  cases t <;> rfl

theorem isCompatible_eq : ∀ (t o : GType), t.name ≠ [] → isCompatible t o = Spec.areTypesCompatible t o
  | .named a na _, .named b nb _, _ => by
    simp only [isCompatible, namedOf, GType.nonNull, Spec.areTypesCompatible]
    by_cases hab : a = b
    · subst hab
      cases na <;> cases nb <;> simp
    · simp [hab]
  | .named a na _, .list eb nb _, h => by
    have ha : a ≠ [] := h
    simp [isCompatible, namedOf, Spec.areTypesCompatible, ha]
  | .list ea na _, .named b nb _, _ => by
    simp only [isCompatible, namedOf, Spec.areTypesCompatible]
    by_cases hb : b = [] <;> simp [hb]
  | .list ea na _, .list eb nb _, h => by
    have ih := isCompatible_eq ea eb h
    simp only [isCompatible, namedOf, Spec.areTypesCompatible, ih]
    cases na <;> cases nb <;> cases Spec.areTypesCompatible ea eb <;> simp

theorem areTypesCompatible_clear (t o : GType) (h : t.nonNull = true) :
    Spec.areTypesCompatible t (Spec.withNonNull false o) = Spec.areTypesCompatible t o := by
  cases t <;> cases o <;> simp_all [Spec.areTypesCompatible, Spec.withNonNull, GType.nonNull]

theorem areTypesCompatible_nullable (t o : GType) (ht : t.nonNull = false) (ho : o.nonNull = true) :
    Spec.areTypesCompatible t o = false := by
  cases t <;> cases o <;> simp_all [Spec.areTypesCompatible, GType.nonNull]

/-- the test of the rule for one usage (as in `variablesInAllowedPositionStep`) -/
def ruleUsageAllowed (vd : VarDef) (expected : GType) : Bool :=
  let relaxed : Bool := match vd.default with
    | some dv => dv.kind != .null && expected.nonNull
    | none => false
  isCompatible vd.type (if relaxed then clearNonNull expected else expected)

theorem ruleUsageAllowed_eq (vd : VarDef) (lt : GType) (h : vd.type.name ≠ []) :
    ruleUsageAllowed vd lt = Spec.isVariableUsageAllowed vd lt false := by
  unfold ruleUsageAllowed Spec.isVariableUsageAllowed
  simp only [isCompatible_eq _ _ h, clearNonNull_eq]
  cases hl : lt.nonNull with
  | false =>
    simp only [Bool.and_false, Bool.false_and, Bool.false_eq_true, if_false]
    cases vd.default <;> simp
  | true =>
    cases hv : vd.type.nonNull with
    | true =>
      simp only [Bool.and_true, Bool.not_true, Bool.and_false, Bool.false_eq_true, if_false]
      cases vd.default with
      | none => simp
      | some dv =>
        simp only
        split
        · exact areTypesCompatible_clear _ _ hv
        · rfl
    | false =>
      simp only [Bool.and_true, Bool.not_false, Bool.and_self, if_true, Bool.not_eq_true']
      cases vd.default with
      | none =>
        simp only [Bool.false_eq_true, if_false, if_true]
        exact areTypesCompatible_nullable _ _ hv hl
      | some dv =>
        simp only
        by_cases hk : (dv.kind != ValueKind.null) = true
        · simp [hk]
        · simp only [hk, Bool.false_eq_true, if_false]
          simp only [Bool.not_eq_true] at hk
          simp only [if_true]
          exact areTypesCompatible_nullable _ _ hv hl

theorem isVariableUsageAllowed_mono (v : VarDef) (lt : GType) (b : Bool)
    (h : Spec.isVariableUsageAllowed v lt false = true) : Spec.isVariableUsageAllowed v lt b = true := by
  unfold Spec.isVariableUsageAllowed at h ⊢
  generalize (match v.default with | some dv => dv.kind != ValueKind.null | none => false) = hd at h ⊢
  cases b
  · exact h
  · cases hd <;> cases hcond : (lt.nonNull && !v.type.nonNull) <;> simp_all

/-- the empty `NamedType` really matters: `$v : ""` (not parseable) at a location of type `[Int]` -/
example : isCompatible (.named [] false Pos.zero) (.list (.named (str "Int") false Pos.zero) false Pos.zero) = true ∧
    Spec.areTypesCompatible (.named [] false Pos.zero) (.list (.named (str "Int") false Pos.zero) false Pos.zero) = false := by
  decide

/-
  The expected types the WALKER assigns to the values of an argument list (`argValSites`) and the
  location types the SPECIFICATION gives them (`Spec.usesInArgs`) differ in one place: below an
  object literal the walker looks the children up in `Definition.Fields` of the expected
  definition WHATEVER its kind, the specification only when it is an input object.  They agree when
  every type an argument or an input field is declared with resolves — if at all — to an input
  object or to a definition without fields (`inputPositionsPlain`; it follows from
  `Gql.Spec.Closed` for a schema whose scalars and enums carry no fields,
  `inputPositionsPlain_of_closed`).
-/
def plainName (s : Schema) (n : Name) : Bool :=
  match s.type? n with
  | some dd => dd.kind == .inputObject || dd.fields.isEmpty
  | none => true

def inputPositionsPlain (s : Schema) : Bool :=
  (s.types.all fun p => p.2.fields.all fun f =>
    f.args.all (fun a => plainName s a.type.name) && (p.2.kind != .inputObject || plainName s f.type.name)) &&
  (s.directives.all fun p => p.2.args.all fun a => plainName s a.type.name)

def useKey (u : Spec.VarUse) : Name × Option GType := (u.name, u.loc)

def siteVar : VSite → Option (Name × Option GType)
  | (exp, _, .mk k raw _ _) => if k = .variable then some (raw, exp) else none

def PlainOpt (s : Schema) (exp : Option GType) : Prop := ∀ t, exp = some t → plainName s t.name = true

theorem type?_mem {s : Schema} {n : Name} {dd : Definition} (h : s.type? n = some dd) : (n, dd) ∈ s.types :=
  mem_of_lookup h

section hyp
variable (s : Schema) (hs : inputPositionsPlain s = true)
include hs

theorem plain_inputField {p : Name × Definition} (hp : p ∈ s.types) (hk : p.2.kind = .inputObject)
    {f : FieldDef} (hf : f ∈ p.2.fields) : plainName s f.type.name = true := by
  simp only [inputPositionsPlain, Bool.and_eq_true, List.all_eq_true, Bool.or_eq_true, bne_iff_ne, ne_eq] at hs
  rcases (hs.1 p hp f hf).2 with h | h
  · exact absurd hk h
  · exact h

theorem plain_fieldArg {p : Name × Definition} (hp : p ∈ s.types) {f : FieldDef} (hf : f ∈ p.2.fields)
    {a : ArgDef} (ha : a ∈ f.args) : plainName s a.type.name = true := by
  simp only [inputPositionsPlain, Bool.and_eq_true, List.all_eq_true] at hs
  exact (hs.1 p hp f hf).1 a ha

theorem plain_directiveArg {p : Name × DirectiveDef} (hp : p ∈ s.directives) {a : ArgDef} (ha : a ∈ p.2.args) :
    plainName s a.type.name = true := by
  simp only [inputPositionsPlain, Bool.and_eq_true, List.all_eq_true] at hs
  exact hs.2 p hp a ha

end hyp

theorem filterMap_siteVar_self (exp : Option GType) (dfn : Option Definition) (k : ValueKind) (raw : Bytes)
    (ch : Children) (p : Pos) (hk : k ≠ .variable) :
    List.filterMap siteVar [((exp, dfn, Value.mk k raw ch p) : VSite)] = [] := by
  simp [siteVar, hk]

def specFieldType (d' : Option Definition) (n : Name) : Option GType :=
  (d'.bind fun dd => Spec.inputFieldByName dd n).map (·.type)

theorem objChildLink_snd (s : SV) (dfn : Option Definition) (n : Name) :
    (objChildLink s dfn n).2 = (objChildLink s dfn n).1.bind fun t => s.type? t.name := by
  unfold objChildLink
  cases dfn with
  | none => rfl
  | some d =>
    simp only
    cases fieldForName d.fields n <;> rfl

theorem argLink_snd (s : SV) (defs : Option (List ArgDef)) (n : Name) :
    (argLink s defs n).2 = (argLink s defs n).1.bind fun t => s.type? t.name := by
  unfold argLink
  cases defs.bind (argDefForName · n) <;> rfl

mutual
  theorem valSites_uses (s : Schema) (hs : inputPositionsPlain s = true) :
      ∀ (v : Value) (exp : Option GType) (dfn : Option Definition) (ld : Bool) (oo : Option Name),
        dfn = exp.bind (fun t => s.type? t.name) → PlainOpt s exp →
        (valSites s.view exp dfn v).filterMap siteVar = (Spec.usesInValue s exp ld oo v).map useKey
    | .mk k raw ch p, exp, dfn, ld, oo, hd, hp => by
      unfold valSites Spec.usesInValue
      rw [List.filterMap_append]
      cases k with
      | «variable» => simp [siteVar, useKey]
      | list =>
        rw [filterMap_siteVar_self _ _ _ _ _ _ (by simp), List.append_nil]
        exact listSites_uses s hs ch exp dfn hd hp
      | object =>
        rw [filterMap_siteVar_self _ _ _ _ _ _ (by simp), List.append_nil]
        simp only
        rw [← hd]
        cases hdd : dfn with
        | none =>
          simp only
          refine objSites_uses s hs ch none none (fun n => rfl) (fun n t h => ?_)
          simp [objChildLink] at h
        | some dd =>
          simp only
          obtain ⟨t, rfl, ht⟩ : ∃ t, exp = some t ∧ s.type? t.name = some dd := by
            rw [hdd] at hd
            cases exp with
            | none => cases hd
            | some t => exact ⟨t, rfl, hd.symm⟩
          have hpl := hp t rfl
          unfold plainName at hpl
          rw [ht] at hpl
          simp only [Bool.or_eq_true, beq_iff_eq, List.isEmpty_iff] at hpl
          by_cases hk : dd.kind = .inputObject
          · have hk' : (dd.kind == DefKind.inputObject) = true := by simp [hk]
            rw [if_pos hk']
            refine objSites_uses s hs ch (some dd) (some dd) (fun n => ?_) (fun n t' h => ?_)
            · simp only [objChildLink, specFieldType, Option.bind_some, Spec.inputFieldByName]
              change _ = Option.map _ (fieldForName dd.fields n)
              cases fieldForName dd.fields n <;> rfl
            · simp only [objChildLink] at h
              cases hf : fieldForName dd.fields n with
              | none => simp [hf] at h
              | some fd =>
                simp only [hf, linkOfType] at h
                injection h with h
                subst h
                exact plain_inputField s hs (type?_mem ht) hk (List.mem_of_find?_eq_some hf)
          · have hk' : ¬ (dd.kind == DefKind.inputObject) = true := by simp [hk]
            rw [if_neg hk']
            have hf : dd.fields = [] := by
              rcases hpl with h | h
              · exact absurd h hk
              · exact h
            refine objSites_uses s hs ch (some dd) none (fun n => ?_) (fun n t' h => ?_)
            · simp [objChildLink, specFieldType, hf, fieldForName]
            · simp [objChildLink, hf, fieldForName] at h
      | int | float | string | block | boolean | null | enum =>
        simp [siteVar]
  theorem objSites_uses (s : Schema) (hs : inputPositionsPlain s = true) :
      ∀ (ch : Children) (dfn d' : Option Definition),
        (∀ n, (objChildLink s.view dfn n).1 = specFieldType d' n) →
        (∀ n, PlainOpt s (objChildLink s.view dfn n).1) →
        (objSites s.view dfn ch).filterMap siteVar = (Spec.usesInFields s d' ch).map useKey
    | .nil, dfn, d', _, _ => by simp [objSites, Spec.usesInFields]
    | .cons n v q rest, dfn, d', hl, hp => by
      simp only [objSites, Spec.usesInFields, List.filterMap_append, List.map_append]
      rw [objSites_uses s hs rest dfn d' hl hp]
      congr 1
      have h1 := hl n
      have h2 := objChildLink_snd s.view dfn n
      unfold specFieldType at h1
      cases hb : d'.bind (fun dd => (Spec.inputFieldByName dd n).map fun fd => (dd, fd)) with
      | none =>
        simp only
        have : (d'.bind fun dd => Spec.inputFieldByName dd n) = none := by
          cases d' with
          | none => rfl
          | some dd =>
            simp only [Option.bind_some] at hb ⊢
            cases hf : Spec.inputFieldByName dd n with
            | none => rfl
            | some fd => simp [hf] at hb
        rw [this] at h1
        simp only [Option.map_none] at h1
        rw [h2, h1]
        exact valSites_uses s hs v none _ false none rfl (by intro t h; cases h)
      | some pr =>
        obtain ⟨dd, fd⟩ := pr
        simp only
        have : (d'.bind fun dd => Spec.inputFieldByName dd n) = some fd := by
          cases d' with
          | none => cases hb
          | some dd' =>
            simp only [Option.bind_some] at hb ⊢
            cases hf : Spec.inputFieldByName dd' n with
            | none => simp [hf] at hb
            | some fd' =>
              simp only [hf, Option.map_some, Option.some.injEq, Prod.mk.injEq] at hb
              rw [hb.2]
        rw [this] at h1
        simp only [Option.map_some] at h1
        have hpn := hp n
        rw [h1] at hpn
        rw [h2, h1]
        exact valSites_uses s hs v (some fd.type) _ _ _ rfl hpn
  theorem listSites_uses (s : Schema) (hs : inputPositionsPlain s = true) :
      ∀ (ch : Children) (exp : Option GType) (dfn : Option Definition),
        dfn = exp.bind (fun t => s.type? t.name) → PlainOpt s exp →
        (listSites s.view exp dfn ch).filterMap siteVar = (Spec.usesInItems s (Spec.elemOf exp) ch).map useKey
    | .nil, exp, dfn, _, _ => by simp [listSites, Spec.usesInItems]
    | .cons n v q rest, exp, dfn, hd, hp => by
      simp only [listSites, Spec.usesInItems, List.filterMap_append, List.map_append]
      rw [listSites_uses s hs rest exp dfn hd hp]
      congr 1
      have h1 : (listChildLink exp dfn).1 = Spec.elemOf exp := by
        cases exp with
        | none => rfl
        | some t => cases t <;> rfl
      have h2 : (listChildLink exp dfn).2 = (Spec.elemOf exp).bind fun t => s.type? t.name := by
        cases exp with
        | none => rfl
        | some t =>
          cases t with
          | named _ _ _ => rfl
          | list e nn q' =>
            subst hd
            rfl
      rw [h2, h1]
      refine valSites_uses s hs v _ _ false none rfl ?_
      intro t ht
      cases exp with
      | none => cases ht
      | some t' =>
        cases t' with
        | named _ _ _ => cases ht
        | list e nn q' =>
          simp only [Spec.elemOf, Option.some.injEq] at ht
          subst ht
          exact hp (.list e nn q') rfl
end

theorem argValSites_uses (s : Schema) (hs : inputPositionsPlain s = true) (defs : Option (List ArgDef))
    (hdefs : ∀ l, defs = some l → ∀ a ∈ l, plainName s a.type.name = true) :
    ∀ args : List Argument,
      (argValSites s.view defs args).filterMap siteVar = (Spec.usesInArgs s defs args).map useKey
  | [] => rfl
  | a :: rest => by
    have ih := argValSites_uses s hs defs hdefs rest
    simp only [Spec.usesInArgs, argValSites, List.flatMap_cons, List.filterMap_append, List.map_append] at ih ⊢
    rw [ih]
    congr 1
    have h2 := argLink_snd s.view defs a.name
    have h1 : (argLink s.view defs a.name).1 = (defs.bind (Spec.argDefByName · a.name)).map (·.type) := by
      unfold argLink
      change (match defs.bind (Spec.argDefByName · a.name) with
        | some ad => linkOfType s.view ad.type
        | none => (none, none)).1 = _
      cases defs.bind (Spec.argDefByName · a.name) <;> rfl
    cases hb : defs.bind (Spec.argDefByName · a.name) with
    | none =>
      rw [hb] at h1
      simp only [Option.map_none] at h1
      simp only
      rw [h2, h1]
      exact valSites_uses s hs a.value none _ false none rfl (by intro t h; cases h)
    | some ad =>
      rw [hb] at h1
      simp only [Option.map_some] at h1
      simp only
      rw [h2, h1]
      refine valSites_uses s hs a.value (some ad.type) _ _ _ rfl ?_
      intro t ht
      injection ht with ht
      subst ht
      cases defs with
      | none => cases hb
      | some l =>
        simp only [Option.bind_some] at hb
        exact hdefs l rfl ad (List.mem_of_find?_eq_some hb)

/-- the rule-exact predicate: §5.8.5 with `hasLocationDefaultValue` taken to be false everywhere -/
def usagesAllowedIgnoringLocationDefault (s : Schema) (d : QueryDoc) : Bool :=
  d.ops.all fun op => (Spec.scopeUses s d op).all fun u =>
    match Spec.varDefByName op u.name, u.loc with
    | some v, some lt => Spec.isVariableUsageAllowed v lt false
    | _, _ => true

def noUsageAtDefaultedLocation (s : Schema) (d : QueryDoc) : Bool :=
  d.ops.all fun op => (Spec.scopeUses s d op).all fun u => !u.locDefault

/-- the innermost name of every variable type is not empty, list types included (the parser never
    produces an empty name) -/
def variableTypesNamed (d : QueryDoc) : Bool :=
  d.ops.all fun op => op.vars.all fun v => v.type.name != []

theorem variableTypesNamed_of_exist (s : Schema) (d : QueryDoc) (hE : s.type? [] = none)
    (h : Spec.variableTypesExist s d = true) : variableTypesNamed d = true := by
  simp only [Spec.variableTypesExist, variableTypesNamed, List.all_eq_true, bne_iff_ne, ne_eq] at h ⊢
  intro op hop v hv hn
  have := h op hop v hv
  rw [hn, hE] at this
  cases this

theorem inputPositionsPlain_of_closed (s : Schema) (hc : Gql.Spec.Closed s)
    (hleaf : ∀ p ∈ s.types, p.2.kind = .scalar ∨ p.2.kind = .enum → p.2.fields = []) :
    inputPositionsPlain s = true := by
  have key : ∀ n, Gql.Spec.typeIs s n Gql.Spec.isInputKind = true → plainName s n = true := by
    intro n h
    unfold Gql.Spec.typeIs at h
    unfold plainName
    change (match s.types.lookup n with
      | some dd => dd.kind == .inputObject || dd.fields.isEmpty
      | none => true) = true
    cases hl : s.types.lookup n with
    | none => rfl
    | some dd =>
      rw [hl] at h
      simp only at h ⊢
      have hm := hleaf (n, dd) (mem_of_lookup hl)
      cases hk : dd.kind <;> simp_all [Gql.Spec.isInputKind]
  simp only [inputPositionsPlain, Bool.and_eq_true, List.all_eq_true, Bool.or_eq_true, bne_iff_ne, ne_eq]
  refine ⟨fun p hp f hf => ⟨fun a ha => key _ (hc.argTypes p hp f hf a ha), ?_⟩,
    fun p hp a ha => key _ (hc.directiveArgTypes p hp a ha)⟩
  by_cases hk : p.2.kind = .inputObject
  · refine Or.inr (key _ ?_)
    have := hc.fieldTypes p hp f hf
    rw [hk] at this
    exact this
  · exact Or.inl hk

def Ranged (s : Schema) (p : Option Definition) : Prop := ∀ pd, p = some pd → ∃ n, (n, pd) ∈ s.types

theorem ranged_type? (s : Schema) (n : Name) : Ranged s (s.type? n) :=
  fun _ h => ⟨n, type?_mem h⟩

theorem typedSel_ranged (s : Schema) : ∀ (sel : Selection) (parent : Option Definition), Ranged s parent →
    ∀ t ∈ Spec.typedSel s parent sel, Ranged s t.parent :=
  typedSel_parent s (P := Ranged s) nofun (ranged_type? s)

def WalkVarKey (evs : List Event) (op : OperationDef) (k : Name × Option GType) : Prop :=
  ∃ e ∈ evs, e.cur = some op ∧ ∃ ch p dfn, e.p = .value (.mk .variable k.1 ch p) k.2 dfn

theorem key_of_args_event {s : SV} {cur : Option OperationDef} {defs : Option (List ArgDef)}
    {args : List Argument} {ws : WS} {e : Event} (he : e ∈ (walkArgs s cur defs args ws).2) {x : Name}
    {ch : Children} {p : Pos} {exp : Option GType} {dfn : Option Definition}
    (hp : e.p = .value (.mk .variable x ch p) exp dfn) :
    (x, exp) ∈ (argValSites s defs args).filterMap siteVar := by
  exact List.mem_filterMap.2 ⟨_, walkArgs_sound he hp, by simp [siteVar]⟩

theorem walkVarKey_of_args {s : SV} {evs : List Event} {op : OperationDef} {defs : Option (List ArgDef)}
    {args : List Argument} {ws : WS} (hsub : ∀ e ∈ (walkArgs s (some op) defs args ws).2, e ∈ evs)
    {k : Name × Option GType} (hk : k ∈ (argValSites s defs args).filterMap siteVar) : WalkVarKey evs op k := by
  obtain ⟨⟨exp, dfn, kk, raw, ch, p⟩, ht, hs⟩ := List.mem_filterMap.1 hk
  obtain ⟨e, he, hp⟩ := walkArgs_complete (some op) ws ht
  simp only [siteVar] at hs
  split at hs
  · rename_i hkk
    cases hs
    subst hkk
    exact ⟨e, hsub e he, walkArgs_cur s (some op) defs args ws e he, ch, p, dfn, hp⟩
  · cases hs

theorem argSites_plain (s : Schema) (d : QueryDoc) (hs : inputPositionsPlain s = true) (site : Spec.ArgSite)
    (hsite : site ∈ Spec.argSites s d) : ∀ l, site.defs = some l → ∀ a ∈ l, plainName s a.type.name = true :=
  fun _ hl => argSites_defs (P := fun a => plainName s a.type.name = true) (fun _ hp _ hf _ => plain_fieldArg s hs hp hf)
    (fun _ hp _ => plain_directiveArg s hs hp) hsite hl

section run
variable (s : Schema) (d : QueryDoc) (evs : List Event) (hw : walkDoc s.view d = some evs)
  (hwp : Spec.wellParented s d = true) (hs : inputPositionsPlain s = true)
  (hu : Spec.fragmentNameUniqueness d = true)
include hw hwp hs hu

theorem walkVarKey_of_scopeUses (op : OperationDef) (hop : op ∈ d.ops)
    {u : Spec.VarUse} (hx : u ∈ Spec.scopeUses s d op) : WalkVarKey evs op (useKey u) := by
  obtain ⟨site, hsite, hus, ws, hsub⟩ := scopeUses_site s d hwp hu op hop evs hw hx
  refine walkVarKey_of_args hsub ?_
  rw [argValSites_uses s hs _ (argSites_plain s d hs site hsite)]
  exact List.mem_map_of_mem hus

theorem scopeUses_of_walkVarKey (hcd : constDefaults d = true)
    (op : OperationDef) {k : Name × Option GType} (h : WalkVarKey evs op k) :
    ∃ u ∈ Spec.scopeUses s d op, useKey u = k := by
  obtain ⟨e, he, hc, ch, p, dfn, hp⟩ := h
  rcases event_block s d evs hw hwp hu e he _ _ _ hp with
    ⟨site, hsite, ws, hin, hscope⟩ | ⟨op', hop', vd, hvd, dv, ws, hdv, _, hin⟩
  · have hk := key_of_args_event hin hp
    rw [argValSites_uses s hs _ (argSites_plain s d hs site hsite)] at hk
    obtain ⟨u, hu', hku⟩ := List.mem_map.1 hk
    exact ⟨u, hscope op hc u hu', hku⟩
  · exact (constDefaults_no_var hcd hop' hvd hdv hin hp).elim

end run

theorem variablesInAllowedPositionStep_eq (sv : SV) (d : QueryDoc) (e : Event) :
    variablesInAllowedPositionStep sv d e =
      match e.p, e.cur with
      | .value v (some expected) _, some _ =>
        if v.kind != .variable then []
        else match e.links.varDef v.pos.start with
          | none => []
          | some vd =>
            if !ruleUsageAllowed vd expected then
              [errAt (str "Variable " ++ dq (valueString v) ++ str " of type " ++ dq vd.type.render
                ++ str " used in position expecting type " ++ dq expected.render ++ str ".") v.pos]
            else []
      | _, _ => [] := rfl

theorem variablesInAllowedPositionStep_nil_iff (sv : SV) (d : QueryDoc) (e : Event) :
    variablesInAllowedPositionStep sv d e = [] ↔
      ∀ v expected dfn op, e.p = .value v (some expected) dfn → e.cur = some op → v.kind = .variable →
        ∀ vd, e.links.varDef v.pos.start = some vd → ruleUsageAllowed vd expected = true := by
  rw [variablesInAllowedPositionStep_eq]
  split
  · rename_i v expected dfn op hp hc
    rw [hp, hc]
    simp only [Payload.value.injEq, Option.some.injEq, and_imp]
    constructor
    · rintro h _ _ _ _ rfl rfl rfl rfl hk vd hvd
      simp only [hk, bne_self_eq_false, Bool.false_eq_true, if_false, hvd] at h
      simpa using h
    · intro h
      split
      · rfl
      · rename_i hk
        split
        · rfl
        · rename_i vd hvd
          simp [h v expected dfn op rfl rfl rfl rfl (by simpa using hk) vd hvd]
  · rename_i hne
    exact ⟨fun _ v expected dfn op hp hc => (hne v expected dfn op hp hc).elim, fun _ => rfl⟩

theorem variableTypesNamed_apply {d : QueryDoc} (hn : variableTypesNamed d = true) :
    ∀ op ∈ d.ops, ∀ x vd, varForName op.vars x = some vd → vd.type.name ≠ [] := by
  intro op hop x vd hvd
  simp only [variableTypesNamed, List.all_eq_true, bne_iff_ne, ne_eq] at hn
  exact hn op hop vd (List.mem_of_find?_eq_some hvd)

/-- the direction that does not look at default values (no `constDefaults`): every use in scope has its event -/
theorem usagesAllowedIgnoring_of_silent (s : Schema) (d : QueryDoc) (evs : List Event)
    (hw : walkDoc s.view d = some evs) (hwp : Spec.wellParented s d = true)
    (hu : Spec.fragmentNameUniqueness d = true)
    (hs : inputPositionsPlain s = true) (hn : variableTypesNamed d = true)
    (h : ∀ e ∈ evs, variablesInAllowedPositionStep s.view d e = []) :
    usagesAllowedIgnoringLocationDefault s d = true := by
  unfold usagesAllowedIgnoringLocationDefault
  simp only [List.all_eq_true]
  have hnamed := variableTypesNamed_apply hn
  intro op hop u hu'
  cases hv : Spec.varDefByName op u.name with
  | none => rfl
  | some vd =>
    cases hl : u.loc with
    | none => rfl
    | some lt =>
      simp only
      obtain ⟨e, he, hc, ch, p, dfn, hp⟩ := walkVarKey_of_scopeUses s d evs hw hwp hs hu op hop hu'
      simp only [useKey, hl] at hp
      have hlink := walkDoc_varlink s.view d evs hw e he op hc _ ch p _ dfn hp
      have hvd : varForName op.vars u.name = some vd := hv
      rw [hvd] at hlink
      have := (variablesInAllowedPositionStep_nil_iff s.view d e).1 (h e he) _ lt dfn op hp hc rfl vd hlink
      rw [ruleUsageAllowed_eq vd lt (hnamed op hop _ vd hvd)] at this
      exact this

theorem variablesInAllowedPosition_iff (s : Schema) (d : QueryDoc) (evs : List Event)
    (hw : walkDoc s.view d = some evs) (hwp : Spec.wellParented s d = true)
    (hu : Spec.fragmentNameUniqueness d = true) (hcd : constDefaults d = true)
    (hs : inputPositionsPlain s = true) (hn : variableTypesNamed d = true) :
    (∀ e ∈ evs, variablesInAllowedPositionStep s.view d e = []) ↔
      usagesAllowedIgnoringLocationDefault s d = true := by
  refine ⟨usagesAllowedIgnoring_of_silent s d evs hw hwp hu hs hn, ?_⟩
  unfold usagesAllowedIgnoringLocationDefault
  simp only [List.all_eq_true]
  have hnamed := variableTypesNamed_apply hn
  intro h e he
  rw [variablesInAllowedPositionStep_nil_iff]
  intro v expected dfn op hp hc hk vd hvd
  obtain ⟨k, raw, ch, p⟩ := v
  have hk' : k = .variable := hk
  subst hk'
  have hop := (walkDoc_op_sound s.view d evs hw e he op hc).1
  obtain ⟨u, hu', hku⟩ := scopeUses_of_walkVarKey s d evs hw hwp hs hu hcd op
    (k := (raw, some expected)) ⟨e, he, hc, ch, p, dfn, hp⟩
  have hlink := walkDoc_varlink s.view d evs hw e he op hc raw ch p _ dfn hp
  have hvd' : varForName op.vars raw = some vd := by
    rw [← hlink]
    exact hvd
  simp only [useKey, Prod.mk.injEq] at hku
  have := h op hop u hu'
  have hv : Spec.varDefByName op u.name = some vd := by
    rw [hku.1]
    exact hvd'
  rw [hv, hku.2] at this
  simp only at this
  rw [ruleUsageAllowed_eq vd expected (hnamed op hop _ vd hvd')]
  exact this

theorem allVariableUsagesAllowed_of_ignoring (s : Schema) (d : QueryDoc)
    (h : usagesAllowedIgnoringLocationDefault s d = true) : Spec.allVariableUsagesAllowed s d = true := by
  unfold usagesAllowedIgnoringLocationDefault at h
  unfold Spec.allVariableUsagesAllowed
  simp only [List.all_eq_true] at h ⊢
  intro op hop u hu
  have := h op hop u hu
  split
  · rename_i v lt hv hl
    rw [hv, hl] at this
    exact isVariableUsageAllowed_mono v lt _ this
  · rfl

/-- the weaker form of the extra hypothesis (`noUsageAtDefaultedLocation` implies it): every usage at a
    location with a default value is allowed anyway (without the help of that default) -/
def defaultedLocationsHarmless (s : Schema) (d : QueryDoc) : Bool :=
  d.ops.all fun op => (Spec.scopeUses s d op).all fun u =>
    !u.locDefault ||
      match Spec.varDefByName op u.name, u.loc with
      | some v, some lt => Spec.isVariableUsageAllowed v lt false
      | _, _ => true

theorem defaultedLocationsHarmless_of_none (s : Schema) (d : QueryDoc)
    (h : noUsageAtDefaultedLocation s d = true) : defaultedLocationsHarmless s d = true := by
  unfold noUsageAtDefaultedLocation at h
  unfold defaultedLocationsHarmless
  simp only [List.all_eq_true, Bool.or_eq_true] at h ⊢
  exact fun op hop u hu => Or.inl (h op hop u hu)

theorem ignoring_iff_allVariableUsagesAllowed' (s : Schema) (d : QueryDoc)
    (hld : defaultedLocationsHarmless s d = true) :
    usagesAllowedIgnoringLocationDefault s d = true ↔ Spec.allVariableUsagesAllowed s d = true := by
  refine ⟨allVariableUsagesAllowed_of_ignoring s d, fun h => ?_⟩
  unfold usagesAllowedIgnoringLocationDefault
  unfold Spec.allVariableUsagesAllowed at h
  unfold defaultedLocationsHarmless at hld
  simp only [List.all_eq_true, Bool.or_eq_true, Bool.not_eq_true'] at h hld ⊢
  intro op hop u hu
  rcases hld op hop u hu with hf | hf
  · have := h op hop u hu
    rw [hf] at this
    exact this
  · exact hf

theorem ignoring_iff_allVariableUsagesAllowed (s : Schema) (d : QueryDoc)
    (hld : noUsageAtDefaultedLocation s d = true) :
    usagesAllowedIgnoringLocationDefault s d = true ↔ Spec.allVariableUsagesAllowed s d = true :=
  ignoring_iff_allVariableUsagesAllowed' s d (defaultedLocationsHarmless_of_none s d hld)

end Gql.Validate

namespace VarPositionWitness
open Gql Gql.Validate Gql.Validate.Rules

def tN (n : String) (nn : Bool) : GType := .named (str n) nn Pos.zero
def scalar (n : String) : Definition :=
  { kind := .scalar, desc := [], name := str n, dirs := [], interfaces := [], fields := [], types := [],
    enumValues := [], pos := Pos.zero, builtIn := true }
def argDef (n : String) (t : GType) (dflt : Option Value) : ArgDef :=
  { desc := [], name := str n, default := dflt, type := t, dirs := [], pos := Pos.zero }
def fieldDef (n : String) (args : List ArgDef) (t : GType) : FieldDef :=
  { desc := [], name := str n, args := args, default := none, type := t, dirs := [], pos := Pos.zero }
def typeDef (k : DefKind) (n : String) (fields : List FieldDef) : Definition :=
  { kind := k, desc := [], name := str n, dirs := [], interfaces := [], fields := fields, types := [],
    enumValues := [], pos := Pos.zero, builtIn := false }
def five : Value := .mk .int (str "5") .nil Pos.zero
def var (n : String) : Value := .mk .variable (str n) .nil Pos.zero
def varDef (n : String) (t : GType) (dflt : Option Value) : VarDef :=
  { var := str n, type := t, default := dflt, dirs := [], pos := Pos.zero }
def fld (n : String) (args : List Argument) : Selection := .field [] (str n) args [] .nil Pos.zero
def arg (n : String) (v : Value) : Argument := { name := str n, value := v, pos := Pos.zero }
def query (vars : List VarDef) (sel : Selections) : OperationDef :=
  { op := str "query", name := [], vars := vars, dirs := [], sel := sel, pos := Pos.zero }

def schemaWith (fd : FieldDef) (extra : List (Name × Definition)) : Schema :=
  { Schema.empty with
    query := some (str "Q"),
    types := [(str "Int", scalar "Int"), (str "String", scalar "String"), (str "Q", typeDef .object "Q" [fd])] ++ extra }

/-- `type Q { f(r: Int! = 5): Int }` -/
def schemaLocDefault : Schema := schemaWith (fieldDef "f" [argDef "r" (tN "Int" true) (some five)] (tN "Int" false)) []
/-- `query($v: Int) { f(r: $v) }` -/
def docNullable : QueryDoc :=
  { ops := [query [varDef "v" (tN "Int" false) none] (.cons (fld "f" [arg "r" (var "v")]) .nil)], frags := [] }
/-- `query($v: Int!) { f(r: $v) }` -/
def docNonNull : QueryDoc :=
  { ops := [query [varDef "v" (tN "Int" true) none] (.cons (fld "f" [arg "r" (var "v")]) .nil)], frags := [] }

/-- `type Q { f(a: O): Int }  type O { x: Int! }` — an OBJECT type as the type of an argument -/
def schemaObjectArg : Schema :=
  schemaWith (fieldDef "f" [argDef "a" (tN "O" false) none] (tN "Int" false))
    [(str "O", typeDef .object "O" [fieldDef "x" [] (tN "Int" true)])]
/-- `query($v: Int) { f(a: {x: $v}) }` -/
def docObjectArg : QueryDoc :=
  { ops := [query [varDef "v" (tN "Int" false) none]
      (.cons (fld "f" [arg "a" (.mk .object [] (.cons (str "x") (var "v") Pos.zero .nil) Pos.zero)]) .nil)], frags := [] }

/-- `type Q { f(r: [Int]): Int }` -/
def schemaListArg : Schema :=
  schemaWith (fieldDef "f" [argDef "r" (.list (tN "Int" false) false Pos.zero) none] (tN "Int" false)) []
/-- `query($v: «»)  { f(r: $v) }` with the (unparseable) named type whose name is empty -/
def docEmptyTypeName : QueryDoc :=
  { ops := [query [varDef "v" (.named [] false Pos.zero) none] (.cons (fld "f" [arg "r" (var "v")]) .nil)], frags := [] }

/-- `type Q { f(r: Int): Int }` -/
def schemaPlain : Schema := schemaWith (fieldDef "f" [argDef "r" (tN "Int" false) none] (tN "Int" false)) []
/-- `query($v: Int, $w: Int! = $v) { f }` — a variable inside a default value (not `Value[Const]`) -/
def docVarInDefault : QueryDoc :=
  { ops := [query [varDef "v" (tN "Int" false) none, varDef "w" (tN "Int" true) (some (var "v"))]
      (.cons (fld "f" []) .nil)], frags := [] }

/-- `query($v: String) { ...F }  fragment F on Q { f(r: 5) }  fragment F on Q { f(r: $v) }`, both
    definitions at the same position -/
def docTwoFragments : QueryDoc :=
  { ops := [query [varDef "v" (tN "String" false) none] (.cons (.spread (str "F") [] Pos.zero) .nil)],
    frags := [{ name := str "F", vars := [], typeCond := str "Q", dirs := [],
                sel := .cons (fld "f" [arg "r" five]) .nil, pos := Pos.zero },
              { name := str "F", vars := [], typeCond := str "Q", dirs := [],
                sel := .cons (fld "f" [arg "r" (var "v")]) .nil, pos := Pos.zero }] }

/-- `input I { x(r: Int!): Int }` (arguments on an input field: not loadable) next to `type Q { f(r: Int): Int }` -/
def schemaInputParent : Schema :=
  schemaWith (fieldDef "f" [argDef "r" (tN "Int" false) none] (tN "Int" false))
    [(str "I", typeDef .inputObject "I" [fieldDef "x" [argDef "r" (tN "Int" true) none] (tN "Int" false)])]
/-- `query($v: Int) { ... on I { x(r: $v) } }` — a selection on an input object -/
def docInputParent : QueryDoc :=
  { ops := [query [varDef "v" (tN "Int" false) none]
      (.cons (.inline (str "I") [] (.cons (fld "x" [arg "r" (var "v")]) .nil) Pos.zero) .nil)], frags := [] }

end VarPositionWitness
