import GqlProofs.ValSpec.IntrospectionDepthRule
import GqlProofs.ValSpec.ScopeComplete
import GqlProofs.ValSpec.LeafFrag
/-
  MaxIntrospectionDepth, the link table: every field node written in the document has an event at whose time all spreads
  reachable from its sub-selections are linked (`walkDoc_fieldLinked`).  It is the event fired for the node in the walk
  of the operation / of the stand-alone fragment definition the node is WRITTEN in: there no fragment is "in progress"
  (every visited fragment has been walked completely, `AllDone`), so the closure of the marks under reachability holds
  whatever the document (cycles included).  Complete sub-walks are taken from `WalkC` (ScopeComplete.lean).  With it the
  rule is silent iff the specification predicate holds, for documents without fragment cycles
  (`maxIntrospectionDepth_iff`); `docCyc_counterexample`: not so with a cycle.
-/
namespace Gql.Validate
open Gql Gql.Validate.Rules

def MarksDone (d : QueryDoc) (ws : WS) (f : FragmentDef) : Prop :=
  (∀ nm dirs p, InSels f.sel (.sel (.spread nm dirs p)) → ws.links.linked p.start = true) ∧
  ∀ m ∈ Spec.spreadsOfSels f.sel, ∀ g, fragForName d m = some g → m ∈ ws.visited

def AllDone (d : QueryDoc) (ws : WS) : Prop :=
  ∀ n ∈ ws.visited, ∀ f, fragForName d n = some f → MarksDone d ws f

theorem MarksDone.ext {d : QueryDoc} {ws ws' : WS} {f : FragmentDef} (h : MarksDone d ws f)
    (hm : ∀ k, ws.links.linked k = true → ws'.links.linked k = true) (hv : ws.visited ⊆ ws'.visited) :
    MarksDone d ws' f :=
  ⟨fun nm dirs p hi => hm _ (h.1 nm dirs p hi), fun m hmem g hg => hv (h.2 m hmem g hg)⟩

theorem FragDone.toMarks {s : SV} {d : QueryDoc} {cur : Option OperationDef} {r : WS × List Event} {f : FragmentDef}
    (h : FragDone s d cur r f) : MarksDone d r.1 f := by
  refine ⟨fun nm dirs p hi => ?_, h.2.2⟩
  obtain ⟨p', hp'⟩ := inSels_lift s f.sel (s.type? f.typeCond) _ hi
  exact (h.1 p' _ hp').2.1

theorem AllDone.frame {d : QueryDoc} {ws ws' : WS} (h : AllDone d ws) (hv : ws'.visited = ws.visited)
    (hm : ∀ k, ws.links.linked k = true → ws'.links.linked k = true) : AllDone d ws' := by
  intro n hn f hf
  rw [hv] at hn
  exact (h n hn f hf).ext hm (by rw [hv]; exact fun _ hx => hx)

theorem AllDone.after {s : SV} {d : QueryDoc} {cur : Option OperationDef} {names : List Name}
    {nodes : Option Definition → Selection → Prop} {ws : WS} {r : WS × List Event}
    (h : AllDone d ws) (hw : WalkC s d cur names nodes ws r) : AllDone d r.1 := by
  intro n hn f hf
  by_cases hold : n ∈ ws.visited
  · exact (h n hold f hf).ext hw.marks hw.mono
  · obtain ⟨g, hg, hd⟩ := hw.new n hn hold
    rw [hf] at hg
    injection hg with hg
    subst hg
    exact hd.toMarks

theorem AllDone.reach {d : QueryDoc} {ws : WS} (h : AllDone d ws) {names : List Name}
    (hsrc : ∀ m ∈ names, ∀ g, fragForName d m = some g → m ∈ ws.visited) :
    ∀ n, Reach d names n → ∀ g, fragForName d n = some g → n ∈ ws.visited :=
  Reach.closed hsrc fun m f _ hm hf => (h m hm f hf).2

section walk
variable (s : SV) (d : QueryDoc) (cur : Option OperationDef)

theorem reachLinked_after (J : Jump) (hJ : JumpC s d cur J) (sub : Selections) (parent : Option Definition) (ws : WS)
    (r : WS × List Event) (hd : AllDone d ws) (h : walkSelections s d cur J parent sub ws = some r) :
    ReachLinked r.1.links d (.many sub) := by
  have hw := walkSelections_c s d cur J hJ sub parent ws r h
  have hd' := hd.after hw
  constructor
  · intro nm dirs p hi
    obtain ⟨p', hp'⟩ := inSels_lift s sub parent _ hi
    exact (hw.nodes p' _ hp').2.1
  · intro n g hr hg nm dirs p hi
    have hv := hd'.reach (names := Spec.spreadsOfSels sub) hw.src n hr g hg
    exact (hd' n hv g hg).1 nm dirs p hi

def FieldEvs (evs : List Event) (node : DNode) : Prop :=
  ∀ al nm args dirs sub p, node.Has (.field al nm args dirs sub p) →
    ∃ e ∈ evs, (∃ par dfn, e.p = .field ⟨al, nm, args, dirs, sub, p⟩ par dfn) ∧ ReachLinked e.links d (.many sub)

theorem FieldEvs.mono {d : QueryDoc} {a b : List Event} {node : DNode} (h : FieldEvs d a node) (hab : ∀ e ∈ a, e ∈ b) :
    FieldEvs d b node := by
  intro al nm args dirs sub p hi
  obtain ⟨e, he, x⟩ := h al nm args dirs sub p hi
  exact ⟨e, hab e he, x⟩

theorem walkSel_fl_cases (J : Jump) (hJ : JumpC s d cur J) :
    WalkCases s d cur J (fun _ x ws r => AllDone d ws → FieldEvs d r.2 (.one x))
      (fun _ xs ws r => AllDone d ws → FieldEvs d r.2 (.many xs)) where
  field := fun parent _ nm args dirs sub p ws r3 h3 ih hd => by
    have hd2 : AllDone d (walkDirectives s cur (wNext s parent nm) dirs locField
        (walkArgs s cur ((wFieldDef parent nm).map (·.args)) args (ws.markSel p.start)).1).1 := hd.frame
      (by rw [walkDirectives_visited, walkArgs_visited, markSel_visited])
      (pre_linked ws p.start _ (by rw [walkDirectives_sels, walkArgs_sels])).2
    intro al' nm' args' dirs' sub' p' hi
    cases hi with
    | self =>
      exact ⟨_, List.mem_append_right _ (List.mem_singleton.2 rfl), ⟨_, _, rfl⟩,
        reachLinked_after s d cur J hJ sub _ _ r3 hd2 h3⟩
    | fieldSub _ _ _ _ _ _ _ hs => exact (ih hd2).mono (sub_mid _ _) al' nm' args' dirs' sub' p' hs
  inline := fun parent tc dirs _ p ws _ _ ih hd => by
    have hd2 : AllDone d (walkDirectives s cur (wInline s parent tc) dirs locInlineFragment (ws.markSel p.start)).1 := hd.frame
      (by rw [walkDirectives_visited, markSel_visited]) (pre_linked ws p.start _ (by rw [walkDirectives_sels])).2
    intro al' nm' args' dirs' sub' p' hi
    cases hi with
    | inlineSub _ _ _ _ _ hs => exact (ih hd2).mono (sub_mid _ _) al' nm' args' dirs' sub' p' hs
  spreadStop := fun _ _ _ _ _ _ _ _ _ _ _ _ _ hi => by cases hi
  spreadJump := fun _ _ _ _ _ _ _ _ _ _ _ _ _ _ _ _ _ hi => by cases hi
  nil := fun _ _ _ _ _ _ _ _ _ hi => by cases hi
  cons := fun parent x _ ws r1 _ h1 _ ih1 ih2 hd => by
    have hd1 := hd.after (walkSelection_c s d cur J hJ x parent ws r1 h1)
    intro al' nm' args' dirs' sub' p' hi
    cases hi with
    | head _ _ _ hx => exact (ih1 hd).mono (sub_inl _) al' nm' args' dirs' sub' p' hx
    | tail _ _ _ hx => exact (ih2 hd1).mono (sub_inr _) al' nm' args' dirs' sub' p' hx

theorem walkSelection_fl (J : Jump) (hJ : JumpC s d cur J) :
    ∀ (x : Selection) (parent : Option Definition) (ws : WS) r, AllDone d ws →
      walkSelection s d cur J parent x ws = some r → FieldEvs d r.2 (.one x) :=
  fun x parent ws r hd h => walkSelection_induct (walkSel_fl_cases s d cur J hJ) x parent ws r h hd

theorem walkLevel_fl (n : Nat) (parent : Option Definition) (sels : Selections) (ws : WS) (r : WS × List Event)
    (hv : ws.visited = []) (h : walkLevel s d cur (n + 1) parent sels ws = some r) : FieldEvs d r.2 (.many sels) :=
  walkSelections_induct (walkSel_fl_cases s d cur _ (walkLevel_c s d cur n)) sels parent ws r h
    (fun n hn => by rw [hv] at hn; cases hn)

end walk

theorem walkDoc_fieldLinked (s : SV) (d : QueryDoc) (evs : List Event) (h : walkDoc s d = some evs) :
    ∀ al nm args dirs sub p, InDocSel d (.sel (.field al nm args dirs sub p)) →
      ∃ e ∈ evs, (∃ par dfn, e.p = .field ⟨al, nm, args, dirs, sub, p⟩ par dfn) ∧ ReachLinked e.links d (.many sub) := by
  rintro al nm args dirs sub p (⟨op, hop, hi⟩ | ⟨f, hf, hi⟩)
  · obtain ⟨l, r, hr, hsub⟩ := walkDoc_op_events h hop
    obtain ⟨r4, h4, rfl⟩ := walkOperation_inv hr
    exact (walkLevel_fl s d _ _ _ _ _ r4 (by rw [walkDirectives_visited, walkVarDefsB_visited]) h4).mono
      (fun e he => hsub e (sub_mid _ _ e he)) al nm args dirs sub p hi
  · obtain ⟨l, r, hr, hsub⟩ := walkDoc_frag_events h hf
    obtain ⟨r2, h2, rfl⟩ := walkFragment_inv hr
    exact (walkLevel_fl s d _ _ _ _ _ r2 (by rw [walkDirectives_visited]) h2).mono
      (fun e he => hsub e (sub_mid _ _ e he)) al nm args dirs sub p hi

theorem maxIntrospectionDepth_iff (s : Schema) (d : QueryDoc) (evs : List Event)
    (hw : walkDoc s.view d = some evs) (hc : Spec.noFragmentCycles d = true) :
    (∀ e ∈ evs, maxIntrospectionDepthStep s.view d e = .ok []) ↔ Spec.maxIntrospectionDepth d = true := by
  have hac := noSelfReach_of_spec hc
  refine ⟨fun h => ?_, maxIntrospectionDepth_of_spec s d evs hw⟩
  rw [spec_maxIntrospectionDepth_iff]
  intro al nm args dirs sub p hi hr
  obtain ⟨e, he, ⟨par, dfn, hp⟩, hlk⟩ := walkDoc_fieldLinked s.view d evs hw al nm args dirs sub p hi
  obtain ⟨cl, hcheck⟩ := (introStep_field s.view d e _ par dfn hp hr).1 (h e he)
  have hnd := (checkDepthSelections_complete e.links d hac _ (depthLevel_complete e.links d hac _) sub [] 0 [] _
    hlk (noCut_nil d _) (fun _ _ hm => by cases hm) hcheck).2 rfl
  cases hs : Spec.deepSels d (Spec.deepLevel d (d.frags.length + 1)) sub [] 0 with
  | false => rfl
  | true => exact absurd (deepSels_sound d _ (deepLevel_sound d _) sub [] 0 (by omega) hs) hnd

end Gql.Validate

namespace Gql.Validate.IntrospectionWitness
open Gql Gql.Validate Gql.Validate.Rules

def at' (n : Nat) : Pos := { start := n, stop := n + 1, line := 1, col := n + 1 }
def fld (n : String) (p : Nat) (sub : Selections) : Selection := .field (str n) (str n) [] [] sub (at' p)
def spr (n : String) (p : Nat) : Selection := .spread (str n) [] (at' p)
def sels : List Selection → Selections
  | [] => .nil
  | x :: xs => .cons x (sels xs)
def frag (n : String) (p : Nat) (s : Selections) : FragmentDef :=
  { name := str n, vars := [], typeCond := str "Query", dirs := [], sel := s, pos := at' p }
def qry (p : Nat) (s : Selections) : OperationDef :=
  { op := str "query", name := [], vars := [], dirs := [], sel := s, pos := at' p }

/-- `{ __schema { ...A } }  fragment A on Query { fields { fields { x } } }` : acyclic, within the limit -/
def docShallow : QueryDoc :=
  { ops := [qry 0 (sels [fld "__schema" 1 (sels [spr "A" 2])])],
    frags := [frag "A" 10 (sels [fld "fields" 11 (sels [fld "fields" 12 (sels [fld "x" 13 .nil])])])] }

/-- `{ __schema { ...A } }  fragment A on Query { fields { fields { fields { x } } } }` : acyclic, too deep -/
def docDeep : QueryDoc :=
  { ops := [qry 0 (sels [fld "__schema" 1 (sels [spr "A" 2])])],
    frags := [frag "A" 10 (sels [fld "fields" 11 (sels [fld "fields" 12 (sels [fld "fields" 13 (sels [fld "x" 14 .nil])])])])] }

/-- `{ __schema { ...A ...B } }  fragment A on Query { ...B fields { fields { x } } }
     fragment B on Query { fields { ...A } }` : the cycle A → B → A.
    Path `__schema → B → fields → A → fields → fields` passes 3 list fields.  The rule goes
    `__schema → A → B` first; there `...A` is cut (A is being visited) and B is remembered as
    "cleared from depth 0"; then A itself is cleared (2 list fields); then `...B` at depth 0 is
    skipped because of the memo entry — which was computed while A was cut. -/
def docCyc : QueryDoc :=
  { ops := [qry 0 (sels [fld "__schema" 1 (sels [spr "A" 2, spr "B" 3])])],
    frags := [frag "A" 10 (sels [spr "B" 11, fld "fields" 12 (sels [fld "fields" 13 (sels [fld "x" 14 .nil])])]),
              frag "B" 20 (sels [fld "fields" 21 (sels [spr "A" 22])])] }

/-- `fragment G on Query { __schema { ...G } other { ...H } }  fragment H on Query { fields { fields { fields { x } } } }`
    (no operation): at the `__schema` event fired INSIDE the jump `...G` the spread `...H` is not linked yet and that check
    finds nothing; the event fired for the same node when the stand-alone walk of `G` comes back to it sees `...H` linked. -/
def docLate : QueryDoc :=
  { ops := [],
    frags := [frag "G" 0 (sels [fld "__schema" 1 (sels [spr "G" 2]), fld "other" 3 (sels [spr "H" 4])]),
              frag "H" 10 (sels [fld "fields" 11 (sels [fld "fields" 12 (sels [fld "fields" 13 (sels [fld "x" 14 .nil])])])])] }

/- the hypothesis `Spec.noFragmentCycles d = true` is satisfiable, with both outcomes -/
example : Spec.noFragmentCycles docShallow = true ∧ Spec.maxIntrospectionDepth docShallow = true ∧
    validate [maxIntrospectionDepth] Schema.empty docShallow = .ok [] := by decide +kernel

example : Spec.noFragmentCycles docDeep = true ∧ Spec.maxIntrospectionDepth docDeep = false ∧
    validate [maxIntrospectionDepth] Schema.empty docDeep =
      .ok [{ rule := str "MaxIntrospectionDepth", msg := str "Maximum introspection depth exceeded", locs := [(1, 2)] }] := by
  decide +kernel

/-- without `Spec.noFragmentCycles` the direction "silent ⇒ specification predicate" fails -/
theorem docCyc_counterexample : Spec.noFragmentCycles docCyc = false ∧
    validate [maxIntrospectionDepth] Schema.empty docCyc = .ok [] ∧ Spec.maxIntrospectionDepth docCyc = false := by
  decide +kernel

/-- a late link is no disagreement: both sides reject `docLate` -/
example : Spec.maxIntrospectionDepth docLate = false ∧
    validate [maxIntrospectionDepth] Schema.empty docLate =
      .ok [{ rule := str "MaxIntrospectionDepth", msg := str "Maximum introspection depth exceeded", locs := [(1, 2)] }] := by
  decide +kernel

end Gql.Validate.IntrospectionWitness
