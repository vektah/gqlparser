import GqlProofs.ValSpec.Events
/-
  Syntactic coverage, soundness: every `field`, `directive` and `directiveList` event of a run is about a field node
  or a directive list written in the document (`walkDoc_cov`); the converse is `walkDoc_hasItems` in `Complete.lean`.

  `InSel x i`: the item `i` (a selection node, or the directive list of a node with its location)
  occurs in the subtree of the selection `x`; `InDoc`: it occurs in an operation or a fragment
  definition of the document.
-/
namespace Gql.Validate
open Gql

inductive Item
  | sel (x : Selection)
  | dirs (loc : Bytes) (ds : List Directive)

mutual
  inductive InSel : Selection → Item → Prop
    | self (x : Selection) : InSel x (.sel x)
    | fieldDirs (al nm : Name) (args : List Argument) (dirs : List Directive) (sub : Selections) (p : Pos) :
        InSel (.field al nm args dirs sub p) (.dirs locField dirs)
    | fieldSub (al nm : Name) (args : List Argument) (dirs : List Directive) (sub : Selections) (p : Pos) (i : Item) :
        InSels sub i → InSel (.field al nm args dirs sub p) i
    | inlineDirs (tc : Name) (dirs : List Directive) (sub : Selections) (p : Pos) :
        InSel (.inline tc dirs sub p) (.dirs locInlineFragment dirs)
    | inlineSub (tc : Name) (dirs : List Directive) (sub : Selections) (p : Pos) (i : Item) :
        InSels sub i → InSel (.inline tc dirs sub p) i
    | spreadDirs (nm : Name) (dirs : List Directive) (p : Pos) :
        InSel (.spread nm dirs p) (.dirs locFragmentSpread dirs)
  inductive InSels : Selections → Item → Prop
    | head (x : Selection) (rest : Selections) (i : Item) : InSel x i → InSels (.cons x rest) i
    | tail (x : Selection) (rest : Selections) (i : Item) : InSels rest i → InSels (.cons x rest) i
end

mutual
  theorem mem_spreadsOfSel_iff (n : Name) : ∀ x : Selection,
      n ∈ Spec.spreadsOfSel x ↔ ∃ dirs p, InSel x (.sel (.spread n dirs p))
    | .field al nm args dirs sub pos => by
      simp only [Spec.spreadsOfSel]
      rw [mem_spreadsOfSels_iff n sub]
      constructor
      · rintro ⟨ds, p, h⟩
        exact ⟨ds, p, InSel.fieldSub al nm args dirs sub pos _ h⟩
      · rintro ⟨ds, p, h⟩
        cases h with
        | fieldSub _ _ _ _ _ _ _ hs => exact ⟨ds, p, hs⟩
    | .inline tc dirs sub pos => by
      simp only [Spec.spreadsOfSel]
      rw [mem_spreadsOfSels_iff n sub]
      constructor
      · rintro ⟨ds, p, h⟩
        exact ⟨ds, p, InSel.inlineSub tc dirs sub pos _ h⟩
      · rintro ⟨ds, p, h⟩
        cases h with
        | inlineSub _ _ _ _ _ hs => exact ⟨ds, p, hs⟩
    | .spread nm dirs pos => by
      simp only [Spec.spreadsOfSel, List.mem_singleton]
      constructor
      · rintro rfl
        exact ⟨dirs, pos, InSel.self _⟩
      · rintro ⟨ds, p, h⟩
        cases h with
        | self => rfl
  theorem mem_spreadsOfSels_iff (n : Name) : ∀ xs : Selections,
      n ∈ Spec.spreadsOfSels xs ↔ ∃ dirs p, InSels xs (.sel (.spread n dirs p))
    | .nil => by
      simp only [Spec.spreadsOfSels, List.not_mem_nil, false_iff]
      rintro ⟨_, _, h⟩
      cases h
    | .cons x rest => by
      simp only [Spec.spreadsOfSels, List.mem_append]
      rw [mem_spreadsOfSel_iff n x, mem_spreadsOfSels_iff n rest]
      constructor
      · rintro (⟨ds, p, h⟩ | ⟨ds, p, h⟩)
        · exact ⟨ds, p, InSels.head x rest _ h⟩
        · exact ⟨ds, p, InSels.tail x rest _ h⟩
      · rintro ⟨ds, p, h⟩
        cases h with
        | head _ _ _ hx => exact Or.inl ⟨ds, p, hx⟩
        | tail _ _ _ hx => exact Or.inr ⟨ds, p, hx⟩
end

def InDoc (s : SV) (d : QueryDoc) (i : Item) : Prop :=
  (∃ op ∈ d.ops, InSels op.sel i ∨ i = .dirs (opRoot s op.op).2 op.dirs ∨
      ∃ v ∈ op.vars, i = .dirs locVariableDefinition v.dirs) ∨
  (∃ f ∈ d.frags, InSels f.sel i ∨ i = .dirs locFragmentDefinition f.dirs)

def CovSound (s : SV) (d : QueryDoc) : Payload → Prop
  | .directive dir dfn _ loc => dfn = s.directive? dir.name ∧ ∃ ds, InDoc s d (.dirs loc ds) ∧ dir ∈ ds
  | .directiveList ds => ∃ loc, InDoc s d (.dirs loc ds)
  | .field f _ _ => InDoc s d (.sel (.field f.alias f.name f.args f.dirs f.sel f.pos))
  | _ => True

theorem walkDirectives_cov (s : SV) (d : QueryDoc) (cur : Option OperationDef) (parent : Option Definition)
    (ds : List Directive) (loc : Bytes) (ws : WS) (hds : InDoc s d (.dirs loc ds)) :
    AllP (CovSound s d) (walkDirectives s cur parent ds loc ws).2 :=
  walkDirectives_allE (P := fun e => CovSound s d e.p) (fun _ _ _ _ => trivial) parent loc ds
    (fun _ _ hd => ⟨rfl, ds, hds, hd⟩) (fun _ => ⟨loc, hds⟩) ws

def JumpCov (s : SV) (d : QueryDoc) (J : Jump) : Prop :=
  ∀ parent sels (ws : WS) r, (∀ i, InSels sels i → InDoc s d i) → J parent sels ws = some r →
    AllP (CovSound s d) r.2

theorem inDoc_of_frag {s : SV} {d : QueryDoc} {f : FragmentDef} (hf : f ∈ d.frags) :
    ∀ i, InSels f.sel i → InDoc s d i := fun _ h => Or.inr ⟨f, hf, Or.inl h⟩

theorem walkSel_cov_cases (s : SV) (d : QueryDoc) (cur : Option OperationDef) (J : Jump) (hJ : JumpCov s d J) :
    WalkCases s d cur J (fun _ x _ r => (∀ i, InSel x i → InDoc s d i) → AllP (CovSound s d) r.2)
      (fun _ xs _ r => (∀ i, InSels xs i → InDoc s d i) → AllP (CovSound s d) r.2) where
  field := fun _ al nm args dirs sub p _ _ _ ih hx =>
    AllP.append (AllP.append (AllP.append (walkArgs_all (fun _ _ _ => trivial) cur _ args _)
      (walkDirectives_cov s d cur _ dirs _ _ (hx _ (InSel.fieldDirs al nm args dirs sub p))))
      (ih fun i hi => hx i (InSel.fieldSub al nm args dirs sub p i hi))) (AllP.single (hx _ (InSel.self _)))
  inline := fun _ tc dirs sub p _ _ _ ih hx =>
    AllP.append (AllP.append (walkDirectives_cov s d cur _ dirs _ _ (hx _ (InSel.inlineDirs tc dirs sub p)))
      (ih fun i hi => hx i (InSel.inlineSub tc dirs sub p i hi))) (AllP.single trivial)
  spreadStop := fun _ nm dirs p _ _ hx =>
    AllP.append (walkDirectives_cov s d cur _ dirs _ _ (hx _ (InSel.spreadDirs nm dirs p))) (AllP.single trivial)
  spreadJump := fun _ nm dirs p _ f r3 hf _ h3 hx =>
    AllP.append (AllP.append (AllP.append (walkDirectives_cov s d cur _ dirs _ _ (hx _ (InSel.spreadDirs nm dirs p)))
      (walkDirectives_cov s d cur _ f.dirs _ _ (Or.inr ⟨f, fragForName_mem hf, Or.inr rfl⟩)))
      (hJ _ _ _ r3 (inDoc_of_frag (fragForName_mem hf)) h3)) (AllP.single trivial)
  nil := fun _ _ _ => AllP.nil
  cons := fun _ x rest _ _ _ _ _ ih1 ih2 hx =>
    AllP.append (ih1 fun i hi => hx i (InSels.head x rest i hi)) (ih2 fun i hi => hx i (InSels.tail x rest i hi))

theorem walkSelection_cov (s : SV) (d : QueryDoc) (cur : Option OperationDef) (J : Jump) (hJ : JumpCov s d J) :
    ∀ (x : Selection) (parent : Option Definition) (ws : WS) r, (∀ i, InSel x i → InDoc s d i) →
      walkSelection s d cur J parent x ws = some r → AllP (CovSound s d) r.2 :=
  fun x parent ws r hx h => walkSelection_induct (walkSel_cov_cases s d cur J hJ) x parent ws r h hx

theorem walkLevel_cov (s : SV) (d : QueryDoc) (cur : Option OperationDef) : ∀ n, JumpCov s d (walkLevel s d cur n) :=
  fun n parent sels ws r hx h =>
    walkLevel_induct (fun J hJ => walkSel_cov_cases s d cur J fun p x w r hx h => hJ p x w r h hx) n parent sels ws r h hx

theorem walkDoc_cov (s : SV) (d : QueryDoc) (evs : List Event) (h : walkDoc s d = some evs) :
    AllP (CovSound s d) evs := by
  refine walkDoc_forall (P := fun e => CovSound s d e.p) (fun op hop l r h => ?_) (fun f hf l r h => ?_) h
  · obtain ⟨r4, h4, rfl⟩ := walkOperation_inv h
    refine AllP.append (AllP.append (AllP.append (AllP.append ?_ ?_)
      (walkDirectives_cov s d _ _ op.dirs _ _ (Or.inl ⟨op, hop, Or.inr (Or.inl rfl)⟩)))
      (walkLevel_cov s d (some op) _ _ _ _ r4 (fun i hi => Or.inl ⟨op, hop, Or.inl hi⟩) h4)) (AllP.single trivial)
    · exact walkVarDefsA_allE (P := fun e => CovSound s d e.p) (vds := op.vars) (fun _ _ _ => trivial) _ _ (fun _ h => h)
    · exact walkVarDefsB_allE (P := fun e => CovSound s d e.p) (fun _ _ _ _ => trivial) op.vars
        (fun _ v dir hv hd => ⟨rfl, v.dirs, Or.inl ⟨op, hop, Or.inr (Or.inr ⟨v, hv, rfl⟩)⟩, hd⟩)
        (fun _ v hv => ⟨_, Or.inl ⟨op, hop, Or.inr (Or.inr ⟨v, hv, rfl⟩)⟩⟩) _ _ (fun _ h => h)
  · obtain ⟨r2, h2, rfl⟩ := walkFragment_inv h
    exact AllP.append (AllP.append (walkDirectives_cov s d _ _ f.dirs _ _ (Or.inr ⟨f, hf, Or.inr rfl⟩))
      (walkLevel_cov s d none _ _ _ _ r2 (inDoc_of_frag hf) h2)) (AllP.single trivial)

end Gql.Validate
