import GqlProofs.Validate.Witness
import GqlModel.Validate.Spec.Links
/-
  Concrete schemas and documents for the kernel-checked examples of C09: what the real loader /
  parser produce for the quoted texts, minus the prelude (positions only need distinct `start`
  offsets).
-/
namespace Gql.Validate.LinkWitness
open Gql Gql.Validate Gql.Validate.Witness

def fld (n : String) (ty : GType) (args : List ArgDef := []) : FieldDef :=
  { desc := [], name := str n, args := args, default := none, type := ty, dirs := [], pos := Pos.zero }

def arg (n : String) (ty : GType) : ArgDef :=
  { desc := [], name := str n, default := none, type := ty, dirs := [], pos := Pos.zero }

def mkDef (k : DefKind) (n : String) (fs : List FieldDef) (members : List String := []) : Definition :=
  { kind := k, desc := [], name := str n, dirs := [], interfaces := [], fields := fs, types := members.map str,
    enumValues := [], pos := Pos.zero, builtIn := false }

def tList (e : GType) (nn : Bool := false) : GType := .list e nn Pos.zero

def leaf (n : String) (o : Nat) : Selection := .field (str n) (str n) [] [] .nil (at' o)

/-- `type Query { ab: AB } type T { id: ID } type A { o: T } union AB = A` -/
def schemaI : Schema :=
  { Schema.empty with
    query := some (str "Query"),
    types := [(str "A", mkDef .object "A" [fld "o" (tNamed "T")]), (str "AB", mkDef .union "AB" [] ["A"]),
              (str "ID", scalar "ID"), (str "Query", mkDef .object "Query" [fld "ab" (tNamed "AB")]),
              (str "String", scalar "String"), (str "T", mkDef .object "T" [fld "id" (tNamed "ID")])],
    possibleTypes := [(str "A", [str "A"]), (str "AB", [str "A"]), (str "Query", [str "Query"]), (str "T", [str "T"])] }

def inlineI : Selection :=
  .inline (str "A") [] (.cons (.field (str "o") (str "o") [] [] (.cons (leaf "id" 22) .nil) (at' 18)) .nil) (at' 7)

/-- `{ ab { ... on A { o { id } } } }` -/
def docI : QueryDoc :=
  { ops := [{ op := str "query", name := [], vars := [], dirs := [],
              sel := .cons (.field (str "ab") (str "ab") [] [] (.cons inlineI .nil) (at' 2)) .nil,
              pos := at' 0 }],
    frags := [] }

/-- `scalar Any  input In { xs: [Int] any: Any sub: In }
    type Query { f(l: [In], i: In, a: Any, n: [Int]): Int }  directive @include(if: Boolean!) on FIELD` -/
def schemaV : Schema :=
  { Schema.empty with
    query := some (str "Query"),
    types := [(str "Any", { scalar "Any" with builtIn := false }), (str "Boolean", scalar "Boolean"),
              (str "In", mkDef .inputObject "In" [fld "xs" (tList (tNamed "Int")), fld "any" (tNamed "Any"),
                                                  fld "sub" (tNamed "In")]),
              (str "Int", scalar "Int"),
              (str "Query", mkDef .object "Query"
                [fld "f" (tNamed "Int") [arg "l" (tList (tNamed "In")), arg "i" (tNamed "In"), arg "a" (tNamed "Any"),
                                         arg "n" (tList (tNamed "Int"))]]),
              (str "String", scalar "String")],
    directives := [(str "include", { desc := [], name := str "include", args := [arg "if" (tNamed "Boolean" true)],
                                     locations := [str "FIELD"], repeatable := false, pos := Pos.zero })],
    possibleTypes := [(str "Query", [str "Query"])] }

def lit (k : ValueKind) (raw : String) (o : Nat) : Value := .mk k (str raw) .nil (at' o)

/-- `{xs: [1, $v]}` -/
def valL : Value :=
  .mk .object [] (.cons (str "xs")
    (.mk .list [] (.cons [] (lit .int "1" 36) (at' 36) (.cons [] (lit .variable "v" 39) (at' 39) .nil)) (at' 35))
    (at' 31) .nil) (at' 30)

/-- `{k: [1]}` -/
def valA : Value :=
  .mk .object [] (.cons (str "k") (.mk .list [] (.cons [] (lit .int "1" 52) (at' 52) .nil) (at' 51)) (at' 48) .nil) (at' 47)

/-- `query ($v: Int = 3, $b: Boolean!) { f(l: {xs: [1, $v]}, a: {k: [1]}, n: 5) @include(if: $b) }` -/
def docV : QueryDoc :=
  { ops := [{ op := str "query", name := [],
              vars := [{ var := str "v", type := tNamed "Int", default := some (lit .int "3" 17), dirs := [], pos := at' 7 },
                       { var := str "b", type := tNamed "Boolean" true, default := none, dirs := [], pos := at' 20 }],
              dirs := [],
              sel := .cons (.field (str "f") (str "f")
                        [{ name := str "l", value := valL, pos := at' 27 }, { name := str "a", value := valA, pos := at' 44 },
                         { name := str "n", value := lit .int "5" 61, pos := at' 58 }]
                        [{ name := str "include", args := [{ name := str "if", value := lit .variable "b" 77, pos := at' 73 }],
                           pos := at' 64 }]
                        .nil (at' 25)) .nil,
              pos := at' 0 }],
    frags := [] }

/-- `input C { v: Int }  type Query { args(l: [Int], c: C): Int }` -/
def schemaS : Schema :=
  { Schema.empty with
    query := some (str "Query"),
    types := [(str "C", mkDef .inputObject "C" [fld "v" (tNamed "Int")]), (str "Int", scalar "Int"),
              (str "Query", mkDef .object "Query"
                [fld "args" (tNamed "Int") [arg "l" (tList (tNamed "Int")), arg "c" (tNamed "C")]]),
              (str "String", scalar "String")],
    possibleTypes := [(str "Query", [str "Query"])] }

def varA : VarDef := { var := str "v", type := tNamed "Int", default := none, dirs := [], pos := at' 8 }
def varB : VarDef := { var := str "v", type := tNamed "Int", default := some (lit .int "2" 45), dirs := [], pos := at' 36 }

def opA : OperationDef :=
  { op := str "query", name := str "A", vars := [varA], dirs := [], sel := .cons (.spread (str "F") [] (at' 19)) .nil,
    pos := at' 0 }
def opB : OperationDef :=
  { op := str "query", name := str "B", vars := [varB], dirs := [], sel := .cons (.spread (str "F") [] (at' 50)) .nil,
    pos := at' 28 }

/-- the use `$v` inside `[$v]` -/
def useL : Value := lit .variable "v" 90
/-- the use `$v` inside `{v: $v}` -/
def useC : Value := lit .variable "v" 102

/-- `query A($v: Int) { ...F } query B($v: Int = 2) { ...F } fragment F on Query { args(l: [$v], c: {v: $v}) }` -/
def docS : QueryDoc :=
  { ops := [opA, opB],
    frags := [{ name := str "F", vars := [], typeCond := str "Query", dirs := [],
                sel := .cons (.field (str "args") (str "args")
                         [{ name := str "l", value := .mk .list [] (.cons [] useL (at' 90) .nil) (at' 89), pos := at' 86 },
                          { name := str "c", value := .mk .object [] (.cons (str "v") useC (at' 99) .nil) (at' 98), pos := at' 95 }]
                         [] .nil (at' 81)) .nil,
                pos := at' 58 }] }

end Gql.Validate.LinkWitness
