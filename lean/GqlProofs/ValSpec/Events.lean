import GqlProofs.Validate.WalkTerm
import GqlModel.Validate.Spec.Typing
/-
  Generic facts about the event stream of the walker model, used to connect the rule models to
  the specification predicates (C08) and to state link correctness (C09):

  * `walkDoc_all`: a predicate on payloads that holds at every place where the walker builds an
    event holds for every event of `walkDoc`;
  * the same for predicates on events (`AllE`), for the walkers of values, arguments and directives.
-/
namespace Gql.Validate
open Gql

/-- `P` holds for every payload the walker can build while it walks values and directives -/
structure ValSites (s : SV) (P : Payload → Prop) : Prop where
  value : ∀ v exp dfn, P (.value v exp dfn)
  directive : ∀ dir parent loc, P (.directive dir (s.directive? dir.name) parent loc)
  directiveList : ∀ ds, P (.directiveList ds)

/-- `P` holds for every payload the walker can build below an operation / fragment definition;
    `Q` is a property of the spread names written in the document (it holds for the names written
    in every fragment definition, and the theorems below ask it of the selection set they start
    from), so that the `spread` site may use it -/
structure SelSites (s : SV) (d : QueryDoc) (Q : Name → Prop) (P : Payload → Prop) : Prop extends ValSites s P where
  field : ∀ f parent dfn, P (.field f parent dfn)
  inline : ∀ f parent, P (.inlineFragment f parent)
  spread : ∀ f parent, Q f.name → P (.fragmentSpread f (fragForName d f.name) parent)
  frags : ∀ f ∈ d.frags, ∀ n ∈ Spec.spreadsOfSels f.sel, Q n

def AllE (P : Event → Prop) (evs : List Event) : Prop := ∀ e ∈ evs, P e

def AllP (P : Payload → Prop) (evs : List Event) : Prop := ∀ e ∈ evs, P e.p

theorem AllE.nil {P : Event → Prop} : AllE P [] := by intro e h; cases h

theorem AllE.append {P : Event → Prop} {a b : List Event} (ha : AllE P a) (hb : AllE P b) : AllE P (a ++ b) :=
  fun e h => (List.mem_append.1 h).elim (ha e) (hb e)

theorem AllE.cons {P : Event → Prop} {e : Event} {b : List Event} (he : P e) (hb : AllE P b) : AllE P (e :: b) := by
  intro x h
  rcases List.mem_cons.1 h with rfl | h
  · exact he
  · exact hb x h

theorem AllE.single {P : Event → Prop} {e : Event} (he : P e) : AllE P [e] := AllE.cons he AllE.nil

theorem AllE.imp {P Q : Event → Prop} {a : List Event} (h : ∀ e, P e → Q e) (ha : AllE P a) : AllE Q a :=
  fun e he => h e (ha e he)

theorem AllP.nil {P : Payload → Prop} : AllP P [] := AllE.nil

theorem AllP.append {P : Payload → Prop} {a b : List Event} (ha : AllP P a) (hb : AllP P b) : AllP P (a ++ b) :=
  AllE.append ha hb

theorem AllP.cons {P : Payload → Prop} {e : Event} {b : List Event} (he : P e.p) (hb : AllP P b) : AllP P (e :: b) :=
  AllE.cons (P := fun e => P e.p) he hb

theorem AllP.single {P : Payload → Prop} {e : Event} (he : P e.p) : AllP P [e] := AllP.cons he AllP.nil

theorem sub_inl {a : List Event} (b : List Event) : ∀ e ∈ a, e ∈ a ++ b := fun _ h => List.mem_append_left _ h
theorem sub_inr {b : List Event} (a : List Event) : ∀ e ∈ b, e ∈ a ++ b := fun _ h => List.mem_append_right _ h
theorem sub_left {a b : List Event} (h : ∀ e ∈ a, e ∈ b) (c : List Event) : ∀ e ∈ a, e ∈ b ++ c :=
  fun e he => List.mem_append_left _ (h e he)
theorem sub_mid {a : List Event} (pre post : List Event) : ∀ e ∈ a, e ∈ pre ++ a ++ post :=
  fun _ h => List.mem_append_left _ (List.mem_append_right _ h)

theorem filterMap_eq_nil_of_allP {α : Type} {P : Payload → Prop} {g : Event → Option α}
    (hg : ∀ e, P e.p → g e = none) {evs : List Event} (h : AllP P evs) : evs.filterMap g = [] :=
  List.filterMap_eq_nil_iff.2 fun e he => hg e (h e he)

section values
variable {s : SV} {cur : Option OperationDef} {P : Event → Prop}

theorem emit_allE (hv : ∀ links v exp dfn, P { cur := cur, links := links, p := .value v exp dfn }) :
    ∀ (l : List VSite) (ws : WS), AllE P (emit cur ws l).2 :=
  emit_forall fun _ _ => hv _ _ _ _

theorem walkValue_allE (hv : ∀ links v exp dfn, P { cur := cur, links := links, p := .value v exp dfn })
    (exp : Option GType) (dfn : Option Definition) :
    ∀ (v : Value) (ws : WS), AllE P (walkValue s cur exp dfn v ws).2 :=
  fun v ws => by rw [walkValue_emit]; exact emit_allE hv _ ws

theorem walkObjChildren_allE (hv : ∀ links v exp dfn, P { cur := cur, links := links, p := .value v exp dfn })
    (dfn : Option Definition) :
    ∀ (ch : Children) (ws : WS), AllE P (walkObjChildren s cur dfn ch ws).2 :=
  fun ch ws => by rw [walkObjChildren_emit]; exact emit_allE hv _ ws

theorem walkListChildren_allE (hv : ∀ links v exp dfn, P { cur := cur, links := links, p := .value v exp dfn })
    (exp : Option GType) (dfn : Option Definition) :
    ∀ (ch : Children) (ws : WS), AllE P (walkListChildren s cur exp dfn ch ws).2 :=
  fun ch ws => by rw [walkListChildren_emit]; exact emit_allE hv _ ws

theorem walkArgs_allE (hv : ∀ links v exp dfn, P { cur := cur, links := links, p := .value v exp dfn })
    (ad : Option (List ArgDef)) :
    ∀ (as : List Argument) (ws : WS), AllE P (walkArgs s cur ad as ws).2 :=
  fun as ws => by rw [walkArgs_emit]; exact emit_allE hv _ ws

theorem walkDirectiveItems_allE (hv : ∀ links v exp dfn, P { cur := cur, links := links, p := .value v exp dfn })
    (parent : Option Definition) (loc : Bytes) (ds : List Directive)
    (hd : ∀ links dir, dir ∈ ds → P { cur := cur, links := links, p := .directive dir (s.directive? dir.name) parent loc }) :
    ∀ (suffix : List Directive) (ws : WS), (∀ dir ∈ suffix, dir ∈ ds) →
      AllE P (walkDirectiveItems s cur parent loc suffix ws).2
  | [], ws, _ => by simp [walkDirectiveItems, AllE]
  | dir :: rest, ws, hsub => by
    simp only [walkDirectiveItems]
    exact AllE.append (walkArgs_allE hv _ dir.args ws)
      (AllE.cons (hd _ dir (hsub dir List.mem_cons_self))
        (walkDirectiveItems_allE hv parent loc ds hd rest _ (fun x hx => hsub x (List.mem_cons_of_mem _ hx))))

theorem walkDirectives_allE (hv : ∀ links v exp dfn, P { cur := cur, links := links, p := .value v exp dfn })
    (parent : Option Definition) (loc : Bytes) (ds : List Directive)
    (hd : ∀ links dir, dir ∈ ds → P { cur := cur, links := links, p := .directive dir (s.directive? dir.name) parent loc })
    (hl : ∀ links, P { cur := cur, links := links, p := .directiveList ds }) (ws : WS) :
    AllE P (walkDirectives s cur parent ds loc ws).2 := by
  simp only [walkDirectives]
  exact AllE.append (walkDirectiveItems_allE hv parent loc ds hd ds ws (fun _ h => h)) (AllE.single (hl _))

theorem walkVarDefsB_allE (hv : ∀ links v exp dfn, P { cur := cur, links := links, p := .value v exp dfn })
    (vds : List VarDef)
    (hd : ∀ links v dir, v ∈ vds → dir ∈ v.dirs →
      P { cur := cur, links := links, p := .directive dir (s.directive? dir.name) (s.type? v.type.name) locVariableDefinition })
    (hl : ∀ links v, v ∈ vds → P { cur := cur, links := links, p := .directiveList v.dirs }) :
    ∀ (vs : List VarDef) (ws : WS), (∀ v ∈ vs, v ∈ vds) → AllE P (walkVarDefsB s cur vs ws).2
  | [], ws, _ => by simp [walkVarDefsB, AllE]
  | v :: rest, ws, hsub => by
    have hv' := hsub v List.mem_cons_self
    simp only [walkVarDefsB]
    refine AllE.append (AllE.append ?_ (walkDirectives_allE hv _ _ v.dirs (fun l dir => hd l v dir hv') (fun l => hl l v hv') _))
      (walkVarDefsB_allE hv vds hd hl rest _ (fun x hx => hsub x (List.mem_cons_of_mem _ hx)))
    cases v.default with
    | none => exact AllE.nil
    | some dv => exact walkValue_allE hv _ _ dv ws

theorem walkVarDefsA_allE {vds : List VarDef} (hp : ∀ links v, v ∈ vds → P { cur := cur, links := links, p := .variable v (s.type? v.type.name) })
    (ws : WS) : ∀ vs : List VarDef, (∀ v ∈ vs, v ∈ vds) → AllE P (walkVarDefsA s cur ws vs)
  | [], _ => AllE.nil
  | v :: rest, hsub => by
    simp only [walkVarDefsA]
    exact AllE.cons (hp _ v (hsub v List.mem_cons_self))
      (walkVarDefsA_allE hp ws rest (fun x hx => hsub x (List.mem_cons_of_mem _ hx)))

end values

section
variable {s : SV} {d : QueryDoc} {P : Payload → Prop} {Q : Name → Prop}

theorem walkValue_all (hv : ∀ v exp dfn, P (.value v exp dfn)) (cur : Option OperationDef) (exp : Option GType) (dfn : Option Definition) :
    ∀ (v : Value) (ws : WS), AllP P (walkValue s cur exp dfn v ws).2 :=
  walkValue_allE (P := fun e => P e.p) (fun _ => hv) exp dfn

theorem walkObjChildren_all (hv : ∀ v exp dfn, P (.value v exp dfn)) (cur : Option OperationDef) (dfn : Option Definition) :
    ∀ (ch : Children) (ws : WS), AllP P (walkObjChildren s cur dfn ch ws).2 :=
  walkObjChildren_allE (P := fun e => P e.p) (fun _ => hv) dfn

theorem walkListChildren_all (hv : ∀ v exp dfn, P (.value v exp dfn)) (cur : Option OperationDef) (exp : Option GType) (dfn : Option Definition) :
    ∀ (ch : Children) (ws : WS), AllP P (walkListChildren s cur exp dfn ch ws).2 :=
  walkListChildren_allE (P := fun e => P e.p) (fun _ => hv) exp dfn

theorem walkArgs_all (hv : ∀ v exp dfn, P (.value v exp dfn)) (cur : Option OperationDef) (ad : Option (List ArgDef)) :
    ∀ (as : List Argument) (ws : WS), AllP P (walkArgs s cur ad as ws).2 :=
  walkArgs_allE (P := fun e => P e.p) (fun _ => hv) ad

theorem walkDirectives_all (hP : ValSites s P) (cur : Option OperationDef) (parent : Option Definition) (ds : List Directive)
    (loc : Bytes) (ws : WS) : AllP P (walkDirectives s cur parent ds loc ws).2 :=
  walkDirectives_allE (P := fun e => P e.p) (fun _ => hP.value) parent loc ds (fun _ dir _ => hP.directive dir parent loc)
    (fun _ => hP.directiveList ds) ws

theorem walkVarDefsB_all (hP : ValSites s P) (cur : Option OperationDef) :
    ∀ (vs : List VarDef) (ws : WS), AllP P (walkVarDefsB s cur vs ws).2 := fun vs ws =>
  walkVarDefsB_allE (P := fun e => P e.p) (fun _ => hP.value) vs (fun _ _ dir _ _ => hP.directive dir _ _)
    (fun _ v _ => hP.directiveList v.dirs) vs ws (fun _ h => h)

def JumpAll (P : Payload → Prop) (Q : Name → Prop) (J : Jump) : Prop :=
  ∀ parent sels (ws : WS) r, (∀ n ∈ Spec.spreadsOfSels sels, Q n) → J parent sels ws = some r → AllP P r.2

theorem walkSel_all_cases (hP : SelSites s d Q P) (cur : Option OperationDef) (J : Jump) (hJ : JumpAll P Q J) :
    WalkCases s d cur J (fun _ x _ r => (∀ n ∈ Spec.spreadsOfSel x, Q n) → AllP P r.2)
      (fun _ xs _ r => (∀ n ∈ Spec.spreadsOfSels xs, Q n) → AllP P r.2) where
  field := fun _ _ _ _ _ _ _ _ _ _ ih hx =>
    AllP.append (AllP.append (AllP.append (walkArgs_all hP.value cur _ _ _) (walkDirectives_all hP.toValSites cur _ _ _ _))
      (ih (by simpa [Spec.spreadsOfSel] using hx))) (AllP.single (hP.field _ _ _))
  inline := fun _ _ _ _ _ _ _ _ ih hx =>
    AllP.append (AllP.append (walkDirectives_all hP.toValSites cur _ _ _ _) (ih (by simpa [Spec.spreadsOfSel] using hx)))
      (AllP.single (hP.inline _ _))
  spreadStop := fun parent nm dirs p _ _ hx =>
    AllP.append (walkDirectives_all hP.toValSites cur _ _ _ _)
      (AllP.single (hP.spread ⟨nm, dirs, p⟩ parent (hx nm (by simp [Spec.spreadsOfSel]))))
  spreadJump := fun parent nm dirs p _ f r3 hf _ h3 hx => by
    have hsp := hP.spread ⟨nm, dirs, p⟩ parent (hx nm (by simp [Spec.spreadsOfSel]))
    rw [hf] at hsp
    exact AllP.append (AllP.append (AllP.append (walkDirectives_all hP.toValSites cur _ _ _ _)
      (walkDirectives_all hP.toValSites cur _ _ _ _)) (hJ _ _ _ r3 (hP.frags f (fragForName_mem hf)) h3)) (AllP.single hsp)
  nil := fun _ _ _ => AllP.nil
  cons := fun _ _ _ _ _ _ _ _ ih1 ih2 hx =>
    AllP.append (ih1 fun n hn => hx n (by simp [Spec.spreadsOfSels, hn])) (ih2 fun n hn => hx n (by simp [Spec.spreadsOfSels, hn]))

theorem walkSelection_all (hP : SelSites s d Q P) (cur : Option OperationDef) (J : Jump) (hJ : JumpAll P Q J) :
    ∀ (x : Selection) (parent : Option Definition) (ws : WS) r, (∀ n ∈ Spec.spreadsOfSel x, Q n) →
      walkSelection s d cur J parent x ws = some r → AllP P r.2 :=
  fun x parent ws r hx h => walkSelection_induct (walkSel_all_cases hP cur J hJ) x parent ws r h hx

theorem walkLevel_all (hP : SelSites s d Q P) (cur : Option OperationDef) : ∀ n, JumpAll P Q (walkLevel s d cur n) :=
  fun n parent sels ws r hx h =>
    walkLevel_induct (fun J hJ => walkSel_all_cases hP cur J fun p x w r hx h => hJ p x w r h hx) n parent sels ws r h hx

end

/-- sites of the three event kinds that are built outside the selection walk -/
structure DocSites (s : SV) (d : QueryDoc) (Q : Name → Prop) (P : Payload → Prop) : Prop extends SelSites s d Q P where
  ops : ∀ op ∈ d.ops, ∀ n ∈ Spec.spreadsOfSels op.sel, Q n
  varDef : ∀ v, P (.variable v (s.type? v.type.name))
  operation : ∀ op used, op ∈ d.ops → P (.operation op used)
  fragment : ∀ f, f ∈ d.frags → P (.fragment f (s.type? f.typeCond))

theorem walkDoc_all {s : SV} {d : QueryDoc} {P : Payload → Prop} {Q : Name → Prop} (hP : DocSites s d Q P)
    (evs : List Event) (h : walkDoc s d = some evs) : AllP P evs := by
  refine walkDoc_forall (P := fun e => P e.p) (fun op hop l r h => ?_) (fun f hf l r h => ?_) h
  · obtain ⟨r4, h4, rfl⟩ := walkOperation_inv h
    exact AllP.append (AllP.append (AllP.append (AllP.append
      (walkVarDefsA_allE (P := fun e => P e.p) (vds := op.vars) (fun _ v _ => hP.varDef v) _ _ (fun _ h => h))
      (walkVarDefsB_all hP.toValSites _ _ _)) (walkDirectives_all hP.toValSites _ _ _ _ _))
      (walkLevel_all hP.toSelSites (some op) _ _ _ _ r4 (hP.ops op hop) h4)) (AllP.single (hP.operation op _ hop))
  · obtain ⟨r2, h2, rfl⟩ := walkFragment_inv h
    exact AllP.append (AllP.append (walkDirectives_all hP.toValSites _ _ _ _ _)
      (walkLevel_all hP.toSelSites none _ _ _ _ r2 (hP.frags f hf) h2)) (AllP.single (hP.fragment f hf))

end Gql.Validate
