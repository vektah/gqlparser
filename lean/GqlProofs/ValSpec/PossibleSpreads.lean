import GqlProofs.ValSpec.LeafFrag
import GqlProofs.Schema.Basic
import GqlModel.Schema.Spec
import GqlProofs.ValSpec.Spreads
/-
  PossibleFragmentSpreads (§5.5.2.3) against `Spec.fragmentSpreadIsPossible`.

  The rule reads the LOADED relation `Schema.PossibleTypes` (`s.possible name`), the specification
  computes `GetPossibleTypes` from the definitions (`Spec.possibleTypes s t`).  `possibleOK s` is the
  (decidable) statement that the two agree on every composite type of the schema; it follows from
  `Gql.Spec.RelationsExact s` and `Gql.Spec.KeysConsistent s`, which every loaded schema satisfies
  (`C07_relations_exact`, `C07_closed_keys`).
-/
namespace Gql.Validate
open Gql Gql.Validate.Rules

def possibleOK (s : Schema) : Bool :=
  s.types.all fun p =>
    !Spec.isComposite p.2 || Gql.Spec.sameSet (s.possible p.2.name) (Spec.possibleTypes s p.2)

theorem any_contains_congr {a a' b b' : List Name} (ha : ∀ x, x ∈ a ↔ x ∈ a') (hb : ∀ x, x ∈ b ↔ x ∈ b') :
    (a.any fun n => b.contains n) = (a'.any fun n => b'.contains n) := by
  rw [Bool.eq_iff_iff]
  simp only [List.any_eq_true, List.contains_iff_mem]
  constructor
  · rintro ⟨x, h1, h2⟩
    exact ⟨x, (ha x).1 h1, (hb x).1 h2⟩
  · rintro ⟨x, h1, h2⟩
    exact ⟨x, (ha x).2 h1, (hb x).2 h2⟩

theorem possibleOK_mem (s : Schema) (hok : possibleOK s = true) (n : Name) (t : Definition)
    (ht : s.type? n = some t) (hc : Spec.isComposite t = true) :
    ∀ x, x ∈ s.possible t.name ↔ x ∈ Spec.possibleTypes s t := by
  unfold possibleOK at hok
  simp only [List.all_eq_true] at hok
  have := hok (n, t) (mem_of_lookup ht)
  simp only [hc, Bool.not_true, Bool.false_or] at this
  exact Load.sameSet_iff.1 this

theorem spreadImpossible_spec (s : Schema) (hok : possibleOK s = true) (pd : Definition) (n : Name)
    (hpd : s.type? n = some pd) (tc : Name) :
    spreadImpossible s.view (some pd) tc =
      (match s.type? tc with
       | some ft => !Spec.spreadPossible s pd ft
       | none => false) := by
  have hview : s.view.type? tc = s.type? tc := rfl
  have hposs : ∀ m, s.view.possible m = s.possible m := fun _ => rfl
  unfold spreadImpossible
  simp only [hview, hposs]
  cases hft : s.type? tc with
  | none =>
    simp only
    split <;> rfl
  | some ft =>
    simp only
    unfold Spec.spreadPossible
    rw [isCompositeType_eq]
    by_cases hcf : Spec.isComposite ft = true
    · have hF := possibleOK_mem s hok tc ft hft hcf
      by_cases hobj : (pd.kind == .object) = true
      · have hcp : Spec.isComposite pd = true := by
          unfold Spec.isComposite
          simp [hobj]
        have hpp : Spec.possibleTypes s pd = [pd.name] := by
          unfold Spec.possibleTypes
          rw [beq_iff_eq] at hobj
          rw [hobj]
        simp only [hobj, if_true, hcf, hcp, Bool.not_true, Bool.false_eq_true, if_false, Bool.and_self, hpp]
        rw [any_contains_congr hF (fun _ => Iff.rfl)]
      · by_cases hiu : (pd.kind == .interface || pd.kind == .union) = true
        · have hcp : Spec.isComposite pd = true := by
            unfold Spec.isComposite
            simp only [Bool.or_eq_true] at hiu ⊢
            rcases hiu with h | h
            · exact Or.inl (Or.inr h)
            · exact Or.inr h
          have hP := possibleOK_mem s hok n pd hpd hcp
          simp only [hobj, hiu, if_true, if_false, Bool.false_eq_true, hcf, hcp, Bool.not_true, Bool.and_self]
          rw [any_contains_congr hF hP]
        · have hcp : Spec.isComposite pd = false := by
            unfold Spec.isComposite
            simp only [Bool.or_eq_true, not_or] at hiu
            simp only [Bool.not_eq_true] at hobj hiu
            simp [hobj, hiu.1, hiu.2]
          simp [hobj, hiu, hcp]
    · simp only [Bool.not_eq_true] at hcf
      simp only [hcf, Bool.not_false, if_true, Bool.and_false, Bool.false_eq_true, if_false, Bool.not_true]
      split <;> rfl

def FromS (s : Schema) (p : Option Definition) : Prop := ∀ q, p = some q → ∃ n, s.type? n = some q

theorem fromS_type (s : Schema) (n : Name) : FromS s (s.type? n) := fun _ h => ⟨n, h⟩

theorem typedSel_fromS (s : Schema) :
    ∀ (x : Selection) (p : Option Definition), FromS s p → ∀ t ∈ Spec.typedSel s p x, FromS s t.parent :=
  typedSel_parent s (P := FromS s) nofun (fromS_type s)

theorem docSels_fromS (s : Schema) (d : QueryDoc) (t : Spec.TSel) (ht : t ∈ Spec.docSels s d) : FromS s t.parent :=
  docSels_parent s (P := FromS s) nofun (fromS_type s) d t ht

theorem spreadCheck_nil_iff (s : Schema) (hok : possibleOK s = true) (q : Definition) (n : Name)
    (hn : s.type? n = some q) (tc : Name) (x : RErr) :
    (if spreadImpossible s.view (some q) tc = true then [x] else []) = [] ↔
      (match s.type? tc with
       | some ft => Spec.spreadPossible s q ft
       | none => true) = true := by
  rw [spreadImpossible_spec s hok q n hn]
  cases s.type? tc with
  | none => simp
  | some ft => cases Spec.spreadPossible s q ft <;> simp

theorem possibleFragmentSpreads_iff (s : Schema) (d : QueryDoc) (evs : List Event) (hw : walkDoc s.view d = some evs)
    (hwp : Spec.wellParented s d = true) (hE : s.type? [] = none) (hok : possibleOK s = true) :
    (∀ e ∈ evs, possibleFragmentSpreadsStep s.view d e = []) ↔ Spec.fragmentSpreadIsPossible s d = true := by
  unfold Spec.fragmentSpreadIsPossible
  simp only [List.all_eq_true]
  constructor
  · intro h t ht
    obtain ⟨par, sel⟩ := t
    cases par with
    | none => rfl
    | some q =>
      obtain ⟨n, hn⟩ := docSels_fromS s d _ ht q rfl
      have hnode := node_event_complete s d evs hw hwp _ ht
      cases sel with
      | field al nm args dirs sub p => rfl
      | spread nm dirs p =>
        obtain ⟨e, he, hp⟩ := hnode
        have hs := h e he
        simp only [fragByName_eq]
        cases hfd : fragForName d nm with
        | none => rfl
        | some fd =>
          rw [hfd] at hp
          simp only [possibleFragmentSpreadsStep, hp] at hs
          exact (spreadCheck_nil_iff s hok q n hn _ _).1 hs
      | inline tc dirs sub p =>
        obtain ⟨e, he, hp⟩ := hnode
        have hs := h e he
        simp only [possibleFragmentSpreadsStep, hp] at hs
        simp only
        split
        · rfl
        · exact (spreadCheck_nil_iff s hok q n hn _ _).1 hs
  · intro h e he
    unfold possibleFragmentSpreadsStep
    split
    · rename_i f parent hp
      have hmem := inline_parent_type s d evs hw hwp e he f parent hp
      cases parent with
      | none => rfl
      | some q =>
        obtain ⟨n, hn⟩ := docSels_fromS s d _ hmem q rfl
        have hs := h _ hmem
        rw [spreadCheck_nil_iff s hok q n hn]
        by_cases hemp : f.typeCond = []
        · rw [hemp, hE]
        · have hb : (f.typeCond == []) = false := by simpa using hemp
          simp only [hb, Bool.false_eq_true, if_false] at hs
          exact hs
    · rename_i f fd parent hp
      have hmem := spread_parent_type s d evs hw hwp e he f (some fd) parent hp
      have hfd := (walkDoc_spreads_sound s.view d evs hw e he f (some fd) parent hp).2
      cases parent with
      | none => rfl
      | some q =>
        obtain ⟨n, hn⟩ := docSels_fromS s d _ hmem q rfl
        have hs := h _ hmem
        simp only [fragByName_eq, ← hfd, Option.bind_some] at hs
        exact (spreadCheck_nil_iff s hok q n hn _ _).2 hs
    · rfl

theorem possibleOK_of_relationsExact (s : Schema) (hr : Gql.Spec.RelationsExact s) (hk : Gql.Spec.KeysConsistent s) :
    possibleOK s = true := by
  obtain ⟨hname, _, hdist, _⟩ := hk
  have hnd := Load.nodup_of_pairwiseDistinct hdist
  have hA := hr.possibleAbstractExact
  have hO := hr.possibleObjectSelf
  unfold Gql.Spec.possibleAbstractExact at hA
  unfold Gql.Spec.possibleObjectSelf at hO
  unfold possibleOK
  simp only [List.all_eq_true] at hA hO ⊢
  rintro ⟨k, t⟩ hmem
  have hkn : t.name = k := hname _ hmem
  have hlook : s.types.lookup k = some t := lookup_of_mem_nodup hnd hmem
  have hA' := hA _ hmem
  have hO' := hO _ hmem
  simp only [hkn] at hA' hO' ⊢
  unfold Spec.isComposite
  unfold Spec.possibleTypes
  unfold Gql.Spec.impliedPossible at hA'
  rw [hlook] at hA'
  cases hkind : t.kind <;> simp only [hkind] at hA' hO' ⊢ <;> try rfl
  · -- object
    simpa [hkn] using hO'
  · -- interface
    simp only [Bool.or_true, Bool.not_true, Bool.false_or, beq_self_eq_true, Bool.true_or] at hA' ⊢
    rw [Load.sameSet_iff] at hA' ⊢
    intro x
    rw [hA' x]
    simp only [List.mem_map, List.mem_filter, List.mem_filterMap]
    constructor
    · rintro ⟨p, ⟨hp, hc⟩, rfl⟩
      refine ⟨p, hp, ?_⟩
      simp only [hkn, hc, if_true, hname p hp]
    · rintro ⟨p, hp, hc⟩
      simp only [hkn] at hc
      split at hc
      · rename_i hc'
        injection hc with hc
        exact ⟨p, ⟨hp, hc'⟩, by rw [← hname p hp]; exact hc⟩
      · cases hc
  · -- union
    simpa using hA'

end Gql.Validate
