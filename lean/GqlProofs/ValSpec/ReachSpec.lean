import GqlProofs.ValSpec.Demands
/-
  The specification's "fragments an operation references transitively" (`Spec.opFragments`, a
  closure computed in rounds) is SOUND for the walker's reachability (`OpReaches`): an operation
  into whose scope `Spec.fragLinks` counts a fragment definition (`fragOps`) reaches it.
  (Definitions are identified by position in the specification, hence the hypothesis that the
  fragment definitions of the document have distinct positions, `FragPosDistinct` — true of every
  parse, `EndToEnd/Parsed.lean`.)
-/
namespace Gql.Validate
open Gql

theorem spreadsOfSel_mem : ∀ (x : Selection) (n : Name), n ∈ Spec.spreadsOfSel x → SpreadIn x n :=
  fun x n h => (mem_spreadsOfSel_iff n x).1 h

theorem inSel_spread_memL : ∀ (x : Selection) (n : Name) (dirs : List Directive) (p : Pos),
    InSel x (.sel (.spread n dirs p)) → n ∈ Spec.spreadsOfSel x :=
  fun x n dirs p h => (mem_spreadsOfSel_iff n x).2 ⟨dirs, p, h⟩

theorem inSels_spread_memL : ∀ (xs : Selections) (n : Name) (dirs : List Directive) (p : Pos),
    InSels xs (.sel (.spread n dirs p)) → n ∈ Spec.spreadsOfSels xs :=
  fun xs n dirs p h => (mem_spreadsOfSels_iff n xs).2 ⟨dirs, p, h⟩

def FragPosDistinct (d : QueryDoc) : Prop := ∀ f ∈ d.frags, ∀ g ∈ d.frags, f.pos = g.pos → f = g

theorem fragOps_reaches (d : QueryDoc) (hpos : FragPosDistinct d) (f : FragmentDef) (hf : f ∈ d.frags)
    (op : OperationDef) (hop : op ∈ fragOps d f) : op ∈ d.ops ∧ OpReaches d op f := by
  simp only [fragOps, List.mem_filter, List.any_eq_true, beq_iff_eq] at hop
  obtain ⟨hmem, f', hf', hpos'⟩ := hop
  refine ⟨hmem, ?_⟩
  simp only [Spec.opFragments, List.mem_filter, Bool.and_eq_true, List.contains_iff_mem, Option.any_eq_true,
    beq_iff_eq] at hf'
  obtain ⟨hf'mem, hname, g, hg, hgpos⟩ := hf'
  have hgm : g ∈ d.frags := fragForName_mem hg
  have h1 : g = f' := hpos g hgm f' hf'mem hgpos
  have h2 : f' = f := hpos f' hf'mem f hf hpos'
  subst h1 h2
  exact (opReaches_iff d op g).2 ⟨g.name, (mem_reachFrom_iff d _ _).1 hname, hg⟩

end Gql.Validate
