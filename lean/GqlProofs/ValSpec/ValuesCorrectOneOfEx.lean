import GqlProofs.ValSpec.ValuesCorrectOneOfRun
import GqlProofs.ValSpec.ValuesCorrectEx
/-
  ValuesOfCorrectType WITH `@oneOf`: kernel-checked examples for the additional hypotheses of
  `C08_ValuesOfCorrectType` (`Spec.fragmentNameUniqueness`, `constDefaults`, `usePosDistinct`).
-/
namespace Gql.Validate.ValuesEx
open Gql Gql.Validate Gql.Validate.Rules Gql.Validate.Witness

/-- all hypotheses of the theorem with `@oneOf` -/
def hypsOneOf (s : Schema) (d : QueryDoc) : Bool :=
  Spec.wellParented s d && Spec.fragmentNameUniqueness d && constDefaults d && schemaOK s && rootsInput s d &&
    numLiteralsOK s d && leavesWellFormed s d && usePosDistinct s d

def specBoth (s : Schema) (d : QueryDoc) : Bool := Spec.valuesOfCorrectType s d && Spec.oneOfVariablesNonNull s d


/-- `query($v:String){...F} fragment F on Query { f(one:{a:$v}) }` -/
def docUsedNullable : QueryDoc :=
  { Witness.docUsed with
    ops := [{ op := str "query", name := [],
              vars := [{ var := str "v", type := tNamed "String" false, default := none, dirs := [], pos := at' 6 }],
              dirs := [], sel := .cons (.spread (str "F") [] (at' 18)) .nil, pos := at' 0 }] }

/-- `type Query { f(one: One): Int  g(s: String): Int }` -/
def schema2 : Schema :=
  { Witness.schema with
    types := [(str "Int", scalar "Int"), (str "One", oneDef),
      (str "Query", mkDef .object "Query"
        [fld "f" (tNamed "Int") [{ desc := [], name := str "one", default := none, type := tNamed "One", dirs := [], pos := Pos.zero }],
         fld "g" (tNamed "Int") [{ desc := [], name := str "s", default := none, type := tNamed "String", dirs := [], pos := Pos.zero }]]),
      (str "String", scalar "String")] }

/-- `query($x: String) { g(s: $x) }  fragment F on Query { f(one: {a: $x}) }`, F not used, and BOTH `$x` nodes at offset 53 -/
def docSamePos : QueryDoc :=
  { ops := [{ op := str "query", name := [],
              vars := [{ var := str "x", type := tNamed "String" false, default := none, dirs := [], pos := at' 6 }],
              dirs := [],
              sel := .cons (.field (str "g") (str "g") [{ name := str "s", value := .mk .variable (str "x") .nil (at' 53), pos := at' 20 }] [] .nil (at' 18)) .nil,
              pos := at' 0 }],
    frags := [{ name := str "F", vars := [], typeCond := str "Query", dirs := [],
                sel := .cons (.field (str "f") (str "f") (oneArg "x" 49) [] .nil (at' 43)) .nil, pos := at' 21 }] }

/-- `query($a: One = {a: $b}, $b: String) { f }` -/
def docVarDefault : QueryDoc :=
  { ops := [{ op := str "query", name := [],
              vars := [{ var := str "a", type := tNamed "One", default := some (obj [("a", lit .variable "b" 20)] 16), dirs := [], pos := at' 6 },
                       { var := str "b", type := tNamed "String", default := none, dirs := [], pos := at' 26 }],
              dirs := [],
              sel := .cons (.field (str "f") (str "f") [] [] .nil (at' 40)) .nil,
              pos := at' 0 }],
    frags := [] }

/-- two definitions of F at the same offset; the operation spreads F -/
def docDupFrag : QueryDoc :=
  { ops := [{ op := str "query", name := [],
              vars := [{ var := str "v", type := tNamed "String" false, default := none, dirs := [], pos := at' 6 }],
              dirs := [], sel := .cons (.spread (str "F") [] (at' 18)) .nil, pos := at' 0 }],
    frags := [{ name := str "F", vars := [], typeCond := str "Query", dirs := [],
                sel := .cons (.field (str "f") (str "f") [] [] .nil (at' 43)) .nil, pos := at' 21 },
              { name := str "F", vars := [], typeCond := str "Query", dirs := [],
                sel := .cons (.field (str "f") (str "f") (oneArg "v" 49) [] .nil (at' 43)) .nil, pos := at' 21 }] }

/-- the hypotheses are satisfiable on a document that uses a `@oneOf` input object through a fragment:
    `query($v:String!){...F} fragment F on Query { f(one:{a:$v}) }` is accepted by both,
    `query($v:String){...F} …` is rejected by both -/
example : hypsOneOf Witness.schema Witness.docUsed = true ∧ ruleSilent Witness.schema Witness.docUsed = true ∧
    specBoth Witness.schema Witness.docUsed = true := by decide +kernel
example : hypsOneOf Witness.schema docUsedNullable = true ∧ ruleSilent Witness.schema docUsedNullable = false ∧
    specBoth Witness.schema docUsedNullable = false := by decide +kernel

/-- `usePosDistinct` is needed (the stand-alone walk of a fragment definition): two variable nodes at the same
    offset.  `$x` in `g(s: $x)` is linked under the operation; the unused fragment `F` is walked stand-alone
    (`CurrentOperation = nil`), and the rule reads, for the `$x` of `{a: $x}`, the link left AT THAT OFFSET: the nullable
    definition.  The specification does not see `F` in any scope. -/
example :
    usePosDistinct schema2 docSamePos = false ∧
    (Spec.wellParented schema2 docSamePos && Spec.fragmentNameUniqueness docSamePos && constDefaults docSamePos &&
      schemaOK schema2 && rootsInput schema2 docSamePos && numLiteralsOK schema2 docSamePos &&
      leavesWellFormed schema2 docSamePos) = true ∧
    ruleSilent schema2 docSamePos = false ∧ specBoth schema2 docSamePos = true := by decide +kernel

/-- `constDefaults` is needed: a variable inside a default value (not `Value[Const]`; no parser produces it),
    `query($a: One = {a: $b}, $b: String) { f }`.  The walker links `$b` under the operation and the rule tests it;
    the specification's scope of an operation does not include default values. -/
example :
    constDefaults docVarDefault = false ∧
    (Spec.wellParented schema2 docVarDefault && Spec.fragmentNameUniqueness docVarDefault &&
      schemaOK schema2 && rootsInput schema2 docVarDefault && numLiteralsOK schema2 docVarDefault &&
      leavesWellFormed schema2 docVarDefault && usePosDistinct schema2 docVarDefault) = true ∧
    ruleSilent schema2 docVarDefault = false ∧ specBoth schema2 docVarDefault = true := by decide +kernel

/-- `Spec.fragmentNameUniqueness` is needed: two definitions of `F` (at the same offset); the walker enters the first,
    `Spec.opFragments` keeps every definition with the name and offset of the first. -/
example :
    Spec.fragmentNameUniqueness docDupFrag = false ∧
    (Spec.wellParented Witness.schema docDupFrag && constDefaults docDupFrag &&
      schemaOK Witness.schema && rootsInput Witness.schema docDupFrag && numLiteralsOK Witness.schema docDupFrag &&
      leavesWellFormed Witness.schema docDupFrag && usePosDistinct Witness.schema docDupFrag) = true ∧
    ruleSilent Witness.schema docDupFrag = true ∧ specBoth Witness.schema docDupFrag = false := by decide +kernel

end Gql.Validate.ValuesEx
