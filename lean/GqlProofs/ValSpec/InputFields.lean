import GqlProofs.ValSpec.ValBlocks
import GqlProofs.ValSpec.Local
/-
  UniqueInputFieldNames against `Spec.inputObjectFieldUniqueness` (§5.6.3).

  The rule looks at every `value` event of kind object; by `value_event_sound/complete`
  (`ValBlocks.lean`) these are the object literals among `subValues v` for `v` a value written in
  the document, where `subValues` descends as the walker does: through the children of LIST and
  OBJECT literals only.  The specification predicate `Spec.objectLiteralsUnique` descends through the
  children of a value of ANY kind.  The two agree on the values the parser builds (only list and
  object literals have children): `shapedValue`.
-/
namespace Gql.Validate
open Gql Gql.Validate.Rules

def objOk (v : Value) : Prop := v.kind = .object → Spec.distinct (Spec.childNames v.children) = true

theorem uniqueInputFieldNamesStep_value (sv : SV) (d : QueryDoc) (e : Event) (v : Value) (exp : Option GType)
    (dfn : Option Definition) (hp : e.p = .value v exp dfn) :
    uniqueInputFieldNamesStep sv d e = [] ↔ objOk v := by
  simp only [uniqueInputFieldNamesStep, hp, objOk]
  by_cases hk : v.kind = .object
  · simp [hk, dupInputFields_nil_iff, freshFrom_nil, distinct_iff_nodup]
  · simp [hk]

mutual
  /-- only list and object literals have children (what the parser builds) -/
  def shapedValue : Value → Bool
    | .mk k _ ch _ =>
      match k with
      | .object => shapedChildren ch
      | .list => shapedChildren ch
      | _ => match ch with
        | .nil => true
        | .cons .. => false
  def shapedChildren : Children → Bool
    | .nil => true
    | .cons _ v _ rest => shapedValue v && shapedChildren rest
end

mutual
  theorem objOk_of_unique : ∀ v : Value, Spec.objectLiteralsUnique v = true → ∀ w ∈ subValues v, objOk w
    | .mk k raw ch p, h, w, hw => by
      unfold Spec.objectLiteralsUnique at h
      simp only [Bool.and_eq_true, Bool.or_eq_true, bne_iff_ne, ne_eq] at h
      unfold subValues at hw
      rcases List.mem_append.1 hw with hw | hw
      · cases k <;> simp only at hw <;> first
          | exact objOk_of_uniqueCh ch h.2 w hw
          | cases hw
      · rw [List.mem_singleton.1 hw]
        intro hk
        simp only [Value.kind] at hk
        rcases h.1 with h1 | h1
        · exact absurd hk h1
        · exact h1
  theorem objOk_of_uniqueCh : ∀ ch : Children, Spec.childrenLiteralsUnique ch = true → ∀ w ∈ childValues ch, objOk w
    | .nil, _, w, hw => by simp [childValues] at hw
    | .cons n v p rest, h, w, hw => by
      unfold Spec.childrenLiteralsUnique at h
      simp only [Bool.and_eq_true] at h
      unfold childValues at hw
      rcases List.mem_append.1 hw with hw | hw
      · exact objOk_of_unique v h.1 w hw
      · exact objOk_of_uniqueCh rest h.2 w hw
end

mutual
  theorem unique_of_objOk : ∀ v : Value, shapedValue v = true → (∀ w ∈ subValues v, objOk w) →
      Spec.objectLiteralsUnique v = true
    | .mk k raw ch p, hs, h => by
      unfold Spec.objectLiteralsUnique
      simp only [Bool.and_eq_true, Bool.or_eq_true, bne_iff_ne, ne_eq]
      have hself : objOk (.mk k raw ch p) := h _ (self_mem_subValues _)
      refine ⟨?_, ?_⟩
      · by_cases hk : k = .object
        · exact Or.inr (hself hk)
        · exact Or.inl hk
      · unfold shapedValue at hs
        unfold subValues at h
        cases k <;> simp only at hs h
        case object => exact unique_of_objOkCh ch hs (fun w hw => h w (List.mem_append_left _ hw))
        case list => exact unique_of_objOkCh ch hs (fun w hw => h w (List.mem_append_left _ hw))
        all_goals
          cases ch with
          | nil => rfl
          | cons => cases hs
  theorem unique_of_objOkCh : ∀ ch : Children, shapedChildren ch = true → (∀ w ∈ childValues ch, objOk w) →
      Spec.childrenLiteralsUnique ch = true
    | .nil, _, _ => rfl
    | .cons n v p rest, hs, h => by
      unfold shapedChildren at hs
      simp only [Bool.and_eq_true] at hs
      unfold childValues at h
      unfold Spec.childrenLiteralsUnique
      simp only [Bool.and_eq_true]
      exact ⟨unique_of_objOk v hs.1 (fun w hw => h w (List.mem_append_left _ hw)),
        unique_of_objOkCh rest hs.2 (fun w hw => h w (List.mem_append_right _ hw))⟩
end

def valuesShaped (s : Schema) (d : QueryDoc) : Bool := (Spec.allValues s d).all shapedValue

theorem uniqueInputFieldNames_walked (s : Schema) (d : QueryDoc) (evs : List Event) (hw : walkDoc s.view d = some evs) :
    (∀ e ∈ evs, uniqueInputFieldNamesStep s.view d e = []) ↔ ∀ v ∈ Spec.allValues s d, ∀ w ∈ subValues v, objOk w := by
  constructor
  · intro h v hv w hsub
    obtain ⟨e, he, exp, dfn, hp⟩ := value_event_complete s d evs hw v hv w hsub
    exact (uniqueInputFieldNamesStep_value s.view d e w exp dfn hp).1 (h e he)
  · intro h e he
    cases hp : e.p with
    | value w exp dfn =>
      obtain ⟨v, hv, hsub⟩ := value_event_sound s d evs hw e he w exp dfn hp
      exact (uniqueInputFieldNamesStep_value s.view d e w exp dfn hp).2 (h v hv w hsub)
    | _ => simp [uniqueInputFieldNamesStep, hp]

theorem uniqueInputFieldNames_sound (s : Schema) (d : QueryDoc) (evs : List Event) (hw : walkDoc s.view d = some evs) (h : Spec.inputObjectFieldUniqueness s d = true) :
    ∀ e ∈ evs, uniqueInputFieldNamesStep s.view d e = [] := by
  rw [uniqueInputFieldNames_walked s d evs hw]
  unfold Spec.inputObjectFieldUniqueness at h
  simp only [List.all_eq_true] at h
  exact fun v hv => objOk_of_unique v (h v hv)

theorem uniqueInputFieldNames_iff (s : Schema) (d : QueryDoc) (evs : List Event) (hw : walkDoc s.view d = some evs) (hsh : valuesShaped s d = true) :
    (∀ e ∈ evs, uniqueInputFieldNamesStep s.view d e = []) ↔ Spec.inputObjectFieldUniqueness s d = true := by
  constructor
  · intro h
    rw [uniqueInputFieldNames_walked s d evs hw] at h
    unfold Spec.inputObjectFieldUniqueness
    simp only [List.all_eq_true]
    unfold valuesShaped at hsh
    simp only [List.all_eq_true] at hsh
    exact fun v hv => unique_of_objOk v (hsh v hv) (h v hv)
  · exact uniqueInputFieldNames_sound s d evs hw

end Gql.Validate
