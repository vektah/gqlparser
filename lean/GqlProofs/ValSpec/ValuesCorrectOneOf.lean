import GqlProofs.ValSpec.ScopeArgs
import GqlProofs.ValSpec.ValuesCorrect
/-
  ValuesOfCorrectType and `@oneOf`: a silent rule implies `Spec.oneOfVariablesNonNull`
  (`oneOfVariablesNonNull_of_silent`; no hypothesis on the schema).  A usage `u` in the scope of `op` with
  `u.oneOf = some _` is the value of a field of an object literal that the walker types with a `@oneOf` input object,
  in an argument block walked on behalf of `op` (`scopeUses_site`); the event of that literal has the
  `VariableDefinition` link of `op` for its single field in its snapshot, and the silent rule has tested it.
  The converse (`ValuesCorrectOneOfRun.lean`) needs more: a fragment definition is walked once more stand-alone
  (`CurrentOperation = nil`), where the link of a variable is whatever the last operation that reached a node at
  that position left in the side table.
-/
namespace Gql.Validate
open Gql Gql.Validate.Rules

mutual
  theorem usesInValue_untyped (s : Schema) : ∀ (v : Value) (ld : Bool), ∀ u ∈ Spec.usesInValue s none ld none v, u.oneOf = none
    | .mk k raw ch p, ld, u, hu => by
      unfold Spec.usesInValue at hu
      cases k <;> simp only [List.not_mem_nil, List.mem_singleton] at hu
      case «variable» => rw [hu]
      case list => exact usesInItems_untyped s ch u hu
      case object => exact usesInFields_untyped s ch u hu
  theorem usesInItems_untyped (s : Schema) : ∀ (ch : Children), ∀ u ∈ Spec.usesInItems s none ch, u.oneOf = none
    | .nil, u, hu => by simp [Spec.usesInItems] at hu
    | .cons n v p rest, u, hu => by
      rw [Spec.usesInItems] at hu
      rcases List.mem_append.1 hu with hu | hu
      · exact usesInValue_untyped s v false u hu
      · exact usesInItems_untyped s rest u hu
  theorem usesInFields_untyped (s : Schema) : ∀ (ch : Children), ∀ u ∈ Spec.usesInFields s none ch, u.oneOf = none
    | .nil, u, hu => by simp [Spec.usesInFields] at hu
    | .cons n v p rest, u, hu => by
      rw [Spec.usesInFields] at hu
      rcases List.mem_append.1 hu with hu | hu
      · exact usesInValue_untyped s v false u hu
      · exact usesInFields_untyped s rest u hu
end

def ChildIs : Children → Name → Value → Prop
  | .nil, _, _ => False
  | .cons n v _ rest, n', v' => (n = n' ∧ v = v') ∨ ChildIs rest n' v'

def OneOfSite (x : VSite) (u : Spec.VarUse) : Prop :=
  ∃ t dd raw ch p, x.1 = some t ∧ x.2.1 = some dd ∧ x.2.2 = .mk .object raw ch p ∧ dd.kind = .inputObject ∧
    Spec.hasOneOf dd = true ∧ ∃ n chv, ChildIs ch n (.mk .variable u.name chv u.pos)

/-- the walker's definition link of a typed position -/
def dfnOf (s : Schema) (exp : Option GType) : Option Definition := exp.bind fun t => s.type? t.name

mutual
  theorem use_site_value (s : Schema) (nm : Name) :
      ∀ (v : Value) (exp : Option GType) (ld : Bool) (oo : Option Name) (u : Spec.VarUse),
        u ∈ Spec.usesInValue s exp ld oo v → u.oneOf = some nm →
        (∃ raw ch p, v = .mk .variable raw ch p ∧ u.name = raw ∧ u.pos = p ∧ oo = some nm) ∨
        ∃ x ∈ valSites s.view exp (dfnOf s exp) v, OneOfSite x u
    | .mk k raw ch p, exp, ld, oo, u, hu, ho => by
      unfold Spec.usesInValue at hu
      cases k <;> simp only [List.not_mem_nil, List.mem_singleton] at hu
      case «variable» =>
        subst hu
        exact Or.inl ⟨raw, ch, p, rfl, rfl, rfl, ho⟩
      case list =>
        right
        have hl : listChildLink exp (dfnOf s exp) = (Spec.elemOf exp, dfnOf s (Spec.elemOf exp)) := by
          cases exp with
          | none => rfl
          | some t => cases t <;> rfl
        obtain ⟨x, hx, hs⟩ := use_site_items s nm ch exp (dfnOf s exp) _ hl u hu ho
        refine ⟨x, ?_, hs⟩
        unfold valSites
        exact List.mem_append_left _ hx
      case object =>
        right
        cases hb : exp.bind (fun t => s.type? t.name) with
        | none =>
          rw [hb] at hu
          rw [usesInFields_untyped s ch u hu] at ho
          cases ho
        | some d0 =>
          rw [hb] at hu
          simp only at hu
          split at hu
          · rename_i hio
            have hio' : d0.kind = .inputObject := by simpa using hio
            rcases use_site_fields s nm ch d0 u hu ho with ⟨h1, n, chv, hc⟩ | ⟨x, hx, hs⟩
            · refine ⟨(exp, dfnOf s exp, .mk .object raw ch p), self_mem_valSites _ _ _ _, ?_⟩
              cases exp with
              | none => cases hb
              | some t => exact ⟨t, d0, raw, ch, p, rfl, hb, rfl, hio', h1, n, chv, hc⟩
            · refine ⟨x, ?_, hs⟩
              unfold valSites
              refine List.mem_append_left _ ?_
              simp only [dfnOf, hb]
              exact hx
          · rw [usesInFields_untyped s ch u hu] at ho
            cases ho
  theorem use_site_items (s : Schema) (nm : Name) :
      ∀ (ch : Children) (exp : Option GType) (dfn : Option Definition) (e : Option GType),
        listChildLink exp dfn = (e, dfnOf s e) → ∀ (u : Spec.VarUse),
        u ∈ Spec.usesInItems s e ch → u.oneOf = some nm → ∃ x ∈ listSites s.view exp dfn ch, OneOfSite x u
    | .nil, exp, dfn, e, hl, u, hu, ho => by simp [Spec.usesInItems] at hu
    | .cons n v p rest, exp, dfn, e, hl, u, hu, ho => by
      rw [Spec.usesInItems] at hu
      rw [listSites, hl]
      rcases List.mem_append.1 hu with hu | hu
      · rcases use_site_value s nm v e false none u hu ho with ⟨_, _, _, _, _, _, h⟩ | ⟨x, hx, hs⟩
        · cases h
        · exact ⟨x, List.mem_append_left _ hx, hs⟩
      · obtain ⟨x, hx, hs⟩ := use_site_items s nm rest exp dfn e hl u hu ho
        exact ⟨x, List.mem_append_right _ hx, hs⟩
  theorem use_site_fields (s : Schema) (nm : Name) :
      ∀ (ch : Children) (dd : Definition) (u : Spec.VarUse),
        u ∈ Spec.usesInFields s (some dd) ch → u.oneOf = some nm →
        (Spec.hasOneOf dd = true ∧ ∃ n chv, ChildIs ch n (.mk .variable u.name chv u.pos)) ∨
        ∃ x ∈ objSites s.view (some dd) ch, OneOfSite x u
    | .nil, dd, u, hu, ho => by simp [Spec.usesInFields] at hu
    | .cons n v p rest, dd, u, hu, ho => by
      rw [Spec.usesInFields] at hu
      rcases List.mem_append.1 hu with hu | hu
      · have hsame : Spec.inputFieldByName dd n = fieldForName dd.fields n := rfl
        simp only [Option.bind_some, hsame] at hu
        cases hf : fieldForName dd.fields n with
        | none =>
          rw [hf] at hu
          simp only [Option.map_none] at hu
          rw [usesInValue_untyped s v false u hu] at ho
          cases ho
        | some fd =>
          rw [hf] at hu
          simp only [Option.map_some] at hu
          have hlink : objChildLink s.view (some dd) n = (some fd.type, dfnOf s (some fd.type)) := by
            simp only [objChildLink, hf, linkOfType, dfnOf, Option.bind_some]
            rfl
          rcases use_site_value s nm v (some fd.type) _ _ u hu ho with ⟨raw, chv, q, hv, hn, hp, hoo⟩ | ⟨x, hx, hs⟩
          · left
            have hone : Spec.hasOneOf dd = true := by
              cases h : Spec.hasOneOf dd with
              | true => rfl
              | false => rw [h] at hoo; cases hoo
            refine ⟨hone, n, chv, Or.inl ⟨rfl, ?_⟩⟩
            rw [hv, hn, hp]
          · right
            refine ⟨x, ?_, hs⟩
            rw [objSites, hlink]
            exact List.mem_append_left _ hx
      · rcases use_site_fields s nm rest dd u hu ho with ⟨h1, n', chv, hc⟩ | ⟨x, hx, hs⟩
        · exact Or.inl ⟨h1, n', chv, Or.inr hc⟩
        · right
          refine ⟨x, ?_, hs⟩
          rw [objSites]
          exact List.mem_append_right _ hx
end

mutual
  theorem walkValue_oneOfLink (s : SV) (op : OperationDef) :
      ∀ (v : Value) (exp : Option GType) (dfn : Option Definition) (ws : WS), ∀ e ∈ (walkValue s (some op) exp dfn v ws).2,
        ∀ raw0 n rawv chv pv q p0 exp' dfn',
          e.p = .value (.mk .object raw0 (.cons n (.mk .variable rawv chv pv) q .nil) p0) exp' dfn' →
          e.links.varDef pv.start = varForName op.vars rawv
    | .mk k raw ch p, exp, dfn, ws, e, he, raw0, n, rawv, chv, pv, q, p0, exp', dfn', hp => by
      rw [walkValue_mk] at he
      rcases List.mem_append.1 he with he | he
      · cases k <;> simp only [walkChildren] at he <;> first
          | exact walkListChildren_oneOfLink s op ch exp dfn _ e he raw0 n rawv chv pv q p0 exp' dfn' hp
          | exact walkObjChildren_oneOfLink s op ch dfn _ e he raw0 n rawv chv pv q p0 exp' dfn' hp
          | cases he
      · rw [List.mem_singleton.1 he] at hp ⊢
        simp only [Payload.value.injEq, Value.mk.injEq] at hp
        obtain ⟨⟨rfl, rfl, rfl, rfl⟩, _, _⟩ := hp
        simp only [walkChildren, varMark]
        rw [walkObjChildren_cons, walkObjChildren_nil, walkValue_mk]
        simp only [walkChildren]
        exact varMark_varDef op rawv pv ws
  theorem walkObjChildren_oneOfLink (s : SV) (op : OperationDef) :
      ∀ (ch : Children) (dfn : Option Definition) (ws : WS), ∀ e ∈ (walkObjChildren s (some op) dfn ch ws).2,
        ∀ raw0 n rawv chv pv q p0 exp' dfn',
          e.p = .value (.mk .object raw0 (.cons n (.mk .variable rawv chv pv) q .nil) p0) exp' dfn' →
          e.links.varDef pv.start = varForName op.vars rawv
    | .nil, dfn, ws, e, he => by simp [walkObjChildren] at he
    | .cons name v p rest, dfn, ws, e, he => by
      rw [walkObjChildren_cons] at he
      rcases List.mem_append.1 he with he | he
      · exact walkValue_oneOfLink s op v _ _ ws e he
      · exact walkObjChildren_oneOfLink s op rest dfn _ e he
  theorem walkListChildren_oneOfLink (s : SV) (op : OperationDef) :
      ∀ (ch : Children) (exp : Option GType) (dfn : Option Definition) (ws : WS),
        ∀ e ∈ (walkListChildren s (some op) exp dfn ch ws).2,
        ∀ raw0 n rawv chv pv q p0 exp' dfn',
          e.p = .value (.mk .object raw0 (.cons n (.mk .variable rawv chv pv) q .nil) p0) exp' dfn' →
          e.links.varDef pv.start = varForName op.vars rawv
    | .nil, exp, dfn, ws, e, he => by simp [walkListChildren] at he
    | .cons name v p rest, exp, dfn, ws, e, he => by
      rw [walkListChildren_cons] at he
      rcases List.mem_append.1 he with he | he
      · exact walkValue_oneOfLink s op v _ _ ws e he
      · exact walkListChildren_oneOfLink s op rest exp dfn _ e he
end

theorem walkArgs_oneOfLink (s : SV) (op : OperationDef) (defs : Option (List ArgDef)) :
    ∀ (args : List Argument) (ws : WS), ∀ e ∈ (walkArgs s (some op) defs args ws).2,
      ∀ raw0 n rawv chv pv q p0 exp' dfn',
        e.p = .value (.mk .object raw0 (.cons n (.mk .variable rawv chv pv) q .nil) p0) exp' dfn' →
        e.links.varDef pv.start = varForName op.vars rawv
  | [], ws, e, he => by simp [walkArgs] at he
  | a :: rest, ws, e, he => by
    rw [walkArgs_cons] at he
    rcases List.mem_append.1 he with he | he
    · exact walkValue_oneOfLink s op a.value _ _ ws e he
    · exact walkArgs_oneOfLink s op defs rest _ e he


theorem childIs_single {n1 n : Name} {fv v : Value} {q : Pos} (h : ChildIs (.cons n1 fv q .nil) n v) : fv = v := by
  rcases h with ⟨_, h⟩ | h
  · exact h
  · cases h

theorem oneOf_args (s : Schema) (d : QueryDoc) (evs : List Event)
    (hsilent : ∀ e ∈ evs, valuesOfCorrectTypeStep s.view d e = []) (op : OperationDef)
    (defs : Option (List ArgDef)) (args : List Argument) (ws : WS)
    (hsub : ∀ e ∈ (walkArgs s.view (some op) defs args ws).2, e ∈ evs)
    (u : Spec.VarUse) (hu : u ∈ Spec.usesInArgs s defs args) (nm : Name) (ho : u.oneOf = some nm)
    (v : VarDef) (hv : Spec.varDefByName op u.name = some v) : v.type.nonNull = true := by
  unfold Spec.usesInArgs at hu
  obtain ⟨a, ha, hu'⟩ := List.mem_flatMap.1 hu
  clear hu
  have hu := hu'
  clear hu'
  cases hb : defs.bind (Spec.argDefByName · a.name) with
  | none =>
    rw [hb] at hu
    rw [usesInValue_untyped s a.value false u hu] at ho
    cases ho
  | some ad =>
    rw [hb] at hu
    simp only at hu
    cases defs with
    | none => cases hb
    | some dl =>
      have had : Spec.argDefByName dl a.name = some ad := hb
      rcases use_site_value s nm a.value (some ad.type) _ none u hu ho with ⟨_, _, _, _, _, _, h⟩ | ⟨x, hx, hs⟩
      · cases h
      · have hx' : x ∈ argValSites s.view (some dl) args := by
          refine (mem_argValSites_iff s.view _ x _).2 ⟨a, ha, ?_⟩
          rw [argLink_some s.view dl a.name ad had]
          exact hx
        obtain ⟨e, he, hpe⟩ := walkArgs_complete (some op) ws hx'
        obtain ⟨t, dd, raw, ch, p, h1, h2, h3, hio, hone, n, chv, hc⟩ := hs
        rw [h1, h2, h3] at hpe
        have hst := (step_nil_iff s.view d e _ t dd hpe).1 (hsilent e (hsub e he))
        have hcs : customScalar dd = false := by simp [customScalar, hio]
        simp only [stepOK, localPure, oneOfVar, Spec.oneOfOk, Value.kind, Value.children, hcs, hio, hone, Bool.false_or,
          Bool.and_eq_true, beq_self_eq_true, Bool.not_true, Bool.true_and] at hst
        obtain ⟨⟨⟨_, ⟨_, hshape⟩, _⟩, hvar⟩, _⟩ := hst
        cases ch with
        | nil => cases hshape
        | cons n1 fv q rest =>
          cases rest with
          | cons _ _ _ _ => cases hshape
          | nil =>
            have hfv := childIs_single hc
            subst hfv
            have hlink := walkArgs_oneOfLink s.view op (some dl) args ws e he raw n1 u.name chv u.pos q p _ _ hpe
            simp only [oneOfVarOK, Value.children, Value.kind, Value.pos, beq_self_eq_true, Bool.not_true,
              Bool.false_or, hlink] at hvar
            have hv' : varForName op.vars u.name = some v := hv
            rw [hv'] at hvar
            exact hvar

section
variable (s : Schema) (d : QueryDoc) (evs : List Event) (hw : walkDoc s.view d = some evs)
  (hsilent : ∀ e ∈ evs, valuesOfCorrectTypeStep s.view d e = [])
include hw hsilent

theorem oneOfVariablesNonNull_of_silent (hwp : Spec.wellParented s d = true)
    (hfu : Spec.fragmentNameUniqueness d = true) : Spec.oneOfVariablesNonNull s d = true := by
  unfold Spec.oneOfVariablesNonNull
  rw [List.all_eq_true]
  intro op hop
  rw [List.all_eq_true]
  intro u hu
  cases ho : u.oneOf with
  | none => rfl
  | some nm =>
    cases hv : Spec.varDefByName op u.name with
    | none => rfl
    | some v =>
      obtain ⟨site, _, hus, ws, hsub⟩ := scopeUses_site s d hwp hfu op hop evs hw hu
      exact oneOf_args s d evs hsilent op _ _ ws hsub u hus nm ho v hv

end

end Gql.Validate
