import GqlProofs.ValSpec.TypedBridge
/-
  ScalarLeafs and FragmentsOnCompositeTypes against their specification predicates.  On the way, between the walker's
  occurrence `InSelsW` (`Typed.lean`) and the syntactic `InSels` (`Coverage.lean`): `inSelsW_forget`, `inSels_lift`.
-/
namespace Gql.Validate
open Gql Gql.Validate.Rules

theorem selEmpty_eq (sub : Selections) : selEmpty sub = sub.toList.isEmpty := by
  cases sub <;> rfl

theorem isLeafType_eq (t : Definition) : isLeafType t = Spec.isLeaf t := by
  unfold isLeafType Spec.isLeaf
  exact Bool.or_comm _ _

theorem scalarLeafs_iff (s : Schema) (d : QueryDoc) (evs : List Event) (hw : walkDoc s.view d = some evs)
    (hwp : Spec.wellParented s d = true) (hout : Spec.fieldTypesAreOutputTypes s d = true) :
    (∀ e ∈ evs, scalarLeafsStep s.view d e = []) ↔ Spec.leafFieldSelections s d = true := by
  unfold Spec.leafFieldSelections
  unfold Spec.fieldTypesAreOutputTypes at hout
  simp only [List.all_eq_true] at hout ⊢
  have silent : ∀ (e : Event) (f : FieldNode) (fd : FieldDef) (ft : Definition) (par : Option Definition),
      e.p = .field f par (some fd) → s.type? fd.type.name = some ft → (Spec.isLeaf ft || Spec.isComposite ft) = true →
      (scalarLeafsStep s.view d e = [] ↔ Spec.leafShapeOk ft f.sel = true) := by
    intro e f fd ft par hp hft hlc
    have hview : s.view.type? fd.type.name = some ft := hft
    simp only [scalarLeafsStep, hp, hview, Spec.leafShapeOk, isLeafType_eq, selEmpty_eq]
    cases h1 : Spec.isLeaf ft <;> cases h2 : f.sel.toList.isEmpty <;> simp_all
  constructor
  · intro h t ht
    obtain ⟨par, sel⟩ := t
    cases sel with
    | spread nm dirs p => rfl
    | inline tc dirs sub p => rfl
    | field al nm args dirs sub p =>
      have ho := hout _ ht
      simp only [Spec.fieldNodeType] at ho ⊢
      cases hfd : par.bind (Spec.fieldDefOn · nm) with
      | none => simp
      | some fd =>
        rw [hfd] at ho
        simp only [Option.bind_some] at ho ⊢
        cases hft : s.type? fd.type.name with
        | none => rfl
        | some ft =>
          rw [hft] at ho
          simp only at ho ⊢
          obtain ⟨e, he, hp⟩ := walk_parent_type_complete s d evs hw hwp _ ht al nm args dirs sub p rfl
          simp only at hp
          rw [hfd] at hp
          exact (silent e ⟨al, nm, args, dirs, sub, p⟩ fd ft par hp hft ho).1 (h e he)
  · intro h e he
    cases hp : e.p with
    | field f par dfn =>
      cases dfn with
      | none => simp [scalarLeafsStep, hp]
      | some fd =>
        obtain ⟨hmem, hdfn⟩ := walk_parent_type s d evs hw hwp e he f par (some fd) hp
        have hs := h _ hmem
        have ho := hout _ hmem
        simp only [Spec.fieldNodeType, ← hdfn, Option.bind_some] at hs ho
        cases hft : s.type? fd.type.name with
        | none =>
          have hview : s.view.type? fd.type.name = none := hft
          simp [scalarLeafsStep, hp, hview]
        | some ft =>
          rw [hft] at hs ho
          simp only at hs ho
          exact (silent e f fd ft par hp hft ho).2 hs
    | _ => simp [scalarLeafsStep, hp]

mutual
  theorem inSelW_forget (sv : SV) :
      ∀ (x : Selection) (p p' : Option Definition) (y : Selection), InSelW sv p x p' y → InSel x (.sel y)
    | .field al nm args dirs sub pos, p, p', y, h => by
      cases h with
      | self => exact InSel.self _
      | fieldSub _ _ _ _ _ _ _ _ _ hs => exact InSel.fieldSub _ _ _ _ _ _ _ (inSelsW_forget sv sub _ p' y hs)
    | .spread nm dirs pos, p, p', y, h => by
      cases h with
      | self => exact InSel.self _
    | .inline tc dirs sub pos, p, p', y, h => by
      cases h with
      | self => exact InSel.self _
      | inlineSub _ _ _ _ _ _ _ hs => exact InSel.inlineSub _ _ _ _ _ (inSelsW_forget sv sub _ p' y hs)
  theorem inSelsW_forget (sv : SV) :
      ∀ (xs : Selections) (p p' : Option Definition) (y : Selection), InSelsW sv p xs p' y → InSels xs (.sel y)
    | .nil, p, p', y, h => by cases h
    | .cons x rest, p, p', y, h => by
      cases h with
      | head _ _ _ _ _ hx => exact InSels.head _ _ _ (inSelW_forget sv x p p' y hx)
      | tail _ _ _ _ _ hx => exact InSels.tail _ _ _ (inSelsW_forget sv rest p p' y hx)
end

mutual
  theorem inSel_lift (sv : SV) :
      ∀ (x : Selection) (p : Option Definition) (y : Selection), InSel x (.sel y) → ∃ p', InSelW sv p x p' y
    | .field al nm args dirs sub pos, p, y, h => by
      cases h with
      | self => exact ⟨p, InSelW.self _ _⟩
      | fieldSub _ _ _ _ _ _ _ hs =>
        obtain ⟨p', hp⟩ := inSels_lift sv sub (wNext sv p nm) y hs
        exact ⟨p', InSelW.fieldSub _ _ _ _ _ _ _ _ _ hp⟩
    | .spread nm dirs pos, p, y, h => by
      cases h with
      | self => exact ⟨p, InSelW.self _ _⟩
    | .inline tc dirs sub pos, p, y, h => by
      cases h with
      | self => exact ⟨p, InSelW.self _ _⟩
      | inlineSub _ _ _ _ _ hs =>
        obtain ⟨p', hp⟩ := inSels_lift sv sub (wInline sv p tc) y hs
        exact ⟨p', InSelW.inlineSub _ _ _ _ _ _ _ hp⟩
  theorem inSels_lift (sv : SV) :
      ∀ (xs : Selections) (p : Option Definition) (y : Selection), InSels xs (.sel y) → ∃ p', InSelsW sv p xs p' y
    | .nil, p, y, h => by cases h
    | .cons x rest, p, y, h => by
      cases h with
      | head _ _ _ hx =>
        obtain ⟨p', hp⟩ := inSel_lift sv x p y hx
        exact ⟨p', InSelsW.head _ _ _ _ _ hp⟩
      | tail _ _ _ hx =>
        obtain ⟨p', hp⟩ := inSels_lift sv rest p y hx
        exact ⟨p', InSelsW.tail _ _ _ _ _ hp⟩
end

theorem inline_event_sound (s : Schema) (d : QueryDoc) (evs : List Event) (hw : walkDoc s.view d = some evs)
    (e : Event) (he : e ∈ evs) (f : InlineNode) (par : Option Definition) (hp : e.p = .inlineFragment f par) :
    ∃ p, (⟨p, .inline f.typeCond f.dirs f.sel f.pos⟩ : Spec.TSel) ∈ Spec.docSels s d := by
  have := walkDoc_w s.view d evs hw e he
  rw [hp] at this
  apply (docSels_iff s d _).2
  rcases this with ⟨op, hop, h⟩ | ⟨fr, hf, h⟩
  · exact Or.inl ⟨op, hop, inSelsW_forget _ _ _ _ _ h⟩
  · exact Or.inr ⟨fr, hf, inSelsW_forget _ _ _ _ _ h⟩

theorem inline_event_complete (s : Schema) (d : QueryDoc) (evs : List Event) (hw : walkDoc s.view d = some evs)
    (t : Spec.TSel) (ht : t ∈ Spec.docSels s d) (tc : Name) (dirs : List Directive) (sub : Selections) (p : Pos)
    (hs : t.sel = .inline tc dirs sub p) : ∃ e ∈ evs, ∃ par, e.p = .inlineFragment ⟨tc, dirs, sub, p⟩ par := by
  have h1 := docSels_mem_inDocSel s d t ht
  rw [hs] at h1
  rcases h1 with ⟨op, hop, h⟩ | ⟨fr, hf, h⟩
  · obtain ⟨p', hp'⟩ := inSels_lift s.view op.sel (opRoot s.view op.op).1 _ h
    obtain ⟨e, he, hp⟩ := walkDoc_hasW s.view d evs hw p' _ (Or.inl ⟨op, hop, hp'⟩)
    exact ⟨e, he, p', hp⟩
  · obtain ⟨p', hp'⟩ := inSels_lift s.view fr.sel (s.view.type? fr.typeCond) _ h
    obtain ⟨e, he, hp⟩ := walkDoc_hasW s.view d evs hw p' _ (Or.inr ⟨fr, hf, hp'⟩)
    exact ⟨e, he, p', hp⟩

theorem isCompositeType_eq (t : Definition) : isCompositeType t = Spec.isComposite t := rfl

theorem compositeCheck_nil_iff (s : Schema) (tc : Name) (x : RErr) :
    (match s.view.type? tc with
     | none => ([] : List RErr)
     | some t => if isCompositeType t = true then [] else [x]) = [] ↔
      (match s.type? tc with
       | some t => Spec.isComposite t
       | none => true) = true := by
  have : s.view.type? tc = s.type? tc := rfl
  rw [this]
  cases s.type? tc with
  | none => simp
  | some t => cases h : Spec.isComposite t <;> simp [isCompositeType_eq, h]

theorem fragmentsOnCompositeTypes_iff (s : Schema) (d : QueryDoc) (evs : List Event) (hw : walkDoc s.view d = some evs)
    (hE : s.type? [] = none) :
    (∀ e ∈ evs, fragmentsOnCompositeTypesStep s.view d e = []) ↔ Spec.fragmentsOnCompositeTypes s d = true := by
  have hne : ∀ (f : FragmentDef) t, s.type? f.typeCond = some t → (f.typeCond == []) = false := by
    intro f t ht
    cases hc : f.typeCond == [] with
    | false => rfl
    | true => rw [eq_of_beq hc, hE] at ht; cases ht
  unfold Spec.fragmentsOnCompositeTypes Spec.typeConditions
  simp only [List.all_append, Bool.and_eq_true, List.all_eq_true, List.mem_map, List.mem_filterMap]
  constructor
  · intro h
    constructor
    · rintro tc ⟨f, hf, rfl⟩
      obtain ⟨e, he, hp⟩ := (fragment_event_iff s.view d evs hw f _).2 ⟨hf, rfl⟩
      have := h e he
      cases ht : s.type? f.typeCond with
      | none => rfl
      | some t =>
        have hview : s.view.type? f.typeCond = some t := ht
        rw [hview] at hp
        simp only [fragmentsOnCompositeTypesStep, hp, hne f t ht, Bool.false_or] at this
        cases hc : Spec.isComposite t with
        | true => exact hc
        | false => simp [isCompositeType_eq, hc] at this
    · rintro tc ⟨⟨par, sel⟩, ht, hm⟩
      cases sel with
      | field al nm args dirs sub p => cases hm
      | spread nm dirs p => cases hm
      | inline tc' dirs sub p =>
        simp only at hm
        by_cases hemp : (tc' == []) = true
        · simp [hemp] at hm
        · simp only [hemp, Bool.false_eq_true, if_false, Option.some.injEq] at hm
          subst hm
          obtain ⟨e, he, par', hp⟩ := inline_event_complete s d evs hw _ ht tc' dirs sub p rfl
          have := h e he
          simp only [fragmentsOnCompositeTypesStep, hp] at this
          exact (compositeCheck_nil_iff s tc' _).1 this
  · rintro ⟨h1, h2⟩ e he
    unfold fragmentsOnCompositeTypesStep
    split
    · rename_i f par hp
      refine (compositeCheck_nil_iff s f.typeCond _).2 ?_
      obtain ⟨p, hmem⟩ := inline_event_sound s d evs hw e he f par hp
      by_cases hemp : f.typeCond = []
      · rw [hemp, hE]
      · exact h2 f.typeCond ⟨_, hmem, by simp [hemp]⟩
    · rename_i f t hp
      obtain ⟨hf, hd⟩ := (fragment_event_iff s.view d evs hw f (some t)).1 ⟨e, he, hp⟩
      have := h1 f.typeCond ⟨f, hf, rfl⟩
      have hd' : some t = s.type? f.typeCond := hd
      rw [← hd'] at this
      simp only at this
      simp [isCompositeType_eq, this]
    · rfl

end Gql.Validate
