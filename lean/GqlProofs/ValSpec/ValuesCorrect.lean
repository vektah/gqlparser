import GqlProofs.ValSpec.ValuesCorrectLocal
import GqlProofs.ValSpec.ValuesCorrectProv
/-
  ValuesOfCorrectType (§5.6.1) on a whole run.  Under `Spec.wellParented s d` the value events that carry links,
  `.value w (some exp) (some dfn)`, are exactly the typed sites of `valSites s (some t) (s.type? t.name) v` for the roots
  `(t, v) ∈ Spec.typedValueSites s d` (`typed_event_sound` / `typed_event_complete`); with `valueOk_iff_sites` (whence
  `schemaOK`, `rootsInput`, `numLiteralsOK`): all of them pass `localPure` iff `Spec.valuesOfCorrectType s d` (`run_pure_iff`).
  `Value.Value(nil)` fails on no event of a document whose leaves are well-formed texts (`evalErr_run`).  With `step_nil_iff`:
  the rule is silent on the run iff `Spec.valuesOfCorrectType s d` and `oneOfVar` holds of every typed value event
  (`valuesOfCorrectType_iff_oneOfVar`; `valuesOfCorrectType_iff` for a schema without `@oneOf`).
-/
namespace Gql.Validate
open Gql Gql.Validate.Rules

theorem mem_typedValueSites_iff (s : Schema) (d : QueryDoc) (t : GType) (v : Value) :
    (t, v) ∈ Spec.typedValueSites s d ↔
      (∃ site ∈ Spec.argSites s d, ∃ defs, site.defs = some defs ∧ ∃ a ∈ site.args, ∃ ad,
          Spec.argDefByName defs a.name = some ad ∧ t = ad.type ∧ v = a.value) ∨
      (∃ op ∈ d.ops, ∃ vd ∈ op.vars, ∃ dv, vd.default = some dv ∧ t = vd.type ∧ v = dv) := by
  simp only [Spec.typedValueSites, List.mem_append, List.mem_flatMap, List.mem_filterMap, Option.map_eq_some_iff,
    Prod.mk.injEq]
  refine or_congr (exists_congr fun site => and_congr_right fun _ => ?_)
    (exists_congr fun op => and_congr_right fun _ => exists_congr fun vd => and_congr_right fun _ => ?_)
  · cases site.defs with
    | none => simp
    | some defs =>
      simp only [List.mem_filterMap, Option.map_eq_some_iff, Prod.mk.injEq, Option.some.injEq, exists_eq_left']
      exact exists_congr fun a => and_congr_right fun _ => exists_congr fun ad =>
        and_congr_right fun _ => and_congr eq_comm eq_comm
  · exact exists_congr fun dv => and_congr_right fun _ => and_congr eq_comm eq_comm

theorem argLink_some (s : SV) (defs : List ArgDef) (name : Name) (ad : ArgDef)
    (h : Spec.argDefByName defs name = some ad) :
    argLink s (some defs) name = (some ad.type, s.type? ad.type.name) := by
  have h' : argDefForName defs name = some ad := h
  simp [argLink, h', linkOfType]

theorem argLink_none (s : SV) (defs : Option (List ArgDef)) (name : Name)
    (h : defs.bind (argDefForName · name) = none) : argLink s defs name = (none, none) := by
  simp [argLink, h]

section
variable (s : Schema) (d : QueryDoc) (evs : List Event) (hw : walkDoc s.view d = some evs)
  (hwp : Spec.wellParented s d = true)
include hw hwp

theorem typed_event_sound (e : Event) (he : e ∈ evs) (w : Value) (exp : GType) (dfn : Definition)
    (hp : e.p = .value w (some exp) (some dfn)) :
    ∃ t v, (t, v) ∈ Spec.typedValueSites s d ∧ (some exp, some dfn, w) ∈ valSites s.view (some t) (s.type? t.name) v := by
  have harg : ∀ (defs : Option (List ArgDef)) (args : List Argument) (ws : WS),
      (⟨defs, args⟩ : Spec.ArgSite) ∈ Spec.argSites s d → e ∈ (walkArgs s.view e.cur defs args ws).2 →
      ∃ t v, (t, v) ∈ Spec.typedValueSites s d ∧ (some exp, some dfn, w) ∈ valSites s.view (some t) (s.type? t.name) v := by
    intro defs args ws hsite hin
    obtain ⟨a, ha, hxa⟩ := (mem_argValSites_iff s.view defs _ args).1 (walkArgs_sound hin hp)
    cases hb : defs.bind (argDefForName · a.name) with
    | none =>
      rw [argLink_none s.view defs a.name hb] at hxa
      cases valSites_untyped s.view a.value _ hxa
    | some ad =>
      cases defs with
      | none => cases hb
      | some dl =>
        have had : Spec.argDefByName dl a.name = some ad := hb
        rw [argLink_some s.view dl a.name ad had] at hxa
        exact ⟨ad.type, a.value, (mem_typedValueSites_iff s d _ _).2 (Or.inl ⟨_, hsite, dl, rfl, a, ha, ad, had, rfl, rfl⟩), hxa⟩
  rcases walkDoc_value_origin s.view d evs hw e he w _ _ hp with
    ⟨e', he', f, par, fd, ws, hp', _, hin⟩ | ⟨e', he', dir, dd, par, loc, ws, hp', _, hin⟩ |
    ⟨op, hop, vd, hvd, dv, ws, hdv, _, hin⟩
  · exact harg _ _ ws ((block_site s d evs hw hwp e' he').1 f par fd hp') hin
  · exact harg _ _ ws ((block_site s d evs hw hwp e' he').2 dir dd par loc hp') hin
  · exact ⟨vd.type, dv, (mem_typedValueSites_iff s d _ _).2 (Or.inr ⟨op, hop, vd, hvd, dv, hdv, rfl, rfl⟩),
      walkValue_sound hin hp⟩

theorem typed_event_complete (t : GType) (v : Value) (htv : (t, v) ∈ Spec.typedValueSites s d)
    (x : VSite) (hx : x ∈ valSites s.view (some t) (s.type? t.name) v) :
    ∃ e ∈ evs, e.p = .value x.2.2 x.1 x.2.1 := by
  rcases (mem_typedValueSites_iff s d t v).1 htv with
    ⟨site, hsite, defs, hdefs, a, ha, ad, had, rfl, rfl⟩ | ⟨op, hop, vd, hvd, dv, hdv, rfl, rfl⟩
  · have hx' : x ∈ argValSites s.view site.defs site.args := by
      refine (mem_argValSites_iff s.view _ x _).2 ⟨a, ha, ?_⟩
      rw [hdefs, argLink_some s.view defs a.name ad had]
      exact hx
    obtain ⟨cur, ws, hblk⟩ := site_block s d evs hw hwp site hsite
    obtain ⟨e, he, hpe⟩ := walkArgs_complete cur ws hx'
    exact ⟨e, hblk e he, hpe⟩
  · obtain ⟨ws, hblk⟩ := walkDoc_defaults_complete s.view d evs hw op hop vd hvd v hdv
    obtain ⟨e, he, hpe⟩ := walkValue_complete (some op) ws hx
    exact ⟨e, hblk e he, hpe⟩

end

/-- `dfn` is the definition the schema gives for the named type of `exp` -/
def Linked (s : SV) (exp : Option GType) (dfn : Option Definition) : Prop := ∀ e', exp = some e' → dfn = s.type? e'.name

mutual
  theorem valSites_linked (s : SV) : ∀ (v : Value) (exp : Option GType) (dfn : Option Definition), Linked s exp dfn →
      ∀ x ∈ valSites s exp dfn v, Linked s x.1 x.2.1
    | .mk k raw ch p, exp, dfn, hl, x, hx => by
      unfold valSites at hx
      rcases List.mem_append.1 hx with hx | hx
      · cases k <;> simp only [List.not_mem_nil] at hx
        · exact listSites_linked s ch exp dfn hl x hx
        · exact objSites_linked s ch dfn x hx
      · rw [List.mem_singleton.1 hx]; exact hl
  theorem objSites_linked (s : SV) : ∀ (ch : Children) (dfn : Option Definition),
      ∀ x ∈ objSites s dfn ch, Linked s x.1 x.2.1
    | .nil, dfn, x, hx => by simp [objSites] at hx
    | .cons n v p rest, dfn, x, hx => by
      rw [objSites] at hx
      rcases List.mem_append.1 hx with hx | hx
      · refine valSites_linked s v _ _ ?_ x hx
        intro e' he'
        unfold objChildLink at he' ⊢
        cases dfn with
        | none => cases he'
        | some d0 =>
          simp only at he' ⊢
          cases hf : fieldForName d0.fields n with
          | none => rw [hf] at he'; cases he'
          | some fd =>
            rw [hf] at he'
            simp only [linkOfType, Option.some.injEq] at he' ⊢
            rw [he']
      · exact objSites_linked s rest dfn x hx
  theorem listSites_linked (s : SV) : ∀ (ch : Children) (exp : Option GType) (dfn : Option Definition), Linked s exp dfn →
      ∀ x ∈ listSites s exp dfn ch, Linked s x.1 x.2.1
    | .nil, exp, dfn, hl, x, hx => by simp [listSites] at hx
    | .cons n v p rest, exp, dfn, hl, x, hx => by
      rw [listSites] at hx
      rcases List.mem_append.1 hx with hx | hx
      · refine valSites_linked s v _ _ ?_ x hx
        intro e' he'
        unfold listChildLink at he' ⊢
        cases exp with
        | none => cases he'
        | some t =>
          cases t with
          | named a b c => cases he'
          | list el b c =>
            simp only [Option.some.injEq] at he' ⊢
            rw [← he']
            exact hl (.list el b c) rfl
      · exact listSites_linked s rest exp dfn hl x hx
end

/-- the declared type of every typed value position resolves to an input type.  For arguments this
    follows from `Gql.Spec.Closed s` (`argTypes`, `directiveArgTypes`), for variable defaults it is
    `Spec.variablesAreInputTypes` (the check's mask): `rootsInput_of_closed`, `ValuesCorrectHyps.lean`. -/
def rootsInput (s : Schema) (d : QueryDoc) : Bool := (Spec.typedValueSites s d).all fun tv => inputTypeB s tv.1

def numLiteralsOK (s : Schema) (d : QueryDoc) : Bool :=
  (Spec.typedValueSites s d).all fun tv => (subValues tv.2).all fun w => numLeafOK w.kind w.raw

theorem rootsInput_type {s : Schema} {d : QueryDoc} (hroots : rootsInput s d = true) {t : GType} {v : Value}
    (htv : (t, v) ∈ Spec.typedValueSites s d) : ∃ d0, s.type? t.name = some d0 ∧ Spec.isInput d0 = true := by
  have := List.all_eq_true.1 hroots (t, v) htv
  simp only [inputTypeB] at this
  cases h : s.type? t.name with
  | none => rw [h] at this; cases this
  | some d0 => rw [h] at this; exact ⟨d0, rfl, this⟩

section
variable (s : Schema) (d : QueryDoc) (evs : List Event) (hw : walkDoc s.view d = some evs)
  (hwp : Spec.wellParented s d = true)
include hw hwp

theorem typed_event_dfn (e : Event) (he : e ∈ evs) (w : Value) (exp : GType) (dfn : Definition)
    (hp : e.p = .value w (some exp) (some dfn)) : s.type? exp.name = some dfn := by
  obtain ⟨t, v, _, hx⟩ := typed_event_sound s d evs hw hwp e he w exp dfn hp
  have := valSites_linked s.view v (some t) (s.type? t.name) (by intro e' he'; cases he'; rfl) _ hx exp rfl
  exact this.symm

variable (hschema : schemaOK s = true) (hroots : rootsInput s d = true) (hnum : numLiteralsOK s d = true)
include hschema hroots hnum

theorem run_pure_iff :
    (∀ e ∈ evs, ∀ w exp dfn, e.p = .value w (some exp) (some dfn) → localPure exp dfn w = true) ↔
      Spec.valuesOfCorrectType s d = true := by
  unfold numLiteralsOK at hnum
  rw [List.all_eq_true] at hnum
  have hres := fun t v (htv : (t, v) ∈ Spec.typedValueSites s d) => rootsInput_type hroots htv
  have hlit : ∀ t v, (t, v) ∈ Spec.typedValueSites s d → ∀ w ∈ subValues v, numLeafOK w.kind w.raw = true := by
    intro t v htv
    have := hnum (t, v) htv
    exact List.all_eq_true.1 this
  unfold Spec.valuesOfCorrectType
  rw [List.all_eq_true]
  constructor
  · rintro h ⟨t, v⟩ htv
    obtain ⟨d0, hd0, hin⟩ := hres t v htv
    refine (valueOk_iff_sites s hschema v t d0 hd0 hin (hlit t v htv)).1 ?_
    intro x hx exp dfn h1 h2
    rw [← hd0] at hx
    obtain ⟨e, he, hpe⟩ := typed_event_complete s d evs hw hwp t v htv x hx
    rw [h1, h2] at hpe
    exact h e he _ _ _ hpe
  · intro h e he w exp dfn hp
    obtain ⟨t, v, htv, hx⟩ := typed_event_sound s d evs hw hwp e he w exp dfn hp
    obtain ⟨d0, hd0, hin⟩ := hres t v htv
    rw [hd0] at hx
    exact (valueOk_iff_sites s hschema v t d0 hd0 hin (hlit t v htv)).2 (h (t, v) htv) _ hx exp dfn rfl rfl

end

mutual
  theorem constErr_sub : ∀ v : Value, constErr v = false → ∀ w ∈ subValues v, constErr w = false
    | .mk k raw ch p, h, w, hw => by
      unfold subValues at hw
      rcases List.mem_append.1 hw with hw | hw
      · cases k <;> simp only [List.not_mem_nil] at hw
        · unfold constErr at h
          exact constErrs_sub ch h w hw
        · unfold constErr at h
          exact constErrs_sub ch h w hw
      · rw [List.mem_singleton.1 hw]; exact h
  theorem constErrs_sub : ∀ ch : Children, constErrs ch = false → ∀ w ∈ childValues ch, constErr w = false
    | .nil, _, w, hw => by simp [childValues] at hw
    | .cons n v p rest, h, w, hw => by
      rw [constErrs, Bool.or_eq_false_iff] at h
      rw [childValues] at hw
      rcases List.mem_append.1 hw with hw | hw
      · exact constErr_sub v h.1 w hw
      · exact constErrs_sub rest h.2 w hw
end

def DefaultsOK (l : Links) : Prop := ∀ k vd dv, l.varDef k = some vd → vd.default = some dv → constErr dv = false

mutual
  theorem evalErr_false (l : Links) (hl : DefaultsOK l) : ∀ v : Value, constErr v = false → evalErr l v = false
    | .mk k raw ch p, h => by
      unfold evalErr
      cases k <;> simp only
      case «variable» =>
        cases hv : l.varDef p.start with
        | none => rfl
        | some vd =>
          simp only
          cases hd : vd.default with
          | none => rfl
          | some dv => exact hl _ vd dv hv hd
      case list => unfold constErr at h; exact evalErrs_false l hl ch h
      case object => unfold constErr at h; exact evalErrs_false l hl ch h
      all_goals (unfold constErr at h ⊢; exact h)
  theorem evalErrs_false (l : Links) (hl : DefaultsOK l) : ∀ ch : Children, constErrs ch = false → evalErrs l ch = false
    | .nil, _ => by simp [evalErrs]
    | .cons n v p rest, h => by
      rw [constErrs, Bool.or_eq_false_iff] at h
      rw [evalErrs, evalErr_false l hl v h.1, evalErrs_false l hl rest h.2]
      rfl
end

/-- every value written in the document evaluates as a constant: its Int / Float / Boolean leaves
    are well-formed texts (`strconv.ParseInt(…, 64)` / `ParseFloat` give no SYNTAX error, a Boolean is
    one of the texts `strconv.ParseBool` knows).  True of every document the parser produces. -/
def leavesWellFormed (s : Schema) (d : QueryDoc) : Bool := (Spec.allValues s d).all fun v => !constErr v

theorem evalErr_run (s : Schema) (d : QueryDoc) (evs : List Event) (hw : walkDoc s.view d = some evs)
    (hwf : leavesWellFormed s d = true) :
    ∀ e ∈ evs, ∀ w exp dfn, e.p = .value w exp dfn → evalErr e.links w = false := by
  unfold leavesWellFormed at hwf
  rw [List.all_eq_true] at hwf
  have hwf' : ∀ v ∈ Spec.allValues s d, constErr v = false := by
    intro v hv
    have := hwf v hv
    simpa using this
  intro e he w exp dfn hp
  obtain ⟨v, hv, hsub⟩ := value_event_sound s d evs hw e he w exp dfn hp
  refine evalErr_false e.links (fun k vd dv hk hd => ?_) w (constErr_sub v (hwf' v hv) w hsub)
  obtain ⟨op, hop, hvd⟩ := walkDoc_varDef_mem s.view d evs hw e he k vd hk
  exact hwf' dv ((mem_allValues_iff s d dv).2 (.inr ⟨op, hop, vd, hvd, hd⟩))

def noOneOf (s : Schema) : Bool := s.types.all fun p => !Spec.hasOneOf p.2

section
variable (s : Schema) (d : QueryDoc) (evs : List Event) (hw : walkDoc s.view d = some evs)
  (hwp : Spec.wellParented s d = true) (hschema : schemaOK s = true) (hroots : rootsInput s d = true)
  (hnum : numLiteralsOK s d = true) (hwf : leavesWellFormed s d = true)
include hw hwp hschema hroots hnum hwf

/-- the second conjunct — no `@oneOf` input object literal has, as its single field, a variable that the link table of
    its event binds to a definition of a nullable type — is compared with `Spec.oneOfVariablesNonNull` in
    `ValuesCorrectOneOf.lean` (`oneOfVariablesNonNull_of_silent`: a silent rule implies it) and in
    `ValuesCorrectOneOfRun.lean` (`oneOfVar_of_spec`: the converse) -/
theorem valuesOfCorrectType_iff_oneOfVar :
    (∀ e ∈ evs, valuesOfCorrectTypeStep s.view d e = []) ↔
      (Spec.valuesOfCorrectType s d = true ∧
        ∀ e ∈ evs, ∀ w exp dfn, e.p = .value w (some exp) (some dfn) → oneOfVar e.links dfn w = true) := by
  rw [← run_pure_iff s d evs hw hwp hschema hroots hnum]
  constructor
  · intro h
    refine ⟨fun e he w exp dfn hp => ?_, fun e he w exp dfn hp => ?_⟩
    · have := (step_nil_iff s.view d e w exp dfn hp).1 (h e he)
      simp only [stepOK, Bool.and_eq_true] at this
      exact this.1.1
    · have := (step_nil_iff s.view d e w exp dfn hp).1 (h e he)
      simp only [stepOK, Bool.and_eq_true] at this
      exact this.1.2
  · rintro ⟨h1, h2⟩ e he
    by_cases hv : ∃ w exp dfn, e.p = .value w (some exp) (some dfn)
    · obtain ⟨w, exp, dfn, hp⟩ := hv
      rw [step_nil_iff s.view d e w exp dfn hp]
      simp only [stepOK, Bool.and_eq_true, Bool.or_eq_true, Bool.not_eq_true']
      exact ⟨⟨h1 e he w exp dfn hp, h2 e he w exp dfn hp⟩, Or.inr (evalErr_run s d evs hw hwf e he w _ _ hp)⟩
    · exact step_other s.view d e (fun w exp dfn hp => hv ⟨w, exp, dfn, hp⟩)

theorem valuesOfCorrectType_iff (hno : noOneOf s = true) :
    (∀ e ∈ evs, valuesOfCorrectTypeStep s.view d e = []) ↔ Spec.valuesOfCorrectType s d = true := by
  rw [valuesOfCorrectType_iff_oneOfVar s d evs hw hwp hschema hroots hnum hwf]
  constructor
  · exact fun h => h.1
  · intro h
    refine ⟨h, fun e he w exp dfn hp => ?_⟩
    have hd := typed_event_dfn s d evs hw hwp e he w exp dfn hp
    unfold noOneOf at hno
    rw [List.all_eq_true] at hno
    have := hno _ (mem_of_lookup hd)
    simp only [Bool.not_eq_true'] at this
    simp [oneOfVar, this]

end

end Gql.Validate
