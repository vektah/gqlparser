import GqlProofs.ValSpec.DefDirs
import GqlProofs.ValSpec.ReachClosure
import GqlProofs.ValSpec.ValBlocks
/-
  C09, value and variable links, completeness direction: which argument lists are walked on behalf of which
  `CurrentOperation`.  `HasArgs cur es defs args`: the events of one call `walkArgs sv cur defs args _` are among `es`.
  The invariant of one walk (`JumpCL`; `cur = some op` for an operation, `none` for a stand-alone fragment definition):
  every node reached under the walker's typing has its own argument list and those of its directives walked on behalf
  of `cur` (`NodeDone`); every name that enters `visited` is a fragment whose WHOLE definition has been so walked in
  this walk and whose spreads of existing fragments are in `visited` afterwards (`WalkC2`, `FragDoneL`), as are those
  written in the walked selections.  So the fragments an operation reaches transitively (`OpReaches`) are walked
  completely on behalf of that operation (`walkDoc_reach`, through `Reach.closed`).
-/
namespace Gql.Validate
open Gql

section
variable (sv : SV)

def HasArgs (cur : Option OperationDef) (es : List Event) (defs : Option (List ArgDef)) (args : List Argument) : Prop :=
  ∃ ws, ∀ e ∈ (walkArgs sv cur defs args ws).2, e ∈ es

def HasDirArgs (cur : Option OperationDef) (es : List Event) (dirs : List Directive) : Prop :=
  ∀ dir ∈ dirs, HasArgs sv cur es ((sv.directive? dir.name).map (·.args)) dir.args

def NodeDone (cur : Option OperationDef) (es : List Event) (p' : Option Definition) : Selection → Prop
  | .field _ nm args dirs _ _ => HasArgs sv cur es ((wFieldDef p' nm).map (·.args)) args ∧ HasDirArgs sv cur es dirs
  | .inline _ dirs _ _ => HasDirArgs sv cur es dirs
  | .spread _ dirs _ => HasDirArgs sv cur es dirs

variable {sv}

theorem HasArgs.mono {cur : Option OperationDef} {es es' : List Event} {defs : Option (List ArgDef)}
    {args : List Argument} (h : HasArgs sv cur es defs args) (hs : ∀ e ∈ es, e ∈ es') : HasArgs sv cur es' defs args := by
  obtain ⟨ws, hw⟩ := h
  exact ⟨ws, fun e he => hs e (hw e he)⟩

theorem HasDirArgs.mono {cur : Option OperationDef} {es es' : List Event} {dirs : List Directive}
    (h : HasDirArgs sv cur es dirs) (hs : ∀ e ∈ es, e ∈ es') : HasDirArgs sv cur es' dirs :=
  fun dir hd => (h dir hd).mono hs

theorem NodeDone.mono {cur : Option OperationDef} {es es' : List Event} {p' : Option Definition} :
    ∀ {y : Selection}, NodeDone sv cur es p' y → (∀ e ∈ es, e ∈ es') → NodeDone sv cur es' p' y
  | .field .., h, hs => ⟨h.1.mono hs, h.2.mono hs⟩
  | .inline .., h, hs => HasDirArgs.mono h hs
  | .spread .., h, hs => HasDirArgs.mono h hs

theorem walkDirectiveItems_hasArgs (cur : Option OperationDef) (parent : Option Definition) (loc : Bytes) :
    ∀ (ds : List Directive) (ws : WS), HasDirArgs sv cur (walkDirectiveItems sv cur parent loc ds ws).2 ds
  | [], _, dir, h => by cases h
  | d0 :: rest, ws, dir, h => by
    simp only [walkDirectiveItems]
    rcases List.mem_cons.1 h with rfl | h
    · exact ⟨ws, fun e he => List.mem_append_left _ he⟩
    · exact (walkDirectiveItems_hasArgs cur parent loc rest _ dir h).mono
        (fun e he => List.mem_append_right _ (List.mem_cons_of_mem _ he))

theorem walkDirectives_hasArgs (cur : Option OperationDef) (parent : Option Definition) (ds : List Directive)
    (loc : Bytes) (ws : WS) : HasDirArgs sv cur (walkDirectives sv cur parent ds loc ws).2 ds := by
  simp only [walkDirectives]
  exact (walkDirectiveItems_hasArgs cur parent loc ds ws).mono (sub_inl _)

end

def FragDoneL (sv : SV) (d : QueryDoc) (cur : Option OperationDef) (es : List Event) (V : List Name) (n : Name) : Prop :=
  ∃ f, fragForName d n = some f ∧ HasDirArgs sv cur es f.dirs ∧
    (∀ p' y, InSelsW sv (sv.type? f.typeCond) f.sel p' y → NodeDone sv cur es p' y) ∧
    (∀ nm' f', SpreadInSels f.sel nm' → fragForName d nm' = some f' → nm' ∈ V)

theorem FragDoneL.mono {sv : SV} {d : QueryDoc} {cur : Option OperationDef} {es es' : List Event} {V V' : List Name}
    {n : Name} (h : FragDoneL sv d cur es V n) (hs : ∀ e ∈ es, e ∈ es') (hV : V ⊆ V') : FragDoneL sv d cur es' V' n := by
  obtain ⟨f, hf, h1, h2, h3⟩ := h
  exact ⟨f, hf, h1.mono hs, fun p' y hi => (h2 p' y hi).mono hs, fun nm' f' a b => hV (h3 nm' f' a b)⟩

def WalkC2 (sv : SV) (d : QueryDoc) (cur : Option OperationDef) (ws : WS) (r : WS × List Event) : Prop :=
  ws.visited ⊆ r.1.visited ∧ ∀ n ∈ r.1.visited, n ∈ ws.visited ∨ FragDoneL sv d cur r.2 r.1.visited n

def JumpCL (sv : SV) (d : QueryDoc) (cur : Option OperationDef) (J : Jump) : Prop :=
  ∀ parent sels (ws : WS) r, J parent sels ws = some r →
    (∀ p' y, InSelsW sv parent sels p' y → NodeDone sv cur r.2 p' y) ∧ WalkC2 sv d cur ws r ∧
    ∀ nm f, SpreadInSels sels nm → fragForName d nm = some f → nm ∈ r.1.visited

section
variable {sv : SV} {d : QueryDoc}

theorem walkSel_cL_cases (cur : Option OperationDef) (J : Jump) (hJ : JumpCL sv d cur J) :
    WalkCases sv d cur J
      (fun parent x ws r => (∀ p' y, InSelW sv parent x p' y → NodeDone sv cur r.2 p' y) ∧ WalkC2 sv d cur ws r ∧
        ∀ nm f, SpreadIn x nm → fragForName d nm = some f → nm ∈ r.1.visited)
      (fun parent xs ws r => (∀ p' y, InSelsW sv parent xs p' y → NodeDone sv cur r.2 p' y) ∧ WalkC2 sv d cur ws r ∧
        ∀ nm f, SpreadInSels xs nm → fragForName d nm = some f → nm ∈ r.1.visited) where
  field := fun _ _ _ _ dirs _ p ws _ _ ⟨c1, ⟨m, a⟩, b⟩ => by
    simp only [walkDirectives_visited, walkArgs_visited, markSel_visited] at m a
    refine ⟨fun p' y hi => ?_, ⟨m, fun n hn => (a n hn).imp_right fun h1 => h1.mono (sub_mid _ _) fun _ h => h⟩,
      fun nm' f ⟨ds, q, hi⟩ hf => ?_⟩
    · cases hi with
      | self =>
        exact ⟨⟨ws.markSel p.start, (sub_left (sub_left (sub_inl _) _) _)⟩,
          (walkDirectives_hasArgs cur _ dirs locField _).mono
            (sub_left (sub_mid _ _) _)⟩
      | fieldSub _ _ _ _ _ _ _ _ _ hs' => exact (c1 p' y hs').mono (sub_mid _ _)
    · cases hi with
      | fieldSub _ _ _ _ _ _ _ hs' => exact b nm' f ⟨ds, q, hs'⟩ hf
  inline := fun _ _ dirs _ _ _ _ _ ⟨c1, ⟨m, a⟩, b⟩ => by
    simp only [walkDirectives_visited, markSel_visited] at m a
    refine ⟨fun p' y hi => ?_, ⟨m, fun n hn => (a n hn).imp_right fun h1 => h1.mono (sub_mid _ _) fun _ h => h⟩,
      fun nm' f ⟨ds, q, hi⟩ hf => ?_⟩
    · cases hi with
      | self =>
        exact (walkDirectives_hasArgs cur _ dirs locInlineFragment _).mono
          (sub_left (sub_inl _) _)
      | inlineSub _ _ _ _ _ _ _ hs' => exact (c1 p' y hs').mono (sub_mid _ _)
    · cases hi with
      | inlineSub _ _ _ _ _ hs' => exact b nm' f ⟨ds, q, hs'⟩ hf
  spreadStop := fun _ nm dirs p ws hdef => by
    simp only [WalkC2, walkDirectives_visited, markSel_visited]
    refine ⟨fun p' y hi => ?_, ⟨fun _ hx => hx, fun n hn => Or.inl hn⟩, fun nm' f hs hf => ?_⟩
    · cases hi with
      | self => exact (walkDirectives_hasArgs cur _ dirs locFragmentSpread (ws.markSel p.start)).mono (sub_inl _)
    · rw [spreadIn_spread hs] at hf ⊢
      rw [← fragForName_name hf]
      exact hdef f hf
  spreadJump := fun _ nm dirs p ws f r3 hf _ h3 => by
    have hname := fragForName_name hf
    obtain ⟨c1, ⟨m, a⟩, b⟩ := hJ _ _ _ r3 h3
    simp only [walkDirectives_visited] at m a
    refine ⟨fun p' y hi => ?_, ⟨fun x hx => m (List.mem_cons_of_mem _ hx), fun n hn => ?_⟩, fun nm' f' hs _ => ?_⟩
    · cases hi with
      | self =>
        exact (walkDirectives_hasArgs cur _ dirs locFragmentSpread (ws.markSel p.start)).mono
          (sub_left (sub_left (sub_inl _) _) _)
    · rcases a n hn with h1 | h1
      · rcases List.mem_cons.1 h1 with h2 | h2
        · right
          rw [h2]
          exact ⟨f, by rw [hname]; exact hf,
            (walkDirectives_hasArgs cur _ f.dirs locFragmentDefinition _).mono
              (sub_left (sub_mid _ _) _),
            fun p' y hi => (c1 p' y hi).mono (sub_mid _ _), b⟩
        · exact Or.inl h2
      · exact Or.inr (h1.mono (sub_mid _ _) fun _ h => h)
    · rw [spreadIn_spread hs, ← hname]
      exact m List.mem_cons_self
  nil := fun _ _ => ⟨fun _ _ hi => (by cases hi), ⟨fun _ hx => hx, fun n hn => Or.inl hn⟩, fun nm f ⟨_, _, hi⟩ _ => (by cases hi)⟩
  cons := fun _ _ _ _ _ _ _ _ ⟨c1, ⟨m1, a1⟩, b1⟩ ⟨c2, ⟨m2, a2⟩, b2⟩ => by
    refine ⟨fun p' y hi => ?_, ⟨fun n hn => m2 (m1 hn), fun n hn => ?_⟩, fun nm f ⟨ds, q, hi⟩ hf => ?_⟩
    · cases hi with
      | head _ _ _ _ _ hx => exact (c1 p' y hx).mono (sub_inl _)
      | tail _ _ _ _ _ hx => exact (c2 p' y hx).mono (sub_inr _)
    · rcases a2 n hn with h3 | h3
      · exact (a1 n h3).imp_right fun h4 => h4.mono (sub_inl _) m2
      · exact Or.inr (h3.mono (sub_inr _) fun _ h => h)
    · cases hi with
      | head _ _ _ hx => exact m2 (b1 nm f ⟨ds, q, hx⟩ hf)
      | tail _ _ _ hx => exact b2 nm f ⟨ds, q, hx⟩ hf

theorem walkSelection_cL (cur : Option OperationDef) (J : Jump) (hJ : JumpCL sv d cur J) :
    ∀ (x : Selection) (parent : Option Definition) (ws : WS) r, walkSelection sv d cur J parent x ws = some r →
      (∀ p' y, InSelW sv parent x p' y → NodeDone sv cur r.2 p' y) ∧ WalkC2 sv d cur ws r ∧
      ∀ nm f, SpreadIn x nm → fragForName d nm = some f → nm ∈ r.1.visited :=
  walkSelection_induct (walkSel_cL_cases cur J hJ)

theorem walkLevel_cL (cur : Option OperationDef) : ∀ n, JumpCL sv d cur (walkLevel sv d cur n) :=
  walkLevel_induct fun J hJ => walkSel_cL_cases cur J hJ

end

/-- the operation reaches the fragment definition `f` through spreads of defined fragments -/
inductive OpReaches (d : QueryDoc) (op : OperationDef) : FragmentDef → Prop
  | direct (nm : Name) (f : FragmentDef) : SpreadInSels op.sel nm → fragForName d nm = some f → OpReaches d op f
  | step (g : FragmentDef) (nm : Name) (f : FragmentDef) : OpReaches d op g → SpreadInSels g.sel nm →
      fragForName d nm = some f → OpReaches d op f

theorem opReaches_iff (d : QueryDoc) (op : OperationDef) (f : FragmentDef) :
    OpReaches d op f ↔ ∃ n, Reach d (Spec.spreadsOfSels op.sel) n ∧ fragForName d n = some f := by
  constructor
  · intro h
    induction h with
    | direct nm f hs hf => exact ⟨nm, Reach.base ((mem_spreadsOfSels_iff nm _).2 hs), hf⟩
    | step g nm f _ hs hf ih =>
      obtain ⟨m, hr, hg⟩ := ih
      exact ⟨nm, Reach.step hr (by rw [fragSpreads_of_forName hg]; exact (mem_spreadsOfSels_iff nm _).2 hs), hf⟩
  · rintro ⟨n, hr, hf⟩
    induction hr generalizing f with
    | base hn => exact OpReaches.direct _ f ((mem_spreadsOfSels_iff _ _).1 hn) hf
    | step _ hn ih =>
      obtain ⟨g, hg, _, _, hn'⟩ := fragSpreads_defined hn
      exact OpReaches.step g _ f (ih g hg) ((mem_spreadsOfSels_iff _ _).1 hn') hf

def FragWalked (sv : SV) (cur : Option OperationDef) (es : List Event) (f : FragmentDef) : Prop :=
  HasDirArgs sv cur es f.dirs ∧ ∀ p' y, InSelsW sv (sv.type? f.typeCond) f.sel p' y → NodeDone sv cur es p' y

theorem FragWalked.mono {sv : SV} {cur : Option OperationDef} {es es' : List Event} {f : FragmentDef}
    (h : FragWalked sv cur es f) (hs : ∀ e ∈ es, e ∈ es') : FragWalked sv cur es' f :=
  ⟨h.1.mono hs, fun p' y hi => (h.2 p' y hi).mono hs⟩

def HasDefault (sv : SV) (op : OperationDef) (es : List Event) (vd : VarDef) (dv : Value) : Prop :=
  ∃ ws, ∀ e ∈ (walkValue sv (some op) (some vd.type) (sv.type? vd.type.name) dv ws).2, e ∈ es

theorem walkVarDefsB_hasArgs (sv : SV) (op : OperationDef) :
    ∀ (vs : List VarDef) (ws : WS), ∀ v ∈ vs, HasDirArgs sv (some op) (walkVarDefsB sv (some op) vs ws).2 v.dirs
  | v0 :: rest, ws, v, h => by
    simp only [walkVarDefsB]
    rcases List.mem_cons.1 h with rfl | h
    · exact (walkDirectives_hasArgs (some op) _ v.dirs _ _).mono
        (fun e he => List.mem_append_left _ (List.mem_append_right _ he))
    · exact (walkVarDefsB_hasArgs sv op rest _ v h).mono (sub_inr _)

theorem walkVarDefsA_complete (sv : SV) (cur : Option OperationDef) (ws : WS) :
    ∀ (vs : List VarDef), ∀ v ∈ vs, ∃ e ∈ walkVarDefsA sv cur ws vs, e.cur = cur ∧ e.p = .variable v (sv.type? v.type.name)
  | [], v, h => by cases h
  | v0 :: rest, v, h => by
    simp only [walkVarDefsA]
    rcases List.mem_cons.1 h with rfl | h
    · exact ⟨_, List.mem_cons_self, rfl, rfl⟩
    · obtain ⟨e, he, x⟩ := walkVarDefsA_complete sv cur ws rest v h
      exact ⟨e, List.mem_cons_of_mem _ he, x⟩

structure OpDone (sv : SV) (d : QueryDoc) (op : OperationDef) (es : List Event) : Prop where
  varDefs : ∀ v ∈ op.vars, ∃ e ∈ es, e.cur = some op ∧ e.p = .variable v (sv.type? v.type.name)
  varDirs : ∀ v ∈ op.vars, HasDirArgs sv (some op) es v.dirs
  defaults : ∀ v ∈ op.vars, ∀ dv, v.default = some dv → HasDefault sv op es v dv
  dirs : HasDirArgs sv (some op) es op.dirs
  nodes : ∀ p' y, InSelsW sv (opRoot sv op.op).1 op.sel p' y → NodeDone sv (some op) es p' y
  frags : ∀ f, OpReaches d op f → FragWalked sv (some op) es f

theorem OpDone.mono {sv : SV} {d : QueryDoc} {op : OperationDef} {es es' : List Event} (h : OpDone sv d op es)
    (hs : ∀ e ∈ es, e ∈ es') : OpDone sv d op es' :=
  { varDefs := fun v hv => by
      obtain ⟨e, he, x⟩ := h.varDefs v hv
      exact ⟨e, hs e he, x⟩
    varDirs := fun v hv => (h.varDirs v hv).mono hs
    defaults := fun v hv dv hdv => by
      obtain ⟨ws, hw⟩ := h.defaults v hv dv hdv
      exact ⟨ws, fun e he => hs e (hw e he)⟩
    dirs := h.dirs.mono hs
    nodes := fun p' y hi => (h.nodes p' y hi).mono hs
    frags := fun f hf => (h.frags f hf).mono hs }

theorem walkOperation_done (sv : SV) (d : QueryDoc) (fuel : Nat) (op : OperationDef) (l : Links)
    (r : Links × List Event) (h : walkOperation sv d fuel op l = some r) : OpDone sv d op r.2 := by
  obtain ⟨r4, h4, rfl⟩ := walkOperation_inv h
  obtain ⟨c1, ⟨_, a⟩, b⟩ := walkLevel_cL (some op) fuel _ _ _ r4 h4
  simp only [walkDirectives_visited, walkVarDefsB_visited] at a
  have hvis : ∀ n ∈ r4.1.visited, FragDoneL sv d (some op) r4.2 r4.1.visited n := fun n hn =>
    (a n hn).resolve_left (fun h1 => by cases h1)
  have hreach : ∀ f, OpReaches d op f → f.name ∈ r4.1.visited ∧ fragForName d f.name = some f := by
    intro f hf
    obtain ⟨n, hr, hff⟩ := (opReaches_iff d op f).1 hf
    rw [fragForName_name hff]
    refine ⟨Reach.closed (V := (· ∈ r4.1.visited)) (fun m hm g hg => b m g ((mem_spreadsOfSels_iff m _).1 hm) hg)
      (fun m g _ hv hg n' hn' g' hg' => ?_) n hr f hff, hff⟩
    obtain ⟨g2, hg2, _, _, hcl⟩ := hvis m hv
    rw [hg] at hg2
    cases hg2
    exact hcl n' g' ((mem_spreadsOfSels_iff n' _).1 hn') hg'
  refine ⟨fun v hv => ?_, fun v hv => ?_, fun v hv dv hdv => ?_, ?_, fun p' y hi => (c1 p' y hi).mono (sub_mid _ _),
    fun f hf => ?_⟩
  · obtain ⟨e, he, x⟩ := walkVarDefsA_complete sv (some op) { visited := [], links := l, used := [] } op.vars v hv
    exact ⟨e, List.mem_append_left _ (List.mem_append_left _ (List.mem_append_left _ (List.mem_append_left _ he))), x⟩
  · exact (walkVarDefsB_hasArgs sv op op.vars _ v hv).mono (sub_left (sub_left (sub_mid _ _) _) _)
  · obtain ⟨ws', hw⟩ := walkVarDefsB_default sv op op.vars { visited := [], links := l, used := [] } v hv dv hdv
    exact ⟨ws', fun e he =>
      List.mem_append_left _ (List.mem_append_left _ (List.mem_append_left _ (List.mem_append_right _ (hw e he))))⟩
  · exact (walkDirectives_hasArgs (some op) _ op.dirs _ _).mono (sub_left (sub_mid _ _) _)
  · obtain ⟨hv, hff⟩ := hreach f hf
    obtain ⟨f', hf', h1, h2, _⟩ := hvis f.name hv
    rw [hff] at hf'
    injection hf' with hf'
    subst hf'
    exact ⟨h1.mono (sub_mid _ _), fun p' y hi => (h2 p' y hi).mono (sub_mid _ _)⟩

theorem walkFragment_done (sv : SV) (d : QueryDoc) (fuel : Nat) (f : FragmentDef) (l : Links)
    (r : Links × List Event) (h : walkFragment sv d fuel f l = some r) : FragWalked sv none r.2 f := by
  obtain ⟨r2, h2, rfl⟩ := walkFragment_inv h
  obtain ⟨c1, _, _⟩ := walkLevel_cL (d := d) none fuel _ _ _ r2 h2
  exact ⟨(walkDirectives_hasArgs none _ f.dirs _ _).mono (sub_left (sub_inl _) _),
    fun p' y hi => (c1 p' y hi).mono (sub_mid _ _)⟩

theorem walkDoc_reach (sv : SV) (d : QueryDoc) (evs : List Event) (h : walkDoc sv d = some evs) :
    (∀ op ∈ d.ops, OpDone sv d op evs) ∧ ∀ f ∈ d.frags, FragWalked sv none evs f := by
  refine ⟨fun op hop => ?_, fun f hf => ?_⟩
  · obtain ⟨l, r, hr, hsub⟩ := walkDoc_op_events h hop
    exact (walkOperation_done sv d _ op l r hr).mono hsub
  · obtain ⟨l, r, hr, hsub⟩ := walkDoc_frag_events h hf
    exact (walkFragment_done sv d _ f l r hr).mono hsub

end Gql.Validate
