import GqlProofs.ValSpec.ReachSpec
import GqlModel.Schema.Spec
/-
  C09, "link present": on a closed schema, the specification predicates that a valid document satisfies (`LinkRules`;
  `C09_link_rules_of_valid` in `Props/C09.lean`) exclude every case in which a demanded link is absent
  (`docDemands_present`):
    * the type in scope of every selection node is determined (`parents_present`: root type known,
      type conditions known, fields defined, field types resolve);
    * every argument has a definition whose type resolves (`argSites_present`);
    * every value whose expected type the specification demands has a present expected type and
      definition (`specValOcc_present`).
-/
namespace Gql.Validate
open Gql

def Prov (s : Schema) (q : Definition) : Prop := ∃ n, s.type? n = some q

theorem typeIs_some {s : Schema} {n : Name} {p : DefKind → Bool} (h : Gql.Spec.typeIs s n p = true) :
    (s.type? n).isSome := by
  unfold Gql.Spec.typeIs at h
  unfold Schema.type?
  cases hl : s.types.lookup n with
  | none => rw [hl] at h; cases h
  | some d => rfl

/-- what the rules demand of one selection node for its type in scope to propagate -/
def NodeOK (s : Schema) (t : Spec.TSel) : Prop :=
  match t.sel, t.parent with
  | .field _ nm _ _ _ _, some p => (Spec.fieldDefOn p nm).isSome
  | .inline tc _ _ _, _ => tc = [] ∨ (s.type? tc).isSome
  | _, _ => True

theorem inlineType_present (s : Schema) (p : Definition) (hp : Prov s p) (tc : Name)
    (h0 : tc = [] ∨ (s.type? tc).isSome) : ∃ q, Spec.inlineType s (some p) tc = some q ∧ Prov s q := by
  unfold Spec.inlineType
  by_cases htc : tc = []
  · subst htc
    exact ⟨p, rfl, hp⟩
  · have : (tc == []) = false := by simpa using htc
    simp only [this, Bool.false_eq_true, if_false]
    cases hq : s.type? tc with
    | none => rw [hq] at h0; simp [htc] at h0
    | some q => exact ⟨q, rfl, tc, hq⟩

section
variable (s : Schema) (hft : Gql.Spec.ClosedFieldTypes s) (hString : (s.type? (str "String")).isSome)
include hft hString

theorem fieldType_present (p : Definition) (hp : Prov s p) (nm : Name) (h : (Spec.fieldDefOn p nm).isSome) :
    ∃ q, Spec.fieldType s (some p) nm = some q ∧ Prov s q := by
  unfold Spec.fieldType
  simp only [Option.bind_some]
  cases hfd : Spec.fieldDefOn p nm with
  | none => rw [hfd] at h; cases h
  | some fd =>
    simp only [Option.bind_some]
    have hsome : (s.type? fd.type.name).isSome := by
      rcases fieldDefOn_cases hfd with rfl | hm
      · exact hString
      · obtain ⟨n, hn⟩ := hp
        exact typeIs_some (hft (n, p) (mem_of_lookup hn) fd hm)
    cases hq : s.type? fd.type.name with
    | none => rw [hq] at hsome; cases hsome
    | some q => exact ⟨q, rfl, fd.type.name, hq⟩

mutual
  theorem typedSel_parents :
      ∀ (x : Selection) (p : Definition), Prov s p → (∀ t ∈ Spec.typedSel s (some p) x, NodeOK s t) →
        ∀ t ∈ Spec.typedSel s (some p) x, ∃ q, t.parent = some q ∧ Prov s q
    | .field al nm args dirs sub pos, p, hp, hok, t, ht => by
      simp only [Spec.typedSel, List.mem_cons] at ht hok
      rcases ht with rfl | ht
      · exact ⟨p, rfl, hp⟩
      · have h0 : (Spec.fieldDefOn p nm).isSome := hok _ (Or.inl rfl)
        obtain ⟨q, hq, hpq⟩ := fieldType_present s hft hString p hp nm h0
        rw [hq] at ht hok
        exact typedSels_parents sub q hpq (fun t' ht' => hok t' (Or.inr ht')) t ht
    | .spread nm dirs pos, p, hp, _, t, ht => by
      simp only [Spec.typedSel, List.mem_singleton] at ht
      subst ht
      exact ⟨p, rfl, hp⟩
    | .inline tc dirs sub pos, p, hp, hok, t, ht => by
      simp only [Spec.typedSel, List.mem_cons] at ht hok
      rcases ht with rfl | ht
      · exact ⟨p, rfl, hp⟩
      · obtain ⟨q, hq, hpq⟩ := inlineType_present s p hp tc (hok _ (Or.inl rfl))
        rw [hq] at ht hok
        exact typedSels_parents sub q hpq (fun t' ht' => hok t' (Or.inr ht')) t ht
  theorem typedSels_parents :
      ∀ (xs : Selections) (p : Definition), Prov s p → (∀ t ∈ Spec.typedSels s (some p) xs, NodeOK s t) →
        ∀ t ∈ Spec.typedSels s (some p) xs, ∃ q, t.parent = some q ∧ Prov s q
    | .nil, _, _, _, t, ht => by simp [Spec.typedSels] at ht
    | .cons x rest, p, hp, hok, t, ht => by
      simp only [Spec.typedSels, List.mem_append] at ht hok
      rcases ht with ht | ht
      · exact typedSel_parents x p hp (fun t' ht' => hok t' (Or.inl ht')) t ht
      · exact typedSels_parents rest p hp (fun t' ht' => hok t' (Or.inr ht')) t ht
end

end

theorem nodeOK_of_rules (s : Schema) (d : QueryDoc) (hfs : Spec.fieldSelections s d = true)
    (htc : Spec.fragmentSpreadTypeExistence s d = true) : ∀ t ∈ Spec.docSels s d, NodeOK s t := by
  intro t ht
  unfold Spec.fieldSelections at hfs
  unfold Spec.fragmentSpreadTypeExistence Spec.typeConditions at htc
  simp only [List.all_eq_true, List.mem_append, List.mem_filterMap] at hfs htc
  obtain ⟨par, sel⟩ := t
  cases sel with
  | field al nm args dirs sub p =>
    cases par with
    | none => trivial
    | some q => exact hfs _ ht
  | spread nm dirs p => trivial
  | inline tc dirs sub p =>
    by_cases h : tc = []
    · exact Or.inl h
    · refine Or.inr (htc tc (Or.inr ⟨_, ht, ?_⟩))
      have : (tc == []) = false := by simpa using h
      simp [this]

theorem parents_present (s : Schema) (d : QueryDoc) (hft : Gql.Spec.ClosedFieldTypes s)
    (hString : (s.type? (str "String")).isSome) (hroot : Spec.knownRootType s d = true)
    (hfs : Spec.fieldSelections s d = true) (htc : Spec.fragmentSpreadTypeExistence s d = true) :
    ∀ t ∈ Spec.docSels s d, ∃ q, t.parent = some q ∧ Prov s q := by
  have hok := nodeOK_of_rules s d hfs htc
  intro t ht
  have ht' := ht
  simp only [Spec.docSels, List.mem_append, List.mem_flatMap] at ht'
  rcases ht' with ⟨op, hop, hin⟩ | ⟨f, hf, hin⟩
  · unfold Spec.knownRootType at hroot
    simp only [List.all_eq_true] at hroot
    have hr := hroot op hop
    cases hq : Spec.rootDef s op.op with
    | none => rw [hq] at hr; cases hr
    | some q =>
      rw [hq] at hin
      have hprov : Prov s q := by
        unfold Spec.rootDef at hq
        cases hn : Spec.rootName s op.op with
        | none => rw [hn] at hq; cases hq
        | some n => rw [hn] at hq; exact ⟨n, hq⟩
      refine typedSels_parents s hft hString op.sel q hprov (fun t' ht' => hok t' ?_) t hin
      simp only [Spec.docSels, List.mem_append, List.mem_flatMap]
      exact Or.inl ⟨op, hop, by rw [hq]; exact ht'⟩
  · unfold Spec.fragmentSpreadTypeExistence Spec.typeConditions at htc
    simp only [List.all_eq_true, List.mem_append, List.mem_map] at htc
    have hr := htc f.typeCond (Or.inl ⟨f, hf, rfl⟩)
    cases hq : s.type? f.typeCond with
    | none => rw [hq] at hr; cases hr
    | some q =>
      rw [hq] at hin
      refine typedSels_parents s hft hString f.sel q ⟨_, hq⟩ (fun t' ht' => hok t' ?_) t hin
      simp only [Spec.docSels, List.mem_append, List.mem_flatMap]
      exact Or.inr ⟨f, hf, by rw [hq]; exact ht'⟩

mutual
  theorem valOccs_present (s : Schema) (hft : Gql.Spec.ClosedFieldTypes s) :
      ∀ (v : Value) (typed : Bool) (exp : Option GType) (dfn : Option Definition),
        (∀ q, dfn = some q → Prov s q) → (typed = true → exp.isSome ∧ dfn.isSome) →
        (typed = false → exp = none ∧ dfn = none) →
        ∀ o ∈ valOccs s typed exp dfn v, o.typed = true → o.exp.isSome ∧ o.dfn.isSome
    | .mk k raw ch p, typed, exp, dfn, hprov, ht, hf, o, ho, hot => by
      simp only [valOccs, List.mem_cons] at ho
      rcases ho with rfl | ho
      · exact ht hot
      · cases k with
        | list =>
          simp only at ho
          cases exp with
          | none => exact itemOccs_present s hft ch false none none (fun _ h => by cases h) (fun h => by cases h) (fun _ => ⟨rfl, rfl⟩) o ho hot
          | some t0 =>
            cases t0 with
            | named _ _ _ => exact itemOccs_present s hft ch false none none (fun _ h => by cases h) (fun h => by cases h) (fun _ => ⟨rfl, rfl⟩) o ho hot
            | list e nn q =>
              have htyped : typed = true := by
                cases typed with
                | true => rfl
                | false => have := (hf rfl).1; cases this
              exact itemOccs_present s hft ch true (some e) dfn hprov (fun _ => ⟨rfl, (ht htyped).2⟩) (fun h => by cases h) o ho hot
        | object => exact fieldOccs_present s hft ch dfn hprov o ho hot
        | _ => simp at ho
  theorem itemOccs_present (s : Schema) (hft : Gql.Spec.ClosedFieldTypes s) :
      ∀ (ch : Children) (typed : Bool) (e : Option GType) (dfn : Option Definition),
        (∀ q, dfn = some q → Prov s q) → (typed = true → e.isSome ∧ dfn.isSome) →
        (typed = false → e = none ∧ dfn = none) →
        ∀ o ∈ itemOccs s typed e dfn ch, o.typed = true → o.exp.isSome ∧ o.dfn.isSome
    | .nil, _, _, _, _, _, _, o, ho, _ => by simp [itemOccs] at ho
    | .cons n v p rest, typed, e, dfn, hprov, ht, hf, o, ho, hot => by
      simp only [itemOccs, List.mem_append] at ho
      rcases ho with ho | ho
      · exact valOccs_present s hft v typed e dfn hprov ht hf o ho hot
      · exact itemOccs_present s hft rest typed e dfn hprov ht hf o ho hot
  theorem fieldOccs_present (s : Schema) (hft : Gql.Spec.ClosedFieldTypes s) :
      ∀ (ch : Children) (dfn : Option Definition), (∀ q, dfn = some q → Prov s q) →
        ∀ o ∈ fieldOccs s dfn ch, o.typed = true → o.exp.isSome ∧ o.dfn.isSome
    | .nil, _, _, o, ho, _ => by simp [fieldOccs] at ho
    | .cons n v p rest, dfn, hprov, o, ho, hot => by
      simp only [fieldOccs, List.mem_append] at ho
      rcases ho with ho | ho
      · cases hfd : (dfn.bind fun d => if d.kind == .inputObject then Spec.inputFieldByName d n else none) with
        | none =>
          rw [hfd] at ho
          exact valOccs_present s hft v false none none (fun _ h => by cases h) (fun h => by cases h) (fun _ => ⟨rfl, rfl⟩) o ho hot
        | some fd =>
          rw [hfd] at ho
          cases dfn with
          | none => simp at hfd
          | some dd =>
            simp only [Option.bind_some] at hfd
            split at hfd
            · obtain ⟨nn, hnn⟩ := hprov dd rfl
              have hmem := mem_of_lookup hnn
              have hsome := typeIs_some (hft (nn, dd) hmem fd (List.mem_of_find?_eq_some hfd))
              refine valOccs_present s hft v true (some fd.type) (s.type? fd.type.name) (fun q hq => ⟨_, hq⟩)
                (fun _ => ⟨rfl, hsome⟩) (fun h => by cases h) o ho hot
            · cases hfd
      · exact fieldOccs_present s hft rest dfn hprov o ho hot
end

def SiteOK (s : Schema) (site : Spec.ArgSite) : Prop :=
  ∃ defs, site.defs = some defs ∧ ∀ a ∈ site.args, ∃ ad, Spec.argDefByName defs a.name = some ad ∧
    (s.type? ad.type.name).isSome

theorem argSites_present (s : Schema) (d : QueryDoc) (hs : Gql.Spec.Closed s)
    (hpar : ∀ t ∈ Spec.docSels s d, ∃ q, t.parent = some q ∧ Prov s q)
    (hfs : Spec.fieldSelections s d = true) (hdd : Spec.directivesAreDefined s d = true)
    (han : Spec.argumentNames s d = true) : ∀ site ∈ Spec.argSites s d, SiteOK s site := by
  intro site hsite
  have hnames := List.all_eq_true.1 han site hsite
  have hdefs : ∃ defs, site.defs = some defs := by
    rcases mem_argSites_iff.1 hsite with ⟨par, al, nm, args, dirs, sub, p, ht, rfl⟩ | ⟨dir, hdir, rfl⟩
    · obtain ⟨q, hq, _⟩ := hpar _ ht
      have hfd := List.all_eq_true.1 hfs _ ht
      simp only at hq hfd
      subst hq
      obtain ⟨fd, hfdq⟩ := Option.isSome_iff_exists.1 hfd
      exact ⟨fd.args, by simp [hfdq]⟩
    · obtain ⟨dd, hq⟩ := Option.isSome_iff_exists.1 (List.all_eq_true.1 hdd dir hdir)
      exact ⟨dd.args, by simp [hq]⟩
  obtain ⟨defs, hd⟩ := hdefs
  refine ⟨defs, hd, fun a ha => ?_⟩
  rw [hd] at hnames
  obtain ⟨ad, hq⟩ := Option.isSome_iff_exists.1 (List.all_eq_true.1 hnames a ha)
  exact ⟨ad, hq, typeIs_some (argSites_defs (P := fun a => Gql.Spec.typeIs s a.type.name Gql.Spec.isInputKind = true)
    hs.argTypes hs.directiveArgTypes hsite hd ad (List.mem_of_find?_eq_some hq))⟩

theorem specValOcc_present (s : Schema) (d : QueryDoc) (hft : Gql.Spec.ClosedFieldTypes s)
    (hsites : ∀ site ∈ Spec.argSites s d, SiteOK s site) (hvt : Spec.variableTypesExist s d = true) :
    ∀ o, SpecValOcc s d o → o.typed = true → o.exp.isSome ∧ o.dfn.isSome := by
  intro o ho hot
  rcases ho with ⟨site, hsite, ho⟩ | ⟨op, hop, vd, hvd, dv, _, ho⟩
  · obtain ⟨defs, hd, hall⟩ := hsites site hsite
    simp only [argOccs, List.mem_flatMap] at ho
    obtain ⟨a, ha, ho⟩ := ho
    obtain ⟨ad, had, hsome⟩ := hall a ha
    rw [hd] at ho
    simp only [Option.bind_some, had] at ho
    exact valOccs_present s hft a.value true _ _ (fun q hq => ⟨_, hq⟩) (fun _ => ⟨rfl, hsome⟩) (fun h => by cases h) o ho hot
  · unfold Spec.variableTypesExist at hvt
    simp only [List.all_eq_true] at hvt
    exact valOccs_present s hft dv true _ _ (fun q hq => ⟨_, hq⟩) (fun _ => ⟨rfl, hvt op hop vd hvd⟩)
      (fun h => by cases h) o ho hot

end Gql.Validate

namespace Gql.Validate
open Gql

def Demand.Present (s : Schema) (d : QueryDoc) : Demand → Prop
  | .field f parent => parent.isSome ∧ (parent.bind (Spec.fieldDefOn · f.name)).isSome
  | .spread f => (Spec.fragByName d f.name).isSome
  | .inline f parent => parent.isSome ∧ (Spec.inlineType s parent f.typeCond).isSome
  | .directive dir _ => (s.directive? dir.name).isSome
  | .varDef v => (s.type? v.type.name).isSome
  | .fragDef f => (s.type? f.typeCond).isSome
  | .value _ o => o.typed = true → o.exp.isSome ∧ o.dfn.isSome

structure LinkRules (s : Schema) (d : QueryDoc) : Prop where
  knownRootType : Spec.knownRootType s d = true
  fieldSelections : Spec.fieldSelections s d = true
  typeConditions : Spec.fragmentSpreadTypeExistence s d = true
  variableTypes : Spec.variableTypesExist s d = true
  spreads : Spec.fragmentSpreadTargetDefined d = true
  directives : Spec.directivesAreDefined s d = true
  argumentNames : Spec.argumentNames s d = true

section
variable (s : Schema) (d : QueryDoc) (hs : Gql.Spec.Closed s) (hString : (s.type? (str "String")).isSome)
  (hr : LinkRules s d)
include hs hString hr

theorem docDemands_present : ∀ dm ∈ docDemands s d, dm.Present s d := by
  have hpar := parents_present s d hs.fieldTypes hString hr.knownRootType hr.fieldSelections hr.typeConditions
  have hsites := argSites_present s d hs hpar hr.fieldSelections hr.directives hr.argumentNames
  have hok := nodeOK_of_rules s d hr.fieldSelections hr.typeConditions
  refine docDemands_forall s d (Demand.Present s d) (fun t ht al nm args dirs sub p hsel => ?_)
    (fun t ht nm dirs p hsel => ?_) (fun t ht tc dirs sub p hsel => ?_) (fun site hsite dir hd => ?_)
    (fun op hop v hv => ?_) (fun f hf => ?_)
    (fun _ o ho => specValOcc_present s d hs.fieldTypes hsites hr.variableTypes o ho) (fun _ _ _ h => by cases h)
  · obtain ⟨q, hq, _⟩ := hpar t ht
    have hokt := hok t ht
    obtain ⟨par, sel⟩ := t
    subst hsel hq
    exact ⟨rfl, hokt⟩
  · have := hr.spreads
    unfold Spec.fragmentSpreadTargetDefined at this
    simp only [List.all_eq_true] at this
    obtain ⟨par, sel⟩ := t
    subst hsel
    apply this nm
    simp only [Spec.allSpreadNames, List.mem_append, List.mem_flatMap]
    rcases (docSels_iff s d _).1 ⟨_, ht⟩ with ⟨op, hop, hx⟩ | ⟨f, hf, hx⟩
    · exact Or.inl ⟨op, hop, inSels_spread_memL _ nm dirs p hx⟩
    · exact Or.inr ⟨f, hf, inSels_spread_memL _ nm dirs p hx⟩
  · obtain ⟨q, hq, hprov⟩ := hpar t ht
    have hokt := hok t ht
    obtain ⟨par, sel⟩ := t
    subst hsel hq
    obtain ⟨q', hq', _⟩ := inlineType_present s q hprov tc hokt
    exact ⟨rfl, by rw [hq']; rfl⟩
  · have := hr.directives
    unfold Spec.directivesAreDefined Spec.allDirectives at this
    simp only [List.all_eq_true, List.mem_flatMap] at this
    exact this dir ⟨site, hsite, hd⟩
  · have := hr.variableTypes
    unfold Spec.variableTypesExist at this
    simp only [List.all_eq_true] at this
    exact this op hop v hv
  · have := hr.typeConditions
    unfold Spec.fragmentSpreadTypeExistence Spec.typeConditions at this
    simp only [List.all_eq_true, List.mem_append, List.mem_map] at this
    exact this f.typeCond (Or.inl ⟨f, hf, rfl⟩)

end

end Gql.Validate
