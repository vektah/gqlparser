import GqlProofs.ValSpec.TypedBridge
import GqlProofs.ValSpec.EventSets
/-
  The value events of a run, block by block.  One block (`walkValue` / `walkArgs`, through `walkValue_emit`) fires, whatever
  the walker state, exactly the events of `valSites` / `argValSites`, all with `e.cur = cur`.  Every value event of a run lies
  in the argument block of a `field` event, of a `directive` event, or in the block of a variable default, and all of these
  blocks are in the run (`walkDoc_value_origin`, `walkDoc_fieldArgs_complete`, `walkDoc_directiveArgs_complete`: the instance
  `ValInv` of a traversal for properties of event lists, `BlockSites` / `walkDoc_blocks`; `walkDoc_defaults_complete`: the
  blocks of `walkVarDefsB`).  Read syntactically the value events are the `subValues` of `Spec.allValues` (`value_event_sound` /
  `value_event_complete`, no hypothesis on the operation kinds); for a well-parented document the argument blocks are those
  of `Spec.argSites` (`block_site`, `site_block`).
-/
namespace Gql.Validate
open Gql

mutual
  /-- all value nodes of `v` that the walker visits (any depth, including `v`), children first: the
      children of list and object literals (the parser gives no other kind children) -/
  def subValues : Value → List Value
    | .mk k raw ch p =>
      (match k with
       | .object => childValues ch
       | .list => childValues ch
       | _ => []) ++ [.mk k raw ch p]
  def childValues : Children → List Value
    | .nil => []
    | .cons _ v _ rest => subValues v ++ childValues rest
end

theorem walkValue_payloads (s : SV) (cur : Option OperationDef) (exp : Option GType) (dfn : Option Definition) :
    ∀ (v : Value) (ws : WS),
      (walkValue s cur exp dfn v ws).2.map (·.p) = (valSites s exp dfn v).map VSite.payload :=
  fun v ws => by rw [walkValue_emit]; exact emit_payloads cur _ ws

theorem walkObjChildren_payloads (s : SV) (cur : Option OperationDef) (dfn : Option Definition) :
    ∀ (ch : Children) (ws : WS),
      (walkObjChildren s cur dfn ch ws).2.map (·.p) = (objSites s dfn ch).map VSite.payload :=
  fun ch ws => by rw [walkObjChildren_emit]; exact emit_payloads cur _ ws

theorem walkListChildren_payloads (s : SV) (cur : Option OperationDef) (exp : Option GType) (dfn : Option Definition) :
    ∀ (ch : Children) (ws : WS),
      (walkListChildren s cur exp dfn ch ws).2.map (·.p) = (listSites s exp dfn ch).map VSite.payload :=
  fun ch ws => by rw [walkListChildren_emit]; exact emit_payloads cur _ ws

theorem walkArgs_payloads (s : SV) (cur : Option OperationDef) (defs : Option (List ArgDef)) :
    ∀ (args : List Argument) (ws : WS),
      (walkArgs s cur defs args ws).2.map (·.p) = (argValSites s defs args).map VSite.payload :=
  fun args ws => by rw [walkArgs_emit]; exact emit_payloads cur _ ws

theorem emit_cur (cur : Option OperationDef) : ∀ (l : List VSite) (ws : WS), ∀ e ∈ (emit cur ws l).2, e.cur = cur :=
  emit_forall fun _ _ => rfl

theorem walkValue_cur (s : SV) (cur : Option OperationDef) (exp : Option GType) (dfn : Option Definition) :
    ∀ (v : Value) (ws : WS), ∀ e ∈ (walkValue s cur exp dfn v ws).2, e.cur = cur :=
  fun v ws => by rw [walkValue_emit]; exact emit_cur cur _ ws

theorem walkObjChildren_cur (s : SV) (cur : Option OperationDef) (dfn : Option Definition) :
    ∀ (ch : Children) (ws : WS), ∀ e ∈ (walkObjChildren s cur dfn ch ws).2, e.cur = cur :=
  fun ch ws => by rw [walkObjChildren_emit]; exact emit_cur cur _ ws

theorem walkListChildren_cur (s : SV) (cur : Option OperationDef) (exp : Option GType) (dfn : Option Definition) :
    ∀ (ch : Children) (ws : WS), ∀ e ∈ (walkListChildren s cur exp dfn ch ws).2, e.cur = cur :=
  fun ch ws => by rw [walkListChildren_emit]; exact emit_cur cur _ ws

theorem walkArgs_cur (s : SV) (cur : Option OperationDef) (defs : Option (List ArgDef)) :
    ∀ (args : List Argument) (ws : WS), ∀ e ∈ (walkArgs s cur defs args ws).2, e.cur = cur :=
  fun args ws => by rw [walkArgs_emit]; exact emit_cur cur _ ws

theorem varMark_varDef (op : OperationDef) (raw : Bytes) (p : Pos) (ws : WS) :
    (varMark (some op) .variable raw p ws).links.varDef p.start = varForName op.vars raw := by
  simp [varMark, Links.varDef]

theorem emit_varlink (op : OperationDef) : ∀ (l : List VSite) (ws : WS), ∀ e ∈ (emit (some op) ws l).2,
    ∀ raw ch p exp' dfn', e.p = .value (.mk .variable raw ch p) exp' dfn' →
      e.links.varDef p.start = varForName op.vars raw :=
  emit_forall fun ws x raw ch p exp' dfn' hp => by
    obtain ⟨_, _, _⟩ := x
    cases hp
    exact varMark_varDef op raw p ws

theorem walkObjChildren_varlink (s : SV) (op : OperationDef) (dfn : Option Definition) :
    ∀ (ch0 : Children) (ws : WS), ∀ e ∈ (walkObjChildren s (some op) dfn ch0 ws).2,
      ∀ raw ch p exp' dfn', e.p = .value (.mk .variable raw ch p) exp' dfn' →
        e.links.varDef p.start = varForName op.vars raw :=
  fun ch0 ws => by rw [walkObjChildren_emit]; exact emit_varlink op _ ws

theorem walkListChildren_varlink (s : SV) (op : OperationDef) (exp : Option GType) (dfn : Option Definition) :
    ∀ (ch0 : Children) (ws : WS), ∀ e ∈ (walkListChildren s (some op) exp dfn ch0 ws).2,
      ∀ raw ch p exp' dfn', e.p = .value (.mk .variable raw ch p) exp' dfn' →
        e.links.varDef p.start = varForName op.vars raw :=
  fun ch0 ws => by rw [walkListChildren_emit]; exact emit_varlink op _ ws

theorem walkValue_sound {s : SV} {cur : Option OperationDef} {exp : Option GType} {dfn : Option Definition}
    {v : Value} {ws : WS} {e : Event} (he : e ∈ (walkValue s cur exp dfn v ws).2) {w : Value} {exp' : Option GType}
    {dfn' : Option Definition} (hp : e.p = .value w exp' dfn') : (exp', dfn', w) ∈ valSites s exp dfn v := by
  obtain ⟨⟨_, _, _⟩, ht, h⟩ := exists_of_map_eq_left (walkValue_payloads s cur exp dfn v ws) he
  cases hp.symm.trans h
  exact ht

theorem walkValue_complete {s : SV} (cur : Option OperationDef) {exp : Option GType} {dfn : Option Definition}
    {v : Value} (ws : WS) {t : VSite} (ht : t ∈ valSites s exp dfn v) :
    ∃ e ∈ (walkValue s cur exp dfn v ws).2, e.p = .value t.2.2 t.1 t.2.1 := by
  obtain ⟨e, he, h⟩ := exists_of_map_eq_left (walkValue_payloads s cur exp dfn v ws).symm ht
  exact ⟨e, he, h.symm⟩

theorem walkArgs_sound {s : SV} {cur : Option OperationDef} {defs : Option (List ArgDef)} {args : List Argument}
    {ws : WS} {e : Event} (he : e ∈ (walkArgs s cur defs args ws).2) {w : Value} {exp' : Option GType}
    {dfn' : Option Definition} (hp : e.p = .value w exp' dfn') : (exp', dfn', w) ∈ argValSites s defs args := by
  obtain ⟨⟨_, _, _⟩, ht, h⟩ := exists_of_map_eq_left (walkArgs_payloads s cur defs args ws) he
  cases hp.symm.trans h
  exact ht

theorem walkArgs_complete {s : SV} (cur : Option OperationDef) {defs : Option (List ArgDef)} {args : List Argument}
    (ws : WS) {t : VSite} (ht : t ∈ argValSites s defs args) :
    ∃ e ∈ (walkArgs s cur defs args ws).2, e.p = .value t.2.2 t.1 t.2.1 := by
  obtain ⟨e, he, h⟩ := exists_of_map_eq_left (walkArgs_payloads s cur defs args ws).symm ht
  exact ⟨e, he, h.symm⟩

theorem walkArgs_isValue {s : SV} {cur : Option OperationDef} {defs : Option (List ArgDef)} {args : List Argument}
    {ws : WS} {e : Event} (he : e ∈ (walkArgs s cur defs args ws).2) : ∃ v exp dfn, e.p = .value v exp dfn := by
  obtain ⟨t, _, h⟩ := exists_of_map_eq_left (walkArgs_payloads s cur defs args ws) he
  exact ⟨_, _, _, h⟩

theorem walkValue_isValue {s : SV} {cur : Option OperationDef} {exp : Option GType} {dfn : Option Definition}
    {v : Value} {ws : WS} {e : Event} (he : e ∈ (walkValue s cur exp dfn v ws).2) :
    ∃ v exp dfn, e.p = .value v exp dfn := by
  obtain ⟨t, _, h⟩ := exists_of_map_eq_left (walkValue_payloads s cur exp dfn v ws) he
  exact ⟨_, _, _, h⟩

mutual
  theorem valSites_values (s : SV) (exp : Option GType) (dfn : Option Definition) :
      ∀ v : Value, (valSites s exp dfn v).map (·.2.2) = subValues v
    | .mk k raw ch p => by
      unfold valSites subValues
      simp only [List.map_append, List.map_cons, List.map_nil]
      congr 1
      cases k <;> simp only [List.map_nil]
      · exact listSites_values s exp dfn ch
      · exact objSites_values s dfn ch
  theorem objSites_values (s : SV) (dfn : Option Definition) :
      ∀ ch : Children, (objSites s dfn ch).map (·.2.2) = childValues ch
    | .nil => by simp [objSites, childValues]
    | .cons name v p rest => by
      rw [objSites, childValues, List.map_append, valSites_values s _ _ v, objSites_values s dfn rest]
  theorem listSites_values (s : SV) (exp : Option GType) (dfn : Option Definition) :
      ∀ ch : Children, (listSites s exp dfn ch).map (·.2.2) = childValues ch
    | .nil => by simp [listSites, childValues]
    | .cons name v p rest => by
      rw [listSites, childValues, List.map_append, valSites_values s _ _ v, listSites_values s exp dfn rest]
end

theorem argValSites_values (s : SV) (defs : Option (List ArgDef)) :
    ∀ args : List Argument, (argValSites s defs args).map (·.2.2) = args.flatMap (fun a => subValues a.value)
  | [] => rfl
  | a :: rest => by
    rw [argValSites, List.map_append, valSites_values, argValSites_values s defs rest, List.flatMap_cons]

theorem self_mem_subValues : ∀ v : Value, v ∈ subValues v
  | .mk k raw ch p => by
    unfold subValues
    exact List.mem_append_right _ (List.mem_singleton.2 rfl)

theorem self_mem_valSites (s : SV) (exp : Option GType) (dfn : Option Definition) :
    ∀ v : Value, (exp, dfn, v) ∈ valSites s exp dfn v
  | .mk k raw ch p => by
    unfold valSites
    exact List.mem_append_right _ (List.mem_singleton.2 rfl)

theorem mem_argValSites_iff (s : SV) (defs : Option (List ArgDef)) (t : VSite) :
    ∀ (args : List Argument), t ∈ argValSites s defs args ↔
      ∃ a ∈ args, t ∈ valSites s (argLink s defs a.name).1 (argLink s defs a.name).2 a.value
  | [] => by simp [argValSites]
  | b :: rest => by
    rw [argValSites, List.mem_append, mem_argValSites_iff s defs t rest]
    simp

/-- `walker.CurrentOperation` of an event of a run: nil or an operation of the document -/
def CurOk (d : QueryDoc) (cur : Option OperationDef) : Prop := cur = none ∨ ∃ op ∈ d.ops, cur = some op

/-- A property `B` of event lists that holds for every "unit block" the walker emits, for the empty
    list, and is closed under concatenation, holds for the events of a run (`walkDoc_blocks`).  The unit blocks keep the
    argument value events together with the `field` / `directive` event they belong to. -/
structure BlockSites (s : SV) (d : QueryDoc) (B : List Event → Prop) : Prop where
  nil : B []
  append : ∀ {a b : List Event}, B a → B b → B (a ++ b)
  /-- a field: its argument block, then its directives and sub-selections (`mid`), then the event -/
  field : ∀ cur, CurOk d cur → ∀ (f : FieldNode) (parent : Option Definition) (dfn : Option FieldDef) (ws : WS)
    (l : Links) (mid : List Event), B mid →
      B ((walkArgs s cur (dfn.map (·.args)) f.args ws).2 ++ mid ++ [⟨cur, l, .field f parent dfn⟩])
  directive : ∀ cur, CurOk d cur → ∀ (dir : Directive) (parent : Option Definition) (loc : Bytes) (ws : WS) (l : Links),
      B ((walkArgs s cur ((s.directive? dir.name).map (·.args)) dir.args ws).2 ++
          [⟨cur, l, .directive dir (s.directive? dir.name) parent loc⟩])
  directiveList : ∀ cur, CurOk d cur → ∀ ds l, B [⟨cur, l, .directiveList ds⟩]
  inline : ∀ cur, CurOk d cur → ∀ f parent l, B [⟨cur, l, .inlineFragment f parent⟩]
  spread : ∀ cur, CurOk d cur → ∀ f dfn parent l, B [⟨cur, l, .fragmentSpread f dfn parent⟩]
  varDef : ∀ op ∈ d.ops, ∀ v ∈ op.vars, ∀ l, B [⟨some op, l, .variable v (s.type? v.type.name)⟩]
  varDefault : ∀ op ∈ d.ops, ∀ v ∈ op.vars, ∀ dv, v.default = some dv → ∀ ws,
      B (walkValue s (some op) (some v.type) (s.type? v.type.name) dv ws).2
  operation : ∀ op ∈ d.ops, ∀ used l, B [⟨some op, l, .operation op used⟩]
  fragment : ∀ f ∈ d.frags, ∀ l, B [⟨none, l, .fragment f (s.type? f.typeCond)⟩]

/-- the unit blocks of the walk of selections and directives on behalf of one `cur` -/
structure CurSites (s : SV) (cur : Option OperationDef) (B : List Event → Prop) : Prop where
  nil : B []
  append : ∀ {a b : List Event}, B a → B b → B (a ++ b)
  field : ∀ (f : FieldNode) (parent : Option Definition) (dfn : Option FieldDef) (ws : WS)
    (l : Links) (mid : List Event), B mid →
      B ((walkArgs s cur (dfn.map (·.args)) f.args ws).2 ++ mid ++ [⟨cur, l, .field f parent dfn⟩])
  directive : ∀ (dir : Directive) (parent : Option Definition) (loc : Bytes) (ws : WS) (l : Links),
      B ((walkArgs s cur ((s.directive? dir.name).map (·.args)) dir.args ws).2 ++
          [⟨cur, l, .directive dir (s.directive? dir.name) parent loc⟩])
  directiveList : ∀ ds l, B [⟨cur, l, .directiveList ds⟩]
  inline : ∀ f parent l, B [⟨cur, l, .inlineFragment f parent⟩]
  spread : ∀ f dfn parent l, B [⟨cur, l, .fragmentSpread f dfn parent⟩]

/-- the unit blocks of the walk of one operation (`walkOperation_blocks`) -/
structure OpSites (s : SV) (op : OperationDef) (B : List Event → Prop) : Prop extends CurSites s (some op) B where
  varDef : ∀ v ∈ op.vars, ∀ l, B [⟨some op, l, .variable v (s.type? v.type.name)⟩]
  varDefault : ∀ v ∈ op.vars, ∀ dv, v.default = some dv → ∀ ws,
      B (walkValue s (some op) (some v.type) (s.type? v.type.name) dv ws).2
  operation : ∀ used l, B [⟨some op, l, .operation op used⟩]

theorem BlockSites.toCur {s : SV} {d : QueryDoc} {B : List Event → Prop} (hB : BlockSites s d B)
    (cur : Option OperationDef) (hc : CurOk d cur) : CurSites s cur B :=
  { nil := hB.nil, append := hB.append, field := hB.field cur hc, directive := hB.directive cur hc,
    directiveList := hB.directiveList cur hc, inline := hB.inline cur hc, spread := hB.spread cur hc }

theorem BlockSites.toOp {s : SV} {d : QueryDoc} {B : List Event → Prop} (hB : BlockSites s d B)
    (op : OperationDef) (hop : op ∈ d.ops) : OpSites s op B :=
  { toCurSites := hB.toCur (some op) (Or.inr ⟨op, hop, rfl⟩)
    varDef := hB.varDef op hop, varDefault := hB.varDefault op hop, operation := hB.operation op hop }

section blocks
variable {s : SV} {d : QueryDoc} {B : List Event → Prop}

theorem walkDirectiveItems_blocks {cur : Option OperationDef} (hB : CurSites s cur B)
    (parent : Option Definition) (loc : Bytes) :
    ∀ (ds : List Directive) (ws : WS), B (walkDirectiveItems s cur parent loc ds ws).2
  | [], ws => by simpa [walkDirectiveItems] using hB.nil
  | dir :: rest, ws => by
    simp only [walkDirectiveItems]
    have h1 := hB.directive dir parent loc ws (walkArgs s cur ((s.directive? dir.name).map (·.args)) dir.args ws).1.links
    have h2 := walkDirectiveItems_blocks hB parent loc rest
      (walkArgs s cur ((s.directive? dir.name).map (·.args)) dir.args ws).1
    have := hB.append h1 h2
    simpa [List.append_assoc] using this

theorem walkDirectives_blocks {cur : Option OperationDef} (hB : CurSites s cur B)
    (parent : Option Definition) (ds : List Directive) (loc : Bytes) (ws : WS) :
    B (walkDirectives s cur parent ds loc ws).2 := by
  simp only [walkDirectives]
  exact hB.append (walkDirectiveItems_blocks hB parent loc ds ws) (hB.directiveList ds _)

def JumpB (B : List Event → Prop) (J : Jump) : Prop :=
  ∀ parent sels (ws : WS) r, J parent sels ws = some r → B r.2

theorem curSites_cases {cur : Option OperationDef} (hB : CurSites s cur B) (J : Jump) (hJ : JumpB B J) :
    WalkCases s d cur J (fun _ _ _ r => B r.2) (fun _ _ _ r => B r.2) where
  field := fun parent al nm args dirs sub p ws r3 _ hb => by
    rw [List.append_assoc _ _ r3.2]
    exact hB.field ⟨al, nm, args, dirs, sub, p⟩ parent _ _ _ _ (hB.append (walkDirectives_blocks hB _ dirs _ _) hb)
  inline := fun _ _ dirs _ _ _ _ _ hb =>
    hB.append (hB.append (walkDirectives_blocks hB _ dirs _ _) hb) (hB.inline _ _ _)
  spreadStop := fun _ _ dirs _ _ _ => hB.append (walkDirectives_blocks hB _ dirs _ _) (hB.spread _ _ _ _)
  spreadJump := fun _ _ dirs _ _ f r3 _ _ h3 =>
    hB.append (hB.append (hB.append (walkDirectives_blocks hB _ dirs _ _) (walkDirectives_blocks hB _ f.dirs _ _))
      (hJ _ _ _ r3 h3)) (hB.spread _ _ _ _)
  nil := fun _ _ => hB.nil
  cons := fun _ _ _ _ _ _ _ _ h1 h2 => hB.append h1 h2

theorem walkSelection_blocks {cur : Option OperationDef} (hB : CurSites s cur B) (J : Jump)
    (hJ : JumpB B J) :
    ∀ (x : Selection) (parent : Option Definition) (ws : WS) r,
      walkSelection s d cur J parent x ws = some r → B r.2 :=
  walkSelection_induct (curSites_cases hB J hJ)

theorem walkLevel_blocks {cur : Option OperationDef} (hB : CurSites s cur B) :
    ∀ n, JumpB B (walkLevel s d cur n) :=
  walkLevel_induct (curSites_cases hB)

theorem walkVarDefsA_blocks {op : OperationDef} (hB : OpSites s op B) (ws : WS) :
    ∀ vs : List VarDef, (∀ v ∈ vs, v ∈ op.vars) → B (walkVarDefsA s (some op) ws vs)
  | [], _ => hB.nil
  | v :: rest, hsub => by
    simp only [walkVarDefsA]
    exact hB.append (a := [_]) (hB.varDef v (hsub v List.mem_cons_self) _)
      (walkVarDefsA_blocks hB ws rest (fun x hx => hsub x (List.mem_cons_of_mem _ hx)))

theorem walkVarDefsB_blocks {op : OperationDef} (hB : OpSites s op B) :
    ∀ (vs : List VarDef) (ws : WS), (∀ v ∈ vs, v ∈ op.vars) → B (walkVarDefsB s (some op) vs ws).2
  | [], ws, _ => by simpa [walkVarDefsB] using hB.nil
  | v :: rest, ws, hsub => by
    simp only [walkVarDefsB]
    refine hB.append (hB.append ?_ (walkDirectives_blocks hB.toCurSites _ v.dirs _ _))
      (walkVarDefsB_blocks hB rest _ (fun x hx => hsub x (List.mem_cons_of_mem _ hx)))
    cases hdv : v.default with
    | none => exact hB.nil
    | some dv => exact hB.varDefault v (hsub v List.mem_cons_self) dv hdv ws

theorem walkOperation_blocks {op : OperationDef} (hB : OpSites s op B) (fuel : Nat)
    (l : Links) (r : Links × List Event) (h : walkOperation s d fuel op l = some r) : B r.2 := by
  obtain ⟨r4, h4, rfl⟩ := walkOperation_inv h
  exact hB.append (hB.append (hB.append (hB.append (walkVarDefsA_blocks hB _ op.vars (fun _ h => h))
    (walkVarDefsB_blocks hB op.vars _ (fun _ h => h))) (walkDirectives_blocks hB.toCurSites _ op.dirs _ _))
    (walkLevel_blocks (d := d) hB.toCurSites fuel _ _ _ r4 h4)) (hB.operation _ _)

theorem walkFragment_blocks (hB : CurSites s none B) (fuel : Nat) (f : FragmentDef)
    (hfr : ∀ l, B [⟨none, l, .fragment f (s.type? f.typeCond)⟩])
    (l : Links) (r : Links × List Event) (h : walkFragment s d fuel f l = some r) : B r.2 := by
  obtain ⟨r2, h2, rfl⟩ := walkFragment_inv h
  exact hB.append (hB.append (walkDirectives_blocks hB _ f.dirs _ _) (walkLevel_blocks (d := d) hB fuel _ _ _ r2 h2))
    (hfr _)

theorem walkDoc_blocks (hB : BlockSites s d B) (evs : List Event) (h : walkDoc s d = some evs) : B evs :=
  (walkDoc_fold (M := fun _ evs _ => B evs) (fun _ => hB.nil) hB.append
    (fun op hop l r h => walkOperation_blocks (hB.toOp op hop) _ l r h)
    (fun f hf l r h => walkFragment_blocks (hB.toCur none (Or.inl rfl)) _ f (hB.fragment f hf) l r h) h).elim fun _ h => h

end blocks

def ValueOrigin (s : SV) (d : QueryDoc) (blk : List Event) (e : Event) : Prop :=
  (∃ e' ∈ blk, ∃ f par fd ws, e'.p = .field f par fd ∧ e'.cur = e.cur ∧
      e ∈ (walkArgs s e.cur (fd.map (·.args)) f.args ws).2) ∨
  (∃ e' ∈ blk, ∃ dir dd par loc ws, e'.p = .directive dir dd par loc ∧ e'.cur = e.cur ∧
      e ∈ (walkArgs s e.cur (dd.map (·.args)) dir.args ws).2) ∨
  (∃ op ∈ d.ops, ∃ vd ∈ op.vars, ∃ dv ws, vd.default = some dv ∧ e.cur = some op ∧
      e ∈ (walkValue s (some op) (some vd.type) (s.type? vd.type.name) dv ws).2)

structure ValInv (s : SV) (d : QueryDoc) (blk : List Event) : Prop where
  origin : ∀ e ∈ blk, ∀ v exp dfn, e.p = .value v exp dfn → ValueOrigin s d blk e
  fieldArgs : ∀ e' ∈ blk, ∀ f par fd, e'.p = .field f par fd →
    ∃ ws, ∀ e ∈ (walkArgs s e'.cur (fd.map (·.args)) f.args ws).2, e ∈ blk
  dirArgs : ∀ e' ∈ blk, ∀ dir dd par loc, e'.p = .directive dir dd par loc →
    ∃ ws, ∀ e ∈ (walkArgs s e'.cur (dd.map (·.args)) dir.args ws).2, e ∈ blk

/-- what `ValInv` says of one event of the block; it survives an enlargement of the block -/
structure ValInvAt (s : SV) (d : QueryDoc) (blk : List Event) (e : Event) : Prop where
  origin : ∀ v exp dfn, e.p = .value v exp dfn → ValueOrigin s d blk e
  fieldArgs : ∀ f par fd, e.p = .field f par fd →
    ∃ ws, ∀ x ∈ (walkArgs s e.cur (fd.map (·.args)) f.args ws).2, x ∈ blk
  dirArgs : ∀ dir dd par loc, e.p = .directive dir dd par loc →
    ∃ ws, ∀ x ∈ (walkArgs s e.cur (dd.map (·.args)) dir.args ws).2, x ∈ blk

section
variable {s : SV} {d : QueryDoc}

theorem ValInv.at {blk : List Event} (h : ValInv s d blk) {e : Event} (he : e ∈ blk) : ValInvAt s d blk e :=
  ⟨h.origin e he, h.fieldArgs e he, h.dirArgs e he⟩

theorem ValInv.of_at {blk : List Event} (h : ∀ e ∈ blk, ValInvAt s d blk e) : ValInv s d blk :=
  ⟨fun e he => (h e he).origin, fun e he => (h e he).fieldArgs, fun e he => (h e he).dirArgs⟩

theorem ValInvAt.mono {a b : List Event} {e : Event} (hab : ∀ x ∈ a, x ∈ b) (h : ValInvAt s d a e) :
    ValInvAt s d b e := by
  refine ⟨fun v exp dfn hp => ?_, fun f par fd hp => ?_, fun dir dd par loc hp => ?_⟩
  · rcases h.origin v exp dfn hp with ⟨e', he', x⟩ | ⟨e', he', x⟩ | h'
    · exact Or.inl ⟨e', hab e' he', x⟩
    · exact Or.inr (Or.inl ⟨e', hab e' he', x⟩)
    · exact Or.inr (Or.inr h')
  · obtain ⟨ws, h'⟩ := h.fieldArgs f par fd hp
    exact ⟨ws, fun x hx => hab x (h' x hx)⟩
  · obtain ⟨ws, h'⟩ := h.dirArgs dir dd par loc hp
    exact ⟨ws, fun x hx => hab x (h' x hx)⟩

theorem ValInvAt.value {blk : List Event} {e : Event} (hv : ∃ v exp dfn, e.p = .value v exp dfn)
    (ho : ValueOrigin s d blk e) : ValInvAt s d blk e := by
  obtain ⟨_, _, _, hv⟩ := hv
  refine ⟨fun _ _ _ _ => ho, fun _ _ _ hp => ?_, fun _ _ _ _ hp => ?_⟩ <;>
  · rw [hv] at hp
    cases hp

theorem ValInv.nil : ValInv s d [] := .of_at fun _ h => nomatch h

theorem ValInv.append {s : SV} {d : QueryDoc} {a b : List Event} (ha : ValInv s d a) (hb : ValInv s d b) :
    ValInv s d (a ++ b) :=
  .of_at fun _ he => (List.mem_append.1 he).elim
    (fun h => (ha.at h).mono fun _ => List.mem_append_left _) (fun h => (hb.at h).mono fun _ => List.mem_append_right _)

theorem ValInv.single {s : SV} {d : QueryDoc} (e : Event) (h1 : ∀ v exp dfn, e.p ≠ .value v exp dfn)
    (h2 : ∀ f par fd, e.p ≠ .field f par fd) (h3 : ∀ dir dd par loc, e.p ≠ .directive dir dd par loc) :
    ValInv s d [e] := by
  refine .of_at fun x hx => ?_
  rw [List.mem_singleton.1 hx]
  exact ⟨fun _ _ _ hp => absurd hp (h1 _ _ _), fun _ _ _ hp => absurd hp (h2 _ _ _),
    fun _ _ _ _ hp => absurd hp (h3 _ _ _ _)⟩

theorem ValInv.other (e : Event)
    (h : match e.p with | .value .. => False | .field .. => False | .directive .. => False | _ => True) :
    ValInv s d [e] := by
  refine ValInv.single e (fun _ _ _ hp => ?_) (fun _ _ _ hp => ?_) (fun _ _ _ _ hp => ?_) <;>
  · rw [hp] at h
    exact h

theorem ValInv.argsBlock {cur : Option OperationDef} {defs : Option (List ArgDef)} {args : List Argument} (ws : WS)
    {mid : List Event} (hmid : ValInv s d mid) (l : Links) {p : Payload}
    (hev : (∃ f par fd, p = .field f par fd ∧ fd.map (·.args) = defs ∧ f.args = args) ∨
      ∃ dir dd par loc, p = .directive dir dd par loc ∧ dd.map (·.args) = defs ∧ dir.args = args) :
    ValInv s d ((walkArgs s cur defs args ws).2 ++ mid ++ [⟨cur, l, p⟩]) := by
  have hlast : (⟨cur, l, p⟩ : Event) ∈ (walkArgs s cur defs args ws).2 ++ mid ++ [⟨cur, l, p⟩] :=
    List.mem_append_right _ (List.mem_singleton.2 rfl)
  refine .of_at fun e he => ?_
  rcases List.mem_append.1 he with h | h
  · rcases List.mem_append.1 h with h | h
    · obtain rfl := walkArgs_cur s cur defs args ws e h
      refine .value (walkArgs_isValue h) ?_
      rcases hev with ⟨f, par, fd, rfl, rfl, rfl⟩ | ⟨dir, dd, par, loc, rfl, rfl, rfl⟩
      · exact Or.inl ⟨_, hlast, f, par, fd, ws, rfl, rfl, h⟩
      · exact Or.inr (Or.inl ⟨_, hlast, dir, dd, par, loc, ws, rfl, rfl, h⟩)
    · exact (hmid.at h).mono fun x hx => List.mem_append_left _ (List.mem_append_right _ hx)
  · rw [List.mem_singleton.1 h]
    have hargs : ∃ ws', ∀ x ∈ (walkArgs s cur defs args ws').2,
        x ∈ (walkArgs s cur defs args ws).2 ++ mid ++ [⟨cur, l, p⟩] :=
      ⟨ws, fun x hx => List.mem_append_left _ (List.mem_append_left _ hx)⟩
    rcases hev with ⟨f, par, fd, rfl, rfl, rfl⟩ | ⟨dir, dd, par, loc, rfl, rfl, rfl⟩
    · exact ⟨fun _ _ _ hp => (nomatch hp), fun _ _ _ hp => by cases hp; exact hargs, fun _ _ _ _ hp => (nomatch hp)⟩
    · exact ⟨fun _ _ _ hp => (nomatch hp), fun _ _ _ hp => (nomatch hp), fun _ _ _ _ hp => by cases hp; exact hargs⟩

end

theorem valInv_sites (s : SV) (d : QueryDoc) : BlockSites s d (ValInv s d) where
  nil := ValInv.nil
  append := ValInv.append
  field := fun cur _ f parent dfn ws l mid hmid => .argsBlock ws hmid l (.inl ⟨f, parent, dfn, rfl, rfl, rfl⟩)
  directive := fun cur _ dir parent loc ws l => by
    have := ValInv.argsBlock (s := s) (d := d) (cur := cur) ws .nil l
      (.inr ⟨dir, s.directive? dir.name, parent, loc, rfl, rfl, rfl⟩)
    rwa [List.append_nil] at this
  directiveList := fun _ _ _ _ => .other _ trivial
  inline := fun _ _ _ _ _ => .other _ trivial
  spread := fun _ _ _ _ _ _ => .other _ trivial
  varDef := fun _ _ _ _ _ => .other _ trivial
  varDefault := fun op hop vd hvd dv hdv ws => .of_at fun e he =>
    .value (walkValue_isValue he) (.inr (.inr ⟨op, hop, vd, hvd, dv, ws, hdv, walkValue_cur s _ _ _ dv ws e he, he⟩))
  operation := fun _ _ _ _ => .other _ trivial
  fragment := fun _ _ _ => .other _ trivial

theorem walkDoc_value_origin (s : SV) (d : QueryDoc) (evs : List Event) (hw : walkDoc s d = some evs) :
    ∀ e ∈ evs, ∀ v exp dfn, e.p = .value v exp dfn →
      (∃ e' ∈ evs, ∃ f par fd ws, e'.p = .field f par fd ∧ e'.cur = e.cur ∧
          e ∈ (walkArgs s e.cur (fd.map (·.args)) f.args ws).2) ∨
      (∃ e' ∈ evs, ∃ dir dd par loc ws, e'.p = .directive dir dd par loc ∧ e'.cur = e.cur ∧
          e ∈ (walkArgs s e.cur (dd.map (·.args)) dir.args ws).2) ∨
      (∃ op ∈ d.ops, ∃ vd ∈ op.vars, ∃ dv ws, vd.default = some dv ∧ e.cur = some op ∧
          e ∈ (walkValue s (some op) (some vd.type) (s.type? vd.type.name) dv ws).2) :=
  (walkDoc_blocks (valInv_sites s d) evs hw).origin

theorem walkDoc_fieldArgs_complete (s : SV) (d : QueryDoc) (evs : List Event) (hw : walkDoc s d = some evs) :
    ∀ e' ∈ evs, ∀ f par fd, e'.p = .field f par fd →
      ∃ ws, ∀ e ∈ (walkArgs s e'.cur (fd.map (·.args)) f.args ws).2, e ∈ evs :=
  (walkDoc_blocks (valInv_sites s d) evs hw).fieldArgs

theorem walkDoc_directiveArgs_complete (s : SV) (d : QueryDoc) (evs : List Event) (hw : walkDoc s d = some evs) :
    ∀ e' ∈ evs, ∀ dir dd par loc, e'.p = .directive dir dd par loc →
      ∃ ws, ∀ e ∈ (walkArgs s e'.cur (dd.map (·.args)) dir.args ws).2, e ∈ evs :=
  (walkDoc_blocks (valInv_sites s d) evs hw).dirArgs

/-- every variable walked on behalf of an operation carries, in the snapshot of its event, the
    `VariableDefinition` link `op.vars.ForName(name)` -/
theorem walkDoc_varlink (s : SV) (d : QueryDoc) (evs : List Event) (hw : walkDoc s d = some evs) :
    ∀ e ∈ evs, ∀ op, e.cur = some op → ∀ raw ch p exp dfn, e.p = .value (.mk .variable raw ch p) exp dfn →
      e.links.varDef p.start = varForName op.vars raw := by
  intro e he op hc raw ch p exp dfn hp
  rcases walkDoc_value_origin s d evs hw e he _ exp dfn hp with
    ⟨_, _, f, _, fd, ws, _, _, hin⟩ | ⟨_, _, dir, dd, _, _, ws, _, _, hin⟩ | ⟨op', _, vd, _, dv, ws, _, hc', hin⟩
  · rw [hc] at hin
    rw [walkArgs_emit] at hin
    exact emit_varlink op _ ws e hin raw ch p exp dfn hp
  · rw [hc] at hin
    rw [walkArgs_emit] at hin
    exact emit_varlink op _ ws e hin raw ch p exp dfn hp
  · rw [hc] at hc'
    cases hc'
    rw [walkValue_emit] at hin
    exact emit_varlink op _ ws e hin raw ch p exp dfn hp

theorem walkVarDefsB_default (s : SV) (op : OperationDef) : ∀ (vs : List VarDef) (ws : WS), ∀ vd ∈ vs, ∀ dv, vd.default = some dv →
    ∃ ws', ∀ e ∈ (walkValue s (some op) (some vd.type) (s.type? vd.type.name) dv ws').2, e ∈ (walkVarDefsB s (some op) vs ws).2
  | v0 :: rest, ws, vd, h, dv, hdv => by
    simp only [walkVarDefsB]
    rcases List.mem_cons.1 h with rfl | h
    · rw [hdv]
      exact ⟨ws, sub_left (sub_inl _) _⟩
    · obtain ⟨ws', hw⟩ := walkVarDefsB_default s op rest _ vd h dv hdv
      exact ⟨ws', fun e he => List.mem_append_right _ (hw e he)⟩

theorem walkDoc_defaults_complete (s : SV) (d : QueryDoc) (evs : List Event) (hw : walkDoc s d = some evs) :
    ∀ op ∈ d.ops, ∀ vd ∈ op.vars, ∀ dv, vd.default = some dv →
      ∃ ws, ∀ e ∈ (walkValue s (some op) (some vd.type) (s.type? vd.type.name) dv ws).2, e ∈ evs := by
  intro op hop vd hvd dv hdv
  obtain ⟨l, r, hr, hsub⟩ := walkDoc_op_events hw hop
  obtain ⟨r4, _, rfl⟩ := walkOperation_inv hr
  obtain ⟨ws, h⟩ := walkVarDefsB_default s op op.vars _ vd hvd dv hdv
  exact ⟨ws, fun e he => hsub e (sub_left (sub_left (sub_mid _ _) _) _ e (h e he))⟩

theorem CurSites.ofEvents {s : SV} {cur : Option OperationDef} {P : Event → Prop}
    (hargs : ∀ defs args ws, ∀ e ∈ (walkArgs s cur defs args ws).2, P e) (hev : ∀ l p, P ⟨cur, l, p⟩) :
    CurSites s cur (fun blk => ∀ e ∈ blk, P e) := by
  have one : ∀ l p, ∀ e ∈ [(⟨cur, l, p⟩ : Event)], P e := fun l p e he => by rw [List.mem_singleton.1 he]; exact hev l p
  have app : ∀ {a b : List Event}, (∀ e ∈ a, P e) → (∀ e ∈ b, P e) → ∀ e ∈ a ++ b, P e :=
    fun ha hb e he => (List.mem_append.1 he).elim (ha e) (hb e)
  exact { nil := fun _ h => (nomatch h), append := app,
          field := fun _ _ _ ws _ _ hmid => app (app (hargs _ _ ws) hmid) (one _ _),
          directive := fun _ _ _ ws _ => app (hargs _ _ ws) (one _ _),
          directiveList := fun _ _ => one _ _, inline := fun _ _ _ => one _ _, spread := fun _ _ _ _ => one _ _ }

theorem cur_sites (s : SV) (cur : Option OperationDef) : CurSites s cur (fun blk => ∀ e ∈ blk, e.cur = cur) :=
  .ofEvents (fun _ _ => walkArgs_cur s cur _ _) (fun _ _ => rfl)

theorem walkOperation_cur (s : SV) (d : QueryDoc) (fuel : Nat) (op : OperationDef) (l : Links)
    (r : Links × List Event) (h : walkOperation s d fuel op l = some r) : ∀ e ∈ r.2, e.cur = some op :=
  walkOperation_blocks (B := fun blk => ∀ e ∈ blk, e.cur = some op)
    { toCurSites := cur_sites s (some op)
      varDef := fun _ _ _ e he => by rw [List.mem_singleton.1 he]
      varDefault := fun _ _ dv _ ws e he => walkValue_cur s _ _ _ dv ws e he
      operation := fun _ _ e he => by rw [List.mem_singleton.1 he] } fuel l r h

theorem walkFragment_cur (s : SV) (d : QueryDoc) (fuel : Nat) (f : FragmentDef) (l : Links)
    (r : Links × List Event) (h : walkFragment s d fuel f l = some r) : ∀ e ∈ r.2, e.cur = none :=
  walkFragment_blocks (B := fun blk => ∀ e ∈ blk, e.cur = none) (cur_sites s none) fuel f
    (fun _ e he => by rw [List.mem_singleton.1 he]) l r h

theorem walkDoc_cur (s : SV) (d : QueryDoc) (evs : List Event) (hw : walkDoc s d = some evs) :
    ∀ e ∈ evs, e.cur = none ∨ ∃ op ∈ d.ops, e.cur = some op := by
  have one : ∀ {e : Event}, CurOk d e.cur → ∀ x ∈ [e], CurOk d x.cur := fun h x hx => by rwa [List.mem_singleton.1 hx]
  have ofCur := fun cur (hc : CurOk d cur) =>
    CurSites.ofEvents (s := s) (P := fun e => CurOk d e.cur) (fun _ _ ws e he => by rwa [walkArgs_cur s cur _ _ ws e he])
      (fun _ _ => hc)
  exact walkDoc_blocks (B := fun blk => ∀ e ∈ blk, CurOk d e.cur)
    { nil := (ofCur none (.inl rfl)).nil, append := (ofCur none (.inl rfl)).append,
      field := fun cur hc => (ofCur cur hc).field, directive := fun cur hc => (ofCur cur hc).directive,
      directiveList := fun cur hc => (ofCur cur hc).directiveList, inline := fun cur hc => (ofCur cur hc).inline,
      spread := fun cur hc => (ofCur cur hc).spread,
      varDef := fun op hop _ _ _ => one (.inr ⟨op, hop, rfl⟩),
      varDefault := fun op hop _ _ dv _ ws e he => by
        rw [walkValue_cur s _ _ _ dv ws e he]; exact .inr ⟨op, hop, rfl⟩
      operation := fun op hop _ _ => one (.inr ⟨op, hop, rfl⟩),
      fragment := fun _ _ _ => one (.inl rfl) } evs hw

theorem mem_subValues_of_site {s : SV} {exp : Option GType} {dfn : Option Definition} {v : Value} {t : VSite}
    (ht : t ∈ valSites s exp dfn v) : t.2.2 ∈ subValues v :=
  valSites_values s exp dfn v ▸ List.mem_map_of_mem ht

theorem site_of_mem_subValues (s : SV) (exp : Option GType) (dfn : Option Definition) {v w : Value}
    (hw : w ∈ subValues v) : ∃ t ∈ valSites s exp dfn v, t.2.2 = w :=
  List.mem_map.1 (valSites_values s exp dfn v ▸ hw)

theorem walkArgs_sound_sub {s : SV} {cur : Option OperationDef} {defs : Option (List ArgDef)} {args : List Argument}
    {ws : WS} {e : Event} (he : e ∈ (walkArgs s cur defs args ws).2) {w : Value} {exp' : Option GType}
    {dfn' : Option Definition} (hp : e.p = .value w exp' dfn') : ∃ a ∈ args, w ∈ subValues a.value := by
  obtain ⟨a, ha, hta⟩ := (mem_argValSites_iff s defs _ args).1 (walkArgs_sound he hp)
  exact ⟨a, ha, mem_subValues_of_site hta⟩

theorem walkArgs_complete_sub {s : SV} (cur : Option OperationDef) (defs : Option (List ArgDef)) {args : List Argument}
    (ws : WS) {a : Argument} (ha : a ∈ args) {w : Value} (hw : w ∈ subValues a.value) :
    ∃ e ∈ (walkArgs s cur defs args ws).2, ∃ exp' dfn', e.p = .value w exp' dfn' := by
  obtain ⟨t, ht, rfl⟩ := site_of_mem_subValues s (argLink s defs a.name).1 (argLink s defs a.name).2 hw
  obtain ⟨e, he, hp⟩ := walkArgs_complete cur ws ((mem_argValSites_iff s defs t args).2 ⟨a, ha, ht⟩)
  exact ⟨e, he, _, _, hp⟩

theorem mem_allValues_iff (s : Schema) (d : QueryDoc) (v : Value) :
    v ∈ Spec.allValues s d ↔
      (∃ site ∈ Spec.argSites s d, ∃ a ∈ site.args, a.value = v) ∨
      (∃ op ∈ d.ops, ∃ vd ∈ op.vars, vd.default = some v) := by
  simp only [Spec.allValues, List.mem_append, List.mem_flatMap, List.mem_map, List.mem_filterMap]

section
variable (s : Schema) (d : QueryDoc) (evs : List Event) (hw : walkDoc s.view d = some evs)
include hw

theorem value_event_sound (e : Event) (he : e ∈ evs) (w : Value) (exp : Option GType) (dfn : Option Definition)
    (hp : e.p = .value w exp dfn) : ∃ v ∈ Spec.allValues s d, w ∈ subValues v := by
  rcases walkDoc_value_origin s.view d evs hw e he w exp dfn hp with
    ⟨e', he', f, par, fd, ws, hp', _, hin⟩ | ⟨e', he', dir, dd, par, loc, ws, hp', _, hin⟩ |
    ⟨op, hop, vd, hvd, dv, ws, hdv, _, hin⟩
  · obtain ⟨a, ha, hw'⟩ := walkArgs_sound_sub hin hp
    obtain ⟨p, hmem⟩ := field_event_sound s d evs hw e' he' f par fd hp'
    exact ⟨a.value, (mem_allValues_iff s d _).2 (.inl ⟨_, argSites_field hmem, a, ha, rfl⟩), hw'⟩
  · obtain ⟨a, ha, hw'⟩ := walkArgs_sound_sub hin hp
    obtain ⟨_, hd⟩ := directive_event_sound' s d evs hw e' he' dir dd par loc hp'
    exact ⟨a.value, (mem_allValues_iff s d _).2 (.inl ⟨_, argSites_directive hd, a, ha, rfl⟩), hw'⟩
  · exact ⟨dv, (mem_allValues_iff s d _).2 (.inr ⟨op, hop, vd, hvd, hdv⟩),
      mem_subValues_of_site (walkValue_sound hin hp)⟩

theorem value_event_complete (v : Value) (hv : v ∈ Spec.allValues s d) (w : Value) (hsub : w ∈ subValues v) :
    ∃ e ∈ evs, ∃ exp dfn, e.p = .value w exp dfn := by
  rcases (mem_allValues_iff s d v).1 hv with ⟨site, hsite, a, ha, rfl⟩ | ⟨op, hop, vd, hvd, hdv⟩
  · rcases mem_argSites_iff.1 hsite with ⟨par, al, nm, args, dirs, sub, p, ht, rfl⟩ | ⟨dir, hd, rfl⟩
    · obtain ⟨e', he', par', fd, hp'⟩ := field_event_complete s d evs hw _ ht al nm args dirs sub p rfl
      obtain ⟨ws, hblk⟩ := walkDoc_fieldArgs_complete s.view d evs hw e' he' _ par' fd hp'
      obtain ⟨e, he, x⟩ := walkArgs_complete_sub e'.cur (fd.map (·.args)) ws ha hsub
      exact ⟨e, hblk e he, x⟩
    · obtain ⟨e', he', par, loc, hp'⟩ := directive_event_complete' s d evs hw dir hd
      obtain ⟨ws, hblk⟩ := walkDoc_directiveArgs_complete s.view d evs hw e' he' dir _ par loc hp'
      obtain ⟨e, he, x⟩ := walkArgs_complete_sub e'.cur ((s.directive? dir.name).map (·.args)) ws ha hsub
      exact ⟨e, hblk e he, x⟩
  · obtain ⟨ws, hblk⟩ := walkDoc_defaults_complete s.view d evs hw op hop vd hvd v hdv
    obtain ⟨t, ht, rfl⟩ := site_of_mem_subValues s.view (some vd.type) (s.view.type? vd.type.name) hsub
    obtain ⟨e, he, hp⟩ := walkValue_complete (some op) ws ht
    exact ⟨e, hblk e he, _, _, hp⟩

end

section
variable (s : Schema) (d : QueryDoc) (evs : List Event) (hw : walkDoc s.view d = some evs)
  (hwp : Spec.wellParented s d = true)
include hw hwp

theorem block_site (e' : Event) (he' : e' ∈ evs) :
    (∀ f par fd, e'.p = .field f par fd → (⟨fd.map (·.args), f.args⟩ : Spec.ArgSite) ∈ Spec.argSites s d) ∧
    (∀ dir dd par loc, e'.p = .directive dir dd par loc →
      (⟨dd.map (·.args), dir.args⟩ : Spec.ArgSite) ∈ Spec.argSites s d) := by
  constructor
  · intro f par fd hp
    obtain ⟨hmem, hfd⟩ := walk_parent_type s d evs hw hwp e' he' f par fd hp
    exact List.mem_append_left _ (List.mem_filterMap.2 ⟨_, hmem, by rw [hfd]⟩)
  · intro dir dd par loc hp
    obtain ⟨hdd, hd⟩ := directive_event_sound' s d evs hw e' he' dir dd par loc hp
    exact List.mem_append_right _ (List.mem_map.2 ⟨dir, hd, by rw [hdd]⟩)

theorem site_block (site : Spec.ArgSite) (hsite : site ∈ Spec.argSites s d) :
    ∃ cur ws, ∀ e ∈ (walkArgs s.view cur site.defs site.args ws).2, e ∈ evs := by
  rcases mem_argSites_iff.1 hsite with ⟨par, al, nm, args, dirs, sub, p, hts, rfl⟩ | ⟨dir, hd, rfl⟩
  · obtain ⟨e', he', hp'⟩ := walk_parent_type_complete s d evs hw hwp _ hts al nm args dirs sub p rfl
    obtain ⟨ws, hblk⟩ := walkDoc_fieldArgs_complete s.view d evs hw e' he' _ _ _ hp'
    exact ⟨_, ws, hblk⟩
  · obtain ⟨e', he', par, loc, hp'⟩ := directive_event_complete' s d evs hw dir hd
    obtain ⟨ws, hblk⟩ := walkDoc_directiveArgs_complete s.view d evs hw e' he' dir _ par loc hp'
    exact ⟨_, ws, hblk⟩

end

end Gql.Validate
