import GqlProofs.ValSpec.ValBlocks
/-
  ValuesOfCorrectType (§5.6.1): the step, and from the step to the recursive predicate.  `valuesOfCorrectTypeStep` only looks
  at events `.value v (some expected) (some dfn)`, and is silent there iff `stepOK e.links expected dfn v` (`step_nil_iff`;
  `step_other`): `localPure` (the kind analysis against `dfn`, the required / unknown fields of an object literal, the
  link-free part `Spec.oneOfOk` of the `@oneOf` closure), `oneOfVar` (the part of that closure that reads the link table;
  `oneOfChecks_isEmpty` splits it) and, unless `dfn` is a custom scalar, `evalErr e.links v = false`.  The rule judges every
  typed node on its own, `Spec.valueOk s t v` recomputes the typing of the sub-values itself: `valueOk_iff_sites`, for a
  schema with `schemaOK`, a `t` that resolves to an input type and numeric literals with `numLeafOK`: every typed site of
  `valSites s (some t) (s.type? t.name) v` passes `localPure` iff `Spec.valueOk s t v`.
-/
namespace Gql.Validate
open Gql Gql.Validate.Rules

/-- `value.Definition.Kind == ast.Scalar && !value.Definition.OneOf("Int", "Float", "String", "Boolean", "ID")`: after
    its test of `null` against a non-null type the rule returns ("Skip custom validating scalars") -/
def customScalar (dfn : Definition) : Bool := dfn.kind == .scalar && !defOneOf dfn builtinScalars

/-- the test of one typed value node that does not read the link table -/
def localPure (exp : GType) (dfn : Definition) (v : Value) : Bool :=
  !(v.kind == .null && exp.nonNull) &&
  (customScalar dfn ||
    match v.kind with
    | .null => true
    | .variable => true
    | .list => (match exp with | .named _ _ _ => false | .list _ _ _ => true)
    | .int => defOneOf dfn [str "Int", str "Float", str "ID"] &&
        (!defOneOf dfn [str "Int"] || parseIntErr 32 v.raw == .none) &&
        (defOneOf dfn [str "Int"] || !defOneOf dfn [str "Float"] || !floatErr v.raw)
    | .float => defOneOf dfn [str "Float"] && !floatErr v.raw
    | .string => dfn.kind != .enum && defOneOf dfn [str "String", str "ID"]
    | .block => dfn.kind != .enum && defOneOf dfn [str "String", str "ID"]
    | .enum => dfn.kind == .enum && dfn.enumValues.any (·.name == v.raw)
    | .boolean => defOneOf dfn [str "Boolean"]
    | .object => dfn.kind == .inputObject && (missingRequired dfn v dfn.fields).isEmpty &&
        Spec.oneOfOk dfn v.children && (unknownInputFields dfn v.children).isEmpty)

def oneOfVarOK (l : Links) (v : Value) : Bool :=
  match v.children with
  | .cons _ fv _ .nil =>
    !(fv.kind == .variable) || (match l.varDef fv.pos.start with | none => true | some vd => vd.type.nonNull)
  | _ => true

/-- the part of the `@oneOf` closure that reads the link table -/
def oneOfVar (l : Links) (dfn : Definition) (v : Value) : Bool :=
  !(v.kind == .object && dfn.kind == .inputObject && Spec.hasOneOf dfn) || oneOfVarOK l v

def stepOK (l : Links) (exp : GType) (dfn : Definition) (v : Value) : Bool :=
  localPure exp dfn v && oneOfVar l dfn v && (customScalar dfn || !evalErr l v)

theorem oneOfCheck_nil_iff (l : Links) (dfn : Definition) (v : Value) :
    oneOfCheck l dfn v = [] ↔
      (match v.children with | .cons _ fv _ .nil => fv.kind != .null | _ => false) = true ∧ oneOfVarOK l v = true := by
  unfold oneOfCheck oneOfVarOK
  obtain ⟨k, raw, ch, p⟩ := v
  simp only [Value.children]
  cases ch with
  | nil => simp
  | cons n fv q rest =>
    cases rest with
    | cons n2 fv2 q2 rest2 => simp
    | nil =>
      simp only
      cases hk : fv.kind <;> simp <;> try (cases l.varDef fv.pos.start <;> simp)

theorem oneOfChecks_nil_iff (l : Links) (dfn : Definition) (v : Value) :
    ∀ dirs : List Directive, oneOfChecks l dfn v dirs = [] ↔
      (dirs.any (·.name == str "oneOf") = false ∨ oneOfCheck l dfn v = [])
  | [] => by simp [oneOfChecks]
  | dir :: rest => by
    unfold oneOfChecks
    have ih := oneOfChecks_nil_iff l dfn v rest
    cases hd : (dir.name == str "oneOf")
    · simp only [Bool.false_eq_true, if_false, List.any_cons, hd, Bool.false_or]
      exact ih
    · simp only [if_true, List.any_cons, hd, Bool.true_or, List.append_eq_nil_iff, ih]
      constructor
      · intro h; exact Or.inr h.1
      · intro h
        rcases h with h | h
        · cases h
        · exact ⟨h, Or.inr h⟩

theorem oneOfChecks_isEmpty (l : Links) (dfn : Definition) (v : Value) :
    (oneOfChecks l dfn v dfn.dirs).isEmpty =
      (Spec.oneOfOk dfn v.children && (!Spec.hasOneOf dfn || oneOfVarOK l v)) := by
  rw [Bool.eq_iff_iff]
  simp only [List.isEmpty_iff, oneOfChecks_nil_iff, oneOfCheck_nil_iff, Spec.oneOfOk, Spec.hasOneOf,
    Bool.and_eq_true, Bool.or_eq_true, Bool.not_eq_true']
  cases dfn.dirs.any (·.name == str "oneOf") <;> simp
  intro _; rfl

theorem step_other (sv : SV) (d : QueryDoc) (e : Event)
    (h : ∀ v exp dfn, e.p ≠ .value v (some exp) (some dfn)) : valuesOfCorrectTypeStep sv d e = [] := by
  unfold valuesOfCorrectTypeStep
  split
  · rename_i v exp dfn hp
    exact absurd hp (h v exp dfn)
  · rfl

private theorem app_nil {α : Type} {a b : List α} : a ++ b = [] ↔ a = [] ∧ b = [] := List.append_eq_nil_iff

private theorem ite_nil {α : Type} {c : Bool} {x : α} : (if c = true then [x] else []) = [] ↔ c = false := by
  cases c <;> simp

theorem step_nil_iff (sv : SV) (d : QueryDoc) (e : Event) (v : Value) (exp : GType) (dfn : Definition)
    (hp : e.p = .value v (some exp) (some dfn)) :
    valuesOfCorrectTypeStep sv d e = [] ↔ stepOK e.links exp dfn v = true := by
  unfold valuesOfCorrectTypeStep
  rw [hp]
  simp -zeta only []
  -- the error lists of the rule body are only looked at through the conditions under which they are empty
  extract_lets e0 poss e1 unexpectedIf
  have h0 : e0 = [] ↔ (v.kind == .null && exp.nonNull) = false := ite_nil
  have h1 : e1 = [] ↔ evalErr e.links v = false := ite_nil
  have hu : ∀ c, unexpectedIf c = [] ↔ (e0 = [] ∧ e1 = []) ∧ c = false := fun c => by
    simp only [unexpectedIf, List.append_eq_nil_iff, ite_nil]
  have hone := oneOfChecks_isEmpty e.links dfn v
  rw [Bool.eq_iff_iff, List.isEmpty_iff] at hone
  clear_value e0 e1 unexpectedIf poss
  simp only [stepOK, localPure, oneOfVar, customScalar]
  cases hcs : (dfn.kind == .scalar && !defOneOf dfn builtinScalars)
  · simp only [Bool.false_eq_true, if_false, Bool.false_or]
    cases hk : v.kind <;> simp only []
    all_goals
      (repeat' split) <;> simp only [hu, List.append_eq_nil_iff, h0, h1, hone] <;> clear hu h0 h1 hone <;>
        simp_all [and_assoc, and_comm, and_left_comm]
  · simp only [if_true, Bool.true_or, Bool.and_true, h0]
    -- a scalar is no input object: `oneOfVar` is true
    have : (dfn.kind == DefKind.inputObject) = false := by
      simp only [Bool.and_eq_true, beq_iff_eq] at hcs
      simp [hcs.1]
    cases (v.kind == .null && exp.nonNull) <;> simp [this]

def inputTypeB (s : Schema) (t : GType) : Bool :=
  match s.type? t.name with
  | some d => Spec.isInput d
  | none => false

/-- what the comparison needs of one type definition of the schema:
    * a definition that carries the name of a built-in scalar is a scalar (the rule dispatches on the NAME, `defOneOf`);
    * a scalar declares no fields (the walker types the fields of an object literal from `dfn.fields` whatever the kind of `dfn`);
    * the fields of an input object have types that resolve to input types (`Gql.Spec.Closed`: `fieldTypes`). -/
def defOK (s : Schema) (d : Definition) : Bool :=
  (!Spec.builtinScalars.contains d.name || d.kind == .scalar) &&
  (!(d.kind == .scalar) || d.fields.isEmpty) &&
  (!(d.kind == .inputObject) || d.fields.all fun f => inputTypeB s f.type)

def schemaOK (s : Schema) : Bool := s.types.all fun p => defOK s p.2

theorem defOK_of_type? {s : Schema} (hs : schemaOK s = true) {n : Name} {d : Definition} (h : s.type? n = some d) :
    defOK s d = true := by
  unfold schemaOK at hs
  rw [List.all_eq_true] at hs
  exact hs (n, d) (mem_of_lookup h)

/-- the numeric literals: model of `strconv` and specification arithmetic agree on the text —
    `ParseInt(·, 10, 32)` with `Spec.int32Ok` and `ParseFloat(·, 64)` (error or ±Inf) with
    `Spec.floatLitFinite` for an IntValue, the latter for a FloatValue.  An IntValue LEXEME satisfies
    both of its conjuncts (`numLeafOK_int_of_lexeme` in `FloatAgree.lean`), whatever its size. -/
def numLeafOK (k : ValueKind) (raw : Bytes) : Bool :=
  match k with
  | .int => ((parseIntErr 32 raw == .none) == Spec.int32Ok raw) && (floatErr raw == !Spec.floatLitFinite raw)
  | .float => floatErr raw == !Spec.floatLitFinite raw
  | _ => true

theorem childPresent_eq (n : Name) : ∀ ch : Children, childPresent n ch = (Spec.childNames ch).contains n
  | .nil => rfl
  | .cons k v p rest => by
    rw [childPresent, Spec.childNames, List.contains_cons, childPresent_eq n rest]
    congr 1
    rw [Bool.eq_iff_iff, beq_iff_eq, beq_iff_eq]
    exact eq_comm

theorem missingRequired_nil_iff (dfn : Definition) (v : Value) : ∀ fs : List FieldDef,
    missingRequired dfn v fs = [] ↔
      fs.all (fun fd => !(fd.type.nonNull && fd.default.isNone) || (Spec.childNames v.children).contains fd.name) = true
  | [] => by simp [missingRequired]
  | f :: rest => by
    unfold missingRequired
    have ih := missingRequired_nil_iff dfn v rest
    simp only [List.all_cons, childPresent_eq]
    cases f.type.nonNull <;> cases (Spec.childNames v.children).contains f.name <;> cases f.default.isNone <;> simp [ih]

mutual
  theorem valSites_untyped (s : SV) : ∀ (v : Value), ∀ x ∈ valSites s none none v, x.1 = none
    | .mk k raw ch p, x, hx => by
      unfold valSites at hx
      rcases List.mem_append.1 hx with hx | hx
      · cases k <;> simp only [List.not_mem_nil] at hx
        · exact listSites_untyped s none none rfl ch x hx
        · exact objSites_untyped s none (fun _ => rfl) ch x hx
      · rw [List.mem_singleton.1 hx]
  theorem objSites_untyped (s : SV) (dfn : Option Definition) (hd : ∀ n, objChildLink s dfn n = (none, none)) :
      ∀ (ch : Children), ∀ x ∈ objSites s dfn ch, x.1 = none
    | .nil, x, hx => by simp [objSites] at hx
    | .cons n v p rest, x, hx => by
      rw [objSites, hd n] at hx
      rcases List.mem_append.1 hx with hx | hx
      · exact valSites_untyped s v x hx
      · exact objSites_untyped s dfn hd rest x hx
  theorem listSites_untyped (s : SV) (exp : Option GType) (dfn : Option Definition)
      (hl : listChildLink exp dfn = (none, none)) : ∀ (ch : Children), ∀ x ∈ listSites s exp dfn ch, x.1 = none
    | .nil, x, hx => by simp [listSites] at hx
    | .cons n v p rest, x, hx => by
      rw [listSites, hl] at hx
      rcases List.mem_append.1 hx with hx | hx
      · exact valSites_untyped s v x hx
      · exact listSites_untyped s exp dfn hl rest x hx
end

theorem structured_eq (d : Definition) (hin : Spec.isInput d = true) : Spec.structuredAtNamed d = customScalar d := by
  unfold Spec.structuredAtNamed customScalar defOneOf
  simp only [Spec.isInput, Bool.or_eq_true, beq_iff_eq] at hin
  rcases hin with (hk | hk) | hk <;> rw [hk] <;> simp <;> rfl

theorem vk_beq (a b : ValueKind) : (a == b) = decide (a = b) := by cases a <;> cases b <;> rfl
theorem dk_beq (a b : DefKind) : (a == b) = decide (a = b) := by cases a <;> cases b <;> rfl

theorem leaf_iff (s : Schema) (d : Definition) (hin : Spec.isInput d = true) (hd : defOK s d = true) (t : GType)
    (k : ValueKind) (raw : Bytes) (ch : Children) (p : Pos)
    (hk : k ≠ .variable ∧ k ≠ .null ∧ k ≠ .list ∧ k ≠ .object)
    (hn : numLeafOK k raw = true) :
    localPure t d (.mk k raw ch p) = Spec.scalarLitOk d k raw := by
  obtain ⟨k1, k2, k3, k4⟩ := hk
  simp only [defOK, Bool.and_eq_true, Bool.or_eq_true, Bool.not_eq_true'] at hd
  obtain ⟨⟨hb, _⟩, _⟩ := hd
  unfold localPure customScalar Spec.scalarLitOk defOneOf
  simp only [Value.kind, Value.raw]
  have hsc : ∀ nm ∈ Spec.builtinScalars, d.name = nm → d.kind = .scalar := by
    intro nm hnm h
    rcases hb with hb | hb
    · rw [h, List.contains_iff_mem.2 hnm] at hb; cases hb
    · simpa using hb
  by_cases h1 : d.name = str "Int"
  · rw [h1, hsc _ (by simp [Spec.builtinScalars]) h1]
    cases k <;> simp +decide [numLeafOK, vk_beq, dk_beq] at k1 k2 k3 k4 hn ⊢
    exact hn.1
  by_cases h2 : d.name = str "Float"
  · rw [h2, hsc _ (by simp [Spec.builtinScalars]) h2]
    cases k <;> simp +decide [numLeafOK, vk_beq, dk_beq] at k1 k2 k3 k4 hn ⊢
    · exact hn.2
    · exact hn
  by_cases h3 : d.name = str "String"
  · rw [h3, hsc _ (by simp [Spec.builtinScalars]) h3]
    cases k <;> simp +decide [numLeafOK, vk_beq, dk_beq] at k1 k2 k3 k4 hn ⊢
  by_cases h4 : d.name = str "Boolean"
  · rw [h4, hsc _ (by simp [Spec.builtinScalars]) h4]
    cases k <;> simp +decide [numLeafOK, vk_beq, dk_beq] at k1 k2 k3 k4 hn ⊢
  by_cases h5 : d.name = str "ID"
  · rw [h5, hsc _ (by simp [Spec.builtinScalars]) h5]
    cases k <;> simp +decide [numLeafOK, vk_beq, dk_beq] at k1 k2 k3 k4 hn ⊢
  have e1 : (d.name == str "Int") = false := beq_eq_false_iff_ne.2 h1
  have e2 : (d.name == str "Float") = false := beq_eq_false_iff_ne.2 h2
  have e3 : (d.name == str "String") = false := beq_eq_false_iff_ne.2 h3
  have e4 : (d.name == str "Boolean") = false := beq_eq_false_iff_ne.2 h4
  have e5 : (d.name == str "ID") = false := beq_eq_false_iff_ne.2 h5
  simp only [Rules.builtinScalars, List.contains_cons, List.contains_nil, e1, e2, e3, e4, e5, Bool.or_false]
  simp only [Spec.isInput, Bool.or_eq_true, beq_iff_eq] at hin
  rcases hin with (hk | hk) | hk <;> rw [hk] <;>
    cases k <;> simp +decide [numLeafOK, vk_beq, dk_beq] at k1 k2 k3 k4 hn ⊢

def SitePass (x : VSite) : Prop := ∀ exp dfn, x.1 = some exp → x.2.1 = some dfn → localPure exp dfn x.2.2 = true

theorem sitePass_untyped {x : VSite} (h : x.1 = none) : SitePass x := by
  intro exp dfn h1
  rw [h] at h1
  cases h1

theorem sitePass_root (t : GType) (d : Definition) (v : Value) :
    SitePass (some t, some d, v) ↔ localPure t d v = true := by
  constructor
  · intro h; exact h t d rfl rfl
  · intro h exp dfn h1 h2
    cases h1; cases h2; exact h

mutual
  theorem valueOk_iff_sites (s : Schema) (hs : schemaOK s = true) : ∀ (v : Value) (t : GType) (d : Definition), s.type? t.name = some d → Spec.isInput d = true →
      (∀ w ∈ subValues v, numLeafOK w.kind w.raw = true) →
      ((∀ x ∈ valSites s.view (some t) (some d) v, SitePass x) ↔ Spec.valueOk s t v = true)
    | .mk k raw ch p, t, d, hd, hin, hl => by
      have hdok := defOK_of_type? hs hd
      unfold valSites
      rw [List.forall_mem_append, List.forall_mem_singleton, sitePass_root]
      unfold Spec.valueOk
      cases k with
      | «variable» => simp [localPure, Value.kind]
      | null => simp [localPure, Value.kind]
      | list =>
        simp only
        cases t with
        | named n nn q =>
          have hd' : s.type? n = some d := hd
          simp only [hd']
          rw [structured_eq d hin]
          have hloc : localPure (.named n nn q) d (.mk .list raw ch p) = customScalar d := by
            simp [localPure, Value.kind]
          rw [hloc]
          constructor
          · exact fun h => h.2
          · intro h
            exact ⟨fun x hx => sitePass_untyped (listSites_untyped s.view _ _ rfl ch x hx), h⟩
        | list e nn q =>
          have hd' : s.type? e.name = some d := hd
          simp only
          have hloc : localPure (.list e nn q) d (.mk .list raw ch p) = true := by
            simp [localPure, Value.kind]
          rw [hloc, ← itemsOk_iff_sites s hs ch e nn q d hd' hin
            (fun w hw => hl w (by unfold subValues; exact List.mem_append_left _ hw))]
          simp
      | object =>
        simp only
        rw [hd]
        simp only
        have hlch : ∀ w ∈ childValues ch, numLeafOK w.kind w.raw = true :=
          fun w hw => hl w (by unfold subValues; exact List.mem_append_left _ hw)
        simp only [defOK, Bool.and_eq_true, Bool.or_eq_true, Bool.not_eq_true', beq_iff_eq] at hdok
        obtain ⟨⟨_, hsf⟩, hif⟩ := hdok
        by_cases hio : d.kind = .inputObject
        · have hcs : customScalar d = false := by simp [customScalar, hio]
          have hf : ∀ f ∈ d.fields, inputTypeB s f.type = true := by
            rcases hif with h | h
            · rw [hio] at h; simp at h
            · exact List.all_eq_true.1 h
          have hloc : localPure t d (.mk .object raw ch p) =
              ((missingRequired d (.mk .object raw ch p) d.fields).isEmpty && Spec.oneOfOk d ch &&
                (unknownInputFields d ch).isEmpty) := by
            simp [localPure, Value.kind, Value.children, hcs, hio]
          rw [hloc]
          simp only [hio, beq_self_eq_true, if_true, Bool.and_eq_true, List.isEmpty_iff]
          rw [← fieldsOk_iff_sites s hs ch d hf hlch, missingRequired_nil_iff]
          simp only [Spec.requiredFieldsProvided, Value.children]
          constructor
          · rintro ⟨a, ⟨b, c⟩, e⟩; exact ⟨⟨⟨a, e⟩, b⟩, c⟩
          · rintro ⟨⟨⟨a, e⟩, b⟩, c⟩; exact ⟨a, ⟨b, c⟩, e⟩
        · have hne : (d.kind == DefKind.inputObject) = false := by simpa using hio
          have hloc : localPure t d (.mk .object raw ch p) = customScalar d := by
            simp [localPure, Value.kind, hne, vk_beq]
          rw [hloc]
          simp only [hne, Bool.false_eq_true, if_false]
          rw [structured_eq d hin]
          constructor
          · exact fun h => h.2
          · intro h
            refine ⟨fun x hx => sitePass_untyped (objSites_untyped s.view _ (fun nm => ?_) ch x hx), h⟩
            have hk : d.kind = .scalar := by
              simp only [customScalar, Bool.and_eq_true, beq_iff_eq] at h
              exact h.1
            have : d.fields = [] := by
              rcases hsf with h' | h'
              · rw [hk] at h'; cases h'
              · simpa using h'
            simp [objChildLink, this, fieldForName]
      | _ =>
        simp only [hd]
        have hnum := hl _ (self_mem_subValues _)
        simp only [Value.kind, Value.raw] at hnum
        rw [leaf_iff s d hin hdok t _ raw ch p (by decide) hnum]
        simp
  theorem itemsOk_iff_sites (s : Schema) (hs : schemaOK s = true) : ∀ (ch : Children) (e : GType) (nn : Bool) (q : Pos) (d : Definition),
      s.type? e.name = some d → Spec.isInput d = true →
      (∀ w ∈ childValues ch, numLeafOK w.kind w.raw = true) →
      ((∀ x ∈ listSites s.view (some (.list e nn q)) (some d) ch, SitePass x) ↔ Spec.itemsOk s e ch = true)
    | .nil, e, nn, q, d, hd, hin, hl => by simp [listSites, Spec.itemsOk]
    | .cons n v p rest, e, nn, q, d, hd, hin, hl => by
      rw [listSites, List.forall_mem_append, Spec.itemsOk, Bool.and_eq_true]
      simp only [listChildLink]
      rw [valueOk_iff_sites s hs v e d hd hin (fun w hw => hl w (by rw [childValues]; exact List.mem_append_left _ hw)),
        itemsOk_iff_sites s hs rest e nn q d hd hin (fun w hw => hl w (by rw [childValues]; exact List.mem_append_right _ hw))]
  theorem fieldsOk_iff_sites (s : Schema) (hs : schemaOK s = true) : ∀ (ch : Children) (d : Definition), (∀ f ∈ d.fields, inputTypeB s f.type = true) →
      (∀ w ∈ childValues ch, numLeafOK w.kind w.raw = true) →
      (((∀ x ∈ objSites s.view (some d) ch, SitePass x) ∧ unknownInputFields d ch = []) ↔ Spec.fieldsOk s d ch = true)
    | .nil, d, hf, hl => by simp [objSites, Spec.fieldsOk, unknownInputFields]
    | .cons n v p rest, d, hf, hl => by
      have ih := fieldsOk_iff_sites s hs rest d hf (fun w hw => hl w (by rw [childValues]; exact List.mem_append_right _ hw))
      rw [objSites, List.forall_mem_append, Spec.fieldsOk, Bool.and_eq_true, ← ih]
      rw [unknownInputFields]
      have hsame : Spec.inputFieldByName d n = fieldForName d.fields n := rfl
      rw [hsame]
      cases hfn : fieldForName d.fields n with
      | none => simp
      | some fd =>
        have hmem : fd ∈ d.fields := List.mem_of_find?_eq_some hfn
        have hit := hf fd hmem
        unfold inputTypeB at hit
        cases hd' : s.type? fd.type.name with
        | none => rw [hd'] at hit; cases hit
        | some d' =>
          rw [hd'] at hit
          have hlink : objChildLink s.view (some d) n = (some fd.type, some d') := by
            simp only [objChildLink, hfn, linkOfType]
            exact congrArg _ hd'
          rw [hlink]
          simp only [Option.isNone_some, Bool.false_eq_true, if_false]
          rw [← valueOk_iff_sites s hs v fd.type d' hd' hit
            (fun w hw => hl w (by rw [childValues]; exact List.mem_append_left _ hw))]
          constructor
          · rintro ⟨⟨a, b⟩, c⟩; exact ⟨a, b, c⟩
          · rintro ⟨a, b, c⟩; exact ⟨⟨a, b⟩, c⟩
end

end Gql.Validate
