import GqlProofs.ValSpec.UnusedFragments
import GqlModel.Validate.Spec.Variables
/-
  The NAMES of the variable usages the specification collects (`Spec.scopeUses`) do not depend on
  any typing: they are the variables written in the arguments of the field nodes and in the
  directives of the operation and of the fragment definitions it references.  The usages of a
  selection set are those written at its typed nodes (`mem_usesInSels_typed`); their names are the
  variables written at the node (`nodeUsesV_names`).
-/
namespace Gql.Validate
open Gql

mutual
  def varNamesV : Value → List Name
    | .mk k raw ch _ =>
      match k with
      | .variable => [raw]
      | .list => varNamesCh ch
      | .object => varNamesCh ch
      | _ => []
  def varNamesCh : Children → List Name
    | .nil => []
    | .cons _ v _ rest => varNamesV v ++ varNamesCh rest
end

def argsVarNames (args : List Argument) : List Name := args.flatMap fun a => varNamesV a.value
def dirsVarNames (dirs : List Directive) : List Name := dirs.flatMap fun dir => argsVarNames dir.args

def nodeArgs : Selection → List Argument
  | .field _ _ args _ _ _ => args
  | _ => []

def nodeVarNames (y : Selection) : List Name := argsVarNames (nodeArgs y) ++ dirsVarNames (Spec.selDirs y)

mutual
  theorem usesInValue_names (s : Schema) : ∀ (v : Value) (exp : Option GType) (ld : Bool) (oo : Option Name),
      (Spec.usesInValue s exp ld oo v).map (·.name) = varNamesV v
    | .mk k raw ch p, exp, ld, oo => by
      unfold Spec.usesInValue varNamesV
      cases k <;> simp only [List.map_cons, List.map_nil]
      · exact usesInItems_names s ch _
      · split
        · split
          · exact usesInFields_names s ch _
          · exact usesInFields_names s ch _
        · exact usesInFields_names s ch _
  theorem usesInItems_names (s : Schema) : ∀ (ch : Children) (e : Option GType),
      (Spec.usesInItems s e ch).map (·.name) = varNamesCh ch
    | .nil, e => by simp [Spec.usesInItems, varNamesCh]
    | .cons n v p rest, e => by
      simp only [Spec.usesInItems, varNamesCh, List.map_append, usesInValue_names s v, usesInItems_names s rest]
  theorem usesInFields_names (s : Schema) : ∀ (ch : Children) (dd : Option Definition),
      (Spec.usesInFields s dd ch).map (·.name) = varNamesCh ch
    | .nil, dd => by simp [Spec.usesInFields, varNamesCh]
    | .cons n v p rest, dd => by
      simp only [Spec.usesInFields, varNamesCh, List.map_append, usesInFields_names s rest]
      congr 1
      split <;> exact usesInValue_names s v _ _ _
end

theorem usesInArgs_names (s : Schema) (defs : Option (List ArgDef)) :
    ∀ args : List Argument, (Spec.usesInArgs s defs args).map (·.name) = argsVarNames args
  | [] => rfl
  | a :: rest => by
    have ih := usesInArgs_names s defs rest
    simp only [Spec.usesInArgs, argsVarNames, List.flatMap_cons, List.map_append] at ih ⊢
    rw [ih]
    congr 1
    split <;> exact usesInValue_names s a.value _ _ _

theorem usesInDirs_names (s : Schema) : ∀ dirs : List Directive,
    (Spec.usesInDirs s dirs).map (·.name) = dirsVarNames dirs
  | [] => rfl
  | dir :: rest => by
    have ih := usesInDirs_names s rest
    simp only [Spec.usesInDirs, dirsVarNames, List.flatMap_cons, List.map_append] at ih ⊢
    rw [ih, usesInArgs_names]

def nodeUsesV (s : Schema) (t : Spec.TSel) : List Spec.VarUse :=
  (match t.sel with
   | .field _ nm args _ _ _ => Spec.usesInArgs s ((t.parent.bind (Spec.fieldDefOn · nm)).map (·.args)) args
   | _ => []) ++ Spec.usesInDirs s (Spec.selDirs t.sel)

mutual
  theorem mem_usesInSel_typed (s : Schema) (u : Spec.VarUse) : ∀ (sel : Selection) (parent : Option Definition),
      u ∈ Spec.usesInSel s parent sel ↔ ∃ t ∈ Spec.typedSel s parent sel, u ∈ nodeUsesV s t
    | .field al nm args dirs sub p, parent => by
      simp only [Spec.usesInSel, Spec.typedSel, List.mem_append, List.mem_cons, exists_eq_or_imp,
        mem_usesInSels_typed s u sub, nodeUsesV, Spec.selDirs]
    | .spread nm dirs p, parent => by
      simp only [Spec.usesInSel, Spec.typedSel, List.mem_singleton, exists_eq_left, nodeUsesV, Spec.selDirs,
        List.mem_append, List.not_mem_nil, false_or]
    | .inline tc dirs sub p, parent => by
      simp only [Spec.usesInSel, Spec.typedSel, List.mem_append, List.mem_cons, exists_eq_or_imp,
        mem_usesInSels_typed s u sub, nodeUsesV, Spec.selDirs, List.not_mem_nil, false_or]
  theorem mem_usesInSels_typed (s : Schema) (u : Spec.VarUse) : ∀ (sels : Selections) (parent : Option Definition),
      u ∈ Spec.usesInSels s parent sels ↔ ∃ t ∈ Spec.typedSels s parent sels, u ∈ nodeUsesV s t
    | .nil, parent => by simp [Spec.usesInSels, Spec.typedSels]
    | .cons x rest, parent => by
      simp only [Spec.usesInSels, Spec.typedSels, List.mem_append, mem_usesInSel_typed s u x,
        mem_usesInSels_typed s u rest, or_and_right, exists_or]
end

theorem nodeUsesV_names (s : Schema) (t : Spec.TSel) : (nodeUsesV s t).map (·.name) = nodeVarNames t.sel := by
  obtain ⟨p, y⟩ := t
  cases y <;> simp [nodeUsesV, nodeVarNames, nodeArgs, usesInArgs_names, usesInDirs_names, argsVarNames]

theorem mem_usesInSels_names (s : Schema) (x : Name) (sels : Selections) (parent : Option Definition) :
    x ∈ (Spec.usesInSels s parent sels).map (·.name) ↔ ∃ y, InSels sels (.sel y) ∧ x ∈ nodeVarNames y := by
  constructor
  · intro h
    obtain ⟨u, hu, rfl⟩ := List.mem_map.1 h
    obtain ⟨t, ht, hut⟩ := (mem_usesInSels_typed s u sels parent).1 hu
    exact ⟨t.sel, typedSels_mem_inSels s sels parent t ht, nodeUsesV_names s t ▸ List.mem_map_of_mem hut⟩
  · rintro ⟨y, hy, hx⟩
    obtain ⟨p', hp⟩ := inSels_mem_typedSels s sels parent y hy
    rw [← nodeUsesV_names s ⟨p', y⟩] at hx
    obtain ⟨u, hu, rfl⟩ := List.mem_map.1 hx
    exact List.mem_map_of_mem ((mem_usesInSels_typed s u sels parent).2 ⟨_, hp, hu⟩)

def fragVarName (f : FragmentDef) (x : Name) : Prop :=
  x ∈ dirsVarNames f.dirs ∨ ∃ y, InSels f.sel (.sel y) ∧ x ∈ nodeVarNames y

def opOwnVarName (op : OperationDef) (x : Name) : Prop :=
  (∃ v ∈ op.vars, x ∈ dirsVarNames v.dirs) ∨ x ∈ dirsVarNames op.dirs ∨ ∃ y, InSels op.sel (.sel y) ∧ x ∈ nodeVarNames y

theorem mem_scopeUses_names (s : Schema) (d : QueryDoc) (op : OperationDef) (x : Name) :
    x ∈ (Spec.scopeUses s d op).map (·.name) ↔
      opOwnVarName op x ∨ ∃ f ∈ Spec.opFragments d op, fragVarName f x := by
  simp only [Spec.scopeUses, Spec.usesInOperation, Spec.usesInFragment, List.map_append, List.mem_append,
    List.map_flatMap, List.mem_flatMap, usesInDirs_names, mem_usesInSels_names, opOwnVarName, fragVarName]
  constructor
  · rintro (((⟨v, hv, hx⟩ | h) | h) | ⟨f, hf, h⟩)
    · exact Or.inl (Or.inl ⟨v, hv, hx⟩)
    · exact Or.inl (Or.inr (Or.inl h))
    · exact Or.inl (Or.inr (Or.inr h))
    · exact Or.inr ⟨f, hf, h⟩
  · rintro ((⟨v, hv, hx⟩ | h | h) | ⟨f, hf, h⟩)
    · exact Or.inl (Or.inl (Or.inl ⟨v, hv, hx⟩))
    · exact Or.inl (Or.inl (Or.inr h))
    · exact Or.inl (Or.inr h)
    · exact Or.inr ⟨f, hf, h⟩

theorem mem_opFragments_iff (d : QueryDoc) (hu : Spec.fragmentNameUniqueness d = true) (op : OperationDef)
    (f : FragmentDef) :
    f ∈ Spec.opFragments d op ↔ ∃ n, Reach d (Spec.spreadsOfSels op.sel) n ∧ fragForName d n = some f := by
  have hu' : (d.frags.map (·.name)).Nodup := (distinct_iff_nodup _).1 hu
  simp only [Spec.opFragments, List.mem_filter, Bool.and_eq_true, reachFrom_contains_iff]
  constructor
  · rintro ⟨hf, hr, _⟩
    exact ⟨f.name, hr, fragForName_of_nodup hu' hf⟩
  · rintro ⟨n, hr, hf⟩
    have hn : f.name = n := fragForName_name hf
    subst hn
    refine ⟨fragForName_mem hf, hr, ?_⟩
    rw [fragByName_eq, hf]
    simp

end Gql.Validate
