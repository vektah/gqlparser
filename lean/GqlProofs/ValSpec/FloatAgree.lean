import GqlProofs.ValSpec.ValuesCorrectHyps
/-
  ValuesOfCorrectType, numeric literals.  For every text of the shape `-? Digit+ ( . Digit* )? ( [eE] [+-]? Digit+ )?`
  (`floatText`; a superset of the IntValue and FloatValue lexemes of the grammar: leading zeros, an empty fraction after
  the point and the absence of both optional parts are admitted) the model of `strconv.ParseFloat(·, 64)` (`floatErr`:
  error or ±Inf) and the specification's finiteness test (`Spec.floatLitFinite`) agree: `float_lexeme_agree`.  Both are
  brought to one closed form in the digits without leading zeros and the decimal exponent (`nfStatus`, `nfFinite`), which
  agree because 10^308 < 2^1024 − 2^970 ≤ 10^309 (`nf_agree_nat`).  The texts `-?[0-9]+` of IntValues are among them
  (`floatText_of_intText`) — so, at the end, the Int part of `numLiteralsOK` holds for every lexer-produced document,
  literals beyond the range of a double included (`int_lexeme_float_agree`, `numLeafOK_int_of_lexeme`).
-/
namespace Gql.Validate
open Gql Gql.Validate.Rules

theorem natOfDigits_eq (ds : List Nat) : natOfDigits ds = Spec.digitsVal ds 0 := by
  unfold natOfDigits
  generalize 0 = acc
  induction ds generalizing acc with
  | nil => rfl
  | cons c rest ih => simp only [List.foldl_cons, Spec.digitsVal, ih]

theorem digitsVal_acc : ∀ (ds : List Nat) (acc : Nat),
    Spec.digitsVal ds acc = acc * 10 ^ ds.length + Spec.digitsVal ds 0
  | [], acc => by simp [Spec.digitsVal]
  | c :: rest, acc => by
    rw [Spec.digitsVal, Spec.digitsVal, digitsVal_acc rest (acc * 10 + (c - 48)), digitsVal_acc rest (0 * 10 + (c - 48))]
    simp only [List.length_cons, Nat.pow_succ, Nat.zero_mul, Nat.zero_add]
    rw [Nat.add_mul, Nat.mul_assoc, Nat.mul_comm (10 ^ rest.length) 10, Nat.add_assoc]

theorem digitsVal_lt : ∀ (ds : List Nat), ds.all Spec.isDigit = true → Spec.digitsVal ds 0 < 10 ^ ds.length
  | [], _ => by simp [Spec.digitsVal]
  | c :: rest, h => by
    rw [List.all_cons, Bool.and_eq_true] at h
    have hc : 48 ≤ c ∧ c ≤ 57 := by simpa [Spec.isDigit] using h.1
    have ih := digitsVal_lt rest h.2
    rw [Spec.digitsVal, digitsVal_acc]
    simp only [Nat.zero_mul, Nat.zero_add, List.length_cons, Nat.pow_succ]
    have : (c - 48) * 10 ^ rest.length ≤ 9 * 10 ^ rest.length := Nat.mul_le_mul_right _ (by omega)
    omega

theorem digitsVal_ge_pow (c : Nat) (rest : List Nat) (hc : 49 ≤ c) :
    10 ^ rest.length ≤ Spec.digitsVal (c :: rest) 0 := by
  rw [Spec.digitsVal, digitsVal_acc]
  simp only [Nat.zero_mul, Nat.zero_add]
  have : 1 * 10 ^ rest.length ≤ (c - 48) * 10 ^ rest.length := Nat.mul_le_mul_right _ (by omega)
  omega


theorem all_notE {ds : List Nat} (hd : ds.all Spec.isDigit = true) : ds.all (fun c => c != 101 && c != 69) = true := by
  rw [List.all_eq_true] at hd ⊢
  intro c hc
  have : 48 ≤ c ∧ c ≤ 57 := by simpa [Spec.isDigit] using hd c hc
  have h1 : c ≠ 101 := by omega
  have h2 : c ≠ 69 := by omega
  simp [h1, h2]

theorem dropWhile_zero_eq (ds : List Nat) : ds.dropWhile (fun x => decide (x = 48)) = ds.dropWhile (fun x => x == 48) := by
  first | rfl | (congr 1; funext x; simp)

theorem dropWhile_zero_spec : ∀ (ds : List Nat), ds.all Spec.isDigit = true →
    (ds.dropWhile (fun x => x == 48)).all Spec.isDigit = true ∧
      (ds.dropWhile (fun x => x == 48) = [] ∨ ∃ c rest, ds.dropWhile (fun x => x == 48) = c :: rest ∧ 49 ≤ c)
  | [], _ => ⟨rfl, Or.inl rfl⟩
  | c :: rest, h => by
    rw [List.all_cons, Bool.and_eq_true] at h
    have hc : 48 ≤ c ∧ c ≤ 57 := by simpa [Spec.isDigit] using h.1
    by_cases h48 : c = 48
    · subst h48
      simpa [List.dropWhile_cons] using dropWhile_zero_spec rest h.2
    · have : (c == 48) = false := by simpa using h48
      rw [List.dropWhile_cons, this]
      simp only [Bool.false_eq_true, if_false]
      exact ⟨by rw [List.all_cons, Bool.and_eq_true]; exact h, Or.inr ⟨c, rest, rfl, by omega⟩⟩

theorem pow308_lt : 10 ^ 308 < 2 ^ 1024 - 2 ^ 970 := by decide +kernel
theorem le_pow309 : 2 ^ 1024 - 2 ^ 970 ≤ 10 ^ 309 := by decide +kernel

theorem floatStatus_unsigned (c : Nat) (rest : List Nat) (hc : 48 ≤ c ∧ c ≤ 57) :
    floatStatus (c :: rest) = floatStatus (45 :: c :: rest) := by
  have : c = 48 ∨ c = 49 ∨ c = 50 ∨ c = 51 ∨ c = 52 ∨ c = 53 ∨ c = 54 ∨ c = 55 ∨ c = 56 ∨ c = 57 := by omega
  rcases this with rfl | rfl | rfl | rfl | rfl | rfl | rfl | rfl | rfl | rfl <;> rfl

theorem floatLitFinite_unsigned (c : Nat) (rest : List Nat) (hc : 48 ≤ c ∧ c ≤ 57) :
    Spec.floatLitFinite (c :: rest) = Spec.floatLitFinite (45 :: c :: rest) := by
  have : c = 48 ∨ c = 49 ∨ c = 50 ∨ c = 51 ∨ c = 52 ∨ c = 53 ∨ c = 54 ∨ c = 55 ∨ c = 56 ∨ c = 57 := by omega
  rcases this with rfl | rfl | rfl | rfl | rfl | rfl | rfl | rfl | rfl | rfl <;> rfl

end Gql.Validate

namespace Gql.EndToEnd
open Gql Gql.Validate

theorem scale_lt {m n a T B b : Nat} (hm : m < 10 ^ n) (hT : 10 ^ B < T) (h : n + a ≤ B + b) :
    m * 10 ^ a < T * 10 ^ b :=
  calc m * 10 ^ a < 10 ^ n * 10 ^ a := Nat.mul_lt_mul_of_pos_right hm (Nat.pow_pos (by decide))
    _ = 10 ^ (n + a) := (Nat.pow_add ..).symm
    _ ≤ 10 ^ (B + b) := Nat.pow_le_pow_right (by decide) h
    _ = 10 ^ B * 10 ^ b := Nat.pow_add ..
    _ ≤ T * 10 ^ b := Nat.mul_le_mul_right _ (Nat.le_of_lt hT)

theorem scale_le {m n a T B b : Nat} (hm : 10 ^ (n - 1) ≤ m) (hT : T ≤ 10 ^ B) (h : B + 1 + b ≤ n + a) :
    T * 10 ^ b ≤ m * 10 ^ a :=
  calc T * 10 ^ b ≤ 10 ^ B * 10 ^ b := Nat.mul_le_mul_right _ hT
    _ = 10 ^ (B + b) := (Nat.pow_add ..).symm
    _ ≤ 10 ^ (n - 1 + a) := Nat.pow_le_pow_right (by decide) (by omega)
    _ = 10 ^ (n - 1) * 10 ^ a := Nat.pow_add ..
    _ ≤ m * 10 ^ a := Nat.mul_le_mul_right _ hm

/-- `m · 10^k ≥ T`, for an exponent `k` of either sign -/
def over (m T : Nat) (k : Int) : Bool := decide (T * 10 ^ (-k).toNat ≤ m * 10 ^ k.toNat)

theorem over_eq (m T : Nat) (k : Int) :
    (if k ≥ 0 then decide (m * 10 ^ k.toNat ≥ T) else decide (m ≥ T * 10 ^ (-k).toNat)) = over m T k := by
  unfold over
  split
  · rw [show (-k).toNat = 0 by omega, Nat.pow_zero, Nat.mul_one]
  · rw [show k.toNat = 0 by omega, Nat.pow_zero, Nat.mul_one]

theorem under_eq (m T : Nat) (k : Int) :
    (if k ≥ 0 then decide (m * 10 ^ k.toNat < T) else decide (m < T * 10 ^ (-k).toNat)) = !over m T k := by
  rw [← over_eq]
  split <;> simp only [ge_iff_le, ← Nat.not_le, decide_not]

/-- error class of an `n`-digit mantissa `m` scaled by `10^k`, against the overflow threshold `T`
    (the tail of `floatStatus`) -/
def statusN (m n T : Nat) (k : Int) : NumErr :=
  if (n : Int) + k > 310 then .range
  else if (n : Int) + k < 300 then .none
  else if (if k ≥ 0 then decide (m * 10 ^ k.toNat ≥ T) else decide (m ≥ T * 10 ^ (-k).toNat)) then .range
  else .none

/-- finiteness of the same number (the tail of `Spec.floatLitFinite`) -/
def finiteN (m n T : Nat) (k : Int) : Bool :=
  if (n : Int) + k ≤ 308 then true
  else if (n : Int) - 1 + k ≥ 309 then false
  else if k ≥ 0 then decide (m * 10 ^ k.toNat < T) else decide (m < T * 10 ^ (-k).toNat)

theorem nf_agree_nat (m n T : Nat) (hlo : 10 ^ (n - 1) ≤ m) (hhi : m < 10 ^ n)
    (hT1 : 10 ^ 308 < T) (hT2 : T ≤ 10 ^ 309) (k : Int) : (statusN m n T k != .none) = !finiteN m n T k := by
  unfold statusN finiteN
  rw [over_eq, under_eq]
  -- magnitude `n + k` at most 308: no overflow; at least 310: overflow; 309: both sides compare exactly
  by_cases h1 : (n : Int) + k ≤ 308
  · have : over m T k = false := decide_eq_false (Nat.not_le.2 (scale_lt hhi hT1 (by omega)))
    simp (disch := omega) [this, if_pos, if_neg]
  · by_cases h2 : 310 ≤ (n : Int) + k
    · have : over m T k = true := decide_eq_true (scale_le hlo hT2 (by omega))
      simp (disch := omega) [this, if_neg]
    · simp (disch := omega) only [if_neg]
      cases over m T k <;> rfl

/-- `floatStatus` after the text has been split: `a` the digits of integer part and fraction without
    leading zeros, `k` = exponent − number of fraction digits -/
def nfStatus (a : List Nat) (k : Int) : NumErr :=
  if a.isEmpty then .none else statusN (Spec.digitsVal a 0) a.length (2 ^ 1024 - 2 ^ 970) k

/-- `Spec.floatLitFinite` in the same terms -/
def nfFinite (a : List Nat) (k : Int) : Bool :=
  if Spec.digitsVal a 0 == 0 then true else finiteN (Spec.digitsVal a 0) a.length (2 ^ 1024 - 2 ^ 970) k

theorem nf_agree (a : List Nat) (hd : a.all Spec.isDigit = true)
    (hh : a = [] ∨ ∃ c rest, a = c :: rest ∧ 49 ≤ c) (k : Int) : (nfStatus a k != .none) = !nfFinite a k := by
  rcases hh with rfl | ⟨c, rest, rfl, hc⟩
  · simp [nfStatus, nfFinite, Spec.digitsVal]
  · have hlo := digitsVal_ge_pow c rest hc
    have hhi := digitsVal_lt (c :: rest) hd
    have hpos : 0 < 10 ^ rest.length := Nat.pow_pos (by decide)
    have hne : (Spec.digitsVal (c :: rest) 0 == 0) = false := by
      simp only [beq_eq_false_iff_ne, ne_eq]
      omega
    unfold nfStatus nfFinite
    simp only [List.isEmpty_cons, Bool.false_eq_true, if_false, hne]
    exact nf_agree_nat (Spec.digitsVal (c :: rest) 0) (c :: rest).length (2 ^ 1024 - 2 ^ 970)
      (by simpa using hlo) hhi pow308_lt le_pow309 k

/-- nothing, or `.` followed by the digits `fr` -/
def FracOK (fp fr : List Nat) : Prop :=
  (fp = [] ∧ fr = []) ∨ (fp = 46 :: fr ∧ fr.all Spec.isDigit = true)

/-- nothing (`eneg = false`, `ed = []`), or `e`/`E`, an optional sign, and the digits `ed` (not empty) -/
def ExpOK (ep : List Nat) (eneg : Bool) (ed : List Nat) : Prop :=
  (ep = [] ∧ eneg = false ∧ ed = []) ∨
  (∃ e s, ep = e :: (s ++ ed) ∧ (e = 101 ∨ e = 69) ∧
      ((s = [] ∧ eneg = false) ∨ (s = [43] ∧ eneg = false) ∨ (s = [45] ∧ eneg = true)) ∧
      ed ≠ [] ∧ ed.all Spec.isDigit = true)

def HeadNot (p : Nat → Bool) (X : List Nat) : Prop := X.takeWhile p = []

theorem takeWhile_app {p : Nat → Bool} {ds X : List Nat} (hX : HeadNot p X) (hd : ds.all p = true) :
    (ds ++ X).takeWhile p = ds := by
  rw [List.takeWhile_append_of_pos (List.all_eq_true.1 hd), hX, List.append_nil]

theorem dropWhile_app {p : Nat → Bool} {ds X : List Nat} (hX : HeadNot p X) (hd : ds.all p = true) :
    (ds ++ X).dropWhile p = X := by
  have h := List.takeWhile_append_dropWhile (p := p) (l := X)
  rw [hX] at h
  rw [List.dropWhile_append_of_pos (List.all_eq_true.1 hd)]
  exact h

theorem HeadNot.ne_cons {p : Nat → Bool} {X : List Nat} (hX : HeadNot p X) {c : Nat} (hc : p c = true) (t : List Nat) :
    X ≠ c :: t := by
  rintro rfl
  rw [HeadNot, List.takeWhile_cons, hc] at hX
  cases hX

theorem digit_bounds {c : Nat} (h : Spec.isDigit c = true) : 48 ≤ c ∧ c ≤ 57 := by
  simpa [Spec.isDigit] using h

theorem head_digit {ed : List Nat} (hne : ed ≠ []) (hd : ed.all Spec.isDigit = true) :
    ∃ c t, ed = c :: t ∧ 48 ≤ c ∧ c ≤ 57 := by
  cases ed with
  | nil => exact absurd rfl hne
  | cons c t =>
    rw [List.all_cons, Bool.and_eq_true] at hd
    exact ⟨c, t, rfl, digit_bounds hd.1⟩

theorem FracOK.headNot {fp fr : List Nat} (h : FracOK fp fr) : HeadNot Spec.isDigit fp := by
  rcases h with ⟨rfl, _⟩ | ⟨rfl, _⟩ <;> rfl

theorem ExpOK.headNot {ep : List Nat} {eneg : Bool} {ed : List Nat} (h : ExpOK ep eneg ed) {p : Nat → Bool}
    (h1 : p 101 = false) (h2 : p 69 = false) : HeadNot p ep := by
  rcases h with ⟨rfl, _⟩ | ⟨e, s, rfl, rfl | rfl, _⟩
  · rfl
  · exact List.takeWhile_cons_of_neg (by simp [h1])
  · exact List.takeWhile_cons_of_neg (by simp [h2])

/-- the exponent scanner of `floatStatus` -/
def fsExp (r2 : Bytes) : Option (Bool × Bytes) :=
  match r2 with
  | [] => some (false, [])
  | e :: r =>
    if e = 101 || e = 69 then
      let (eneg, ds) : Bool × Bytes := match r with
        | 45 :: ds => (true, ds)
        | 43 :: ds => (false, ds)
        | ds => (false, ds)
      if ds.isEmpty || !ds.all isDigit then none else some (eneg, ds)
    else none

/-- `floatStatus` after integer part, fraction and the rest `r2` have been separated -/
def fsTail (intPart frac r2 : Bytes) : NumErr :=
  if intPart.isEmpty && frac.isEmpty then .syntax
  else
    match fsExp r2 with
    | none => .syntax
    | some (eneg, eds) =>
      let mant := (intPart ++ frac).dropWhile (· = 48)
      if mant.isEmpty then .none
      else
        let e : Int := if eneg then -(natOfDigits eds : Int) else natOfDigits eds
        let p : Int := (mant.length : Int) + e - frac.length
        if p > 310 then .range
        else if p < 300 then .none
        else
          let thr : Nat := 2 ^ 1024 - 2 ^ 970
          let sh : Int := e - frac.length
          let m := natOfDigits mant
          let over : Bool := if sh ≥ 0 then decide (m * 10 ^ sh.toNat ≥ thr) else decide (m ≥ thr * 10 ^ (-sh).toNat)
          if over then .range else .none

theorem floatStatus_dot (body r : Bytes) (h : body.dropWhile isDigit = 46 :: r) :
    floatStatus (45 :: body) = fsTail (body.takeWhile isDigit) (r.takeWhile isDigit) (r.dropWhile isDigit) := by
  unfold floatStatus
  simp only [h]
  rfl

/-- no fraction: `simp` takes the second alternative of the `match` on the rest because `h46` refutes the first -/
theorem floatStatus_nodot (body : Bytes) {r2 : Bytes} (h46 : ∀ r, r2 ≠ 46 :: r) (h : body.dropWhile isDigit = r2) :
    floatStatus (45 :: body) = fsTail (body.takeWhile isDigit) [] r2 := by
  unfold floatStatus
  simp only [h]
  rfl

def expVal (eneg : Bool) (ed : List Nat) : Int :=
  if eneg then -((Spec.digitsVal ed 0 : Nat) : Int) else ((Spec.digitsVal ed 0 : Nat) : Int)

theorem fsExp_nf {ep : List Nat} {eneg : Bool} {ed : List Nat} (h : ExpOK ep eneg ed) :
    fsExp ep = some (eneg, ed) := by
  rcases h with ⟨rfl, rfl, rfl⟩ | ⟨e, s, rfl, he, hs, hne, hd⟩
  · rfl
  · have hd' : ed.all isDigit = true := hd
    have hE : (decide (e = 101) || decide (e = 69)) = true := by simpa using he
    have hemp : ed.isEmpty = false := List.isEmpty_eq_false_iff.2 hne
    unfold fsExp
    rcases hs with ⟨rfl, rfl⟩ | ⟨rfl, rfl⟩ | ⟨rfl, rfl⟩
    · obtain ⟨c, t, rfl, hc⟩ := head_digit hne hd
      simp only [hE, if_true, List.nil_append]
      split
      · rename_i h; simp at h; omega
      · rename_i h; simp at h; omega
      · simp [hd']
    · simp [hE, hd', hemp]
    · simp [hE, hd', hemp]

theorem fsTail_nf (ip fr : List Nat) (hip : ip ≠ []) {ep : List Nat} {eneg : Bool} {ed : List Nat}
    (h : ExpOK ep eneg ed) :
    fsTail ip fr ep = nfStatus ((ip ++ fr).dropWhile (· == 48)) (expVal eneg ed - (fr.length : Int)) := by
  unfold fsTail nfStatus statusN expVal
  rw [fsExp_nf h]
  simp only [List.isEmpty_eq_false_iff.2 hip, Bool.false_and, Bool.false_eq_true, if_false, natOfDigits_eq,
    dropWhile_zero_eq, Int.add_sub_assoc]

theorem floatStatus_nf {ip fp fr ep : List Nat} {eneg : Bool} {ed : List Nat} (hip : ip ≠ [])
    (hipd : ip.all Spec.isDigit = true) (hf : FracOK fp fr) (he : ExpOK ep eneg ed) :
    floatStatus (45 :: (ip ++ (fp ++ ep))) =
      nfStatus ((ip ++ fr).dropWhile (· == 48)) (expVal eneg ed - (fr.length : Int)) := by
  have hipd' : ip.all isDigit = true := hipd
  have hE : HeadNot isDigit ep := he.headNot rfl rfl
  rw [← fsTail_nf ip fr hip he]
  rcases hf with ⟨rfl, rfl⟩ | ⟨rfl, hfr⟩
  · have h46 : ∀ r, ep ≠ 46 :: r := (he.headNot (p := (· == 46)) rfl rfl).ne_cons rfl
    rw [List.nil_append, floatStatus_nodot _ h46 (dropWhile_app hE hipd'), takeWhile_app hE hipd']
  · have hD : HeadNot isDigit (46 :: (fr ++ ep)) := rfl
    rw [List.cons_append, floatStatus_dot _ _ (dropWhile_app hD hipd'), takeWhile_app hD hipd', takeWhile_app hE hfr,
      dropWhile_app hE hfr]

def notE (c : Nat) : Bool := c != 101 && c != 69

def negHead (l : List Nat) : Bool := match l with | 45 :: _ => true | _ => false

theorem floatLitFinite_eq (body : Bytes) :
    Spec.floatLitFinite (45 :: body) =
      nfFinite (((body.takeWhile notE).takeWhile Spec.isDigit ++
          (((body.takeWhile notE).dropWhile Spec.isDigit).drop 1)).dropWhile (· == 48))
        (expVal (negHead ((body.dropWhile notE).drop 1)) (((body.dropWhile notE).drop 1).filter Spec.isDigit) -
          (((((body.takeWhile notE).dropWhile Spec.isDigit).drop 1).length : Nat) : Int)) := by
  rfl

theorem exp_spec_nf {ep : List Nat} {eneg : Bool} {ed : List Nat} (h : ExpOK ep eneg ed) :
    negHead (ep.drop 1) = eneg ∧ (ep.drop 1).filter Spec.isDigit = ed := by
  rcases h with ⟨rfl, rfl, rfl⟩ | ⟨e, s, rfl, _, hs, hne, hd⟩
  · exact ⟨rfl, rfl⟩
  · have hf : ed.filter Spec.isDigit = ed := List.filter_eq_self.2 (List.all_eq_true.1 hd)
    rcases hs with ⟨rfl, rfl⟩ | ⟨rfl, rfl⟩ | ⟨rfl, rfl⟩
    · refine ⟨?_, hf⟩
      obtain ⟨c, t, rfl, hc⟩ := head_digit hne hd
      show negHead (c :: t) = false
      unfold negHead
      split
      · rename_i h; simp at h; omega
      · rfl
    · exact ⟨rfl, hf⟩
    · exact ⟨rfl, hf⟩

theorem FracOK.noE {fp fr : List Nat} (h : FracOK fp fr) : fp.all notE = true := by
  rcases h with ⟨rfl, _⟩ | ⟨rfl, hfr⟩
  · rfl
  · exact Bool.and_eq_true_iff.2 ⟨rfl, all_notE hfr⟩

theorem FracOK.drop {fp fr : List Nat} (h : FracOK fp fr) : fp.drop 1 = fr := by
  rcases h with ⟨rfl, rfl⟩ | ⟨rfl, _⟩ <;> rfl

theorem floatLitFinite_nf {ip fp fr ep : List Nat} {eneg : Bool} {ed : List Nat}
    (hipd : ip.all Spec.isDigit = true) (hf : FracOK fp fr) (he : ExpOK ep eneg ed) :
    Spec.floatLitFinite (45 :: (ip ++ (fp ++ ep))) =
      nfFinite ((ip ++ fr).dropWhile (· == 48)) (expVal eneg ed - (fr.length : Int)) := by
  have hE : HeadNot notE ep := he.headNot rfl rfl
  have hm : (ip ++ fp).all notE = true := by rw [List.all_append, hf.noE, Bool.and_true]; exact all_notE hipd
  rw [floatLitFinite_eq, ← List.append_assoc, takeWhile_app hE hm, dropWhile_app hE hm,
    takeWhile_app hf.headNot hipd, dropWhile_app hf.headNot hipd, hf.drop, (exp_spec_nf he).1, (exp_spec_nf he).2]

theorem FracOK.digits {fp fr : List Nat} (h : FracOK fp fr) : fr.all Spec.isDigit = true := by
  rcases h with ⟨_, rfl⟩ | ⟨_, hfr⟩
  · rfl
  · exact hfr

inductive BodyNF : Bytes → Prop
  | mk {ip fp fr ep : List Nat} {eneg : Bool} {ed : List Nat} (hip : ip ≠ []) (hipd : ip.all Spec.isDigit = true)
      (hf : FracOK fp fr) (he : ExpOK ep eneg ed) : BodyNF (ip ++ (fp ++ ep))

theorem BodyNF.digits {ds : List Nat} (hne : ds ≠ []) (hd : ds.all Spec.isDigit = true) : BodyNF ds := by
  simpa using BodyNF.mk hne hd (.inl ⟨rfl, rfl⟩) (.inl ⟨rfl, rfl, rfl⟩)

theorem BodyNF.head {body : Bytes} (h : BodyNF body) : ∃ c t, body = c :: t ∧ 48 ≤ c ∧ c ≤ 57 := by
  obtain ⟨hip, hipd, _, _⟩ := h
  obtain ⟨c, t, rfl, hc⟩ := head_digit hip hipd
  exact ⟨c, _, rfl, hc⟩

theorem float_neg_agree {body : Bytes} (h : BodyNF body) :
    floatErr (45 :: body) = !Spec.floatLitFinite (45 :: body) := by
  obtain @⟨ip, fp, fr, ep, eneg, ed, hip, hipd, hf, he⟩ := h
  unfold floatErr
  rw [floatStatus_nf hip hipd hf he, floatLitFinite_nf hipd hf he]
  have hall : (ip ++ fr).all Spec.isDigit = true := by rw [List.all_append, hipd, hf.digits]; rfl
  obtain ⟨h1, h2⟩ := dropWhile_zero_spec _ hall
  exact nf_agree _ h1 h2 _

inductive FloatNF : Bytes → Prop
  | neg {body : Bytes} (h : BodyNF body) : FloatNF (45 :: body)
  | pos {body : Bytes} (h : BodyNF body) : FloatNF body

theorem float_nf_agree (raw : Bytes) (h : FloatNF raw) : floatErr raw = !Spec.floatLitFinite raw := by
  cases h with
  | neg h => exact float_neg_agree h
  | pos h =>
    obtain ⟨c, t, rfl, hc⟩ := h.head
    unfold floatErr
    rw [floatStatus_unsigned c t hc, floatLitFinite_unsigned c t hc]
    exact float_neg_agree h

/-- `Digit+` -/
def digits1b (ds : List Nat) : Bool := !ds.isEmpty && ds.all Spec.isDigit

/-- `[+-]? Digit+` -/
def signedDigits (r : List Nat) : Bool :=
  match r with
  | 43 :: ds => digits1b ds
  | 45 :: ds => digits1b ds
  | ds => digits1b ds

/-- nothing, or `[eE] [+-]? Digit+` -/
def expText : List Nat → Bool
  | [] => true
  | e :: r => (e == 101 || e == 69) && signedDigits r

/-- `Digit+ ( . Digit* )? ( [eE] [+-]? Digit+ )?` -/
def floatBody (body : Bytes) : Bool :=
  !(body.takeWhile Spec.isDigit).isEmpty &&
    (match body.dropWhile Spec.isDigit with
     | 46 :: r => expText (r.dropWhile Spec.isDigit)
     | r => expText r)

/-- `-? Digit+ ( . Digit* )? ( [eE] [+-]? Digit+ )?`: every IntValue and FloatValue lexeme of the
    grammar has this shape (`floatText_of_numRaw`); leading zeros, an empty fraction and the absence of
    both optional parts are admitted as well. -/
def floatText (raw : Bytes) : Bool :=
  floatBody (match raw with | 45 :: r => r | r => r)

theorem digits1b_iff {ds : List Nat} : digits1b ds = true ↔ ds ≠ [] ∧ ds.all Spec.isDigit = true := by
  unfold digits1b
  cases ds <;> simp

theorem expText_iff {ep : List Nat} : expText ep = true ↔ ∃ eneg ed, ExpOK ep eneg ed := by
  constructor
  · intro h
    cases ep with
    | nil => exact ⟨false, [], .inl ⟨rfl, rfl, rfl⟩⟩
    | cons e r =>
      unfold expText at h
      rw [Bool.and_eq_true] at h
      have he : e = 101 ∨ e = 69 := by simpa using h.1
      have h2 := h.2
      unfold signedDigits at h2
      split at h2
      · exact ⟨false, _, .inr ⟨e, [43], rfl, he, .inr (.inl ⟨rfl, rfl⟩), digits1b_iff.1 h2⟩⟩
      · exact ⟨true, _, .inr ⟨e, [45], rfl, he, .inr (.inr ⟨rfl, rfl⟩), digits1b_iff.1 h2⟩⟩
      · exact ⟨false, r, .inr ⟨e, [], rfl, he, .inl ⟨rfl, rfl⟩, digits1b_iff.1 h2⟩⟩
  · rintro ⟨eneg, ed, ⟨rfl, _, _⟩ | ⟨e, s, rfl, he, hs, hne, hd⟩⟩
    · rfl
    · have h1 : (e == 101 || e == 69) = true := by simpa using he
      have h2 : digits1b ed = true := digits1b_iff.2 ⟨hne, hd⟩
      show ((e == 101 || e == 69) && signedDigits (s ++ ed)) = true
      rw [h1, Bool.true_and]
      rcases hs with ⟨rfl, _⟩ | ⟨rfl, _⟩ | ⟨rfl, _⟩
      · obtain ⟨c, t, rfl, hc⟩ := head_digit hne hd
        unfold signedDigits
        split
        · rename_i h; simp at h; omega
        · rename_i h; simp at h; omega
        · exact h2
      · exact h2
      · exact h2

theorem floatBody_iff {body : Bytes} : floatBody body = true ↔ BodyNF body := by
  constructor
  · intro h
    unfold floatBody at h
    rw [Bool.and_eq_true] at h
    have hip : body.takeWhile Spec.isDigit ≠ [] := by simpa using h.1
    have hb := List.takeWhile_append_dropWhile (p := Spec.isDigit) (l := body)
    have h2 := h.2
    split at h2
    · rename_i r hr
      obtain ⟨eneg, ed, he⟩ := expText_iff.1 h2
      rw [hr, ← List.takeWhile_append_dropWhile (p := Spec.isDigit) (l := r), ← List.cons_append] at hb
      exact hb ▸ BodyNF.mk hip List.all_takeWhile (.inr ⟨rfl, List.all_takeWhile⟩) he
    · obtain ⟨eneg, ed, he⟩ := expText_iff.1 h2
      exact hb ▸ BodyNF.mk hip List.all_takeWhile (.inl ⟨rfl, rfl⟩) he
  · rintro @⟨ip, fp, fr, ep, eneg, ed, hip, hipd, hf, he⟩
    have hE : HeadNot Spec.isDigit ep := he.headNot rfl rfl
    have h2 := expText_iff.2 ⟨_, _, he⟩
    unfold floatBody
    rcases hf with ⟨rfl, rfl⟩ | ⟨rfl, hfr⟩
    · rw [List.nil_append, takeWhile_app hE hipd, dropWhile_app hE hipd, List.isEmpty_eq_false_iff.2 hip]
      split
      · exact absurd rfl ((he.headNot (p := (· == 46)) rfl rfl).ne_cons (c := 46) rfl _)
      · exact h2
    · have hD : HeadNot Spec.isDigit (46 :: (fr ++ ep)) := rfl
      rw [List.cons_append, takeWhile_app hD hipd, dropWhile_app hD hipd, List.isEmpty_eq_false_iff.2 hip]
      simp only [Bool.not_false, Bool.true_and]
      rw [dropWhile_app hE hfr]
      exact h2

theorem floatText_iff {raw : Bytes} : floatText raw = true ↔ FloatNF raw := by
  unfold floatText
  constructor
  · intro h
    split at h
    · exact .neg (floatBody_iff.1 h)
    · exact .pos (floatBody_iff.1 h)
  · intro h
    cases h with
    | neg h => exact floatBody_iff.2 h
    | pos h =>
      obtain ⟨c, t, rfl, hc⟩ := h.head
      split
      · rename_i hr; simp at hr; omega
      · exact floatBody_iff.2 h

theorem float_lexeme_agree (raw : Bytes) (h : floatText raw = true) :
    floatErr raw = !Spec.floatLitFinite raw :=
  float_nf_agree raw (floatText_iff.1 h)

theorem nfStatus_ne_syntax (a : List Nat) (k : Int) : nfStatus a k ≠ .syntax := by
  unfold nfStatus statusN
  repeat' split
  all_goals simp

theorem floatStatus_nf_ne_syntax (raw : Bytes) (h : FloatNF raw) : floatStatus raw ≠ .syntax := by
  have neg {body : Bytes} (h : BodyNF body) : floatStatus (45 :: body) ≠ .syntax := by
    obtain ⟨hip, hipd, hf, he⟩ := h
    rw [floatStatus_nf hip hipd hf he]
    exact nfStatus_ne_syntax _ _
  cases h with
  | neg h => exact neg h
  | pos h =>
    obtain ⟨c, t, rfl, hc⟩ := h.head
    rw [floatStatus_unsigned c t hc]
    exact neg h

/-- a float text satisfies the numeric hypothesis `numLeafOK .float`, and evaluates
    (`Value.Value(nil)` reports no error: `strconv.ParseFloat` has no syntax error) -/
theorem numLeafOK_float_of_lexeme (raw : Bytes) (h : floatText raw = true) :
    numLeafOK .float raw = true ∧ ∀ ch p, constErr (.mk .float raw ch p) = false := by
  refine ⟨?_, fun ch p => ?_⟩
  · simp [numLeafOK, float_lexeme_agree raw h]
  · have := floatStatus_nf_ne_syntax raw (floatText_iff.1 h)
    unfold constErr
    simpa using this

theorem floatText_of_intText (raw : Bytes) (h : intText raw = true) : floatText raw = true := by
  apply floatText_iff.2
  unfold intText at h
  split at h <;> obtain ⟨hne, hd⟩ := digits1b_iff.1 h
  · exact .neg (.digits hne hd)
  · exact .pos (.digits hne hd)

end Gql.EndToEnd

namespace Gql.Validate
open Gql Gql.Validate.Rules

theorem int_lexeme_float_agree (raw : Bytes) (h : intText raw = true) : floatErr raw = !Spec.floatLitFinite raw :=
  Gql.EndToEnd.float_lexeme_agree raw (Gql.EndToEnd.floatText_of_intText raw h)

theorem numLeafOK_int_of_lexeme (raw : Bytes) (h : intText raw = true) :
    numLeafOK .int raw = true ∧ ∀ ch p, constErr (.mk .int raw ch p) = false := by
  obtain ⟨h1, h2⟩ := int_lexeme_agree raw h
  refine ⟨?_, fun ch p => ?_⟩
  · simp [numLeafOK, h1, int_lexeme_float_agree raw h]
  · unfold constErr
    simp only
    cases h3 : parseIntErr 64 raw <;> simp_all

/-- what is left of `numLiteralsOK` for lexer-produced numeric literals: IntValues are `-?[0-9]+`
    texts (nothing else is asked of them), FloatValues are texts on which the model of
    `strconv.ParseFloat` and `Spec.floatLitFinite` agree -/
def numLiteralsLexemes (s : Schema) (d : QueryDoc) : Bool :=
  (Spec.typedValueSites s d).all fun tv => (subValues tv.2).all fun w =>
    match w.kind with
    | .int => intText w.raw
    | .float => floatErr w.raw == !Spec.floatLitFinite w.raw
    | _ => true

theorem numLiteralsOK_of_lexemes (s : Schema) (d : QueryDoc) (h : numLiteralsLexemes s d = true) :
    numLiteralsOK s d = true := by
  unfold numLiteralsLexemes at h
  unfold numLiteralsOK
  rw [List.all_eq_true] at h ⊢
  intro tv htv
  have h1 := h tv htv
  rw [List.all_eq_true] at h1 ⊢
  intro w hw
  have h2 := h1 w hw
  cases hk : w.kind <;> simp only [hk] at h2 <;> simp only [numLeafOK]
  · exact (numLeafOK_int_of_lexeme w.raw h2).1
  · exact h2

end Gql.Validate
