import GqlProofs.ValSpec.Local
/-
  The two rules whose state is the list of names seen so far (UniqueOperationNames, UniqueFragmentNames): their one-rule
  run reports nothing iff the names carried by the operation / fragment events are pairwise different.
-/
namespace Gql.Validate
open Gql Gql.Validate.Rules

theorem seenRule_silent (s : SV) (d : QueryDoc) (name : Bytes) (init : List Name)
    (step : SV → QueryDoc → List Name → Event → StepOut (List Name)) (key : Event → Option Name)
    (hkey : ∀ seen e n, key e = some n → ∃ errs, step s d seen e = .ok (n :: seen) errs ∧ (errs = [] ↔ n ∉ seen))
    (hskip : ∀ seen e, key e = none → step s d seen e = .ok seen []) :
    ∀ (es : List Event) (seen : List Name),
      runAll s d [⟨{ name := name, σ := List Name, init := init, step := step }, seen⟩] es = .ok [] ↔
        freshFrom seen (es.filterMap key)
  | [], seen => by simp [runAll, freshFrom]
  | e :: es, seen => by
    rw [List.filterMap_cons]
    cases hk : key e with
    | none =>
      rw [runAll_single_nil_cons (hskip seen e hk), seenRule_silent s d name init step key hkey hskip es seen]
      simp only [true_and]
    | some n =>
      obtain ⟨errs, hst, hiff⟩ := hkey seen e n hk
      rw [runAll_single_nil_cons hst, seenRule_silent s d name init step key hkey hskip es (n :: seen), hiff]
      rfl

theorem validate_uniqueFragmentNames (s : Schema) (d : QueryDoc) (evs : List Event)
    (hw : walkDoc s.view d = some evs) :
    validate [uniqueFragmentNames] s d = .ok [] ↔ ((fragDefEvents evs).map (·.name)).Nodup := by
  rw [validate_single_nil_iff _ s d evs hw, ← freshFrom_nil, fragDefEvents, List.map_filterMap]
  refine seenRule_silent s.view d _ _ _ _ (fun seen e n hk => ?_) (fun seen e hk => ?_) evs []
  · unfold fragOf at hk
    unfold uniqueFragmentNamesStep
    split at hk <;> simp_all
  · unfold fragOf at hk
    unfold uniqueFragmentNamesStep
    split at hk <;> simp_all

theorem validate_uniqueOperationNames (s : Schema) (d : QueryDoc) (evs : List Event)
    (hw : walkDoc s.view d = some evs) :
    validate [uniqueOperationNames] s d = .ok [] ↔ ((opEvents evs).map (·.name)).Nodup := by
  rw [validate_single_nil_iff _ s d evs hw, ← freshFrom_nil, opEvents, List.map_filterMap]
  refine seenRule_silent s.view d _ _ _ _ (fun seen e n hk => ?_) (fun seen e hk => ?_) evs []
  · unfold opOf at hk
    unfold uniqueOperationNamesStep
    split at hk <;> simp_all
  · unfold opOf at hk
    unfold uniqueOperationNamesStep
    split at hk <;> simp_all

theorem nodup_names_split : ∀ ops : List OperationDef,
    (ops.map (·.name)).Nodup ↔
      (((ops.filter (·.name != [])).map (·.name)).Nodup ∧ (ops.filter (·.name == [])).length ≤ 1)
  | [] => by simp
  | op :: rest => by
    have ih := nodup_names_split rest
    by_cases hn : op.name = []
    · have h1 : (op.name != []) = false := by simp [hn]
      have h2 : (op.name == []) = true := by simp [hn]
      rw [List.filter_cons_of_neg (by simp [h1]), List.filter_cons_of_pos (by simp [h2])]
      simp only [List.map_cons, List.nodup_cons, List.length_cons, ih]
      constructor
      · rintro ⟨hmem, hnd, hlen⟩
        refine ⟨hnd, ?_⟩
        have : rest.filter (·.name == []) = [] := by
          apply List.filter_eq_nil_iff.2
          intro x hx hxe
          apply hmem
          rw [hn]
          exact List.mem_map.2 ⟨x, hx, by simpa using hxe⟩
        rw [this]
        simp
      · rintro ⟨hnd, hlen⟩
        have hz : (rest.filter (·.name == [])).length = 0 := by omega
        have hnil : rest.filter (·.name == []) = [] := List.length_eq_zero_iff.1 hz
        refine ⟨?_, hnd, by omega⟩
        intro hmem
        obtain ⟨x, hx, hxe⟩ := List.mem_map.1 hmem
        have : x ∈ rest.filter (·.name == []) := List.mem_filter.2 ⟨hx, by simp [hxe, hn]⟩
        rw [hnil] at this
        cases this
    · have h1 : (op.name != []) = true := by simp [hn]
      have h2 : (op.name == []) = false := by simp [hn]
      rw [List.filter_cons_of_pos (by simp [h1]), List.filter_cons_of_neg (by simp [h2])]
      simp only [List.map_cons, List.nodup_cons, ih]
      constructor
      · rintro ⟨hmem, hnd, hlen⟩
        refine ⟨⟨?_, hnd⟩, hlen⟩
        intro hm
        obtain ⟨x, hx, hxe⟩ := List.mem_map.1 hm
        exact hmem (List.mem_map.2 ⟨x, (List.mem_filter.1 hx).1, hxe⟩)
      · rintro ⟨⟨hmem, hnd⟩, hlen⟩
        refine ⟨?_, hnd, hlen⟩
        intro hm
        obtain ⟨x, hx, hxe⟩ := List.mem_map.1 hm
        apply hmem
        refine List.mem_map.2 ⟨x, List.mem_filter.2 ⟨hx, ?_⟩, hxe⟩
        simp [hxe, hn]

end Gql.Validate
