import GqlProofs.ValSpec.Bridge
import GqlProofs.ValSpec.Complete
/-
  The event sets of a run in terms of the lists the specification quantifies over:
    field events         ↔ the field nodes of `Spec.docSels`
    directive events     ↔ the members of `Spec.allDirectives` (`directive_event_sound'` / `_complete'`); with the location,
                           for the parser's operation kinds: the members of `Spec.directiveSites`
    directiveList events ↔ the directive lists of `Spec.directiveSites`
-/
namespace Gql.Validate
open Gql

section
variable (s : Schema) (d : QueryDoc) (evs : List Event) (hw : walkDoc s.view d = some evs)
include hw

theorem field_event_sound (e : Event) (he : e ∈ evs) (f : FieldNode) (par : Option Definition) (dfn : Option FieldDef)
    (hp : e.p = .field f par dfn) :
    ∃ p, (⟨p, .field f.alias f.name f.args f.dirs f.sel f.pos⟩ : Spec.TSel) ∈ Spec.docSels s d := by
  have := walkDoc_cov s.view d evs hw e he
  rw [hp] at this
  exact (docSels_iff s d _).2 ((inDoc_sel_iff s.view d _).1 this)

theorem field_event_complete (t : Spec.TSel) (ht : t ∈ Spec.docSels s d) (al nm : Name) (args : List Argument)
    (dirs : List Directive) (sub : Selections) (p : Pos) (hs : t.sel = .field al nm args dirs sub p) :
    ∃ e ∈ evs, ∃ par dfn, e.p = .field ⟨al, nm, args, dirs, sub, p⟩ par dfn := by
  have h1 := docSels_mem_inDocSel s d t ht
  rw [hs] at h1
  exact walkDoc_hasItems s.view d evs hw _ ((inDoc_sel_iff s.view d _).2 h1)

theorem directiveList_event_sound (e : Event) (he : e ∈ evs) (ds : List Directive) (hp : e.p = .directiveList ds) :
    ∃ loc, (loc, ds) ∈ Spec.directiveSites s d := by
  have := walkDoc_cov s.view d evs hw e he
  rw [hp] at this
  exact (directiveSites_dirs_iff s d ds).2 this

theorem directiveList_event_complete (loc : Bytes) (ds : List Directive) (hsite : (loc, ds) ∈ Spec.directiveSites s d) :
    ∃ e ∈ evs, e.p = .directiveList ds := by
  obtain ⟨loc', h⟩ := (directiveSites_dirs_iff s d ds).1 ⟨loc, hsite⟩
  exact (walkDoc_hasItems s.view d evs hw _ h).1

theorem directive_event_sound' (e : Event) (he : e ∈ evs) (dir : Directive) (dfn : Option DirectiveDef)
    (par : Option Definition) (loc : Bytes) (hp : e.p = .directive dir dfn par loc) :
    dfn = s.directive? dir.name ∧ dir ∈ Spec.allDirectives s d := by
  have := walkDoc_cov s.view d evs hw e he
  rw [hp] at this
  obtain ⟨h1, ds, h2, h3⟩ := this
  obtain ⟨loc', h4⟩ := (directiveSites_dirs_iff s d ds).2 ⟨loc, h2⟩
  exact ⟨h1, mem_allDirectives h4 h3⟩

theorem directive_event_complete' (dir : Directive) (hd : dir ∈ Spec.allDirectives s d) :
    ∃ e ∈ evs, ∃ par loc, e.p = .directive dir (s.directive? dir.name) par loc := by
  simp only [Spec.allDirectives, List.mem_flatMap] at hd
  obtain ⟨⟨loc, ds⟩, hls, hd⟩ := hd
  obtain ⟨loc', h⟩ := (directiveSites_dirs_iff s d ds).1 ⟨loc, hls⟩
  obtain ⟨e, he, par, hp⟩ := (walkDoc_hasItems s.view d evs hw _ h).2 dir hd
  exact ⟨e, he, par, loc', hp⟩

variable (hk : ∀ op ∈ d.ops, op.op ∈ parserOpKinds)
include hk

theorem directive_event_sound (e : Event) (he : e ∈ evs) (dir : Directive) (dfn : Option DirectiveDef)
    (par : Option Definition) (loc : Bytes) (hp : e.p = .directive dir dfn par loc) :
    dfn = s.directive? dir.name ∧ ∃ ds, (loc, ds) ∈ Spec.directiveSites s d ∧ dir ∈ ds := by
  have := walkDoc_cov s.view d evs hw e he
  rw [hp] at this
  obtain ⟨h1, ds, h2, h3⟩ := this
  exact ⟨h1, ds, (directiveSites_iff s d hk loc ds).2 h2, h3⟩

theorem directive_event_complete (loc : Bytes) (ds : List Directive) (hsite : (loc, ds) ∈ Spec.directiveSites s d)
    (dir : Directive) (hd : dir ∈ ds) :
    ∃ e ∈ evs, ∃ par, e.p = .directive dir (s.directive? dir.name) par loc := by
  have := walkDoc_hasItems s.view d evs hw _ ((directiveSites_iff s d hk loc ds).1 hsite)
  exact this.2 dir hd

end

end Gql.Validate
