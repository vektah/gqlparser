import GqlProofs.ValSpec.LeafFrag
import GqlProofs.ValSpec.ScopeComplete
import GqlProofs.ValSpec.Local
/-
  NoUnusedFragments against `Spec.fragmentsMustBeUsed`.  The rule collects the names of the spread
  events fired before the first `fragment` event: the spreads met while the operations are walked
  (those written in an operation or in a fragment definition REACHABLE from one), plus — the "first
  fragment quirk" — the spreads met while the first fragment definition of the document is walked
  stand-alone (its `fragment` event is the last event of that walk); a fragment definition whose name
  was not collected is reported.  The specification asks that every fragment definition is the target
  of SOME spread of the document.  The two agree on documents without fragment cycles and with
  pairwise different fragment names (both are specification predicates themselves).
-/
namespace Gql.Validate
open Gql Gql.Validate.Rules

theorem nodeScope_spread_reach {s : SV} {d : QueryDoc} {parent : Option Definition} {xs : Selections}
    {par : Option Definition} {n : Name} {dirs : List Directive} {p : Pos}
    (h : NodeScope s d (Spec.spreadsOfSels xs) (InSelsW s parent xs) par (.spread n dirs p)) :
    Reach d (Spec.spreadsOfSels xs) n := by
  rcases h with hi | ⟨m, g, hr, hg, hi⟩
  · exact Reach.base ((mem_spreadsOfSels_iff n xs).2 ⟨dirs, p, inSelsW_forget s xs _ _ _ hi⟩)
  · refine Reach.step hr ?_
    rw [fragSpreads_of_forName hg]
    exact (mem_spreadsOfSels_iff n g.sel).2 ⟨dirs, p, inSelsW_forget s g.sel _ _ _ hi⟩

theorem reach_spread_nodeScope {s : SV} {d : QueryDoc} {parent : Option Definition} {xs : Selections} {n : Name}
    (h : Reach d (Spec.spreadsOfSels xs) n) :
    ∃ par dirs p, NodeScope s d (Spec.spreadsOfSels xs) (InSelsW s parent xs) par (.spread n dirs p) := by
  cases h with
  | base hn =>
    obtain ⟨dirs, p, hi⟩ := (mem_spreadsOfSels_iff n xs).1 hn
    obtain ⟨par, hw⟩ := inSels_lift s xs parent _ hi
    exact ⟨par, dirs, p, Or.inl hw⟩
  | step hm hn =>
    obtain ⟨g, hg, _, _, hn'⟩ := fragSpreads_defined hn
    obtain ⟨dirs, p, hi⟩ := (mem_spreadsOfSels_iff n g.sel).1 hn'
    obtain ⟨par, hw⟩ := inSels_lift s g.sel (s.type? g.typeCond) _ hi
    exact ⟨par, dirs, p, Or.inr ⟨_, g, hm, hg, hw⟩⟩

def preSpreads : List Event → List Name
  | [] => []
  | e :: rest =>
    match e.p with
    | .fragment _ _ => []
    | .fragmentSpread f _ _ => f.name :: preSpreads rest
    | _ => preSpreads rest

theorem noUnusedFragments_silent (sv : SV) (d : QueryDoc) (name : Bytes) (init : NUFState) :
    ∀ (es : List Event) (st : NUFState),
      runAll sv d [⟨{ name := name, σ := NUFState, init := init, step := noUnusedFragmentsStep }, st⟩] es = .ok [] ↔
      ∀ f ∈ fragDefEvents es, f.name ∈ st.used ∨ (st.inFragmentDefinition = false ∧ f.name ∈ preSpreads es)
  | [], st => by simp [runAll, fragDefEvents]
  | e :: rest, ⟨inF, used⟩ => by
    have ih := noUnusedFragments_silent sv d name init rest
    cases hp : e.p with
    | fragmentSpread f dfn par =>
      cases inF
      · rw [runAll_single_nil_cons (st' := (⟨false, f.name :: used⟩ : NUFState)) (errs := [])
          (by simp [noUnusedFragmentsStep, hp]), ih]
        simp [fragDefEvents, fragOf, hp, preSpreads, or_assoc, or_left_comm]
      · rw [runAll_single_nil_cons (st' := (⟨true, used⟩ : NUFState)) (errs := []) (by simp [noUnusedFragmentsStep, hp]), ih]
        simp [fragDefEvents, fragOf, hp]
    | fragment f dfn =>
      rw [runAll_single_nil_cons (st' := (⟨true, used⟩ : NUFState)) (by simp only [noUnusedFragmentsStep, hp]; rfl), ih]
      by_cases hc : f.name ∈ used <;> simp [fragDefEvents, fragOf, hp, preSpreads, hc]
    | _ =>
      rw [runAll_single_nil_cons (st' := (⟨inF, used⟩ : NUFState)) (errs := []) (by simp only [noUnusedFragmentsStep, hp]), ih]
      simp only [fragDefEvents, List.filterMap_cons, fragOf, hp, preSpreads, true_and]

theorem validate_noUnusedFragments (s : Schema) (d : QueryDoc) (evs : List Event)
    (hw : walkDoc s.view d = some evs) :
    validate [noUnusedFragments] s d = .ok [] ↔ ∀ f ∈ d.frags, f.name ∈ preSpreads evs := by
  refine (validate_single_nil_iff _ s d evs hw).trans ((noUnusedFragments_silent s.view d _ _ evs _).trans ?_)
  rw [(walkDoc_events s.view d evs hw).2]
  simp [noUnusedFragments]

def spreadNameOf (e : Event) : Option Name :=
  match e.p with
  | .fragmentSpread f _ _ => some f.name
  | _ => none

def spreadNames (evs : List Event) : List Name := evs.filterMap spreadNameOf

theorem preSpreads_append_of_noFrag : ∀ (a b : List Event), fragDefEvents a = [] →
    preSpreads (a ++ b) = spreadNames a ++ preSpreads b
  | [], b, _ => rfl
  | e :: a, b, h => by
    obtain ⟨he, ha⟩ : fragOf e.p = none ∧ fragDefEvents a = [] := by
      cases hf : fragOf e.p <;> simp_all [fragDefEvents]
    have ih := preSpreads_append_of_noFrag a b ha
    unfold fragOf at he
    simp only [List.cons_append, preSpreads, spreadNames, List.filterMap_cons, spreadNameOf] at ih ⊢
    split <;> simp_all

theorem evSound_spread_reach {s : SV} {d : QueryDoc} {cur : Option OperationDef} {parent : Option Definition}
    {xs : Selections} {extra : Bytes → List Directive → Prop} {e : Event} {n : Name}
    (hs : EvSound s d cur (Spec.spreadsOfSels xs) (InSelsW s parent xs) extra e) (hn : spreadNameOf e = some n) :
    Reach d (Spec.spreadsOfSels xs) n := by
  have h2 := hs.2
  unfold spreadNameOf at hn
  cases hp : e.p <;> simp only [hp, reduceCtorEq] at hn h2
  injection hn with hn
  exact hn ▸ nodeScope_spread_reach h2.1

theorem walkOps_spreadNames (s : SV) (d : QueryDoc) (fuel : Nat) (ops : List OperationDef) (l : Links)
    (r : Links × List Event) (h : walkOps s d fuel ops l = some r) (n : Name) :
    n ∈ spreadNames r.2 ↔ ∃ op ∈ ops, Reach d (Spec.spreadsOfSels op.sel) n := by
  constructor
  · intro hn
    obtain ⟨e, he, hn⟩ := List.mem_filterMap.1 hn
    obtain ⟨op, hop, l', r', hr, he'⟩ := (walkOps_events_mem h).1 e he
    exact ⟨op, hop, evSound_spread_reach (walkOperation_sound s d fuel op l' r' hr e he') hn⟩
  · rintro ⟨op, hop, hr⟩
    obtain ⟨l', r', hw, hsub⟩ := (walkOps_events_mem h).2 op hop
    obtain ⟨par, dirs, p, hns⟩ := reach_spread_nodeScope (s := s) (parent := (opRoot s op.op).1) hr
    obtain ⟨e, he, _, hp⟩ := ((walkOperation_scope_complete s d fuel op l' r' hw).nodes par _ hns).1
    exact List.mem_filterMap.2 ⟨e, hsub e he, by simp [spreadNameOf, hp]⟩

theorem walkFrags_preSpreads (s : SV) (d : QueryDoc) (fuel : Nat) :
    ∀ (fs : List FragmentDef) (l : Links) (r : Links × List Event), walkFrags s d fuel fs l = some r →
      ∀ n ∈ preSpreads r.2, ∃ f1, fs.head? = some f1 ∧ Reach d (Spec.spreadsOfSels f1.sel) n :=
  walkFrags_induct (fun _ _ hn => by cases hn) fun f rest l r1 r2 hf _ n hn => by
    obtain ⟨pre, hpre, hr⟩ := walkFragment_split (inner_selSites s d) hf
    simp only [hr, List.append_assoc] at hn
    rw [preSpreads_append_of_noFrag _ _ (filterMap_eq_nil_of_allP (fun e => fragOf_inner e.p) hpre)] at hn
    simp only [List.singleton_append, preSpreads, List.append_nil] at hn
    obtain ⟨e, he, hn⟩ := List.mem_filterMap.1 hn
    exact ⟨f, rfl, evSound_spread_reach (walkFragment_sound s d fuel f l r1 hf e (hr ▸ List.mem_append_left _ he)) hn⟩

theorem walkDoc_preSpreads (s : SV) (d : QueryDoc) (evs : List Event) (h : walkDoc s d = some evs) (n : Name) :
    ((∃ op ∈ d.ops, Reach d (Spec.spreadsOfSels op.sel) n) → n ∈ preSpreads evs) ∧
    (n ∈ preSpreads evs → (∃ op ∈ d.ops, Reach d (Spec.spreadsOfSels op.sel) n) ∨
      ∃ f1, d.frags.head? = some f1 ∧ Reach d (Spec.spreadsOfSels f1.sel) n) := by
  obtain ⟨r1, r2, h1, h2, rfl⟩ := walkDoc_inv h
  rw [preSpreads_append_of_noFrag _ _ (walkOps_noFrag h1), List.mem_append,
    walkOps_spreadNames s d _ d.ops _ r1 h1]
  exact ⟨Or.inl, Or.imp_right (walkFrags_preSpreads s d _ d.frags _ r2 h2 n)⟩

theorem noUnusedFragments_sound (s : Schema) (d : QueryDoc) (h : validate [noUnusedFragments] s d = .ok []) :
    ∀ f ∈ d.frags, (∃ op ∈ d.ops, Reach d (Spec.spreadsOfSels op.sel) f.name) ∨
      (∃ f1, d.frags.head? = some f1 ∧ Reach d (Spec.spreadsOfSels f1.sel) f.name) := by
  obtain ⟨evs, hw⟩ := walkDoc_isSome s.view d
  exact fun f hf => (walkDoc_preSpreads s.view d evs hw f.name).2 ((validate_noUnusedFragments s d evs hw).1 h f hf)

theorem noUnusedFragments_complete (s : Schema) (d : QueryDoc)
    (h : ∀ f ∈ d.frags, ∃ op ∈ d.ops, Reach d (Spec.spreadsOfSels op.sel) f.name) :
    validate [noUnusedFragments] s d = .ok [] := by
  obtain ⟨evs, hw⟩ := walkDoc_isSome s.view d
  rw [validate_noUnusedFragments s d evs hw]
  exact fun f hf => (walkDoc_preSpreads s.view d evs hw f.name).1 (h f hf)

/-- on a document without cycles whose fragment names are different, a fragment that is the
    target of a spread is reachable from an operation: follow "is spread by" upwards; the names
    met are all reachable from the fragment one is at, so they are pairwise different and the
    chain ends at an operation -/
theorem used_reachable (d : QueryDoc) (hu : (d.frags.map (·.name)).Nodup)
    (hc : ∀ f ∈ d.frags, ¬ Reach d (Spec.spreadsOfSels f.sel) f.name)
    (hused : ∀ f ∈ d.frags, f.name ∈ Spec.allSpreadNames d) :
    ∀ (k : Nat) (V : List Name) (f : FragmentDef), f ∈ d.frags → unvisited d V ≤ k →
      (∀ v ∈ V, Reach d (Spec.spreadsOfSels f.sel) v) →
      ∃ op ∈ d.ops, Reach d (Spec.spreadsOfSels op.sel) f.name
  | k, V, f, hf, hk, hV => by
    have hnot : f.name ∉ V := fun hm => hc f hf (hV _ hm)
    rcases mem_allSpreadNames.1 (hused f hf) with ⟨op, hop, hn⟩ | ⟨g, hg, hn⟩
    · exact ⟨op, hop, Reach.base hn⟩
    · have hlt := unvisited_lt d V f hf (by simpa using hnot)
      cases k with
      | zero => omega
      | succ k =>
        have hgf : Spec.fragSpreads d g.name = Spec.spreadsOfSels g.sel :=
          fragSpreads_of_forName (fragForName_of_nodup hu hg)
        have hff : Spec.fragSpreads d f.name = Spec.spreadsOfSels f.sel :=
          fragSpreads_of_forName (fragForName_of_nodup hu hf)
        have hbase : Reach d (Spec.spreadsOfSels g.sel) f.name := Reach.base hn
        obtain ⟨op, hop, hr⟩ := used_reachable d hu hc hused k (f.name :: V) g hg (by omega) (by
          intro v hv
          rcases List.mem_cons.1 hv with rfl | hv
          · exact hbase
          · exact Reach.trans hbase (by rw [hff]; exact hV v hv))
        exact ⟨op, hop, Reach.step hr (by rw [hgf]; exact hn)⟩

theorem used_from_op {d : QueryDoc} (hu : (d.frags.map (·.name)).Nodup)
    (hc : ∀ f ∈ d.frags, ¬ Reach d (Spec.spreadsOfSels f.sel) f.name) (hused : Spec.fragmentsMustBeUsed d = true) :
    ∀ f ∈ d.frags, ∃ op ∈ d.ops, Reach d (Spec.spreadsOfSels op.sel) f.name := by
  simp only [Spec.fragmentsMustBeUsed, List.all_eq_true, List.contains_iff_mem] at hused
  exact fun f hf => used_reachable d hu hc hused d.frags.length [] f hf (unvisited_le_length d _) nofun

theorem noUnusedFragments_spec_of_silent (s : Schema) (d : QueryDoc) (h : validate [noUnusedFragments] s d = .ok []) :
    Spec.fragmentsMustBeUsed d = true := by
  unfold Spec.fragmentsMustBeUsed
  simp only [List.all_eq_true, List.contains_iff_mem]
  intro f hf
  rcases noUnusedFragments_sound s d h f hf with ⟨op, hop, hr⟩ | ⟨f1, hhead, hr⟩
  · exact reach_mem_allSpreadNames hop hr
  · have hf1 : f1 ∈ d.frags := List.mem_of_mem_head? hhead
    cases hr with
    | base hn => exact mem_allSpreadNames.2 (Or.inr ⟨f1, hf1, hn⟩)
    | step _ hn =>
      obtain ⟨g, _, hg, _, hn'⟩ := fragSpreads_defined hn
      exact mem_allSpreadNames.2 (Or.inr ⟨g, hg, hn'⟩)

theorem noUnusedFragments_iff (s : Schema) (d : QueryDoc) (hc : Spec.noFragmentCycles d = true)
    (hu : Spec.fragmentNameUniqueness d = true) :
    validate [noUnusedFragments] s d = .ok [] ↔ Spec.fragmentsMustBeUsed d = true := by
  have hu' : (d.frags.map (·.name)).Nodup := (distinct_iff_nodup _).1 hu
  have hc' : ∀ f ∈ d.frags, ¬ Reach d (Spec.spreadsOfSels f.sel) f.name := by
    intro f hf hr
    have := List.all_eq_true.1 hc f hf
    rw [(reachFrom_contains_iff d _ _).2 hr] at this
    cases this
  exact ⟨noUnusedFragments_spec_of_silent s d, fun h => noUnusedFragments_complete s d (used_from_op hu' hc' h)⟩

end Gql.Validate
