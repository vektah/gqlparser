import GqlProofs.Schema.Basic
import GqlProofs.ValSpec.ValuesCorrect
import GqlProofs.ValSpec.ScopeArgs
import GqlModel.Schema.Spec
/-
  ValuesOfCorrectType: where the hypotheses of the theorems `C08_ValuesOfCorrectType*` (`Props/C08.lean`) come from.
    * `oneOfVariablesNonNull_of_noOneOf`: without `@oneOf` in the schema the second conjunct of the
      specification entry (`Spec.oneOfVariablesNonNull`) is true;
    * `rootsInput_of_closed`: argument types of a closed schema resolve to input types, variable types by
      `Spec.variablesAreInputTypes`;
    * `schemaOK_of_closed`: `schemaOK` for a closed schema with the built-in scalars whose scalars declare no fields;
    * `int_lexeme_agree`: for an IntValue lexeme `-?[0-9]+` the model of `strconv.ParseInt(·, 10, 32)` and
      `Spec.int32Ok` agree, and `ParseInt(·, 10, 64)` gives no syntax error.
-/
namespace Gql.Validate
open Gql Gql.Validate.Rules

theorem hasOneOf_false_of_type? {s : Schema} (hno : noOneOf s = true) {n : Name} {d : Definition} (h : s.type? n = some d) :
    Spec.hasOneOf d = false := by
  unfold noOneOf at hno
  rw [List.all_eq_true] at hno
  have := hno _ (mem_of_lookup h)
  simpa using this

mutual
  theorem usesInValue_noOneOf (s : Schema) (hno : noOneOf s = true) :
      ∀ (v : Value) (exp : Option GType) (ld : Bool), ∀ u ∈ Spec.usesInValue s exp ld none v, u.oneOf = none
    | .mk k raw ch p, exp, ld, u, hu => by
      unfold Spec.usesInValue at hu
      cases k <;> simp only [List.not_mem_nil, List.mem_singleton] at hu
      case «variable» => rw [hu]
      case list => exact usesInItems_noOneOf s hno ch _ u hu
      case object =>
        cases hb : exp.bind (fun t => s.type? t.name) with
        | none =>
          rw [hb] at hu
          exact usesInFields_noOneOf s hno ch none (fun _ h => nomatch h) u hu
        | some d0 =>
          rw [hb] at hu
          simp only at hu
          have hd0 : Spec.hasOneOf d0 = false := by
            cases exp with
            | none => cases hb
            | some t => exact hasOneOf_false_of_type? hno hb
          split at hu
          · exact usesInFields_noOneOf s hno ch (some d0) (fun dd h => by cases h; exact hd0) u hu
          · exact usesInFields_noOneOf s hno ch none (fun _ h => nomatch h) u hu
  theorem usesInItems_noOneOf (s : Schema) (hno : noOneOf s = true) :
      ∀ (ch : Children) (e : Option GType), ∀ u ∈ Spec.usesInItems s e ch, u.oneOf = none
    | .nil, e, u, hu => by simp [Spec.usesInItems] at hu
    | .cons n v p rest, e, u, hu => by
      rw [Spec.usesInItems] at hu
      rcases List.mem_append.1 hu with hu | hu
      · exact usesInValue_noOneOf s hno v e false u hu
      · exact usesInItems_noOneOf s hno rest e u hu
  theorem usesInFields_noOneOf (s : Schema) (hno : noOneOf s = true) :
      ∀ (ch : Children) (d : Option Definition), (∀ dd, d = some dd → Spec.hasOneOf dd = false) →
        ∀ u ∈ Spec.usesInFields s d ch, u.oneOf = none
    | .nil, d, _, u, hu => by simp [Spec.usesInFields] at hu
    | .cons n v p rest, d, hd, u, hu => by
      rw [Spec.usesInFields] at hu
      rcases List.mem_append.1 hu with hu | hu
      · cases hb : d.bind (fun dd => (Spec.inputFieldByName dd n).map fun fd => (dd, fd)) with
        | none =>
          rw [hb] at hu
          exact usesInValue_noOneOf s hno v none false u hu
        | some pr =>
          obtain ⟨dd, fd⟩ := pr
          rw [hb] at hu
          simp only at hu
          have hdd : Spec.hasOneOf dd = false := by
            cases d with
            | none => cases hb
            | some d1 =>
              simp only [Option.bind_some, Option.map_eq_some_iff, Prod.mk.injEq] at hb
              obtain ⟨_, _, h1, _⟩ := hb
              rw [← h1]
              exact hd d1 rfl
          rw [hdd] at hu
          exact usesInValue_noOneOf s hno v _ _ u hu
      · exact usesInFields_noOneOf s hno rest d hd u hu
end

theorem usesInArgs_noOneOf (s : Schema) (hno : noOneOf s = true) (defs : Option (List ArgDef)) (args : List Argument) :
    ∀ u ∈ Spec.usesInArgs s defs args, u.oneOf = none := by
  intro u hu
  unfold Spec.usesInArgs at hu
  obtain ⟨a, _, hu⟩ := List.mem_flatMap.1 hu
  split at hu
  · exact usesInValue_noOneOf s hno a.value _ _ u hu
  · exact usesInValue_noOneOf s hno a.value _ _ u hu

theorem usesInSel_noOneOf (s : Schema) (hno : noOneOf s = true) :
    ∀ (x : Selection) (parent : Option Definition), ∀ u ∈ Spec.usesInSel s parent x, u.oneOf = none := by
  intro x parent u hu
  obtain ⟨defs, args, h⟩ := usesInSel_args hu
  exact usesInArgs_noOneOf s hno defs args u h

theorem oneOfVariablesNonNull_of_noOneOf (s : Schema) (d : QueryDoc) (hno : noOneOf s = true) :
    Spec.oneOfVariablesNonNull s d = true := by
  unfold Spec.oneOfVariablesNonNull
  rw [List.all_eq_true]
  intro op _
  rw [List.all_eq_true]
  intro u hu
  obtain ⟨defs, args, h⟩ := scopeUses_args hu
  rw [usesInArgs_noOneOf s hno defs args u h]

def InSch (s : Schema) (parent : Option Definition) : Prop := ∀ q, parent = some q → ∃ n, s.type? n = some q

theorem typedSel_inSch (s : Schema) : ∀ (x : Selection) (parent : Option Definition), InSch s parent →
    ∀ t ∈ Spec.typedSel s parent x, InSch s t.parent :=
  typedSel_parent s (P := InSch s) nofun fun n _ h => ⟨n, h⟩

theorem docSels_inSch (s : Schema) (d : QueryDoc) : ∀ t ∈ Spec.docSels s d, InSch s t.parent :=
  docSels_parent s (P := InSch s) nofun (fun n _ h => ⟨n, h⟩) d

theorem inputTypeB_of_typeIs (s : Schema) (t : GType) (h : Gql.Spec.typeIs s t.name Gql.Spec.isInputKind = true) :
    inputTypeB s t = true := by
  unfold Gql.Spec.typeIs at h
  unfold inputTypeB Schema.type?
  cases hl : s.types.lookup t.name with
  | none => rw [hl] at h; cases h
  | some d0 =>
    rw [hl] at h
    simp only at h ⊢
    unfold Spec.isInput
    cases hk : d0.kind <;> rw [hk] at h <;> simp_all [Gql.Spec.isInputKind]

theorem rootsInput_of_closed (s : Schema) (d : QueryDoc) (ha : Gql.Spec.ClosedArgTypes s)
    (hd : Gql.Spec.ClosedDirectiveArgTypes s) (hv : Spec.variablesAreInputTypes s d = true) : rootsInput s d = true := by
  unfold rootsInput
  rw [List.all_eq_true]
  rintro ⟨t, v⟩ htv
  rcases (mem_typedValueSites_iff s d t v).1 htv with
    ⟨site, hsite, defs, hdefs, a, _, ad, had, rfl, rfl⟩ | ⟨op, hop, vd, hvd, dv, _, rfl, rfl⟩
  · exact inputTypeB_of_typeIs s _ (argSites_defs (P := fun a => Gql.Spec.typeIs s a.type.name Gql.Spec.isInputKind = true)
      ha hd hsite hdefs ad (List.mem_of_find?_eq_some had))
  · exact List.all_eq_true.1 (List.all_eq_true.1 hv op hop) vd hvd

/-- `schemaOK` for a schema that is closed (`Gql.Spec.Closed`: consistent keys, field types of input objects are
    input types), has the built-in scalars (`Gql.Spec.HasBuiltins`), and whose scalars declare no fields (true of
    every schema the loader builds: a scalar definition has no field syntax) -/
theorem schemaOK_of_closed (s : Schema) (hk : Gql.Spec.KeysConsistent s) (hf : Gql.Spec.ClosedFieldTypes s)
    (hb : Gql.Spec.HasBuiltins s) (hsf : ∀ p ∈ s.types, p.2.kind = .scalar → p.2.fields = []) : schemaOK s = true := by
  unfold schemaOK
  rw [List.all_eq_true]
  intro p hp
  unfold defOK
  simp only [Bool.and_eq_true, Bool.or_eq_true, Bool.not_eq_true', beq_iff_eq, List.isEmpty_iff]
  refine ⟨⟨?_, ?_⟩, ?_⟩
  · by_cases hc : Spec.builtinScalars.contains p.2.name = true
    · right
      obtain ⟨hk1, _, hk3, _⟩ := hk
      have hname := hk1 p hp
      unfold Gql.Spec.HasBuiltins Gql.Spec.hasBuiltinsB at hb
      simp only [Bool.and_eq_true] at hb
      have hall := List.all_eq_true.1 hb.1.1 p.2.name (by rw [← List.contains_iff_mem]; exact hc)
      unfold Gql.Spec.typeIs at hall
      have hl : s.types.lookup p.2.name = some p.2 := by
        rw [hname]
        exact lookup_of_mem_nodup (Load.nodup_of_pairwiseDistinct hk3) hp
      rw [hl] at hall
      simpa using hall
    · left
      simpa using hc
  · by_cases hs : p.2.kind = .scalar
    · exact Or.inr (hsf p hp hs)
    · left
      simpa using hs
  · by_cases hi : p.2.kind = .inputObject
    · right
      rw [List.all_eq_true]
      intro f hfm
      have := hf p hp f hfm
      rw [hi] at this
      exact inputTypeB_of_typeIs s f.type this
    · left
      simpa using hi

/-- `-?[0-9]+` (the grammar's IntValue, leading zeros allowed) -/
def intText (raw : Bytes) : Bool :=
  match raw with
  | 45 :: ds => !ds.isEmpty && ds.all Spec.isDigit
  | ds => !ds.isEmpty && ds.all Spec.isDigit

theorem digitsVal_ge : ∀ (ds : List Nat) (acc : Nat), acc ≤ Spec.digitsVal ds acc
  | [], acc => Nat.le_refl _
  | c :: rest, acc => by
    rw [Spec.digitsVal]
    exact Nat.le_trans (by omega) (digitsVal_ge rest (acc * 10 + (c - 48)))

theorem parseUintGo_digits (M : Nat) (x : Option Nat) : ∀ (ds : List Nat) (acc : Nat), ds.all Spec.isDigit = true → acc ≤ M →
    parseUintGo M ds acc x = if Spec.digitsVal ds acc ≤ M then (.none, Spec.digitsVal ds acc) else (.range, M)
  | [], acc, _, ha => by simp [parseUintGo, Spec.digitsVal, ha]
  | c :: rest, acc, hd, ha => by
    rw [List.all_cons, Bool.and_eq_true] at hd
    have hc : isDigit c = true := hd.1
    rw [parseUintGo, Spec.digitsVal]
    simp only [hc, Bool.not_true, Bool.false_eq_true, if_false]
    by_cases hgt : acc * 10 + (c - 48) > M
    · have := digitsVal_ge rest (acc * 10 + (c - 48))
      rw [if_pos hgt, if_neg (by omega)]
    · rw [if_neg hgt]
      exact parseUintGo_digits M x rest _ hd.2 (by omega)

theorem parseIntErr_neg (bits : Nat) (hb : 2 ^ (bits - 1) < 2 ^ bits - 1) (ds : List Nat) (hne : ds ≠ [])
    (hd : ds.all Spec.isDigit = true) :
    parseIntErr bits (45 :: ds) = if Spec.digitsVal ds 0 ≤ 2 ^ (bits - 1) then .none else .range := by
  unfold parseIntErr
  have he : ds.isEmpty = false := by cases ds <;> simp_all
  simp only [decide_true, Bool.or_true, if_true, he, Bool.false_eq_true, if_false, Bool.not_true, Bool.false_and,
    Bool.true_and, decide_eq_true_eq]
  rw [parseUintGo_digits _ _ ds 0 hd (Nat.zero_le _)]
  by_cases h1 : Spec.digitsVal ds 0 ≤ 2 ^ bits - 1
  · rw [if_pos h1]
    simp only
    by_cases h2 : Spec.digitsVal ds 0 ≤ 2 ^ (bits - 1)
    · rw [if_neg (by omega), if_pos h2]
    · rw [if_pos (by omega), if_neg h2]
  · rw [if_neg h1]
    simp only
    rw [if_pos (by omega), if_neg (by omega)]

theorem parseIntErr_pos (bits : Nat) (hb : 2 ^ (bits - 1) < 2 ^ bits - 1) (c : Nat) (rest : List Nat)
    (hd : (c :: rest).all Spec.isDigit = true) :
    parseIntErr bits (c :: rest) = if Spec.digitsVal (c :: rest) 0 < 2 ^ (bits - 1) then .none else .range := by
  have hc : 48 ≤ c ∧ c ≤ 57 := by
    rw [List.all_cons, Bool.and_eq_true] at hd
    simpa [Spec.isDigit] using hd.1
  unfold parseIntErr
  have h43 : ¬ c = 43 := by omega
  have h45 : ¬ c = 45 := by omega
  simp only [h43, h45, decide_false, Bool.or_false, Bool.false_eq_true, if_false, List.isEmpty_cons, Bool.not_false,
    Bool.true_and, Bool.false_and, decide_eq_true_eq]
  rw [parseUintGo_digits _ _ (c :: rest) 0 hd (Nat.zero_le _)]
  by_cases h1 : Spec.digitsVal (c :: rest) 0 ≤ 2 ^ bits - 1
  · rw [if_pos h1]
    simp only
    by_cases h2 : Spec.digitsVal (c :: rest) 0 < 2 ^ (bits - 1)
    · rw [if_neg (by omega), if_pos h2]
    · rw [if_pos (by omega), if_neg h2]
  · rw [if_neg h1]
    simp only
    rw [if_pos (by omega), if_neg (by omega)]

theorem int_lexeme_agree (raw : Bytes) (h : intText raw = true) :
    (parseIntErr 32 raw == .none) = Spec.int32Ok raw ∧ parseIntErr 64 raw ≠ .syntax := by
  have h32 : 2 ^ (32 - 1) < 2 ^ 32 - 1 := by decide
  have h64 : 2 ^ (64 - 1) < 2 ^ 64 - 1 := by decide
  unfold intText at h
  split at h
  · rename_i ds
    simp only [Bool.and_eq_true, Bool.not_eq_true', List.isEmpty_eq_false_iff] at h
    rw [parseIntErr_neg 32 h32 ds h.1 h.2, parseIntErr_neg 64 h64 ds h.1 h.2]
    refine ⟨?_, by split <;> simp⟩
    unfold Spec.int32Ok Spec.intLitValue
    simp only
    by_cases h2 : Spec.digitsVal ds 0 ≤ 2 ^ (32 - 1)
    · rw [if_pos h2]
      have : (decide (-(2147483648 : Int) ≤ -((Spec.digitsVal ds 0 : Nat) : Int)) &&
          decide (-((Spec.digitsVal ds 0 : Nat) : Int) ≤ 2147483647)) = true := by
        simp only [Bool.and_eq_true, decide_eq_true_eq]
        omega
      rw [this]; rfl
    · rw [if_neg h2]
      have : (decide (-(2147483648 : Int) ≤ -((Spec.digitsVal ds 0 : Nat) : Int)) &&
          decide (-((Spec.digitsVal ds 0 : Nat) : Int) ≤ 2147483647)) = false := by
        simp only [Bool.and_eq_false_iff, decide_eq_false_iff_not]
        left; omega
      rw [this]; rfl
  · rename_i hnot
    simp only [Bool.and_eq_true, Bool.not_eq_true', List.isEmpty_eq_false_iff] at h
    cases raw with
    | nil => exact absurd rfl h.1
    | cons c rest =>
      have hc : 48 ≤ c ∧ c ≤ 57 := by
        have := h.2
        rw [List.all_cons, Bool.and_eq_true] at this
        simpa [Spec.isDigit] using this.1
      rw [parseIntErr_pos 32 h32 c rest h.2, parseIntErr_pos 64 h64 c rest h.2]
      refine ⟨?_, by split <;> simp⟩
      unfold Spec.int32Ok Spec.intLitValue
      have hv : (match c :: rest with
          | 45 :: ds => -((Spec.digitsVal ds 0 : Nat) : Int)
          | ds => ((Spec.digitsVal ds 0 : Nat) : Int)) = ((Spec.digitsVal (c :: rest) 0 : Nat) : Int) := by
        split
        · rename_i ds' heq
          injection heq with h1 _
          omega
        · rfl
      simp only
      by_cases h2 : Spec.digitsVal (c :: rest) 0 < 2 ^ (32 - 1)
      · rw [if_pos h2]
        have : (decide (-(2147483648 : Int) ≤ ((Spec.digitsVal (c :: rest) 0 : Nat) : Int)) &&
            decide (((Spec.digitsVal (c :: rest) 0 : Nat) : Int) ≤ 2147483647)) = true := by
          simp only [Bool.and_eq_true, decide_eq_true_eq]
          omega
        rw [this]; rfl
      · rw [if_neg h2]
        have : (decide (-(2147483648 : Int) ≤ ((Spec.digitsVal (c :: rest) 0 : Nat) : Int)) &&
            decide (((Spec.digitsVal (c :: rest) 0 : Nat) : Int) ≤ 2147483647)) = false := by
          simp only [Bool.and_eq_false_iff, decide_eq_false_iff_not]
          right; omega
        rw [this]; rfl

end Gql.Validate
