import GqlProofs.ValSpec.IntrospectionDepth
import GqlProofs.ValSpec.Bridge
/-
  MaxIntrospectionDepth, from the search (`IntrospectionDepth.lean`) to the events of a run: `Spec.introspectionRootsSels`
  are the sub-selections of the field nodes named `__schema` / `__type` (`mem_rootsSels`); the step at such a field is
  the search on its sub-selections (`introStep_field`); whatever the document, the specification predicate makes the
  rule silent (`maxIntrospectionDepth_of_spec`).
-/
namespace Gql.Validate
open Gql Gql.Validate.Rules

def isIntroRoot (nm : Name) : Bool := nm == str "__schema" || nm == str "__type"

theorem isListField_of_root {nm : Name} (h : isIntroRoot nm = true) : isListField nm = false := by
  unfold isIntroRoot at h
  rw [Bool.or_eq_true] at h
  rcases h with h | h <;> (have := eq_of_beq h; subst this; decide)

mutual
  theorem mem_rootsSel (sub : Selections) : ∀ (x : Selection), sub ∈ Spec.introspectionRootsSel x ↔
      ∃ al nm args dirs p, InSel x (.sel (.field al nm args dirs sub p)) ∧ isIntroRoot nm = true
    | .field al0 nm0 args0 dirs0 sub0 p0 => by
      unfold Spec.introspectionRootsSel
      rw [List.mem_append, mem_rootsSels sub sub0]
      constructor
      · rintro (h | ⟨al, nm, args, dirs, p, hi, hr⟩)
        · split at h
          · rename_i hroot
            have : sub = sub0 := by simpa using h
            subst this
            exact ⟨al0, nm0, args0, dirs0, p0, InSel.self _, hroot⟩
          · cases h
        · exact ⟨al, nm, args, dirs, p, InSel.fieldSub al0 nm0 args0 dirs0 sub0 p0 _ hi, hr⟩
      · rintro ⟨al, nm, args, dirs, p, hi, hr⟩
        cases hi with
        | self =>
          left
          have hr' : (nm0 == str "__schema" || nm0 == str "__type") = true := hr
          rw [if_pos hr']
          exact List.mem_singleton.2 rfl
        | fieldSub _ _ _ _ _ _ _ hs => exact Or.inr ⟨al, nm, args, dirs, p, hs, hr⟩
    | .spread nm0 dirs0 p0 => by
      unfold Spec.introspectionRootsSel
      constructor
      · intro h; cases h
      · rintro ⟨al, nm, args, dirs, p, hi, _⟩
        cases hi
    | .inline tc0 dirs0 sub0 p0 => by
      unfold Spec.introspectionRootsSel
      rw [mem_rootsSels sub sub0]
      constructor
      · rintro ⟨al, nm, args, dirs, p, hi, hr⟩
        exact ⟨al, nm, args, dirs, p, InSel.inlineSub tc0 dirs0 sub0 p0 _ hi, hr⟩
      · rintro ⟨al, nm, args, dirs, p, hi, hr⟩
        cases hi with
        | inlineSub _ _ _ _ _ hs => exact ⟨al, nm, args, dirs, p, hs, hr⟩
  theorem mem_rootsSels (sub : Selections) : ∀ (xs : Selections), sub ∈ Spec.introspectionRootsSels xs ↔
      ∃ al nm args dirs p, InSels xs (.sel (.field al nm args dirs sub p)) ∧ isIntroRoot nm = true
    | .nil => by
      unfold Spec.introspectionRootsSels
      constructor
      · intro h; cases h
      · rintro ⟨al, nm, args, dirs, p, hi, _⟩
        cases hi
    | .cons x rest => by
      unfold Spec.introspectionRootsSels
      rw [List.mem_append, mem_rootsSel sub x, mem_rootsSels sub rest]
      constructor
      · rintro (⟨al, nm, args, dirs, p, hi, hr⟩ | ⟨al, nm, args, dirs, p, hi, hr⟩)
        · exact ⟨al, nm, args, dirs, p, InSels.head x rest _ hi, hr⟩
        · exact ⟨al, nm, args, dirs, p, InSels.tail x rest _ hi, hr⟩
      · rintro ⟨al, nm, args, dirs, p, hi, hr⟩
        cases hi with
        | head _ _ _ hx => exact Or.inl ⟨al, nm, args, dirs, p, hx, hr⟩
        | tail _ _ _ hx => exact Or.inr ⟨al, nm, args, dirs, p, hx, hr⟩
end

theorem spec_maxIntrospectionDepth_iff (d : QueryDoc) :
    Spec.maxIntrospectionDepth d = true ↔
      ∀ al nm args dirs sub p, InDocSel d (.sel (.field al nm args dirs sub p)) → isIntroRoot nm = true →
        Spec.deepSels d (Spec.deepLevel d (d.frags.length + 1)) sub [] 0 = false := by
  unfold Spec.maxIntrospectionDepth InDocSel
  simp only [List.all_eq_true, List.mem_append, List.mem_flatMap, Bool.not_eq_true']
  constructor
  · intro h al nm args dirs sub p hi hr
    apply h sub
    rcases hi with ⟨op, hop, hi⟩ | ⟨f, hf, hi⟩
    · exact Or.inl ⟨op, hop, (mem_rootsSels sub op.sel).2 ⟨al, nm, args, dirs, p, hi, hr⟩⟩
    · exact Or.inr ⟨f, hf, (mem_rootsSels sub f.sel).2 ⟨al, nm, args, dirs, p, hi, hr⟩⟩
  · intro h sub hs
    rcases hs with ⟨op, hop, hs⟩ | ⟨f, hf, hs⟩
    · obtain ⟨al, nm, args, dirs, p, hi, hr⟩ := (mem_rootsSels sub op.sel).1 hs
      exact h al nm args dirs sub p (Or.inl ⟨op, hop, hi⟩) hr
    · obtain ⟨al, nm, args, dirs, p, hi, hr⟩ := (mem_rootsSels sub f.sel).1 hs
      exact h al nm args dirs sub p (Or.inr ⟨f, hf, hi⟩) hr

theorem introCheck_root (l : Links) (d : QueryDoc) (J : DJump) (al nm : Name) (args : List Argument) (dirs : List Directive)
    (sub : Selections) (p : Pos) (hr : isIntroRoot nm = true) :
    checkDepthSelection l d J [] 0 [] (.field al nm args dirs sub p) = checkDepthSelections l d J [] 0 [] sub := by
  unfold checkDepthSelection
  rw [isListField_of_root hr]
  simp

theorem introStep_field (s : SV) (d : QueryDoc) (e : Event) (f : FieldNode) (par : Option Definition) (dfn : Option FieldDef)
    (hp : e.p = .field f par dfn) (hr : isIntroRoot f.name = true) :
    maxIntrospectionDepthStep s d e = .ok [] ↔
      ∃ cl, checkDepthSelections e.links d (depthLevel e.links d (d.frags.length + 1)) [] 0 [] f.sel = some (false, cl) := by
  unfold maxIntrospectionDepthStep
  rw [hp]
  simp only
  have hr' : (f.name == str "__schema" || f.name == str "__type") = true := hr
  rw [if_pos hr', introCheck_root _ _ _ _ _ _ _ _ _ hr]
  cases hc : checkDepthSelections e.links d (depthLevel e.links d (d.frags.length + 1)) [] 0 [] f.sel with
  | none => simp
  | some r =>
    obtain ⟨b, cl⟩ := r
    cases b with
    | true => simp [errAt]
    | false => simp

theorem introStep_other (s : SV) (d : QueryDoc) (e : Event)
    (h : ∀ f par dfn, e.p = .field f par dfn → isIntroRoot f.name = false) : maxIntrospectionDepthStep s d e = .ok [] := by
  unfold maxIntrospectionDepthStep
  split
  · rename_i f par dfn hp
    have := h f par dfn hp
    have hr' : (f.name == str "__schema" || f.name == str "__type") = false := this
    rw [hr']
    simp
  · rfl

theorem introCheck_some (l : Links) (d : QueryDoc) (sub : Selections) :
    ∃ r, checkDepthSelections l d (depthLevel l d (d.frags.length + 1)) [] 0 [] sub = some r :=
  checkDepthSelections_ok l d _ (d.frags.length + 1) (depthLevel_ok l d _) sub [] 0 [] (by rw [unvisited_nil]; omega)

def DJumpSpec (d : QueryDoc) (m : Nat) (J : DJump) (J' : Spec.DepthJump) : Prop :=
  ∀ visited depth cl sels cl', unvisited d visited + 1 ≤ m → J visited depth cl sels = some (true, cl') →
    J' sels visited depth = true

mutual
  theorem checkDepthSelection_spec (l : Links) (d : QueryDoc) (m : Nat) (J : DJump) (J' : Spec.DepthJump)
      (hJ : DJumpSpec d m J J') :
      ∀ (x : Selection) (visited : List Name) (depth : Nat) (cl cl' : Cleared), unvisited d visited ≤ m →
        checkDepthSelection l d J visited depth cl x = some (true, cl') → Spec.deepSel d J' x visited depth = true
    | .field al nm args dirs sub p, visited, depth, cl, cl', hm, h => by
      unfold checkDepthSelection at h
      unfold Spec.deepSel
      simp only [Spec.maxListsDepth, Bool.or_eq_true]
      cases hl : Spec.isIntrospectionListField nm with
      | true =>
        have hl' : isListField nm = true := hl
        simp only [if_true]
        rw [if_pos hl'] at h
        split at h
        · rename_i hk
          exact Or.inl (decide_eq_true hk)
        · exact Or.inr (checkDepthSelections_spec l d m J J' hJ sub visited (depth + 1) cl cl' hm h)
      | false =>
        have hl' : ¬ isListField nm = true := by rw [← isListField_eq, hl]; simp
        simp only [Bool.false_eq_true, if_false]
        rw [if_neg hl'] at h
        exact Or.inr (checkDepthSelections_spec l d m J J' hJ sub visited depth cl cl' hm h)
    | .spread nm dirs p, visited, depth, cl, cl', hm, h => by
      unfold checkDepthSelection at h
      unfold Spec.deepSel
      split at h
      · cases h
      · rename_i hc
        rw [if_neg hc]
        split at h
        · cases h
        · cases hs : l.spreadDef d nm p with
          | none => rw [hs] at h; cases h
          | some f =>
            rw [hs] at h
            simp only at h
            have hf := spreadDef_some hs
            rw [fragByName_eq, hf]
            simp only
            cases hj : J (nm :: visited) depth cl f.sel with
            | none => rw [hj] at h; cases h
            | some r =>
              obtain ⟨b, cl1⟩ := r
              rw [hj] at h
              cases b with
              | false => cases h
              | true =>
                have hlt := unvisited_lt d visited f (fragForName_mem hf)
                  (by rw [fragForName_name hf]; simpa using hc)
                rw [fragForName_name hf] at hlt
                exact hJ _ _ _ _ _ (by omega) hj
    | .inline tc dirs sub p, visited, depth, cl, cl', hm, h => by
      unfold checkDepthSelection at h
      unfold Spec.deepSel
      exact checkDepthSelections_spec l d m J J' hJ sub visited depth cl cl' hm h
  theorem checkDepthSelections_spec (l : Links) (d : QueryDoc) (m : Nat) (J : DJump) (J' : Spec.DepthJump)
      (hJ : DJumpSpec d m J J') :
      ∀ (xs : Selections) (visited : List Name) (depth : Nat) (cl cl' : Cleared), unvisited d visited ≤ m →
        checkDepthSelections l d J visited depth cl xs = some (true, cl') → Spec.deepSels d J' xs visited depth = true
    | .nil, _, _, _, _, _, h => by simp [checkDepthSelections] at h
    | .cons x rest, visited, depth, cl, cl', hm, h => by
      unfold checkDepthSelections at h
      unfold Spec.deepSels
      rw [Bool.or_eq_true]
      cases hx : checkDepthSelection l d J visited depth cl x with
      | none => rw [hx] at h; cases h
      | some r =>
        obtain ⟨b, cl1⟩ := r
        rw [hx] at h
        cases b with
        | true => exact Or.inl (checkDepthSelection_spec l d m J J' hJ x visited depth cl cl1 hm hx)
        | false => exact Or.inr (checkDepthSelections_spec l d m J J' hJ rest visited depth cl1 cl' hm h)
end

theorem depthLevel_spec (l : Links) (d : QueryDoc) : ∀ n m, DJumpSpec d m (depthLevel l d n) (Spec.deepLevel d m)
  | 0, _ => by intro _ _ _ _ _ _ h; simp [depthLevel] at h
  | n + 1, m => by
    intro visited depth cl sels cl' hm h
    cases m with
    | zero => omega
    | succ m' =>
      simp only [depthLevel] at h
      simp only [Spec.deepLevel]
      exact checkDepthSelections_spec l d m' _ _ (depthLevel_spec l d n m') sels visited depth cl cl' (by omega) h

/-- whatever the document: if the specification predicate holds, the rule is silent on every event
    (the chain cut is the specification's; the memo and unlinked spreads only lose paths) -/
theorem maxIntrospectionDepth_of_spec (s : Schema) (d : QueryDoc) (evs : List Event)
    (hw : walkDoc s.view d = some evs) (h : Spec.maxIntrospectionDepth d = true) :
    ∀ e ∈ evs, maxIntrospectionDepthStep s.view d e = .ok [] := by
  rw [spec_maxIntrospectionDepth_iff] at h
  intro e he
  by_cases hroot : ∃ f par dfn, e.p = .field f par dfn ∧ isIntroRoot f.name = true
  · obtain ⟨f, par, dfn, hp, hr⟩ := hroot
    rw [introStep_field s.view d e f par dfn hp hr]
    have hcov := walkDoc_cov s.view d evs hw e he
    rw [hp] at hcov
    have hi := (inDoc_sel_iff s.view d _).1 hcov
    have hspec := h f.alias f.name f.args f.dirs f.sel f.pos hi hr
    obtain ⟨r, hr'⟩ := introCheck_some e.links d f.sel
    obtain ⟨b, cl⟩ := r
    cases b with
    | false => exact ⟨cl, hr'⟩
    | true =>
      have := checkDepthSelections_spec e.links d (d.frags.length + 1) _ _
        (depthLevel_spec e.links d (d.frags.length + 1) (d.frags.length + 1)) f.sel [] 0 [] cl
        (by rw [unvisited_nil]; omega) hr'
      rw [this] at hspec
      cases hspec
  · apply introStep_other
    intro f par dfn hp
    cases hr : isIntroRoot f.name with
    | false => rfl
    | true => exact absurd ⟨f, par, dfn, hp, hr⟩ hroot

end Gql.Validate
